import CalicoVerif.Proofs.C32
/-!
C32 — Flow aggregation conserves counts and emits each window once (goldmane/pkg/storage `BucketRing`): property
theorems over `CalicoVerif.Model.C32`, for every history from `NewBucketRing` (any size / interval / pushAfter /
bucketsToAggregate, any interleaving of AddFlow / Rollover with or without sink / EmitFlowCollections). Queries are
answered at bucket granularity (a range bound inside a bucket excludes that bucket, as the code does); the emission
theorems are about the walk bounded by the ring size (/repo 6722529); time-series statistics and PolicyMatch filters
are not modelled.
Known finding, kept: late flows accepted into an already emitted window are counted by `List` but never emitted
(`late_flow_accepted`, `late_flow_never_emitted`; `AddFlow` only logs a warning).
-/
namespace CalicoVerif.C32

/-- `DiachronicFlow.AddFlow` conserves counts: the per-key total grows by exactly the flow's count. -/
theorem addWin_total (start stop cnt : Int) (ws : List Win) :
    total (addWin start stop cnt ws) = total ws + cnt := by
  induction ws with
  | nil => exact Int.add_comm _ _
  | cons w ws ih =>
    simp only [addWin]
    split
    · split
      · rw [total_cons, total_cons]; show w.cnt + cnt + _ = _; omega
      · rw [total_cons]; exact Int.add_comm _ _
    · rw [total_cons, total_cons, ih]; omega

/-- … and only the window that starts at the bucket's start time changes (or is created):
every window with another start time is still there with the same count. -/
theorem addWin_other (start stop cnt : Int) (ws : List Win) (w : Win) (hne : w.start ≠ start) :
    w ∈ addWin start stop cnt ws ↔ w ∈ ws := by
  induction ws with
  | nil =>
    simp only [addWin, List.mem_singleton, List.not_mem_nil, iff_false]
    intro h; rw [h] at hne; exact hne rfl
  | cons x xs ih =>
    simp only [addWin]
    split
    · split
      · rename_i hx
        simp only [List.mem_cons]
        constructor
        · rintro (h | h)
          · rw [h] at hne; simp at hne; exact absurd hx hne
          · exact Or.inr h
        · rintro (h | h)
          · rw [h] at hne; exact absurd hx hne
          · exact Or.inr h
      · simp only [List.mem_cons]
        constructor
        · rintro (h | h)
          · rw [h] at hne; exact absurd rfl hne
          · exact h
        · intro h; exact Or.inr h
    · simp only [List.mem_cons, ih]

/-- A flow that cannot be sorted into a bucket (too old / too far in the future) is dropped and
changes nothing. -/
theorem addFlow_rejected_unchanged (r : Ring) (key : Nat) (t cnt : Int) (h : r.findBucket t = none) :
    r.addFlow key t cnt = (r, false) := addFlow_none key cnt h

/-- An accepted flow is recorded in exactly the bucket `findBucket` chose: all other buckets keep
their key sets, flags and bounds. -/
theorem addFlow_other_buckets (r : Ring) (key : Nat) (t cnt : Int) (i j : Nat) (h : r.findBucket t = some i)
    (hj : j ≠ i) : (r.addFlow key t cnt).1.buckets[j]? = r.buckets[j]? := by
  rw [addFlow_some key cnt h]
  exact List.getElem?_set_ne (fun hh => hj hh.symm)

/-- `maybeBuildFlowCollection` never builds a window whose first bucket was already pushed. -/
theorem maybeBuild_none_of_pushed (r : Ring) (s e : Nat) (h : (r.bucket s).pushed = true) : r.maybeBuild s e = none := by
  simp [Ring.maybeBuild, h]

/-- After every history (`grun`: any interleaving of AddFlow / Rollover with or without sink / EmitFlowCollections,
from a freshly built ring, with the ghost log of the ACCEPTED flows) the ring and the log satisfy `GInv`: the ring is
contiguous and the count stored for (key, bucket) is the sum over the log. The whole invariant is `reachable_inv : Inv …`
in `Proofs/C32` (also no stale window, nothing missing, the `pushed` flags): that is what to build on. -/
theorem reachable_invariant (n : Nat) (interval now : Int) (pushAfter agg : Nat) (hn : 0 < n) (hi : 0 < interval)
    (ops : List Op) :
    GInv (grun (newRing n interval now pushAfter agg, []) ops).1 (grun (newRing n interval now pushAfter agg, []) ops).2 :=
  (reachable_inv n interval now pushAfter agg hn hi ops).cinv.g

/-- On a contiguous ring (every reachable ring, `reachable_invariant`): a flow whose start time lies in
the retained history is sorted into a bucket that contains it, and that is the ONLY bucket containing
it; a flow outside the history is rejected. -/
theorem one_bucket_per_flow {r : Ring} (hc : Contig r) (t : Int) :
    (r.boh ≤ t ∧ t < r.eoh →
      ∃ i, i < r.n ∧ r.findBucket t = some i ∧ (r.bucket i).contains t = true ∧
        ∀ j, j < r.n → (r.bucket j).contains t = true → j = i) ∧
    (¬ (r.boh ≤ t ∧ t < r.eoh) → r.findBucket t = none) := by
  constructor
  · rintro ⟨h1, h2⟩
    obtain ⟨i, hi, hf, hcn⟩ := contig_findBucket hc t h1 h2
    exact ⟨i, hi, hf, hcn, fun j hj hcj => contig_unique hc t j i hj hi hcj hcn⟩
  · intro h
    unfold Ring.findBucket
    have : t ≥ r.eoh ∨ t < r.boh := by omega
    simp [this]

/-- In every reachable state, for every key and every bucket of the ring, the count stored in the
key's window for that bucket is exactly the sum of the counts of the accepted flows of that key whose
start time lies in the bucket (flows of buckets that were rolled over are no longer counted anywhere:
their window is dropped with the bucket). -/
theorem window_eq_sum_accepted (n : Nat) (interval now : Int) (pushAfter agg : Nat) (hn : 0 < n) (hi : 0 < interval)
    (ops : List Op) (k i : Nat) :
    let s := grun (newRing n interval now pushAfter agg, []) ops
    i < s.1.n → wcOf (s.1.wins k) (s.1.bucket i).start = logSum s.2 k (s.1.bucket i).start (s.1.bucket i).stop := by
  intro s hlt
  exact (reachable_invariant n interval now pushAfter agg hn hi ops).q k i hlt

/-- query = sum of retained accepted flows, for a range that is exactly one bucket of the ring (bounds
≠ 0: the code reads a bound of 0 as "unbounded"): the case of `query_eq_sum_retained` in which the sum has one term. -/
theorem query_eq_sum_retained_partial (n : Nat) (interval now : Int) (pushAfter agg : Nat) (hn : 0 < n) (hi : 0 < interval)
    (ops : List Op) (i : Nat) (x : Nat × Int × Int × Int) :
    let s := grun (newRing n interval now pushAfter agg, []) ops
    i < s.1.n → (s.1.bucket i).start ≠ 0 → (s.1.bucket i).stop ≠ 0 →
    x ∈ s.1.list (s.1.bucket i).start (s.1.bucket i).stop →
    x.2.1 = logSum s.2 x.1 (s.1.bucket i).start (s.1.bucket i).stop := by
  intro s hlt h0 h1 hx
  exact list_one_bucket (reachable_inv n interval now pushAfter agg hn hi ops).cinv.q i hlt h0 h1 x hx

/-- `query_eq_sum_retained` (any range, `0` = unbounded as in the code): in every reachable state every row
returned by `List` carries, for its key, the sum over the buckets still in the ring that lie wholly inside
the requested range of the accepted flows whose start time falls into that bucket — i.e. the sum of the
accepted flows of the range that are still retained, at bucket granularity. (It holds because no stale window
survives, `QInv`: `Rollover` drops exactly the windows of the bucket it resets.) -/
theorem query_eq_sum_retained (n : Nat) (interval now : Int) (pushAfter agg : Nat) (hn : 0 < n) (hi : 0 < interval)
    (ops : List Op) (gte lt : Int) (x : Nat × Int × Int × Int) :
    let s := grun (newRing n interval now pushAfter agg, []) ops
    x ∈ s.1.list gte lt →
    x.2.1 = ((List.range s.1.n).map (fun i =>
      if bucketIn gte lt (s.1.bucket i) then logSum s.2 x.1 (s.1.bucket i).start (s.1.bucket i).stop else 0)).sum := by
  intro s hx
  exact list_eq_sum_buckets (reachable_inv n interval now pushAfter agg hn hi ops).cinv.q gte lt x hx

/-- `list_complete` (the converse of `query_eq_sum_retained`): in every reachable state, a key that has an
accepted flow whose bucket is still in the ring and lies wholly inside the requested range (`0` = unbounded)
does get a row in `List` — no retained key is silently omitted. -/
theorem list_complete (n : Nat) (interval now : Int) (pushAfter agg : Nat) (hn : 0 < n) (hi : 0 < interval)
    (ops : List Op) (gte lt : Int) (e : Nat × Int × Int) (i : Nat) :
    let s := grun (newRing n interval now pushAfter agg, []) ops
    e ∈ s.2 → i < s.1.n → (s.1.bucket i).contains e.2.1 = true → bucketIn gte lt (s.1.bucket i) = true →
    ∃ x ∈ s.1.list gte lt, x.1 = e.1 := by
  intro s he hlt hc hin
  exact list_complete_of_cinv (reachable_inv n interval now pushAfter agg hn hi ops).cinv gte lt e he i hlt hc hin

/-- `statistics_eq_sum_retained` (+ completeness): in every reachable state, for every statistic type
(packets / bytes / live connections), grouping (per policy / per policy rule and direction) and time range,
`BucketRing.Statistics` either fails because a bound lies outside the retained history, or returns exactly
`statsOfFlows` — the per-result-key sums of the per-flow contributions (`flowContribs`: one contribution per
distinct policy hit of the flow, into the allowed/denied/passed in/out counters) — evaluated on the ghost LOG
of accepted flows, restricted bucket by bucket to the ring buckets the range covers (from the bucket containing
the start, `0` = oldest, up to but excluding the one containing the end, `0` = the head bucket; `iterBuckets`
walks forward round the ring, so a start bucket later than the end bucket wraps through the head: the caller's
`validateTimeRange` refuses such a request). Buckets that
were rolled over contribute nothing: their flows are no longer in any ring bucket's interval. Equality of the
whole result lists gives both directions (no key missing, no key extra). The aggregation function itself is the
specification here (a plain sum per key); it is tied to stats.go by the correspondence check. -/
theorem statistics_eq_sum_retained (n : Nat) (interval now : Int) (pushAfter agg : Nat) (hn : 0 < n) (hi : 0 < interval)
    (ops : List Op) (typ : Nat) (groupByRule : Bool) (gte lt : Int) :
    let s := grun (newRing n interval now pushAfter agg, []) ops
    s.1.stats typ groupByRule gte lt =
      (s.1.statRange gte lt).map (fun idxs =>
        statsOfFlows typ groupByRule (idxs.map (fun i => logOf s.2 (s.1.bucket i)))) := by
  intro s
  exact stats_eq_log (reachable_inv n interval now pushAfter agg hn hi ops).cinv typ groupByRule gte lt

-- non-vacuity / the recycled-slot scenario of seeded defect C32-3: key 0 sends 7 at t=1334; after the ring has
-- wrapped completely (8 rollovers of a 7-slot ring) the packet statistics over the whole history are empty again
example : ((grun (newRing 7 5 1333 0 2, []) [.add 0 1334 7]).1.stats 0 false 0 0) = some [((1, 0, 0, 0), ⟨7, 14, 0, 0, 0, 0⟩)] := by decide +kernel
example : ((grun (newRing 7 5 1333 0 2, []) ([.add 0 1334 7] ++ List.replicate 8 (.roll false))).1.stats 0 false 0 0) = some [] := by decide +kernel

/-- On ANY ring (no invariant): every bucket of a collection handed to the sink is marked pushed, and a window
is only built when its first bucket is not pushed — so after an emission no bucket of a sent collection
is the first bucket of a window built from the resulting ring. (`emit_at_most_once` says more, on reachable rings.) -/
theorem emit_at_most_once_partial (r : Ring) (c1 c2 : Coll) (hc1 : c1 ∈ r.emit.2) (s e : Nat) (hs : s < r.n)
    (hc2 : r.emit.1.maybeBuild s e = some c2) : s ∉ c1.idxs := by
  intro hmem
  have h1 := emit_sent_marked r c1 hc1 s hmem hs
  have h2 := maybeBuild_start_unpushed _ s e c2 hc2
  rw [h1] at h2; cases h2

/-- PARTIAL completeness: a built collection spans `[start of its first bucket, start of its end
bucket)` and carries, for each key it lists, the sum of that key's windows inside that time window —
by `window_eq_sum_accepted` each such window is the sum of the flows accepted into its bucket so far.
(Late flows accepted afterwards are not in it: `late_flow_never_emitted`.) -/
theorem emitted_window_complete_partial (r : Ring) (s e : Nat) (c : Coll) (h : r.maybeBuild s e = some c)
    (k : Nat) (x : Int) (hk : (k, x) ∈ c.flows) :
    c.start = (r.bucket s).start ∧ c.stop = (r.bucket e).start ∧
    x = total ((r.wins k).filter (inRange c.start c.stop)) := by
  unfold Ring.maybeBuild at h
  split at h
  · cases h
  · cases h
    obtain ⟨k', _, hk'⟩ := List.mem_filterMap.1 hk
    simp only [] at hk'
    split at hk'
    · cases hk'; exact ⟨rfl, rfl, aggregate_fst _ _ _⟩
    · cases hk'

/-- Termination: the walk stops by its own test (`oldest < len(buckets)`, `oldest` growing by
`bucketsToAggregate ≥ 1`); the fuel of the model is never what stops it: with `n ≤ fuel + oldest` one more unit of fuel
changes nothing (so neither does any larger fuel), and `Ring.built` starts with `fuel = n`. (For
`bucketsToAggregate < 1` the code returns before the loop.) -/
theorem emit_walk_terminates (r : Ring) (hagg : 1 ≤ r.agg) (fuel oldest s e : Nat) (h : r.n ≤ fuel + oldest) :
    r.buildLoop2 fuel oldest s e = r.buildLoop2 (fuel + 1) oldest s e := by
  induction fuel generalizing oldest s e with
  | zero => rw [buildLoop2_ge r 1 oldest s e (by omega)]; rfl
  | succ f ih =>
    rw [Ring.buildLoop2, Ring.buildLoop2]
    split
    · cases r.maybeBuild s e with
      | none => rfl
      | some c => simp only []; rw [ih _ _ _ (by omega)]
    · rfl

/-- `emit_at_most_once`, ALL ring sizes / intervals / pushAfter / bucketsToAggregate, all
histories: every collection handed to the sink consists of ring buckets that are NOT yet pushed (and not
the head bucket), no two collections of one emission share a bucket, and all their buckets are pushed
afterwards. Pushed flags are only cleared when Rollover resets a bucket, so no bucket's flows are handed
to the sink twice. -/
theorem emit_at_most_once (n : Nat) (interval now : Int) (pushAfter agg : Nat) (hn : 0 < n) (hi : 0 < interval)
    (ops : List Op) :
    let r := (grun (newRing n interval now pushAfter agg, []) ops).1
    (∀ c ∈ r.emit.2, ∀ i ∈ c.idxs,
        i < r.n ∧ i ≠ r.head ∧ (r.bucket i).pushed = false ∧ (r.emit.1.bucket i).pushed = true) ∧
    (r.emit.2.map (·.idxs)).Pairwise (fun a b => ∀ i, i ∈ a → i ∉ b) := by
  intro r
  have h := reachable_inv n interval now pushAfter agg hn hi ops
  exact ⟨(emit_sent h).2, List.pairwise_map.2
    ((List.pairwise_flatMap.1 (emit_sent h).1).2.imp fun hab i ha hb => hab i ha i hb rfl)⟩

/-- the ghost run is the real run: `estep` moves the ring exactly like `gstep` (it only observes) -/
theorem erun_ring (s : Ring × List Int) (l : Log) (ops : List Op) : (erun s ops).1 = (grun (s.1, l) ops).1 := by
  induction ops generalizing s l with
  | nil => rfl
  | cons op ops ih =>
    show (erun (estep s op) ops).1 = (grun (gstep (s.1, l) op) ops).1
    rw [ih (estep s op) (gstep (s.1, l) op).2, estep_ring s l op]

/-- History level: run any history and record, in a ghost list, the start time of every bucket of every
collection handed to the sink (by `EmitFlowCollections` or by `Rollover(sink)`; `estep`). That list never
contains a start time twice: no bucket — a bucket incarnation is identified by its start time, every reset
gives it a new, larger one — is handed to the sink twice, for every ring size / interval / pushAfter /
bucketsToAggregate. -/
theorem emitted_at_most_once_history (n : Nat) (interval now : Int) (pushAfter agg : Nat) (hn : 0 < n) (hi : 0 < interval)
    (ops : List Op) :
    (erun (newRing n interval now pushAfter agg, []) ops).2.Nodup :=
  (erun_estate (newRing_estate n interval now pushAfter agg hn hi) ops).2.nodup

-- non-vacuity: in this history the sink is handed the buckets starting at 1328 and 1333, once
example : (erun (newRing 7 5 1333 0 2, []) [.add 0 1334 7, .add 2 1340 4, .roll true, .roll true, .emit]).2 = [1328, 1333] := by decide +kernel

/-- the same for the emission made by `Rollover(sink)`: the collections consist of buckets that are
unpushed in the ring right after the head moved (`rolled`), and are pushed in the result. -/
theorem rollover_emit_at_most_once (n : Nat) (interval now : Int) (pushAfter agg : Nat) (hn : 0 < n) (hi : 0 < interval)
    (ops : List Op) :
    let r := (grun (newRing n interval now pushAfter agg, []) ops).1
    ∀ c ∈ (r.rollover true).2.2, ∀ i ∈ c.idxs,
      i ≠ r.rolled.head ∧ (r.rolled.bucket i).pushed = false ∧ ((r.rollover true).1.bucket i).pushed = true := by
  intro r c hc i hi'
  exact ((emit_sent (rolled_inv (reachable_inv n interval now pushAfter agg hn hi ops))).2 c hc i hi').2

/-- ring of 7 buckets, pushAfter 0, bucketsToAggregate 2; key 0 sends 7 packets at t=1334 (`exR`), then key 2
sends 4 at t=1340 (`exR2`); the theorems below apply one rollover with a sink. -/
def exR : Ring := ((newRing 7 5 1333 0 2).addFlow 0 1334 7).1
def exR2 : Ring := (exR.addFlow 2 1340 4).1

/-- Regression witness for the repaired defect (/repo 6722529): with the walk bounded by the ring size the
sink receives ONE collection here; the walk that only stopped when the head index was strictly inside
the next window handed it two overlapping ones, `[1333,1343)` and `[1328,1338)`. -/
theorem emit_wrap_config_single_collection :
    (exR2.rollover true).2.2.map (fun c => (c.start, c.stop, c.flows)) = [(1328, 1338, [(0, 7)])] := by decide +kernel

/-- Completeness of an emitted window fails for late flows: after that rollover the bucket `[1333,1338)` is
marked pushed, a further flow of key 0 at t=1335 is still accepted (List counts it: 8) … -/
theorem late_flow_accepted :
    let r := (exR2.rollover true).1
    (r.addFlow 0 1335 1).2 = true ∧ ((r.addFlow 0 1335 1).1.list 1333 1338) = [(0, 8, 1333, 1338)] := by decide +kernel

/-- … but it is never handed to the sink: the next emission builds nothing for that window. -/
theorem late_flow_never_emitted :
    let r := ((exR2.rollover true).1.addFlow 0 1335 1).1
    r.emit.2 = [] := by decide +kernel

/-- Non-vacuity of the conservation lemmas: an accepted flow. -/
example : ((newRing 7 5 1333 0 2).findBucket 1334) = some 6 := by decide +kernel
example : ((newRing 7 5 1333 0 2).findBucket 1343) = none := by decide +kernel
example : total (addWin 10 15 3 [⟨5, 10, 2⟩, ⟨10, 15, 4⟩]) = 9 := by decide +kernel

end CalicoVerif.C32
