import CalicoVerif.Proofs.C38
/-!
C38 — CNI delete is idempotent and leaves no address behind.

`delSeq` is `cmdDel` (ordinary workload) as the sequence of backend calls of
`ReleaseByHandle(handle id)` then `ReleaseByHandle(workload id)` over the C19 store,
executed through `Cas.step`, with a datastore error possible at EVERY backend call
(`fs` = arbitrary fault flags).  The start state is ANY state reachable by ANY
history of the C19 model (any adds, failed or partial adds, crashes, other clients).

ADD is not a program here: `cmdAdd`'s decision table (`addDecision`) and, at store level, any
sequence of non-releasing events (`addEv`) from a reachable state.
-/
namespace CalicoVerif.C38
open CalicoVerif.Cas CalicoVerif.C19

/-- After ANY history of the C19 model (any adds, failed or partial adds, crashes, other
clients), a DEL that succeeds, whatever errors were injected and wherever, leaves no
address allocated under either of the container's handles, in any block.  Hypotheses: neither
handle is the empty one (`hh1`, `hh2`), and each ReleaseByHandle visits every block in which its
handle object counts an address (`hc1`, `hc2 : Covers`; in the code the blocks visited are the keys
of that very map). -/
theorem del_leaves_nothing (r0 nb : Nat) (evs : List Ev) (s : St)
    (hrun : run (St.init r0 nb) evs = some s)
    (imm : Bool) (t h1 h2 : Nat) (hh1 : h1 ≠ 0) (hh2 : h2 ≠ 0) (o1 o2 : List Nat) (fs : List Bool)
    (hc1 : Covers s h1 o1)
    (hc2 : Covers (relByHandleSeq imm t h1 o1 s fs).1 h2 o2)
    (hok : (delSeq imm t h1 h2 o1 o2 s fs).2 = true) :
    ∀ b, liveAt (delSeq imm t h1 h2 o1 o2 s fs).1 b h1 = 0 ∧ liveAt (delSeq imm t h1 h2 o1 o2 s fs).1 b h2 = 0 := by
  have hP : P s := inv_run (inv_init r0 nb) hrun
  have sp1 := relByHandle_spec imm t h1 hh1 o1 s fs hP hc1
  have hP1 := relByHandleSeq_keeps inv_step imm t h1 o1 s fs hP
  have sp2 := relByHandle_spec imm t h2 hh2 o2 _ (relByHandleSeq imm t h1 o1 s fs).2.1 hP1 hc2
  rw [delSeq_eq] at hok ⊢
  by_cases n1 : (relByHandleSeq imm t h1 o1 s fs).2.2 = .err
  · rw [if_pos n1] at hok; cases hok
  · rw [if_neg n1] at hok ⊢
    intro b
    have a := sp1.2 n1 b
    have c := sp2.1 b h1
    exact ⟨Nat.le_zero.1 (a ▸ c), sp2.2 (of_decide_eq_true hok) b⟩

/-- DEL is idempotent: once nothing is allocated under the container's handles (e.g. after a
successful DEL), another DEL changes nothing in the store whatever errors are injected,
and succeeds when no error is injected. -/
theorem del_idempotent (imm : Bool) (t h1 h2 : Nat) (o1 o2 : List Nat) (s : St) (fs : List Bool)
    (hz : ∀ b, liveAt s b h1 = 0 ∧ liveAt s b h2 = 0) :
    (delSeq imm t h1 h2 o1 o2 s fs).1 = s ∧ (delSeq imm t h1 h2 o1 o2 s []).2 = true := by
  have k1 := fun fs => relByHandleSeq_noop imm t h1 o1 s fs (fun b => (hz b).1)
  have k2 := fun fs => relByHandleSeq_noop imm t h2 o2 s fs (fun b => (hz b).2)
  simp only [delSeq_eq]
  constructor
  · split
    · exact (k1 fs).1
    · rw [(k1 fs).1]; exact (k2 _).1
  · rw [if_neg (k1 []).2.1, (k1 []).1, (k1 []).2.2]
    exact decide_eq_true (k2 []).2.1

/-- The state a ReleaseByHandle ends in, errors included, keeps the C19 invariants (`P` is `C19.Inv`). -/
theorem relByHandle_keeps_invariants (imm : Bool) (t h : Nat) (order : List Nat) (s : St) (fs : List Bool)
    (hP : P s) : P (relByHandleSeq imm t h order s fs).1 :=
  relByHandleSeq_keeps inv_step imm t h order s fs hP

/-- cmdAdd's DECISION TABLE (finite: 32 rows), not a statement about the store: given what
AutoAssign reported (`g4`/`g6` = "an address of that family was returned"), cmdAdd
reports success only if every requested family was returned one.  That the returned
address is then live in the store is C19's `recorded_by_own_cas` at the moment of the
write; that it is still held when ADD returns is `add_success_all_families_partial` below, under
its hypothesis on the ADD's events, and is checked on the real code by the harness oracle
`add-missing-family`. -/
theorem add_decision_table (w4 w6 e g4 g6 : Bool) (h : (addDecision w4 w6 e g4 g6).ok = true) :
    (w4 = true → g4 = true) ∧ (w6 = true → g6 = true) := by
  revert h; cases w4 <;> cases w6 <;> cases e <;> cases g4 <;> cases g6 <;> decide

/-- Decision table, "all families or none", the part that holds: when AutoAssign itself
reported no error, a failed ADD asks for the rollback (ReleaseIPs) of every address it was given. -/
theorem add_decision_rollback_partial (w4 w6 g4 g6 : Bool) (h : (addDecision w4 w6 false g4 g6).ok = false) :
    (w4 = true → g4 = true → (addDecision w4 w6 false g4 g6).rel4 = true) ∧
    (w6 = true → g6 = true → (addDecision w4 w6 false g4 g6).rel6 = true) := by
  revert h; cases w4 <;> cases w6 <;> cases g4 <;> cases g6 <;> decide

/-- …and the part that does not: when AutoAssign returns an error after the IPv4 address was
assigned (e.g. the IPv6 assignment hit a datastore error), cmdAdd returns the error
WITHOUT rolling the IPv4 address back — the failed ADD keeps an address until DEL. -/
theorem failed_add_may_retain : (addDecision true true true true false) = { ok := false, rel4 := false, rel6 := false } := by
  decide

/-- (`_partial`: `hadd` — a successful ADD consists of non-releasing events only — and `hg4`/`hg6`
— "AutoAssign returned an address of family f" = "the thread recorded one in a block of family
f" — are hypotheses; only the driver's `nonrel` flag and C19's endOp check tie them to the code.)
Store-level ADD: take ANY reachable state, let the ADD for handle `h` perform ANY sequence
of events none of which is a release (`addEv`: claims, affinity writes, handle
increments, allocations for `h`, deletes of empty blocks — the driver checks that the
real successful ADDs consist of such events only).  Then every address the ADD has
recorded (what AutoAssign returns, `Cas.got`) is live for `h` when the ADD returns.
So with `fam` splitting the blocks into families: if cmdAdd's decision table reports
success and "AutoAssign returned an address of family f" means "the thread recorded an
address in a block of family f", every requested family holds an address of `h`. -/
theorem add_success_all_families_partial (r0 nb : Nat) (evs0 evs : List Ev) (s0 s1 : St)
    (hr0 : run (St.init r0 nb) evs0 = some s0) (h t : Nat) (hh : h ≠ 0)
    (hadd : ∀ e ∈ evs, addEv h e = true) (hr1 : run s0 evs = some s1)
    (fam : Nat → Bool) (w4 w6 e g4 g6 : Bool)
    (hg4 : g4 = true → ∃ b o, fam b = false ∧ (b, o) ∈ s1.got t ∧ (b, o) ∉ s0.got t)
    (hg6 : g6 = true → ∃ b o, fam b = true ∧ (b, o) ∈ s1.got t ∧ (b, o) ∉ s0.got t)
    (hok : (addDecision w4 w6 e g4 g6).ok = true) :
    (w4 = true → ∃ b, fam b = false ∧ 1 ≤ liveAt s1 b h) ∧
    (w6 = true → ∃ b, fam b = true ∧ 1 ≤ liveAt s1 b h) := by
  have hw0 : AllWF s0 := (inv_run (inv_init r0 nb) hr0).1
  have key := add_recorded_stays_live h hh evs s0 s1 hw0 hadd hr1 t
  have tab := add_decision_table w4 w6 e g4 g6 hok
  constructor
  · intro hw
    obtain ⟨b, o, hf, hin, hnot⟩ := hg4 (tab.1 hw)
    exact ⟨b, hf, key b o hin hnot⟩
  · intro hw
    obtain ⟨b, o, hf, hin, hnot⟩ := hg6 (tab.2 hw)
    exact ⟨b, hf, key b o hin hnot⟩

/-- non-vacuity: a DEL over a store holding two addresses of the container. -/
example : ∃ s, run (St.init 100 2)
    [.call { t := 1, fault := .none, verb := .create, key := .blk 0, rev := none, pl := .blkCreate 0 4 },
     .call { t := 1, fault := .none, verb := .create, key := .hdl 1, rev := none, pl := .hInc 0 2 },
     .call { t := 1, fault := .none, verb := .update, key := .blk 0, rev := some 101,
             pl := .blkRmw [] (.assign 1 2 []) [] }] = some s ∧
    (delSeq true 2 1 2 [0] [] s []).2 = true ∧ liveAt (delSeq true 2 1 2 [0] [] s []).1 0 1 = 0 ∧ liveAt s 0 1 = 2 :=
  ⟨_, rfl, by decide, by decide, by decide⟩

end CalicoVerif.C38
