import CalicoVerif.Proofs.C36Query
import CalicoVerif.Proofs.C36V6
/-!
C36 — CIDR trie lookups agree with plain prefix arithmetic.

Property theorems only (lemmas: `CalicoVerif.Proofs.C36Pfx/Trie/Query`; the IPv6
two-halves arithmetic `v6…_eq_generic`: `CalicoVerif.Proofs.C36V6`).
`W` is the address width (32 / 128); `run W ops` is the trie after the history
`ops` of `Update`/`Delete` calls on `NewCIDRTrie()`; `(run W ops).toList` are the
stored prefixes; `specRun ops` is the plain association-list map after the same
history.  `Pfx.covers` is plain prefix arithmetic (length and top bits).
-/
namespace CalicoVerif.C36
variable {W : Nat} {α : Type}
open Node

/-- **Representation invariant**: after ANY history of masked-CIDR updates and
deletes the trie is well formed (children refine the parent by the next bit;
no data-less node with fewer than two children). -/
theorem trie_inv_reachable (ops : List (Op α)) (h : ∀ o ∈ ops, Op.WF W o) : (run W ops).Inv W :=
  (run_refines ops h).1

/-- **Contents**: after any history the stored prefixes are exactly the plain map. -/
theorem contents_eq_spec (ops : List (Op α)) (h : ∀ o ∈ ops, Op.WF W o) (q : Pfx) (w : α) :
    (q, w) ∈ (run W ops).toList ↔ (specRun ops).find q = some w :=
  (run_refines ops h).2 q w

/-- **Exact lookup** (`Get`) after any history = lookup in the plain map. -/
theorem get_eq_spec (ops : List (Op α)) (h : ∀ o ∈ ops, Op.WF W o) (q : Pfx) (hq : q.WF W) :
    (run W ops).get W q = (specRun ops).find q := by
  apply Option.ext
  intro w
  rw [get_iff (trie_inv_reachable ops h) hq, contents_eq_spec ops h]

/-! Queries on any trie with `t.Inv W`, which holds after every history (`trie_inv_reachable`). -/

/-- **Covers** = some stored prefix contains the query CIDR. -/
theorem covers_eq_spec {t : Node α} (hi : t.Inv W) {q : Pfx} (hq : q.WF W) :
    t.covers W q = SMap.covers W t.toList q := by
  rw [Bool.eq_iff_iff, tcovers_iff hi hq]
  simp [SMap.covers, List.any_eq_true]

/-- **Intersects** = some stored prefix lies inside the query CIDR (that is what
the Go code computes; it is one half of "overlaps", see `overlap_eq_spec`). -/
theorem intersects_eq_spec {t : Node α} (hi : t.Inv W) {q : Pfx} (hq : q.WF W) :
    t.intersects W q = SMap.within W t.toList q := by
  rw [Bool.eq_iff_iff, tintersects_iff hi hq]
  simp [SMap.within, List.any_eq_true]

/-- **Overlap** as the IP-pool controller composes it (`Get != nil || Intersects || Covers`)
= some stored prefix shares an address with the query CIDR. -/
theorem overlap_eq_spec {t : Node α} (hi : t.Inv W) {q : Pfx} (hq : q.WF W) :
    ((t.get W q).isSome || t.intersects W q || t.covers W q) = SMap.overlaps W t.toList q :=
  overlap_eq hi hq

/-- **CoveredBy** = every stored prefix lies inside the query CIDR; on the empty
trie the Go code dereferences a nil root (`none`). -/
theorem coveredBy_eq_spec {t : Node α} (hi : t.Inv W) {q : Pfx} (hq : q.WF W) :
    t.coveredBy W q = if t.isNil then none else some (SMap.coveredBy W t.toList q) := by
  cases t with
  | nil => rfl
  | node c d l r =>
    simp only [Node.coveredBy, isNil, Bool.false_eq_true, if_false, Option.some.injEq]
    rw [Bool.eq_iff_iff, decide_eq_true_eq, commonPrefix_eq_right_iff hi.wf hq, root_covered_iff hi hq]
    simp [SMap.coveredBy, List.all_eq_true]

/-- **LPM, proved part (most general form)**: whenever the walk of `LPM(q)` meets no node
longer than `q` (`WalkOk`), `LPM` returns exactly the longest stored prefix containing the
query, and nothing iff no stored prefix contains it.  (Without a guard the statement is false
of the code: `lpm_cidr_counterexample`.) -/
theorem lpm_walk_eq_spec_partial {t : Node α} (hi : t.Inv W) {q : Pfx} (hq : q.WF W) (hs : WalkOk W t q) :
    (∀ p v, t.lpm W q = some (p, v) → IsLpm W t.toList q p v) ∧
    (t.lpm W q = none ↔ ∀ p v, (p, v) ∈ t.toList → ¬ p.covers W q = true) ∧
    (∀ p v, IsLpm W t.toList q p v → t.lpm W q = some (p, v)) := by
  have key := lpmGo_spec hi hq hs none
  unfold Node.lpm
  rcases key with ⟨p, v, h1, h2⟩ | ⟨h1, h2⟩
  · refine ⟨fun p' v' h => ?_, ?_, fun p' v' h => ?_⟩
    · rw [h1] at h; cases h; exact h2
    · rw [h1]; simp only [reduceCtorEq, false_iff]
      intro h; exact h p v h2.mem h2.covers
    · rw [h1, IsLpm.unique hi hq h2 h]
  · refine ⟨fun p' v' h => ?_, ?_, fun p' v' h => ?_⟩
    · rw [h1] at h; cases h
    · rw [h1]; simp only [true_iff]; exact h2
    · exact absurd h.covers (h2 p' v' h.mem)

/-- **LPM when no longer node contains the query's base address** (`LpmSafe`). -/
theorem lpm_safe_eq_spec_partial {t : Node α} (hi : t.Inv W) {q : Pfx} (hq : q.WF W) (hs : LpmSafe W t q) :
    (∀ p v, t.lpm W q = some (p, v) → IsLpm W t.toList q p v) ∧
    (t.lpm W q = none ↔ ∀ p v, (p, v) ∈ t.toList → ¬ p.covers W q = true) ∧
    (∀ p v, IsLpm W t.toList q p v → t.lpm W q = some (p, v)) :=
  lpm_walk_eq_spec_partial hi hq (walkOk_of_lpmSafe hs)

/-- **LPM for single addresses** (`/32`, `/128` — every production caller): the guard always holds. -/
theorem lpm_host_eq_spec_partial {t : Node α} (hi : t.Inv W) {q : Pfx} (hq : q.WF W) (hh : q.len = W) :
    (∀ p v, t.lpm W q = some (p, v) → IsLpm W t.toList q p v) ∧
    (t.lpm W q = none ↔ ∀ p v, (p, v) ∈ t.toList → ¬ p.covers W q = true) ∧
    (∀ p v, IsLpm W t.toList q p v → t.lpm W q = some (p, v)) :=
  lpm_safe_eq_spec_partial hi hq (lpmSafe_of_host hi hh)

/-- **LPM for a query that is a node of the trie** (a stored CIDR, or the CIDR of a data-less
intermediate node): the walk stops at that node, so the answer is again exactly the longest
stored prefix containing the query.  Together with `lpm_host_eq_spec_partial` this delimits
the defect: `LPM` can only be wrong for a non-single-address query that is NOT a node. -/
theorem lpm_node_eq_spec_partial {t : Node α} (hi : t.Inv W) {q : Pfx} (hq : q.WF W) {c' d' l' r'}
    (hn : t.getNode W q = .node c' d' l' r') :
    (∀ p v, t.lpm W q = some (p, v) → IsLpm W t.toList q p v) ∧
    (t.lpm W q = none ↔ ∀ p v, (p, v) ∈ t.toList → ¬ p.covers W q = true) ∧
    (∀ p v, IsLpm W t.toList q p v → t.lpm W q = some (p, v)) :=
  lpm_walk_eq_spec_partial hi hq (walkOk_of_getNode hi hn)

/-- In particular for every STORED query CIDR. -/
theorem lpm_stored_eq_spec_partial {t : Node α} (hi : t.Inv W) {q : Pfx} (hq : q.WF W) {v : α}
    (hs : (q, v) ∈ t.toList) : t.lpm W q = some (q, v) := by
  obtain ⟨c', d', l', r', hn⟩ := getNode_of_mem hi hq hs
  refine (lpm_node_eq_spec_partial hi hq hn).2.2 q v ⟨hs, covers_refl hq, fun p' v' hm hx => ?_⟩
  exact covers_len (Inv.mem_wf hi hm) hq hx

/-- **LPM is wrong for non-single-address queries** (Lean witness of the negation
of the full statement; reproduced on the real code by the harness oracle,
signature `lpm-cidr-not-covering`): with only 10.0.0.0/14 stored,
`LPM(10.0.0.0/7)` returns 10.0.0.0/14, which does not contain 10.0.0.0/7. -/
theorem lpm_cidr_counterexample :
    let t := run 32 [Op.upd ⟨0x0a000000, 14⟩ (1 : Nat)]
    let q : Pfx := ⟨0x0a000000, 7⟩
    q.WF 32 ∧ t.lpm 32 q = some (⟨0x0a000000, 14⟩, 1) ∧ (⟨0x0a000000, 14⟩ : Pfx).covers 32 q = false := by
  decide

/-- **ClosestDescendants of a stored CIDR** (the documented precondition "the given CIDR in
the trie") has exactly the members of `SMap.closest`, computed directly over the stored prefixes: those strictly
inside it that have no other stored prefix strictly in between.  (Membership only: order and multiplicity of the
returned slice are not covered.) -/
theorem closestDescendants_eq_spec {t : Node α} (hi : t.Inv W) {q : Pfx} (hq : q.WF W) {v : α}
    (hs : (q, v) ∈ t.toList) (p : Pfx) :
    p ∈ t.closestDescendants W q ↔ p ∈ SMap.closest W t.toList q := by
  obtain ⟨c', d', l', r', hg⟩ := getNode_of_mem hi hq hs
  rw [closestDescendants_iff hi hq hg]
  simp only [SMap.closest, List.mem_map, List.mem_filter, Bool.and_eq_true, decide_eq_true_eq,
    Bool.not_eq_true', List.any_eq_false, Prod.exists, exists_and_right, exists_eq_right]
  constructor
  · rintro ⟨hm, h1, h2, h3⟩
    refine ⟨hm, ⟨h1, h2⟩, fun x hx hc => ?_⟩
    exact hc.1.1.2 (h3 x.1 x.2 hx hc.1.2 hc.1.1.1 hc.2)
  · rintro ⟨hm, ⟨h1, h2⟩, h3⟩
    refine ⟨hm, h1, h2, fun r w hr hqr hne hrp => ?_⟩
    by_cases e : r = p
    · exact e
    · exact absurd ⟨⟨⟨hne, e⟩, hqr⟩, hrp⟩ (h3 (r, w) hr)

/-- **ClosestDescendants of a CIDR that is not a node of the trie** is empty (Go: `getNode`
returns nil) — even if stored prefixes lie inside it; see `closestDescendants_unstored_example`. -/
theorem closestDescendants_not_node {t : Node α} {q : Pfx} (h : t.getNode W q = .nil) :
    t.closestDescendants W q = [] := by
  unfold closestDescendants; rw [h]

/-- The Go recursion `t.ClosestDescendants(buf, child.cidr)` (a fresh walk from the root)
gives what the model's structural recursion `closestOf child` gives, for every data-less node. -/
theorem closestDescendants_recursion_justified {t : Node α} (hi : t.Inv W) {c' : Pfx} {l' r' : Node α}
    (hs : Subtree (node c' none l' r') t) :
    t.closestDescendants W c' = (node c' none l' r').closestOf := by
  unfold closestDescendants
  rw [getNode_subtree hs hi rfl]
  rfl

/-- **LookupPath** of a stored CIDR = the stored prefixes enclosing it, outermost first
(the order of `ToSlice`); of a CIDR that is not stored = empty. -/
theorem lookupPath_eq_spec {t : Node α} (hi : t.Inv W) {q : Pfx} (hq : q.WF W) :
    t.lookupPath W q = if (t.get W q).isSome then SMap.path W t.toList q else [] := by
  unfold lookupPath
  rw [lookupPathGo_spec hi hq]
  simp [SMap.path]

/-! Every query composed over histories: the answer after ANY history of updates and
deletes is the direct computation over the plain map `specRun ops` after the same history. -/

/-- The stored prefixes of the trie after a history ARE the plain map after that history. -/
theorem stored_iff_spec (ops : List (Op α)) (h : ∀ o ∈ ops, Op.WF W o) (x : Pfx × α) :
    x ∈ (run W ops).toList ↔ x ∈ specRun ops := by
  obtain ⟨q, w⟩ := x
  rw [contents_eq_spec ops h, SMap.find_iff_mem (specRun_keysNodup ops)]

theorem covers_history (ops : List (Op α)) (h : ∀ o ∈ ops, Op.WF W o) {q : Pfx} (hq : q.WF W) :
    (run W ops).covers W q = SMap.covers W (specRun ops) q := by
  rw [covers_eq_spec (trie_inv_reachable ops h) hq]
  exact any_eq_of_mem_iff _ (stored_iff_spec ops h)

theorem intersects_history (ops : List (Op α)) (h : ∀ o ∈ ops, Op.WF W o) {q : Pfx} (hq : q.WF W) :
    (run W ops).intersects W q = SMap.within W (specRun ops) q := by
  rw [intersects_eq_spec (trie_inv_reachable ops h) hq]
  exact any_eq_of_mem_iff _ (stored_iff_spec ops h)

theorem overlap_history (ops : List (Op α)) (h : ∀ o ∈ ops, Op.WF W o) {q : Pfx} (hq : q.WF W) :
    (((run W ops).get W q).isSome || (run W ops).intersects W q || (run W ops).covers W q)
      = SMap.overlaps W (specRun ops) q := by
  rw [overlap_eq_spec (trie_inv_reachable ops h) hq]
  exact any_eq_of_mem_iff _ (stored_iff_spec ops h)

theorem coveredBy_history (ops : List (Op α)) (h : ∀ o ∈ ops, Op.WF W o) {q : Pfx} (hq : q.WF W) :
    (run W ops).coveredBy W q =
      if (specRun ops).isEmpty then none else some (SMap.coveredBy W (specRun ops) q) := by
  have hi := trie_inv_reachable ops h
  rw [coveredBy_eq_spec hi hq]
  have hnil : (run W ops).isNil = (specRun ops).isEmpty := by
    cases hs : specRun ops with
    | nil =>
      cases ht : (run W ops).isNil with
      | true => rfl
      | false =>
        obtain ⟨p, v, hm⟩ := Inv.exists_mem hi ht
        have := (stored_iff_spec ops h (p, v)).1 hm
        rw [hs] at this
        cases this
    | cons e _ => exact isNil_false_of_mem ((stored_iff_spec ops h e).2 (hs ▸ List.mem_cons_self ..))
  rw [hnil]
  split
  · rfl
  · unfold SMap.coveredBy; rw [all_eq_of_mem_iff _ (stored_iff_spec ops h)]

/-- LPM of a single address after any history = the longest prefix of the plain map containing it. -/
theorem lpm_host_history_partial (ops : List (Op α)) (h : ∀ o ∈ ops, Op.WF W o) {q : Pfx} (hq : q.WF W)
    (hh : q.len = W) :
    (∀ p v, (run W ops).lpm W q = some (p, v) ↔ IsLpm W (specRun ops) q p v) ∧
    ((run W ops).lpm W q = none ↔ ∀ p v, (p, v) ∈ specRun ops → ¬ p.covers W q = true) := by
  have k := lpm_host_eq_spec_partial (trie_inv_reachable ops h) hq hh
  have tr : ∀ p v, IsLpm W (run W ops).toList q p v ↔ IsLpm W (specRun ops) q p v := by
    intro p v
    unfold IsLpm
    rw [stored_iff_spec ops h (p, v)]
    constructor
    · rintro ⟨a, b, c⟩; exact ⟨a, b, fun p' v' hm => c p' v' ((stored_iff_spec ops h (p', v')).2 hm)⟩
    · rintro ⟨a, b, c⟩; exact ⟨a, b, fun p' v' hm => c p' v' ((stored_iff_spec ops h (p', v')).1 hm)⟩
  refine ⟨fun p v => ⟨fun e => (tr p v).1 (k.1 p v e), fun e => k.2.2 p v ((tr p v).2 e)⟩, ?_⟩
  rw [k.2.1]
  constructor
  · intro H p v hm; exact H p v ((stored_iff_spec ops h (p, v)).2 hm)
  · intro H p v hm; exact H p v ((stored_iff_spec ops h (p, v)).1 hm)

theorem closestDescendants_history (ops : List (Op α)) (h : ∀ o ∈ ops, Op.WF W o) {q : Pfx} (hq : q.WF W)
    {v : α} (hs : (q, v) ∈ specRun ops) (p : Pfx) :
    p ∈ (run W ops).closestDescendants W q ↔ p ∈ SMap.closest W (specRun ops) q := by
  rw [closestDescendants_eq_spec (trie_inv_reachable ops h) hq ((stored_iff_spec ops h (q, v)).2 hs)]
  exact closest_congr_mem (stored_iff_spec ops h) q p

theorem lookupPath_history (ops : List (Op α)) (h : ∀ o ∈ ops, Op.WF W o) {q : Pfx} (hq : q.WF W)
    (e : Pfx × α) :
    e ∈ (run W ops).lookupPath W q ↔ ((specRun ops).find q).isSome = true ∧ e ∈ SMap.path W (specRun ops) q := by
  rw [lookupPath_eq_spec (trie_inv_reachable ops h) hq, get_eq_spec ops h q hq]
  split
  · rename_i hsome
    simp only [hsome, true_and, SMap.path, List.mem_filter, stored_iff_spec ops h e]
  · rename_i hnone
    simp [hnone]

/-- A three-prefix history producing an intermediate node satisfies every hypothesis above. -/
def exOps : List (Op Nat) :=
  [.upd ⟨0x0a000100, 24⟩ 1, .upd ⟨0x0a000201, 32⟩ 2, .upd ⟨0x0a000000, 16⟩ 3, .del ⟨0x0a000000, 16⟩]

example : ∀ o ∈ exOps, Op.WF 32 o := by decide
example : (run 32 exOps).toList = [(⟨0x0a000100, 24⟩, 1), (⟨0x0a000201, 32⟩, 2)] := by decide
example : (run 32 exOps).covers 32 ⟨0x0a000105, 32⟩ = true := by decide
example : (run 32 exOps).intersects 32 ⟨0x0a000000, 8⟩ = true := by decide
example : (run 32 exOps).lpm 32 ⟨0x0a000105, 32⟩ = some (⟨0x0a000100, 24⟩, 1) := by decide
example : (run 32 exOps).coveredBy 32 ⟨0x0a000000, 22⟩ = some true := by decide
example : (⟨0x0a000105, 32⟩ : Pfx).WF 32 ∧ (⟨0x0a000105, 32⟩ : Pfx).len = 32 := by decide

/-- Limit of `closestDescendants_eq_spec`: for a query that is not a node of the trie the
listing is empty although two stored prefixes lie inside it (10.0.0.0/8 over
{10.0.1.0/24, 10.0.2.1/32}).  The Go doc comment restricts the function to CIDRs in the trie. -/
theorem closestDescendants_unstored_example :
    (run 32 exOps).closestDescendants 32 ⟨0x0a000000, 8⟩ = [] ∧
    SMap.closest 32 (run 32 exOps).toList ⟨0x0a000000, 8⟩ = [⟨0x0a000100, 24⟩, ⟨0x0a000201, 32⟩] := by
  decide

example : (run 32 (exOps ++ [.upd ⟨0x0a000000, 16⟩ 4])).closestDescendants 32 ⟨0x0a000000, 16⟩
    = [⟨0x0a000100, 24⟩, ⟨0x0a000201, 32⟩] := by decide
example : (run 32 exOps).lpm 32 ⟨0x0a000100, 24⟩ = some (⟨0x0a000100, 24⟩, 1) := by decide
example : (run 32 exOps).lookupPath 32 ⟨0x0a000201, 32⟩ = [(⟨0x0a000201, 32⟩, 2)] := by decide
example : LpmSafe 32 (run 32 exOps) ⟨0x0a000105, 32⟩ := lpmSafe_of_host (trie_inv_reachable _ (by decide)) rfl
end CalicoVerif.C36
