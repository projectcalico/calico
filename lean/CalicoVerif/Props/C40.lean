import CalicoVerif.Proofs.C40
/-!
C40 — Host protection and workload isolation hold on every packet path.

Theorems over the model of the rendered static chains (tied to felix/rules by text equality of the
rendered chains for generated configs), for ALL packets, configs, tiers/policies (policy chains are
arbitrary: `cs` is universally quantified apart from the static chains named in the hypotheses).
-/
namespace CalicoVerif.C40

/-- the packet is inbound traffic for the failsafe entry `pp`. -/
def Pkt.matchesIn (p : Pkt) (pp : ProtoPort) : Prop :=
  p.proto = pp.protoNum ∧ p.dport = pp.port ∧
  (match pp.net with | some (_, a, l) => inNet p.src a l = true | none => True)

/-- the packet is outbound traffic for the failsafe entry `pp`. -/
def Pkt.matchesOut (p : Pkt) (pp : ProtoPort) : Prop :=
  p.proto = pp.protoNum ∧ p.dport = pp.port ∧
  (match pp.net with | some (_, a, l) => inNet p.dst a l = true | none => True)

/-- **failsafe chains.**  In every table (raw / mangle / filter), a packet to a configured inbound
failsafe port is ACCEPTed by `cali-failsafe-in` (and outbound by `cali-failsafe-out`). -/
theorem failsafe_chain_accepts (cs : Chains) (f : Nat) (c : Config) (raw : Bool) (p : Pkt) (pp : ProtoPort)
    (hfam : pp.otherFamily = false) :
    (pp ∈ c.failsafeIn → p.matchesIn pp → runRules cs f (failsafeInChain c raw) p = .accept) ∧
    (pp ∈ c.failsafeOut → p.matchesOut pp → runRules cs f (failsafeOutChain c raw) p = .accept) := by
  have h : ∀ (l : List ProtoPort) (d s : Bool) (rest : List Rule), pp ∈ l →
      (failsafeRule pp d s).matches p = true →
      runRules cs f ((l.filter fun pp => !pp.otherFamily).map (fun pp => failsafeRule pp d s) ++ rest) p = .accept := by
    intro l d s rest hpp hm
    refine runRules_accept_block rest (fun r hr => ?_)
      ⟨_, List.mem_map_of_mem (List.mem_filter.2 ⟨hpp, by rw [hfam]; rfl⟩), hm⟩
    obtain ⟨x, _, rfl⟩ := List.mem_map.1 hr
    rfl
  exact ⟨fun hpp hm => h _ _ _ _ hpp (failsafeRule_matches pp true hm.1 hm.2.1 hm.2.2),
    fun hpp hm => h _ _ _ _ hpp (failsafeRule_matches pp false hm.1 hm.2.1 hm.2.2)⟩

/-- **Failsafe ports are always accepted**, on each of the three paths (untracked/raw, pre-DNAT/mangle,
normal/filter).
Whatever tiers and policies are rendered into a host endpoint chain (`tiers` and every policy chain
in `cs` are arbitrary), a NEW-connection packet on a configured failsafe port is ACCEPTed by the host
endpoint's chain: the jump to the failsafe chain comes before any policy.  (For the untracked
chains the conntrack state is irrelevant.)  The conntrack-state hypothesis is needed: see
`failsafe_invalid_ct_dropped`. -/
theorem failsafe_always_accepted (cs : Chains) (f : Nat) (c : Config) (k : HepKind) (tiers : List Tier)
    (p : Pkt) (pp : ProtoPort) (hfam : pp.otherFamily = false) (hct : k.untracked = true ∨ p.ct = 0)
    (hin : cs chFailsafeIn = some (failsafeInChain c k.untracked))
    (hout : cs chFailsafeOut = some (failsafeOutChain c k.untracked)) :
    (k.ingress = true → pp ∈ c.failsafeIn → p.matchesIn pp →
      runRules cs (f + 1) (hepChain c k tiers) p = .accept) ∧
    (k.ingress = false → pp ∈ c.failsafeOut → p.matchesOut pp →
      runRules cs (f + 1) (hepChain c k tiers) p = .accept) := by
  obtain ⟨rest, e⟩ := hepChain_failsafe_first (cs := cs) (f := f + 1) c k tiers hct
  constructor
  · intro hk hpp hm
    rw [e, hk, if_pos rfl, runChain_succ hin, (failsafe_chain_accepts cs f c k.untracked p pp hfam).1 hpp hm]
  · intro hk hpp hm
    rw [e, hk, if_neg Bool.false_ne_true, runChain_succ hout,
      (failsafe_chain_accepts cs f c k.untracked p pp hfam).2 hpp hm]

def exCfg : Config :=
  { ipip := true, vxlan := false, vxlanPort := 4789, toHost := .drop, filterAllow := .accept,
    mangleAllow := .accept, disableCtInvalid := false, prefixes := ["cali"],
    failsafeIn := [{ protoName := "tcp", protoNum := 6, port := 22 }], failsafeOut := [] }

def exChains : Chains := fun n =>
  if n = chFailsafeIn then some (failsafeInChain exCfg false)
  else if n = "cali-pi-gnp/deny-all" then some [{ action := .drop }]
  else if n = chWlToHost then some (wlToHostChain exCfg)
  else if n = chFromWlDispatch then some (wlDispatchChain true ["cali1234"])
  else none

def exPkt : Pkt :=
  { proto := 6, sport := 40000, dport := 22, src := 1, dst := 2, inIf := "eth0", outIf := "", ct := 0,
    mark := 0, dstLocal := true, srcSets := [] }

def exTiers : List Tier := [{ name := "t", defaultPass := false, pols := [("deny-all", false)] }]

/-- non-vacuity + a concrete run: ssh to a host endpoint with a deny-all tier is accepted, telnet is
dropped by the policy. -/
example :
    runRules exChains 3 (hepChain exCfg .filterIn exTiers) exPkt = .accept ∧
    runRules exChains 3 (hepChain exCfg .filterIn exTiers) { exPkt with dport := 23 } = .drop := by
  decide +kernel -- evaluated by the kernel alone; plain `decide` evaluates in the elaborator first

/-- The conntrack hypothesis of `failsafe_always_accepted` cannot be dropped for the tracked chains:
in the filter (and mangle) host endpoint chain the `--ctstate INVALID` drop precedes the failsafe
jump, so a failsafe-port packet that conntrack classifies INVALID is dropped (unless
`DisableConntrackInvalidCheck` is set).  By design in the code; recorded here as the exact limit of
the guarantee. -/
theorem failsafe_invalid_ct_dropped :
    runRules exChains 3 (hepChain exCfg .filterIn []) { exPkt with ct := 2 } = .drop := by
  decide

/-- **The endpoint-to-host action comes after the workload's egress policy.**  In `cali-wl-to-host` the configured endpoint-to-host action is
applied only to packets that the workload's egress dispatch (its egress policy) returned, i.e. did
not drop or accept by itself. -/
theorem wl_to_host_after_egress (cs : Chains) (f : Nat) (c : Config) (p : Pkt) :
    runRules cs f (wlToHostChain c) p =
      (match runChain cs f chFromWlDispatch p with
       | .fall p' => (match c.toHost with
          | .accept => .accept
          | .drop => .drop
          | _ => runRules cs f [{ comment := some "Configured DefaultEndpointToHostAction", action := c.toHost }] p')
       | v => v) := by
  unfold wlToHostChain
  rw [runRules_cons_jump rfl rfl]
  cases runChain cs f chFromWlDispatch p with
  | accept => rfl
  | drop => rfl
  | fall p' =>
    cases h : c.toHost with
    | accept => exact runRules_cons_accept rfl rfl
    | drop => exact runRules_cons_drop rfl rfl
    | _ => rfl

/-- **The same on the whole INPUT path.**  A packet arriving on a workload interface that
is not caught by the tunnel-source filter at the top of `cali-INPUT` (not IPIP when IPIP is enabled,
not UDP to the VXLAN port when VXLAN is enabled) goes `cali-INPUT` → `cali-wl-to-host` →
`cali-from-wl-dispatch`: its verdict is the workload egress dispatch's verdict, and the configured
endpoint-to-host action applies only if that dispatch (the workload's egress policy) returned it.
Nothing of host endpoint policy and no other rule of `cali-INPUT` is involved.  The guard is needed:
see `tunnel_from_workload_iface_witness`. -/
theorem workload_to_host_whole_path (cs : Chains) (f : Nat) (c : Config) (p : Pkt)
    (h4 : c.ipip = false ∨ p.proto ≠ 4) (h17 : c.vxlan = false ∨ ¬ (p.proto = 17 ∧ p.dport = c.vxlanPort))
    (hwl : ∃ pfx ∈ c.prefixes, ifaceMatches (pfx ++ "+") p.inIf = true)
    (h1 : cs chWlToHost = some (wlToHostChain c)) :
    runRules cs (f + 1) (filterInputChain c) p =
      (match runChain cs f chFromWlDispatch p with
       | .fall p' => (match c.toHost with
          | .accept => .accept
          | .drop => .drop
          | _ => runRules cs f [{ comment := some "Configured DefaultEndpointToHostAction", action := c.toHost }] p')
       | v => v) := by
  unfold filterInputChain
  rw [input_tunnel_rules_skipped c _ h4 h17, prefix_gotos _ _ hwl, runChain_succ h1, wl_to_host_after_egress]

/-- **Traffic from an unknown workload interface is dropped (INPUT path).**  A packet arriving on an interface that matches
a workload prefix but none of the endpoints Felix knows is dropped on the input path, whatever else
is configured: `cali-INPUT` → `cali-wl-to-host` → `cali-from-wl-dispatch` → "Unknown interface" DROP.
Guard: the packet is not caught by the tunnel-source filter first (not IPIP when IPIP is enabled,
not UDP to the VXLAN port when VXLAN is enabled) — see `tunnel_from_workload_iface_witness`. -/
theorem unknown_workload_iface_dropped_input (cs : Chains) (f : Nat) (c : Config) (ifaces : List String) (p : Pkt)
    (h4 : c.ipip = false ∨ p.proto ≠ 4) (h17 : c.vxlan = false ∨ ¬ (p.proto = 17 ∧ p.dport = c.vxlanPort))
    (hwl : ∃ pfx ∈ c.prefixes, ifaceMatches (pfx ++ "+") p.inIf = true)
    (hunk : ∀ n ∈ ifaces, ifaceMatches n p.inIf = false)
    (h1 : cs chWlToHost = some (wlToHostChain c))
    (h2 : cs chFromWlDispatch = some (wlDispatchChain true ifaces)) :
    runRules cs (f + 2) (filterInputChain c) p = .drop := by
  rw [workload_to_host_whole_path cs (f + 1) c p h4 h17 hwl h1, runChain_succ h2,
    wlDispatch_unknown_dropped ifaces hunk]

/-- The guard of the two theorems above cannot be dropped (limit of the guarantee IN THE FILTER TABLE):
the tunnel-source filter sits above the workload-interface diversion in `cali-INPUT`, so an IPIP
packet (or a UDP packet to the VXLAN port) that arrives on a workload interface — even one Felix does
not know — with a source address in the all-Calico-hosts (VTEP) IP set and a local destination gets the
filter allow action before any workload egress policy or the "Unknown interface" drop.  What stops a
workload from sending it is the anti-spoofing RPF check in raw PREROUTING (`workload_spoof_dropped_raw`):
a workload cannot legitimately source a host's address. -/
theorem tunnel_from_workload_iface_witness :
    runRules exChains 4 (filterInputChain exCfg)
      { exPkt with inIf := "cali9999", proto := 4, srcSets := [ipsetAllHosts] } = .accept ∧
    runRules exChains 4 (filterInputChain exCfg) { exPkt with inIf := "cali9999" } = .drop := by
  decide +kernel

/-- **Tunnel traffic from foreign sources is dropped.**  With IPIP enabled, an IPIP packet whose source is not in the
all-Calico-hosts IP set (or that is not addressed to the host) is dropped by `cali-INPUT`; with VXLAN
enabled, a UDP packet to the VXLAN port of the host from a source outside the allowed-VTEP IP set
is dropped. -/
theorem foreign_tunnel_dropped (cs : Chains) (f : Nat) (c : Config) (p : Pkt) :
    (c.ipip = true → p.proto = 4 → (p.srcSets.contains ipsetAllHosts && p.dstLocal) = false →
      runRules cs f (filterInputChain c) p = .drop) ∧
    (c.vxlan = true → p.proto = 17 → p.dport = c.vxlanPort → p.dstLocal = true →
      p.srcSets.contains ipsetVXLAN = false → runRules cs f (filterInputChain c) p = .drop) := by
  unfold filterInputChain inputTunnelRules
  constructor
  · intro hi hp hs
    rw [if_pos hi, List.append_assoc, List.cons_append, List.cons_append,
      runRules_cons_of_not_matches (by
        simp only [Rule.matches, List.all_cons, List.all_nil, Crit.holds, Bool.and_true, hs, Bool.and_false]),
      runRules_cons_drop ((Rule.matches_single (c := .protoNum 4)).trans (beq_iff_eq.2 hp)) rfl]
  · intro hv hp hd hl hs
    have h4 : (Crit.protoNum 4).holds p = false := show (p.proto == 4) = false by rw [hp]; rfl
    rw [List.append_assoc,
      runRules_ite_append_of_not_matches _ _ fun _ =>
        forall_mem_pair (Rule.matches_eq_false _ (.head _) h4) (Rule.matches_eq_false _ (.head _) h4),
      if_pos hv, List.cons_append, List.cons_append,
      runRules_cons_of_not_matches (Rule.matches_eq_false (.srcSet ipsetVXLAN) (.tail _ (.tail _ (.head _))) hs),
      runRules_cons_drop (by
        simp only [Rule.matches, List.all_cons, List.all_nil, Crit.holds, Bool.and_true, hp, hd, hl, beq_self_eq_true]) rfl]

example : runRules exChains 4 (filterInputChain exCfg) { exPkt with proto := 4 } = .drop := by decide

/-- **Traffic from an unknown workload interface is dropped (FORWARD path), in part.**  On the forward path the packet
visits `cali-from-hep-forward` and, for every workload prefix listed before the one its interface
matches, possibly `cali-to-wl-dispatch` (when it leaves through a workload interface of that
prefix).  PROVIDED those chains do not terminally ACCEPT it (they drop it or hand it back with the
same in-interface — true for NEW connections, whose allow verdicts are "mark + RETURN"; an
ESTABLISHED flow can be accepted there by a conntrack rule), the packet from an unknown workload
interface is dropped.  What is missing for the full statement: models of the host endpoint forward
chains and of the to-workload chains (C09/C10's business). -/
theorem unknown_workload_iface_dropped_forward_partial (cs : Chains) (f : Nat) (c : Config)
    (ifaces : List String) (p : Pkt)
    (hnoacc : ∀ ch, ch = chFromHepFwd ∨ ch = chToWlDispatch → ∀ q : Pkt, q.inIf = p.inIf →
      runChain cs (f + 1) ch q = .drop ∨ ∃ q', runChain cs (f + 1) ch q = .fall q' ∧ q'.inIf = p.inIf)
    (hwl : ∃ pfx ∈ c.prefixes, ifaceMatches (pfx ++ "+") p.inIf = true)
    (hunk : ∀ n ∈ ifaces, ifaceMatches n p.inIf = false)
    (h2 : cs chFromWlDispatch = some (wlDispatchChain true ifaces)) :
    runRules cs (f + 1) (filterForwardChain c) p = .drop := by
  have hpfx : ∀ (ps : List String) (q : Pkt), q.inIf = p.inIf →
      (∃ pfx ∈ ps, ifaceMatches (pfx ++ "+") p.inIf = true) →
      runRules cs (f + 1) (fwdPrefixRules ps ++ fwdTail) q = .drop := by
    intro ps
    induction ps with
    | nil => intro q _ h; obtain ⟨x, hx, _⟩ := h; cases hx
    | cons a ps ih =>
      intro q hq hex
      rw [fwdPrefixRules, List.cons_append, List.cons_append]
      cases ha : ifaceMatches (a ++ "+") q.inIf with
      | true =>
        rw [runRules_cons_jump (r := fwdInRule a) (Rule.matches_single.trans ha) rfl, runChain_succ h2,
          wlDispatch_unknown_dropped ifaces (by rw [hq]; exact hunk)]
      | false =>
        rw [runRules_cons_of_not_matches (Rule.matches_eq_false (.inIf _) (.head _) ha)]
        have hex' : ∃ pfx ∈ ps, ifaceMatches (pfx ++ "+") p.inIf = true := by
          obtain ⟨x, hx, hxm⟩ := hex
          rcases List.mem_cons.1 hx with rfl | h
          · rw [← hq, ha] at hxm; cases hxm
          · exact ⟨x, h, hxm⟩
        exact drop_through_jump (P := fun q => q.inIf = p.inIf) rfl hq (hnoacc _ (Or.inr rfl) q hq)
          fun q' hq' => ih q' hq' hex'
  unfold filterForwardChain
  rw [runRules_cons_clear rfl rfl]
  exact drop_through_jump (P := fun q => q.inIf = p.inIf) rfl rfl (hnoacc _ (Or.inl rfl) _ rfl)
    fun q hq => hpfx c.prefixes q hq hwl

/-- In every tracked host endpoint chain (filter, mangle) the first thing is the conntrack rule: a
packet of an ESTABLISHED/RELATED connection gets the chain's allow action (ACCEPT, or mark+RETURN),
whatever the tiers and policies.  Together with `failsafe_always_accepted` (NEW packets) this covers
every conntrack state except INVALID (see `failsafe_invalid_ct_dropped`). -/
theorem established_never_dropped_by_hep_chain (cs : Chains) (f : Nat) (c : Config) (k : HepKind) (tiers : List Tier)
    (p : Pkt) (hk : k.untracked = false) (hallow : k.allow c = .accept ∨ k.allow c = .ret) (hct : p.ct = 1) :
    NotDropped (runRules cs f (hepChain c k tiers) p) := by
  unfold hepChain conntrackRules
  rw [hk, if_neg Bool.false_ne_true, List.append_assoc, List.append_assoc, List.append_assoc, List.append_assoc]
  have hm : Crit.ctEstablished.holds p = true := show (p.ct == 1) = true by rw [hct]; rfl
  rcases hallow with ha | ha <;> rw [ha]
  · exact head_allow_notdropped (Rule.matches_single.trans hm) (Or.inl rfl)
  · rw [if_pos (show (Action.ret != Action.accept) = true from rfl), List.cons_append,
      runRules_cons_setMark (Rule.matches_single.trans hm) rfl]
    exact head_allow_notdropped (Rule.matches_single.trans hm) (Or.inr rfl)

/-- **failsafe, untracked path (raw PREROUTING), whole path.**  A packet to a configured inbound
failsafe port arriving on a host endpoint's interface (not a workload interface) is ACCEPTed in the
raw table before any untracked policy, whatever mark it carried, whatever the conntrack state. -/
theorem failsafe_raw_prerouting (cs : Chains) (f : Nat) (c : Config) (tiers : List Tier) (iface : String)
    (p : Pkt) (pp : ProtoPort) (hfam : pp.otherFamily = false)
    (hnwl : ∀ pfx ∈ c.prefixes, ifaceMatches (pfx ++ "+") p.inIf = false)
    (hdisp : cs chFromHep = some (hepDispatchChain true [iface])) (hif : ifaceMatches iface p.inIf = true)
    (hchain : cs ("cali-fh-" ++ iface) = some (hepChain c .rawIn tiers))
    (hin : cs chFailsafeIn = some (failsafeInChain c true)) (hout : cs chFailsafeOut = some (failsafeOutChain c true))
    (hpp : pp ∈ c.failsafeIn) (hm : p.matchesIn pp) :
    runRules cs (f + 3) (rawPreroutingChain c) p = .accept := by
  have hs : (Crit.markSet markScratch0).holds { p with mark := clearBits p.mark markAll } = false := by
    rw [markSet_two_pow, testBit_clearBits, show markAll.testBit 18 = true by decide, Bool.not_true, Bool.and_false]
  unfold rawPreroutingChain
  rw [runRules_cons_clear rfl rfl, vxlanNotrack_skip,
    runRules_map_of_not_matches (p := { p with mark := clearBits p.mark markAll }) _ _ fun pfx hp =>
      Rule.matches_eq_false (.inIf _) (.head _) (hnwl pfx hp),
    runRules_cons_of_not_matches (Rule.matches_eq_false _ (.head _) hs),
    runRules_cons_of_not_matches (Rule.matches_eq_false _ (.head _) hs),
    runRules_cons_jump (c := chFromHep)
      ((Rule.matches_single (c := .markClear markScratch0)).trans (by rw [markClear_two_pow, ← markSet_two_pow, hs]; rfl)) rfl,
    hep_dispatch (p := { p with mark := clearBits p.mark markAll }) true hdisp hif hchain,
    (failsafe_always_accepted cs f c .rawIn tiers { p with mark := clearBits p.mark markAll } pp hfam (Or.inl rfl)
      hin hout).1 rfl hpp hm]

/-- **failsafe, untracked path (raw OUTPUT), whole path.** -/
theorem failsafe_raw_output (cs : Chains) (f : Nat) (c : Config) (tiers : List Tier) (iface : String)
    (p : Pkt) (pp : ProtoPort) (hfam : pp.otherFamily = false)
    (hdisp : cs chToHep = some (hepDispatchChain false [iface])) (hif : ifaceMatches iface p.outIf = true)
    (hchain : cs ("cali-th-" ++ iface) = some (hepChain c .rawOut tiers))
    (hin : cs chFailsafeIn = some (failsafeInChain c true)) (hout : cs chFailsafeOut = some (failsafeOutChain c true))
    (hpp : pp ∈ c.failsafeOut) (hm : p.matchesOut pp) :
    runRules cs (f + 3) (rawOutputChain c) p = .accept := by
  unfold rawOutputChain
  rw [runRules_cons_clear rfl rfl, runRules_cons_jump rfl rfl,
    hep_dispatch (p := { p with mark := clearBits p.mark markAll }) false hdisp hif hchain,
    (failsafe_always_accepted cs f c .rawOut tiers { p with mark := clearBits p.mark markAll } pp hfam (Or.inl rfl)
      hin hout).2 rfl hpp hm]

/-- **failsafe, pre-DNAT path (mangle PREROUTING), whole path.**  A NEW-connection packet to an
inbound failsafe port on a host endpoint's interface is never dropped in the mangle table: it is
ACCEPTed by the failsafe chain (or, if an earlier table already accepted it, handled by the
configured mangle allow action). -/
theorem failsafe_mangle_prerouting (cs : Chains) (f : Nat) (c : Config) (tiers : List Tier) (iface : String)
    (p : Pkt) (pp : ProtoPort) (hfam : pp.otherFamily = false) (hallow : c.mangleAllow = .accept ∨ c.mangleAllow = .ret) (hct : p.ct = 0)
    (hdisp : cs chFromHep = some (hepDispatchChain true [iface])) (hif : ifaceMatches iface p.inIf = true)
    (hchain : cs ("cali-fh-" ++ iface) = some (hepChain c .mangleIn tiers))
    (hin : cs chFailsafeIn = some (failsafeInChain c false)) (hout : cs chFailsafeOut = some (failsafeOutChain c false))
    (hpp : pp ∈ c.failsafeIn) (hm : p.matchesIn pp) :
    NotDropped (runRules cs (f + 3) (manglePreroutingChain c) p) := by
  exact manglePrerouting_via_hep cs (f + 1) c iface _ p hallow hdisp hif hchain
    (Or.inl ((failsafe_always_accepted cs f c .mangleIn tiers p pp hfam (Or.inr hct) hin hout).1 rfl hpp hm))

/-- **failsafe, normal path (filter INPUT), whole path.**  A NEW-connection packet to an inbound
failsafe port on a host endpoint's interface (not a workload interface, not tunnel traffic) is never
dropped by `cali-INPUT`: the failsafe chain ACCEPTs it before any policy. -/
theorem failsafe_filter_input (cs : Chains) (f : Nat) (c : Config) (tiers : List Tier) (iface : String)
    (p : Pkt) (pp : ProtoPort) (hfam : pp.otherFamily = false) (hallow : c.filterAllow = .accept ∨ c.filterAllow = .ret) (hct : p.ct = 0)
    (h4 : p.proto ≠ 4) (h17 : ¬ (p.proto = 17 ∧ p.dport = c.vxlanPort))
    (hnwl : ∀ pfx ∈ c.prefixes, ifaceMatches (pfx ++ "+") p.inIf = false)
    (hdisp : cs chFromHep = some (hepDispatchChain true [iface])) (hif : ifaceMatches iface p.inIf = true)
    (hchain : cs ("cali-fh-" ++ iface) = some (hepChain c .filterIn tiers))
    (hin : cs chFailsafeIn = some (failsafeInChain c false)) (hout : cs chFailsafeOut = some (failsafeOutChain c false))
    (hpp : pp ∈ c.failsafeIn) (hm : p.matchesIn pp) :
    NotDropped (runRules cs (f + 3) (filterInputChain c) p) := by
  exact filterInput_via_hep cs (f + 1) c iface _ p hallow h4 h17 hnwl hdisp hif hchain
    (Or.inl ((failsafe_always_accepted cs f c .filterIn tiers { p with mark := clearBits p.mark markAll } pp hfam
      (Or.inr hct) hin hout).1 rfl hpp hm))

/-- **failsafe, normal path (filter OUTPUT), whole path.**  A NEW-connection, not DNAT'ed packet from
the host to an outbound failsafe port leaving through a host endpoint's interface is never dropped
by `cali-OUTPUT`.  (DNAT'ed packets are policed in mangle POSTROUTING, which is not modelled; the modelled
`cali-OUTPUT` looks neither at DNAT nor at workload prefixes.) -/
theorem failsafe_filter_output (cs : Chains) (f : Nat) (c : Config) (tiers : List Tier) (iface : String)
    (p : Pkt) (pp : ProtoPort) (hfam : pp.otherFamily = false) (hallow : c.filterAllow = .accept ∨ c.filterAllow = .ret) (hct : p.ct = 0)
    (hdnat : p.dnat = false)
    (hnwl : ∀ pfx ∈ c.prefixes, ifaceMatches (pfx ++ "+") p.outIf = false)
    (hdisp : cs chToHep = some (hepDispatchChain false [iface])) (hif : ifaceMatches iface p.outIf = true)
    (hchain : cs ("cali-th-" ++ iface) = some (hepChain c .filterOut tiers))
    (hin : cs chFailsafeIn = some (failsafeInChain c false)) (hout : cs chFailsafeOut = some (failsafeOutChain c false))
    (hpp : pp ∈ c.failsafeOut) (hm : p.matchesOut pp) :
    NotDropped (runRules cs (f + 3) (filterOutputChain c) p) := by
  -- `hdnat` and `hnwl` play no part: `filterOutput_via_hep` needs neither
  exact filterOutput_via_hep cs (f + 1) c iface _ p hallow hdisp hif hchain
    (Or.inl ((failsafe_always_accepted cs f c .filterOut tiers { p with mark := clearBits p.mark markAll } pp hfam
      (Or.inr hct) hin hout).2 rfl hpp hm))

/-- **anti-spoofing.**  A packet that arrives on a workload interface and fails the reverse-path
check (its source address is not routed via that interface — e.g. a workload sourcing a host's
address to get past the tunnel-source filter of `cali-INPUT`) is dropped in raw PREROUTING, before
conntrack and before the filter table, provided the per-endpoint RPF-skip chain does not exempt it
(`cali-rpf-skip` hands it back). -/
theorem workload_spoof_dropped_raw (cs : Chains) (f : Nat) (c : Config) (p : Pkt)
    (hwl : ∃ pfx ∈ c.prefixes, ifaceMatches (pfx ++ "+") p.inIf = true) (hrpf : p.rpfFail = true)
    (hskip : ∀ q, runChain cs f chRpfSkip q = .fall q) :
    runRules cs f (rawPreroutingChain c) p = .drop := by
  unfold rawPreroutingChain
  rw [runRules_cons_clear rfl rfl, vxlanNotrack_skip, prefix_setmarks, List.any_eq_true.2 hwl, if_pos rfl]
  have hset : ∀ m, (Crit.markSet markScratch0).holds { p with mark := m ||| markScratch0 } = true :=
    fun m => (markSet_two_pow _ 18).trans (testBit_or_two_pow m 18)
  rw [runRules_cons_jump (Rule.matches_single.trans (hset _)) rfl, hskip]
  exact runRules_cons_drop (Rule.matches_eq_true (forall_mem_pair (hset _) hrpf)) rfl

/-- whole path, mangle PREROUTING: an ESTABLISHED/RELATED packet gets the mangle allow action at once. -/
theorem established_mangle_prerouting (cs : Chains) (f : Nat) (c : Config) (p : Pkt)
    (hallow : c.mangleAllow = .accept ∨ c.mangleAllow = .ret) (hct : p.ct = 1) :
    NotDropped (runRules cs f (manglePreroutingChain c) p) := by
  unfold manglePreroutingChain
  exact head_allow_notdropped (Rule.matches_single.trans (show (p.ct == 1) = true by rw [hct]; rfl)) hallow

/-- whole path, filter INPUT: an ESTABLISHED/RELATED packet on a host endpoint's interface is not
dropped by `cali-INPUT`, whatever the host endpoint's policy. -/
theorem established_filter_input (cs : Chains) (f : Nat) (c : Config) (tiers : List Tier) (iface : String)
    (p : Pkt) (hallow : c.filterAllow = .accept ∨ c.filterAllow = .ret) (hct : p.ct = 1)
    (h4 : p.proto ≠ 4) (h17 : ¬ (p.proto = 17 ∧ p.dport = c.vxlanPort))
    (hnwl : ∀ pfx ∈ c.prefixes, ifaceMatches (pfx ++ "+") p.inIf = false)
    (hdisp : cs chFromHep = some (hepDispatchChain true [iface])) (hif : ifaceMatches iface p.inIf = true)
    (hchain : cs ("cali-fh-" ++ iface) = some (hepChain c .filterIn tiers)) :
    NotDropped (runRules cs (f + 3) (filterInputChain c) p) := by
  exact filterInput_via_hep cs (f + 1) c iface _ p hallow h4 h17 hnwl hdisp hif hchain
    (established_never_dropped_by_hep_chain cs (f + 1) c .filterIn tiers _ rfl hallow hct)

/-- whole path, filter OUTPUT: the same for traffic leaving through a host endpoint's interface. -/
theorem established_filter_output (cs : Chains) (f : Nat) (c : Config) (tiers : List Tier) (iface : String)
    (p : Pkt) (hallow : c.filterAllow = .accept ∨ c.filterAllow = .ret) (hct : p.ct = 1) (hdnat : p.dnat = false)
    (hnwl : ∀ pfx ∈ c.prefixes, ifaceMatches (pfx ++ "+") p.outIf = false)
    (hdisp : cs chToHep = some (hepDispatchChain false [iface])) (hif : ifaceMatches iface p.outIf = true)
    (hchain : cs ("cali-th-" ++ iface) = some (hepChain c .filterOut tiers)) :
    NotDropped (runRules cs (f + 3) (filterOutputChain c) p) := by
  -- `hdnat` and `hnwl` play no part: `filterOutput_via_hep` needs neither
  exact filterOutput_via_hep cs (f + 1) c iface _ p hallow hdisp hif hchain
    (established_never_dropped_by_hep_chain cs (f + 1) c .filterOut tiers _ rfl hallow hct)

def exChains2 (k : HepKind) : Chains := fun n =>
  if n = chFailsafeIn then some (failsafeInChain exCfg k.untracked)
  else if n = chFailsafeOut then some (failsafeOutChain exCfg k.untracked)
  else if n = chFromHep then some (hepDispatchChain true ["eth0"])
  else if n = "cali-fh-eth0" then some (hepChain exCfg k exTiers)
  else if n = "cali-pi-gnp/deny-all" then some [{ action := .drop }]
  else none

/-- non-vacuity / concrete whole-path run: ssh from 0.0.0.1 to the host on eth0 with a deny-all
host endpoint policy is accepted in raw PREROUTING and in filter INPUT; telnet is dropped in INPUT. -/
example :
    runRules (exChains2 .rawIn) 5 (rawPreroutingChain exCfg) { exPkt with mark := 0x50000 } = .accept ∧
    runRules (exChains2 .filterIn) 5 (filterInputChain exCfg) exPkt = .accept ∧
    runRules (exChains2 .filterIn) 5 (filterInputChain exCfg) { exPkt with dport := 23 } = .drop := by
  decide +kernel

/-! BPF mode (`setUpIptablesBPF`) -/

/-- FORWARD, BPF mode, either IP version, BPF IPv6 support on or off, whatever the dispatch chains
contain and whatever the out-interface: a packet from an interface matching a workload prefix that
does not carry the BPF seen mark (no BPF program on that interface: Felix does not know it) is
dropped. -/
theorem bpf_unseen_workload_iface_dropped_forward (cs : Chains) (f : Nat) (c : Config) (v6 bpf6 : Bool) (p : Pkt)
    (hif : ∃ pfx ∈ c.prefixes, ifaceMatches (pfx ++ "+") p.inIf = true)
    (hm : p.mark &&& markSeen ≠ markSeen) :
    runRules cs f (bpfForwardRules c v6 bpf6) p = .drop := by
  have hns : (Crit.markNotSet markSeen).holds p = true := by rw [Crit.holds, beq_eq_false_iff_ne.2 hm]; rfl
  obtain ⟨pfx, hp, hpm⟩ := hif
  unfold bpfForwardRules
  rw [runRules_cons_of_not_matches (Rule.matches_eq_false (.markSet markSeenBypass) (.head _)
    (unseen_not_sub _ _ (by decide) hm))]
  exact runRules_nomatch_or_drop _ (fun r hr => by obtain ⟨n, _, rfl⟩ := List.mem_map.1 hr; exact Or.inr rfl)
    ⟨bpfFwdDropUnseen pfx, List.mem_map_of_mem hp, Rule.matches_eq_true (forall_mem_pair hpm hns)⟩

/-- INPUT, BPF mode, whatever the endpoint-to-host action: same statement. -/
theorem bpf_unseen_workload_iface_dropped_input (cs : Chains) (f : Nat) (c : Config) (p : Pkt)
    (hif : ∃ pfx ∈ c.prefixes, ifaceMatches (pfx ++ "+") p.inIf = true)
    (hm : p.mark &&& markSeen ≠ markSeen) :
    runRules cs f (bpfInputRules c) p = .drop := by
  have hs : (Crit.markSet markSeen).holds p = false := beq_eq_false_iff_ne.2 hm
  have hns : (Crit.markNotSet markSeen).holds p = true := by rw [Crit.holds, beq_eq_false_iff_ne.2 hm]; rfl
  have hft : (Crit.markSet markSeenFallThrough).holds p = false := unseen_not_sub _ _ (by decide) hm
  obtain ⟨pfx, hp, hpm⟩ := hif
  unfold bpfInputRules
  rw [runRules_append_of_not_matches (pre := bpfInputHead) _ (List.forall_mem_cons.2 ⟨Rule.matches_eq_false _ (.head _) hft,
      forall_mem_pair (Rule.matches_eq_false _ (.head _) hft) (Rule.matches_eq_false _ (.head _) hft)⟩),
    ← List.append_nil (List.flatten _)]
  refine runRules_nomatch_or_drop _ (fun r hr => ?_) ⟨bpfInputDropUnseen pfx,
    List.mem_flatten.2 ⟨_, List.mem_map_of_mem hp, List.mem_append_right _ (List.mem_singleton.2 rfl)⟩,
    Rule.matches_eq_true (forall_mem_pair hpm hns)⟩
  obtain ⟨l, hl, hrl⟩ := List.mem_flatten.1 hr
  obtain ⟨n, _, rfl⟩ := List.mem_map.1 hl
  rcases List.mem_append.1 hrl with h | h
  · obtain rfl := List.mem_singleton.1 (List.mem_ite_nil_right.1 h).2
    exact Or.inl (Rule.matches_eq_false _ (.tail _ (.head _)) hs)
  · obtain rfl := List.mem_singleton.1 h
    exact Or.inr rfl

/-- why the ORDER of the forward rules matters (the drop must precede the to-workload dispatch): with
the drop moved next to the final from-workload ACCEPT, a packet from an unknown `cali` interface to a
known local workload is ACCEPTed by `cali-to-wl-dispatch`.  The real order drops it. -/
theorem bpf_forward_drop_must_precede_dispatch_witness :
    let c : Config := { ipip := false, vxlan := false, vxlanPort := 0, toHost := .drop, filterAllow := .accept,
                        mangleAllow := .accept, disableCtInvalid := false, prefixes := ["cali"],
                        failsafeIn := [], failsafeOut := [] }
    let cs : Chains := fun n => if n = chToWlDispatch then some (wlAllowChain ["caliknown"]) else none
    let p : Pkt := { proto := 6, sport := 1, dport := 80, src := 1, dst := 2, inIf := "calirogue", outIf := "caliknown",
                     ct := 0, mark := 0, dstLocal := false, srcSets := [] }
    runRules cs 3 (bpfForwardRules c false false) p = .drop ∧
    runRules cs 3 (bpfFwdBypass :: (bpfFwdTail c ++ c.prefixes.map bpfFwdDropUnseen)) p = .accept ∧
    -- non-vacuity of the other side: a policed packet (seen mark) from a workload leaves the host
    runRules cs 3 (bpfForwardRules c false false) { p with mark := markSeen, outIf := "eth0" } = .accept := by
  decide +kernel

end CalicoVerif.C40
