import CalicoVerif.Model.C41
import CalicoVerif.Proofs.C18
/-!
C41 — Flow offload never bypasses endpoints that need per-packet processing.

"Established" is read as conntrack state ESTABLISHED or RELATED (what the rule matches and what
felix/design/dataplane.md states: NEW and INVALID packets still traverse policy).

Two managers, one induction each: the no-offload IP set of the flow-offload manager (`Rel`, `exclusion_set_exact`,
`no_bypass`), then, from `ftWant` on, the device lists of the flowtable manager (`FtRel`, `flowtable_devices_exact`).
-/
namespace CalicoVerif.C41
open CalicoVerif.C18 (GoMap get set del NodupKeys get_set get_del nodupKeys_set nodupKeys_del
  nodupKeys_nil get_eq_some_iff)

/-- The property's own state: the current endpoints (whatever their QoS settings). -/
structure Spec where
  w : Nat → Option Wep
  h : Nat → Option Hep

def Spec.empty : Spec := ⟨fun _ => none, fun _ => none⟩

def specStep (s : Spec) : Op → Spec
  | .wepUpdate id w => { s with w := fun i => if id = i then some w else s.w i }
  | .wepRemove id => { s with w := fun i => if id = i then none else s.w i }
  | .hepUpdate id h => { s with h := fun i => if id = i then some h else s.h i }
  | .hepRemove id => { s with h := fun i => if id = i then none else s.h i }
  | .complete => s

def specRun (ops : List Op) : Spec := ops.foldl specStep Spec.empty

/-- `ip` is an address (of the manager's IP version) of a current workload endpoint that needs the
forward hooks, or of a current host endpoint with DSCP policies. -/
def Excluded (ipv : Nat) (s : Spec) (ip : String) : Prop :=
  (∃ id w, s.w id = some w ∧ workloadNeedsForwardHooks w = true ∧ ip ∈ stripSubnetMasks (w.nets ipv)) ∨
  (∃ id h, s.h id = some h ∧ h.nQos ≠ 0 ∧ ip ∈ stripSubnetMasks (h.ips ipv))

/-- `workloadNeedsForwardHooks` is exactly "DSCP marking or a connection or packet rate limit";
bandwidth settings play no role. -/
theorem needs_iff (w : Wep) :
    workloadNeedsForwardHooks w = true ↔
      w.present = true ∧ (w.nQos > 0 ∨ ∃ q, w.controls = some q ∧ (q.imc ≠ 0 ∨ q.emc ≠ 0 ∨ q.ipr ≠ 0 ∨ q.epr ≠ 0)) := by
  unfold workloadNeedsForwardHooks
  cases w.present
  · exact ⟨nofun, fun h => nomatch h.1⟩
  · simp only [Bool.not_true, Bool.false_eq_true, if_false, true_and]
    by_cases hq : w.nQos > 0
    · rw [if_pos hq]; exact ⟨fun _ => Or.inl hq, fun _ => rfl⟩
    · rw [if_neg hq, or_iff_right hq]
      cases w.controls with
      | none => exact ⟨nofun, fun ⟨_, h, _⟩ => nomatch h⟩
      | some q => simp only [Bool.or_eq_true, bne_iff_ne, or_assoc, Option.some.injEq, exists_eq_left']

/-- how both maps of the manager are kept: under the id of each endpoint that satisfies `c`, the addresses `f` extracts
from it -/
structure Tracks {α : Type} (mp : GoMap Nat (List String)) (c : α → Bool) (f : α → List String)
    (e : Nat → Option α) : Prop where
  nodup : NodupKeys mp
  val : ∀ id, get mp id = ((e id).filter c).map f

namespace Tracks
variable {α : Type} {mp : GoMap Nat (List String)} {c : α → Bool} {f : α → List String} {e : Nat → Option α}

theorem keep (h : Tracks mp c f e) (id : Nat) (x : Option α) (hx : x.filter c = none) (hg : get mp id = none) :
    Tracks mp c f (fun i => if id = i then x else e i) :=
  ⟨h.nodup, fun i => by
    split
    · subst i; rw [hg, hx]; rfl
    · exact h.val i⟩

theorem del (h : Tracks mp c f e) (id : Nat) (x : Option α) (hx : x.filter c = none) :
    Tracks (del mp id) c f (fun i => if id = i then x else e i) :=
  ⟨nodupKeys_del _ _ h.nodup, fun i => by
    rw [get_del]
    split
    · rw [hx]; rfl
    · exact h.val i⟩

theorem set (h : Tracks mp c f e) (id : Nat) (a : α) (ha : c a = true) :
    Tracks (set mp id (f a)) c f (fun i => if id = i then some a else e i) :=
  ⟨nodupKeys_set _ _ _ h.nodup, fun i => by
    rw [get_set]
    split
    · rw [Option.filter_some, if_pos ha]; rfl
    · exact h.val i⟩

theorem mem_flatten (h : Tracks mp c f e) (ip : String) :
    ip ∈ (mp.map (·.2)).flatten ↔ ∃ id a, e id = some a ∧ c a = true ∧ ip ∈ f a := by
  simp only [List.mem_flatten, List.mem_map]
  constructor
  · rintro ⟨l, ⟨p, hp, rfl⟩, hip⟩
    have hg := (get_eq_some_iff mp h.nodup p.1 p.2).2 hp
    rw [h.val, Option.map_eq_some_iff] at hg
    obtain ⟨a, ha, e'⟩ := hg
    obtain ⟨h1, h2⟩ := Option.filter_eq_some_iff.1 ha
    exact ⟨p.1, a, h1, h2, e' ▸ hip⟩
  · rintro ⟨id, a, h1, h2, hip⟩
    refine ⟨f a, ⟨(id, f a), (get_eq_some_iff mp h.nodup id (f a)).1 ?_, rfl⟩, hip⟩
    rw [h.val, h1, Option.filter_some, if_pos h2]; rfl

end Tracks

structure Rel (ipv : Nat) (m : Mgr) (s : Spec) : Prop where
  ver : m.ipVersion = ipv
  w : Tracks m.wepIPs workloadNeedsForwardHooks (fun w => stripSubnetMasks (w.nets ipv)) s.w
  h : Tracks m.hepIPs (fun h => h.nQos != 0) (fun h => stripSubnetMasks (h.ips ipv)) s.h
  clean : m.dirty = false → m.last = some m.members

theorem Rel.removeWorkload {ipv : Nat} {m : Mgr} {s : Spec} (r : Rel ipv m s) (id : Nat) (x : Option Wep)
    (hx : x.filter workloadNeedsForwardHooks = none) :
    Rel ipv (m.removeWorkload id) { s with w := fun i => if id = i then x else s.w i } := by
  unfold Mgr.removeWorkload
  cases hg : get m.wepIPs id with
  | none => exact ⟨r.ver, r.w.keep id x hx hg, r.h, r.clean⟩
  | some _ => exact ⟨r.ver, r.w.del id x hx, r.h, nofun⟩

theorem Rel.removeHost {ipv : Nat} {m : Mgr} {s : Spec} (r : Rel ipv m s) (id : Nat) (x : Option Hep)
    (hx : x.filter (fun h => h.nQos != 0) = none) :
    Rel ipv (m.removeHost id) { s with h := fun i => if id = i then x else s.h i } := by
  unfold Mgr.removeHost
  cases hg : get m.hepIPs id with
  | none => exact ⟨r.ver, r.w, r.h.keep id x hx hg, r.clean⟩
  | some _ => exact ⟨r.ver, r.w, r.h.del id x hx, nofun⟩

theorem step_rel (ipv : Nat) (m : Mgr) (s : Spec) (op : Op) (r : Rel ipv m s) :
    Rel ipv (m.step op) (specStep s op) := by
  have ver := r.ver
  subst ver
  cases op with
  | wepUpdate id w =>
    rw [Mgr.step]
    cases hn : workloadNeedsForwardHooks w
    · exact r.removeWorkload id (some w) (by rw [Option.filter_some, hn]; rfl)
    · exact ⟨rfl, r.w.set id w hn, r.h, nofun⟩
  | wepRemove id => exact r.removeWorkload id none rfl
  | hepUpdate id h =>
    rw [Mgr.step]
    by_cases hn : h.nQos = 0
    · rw [if_pos hn]
      exact r.removeHost id (some h) (by rw [Option.filter_some, hn]; rfl)
    · rw [if_neg hn]
      exact ⟨rfl, r.w, r.h.set id h (bne_iff_ne.2 hn), nofun⟩
  | hepRemove id => exact r.removeHost id none rfl
  | complete =>
    rw [Mgr.step]
    cases hd : m.dirty
    · exact r
    · exact ⟨r.ver, r.w, r.h, fun _ => rfl⟩

theorem run_rel (ipv : Nat) (ops : List Op) : Rel ipv (run ipv ops) (specRun ops) :=
  List.foldl_rel ⟨rfl, ⟨nodupKeys_nil, fun _ => rfl⟩, ⟨nodupKeys_nil, fun _ => rfl⟩, nofun⟩
    fun op _ m s r => step_rel ipv m s op r

/-- **The exclusion set is exact.**  After ANY history of endpoint updates/removals and
`CompleteDeferredWork` calls, whenever no work is pending (`dirty = false`) the members of the last
`AddOrReplaceIPSet` are exactly the addresses of the current endpoints that need per-packet hooks. -/
theorem exclusion_set_exact (ipv : Nat) (ops : List Op) (hd : (run ipv ops).dirty = false) :
    ∃ ms, (run ipv ops).last = some ms ∧ ∀ ip, ip ∈ ms ↔ Excluded ipv (specRun ops) ip := by
  have r := run_rel ipv ops
  refine ⟨_, r.clean hd, fun ip => ?_⟩
  rw [Mgr.members, List.mem_append, r.w.mem_flatten, r.h.mem_flatten]
  simp only [Excluded, bne_iff_ne]

theorem run_snoc (ipv : Nat) (ops : List Op) (op : Op) : run ipv (ops ++ [op]) = (run ipv ops).step op := by
  unfold run; rw [List.foldl_append]; rfl

/-- `CompleteDeferredWork` always leaves nothing pending, so after any history followed by it the
programmed set is exact. -/
theorem complete_cleans (ipv : Nat) (ops : List Op) : (run ipv (ops ++ [.complete])).dirty = false := by
  rw [run_snoc, Mgr.step]
  cases h : (run ipv ops).dirty <;> simp [h]

/-- The offload rule only fires for established/related packets whose source and destination
are both outside the no-flow-offload set. -/
theorem offload_rule_guarded (ipv : Nat) (sets : String → String → Bool) (p : Pkt)
    (h : (offloadRule ipv).fires sets p = true) :
    (p.ct = .established ∨ p.ct = .related) ∧
    sets (noOffloadSetName ipv) p.src = false ∧ sets (noOffloadSetName ipv) p.dst = false := by
  simp only [Rule.fires, offloadRule, List.all_cons, List.all_nil, Clause.eval, Bool.and_true,
    Bool.and_eq_true, Bool.not_eq_true'] at h
  obtain ⟨h1, h2, h3⟩ := h
  refine ⟨?_, h2, h3⟩
  cases hc : p.ct <;> simp_all

/-- **No bypass** (composition): if the kernel set holds what the manager last programmed and no work
is pending, a packet the offload rule fires on is established/related and neither its source nor its
destination is an address of a current endpoint that needs per-packet hooks. -/
theorem no_bypass (ipv : Nat) (ops : List Op) (hd : (run ipv ops).dirty = false)
    (sets : String → String → Bool)
    (hk : ∀ ms, (run ipv ops).last = some ms → ∀ ip, sets (noOffloadSetName ipv) ip = true ↔ ip ∈ ms)
    (p : Pkt) (hf : (offloadRule ipv).fires sets p = true) :
    (p.ct = .established ∨ p.ct = .related) ∧
    ¬ Excluded ipv (specRun ops) p.src ∧ ¬ Excluded ipv (specRun ops) p.dst := by
  obtain ⟨ms, hl, hm⟩ := exclusion_set_exact ipv ops hd
  obtain ⟨h1, h2, h3⟩ := offload_rule_guarded ipv sets p hf
  have key : ∀ ip, sets (noOffloadSetName ipv) ip = false → ¬ Excluded ipv (specRun ops) ip := fun ip h he => by
    rw [(hk ms hl ip).2 ((hm ip).2 he)] at h; cases h
  exact ⟨h1, key _ h2, key _ h3⟩

def exW : Wep := { present := true, nQos := 0, controls := some ⟨0, 5, 0, 0, 0⟩, nets4 := ["10.0.0.1/32"], nets6 := [] }
def exW0 : Wep := { present := true, nQos := 0, controls := some ⟨0, 0, 0, 0, 1000⟩, nets4 := ["10.0.0.2/32"], nets6 := [] }
def exOps : List Op := [.wepUpdate 1 exW, .wepUpdate 2 exW0, .hepUpdate 1 ⟨1, ["10.0.0.9"], []⟩, .complete]

example : (run 4 exOps).dirty = false ∧ (run 4 exOps).last.isSome = true ∧
    ((run 4 exOps).wepIPs.map (·.1)) = [1] ∧ ((run 4 exOps).hepIPs.map (·.1)) = [1] := by decide +kernel

example : (offloadRule 4).fires (fun _ ip => ip == "10.0.0.1") ⟨.established, "10.0.0.2", "10.0.0.3"⟩ = true ∧
    (offloadRule 4).fires (fun _ ip => ip == "10.0.0.1") ⟨.established, "10.0.0.2", "10.0.0.1"⟩ = false ∧
    (offloadRule 4).fires (fun _ ip => ip == "10.0.0.1") ⟨.new, "10.0.0.2", "10.0.0.3"⟩ = false := by decide +kernel

def ftWant (m : FtMgr) : List (List String) × List String :=
  (m.targets.map (fun t => sortStrings (t.filter (fun d => m.activeOverlay.contains d))), sortStrings m.activeExternal)

/-- The `set.Set[string]` update both branches of `OnUpdate` perform on their active set `l` (`mk`
stores the new set): the name is added on "up" and discarded on "down"; when it already is in the
state asked for, the manager is left as it is.  Either way the set now has `n` in it iff `s`. -/
theorem active_update {M : Type} {P : M → Prop} (m : M) (mk : List String → M) (l : List String) (n : String)
    (s : Bool) (hm : (∀ x, x ∈ l ↔ if x = n then s = true else x ∈ l) → P m)
    (hmk : ∀ L, (∀ x, x ∈ L ↔ if x = n then s = true else x ∈ l) → P (mk L)) :
    P (if s then (if l.contains n then m else mk (n :: l))
       else (if !l.contains n then m else mk (l.filter (· != n)))) := by
  cases s <;> cases hn : l.contains n
  · have : n ∉ l := fun h => by rw [List.contains_iff_mem.2 h] at hn; cases hn
    exact hm fun x => by by_cases e : x = n <;> simp [e, this]
  · exact hmk _ fun x => by by_cases e : x = n <;> simp [e]
  · exact hmk _ fun x => by by_cases e : x = n <;> simp [e]
  · exact hm fun x => by by_cases e : x = n <;> simp [e, List.contains_iff_mem.1 hn]

structure FtRel (pattern : String → Bool) (targets : List (List String)) (m : FtMgr) (u : String → Bool) : Prop where
  tg : m.targets = targets
  ov : ∀ n, n ∈ m.activeOverlay ↔ (m.isOverlayDevice n = true ∧ u n = true)
  ex : ∀ n, n ∈ m.activeExternal ↔ ((m.isOverlayDevice n = false ∧ pattern n = true) ∧ u n = true)
  clean : m.dirty = false → m.last = some (ftWant m)

section
variable {l L : List String} {P : String → Prop} {u : String → Bool} {n : String}

theorem active_other (h : ∀ x, x ∈ l ↔ P x ∧ u x = true) (s : Bool) (hn : ¬ P n) (x : String) :
    x ∈ l ↔ P x ∧ (if x = n then s else u x) = true := by
  rw [h]
  by_cases e : x = n
  · subst e; exact ⟨fun h => absurd h.1 hn, fun h => absurd h.1 hn⟩
  · rw [if_neg e]

theorem active_self (h : ∀ x, x ∈ l ↔ P x ∧ u x = true) (s : Bool) (hn : P n)
    (hL : ∀ x, x ∈ L ↔ if x = n then s = true else x ∈ l) (x : String) :
    x ∈ L ↔ P x ∧ (if x = n then s else u x) = true := by
  rw [hL]
  by_cases e : x = n
  · subst e; rw [if_pos rfl, if_pos rfl]; exact ⟨fun h => ⟨hn, h⟩, fun h => h.2⟩
  · rw [if_neg e, if_neg e, h]

end

theorem ft_step (pattern : String → Bool) (targets : List (List String)) (m : FtMgr) (u : String → Bool)
    (op : FtOp) (r : FtRel pattern targets m u) :
    FtRel pattern targets (m.step pattern op) (ftUpStep u op) := by
  obtain ⟨tg, ov, ex, clean⟩ := r
  cases op with
  | complete =>
    rw [FtMgr.step, ftUpStep, FtMgr.complete]
    cases hd : m.dirty
    · exact ⟨tg, ov, ex, clean⟩
    · exact ⟨tg, ov, ex, fun _ => rfl⟩
  | iface n s =>
    rw [FtMgr.step, ftUpStep]
    unfold FtMgr.onIface
    cases hb : m.isOverlayDevice n
    · have ov' := active_other ov s (by rw [hb]; exact Bool.false_ne_true)
      cases hp : pattern n
      · exact ⟨tg, ov', active_other ex s (fun h => by rw [hp] at h; cases h.2), clean⟩
      · exact active_update (P := fun m' => FtRel pattern targets m' fun x => if x = n then s else u x) m
          (fun L => { m with activeExternal := L, dirty := true }) m.activeExternal n s
          (fun hL => ⟨tg, ov', active_self ex s ⟨hb, hp⟩ hL, clean⟩)
          (fun L hL => ⟨tg, ov', active_self ex s ⟨hb, hp⟩ hL, nofun⟩)
    · have ex' := active_other ex s (fun h => by rw [hb] at h; cases h.1)
      exact active_update (P := fun m' => FtRel pattern targets m' fun x => if x = n then s else u x) m
        (fun L => { m with activeOverlay := L, dirty := true }) m.activeOverlay n s
        (fun hL => ⟨tg, active_self ov s hb hL, ex', clean⟩)
        (fun L hL => ⟨tg, active_self ov s hb hL, ex', nofun⟩)

theorem ft_run_rel (pattern : String → Bool) (targets : List (List String)) (ops : List FtOp) :
    FtRel pattern targets (ftRun pattern targets ops) (ftUp ops) :=
  List.foldl_rel ⟨rfl, fun _ => by simp [FtMgr.new], fun _ => by simp [FtMgr.new], nofun⟩
    fun op _ m u r => ft_step pattern targets m u op r

/-- **The flowtable device set is exact.**  After ANY history of interface state updates and
`CompleteDeferredWork` calls, whenever no work is pending each handler was last given exactly those of
ITS overlay devices that are currently up (sorted), and every handler the (sorted) interfaces that
match the external pattern, are not overlay devices of any handler, and are currently up. -/
theorem flowtable_devices_exact (pattern : String → Bool) (targets : List (List String)) (ops : List FtOp)
    (hd : (ftRun pattern targets ops).dirty = false) :
    ∃ ext, (ftRun pattern targets ops).last =
        some (targets.map (fun t => sortStrings (t.filter (fun d => ftUp ops d))), ext) ∧
      ∀ d, d ∈ ext ↔ ((targets.any (fun t => t.contains d)) = false ∧ pattern d = true ∧ ftUp ops d = true) := by
  have hr := ft_run_rel pattern targets ops
  obtain ⟨tg, ov, ex, clean⟩ := hr
  refine ⟨sortStrings (ftRun pattern targets ops).activeExternal, ?_, ?_⟩
  · rw [clean hd]
    unfold ftWant
    rw [tg]
    congr 2
    apply List.map_congr_left
    intro t ht
    congr 1
    apply List.filter_congr
    intro d hdt
    have hiso : (ftRun pattern targets ops).isOverlayDevice d = true := by
      unfold FtMgr.isOverlayDevice; rw [tg]
      simp only [List.any_eq_true, List.contains_iff_mem]
      exact ⟨t, ht, hdt⟩
    have := ov d
    rw [Bool.eq_iff_iff]
    simp only [List.contains_iff_mem, this, hiso, true_and]
  · intro d
    unfold sortStrings
    rw [List.mem_mergeSort, ex d, and_assoc]
    unfold FtMgr.isOverlayDevice
    rw [tg]

theorem ftRun_snoc (pattern : String → Bool) (targets : List (List String)) (ops : List FtOp) (op : FtOp) :
    ftRun pattern targets (ops ++ [op]) = (ftRun pattern targets ops).step pattern op := by
  unfold ftRun; rw [List.foldl_append]; rfl

theorem ft_complete_cleans (pattern : String → Bool) (targets : List (List String)) (ops : List FtOp) :
    (ftRun pattern targets (ops ++ [.complete])).dirty = false := by
  rw [ftRun_snoc, FtMgr.step, FtMgr.complete]
  cases h : (ftRun pattern targets ops).dirty <;> simp [h]

example :
    let m := ftRun (fun n => n == "eth0" || n == "eth1") [["vxlan.calico"], ["vxlan-v6.calico"]]
      [.iface "vxlan.calico" true, .iface "eth0" true, .iface "lo" true, .iface "eth1" true, .iface "eth1" false,
       .complete]
    m.dirty = false ∧ m.activeOverlay = ["vxlan.calico"] ∧ m.activeExternal = ["eth0"] ∧ m.last.isSome = true := by
  decide +kernel

end CalicoVerif.C41
