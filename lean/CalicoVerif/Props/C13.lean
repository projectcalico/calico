import CalicoVerif.Proofs.C13
import CalicoVerif.Gen.C13Thm
/-!
C13 — Go and kernel-program views of shared BPF data structures agree.

Two layers:
* theorems about the layout ALGORITHM (`Model/C13.lean`; `rowOk`, `accessInside`, `matchOk`, `findPath` of the
  table layer are in `Model/C13Table.lean`), for every record description: what it
  computes is a C layout (members of a struct in order and disjoint, naturally aligned unless packed,
  inside the structure, size a multiple of the alignment, union members at 0);
* the generated finite-table theorems (`Gen/C13Thm.lean` over the tables of `Gen/C13.lean`, regenerated
  from the headers and the Go code on every run; the quantifier "every shared structure and every
  field, IPv4 and IPv6" is a finite table, so `decide` over the whole table is a proof): `Gen.V4/V6.layout_eq_clang` (the algorithm
  reproduces clang's own record layouts of the real headers) and `Gen.V4/V6.go_matches_c` (every
  offset/size the Go code uses equals the C member's).  They are re-stated here as the property.
-/
namespace CalicoVerif.C13

/-- Members of a struct are laid out in declaration order without overlap (bit granularity, so
bit-fields included). -/
theorem struct_members_disjoint (r : Rec) (hs : r.isUnion = false) (hwf : r.wf) :
    r.layout.Pairwise (fun a b => a.off + a.size ≤ b.off) := by
  rw [(Rec.layout_struct hs).1]
  exact layoutStruct_pairwise r.packed r.fields 0 hwf

/-- Every non-bit-field member of a struct sits at a multiple of its alignment (1 if packed). -/
theorem struct_members_aligned (r : Rec) (hs : r.isUnion = false) :
    ∀ p ∈ r.fields.zip r.layout, p.1.bits = none → p.2.off % (8 * p.1.effAlign r.packed) = 0 := by
  rw [(Rec.layout_struct hs).1]
  exact layoutStruct_aligned r.packed r.fields 0

/-- Union members all start at offset 0. -/
theorem union_members_at_zero (r : Rec) (hu : r.isUnion = true) : ∀ s ∈ r.layout, s.off = 0 := by
  rw [(Rec.layout_union hu).1]
  exact fun s hs => (layoutUnion_zero r.fields s hs).1

/-- Every member lies inside the record: `offset + size ≤ sizeof`. -/
theorem members_within_size (r : Rec) (hwf : r.wf) : ∀ s ∈ r.layout, s.off + s.size ≤ 8 * r.size := by
  intro s hs
  have hd : s.off + s.size ≤ r.dataBits := by
    cases hu : r.isUnion with
    | true =>
      rw [(Rec.layout_union hu).1] at hs
      rw [(Rec.layout_union hu).2]
      have := layoutUnion_zero r.fields s hs; omega
    | false =>
      rw [(Rec.layout_struct hu).1] at hs
      rw [(Rec.layout_struct hu).2]
      exact ((layoutStruct_bounds r.packed r.fields 0 hwf).2 s hs).2
  have h1 : (r.dataBits + 7) / 8 ≤ r.size := roundUp_ge _ _ r.align_pos
  have h2 := Nat.div_add_mod (r.dataBits + 7) 8
  have h3 := Nat.mod_lt (r.dataBits + 7) (by decide : 0 < 8)
  omega

/-- `sizeof` is a multiple of `alignof`. -/
theorem size_multiple_of_align (r : Rec) : r.size % r.align = 0 := roundUp_mod _ _

/-- `alignof` is at least every member's alignment. -/
theorem align_ge_member (r : Rec) (f : Field) (hf : f ∈ r.fields) : f.effAlign r.packed ≤ r.align :=
  le_foldl_of_mem (μ := id) (f := fun a x => max a (x.effAlign r.packed)) (fun _ _ => Nat.le_max_left _ _) hf
    (fun _ => Nat.le_max_right _ _) 1

/-- The layout of a struct lists exactly the declared members, in order. -/
theorem layout_names (r : Rec) (hs : r.isUnion = false) : r.layout.map (·.name) = r.fields.map (·.name) := by
  rw [(Rec.layout_struct hs).1]
  exact layoutStruct_names _ _ _

/-- IPv4 build, FULL strength for the rows it lists (`Gen.V4.goRows`: every Go-side fact for which the
Go code has an offset AND a size — policy-program loads/stores that cover a whole member, the
`state.State` mirror fields, conntrack / NAT / IP-set / route / ifstate / ARP / failsafe /
cleanup-queue encoders and accessors, the conntrack-leg bit-fields, total sizes): same offset and
same size as the C member. -/
theorem go_matches_c_v4 : Gen.V4.goRows.all (rowOk Gen.V4.structs) = true := Gen.V4.go_matches_c
/-- IPv6 build. -/
theorem go_matches_c_v6 : Gen.V6.goRows.all (rowOk Gen.V6.structs) = true := Gen.V6.go_matches_c

/-- The remaining rows (`goWeakRows`) hold only in a WEAKER sense than "same offset and same size",
which is all that is meaningful or observable for them — hence `_partial`:
`within` — the Go access starts at the member but is shorter (low byte of the u32 `rules_hit`; a
uint8 protocol / prefix length kept in a `__u32`; 15 of the 16 `name` bytes; an ifindex in the first
4 bytes of an IPv6 `next_hop`); `inside` — a chunk of a wider member (64-bit halves of an IPv6
address, 32-bit halves of the packed 64-bit `set_id`, one element of `rule_ids[]`); `offset` — a
`stateOff*` constant that is defined but never used in an access; `atmost` — one 512-byte map value
serves the 464-byte IPv4 and the 512-byte IPv6 `cali_tc_state`; `mirror-size` (see below). -/
theorem go_weak_rows_v4_partial : Gen.V4.goWeakRows.all (rowOk Gen.V4.structs) = true := Gen.V4.go_weak_rows_ok
/-- IPv6 build. -/
theorem go_weak_rows_v6_partial : Gen.V6.goWeakRows.all (rowOk Gen.V6.structs) = true := Gen.V6.go_weak_rows_ok

/-- The policy-program builder's view of `struct cali_tc_state`, taken from REAL programs (the real
`polprog.Builder` run on single-match rules: Src/Dst/NotSrc/NotDst CIDRs of every prefix-length class
— IPv6: /0 … /128 around every 32-bit boundary —, IP sets, ports, protocol; workload tier and host
pre-DNAT tier; both IP versions; instructions decoded, every access relative to the state pointer
collected): every access lies inside the member the builder annotates it with … -/
theorem builder_accesses_inside_v4 : Gen.V4.builderAccesses.all (accessInside Gen.V4.structs) = true :=
  Gen.V4.builder_accesses_inside
/-- IPv6 build. -/
theorem builder_accesses_inside_v6 : Gen.V6.builderAccesses.all (accessInside Gen.V6.structs) = true :=
  Gen.V6.builder_accesses_inside

/-- … and every match reads exactly the bytes of the member its leg denotes: word `k` of an address at
`field + 4k` for exactly the words the prefix covers, the whole address + port + protocol for an IP
set, the member itself for a port / protocol match (`expectedMatch`). -/
theorem builder_matches_ok_v4 : Gen.V4.builderMatches.all (matchOk false Gen.V4.structs) = true :=
  Gen.V4.builder_matches_ok
/-- IPv6 build. -/
theorem builder_matches_ok_v6 : Gen.V6.builderMatches.all (matchOk true Gen.V6.structs) = true :=
  Gen.V6.builder_matches_ok

/-- The layout algorithm agrees with clang 14 (`-target bpf -fdump-record-layouts`) on every record
of the real headers, both builds: member offsets (bits), sizeof, alignof. -/
theorem layout_eq_clang_v4 : Gen.V4.clangLayouts.all (fun e =>
    e.1.layout.map (·.off) == e.2.1 && e.1.size == e.2.2.1 && e.1.align == e.2.2.2) = true :=
  Gen.V4.layout_eq_clang
/-- IPv6 build. -/
theorem layout_eq_clang_v6 : Gen.V6.clangLayouts.all (fun e =>
    e.1.layout.map (·.off) == e.2.1 && e.1.size == e.2.2.1 && e.1.align == e.2.2.2) = true :=
  Gen.V6.layout_eq_clang

/-- FULL-STRENGTH statement for the one Go mirror struct: `state.State` has the size of the C
structure it mirrors. -/
def StateMirrorSameSize : Prop := Gen.V4.stateMirrorSize = Gen.V4.cali_tc_state.size

/-- It does not: 496 bytes against 464 (IPv4 build; the IPv6 build has 512). The mirror is only used
by the BPF unit tests; the fields Go uses are covered by `go_matches_c_v4`, and the map value
(`go_matches_c_v6`, row `cali_tc_state` `exact` 512 / `go_weak_rows_v4_partial`, row `atmost`) holds both. -/
theorem state_mirror_size_witness :
    ¬ StateMirrorSameSize ∧ Gen.V4.stateMirrorSize ≠ Gen.V6.cali_tc_state.size := by
  unfold StateMirrorSameSize; decide +kernel

/-- What holds instead (`_partial`): the mirror is at least as large as the IPv4 structure and not
larger than the map value; the missing part is equality. -/
theorem state_mirror_size_partial :
    Gen.V4.cali_tc_state.size ≤ Gen.V4.stateMirrorSize ∧
    Gen.V4.stateMirrorSize ≤ Gen.V6.cali_tc_state.size := by decide +kernel

example : Gen.V4.calico_ct_value.wf := by
  intro f hf
  simp only [Gen.V4.calico_ct_value, List.mem_cons, List.mem_nil_iff, or_false] at hf
  rcases hf with rfl | rfl | rfl | rfl | rfl | rfl <;> (unfold Field.wf; decide)
example : Gen.V4.calico_ct_value.size = 88 ∧ Gen.V6.calico_ct_value.size = 128 := by decide +kernel
example : Gen.V6.cali_tc_state.size = 512 ∧ Gen.V4.cali_tc_state.size = 464 := by decide +kernel
example : findPath Gen.V4.structs "cali_tc_state" "pol_rc" = some (8 * 92, 32) := by decide +kernel
example : findPath Gen.V6.structs "calico_ct_leg" "workload" = some (134, 1) := by decide +kernel
example : Gen.V6.builderMatches.length > 40 ∧ Gen.V6.builderAccesses.length > 20 := by decide +kernel
example : expectedMatch true Gen.V6.structs ⟨"cidr", "ip_src", 128, []⟩ = some [(8, 32), (12, 32), (16, 32), (20, 32)] := by
  decide +kernel
/-- a program reading the words at +0,+4,+12,+24 of `ip_src` is rejected -/
example : matchOk true Gen.V6.structs ⟨"cidr", "ip_src", 128, [(8, 32), (12, 32), (20, 32), (32, 32)]⟩ = false ∧
    accessInside Gen.V6.structs ("ip_src", 32, 32) = false := by decide +kernel
example : Gen.V4.goRows.length > 100 ∧ Gen.V6.goRows.length > 60 ∧ Gen.V4.goWeakRows.length < 30 := by decide +kernel
/-- a packed record really is laid out without padding: `saddr` of `calico_nat_key` at byte 11. -/
example : findPath Gen.V4.structs "calico_nat_key" "saddr" = some (88, 32) := by decide +kernel

end CalicoVerif.C13
