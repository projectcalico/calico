import CalicoVerif.Proofs.C18CM
import CalicoVerif.Props.C18Len
/-!
C18 (continued) — cachingmap's Apply* glue over the proved tracker.

`CInv` = the tracker invariants + "once the cache is loaded, the tracker's dataplane view IS the
backing map" (nothing else writes the backing map).  It holds after every history of desired-state
changes, loads (ok or failing) and Apply* calls with arbitrary failing writes (`cm_invariant`), so
after a FAILED apply the tracker still reports the exact difference to the real map
(`pending_*_exact` apply to it); after a SUCCESSFUL `ApplyAllChanges` the real map equals the desired
map and nothing is pending (`applyAll_success`).
-/
namespace CalicoVerif.C18
variable {K V : Type} [DecidableEq K]

/-- Exact description of `ApplyUpdatesOnly` on a loaded cache: at every key the (desired, dataplane)
pair moves as `sUIter` with "update unless the write fails", the backing map follows the tracker,
and an error is returned iff some pending update's write failed. -/
theorem applyUpdates_loaded (eqv : V → V → Bool) (hs : Sym eqv) (hr : Refl eqv) (c : CM K V) (f : Bool)
    (F : K → Bool) (h : CInv eqv c) (hl : c.loaded = true) :
    let r := c.applyUpdates eqv f F
    CInv eqv r.1 ∧ r.1.loaded = true ∧
    (∀ k, (desiredGet r.1.t k, dataplaneGet r.1.t k) = sUIter eqv (!F k) (desiredGet c.t k, dataplaneGet c.t k)) ∧
    (r.2 = true ↔ ∃ k, (get c.t.du k).isSome = true ∧ F k = true) := by
  unfold CM.applyUpdates
  rw [maybeLoad_loaded eqv c f hl]
  simp only
  have ht : (if c.batched = true then uBatched c.t batchSize F 0 c.t.du else uIter c.t c.t.du (batchAct F)) =
      step eqv c.t (.uIter (batchAct F)) := by
    split
    · exact uBatched_eq_uIter _ _ _ _ _
    · rfl
  rw [ht]
  have habs : ∀ k, (desiredGet (step eqv c.t (.uIter (batchAct F))) k, dataplaneGet (step eqv c.t (.uIter (batchAct F))) k) =
      sUIter eqv (!F k) (desiredGet c.t k, dataplaneGet c.t k) := by
    intro k
    rw [abs_step eqv hs hr c.t (.uIter (batchAct F)) h.inv h.wf trivial k]
    simp only [specAt, batchAct_update]
  refine ⟨cinv_op eqv hs hr c (.uIter (batchAct F)) trivial _ c.loaded (nodup_realAfterUpdates _ _ _ h.nr) h
    fun hl k => ?_, hl, habs, ?_⟩
  · -- the backing map received exactly the pending updates whose write succeeded
    rw [get_realAfterUpdates _ _ _ h.wf.du k, pending_updates_exact eqv hr c.t h.inv k, ← h.sync hl k]
    simp only [specAt, batchAct_update]
    unfold sUIter
    cases hF : F k <;> cases hp : pendU eqv (desiredGet c.t k, dataplaneGet c.t k) <;> simp
    have := pendU_isSome eqv _ _ hp
    cases hd : desiredGet c.t k with
    | none => rw [hd] at this; cases this
    | some v => rfl
  · simp only [List.any_eq_true]
    constructor
    · rintro ⟨kv, hm, hF⟩
      exact ⟨kv.1, by rw [(get_eq_some_iff c.t.du h.wf.du kv.1 kv.2).2 hm]; rfl, hF⟩
    · rintro ⟨k, hsome, hF⟩
      cases hg : get c.t.du k with
      | none => rw [hg] at hsome; cases hsome
      | some v => exact ⟨(k, v), (get_eq_some_iff c.t.du h.wf.du k v).1 hg, hF⟩

theorem applyDeletions_loaded (eqv : V → V → Bool) (hs : Sym eqv) (hr : Refl eqv) (c : CM K V) (f : Bool)
    (F : K → Bool) (h : CInv eqv c) (hl : c.loaded = true) :
    let r := c.applyDeletions eqv f F
    CInv eqv r.1 ∧ r.1.loaded = true ∧
    (∀ k, (desiredGet r.1.t k, dataplaneGet r.1.t k) = sXIter (!F k) (desiredGet c.t k, dataplaneGet c.t k)) ∧
    (r.2 = true ↔ ∃ k, (get c.t.dn k).isSome = true ∧ F k = true) := by
  unfold CM.applyDeletions
  rw [maybeLoad_loaded eqv c f hl]
  simp only
  have ht : (if c.batched = true then xBatched c.t batchSize F 0 (keys c.t.dn) else xIter c.t (keys c.t.dn) (batchAct F)) =
      step eqv c.t (.xIter (batchAct F)) := by
    split
    · exact xBatched_eq_xIter _ _ _ _ _
    · rfl
  rw [ht]
  have habs : ∀ k, (desiredGet (step eqv c.t (.xIter (batchAct F))) k, dataplaneGet (step eqv c.t (.xIter (batchAct F))) k) =
      sXIter (!F k) (desiredGet c.t k, dataplaneGet c.t k) := by
    intro k
    rw [abs_step eqv hs hr c.t (.xIter (batchAct F)) h.inv h.wf trivial k]
    simp only [specAt, batchAct_update]
  refine ⟨cinv_op eqv hs hr c (.xIter (batchAct F)) trivial _ c.loaded (nodup_realAfterDeletes _ _ _ h.nr) h
    fun hl k => ?_, hl, habs, ?_⟩
  · -- the backing map lost exactly the pending deletions whose write succeeded
    rw [get_realAfterDeletes, ← h.sync hl k]
    simp only [specAt, batchAct_update, mem_keys_iff, pending_deletions_exact eqv c.t h.inv k]
    unfold sXIter
    cases hF : F k <;> cases hp : pendX (desiredGet c.t k, dataplaneGet c.t k) <;> simp
    exact fun e => e.symm
  · simp only [List.any_eq_true, mem_keys_iff]

theorem cinv_applyUpdates (eqv : V → V → Bool) (hs : Sym eqv) (hr : Refl eqv) (c : CM K V) (f : Bool)
    (F : K → Bool) (h : CInv eqv c) : CInv eqv (c.applyUpdates eqv f F).1 := by
  obtain ⟨hc, hl⟩ := cinv_maybeLoad eqv hs hr c f h
  rw [applyUpdates_eq]
  split
  · exact hc
  · exact (applyUpdates_loaded eqv hs hr _ f F hc (hl (Bool.eq_false_iff.2 ‹_›))).1

theorem cinv_applyDeletions (eqv : V → V → Bool) (hs : Sym eqv) (hr : Refl eqv) (c : CM K V) (f : Bool)
    (F : K → Bool) (h : CInv eqv c) : CInv eqv (c.applyDeletions eqv f F).1 := by
  obtain ⟨hc, hl⟩ := cinv_maybeLoad eqv hs hr c f h
  rw [applyDeletions_eq]
  split
  · exact hc
  · exact (applyDeletions_loaded eqv hs hr _ f F hc (hl (Bool.eq_false_iff.2 ‹_›))).1

theorem cinv_step (eqv : V → V → Bool) (hs : Sym eqv) (hr : Refl eqv) (c : CM K V) (op : CMOp K V)
    (h : CInv eqv c) : CInv eqv (c.step eqv op).1 := by
  cases op with
  | dSet k v =>
    exact cinv_trackerOp eqv hs hr c (.dSet k v) trivial (fun k' x => by simp only [specAt]; split <;> rfl) h
  | dDel k =>
    exact cinv_trackerOp eqv hs hr c (.dDel k) trivial (fun k' x => by simp only [specAt]; split <;> rfl) h
  | dDelAll => exact cinv_trackerOp eqv hs hr c .dDelAll trivial (fun k' x => rfl) h
  | load f => exact (cinv_load eqv hs hr c f h).1
  | applyUpdates lf F => exact cinv_applyUpdates eqv hs hr c lf F h
  | applyDeletions lf F => exact cinv_applyDeletions eqv hs hr c lf F h
  | applyAll lf Fd Fu =>
    exact cinv_applyUpdates eqv hs hr _ lf Fu (cinv_applyDeletions eqv hs hr c lf Fd h)

/-- **After ANY history** of desired-state changes, cache loads (successful or failing) and
Apply* calls with arbitrary failing map writes, the tracker invariants hold and (once loaded) the
tracker's dataplane view is exactly the backing map — so `pending_updates_exact` /
`pending_deletions_exact` say that the tracker still reports the exact difference between the desired
state and the REAL map, whatever failed. -/
theorem cm_invariant (eqv : V → V → Bool) (hs : Sym eqv) (hr : Refl eqv) (batched : Bool) (ops : List (CMOp K V)) :
    CInv eqv (cmRun eqv batched ops) :=
  List.foldlRecOn (motive := CInv eqv) ops _
    ⟨fun k => by simp [proj, CM.new, Tracker.new, P.Inv], ⟨nodupKeys_nil, nodupKeys_nil, nodupKeys_nil⟩,
      nodupKeys_nil, fun hl => by simp [CM.new] at hl⟩ fun c h op _ => cinv_step eqv hs hr c op h

/-- The exact difference after a (possibly failed) apply, spelled out against the real map. -/
theorem cm_exact_difference (eqv : V → V → Bool) (hr : Refl eqv) (c : CM K V) (h : CInv eqv c)
    (hl : c.loaded = true) (k : K) :
    get c.t.du k = (if pendU eqv (desiredGet c.t k, get c.real k) then desiredGet c.t k else none) ∧
    get c.t.dn k = (if pendX (desiredGet c.t k, get c.real k) then get c.real k else none) := by
  rw [← h.sync hl k]
  exact ⟨pending_updates_exact eqv hr c.t h.inv k, pending_deletions_exact eqv c.t h.inv k⟩

theorem two_phase_clean (eqv : V → V → Bool) (hr : Refl eqv) (x : S1 V) :
    let y := sUIter eqv true (sXIter true x)
    pendU eqv y = false ∧ pendX y = false ∧ y.1 = x.1 ∧ y.2 = x.1 ∨
    (pendU eqv x = false ∧ pendX x = false ∧ sUIter eqv true (sXIter true x) = x) := by
  obtain ⟨d, q⟩ := x
  have := hr.apply
  unfold sUIter sXIter pendU pendX
  cases d <;> cases q <;> simp_all
  rename_i v w
  by_cases h : eqv v w = true <;> simp_all

/-- **A successful `ApplyAllChanges`** (no error returned: the cache could be loaded and no write of a
pending deletion or update failed) leaves the cache loaded, nothing pending, `InSync()` true, and the REAL
map equal to the desired map up to `valuesEqual` (equal, when `valuesEqual` is equality:
`no_pending_iff_equal`). -/
theorem applyAll_success (eqv : V → V → Bool) (hs : Sym eqv) (hr : Refl eqv) (c : CM K V) (lf : Bool)
    (Fd Fu : K → Bool) (h : CInv eqv c) (hok : (c.applyAll eqv lf Fd Fu).2 = false) :
    let c' := (c.applyAll eqv lf Fd Fu).1
    c'.loaded = true ∧ c'.t.inSync = true ∧
    ∀ k, pendU eqv (desiredGet c'.t k, get c'.real k) = false ∧ pendX (desiredGet c'.t k, get c'.real k) = false := by
  obtain ⟨hc0, hl0⟩ := cinv_maybeLoad eqv hs hr c lf h
  unfold CM.applyAll at hok ⊢
  rw [applyDeletions_eq] at hok ⊢
  -- the cache is loaded: otherwise the first phase already reported the error
  have hm : (c.maybeLoad eqv lf).2 = false := by
    cases hm : (c.maybeLoad eqv lf).2
    · rfl
    · rw [hm] at hok; simp at hok
  rw [hm] at hok ⊢
  simp only [Bool.false_eq_true, if_false] at hok ⊢
  generalize (c.maybeLoad eqv lf).1 = c0 at hc0 hl0 hok ⊢
  obtain ⟨hc1, hl1, habs1, herr1⟩ := applyDeletions_loaded eqv hs hr c0 lf Fd hc0 (hl0 hm)
  generalize c0.applyDeletions eqv lf Fd = r1 at hc1 hl1 habs1 herr1 hok ⊢
  obtain ⟨hc2, hl2, habs2, herr2⟩ := applyUpdates_loaded eqv hs hr r1.1 lf Fu hc1 hl1
  generalize r1.1.applyUpdates eqv lf Fu = r2 at hc2 hl2 habs2 herr2 hok ⊢
  obtain ⟨hok1, hok2⟩ : r1.2 = false ∧ r2.2 = false := by simpa using hok
  have key : ∀ k, pendU eqv (desiredGet r2.1.t k, dataplaneGet r2.1.t k) = false ∧
      pendX (desiredGet r2.1.t k, dataplaneGet r2.1.t k) = false := by
    intro k
    -- whatever is pending at `k` was written: the two passes act as "apply everything"
    have hFd : pendX (desiredGet c0.t k, dataplaneGet c0.t k) = true → (!Fd k) = true := by
      intro hp
      cases hF : Fd k with
      | false => rfl
      | true =>
        have := herr1.2 ⟨k, (dn_isSome_iff eqv c0.t hc0.inv k).2 hp, hF⟩
        rw [hok1] at this; cases this
    have hx := sXIter_of_imp _ _ hFd
    have hFu : pendU eqv (sXIter true (desiredGet c0.t k, dataplaneGet c0.t k)) = true → (!Fu k) = true := by
      intro hp
      cases hF : Fu k with
      | false => rfl
      | true =>
        have := herr2.2 ⟨k, (du_isSome_iff eqv hr r1.1.t hc1.inv k).2 (by rw [habs1 k, hx]; exact hp), hF⟩
        rw [hok2] at this; cases this
    rw [habs2 k, habs1 k, hx, sUIter_of_imp eqv _ _ hFu]
    rcases two_phase_clean eqv hr (desiredGet c0.t k, dataplaneGet c0.t k) with ⟨h1, h2, -, -⟩ | ⟨h1, h2, h3⟩
    · exact ⟨h1, h2⟩
    · rw [h3]; exact ⟨h1, h2⟩
  refine ⟨hl2, (inSync_iff eqv hr _ hc2.inv).2 key, fun k => ?_⟩
  rw [← hc2.sync hl2 k]; exact key k

end CalicoVerif.C18
