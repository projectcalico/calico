import CalicoVerif.Proofs.C14
/-!
C14 — BPF conntrack cleanup never removes a live connection.

System: one `Scan` of the user-space scanner over the conntrack map `ct` at (cached) kernel time
`now` builds the clean-up queue; then ARBITRARY traffic happens (`Traffic`: entries may be created,
changed or evicted in any way, but everything created or changed carries a `last_seen` later than
anything the scan could have read); then the kernel cleaner walks the queue in ANY order, each
`process_ccq_entry` being one atomic compare-then-delete step.

Packets interleaved *inside* the scan's map iteration are covered by `interleaved_scan_safe_partial` and
`combined_interleaved_safe_partial` (`scanI`).  Not covered: the scanner's mid-scan cleaner runs, and the
few instructions between the lookup and the delete inside `process_ccq_entry` (not closable by a BPF
program; trusted base).
-/
namespace CalicoVerif.C14

/-- anything can happen to the map between the scan and the clean-up, except that an entry that is
new or was touched carries a time stamp later than `tReal` (the real time the scan finished reading). -/
def Traffic (tReal : Nat) (ct ct' : AMap Key Entry) : Prop :=
  ∀ k e', ct'.get k = some e' → ct.get k = some e' ∨ tReal < e'.lastSeen

/-- the justification the property asks for when the entry `e` under `x` is removed:
`ct` = map at judgement, `ct'` = map when the cleaner starts. -/
def Removal (gap : Bool) (t : Timeouts) (now : Nat) (ct ct' : AMap Key Entry) (x : Key) (e : Entry) : Prop :=
  (ct.get x = some e ∧                                   -- untouched since the judgement, and …
    ( (e.typ ≠ .fwd ∧ expired t now x.proto e = true)    -- … itself (normal / reverse entry) idle past its timeout when judged
    ∨ (∃ kf f, ct.get kf = some f ∧ f.typ = .fwd ∧ f.revKey = x ∧ expired t now kf.proto e = true)
                                                         -- … a reverse entry judged through its forward entry
    ∨ (e.typ = .fwd ∧ ct.get e.revKey = none)            -- … a forward entry whose reverse entry is gone
    ∨ (gap = true ∧ e.typ = .fwd ∧ ∃ r, ct.get e.revKey = some r ∧ expired t now x.proto r = true ∧
          r.lastSeen = e.lastSeen)))                     -- THE GAP: nothing is known about the reverse entry now
  ∨ (∃ r, ct.get e.revKey = some r ∧ expired t now x.proto r = true ∧ ct'.get e.revKey = some r)
                                                         -- forward entry of a pair whose reverse (tracking) entry
                                                         -- was idle past its timeout and is still untouched

/-- every queue item of a scan is backed by a judgement on the scanned map. -/
theorem scan_queue_sound (t : Timeouts) (now : Nat) (ct : AMap Key Entry) (items : List (Key × Entry))
    (ok : ItemsOK ct items) : ∀ kq ∈ scan t now ct items, QSound t now ct kq := by
  rw [scan_eq_scanI]
  exact fun kq h => (scanI_queue_backed (M := (· = ct)) _ ok.visits
    (fun v hv => by obtain ⟨kv, _, rfl⟩ := List.mem_map.1 hv; rfl) kq h).atomic

/-- **the kernel cleaner's compare-then-delete** (one `process_ccq_entry`). -/
theorem cleaner_compare_then_delete (ct : AMap Key Entry) (k : Key) (q : QVal) (x : Key) (e : Entry)
    (hx : ct.get x = some e) (hd : (cleanEntry ct k q).get x = none) : StepReason ct k q x e :=
  cleanEntry_deleted ct k q x e hx hd

/-- the cleaner never creates or alters an entry. -/
theorem cleaner_only_deletes (queue : AMap Key QVal) (ct : AMap Key Entry) : Sub (clean ct queue) ct :=
  clean_sub queue ct

theorem traffic_of_sub {tReal : Nat} {ct a b : AMap Key Entry} (h : Traffic tReal ct b) (hs : Sub a b) :
    Traffic tReal ct a := fun k e' he => h k e' (hs k e' he)

theorem traffic_trans {tReal : Nat} {ct a b : AMap Key Entry} (h1 : Traffic tReal ct a) (h2 : Traffic tReal a b) :
    Traffic tReal ct b := by
  intro k e' he
  rcases h2 k e' he with h | h
  · exact h1 k e' h
  · exact Or.inr h

theorem traffic_untouched {tReal : Nat} {ct cur : AMap Key Entry}
    (hold : ∀ k e, ct.get k = some e → e.lastSeen ≤ tReal) (htr : Traffic tReal ct cur) (y : Key) (ey e0 : Entry)
    (h1 : cur.get y = some ey) (h2 : ct.get y = some e0) (h3 : ey.lastSeen = e0.lastSeen) : ct.get y = some ey := by
  rcases htr y ey h1 with h | h
  · exact h
  · have := hold y e0 h2; omega

/-- **one atomic cleaner step is safe** on any map `cur` that evolved from the scanned map `ct` by
traffic and earlier deletions. -/
theorem clean_step_safe_partial (t : Timeouts) (now tReal : Nat) (ct cur : AMap Key Entry) (kq : Key × QVal)
    (hs : QSound t now ct kq)
    (hold : ∀ k e, ct.get k = some e → e.lastSeen ≤ tReal)
    (hproto : ∀ k e, ct.get k = some e → k.proto ≠ 0)
    (htr : Traffic tReal ct cur)
    (x : Key) (e : Entry) (hg : cur.get x = some e) (hd : (cleanEntry cur kq.1 kq.2).get x = none) :
    Removal true t now ct cur x e := by
  have hr := cleanEntry_deleted cur kq.1 kq.2 x e hg hd
  unfold QSound at hs
  have untouched := traffic_untouched hold htr
  rcases hr with ⟨hp0, hxk, hl⟩ | ⟨hp, r1, hr1, hrl, hwhich⟩
  · -- plain item: own time stamp compared
    subst hxk
    by_cases hdk : kq.2.other = dummyKey
    · rw [if_pos hdk] at hs
      obtain ⟨e0, he0, hl0, hj⟩ := hs
      have hu := untouched _ e e0 hg he0 (by omega)
      have hee : e0 = e := by rw [he0] at hu; cases hu; rfl
      subst hee
      refine Or.inl ⟨he0, ?_⟩
      unfold Judged at hj
      cases hty : e0.typ <;> simp only [hty] at hj
      · exact Or.inl ⟨by simp, hj⟩
      · rcases hj with hj | ⟨r, h1, h2, h3⟩
        · exact Or.inr (Or.inr (Or.inl ⟨rfl, hj⟩))
        · exact Or.inr (Or.inr (Or.inr ⟨rfl, rfl, r, h1, h2, h3⟩))
      · exact Or.inl ⟨by simp, hj⟩
    · rw [if_neg hdk] at hs
      obtain ⟨f, r, _, _, _, hr, _, _⟩ := hs
      exact absurd hp0 (hproto _ _ hr)
  · -- pair item: the reverse entry's time stamp compared
    have hdk := other_ne_dummy hp
    rw [if_neg hdk] at hs
    obtain ⟨f, r, hf, hft, hfr, hr, hrl0, hre⟩ := hs
    have hu := untouched _ r1 r hr1 hr (by omega)
    have hrr : r1 = r := by rw [hr] at hu; cases hu; rfl
    subst hrr
    rcases hwhich with hxo | ⟨hxk, hrev⟩
    · -- the reverse entry itself
      subst hxo
      rw [hg] at hr1; cases hr1
      exact Or.inl ⟨hr, Or.inr (Or.inl ⟨kq.1, f, hf, hft, hfr, hre⟩)⟩
    · -- the forward entry of the pair
      subst hxk
      refine Or.inr ⟨r1, ?_, hre, ?_⟩
      · rw [hrev]; exact hr
      · rw [hrev]; exact hr1

/-- the maps the cleaner can see: packets may arrive before the pass and between any two of its
(atomic) steps; the steps process queue items in any order, any number of times. -/
inductive CleanRun (tReal : Nat) (ct : AMap Key Entry) (queue : AMap Key QVal) : AMap Key Entry → Prop
  | start : CleanRun tReal ct queue ct
  | traffic {cur cur' : AMap Key Entry} : CleanRun tReal ct queue cur → Traffic tReal cur cur' → CleanRun tReal ct queue cur'
  | step {cur : AMap Key Entry} (kq : Key × QVal) : CleanRun tReal ct queue cur → kq ∈ queue →
      CleanRun tReal ct queue (cleanEntry cur kq.1 kq.2)

theorem CleanRun.traffic_from {tReal : Nat} {ct : AMap Key Entry} {queue : AMap Key QVal} {cur : AMap Key Entry}
    (r : CleanRun tReal ct queue cur) : Traffic tReal ct cur := by
  induction r with
  | start => exact fun _ _ h => Or.inl h
  | traffic _ h ih => exact traffic_trans ih h
  | step kq _ _ ih => exact traffic_of_sub ih (cleanEntry_sub _ _ _)

/-- **Safety under every interleaving of packets with the cleaner's steps** (partial: gap disjunct). -/
theorem interleaved_cleanup_safe_partial (t : Timeouts) (now tReal : Nat) (ct : AMap Key Entry) (queue : AMap Key QVal)
    (hq : ∀ kq ∈ queue, QSound t now ct kq)
    (hold : ∀ k e, ct.get k = some e → e.lastSeen ≤ tReal)
    (hproto : ∀ k e, ct.get k = some e → k.proto ≠ 0)
    {cur : AMap Key Entry} (r : CleanRun tReal ct queue cur) (kq : Key × QVal) (hm : kq ∈ queue)
    (x : Key) (e : Entry) (hg : cur.get x = some e) (hd : (cleanEntry cur kq.1 kq.2).get x = none) :
    Removal true t now ct cur x e :=
  clean_step_safe_partial t now tReal ct cur kq (hq kq hm) hold hproto r.traffic_from x e hg hd

/-- **Safety (partial: with the gap disjunct)**.  For every map, every timeout setting, every traffic
between judgement and clean-up and every queue order: an entry the cleaner removes was judged idle
past its timeout (itself, or its NAT pair through the reverse entry) and has not been touched since —
EXCEPT that a forward entry whose `last_seen` equals its reverse entry's is removed on its own
time stamp alone (`gap`), whatever happened to the reverse entry in between. -/
theorem cleanup_safe_partial (t : Timeouts) (now tReal : Nat) (ct ct' : AMap Key Entry) (queue : AMap Key QVal)
    (hq : ∀ kq ∈ queue, QSound t now ct kq)
    (hold : ∀ k e, ct.get k = some e → e.lastSeen ≤ tReal)
    (hproto : ∀ k e, ct.get k = some e → k.proto ≠ 0)
    (htr : Traffic tReal ct ct')
    (x : Key) (e : Entry) (hx : ct'.get x = some e) (hd : (clean ct' queue).get x = none) :
    Removal true t now ct ct' x e := by
  obtain ⟨kq, hm, ct1, hsub, hg, hr⟩ := clean_deleted_step queue ct' x e hx hd
  have h := clean_step_safe_partial t now tReal ct ct1 kq (hq kq hm) hold hproto (traffic_of_sub htr hsub) x e hg hr
  -- `Removal` mentions the current map only positively (an entry is still there): lift it from ct1 to ct'
  rcases h with h | ⟨r, h1, h2, h3⟩
  · exact Or.inl h
  · exact Or.inr ⟨r, h1, h2, hsub _ _ h3⟩

/-- **The one situation excluded by the known finding** (`deleted-fwd-of-live-pair`): the removed entry
is a forward NAT entry, untouched since the scan, whose reverse entry existed at the scan, was idle
past its timeout, and carried EXACTLY the same `last_seen` as the forward entry.  Only then does the
scanner queue the forward entry on its own time stamp, and only then is nothing known about the
reverse entry when the cleaner acts. -/
def GapCase (t : Timeouts) (now : Nat) (ct : AMap Key Entry) (x : Key) (e : Entry) : Prop :=
  ct.get x = some e ∧ e.typ = .fwd ∧
    ∃ r, ct.get e.revKey = some r ∧ expired t now x.proto r = true ∧ r.lastSeen = e.lastSeen

theorem removal_gap_split (t : Timeouts) (now : Nat) (ct ct' : AMap Key Entry) (x : Key) (e : Entry) :
    Removal true t now ct ct' x e ↔ (Removal false t now ct ct' x e ∨ GapCase t now ct x e) := by
  unfold Removal GapCase
  constructor
  · rintro (⟨h0, h | h | h | ⟨_, h⟩⟩ | h)
    · exact Or.inl (Or.inl ⟨h0, Or.inl h⟩)
    · exact Or.inl (Or.inl ⟨h0, Or.inr (Or.inl h)⟩)
    · exact Or.inl (Or.inl ⟨h0, Or.inr (Or.inr (Or.inl h))⟩)
    · exact Or.inr ⟨h0, h⟩
    · exact Or.inl (Or.inr h)
  · rintro ((⟨h0, h | h | h | ⟨hf, _⟩⟩ | h) | ⟨h0, h⟩)
    · exact Or.inl ⟨h0, Or.inl h⟩
    · exact Or.inl ⟨h0, Or.inr (Or.inl h)⟩
    · exact Or.inl ⟨h0, Or.inr (Or.inr (Or.inl h))⟩
    · exact absurd hf (by decide)
    · exact Or.inr h
    · exact Or.inl ⟨h0, Or.inr (Or.inr (Or.inr ⟨rfl, h⟩))⟩

/-- **Safety outside the known finding**: every removal is fully justified (`Removal false`: judged idle
past its timeout — itself or through its reverse entry — and not touched since, the reverse entry of a
forward entry included) unless it is exactly the `GapCase`.  Anything else the cleaner might remove is
a violation of this theorem, i.e. is still reported by the check. -/
theorem cleanup_safe_except_gap (t : Timeouts) (now tReal : Nat) (ct : AMap Key Entry) (queue : AMap Key QVal)
    (hq : ∀ kq ∈ queue, QSound t now ct kq)
    (hold : ∀ k e, ct.get k = some e → e.lastSeen ≤ tReal)
    (hproto : ∀ k e, ct.get k = some e → k.proto ≠ 0)
    {cur : AMap Key Entry} (r : CleanRun tReal ct queue cur) (kq : Key × QVal) (hm : kq ∈ queue)
    (x : Key) (e : Entry) (hg : cur.get x = some e) (hd : (cleanEntry cur kq.1 kq.2).get x = none) :
    Removal false t now ct cur x e ∨ GapCase t now ct x e :=
  (removal_gap_split t now ct cur x e).1
    (interleaved_cleanup_safe_partial t now tReal ct queue hq hold hproto r kq hm x e hg hd)

/-- justification of a removal w.r.t. the map `ct` of the visit that judged it (same shape as `Removal`:
every expiry is under the protocol of the entry's own key or of the forward key that points at it). -/
def RemovalI (gap : Bool) (t : Timeouts) (now : Nat) (ct cur : AMap Key Entry) (x : Key) (e : Entry) : Prop :=
  (ct.get x = some e ∧                                   -- untouched since that visit, and …
    ( (e.typ ≠ .fwd ∧ expired t now x.proto e = true)    -- … itself idle past ITS timeout when judged
    ∨ (∃ kf f, ct.get kf = some f ∧ f.typ = .fwd ∧ f.revKey = x ∧ expired t now kf.proto e = true)
                                                         -- … a reverse entry judged through its forward entry
    ∨ (e.typ = .fwd ∧ ct.get e.revKey = none)            -- … a forward entry whose reverse entry was gone
    ∨ (gap = true ∧ GapCase t now ct x e)))              -- the known finding
  ∨ (∃ r, ct.get e.revKey = some r ∧
        (expired t now x.proto r = true ∨ (r.typ ≠ .fwd ∧ expired t now e.revKey.proto r = true)) ∧
        cur.get e.revKey = some r)                       -- forward entry of a pair whose reverse entry was judged
                                                         -- idle (under the forward key's or its own protocol)
                                                         -- and is still untouched

theorem clean_step_safeI_partial (t : Timeouts) (now tReal : Nat) (ct cur : AMap Key Entry) (kq : Key × QVal)
    (hs : QSoundI t now ct kq)
    (hold : ∀ k e, ct.get k = some e → e.lastSeen ≤ tReal)
    (hproto : ∀ k e, ct.get k = some e → k.proto ≠ 0)
    (htr : Traffic tReal ct cur)
    (x : Key) (e : Entry) (hg : cur.get x = some e) (hd : (cleanEntry cur kq.1 kq.2).get x = none) :
    RemovalI true t now ct cur x e := by
  have hr := cleanEntry_deleted cur kq.1 kq.2 x e hg hd
  unfold QSoundI at hs
  have untouched := traffic_untouched hold htr
  rcases hr with ⟨hp0, hxk, hl⟩ | ⟨hp, r1, hr1, hrl, hwhich⟩
  · subst hxk
    by_cases hdk : kq.2.other = dummyKey
    · rw [if_pos hdk] at hs
      obtain ⟨e0, he0, hl0, hj⟩ := hs
      have hu := untouched _ e e0 hg he0 (by omega)
      have hee : e0 = e := by rw [he0] at hu; cases hu; rfl
      subst hee
      refine Or.inl ⟨he0, ?_⟩
      unfold Judged at hj
      cases hty : e0.typ <;> simp only [hty] at hj
      · exact Or.inl ⟨by simp, hj⟩
      · rcases hj with hj | ⟨r, h1, h2, h3⟩
        · exact Or.inr (Or.inr (Or.inl ⟨rfl, hj⟩))
        · exact Or.inr (Or.inr (Or.inr ⟨rfl, he0, hty, r, h1, h2, h3⟩))
      · exact Or.inl ⟨by simp, hj⟩
    · rw [if_neg hdk] at hs
      obtain ⟨r, hr, _, _⟩ := hs
      exact absurd hp0 (hproto _ _ hr)
  · have hdk := other_ne_dummy hp
    rw [if_neg hdk] at hs
    obtain ⟨r, hr, hrl0, hre⟩ := hs
    have hu := untouched _ r1 r hr1 hr (by omega)
    have hrr : r1 = r := by rw [hr] at hu; cases hu; rfl
    subst hrr
    rcases hwhich with hxo | ⟨hxk, hrev⟩
    · subst hxo
      rw [hg] at hr1; cases hr1
      refine Or.inl ⟨hr, ?_⟩
      rcases hre with ⟨ht, h⟩ | ⟨f, hf, hft, hfr, h⟩
      · exact Or.inl ⟨ht, h⟩
      · exact Or.inr (Or.inl ⟨kq.1, f, hf, hft, hfr, h⟩)
    · subst hxk
      refine Or.inr ⟨r1, by rw [hrev]; exact hr, ?_, by rw [hrev]; exact hr1⟩
      rcases hre with ⟨ht, h⟩ | ⟨f, _, _, _, h⟩
      · exact Or.inr ⟨ht, by rw [hrev]; exact h⟩
      · exact Or.inl h

/-- **Safety with packets interleaved inside the scan's iteration** (partial: the gap of the known
finding).  `cur0` is the map when the cleaner starts; each visit's map is related to it by arbitrary
traffic after that visit. -/
theorem interleaved_scan_safe_partial (t : Timeouts) (now : Nat) (visits : List Visit) (ok : VisitsOK visits)
    (cur0 : AMap Key Entry)
    (hclock : ∀ v ∈ visits, ∃ τ, (∀ k e, v.1.get k = some e → e.lastSeen ≤ τ) ∧ Traffic τ v.1 cur0)
    (hproto : ∀ v ∈ visits, ∀ k e, v.1.get k = some e → k.proto ≠ 0)
    (order : AMap Key QVal) (hord : ∀ kq ∈ order, kq ∈ scanI t now visits)
    (x : Key) (e : Entry) (hx : cur0.get x = some e) (hd : (clean cur0 order).get x = none) :
    ∃ v ∈ visits, RemovalI true t now v.1 cur0 x e := by
  obtain ⟨kq, hm, ct1, hsub, hg, hstep⟩ := clean_deleted_step order cur0 x e hx hd
  obtain ⟨v, hv, hs⟩ := scanI_queue_sound t now visits ok kq (hord kq hm)
  obtain ⟨τ, hold, htr⟩ := hclock v hv
  have h := clean_step_safeI_partial t now τ v.1 ct1 kq hs hold (hproto v hv) (traffic_of_sub htr hsub) x e hg hstep
  refine ⟨v, hv, ?_⟩
  rcases h with h | ⟨r, h1, h2, h3⟩
  · exact Or.inl h
  · exact Or.inr ⟨r, h1, h2, hsub _ _ h3⟩

theorem traffic_weaken {τ T : Nat} {a b : AMap Key Entry} (h : τ ≤ T) (ht : Traffic T a b) : Traffic τ a b := by
  intro k e' he
  rcases ht k e' he with h1 | h1
  · exact Or.inl h1
  · exact Or.inr (by omega)

/-- **Safety with BOTH kinds of interleaving** (partial: the gap of the known finding): packets between
the visits of the scan's iteration (each visit at a clock value `τ ≤ T`), then packets before the cleaner
pass and between any two of its atomic steps, in any order (`CleanRun T cur0 …`: every later packet
writes a time stamp later than `T`, the clock when the scan ended). -/
theorem combined_interleaved_safe_partial (t : Timeouts) (now T : Nat) (visits : List Visit) (ok : VisitsOK visits)
    (cur0 : AMap Key Entry)
    (hclock : ∀ v ∈ visits, ∃ τ, τ ≤ T ∧ (∀ k e, v.1.get k = some e → e.lastSeen ≤ τ) ∧ Traffic τ v.1 cur0)
    (hproto : ∀ v ∈ visits, ∀ k e, v.1.get k = some e → k.proto ≠ 0)
    (queue : AMap Key QVal) (hq : ∀ kq ∈ queue, kq ∈ scanI t now visits)
    {cur : AMap Key Entry} (run : CleanRun T cur0 queue cur) (kq : Key × QVal) (hm : kq ∈ queue)
    (x : Key) (e : Entry) (hg : cur.get x = some e) (hd : (cleanEntry cur kq.1 kq.2).get x = none) :
    ∃ v ∈ visits, RemovalI true t now v.1 cur x e := by
  obtain ⟨v, hv, hs⟩ := scanI_queue_sound t now visits ok kq (hq kq hm)
  obtain ⟨τ, hle, hold, htr⟩ := hclock v hv
  have htr' : Traffic τ v.1 cur := traffic_trans htr (traffic_weaken hle run.traffic_from)
  exact ⟨v, hv, clean_step_safeI_partial t now τ v.1 cur kq hs hold (hproto v hv) htr' x e hg hd⟩

/-- the composition for a whole scan. -/
theorem scan_then_clean_safe_partial (t : Timeouts) (now tReal : Nat) (ct ct' : AMap Key Entry)
    (items : List (Key × Entry)) (ok : ItemsOK ct items) (order : AMap Key QVal)
    (hperm : ∀ kq ∈ order, kq ∈ scan t now ct items)
    (hold : ∀ k e, ct.get k = some e → e.lastSeen ≤ tReal)
    (hproto : ∀ k e, ct.get k = some e → k.proto ≠ 0)
    (htr : Traffic tReal ct ct')
    (x : Key) (e : Entry) (hx : ct'.get x = some e) (hd : (clean ct' order).get x = none) :
    Removal true t now ct ct' x e :=
  cleanup_safe_partial t now tReal ct ct' order
    (fun kq h => scan_queue_sound t now ct items ok kq (hperm kq h)) hold hproto htr x e hx hd

/-- **Liveness (normal entries; partial)**: an entry that is idle past its timeout when scanned and is
not refreshed before the cleaner runs (it may have been evicted) is gone after one scan + one cleaner
pass, whatever else happens to the map and whatever the queue order.
PARTIAL: the scan is ATOMIC (one read of the map, `ItemsOK`), the queue the cleaner walks contains the
whole scan result (`hall`; the mid-scan cleaner runs are not modelled), and no packet refreshes the
entry between judgement and clean-up (`hun`). -/
theorem cleanup_live_normal_partial (t : Timeouts) (now : Nat) (ct : AMap Key Entry) (items : List (Key × Entry))
    (ok : ItemsOK ct items) (k : Key) (e : Entry) (hmem : (k, e) ∈ items) (hn : e.typ = .normal)
    (hexp : expired t now k.proto e = true)
    (ct' : AMap Key Entry) (hun : ∀ e', ct'.get k = some e' → e' = e)
    (order : AMap Key QVal) (hall : ∀ kq ∈ scan t now ct items, kq ∈ order) :
    (clean ct' order).get k = none := by
  have hk := ok.mem _ hmem
  obtain ⟨done, inv, hq, hdone⟩ := scan_loop (t := t) (now := now)
    (J := fun done sc => k ∈ done → (k, (⟨dummyKey, e.lastSeen, e.lastSeen⟩ : QVal)) ∈ sc.queue) items ok
    (fun h => by simp at h)
    (fun done sc k' e' hm' hnew inv j => visit_normal hk hn hexp done sc k' e' (ok.mem _ hm') hnew inv j)
  have hs : (k, (⟨dummyKey, e.lastSeen, e.lastSeen⟩ : QVal)) ∈ scan t now ct items :=
    scanEnd_has inv hk hn (hq (hdone _ hmem))
  exact clean_live order ct' k _ (hall _ hs) rfl (fun e' he' => by rw [hun e' he'])

/-- **Liveness of a NAT pair**: a forward/reverse pair (the only forward entry of that reverse entry)
whose reverse entry is idle past its timeout when scanned, and which sees no packet before the cleaner
runs, loses its reverse (tracking) entry in one scan + one cleaner pass — and its forward entry too
when both carried the same time stamp (two plain queue items); when the time stamps differ the two are
removed together by the pair item unless another queue item removed the reverse entry first.
PARTIAL: atomic scan, queue = whole scan result, no packet on either entry (`hunF`, `hunR`), a single
forward entry per reverse entry (`Pair.uniq`; a shared reverse entry needs a second scan — not proved),
and for DIFFERENT time stamps only "the reverse entry goes" is concluded for the forward entry's fate. -/
theorem cleanup_live_pair_partial (t : Timeouts) (now : Nat) (ct : AMap Key Entry) (items : List (Key × Entry))
    (ok : ItemsOK ct items) (kF kR : Key) (f r : Entry) (pr : Pair t now ct items kF kR f r)
    (hmF : (kF, f) ∈ items) (hmR : (kR, r) ∈ items) (hpR : kR.proto ≠ 0)
    (ct' : AMap Key Entry) (hunF : ∀ e', ct'.get kF = some e' → e' = f) (hunR : ∀ e', ct'.get kR = some e' → e' = r)
    (order : AMap Key QVal) (hall : ∀ kq ∈ scan t now ct items, kq ∈ order) :
    (clean ct' order).get kR = none ∧ (f.lastSeen = r.lastSeen → (clean ct' order).get kF = none) := by
  obtain ⟨done, inv, pi, hdone⟩ := scan_loop (t := t) (now := now) (J := PairInv kF kR f r) items ok
    ⟨by simp, by simp [AMap.get], fun _ h => by simp at h, fun _ h => by simp at h⟩
    (fun done sc k e hm hnew inv pi => pair_visit pr inv pi k e (ok.mem _ hm) hm hnew)
  have dF : kF ∈ done := hdone _ hmF
  have dR : kR ∈ done := hdone _ hmR
  generalize hsc : items.foldl (fun sc kv => scanEntry t now ct sc kv.1 kv.2) ⟨[], []⟩ = sc at inv pi
  have hscan : scan t now ct items = sc.pend.foldl (fun q kp => q.set (endKey kp) (endVal kp)) sc.queue := by
    unfold scan; rw [hsc, scanEnd_eq]
  have hpend := pi.pend
  simp only [dF, dR, if_true] at hpend
  -- no pending record is queued under kF at the end: it would be the forward record under kR
  have noF : ∀ kp ∈ sc.pend, endKey kp ≠ kF := by
    intro kp hm he
    obtain ⟨e', he', h⟩ := endKey_entry (inv.p kp hm)
    rw [he, pr.hf] at he'; cases he'
    rcases h with ⟨h, _⟩ | ⟨_, hd, hfr⟩
    · rw [pr.tf] at h; cases h
    · have hg := AMap.get_of_mem_nodup pi.pn (show (kp.1, kp.2) ∈ sc.pend from hm)
      rw [← hfr, pr.rk, hpend] at hg
      split at hg
      · exact hd (by rw [← Option.some.inj hg])
      · cases hg
  by_cases heq : f.lastSeen = r.lastSeen
  · -- equal time stamps: two plain items
    simp only [heq, if_true] at hpend
    have stepR : ∀ kp ∈ sc.pend, endKey kp = kR → (endVal kp).other = dummyKey ∧ (endVal kp).ts = r.lastSeen := by
      intro kp hm he
      obtain ⟨e', he', h⟩ := endKey_entry (inv.p kp hm)
      rw [he, pr.hr] at he'; cases he'
      rcases h with ⟨_, hd, hl⟩ | ⟨h, _⟩
      · simp [endVal, hd, hl]
      · rw [pr.tr] at h; cases h
    have hvF := scanEnd_keeps noF (pi.qeq heq dF)
    obtain ⟨vR, hvR, hoR, htR⟩ := endFold_has (fun v => v.other = dummyKey ∧ v.ts = r.lastSeen) kR sc.pend stepR sc.queue
      (Or.inr ⟨(kR, ⟨dummyKey, r.lastSeen, 0⟩), AMap.mem_of_get hpend, by simp [endKey]⟩)
    rw [← hscan] at hvR
    rw [← hsc] at hvF
    refine ⟨clean_live order ct' kR vR (hall _ hvR) (by rw [hoR]; rfl) (fun e' he' => by rw [hunR e' he', htR]),
      fun _ => clean_live order ct' kF _ (hall _ hvF) rfl (fun e' he' => by rw [hunF e' he'])⟩
  · -- different time stamps: one pair item
    have hv := scanEnd_keeps noF (pi.qne heq dF dR)
    rw [← hsc] at hv
    exact ⟨clean_live_pair order ct' kF kR f.lastSeen r.lastSeen (hall _ hv) hpR
      (fun e he => by rw [hunF e he]; exact pr.rk) (fun e he => by rw [hunR e he]), fun h => absurd h heq⟩

/-! ### Liveness, step level (partial)

End-to-end liveness is proved above for normal entries and for NAT pairs; the step-level halves: the scan step queues an expired plain
entry with its time stamp, and the cleaner step removes an entry whose time stamp still matches. -/

theorem scan_step_queues_expired_partial (t : Timeouts) (now : Nat) (ct : AMap Key Entry) (sc : ScanSt) (k : Key) (e : Entry)
    (hn : e.typ = .normal) (hexp : expired t now k.proto e = true) :
    (scanEntry t now ct sc k e).queue.get k = some ⟨dummyKey, e.lastSeen, e.lastSeen⟩ := by
  have h1 : (check t now ct k e).1 = true := by simp [check, hn, hexp]
  rw [scanEntry_normal h1 hn]
  simp [AMap.get_set, check, hn]

theorem cleaner_step_removes_matching_partial (ct : AMap Key Entry) (k : Key) (q : QVal) (e : Entry)
    (hq : q.other.proto = 0) (hk : ct.get k = some e) (hts : e.lastSeen = q.ts) :
    (cleanEntry ct k q).get k = none :=
  cleanEntry_removes_plain ct k q hq fun e' he' => by rw [hk] at he'; cases he'; exact hts

theorem cleaner_step_removes_pair_partial (ct : AMap Key Entry) (k : Key) (q : QVal) (f r : Entry)
    (hq : q.other.proto ≠ 0) (hk : ct.get k = some f) (hf : f.revKey = q.other)
    (hr : ct.get q.other = some r) (hts : r.lastSeen = q.revTs) :
    (cleanEntry ct k q).get k = none ∧ (cleanEntry ct k q).get q.other = none := by
  unfold cleanEntry fwdMismatch
  simp only [hq, hk, hf, hr, hts, if_false, if_true, ne_eq, not_true_eq_false, decide_false, Bool.false_eq_true]
  constructor
  · exact AMap.get_del_self _ _
  · rw [AMap.get_del]
    split
    · rfl
    · exact AMap.get_del_self _ _

/-! ### The full-strength statement (`Removal false …`, no gap) is FALSE of the current code

Witness: a UDP NAT pair whose last packet went client → service, so that the forward and the reverse
entry carry the same `last_seen` (calico_ct_lookup writes the same `now` into both).  Both are idle
past the timeout at the scan.  `handleNATEntries` takes `ts == rev_ts` for "the reverse entry does not
exist" and queues the forward entry alone.  A reply packet then refreshes the reverse entry only.  The
cleaner finds the forward entry's own time stamp unchanged and removes it: the connection is live, its
reverse entry survives, its forward entry is gone.  (Reproduced on the real Scanner + the real
conntrack_cleanup.c by the harness: oracle signature `deleted-fwd-of-live-pair`.) -/

def wT : Timeouts := ⟨20, 3600, 30, 40, 60, 600, 5⟩
def wkF : Key := ⟨17, 1, 1000, 2, 80⟩
def wkR : Key := ⟨17, 1, 1000, 3, 8080⟩
def wF : Entry := { typ := .fwd, lastSeen := 100, rstTs := 0, revKey := wkR, established := false, finsSeen := false,
                    finsSeenDSR := false, rstSeen := false, dsr := false }
def wR : Entry := { wF with typ := .rev, revKey := dummyKey }
def wct : AMap Key Entry := [(wkF, wF), (wkR, wR)]
/-- a reply packet at time 1001 refreshed the reverse entry (scan at 1000). -/
def wct' : AMap Key Entry := [(wkF, wF), (wkR, { wR with lastSeen := 1001 })]

theorem witness_items_ok : ItemsOK wct wct :=
  ⟨by decide, by decide, by decide, by decide⟩

theorem witness_traffic : Traffic 1000 wct wct' := by
  intro k e' h
  by_cases h1 : k = wkF
  · subst h1; left; revert h; simp [wct, wct', AMap.get]
  · by_cases h2 : k = wkR
    · subst h2; right
      have : e' = { wR with lastSeen := 1001 } := by
        revert h; simp only [wct', AMap.get]; rw [if_neg (by decide)]; simp [eq_comm]
      subst this; decide
    · exfalso; revert h; simp [wct', AMap.get, Ne.symm h1, Ne.symm h2]

/-- the model removes the forward entry although the pair carried traffic after the judgement … -/
theorem witness_forward_removed :
    wct'.get wkF = some wF ∧ (clean wct' (scan wT 1000 wct wct)).get wkF = none ∧
    (clean wct' (scan wT 1000 wct wct)).get wkR = some { wR with lastSeen := 1001 } := by decide

/-- … so the full-strength statement fails. -/
theorem cleanup_safe_full_is_false : ¬ Removal false wT 1000 wct wct' wkF wF := by
  intro h
  rcases h with ⟨_, h | h | h | h⟩ | ⟨r, h1, _, h3⟩
  · revert h; decide
  · obtain ⟨kf, f, hf, hft, hfr, _⟩ := h
    have : kf = wkF ∨ kf = wkR := by
      by_cases a : kf = wkF; · exact Or.inl a
      by_cases b : kf = wkR; · exact Or.inr b
      revert hf; simp [wct, AMap.get, Ne.symm a, Ne.symm b]
    rcases this with rfl | rfl
    · have : f = wF := by revert hf; simp [wct, AMap.get, eq_comm]
      subst this; revert hfr; decide
    · have : f = wR := by
        revert hf; simp only [wct, AMap.get]; rw [if_neg (by decide)]; simp [eq_comm]
      subst this; revert hft; decide
  · revert h; decide
  · exact absurd h.1 (by decide)
  · have e1 : r = wR := by
      revert h1; simp only [wct, AMap.get, wF]; rw [if_neg (by decide)]; simp [eq_comm]
    subst e1; revert h3; decide

/-- **the property's language**: the timeouts of the table that apply to an entry, by the protocol of
the key it is judged under and by its TCP state (the Lean twin of the harness's independent
`idleExpired`): RST seen on a leg → `TCPResetSeen`; FINs seen (both legs, or one leg under DSR) →
`TCPFinsSeen`; established or DSR → `TCPEstablished`, and 2 minutes if an RST time stamp is recorded;
otherwise (handshake not finished) → `TCPSynSent`; ICMP, UDP and other protocols → their one timeout. -/
def applicableTimeouts (t : Timeouts) (proto : Nat) (e : Entry) : List Nat :=
  if proto = 6 then
    (if e.rstSeen then [t.tcpResetSeen] else []) ++
    (if (e.dsr && e.finsSeenDSR) || e.finsSeen then [t.tcpFinsSeen] else []) ++
    (if e.established || e.dsr then
      (if e.rstTs ≠ 0 then [120000000000] else []) ++ [t.tcpEstablished]
     else [t.tcpSynSent])
  else if proto = 1 || proto = 58 then [t.icmp]
  else if proto = 17 then [t.udp]
  else [t.generic]

theorem exists_mem_ite {c : Prop} [Decidable c] (a : Nat) (P : Nat → Prop) :
    (∃ T ∈ (if c then [a] else []), P T) ↔ c ∧ P a := by
  by_cases h : c <;> simp [h]

/-- **"judged expired" = "idle longer than a timeout that applies to its protocol and state"**:
the model of `entryDone` says expired exactly when `now - last_seen` exceeds one of the applicable
timeouts. -/
theorem expired_iff_idle_past_applicable (t : Timeouts) (now p : Nat) (e : Entry) :
    expired t now p e = true ↔ ∃ T ∈ applicableTimeouts t p e, e.lastSeen + T < now := by
  unfold expired applicableTimeouts Entry.older
  by_cases h6 : p = 6
  · -- both sides are the same disjunction: `if c then true else b` is `c || b`, and a timeout
    -- listed under a condition is a conjunct
    simp only [h6, if_true, Bool.if_true_left, List.mem_append, or_and_right, exists_or, exists_mem_ite,
      Bool.or_eq_true, Bool.and_eq_true, decide_eq_true_eq]
    by_cases h3 : e.established = true ∨ e.dsr = true
    · simp only [h3, if_true, List.mem_append, or_and_right, exists_or, exists_mem_ite, Bool.or_eq_true,
        Bool.and_eq_true, decide_eq_true_eq, List.mem_singleton, exists_eq_left, or_assoc]
    · simp only [h3, if_false, decide_eq_true_eq, List.mem_singleton, exists_eq_left, or_assoc]
  · simp only [h6, if_false]
    by_cases h1 : (p = 1 || p = 58) = true
    · simp only [h1, if_true, decide_eq_true_eq, List.mem_singleton, exists_eq_left]
    · simp only [h1, if_false, Bool.false_eq_true]
      by_cases h17 : p = 17 <;>
        simp only [h17, if_true, if_false, decide_eq_true_eq, List.mem_singleton, exists_eq_left]

theorem expired_idle {t : Timeouts} {now p : Nat} {e : Entry} (h : expired t now p e = true) : e.lastSeen < now :=
  let ⟨_, _, hT⟩ := (expired_iff_idle_past_applicable t now p e).1 h
  Nat.lt_of_le_of_lt (Nat.le_add_right _ _) hT

/-- idle longer than a timeout that applies to the entry's protocol (as judged under key protocol `p`) and state. -/
def IdlePast (t : Timeouts) (now p : Nat) (e : Entry) : Prop :=
  ∃ T ∈ applicableTimeouts t p e, e.lastSeen + T < now

/-- **Safety in the property's own words** (outside the known finding): an entry the cleaner removes —
under any interleaving of packets with the cleaner's steps — is either the `GapCase`, or it is
untouched since the scan and was idle longer than a timeout applying to its protocol and state (a
reverse entry possibly judged through its forward entry's key), or it is a forward entry whose reverse
entry was gone, or it is the forward entry of a pair whose reverse entry was idle longer than an
applicable timeout and is still untouched. -/
theorem cleanup_safe_except_gap_idle (t : Timeouts) (now tReal : Nat) (ct : AMap Key Entry) (queue : AMap Key QVal)
    (hq : ∀ kq ∈ queue, QSound t now ct kq)
    (hold : ∀ k e, ct.get k = some e → e.lastSeen ≤ tReal)
    (hproto : ∀ k e, ct.get k = some e → k.proto ≠ 0)
    {cur : AMap Key Entry} (r : CleanRun tReal ct queue cur) (kq : Key × QVal) (hm : kq ∈ queue)
    (x : Key) (e : Entry) (hg : cur.get x = some e) (hd : (cleanEntry cur kq.1 kq.2).get x = none) :
    GapCase t now ct x e ∨
    (ct.get x = some e ∧ e.typ ≠ .fwd ∧ IdlePast t now x.proto e) ∨
    (ct.get x = some e ∧ ∃ kf f, ct.get kf = some f ∧ f.typ = .fwd ∧ f.revKey = x ∧ IdlePast t now kf.proto e) ∨
    (ct.get x = some e ∧ e.typ = .fwd ∧ ct.get e.revKey = none) ∨
    (∃ r, ct.get e.revKey = some r ∧ IdlePast t now x.proto r ∧ cur.get e.revKey = some r) := by
  rcases cleanup_safe_except_gap t now tReal ct queue hq hold hproto r kq hm x e hg hd with h | h
  · unfold Removal at h
    rcases h with ⟨h0, h | h | h | ⟨hf, _⟩⟩ | ⟨r', h1, h2, h3⟩
    · exact Or.inr (Or.inl ⟨h0, h.1, (expired_iff_idle_past_applicable t now x.proto e).1 h.2⟩)
    · obtain ⟨kf, f, a1, a2, a3, a4⟩ := h
      exact Or.inr (Or.inr (Or.inl ⟨h0, kf, f, a1, a2, a3, (expired_iff_idle_past_applicable t now kf.proto e).1 a4⟩))
    · exact Or.inr (Or.inr (Or.inr (Or.inl ⟨h0, h⟩)))
    · exact absurd hf (by decide)
    · exact Or.inr (Or.inr (Or.inr (Or.inr ⟨r', h1, (expired_iff_idle_past_applicable t now x.proto r').1 h2, h3⟩)))
  · exact Or.inl h

/-- the witness of the finding is an instance of the `GapCase` (the exclusion is not wider than the finding). -/
theorem witness_is_gap_case : GapCase wT 1000 wct wkF wF := by
  refine ⟨by decide, by decide, wR, by decide, by decide, by decide⟩

/-- an established TCP entry with a recorded RST: 2 minutes and the established timeout apply. -/
example : applicableTimeouts wT 6 { wF with typ := .normal, established := true, rstTs := 5 } = [120000000000, 3600] := by decide

/-- a scan that queues a plain entry, a NAT pair (pair mode) and leaves a live entry alone. -/
def nvCt : AMap Key Entry :=
  [(⟨6, 1, 1, 2, 80⟩, { wF with typ := .normal, lastSeen := 10, revKey := dummyKey }),
   (⟨17, 1, 1000, 2, 80⟩, { wF with lastSeen := 90 }),
   (wkR, wR),
   (⟨17, 9, 9, 9, 9⟩, { wF with typ := .normal, lastSeen := 990, revKey := dummyKey })]

example : ItemsOK nvCt nvCt := ⟨by decide, by decide, by decide, by decide⟩
example : (scan wT 1000 nvCt nvCt).length = 2 := by decide
example : ((clean nvCt (scan wT 1000 nvCt nvCt)).map (·.1)) = [⟨17, 9, 9, 9, 9⟩] := by decide
/-- with a reply packet in between, the pair (judged in pair mode: time stamps differ) survives entirely. -/
example : ((clean (nvCt.set wkR { wR with lastSeen := 1001 }) (scan wT 1000 nvCt nvCt)).map (·.1)).length = 3 := by decide
example : Traffic 1000 nvCt nvCt := fun _ _ h => Or.inl h
/-- an interleaved run: the reply packet of the witness arrives, then a cleaner step. -/
example : ∃ cur, CleanRun 1000 wct (scan wT 1000 wct wct) cur :=
  ⟨_, (CleanRun.start.traffic witness_traffic).step (wkF, ⟨dummyKey, 100, 100⟩) (by decide)⟩
/-- an interleaved scan: the forward entry is visited on `wct`, then the reply packet arrives, then the
reverse entry is visited on `wct'` (no longer idle): only the forward entry is queued. -/
def nvVisits : List Visit := [(wct, wkF, wF), (wct', wkR, { wR with lastSeen := 1001 })]
example : VisitsOK nvVisits := ⟨by decide, by decide, by decide, by decide⟩
example : scanI wT 1000 nvVisits = [(wkF, ⟨dummyKey, 100, 100⟩)] := by decide

/-- the hypotheses of `cleanup_live_pair_partial` hold for the witness pair. -/
example : Pair wT 1000 wct wct wkF wkR wF wR :=
  ⟨by decide, by decide, by decide, by decide, by decide, by decide, by decide, by decide⟩

/-- the hypotheses of `cleanup_live_normal_partial` hold for the first entry of `nvCt`. -/
example : expired wT 1000 6 { wF with typ := .normal, lastSeen := 10, revKey := dummyKey } = true := by decide

end CalicoVerif.C14
