import CalicoVerif.Model.C20
import CalicoVerif.Proofs.C19
/-!
C20 — IPAM allocations respect pools, uses, reservations and affinity limits.

* Decision functions only (named `_partial`): `allowedPools` (determinePools +
  filterPoolsByUse), the scan of `autoAssign`, the block-cap loop — for ALL pool
  layouts, requests, reservation sets, block contents and loop histories.
* Run level: `assigned_respects_limits_guarded_partial` — over ALL runs of `Cas.step` whose events
  pass `guard20` (what the real client hands to `autoAssign`: a block of a pool
  selected for the request, the block's reserved ordinals, the affinity check under
  strict affinity — the driver checks every real event against it), every address a
  request records lies in a block of a pool selected for it, is outside every
  reservation, and under strict affinity comes from a block recording the requesting
  host.
* NOT modelled: the returned prefix length ("comes back as its block's CIDR") — checked on
  the real code by the harness oracle only; which block / pool order AutoAssign tries.
-/
namespace CalicoVerif.C20
open CalicoVerif.Cas

theorem mem_mapM_find {en : List Pool} : ∀ (req : List Nat) (m : List Pool),
    req.mapM (fun r => en.find? (fun p => p.id == r)) = some m →
    ∀ p ∈ m, p ∈ en ∧ p.id ∈ req
  | [], m, h => by simp at h; subst h; intro p hp; cases hp
  | r :: req, m, h => by
    simp only [List.mapM_cons] at h
    cases hf : en.find? (fun p => p.id == r) with
    | none => simp [hf] at h
    | some q =>
      cases hr : req.mapM (fun r => en.find? (fun p => p.id == r)) with
      | none => simp [hf, hr] at h
      | some m' =>
        simp [hf, hr] at h
        subst h
        intro p hp
        rcases List.mem_cons.1 hp with rfl | hp
        · have := List.find?_some hf
          exact ⟨List.mem_of_find?_eq_some hf, by simp at this; simp [this]⟩
        · have := mem_mapM_find req m' hr p hp
          exact ⟨this.1, List.mem_cons_of_mem _ this.2⟩

/-- (Decision function only.)  Every pool a request may draw from is enabled and allowed for the request's use;
without explicitly requested pools it is automatic and selects the node and the
namespace; with requested pools it is one of them. -/
theorem allowed_pools_sound_partial (pools : List Pool) (req : List Nat) (zone team : Nat) (use : Use)
    (l : List Nat) (h : allowedPools pools req zone team use = some l) :
    ∀ i ∈ l, ∃ p ∈ pools, p.id = i ∧ p.enabled = true ∧ use ∈ p.uses ∧
      (req = [] → p.auto = true ∧ selOk p.nodeSel zone = true ∧ selOk p.nsSel team = true) ∧
      (req ≠ [] → i ∈ req) := by
  unfold allowedPools at h
  simp only at h
  split at h
  · cases h
  · split at h
    · cases h
    · rename_i m hm
      split at h
      · cases h
      · split at h
        · cases h
        · injection h with h; subst h
          intro i hi
          obtain ⟨p, hp, rfl⟩ := List.mem_map.1 hi
          obtain ⟨hpm, hu⟩ := List.mem_filter.1 hp
          have hu' : use ∈ p.uses := by simpa using hu
          split at hm
          · rename_i hreq
            injection hm with hm; subst hm
            obtain ⟨hpe, hc⟩ := List.mem_filter.1 hpm
            obtain ⟨hpp, hen⟩ := List.mem_filter.1 hpe
            simp only [Bool.and_eq_true] at hc
            have hreq' : req = [] := by simpa using hreq
            exact ⟨p, hpp, rfl, hen, hu', fun _ => ⟨hc.1.1, hc.1.2, hc.2⟩, fun hne => absurd hreq' hne⟩
          · rename_i hreq
            have := mem_mapM_find req m hm p hpm
            obtain ⟨hpp, hen⟩ := List.mem_filter.1 this.1
            exact ⟨p, hpp, rfl, hen, hu', fun he => by simp [he] at hreq, fun _ => this.2⟩

/-- (Decision function only.)  Requests fail rather than violate: the selection either fails or
is non-empty — there is no "fall back to any pool". -/
theorem fail_rather_than_violate_partial (pools : List Pool) (req : List Nat) (zone team : Nat) (use : Use)
    (l : List Nat) (h : allowedPools pools req zone team use = some l) : l ≠ [] := by
  unfold allowedPools at h
  simp only at h
  split at h
  · cases h
  · split at h
    · cases h
    · split at h
      · cases h
      · split at h
        · cases h
        · rename_i hne
          injection h with h; subst h
          intro hc
          apply hne
          simpa using hc

/-- No automatically assigned address is inside a reservation: the scan of `autoAssign`
never picks a reserved ordinal, whatever the block and the reservation set. -/
theorem scan_never_picks_reserved_partial (k h : Nat) (rv : List Nat) (b : Blk) :
    ∀ o ∈ (autoAssign k h rv b).2, o ∉ rv := by
  simp only [autoAssign]
  exact C19.takeFree_not_reserved rv k b.unalloc

theorem effCap_pos (c r : Nat) : 1 ≤ effCap c r := by
  unfold effCap
  generalize (if c > 0 ∧ r > 0 ∧ r > c then c else if r = 0 then c else r) = m
  by_cases h : m = 0
  · simp [h]
  · simp [h]; omega

/-- The block cap as the code enforces it: over any allocation loop, the number of
blocks the host owns INSIDE THE POOLS USABLE FOR THE REQUEST never grows beyond
max(what it owned there, cap). -/
theorem blocks_per_host_le_cap_partial (cap : Nat) (hc : 1 ≤ cap) :
    ∀ (wants : List Bool) (owned : Nat), claimLoop cap owned wants ≤ max owned cap
  | [], owned => by simp [claimLoop]; omega
  | w :: ws, owned => by
    simp only [claimLoop]
    split
    · split
      · rename_i ha
        have ih := blocks_per_host_le_cap_partial cap hc ws (owned + 1)
        simp only [allowNewClaim, Bool.not_eq_true', Bool.and_eq_false_iff, decide_eq_false_iff_not] at ha
        omega
      · omega
    · exact blocks_per_host_le_cap_partial cap hc ws owned

/-- Full-strength statement "a host never holds more affine blocks than the cap" counts
ALL blocks of the host; the code counts only those inside the pools usable for the
request, so with one block elsewhere the total exceeds the cap. (Reproduced on the
real client: oracle `block-cap-exceeded`, known_findings.txt.) -/
theorem blocks_per_host_le_cap_false :
    ¬ (∀ cap ownedInPools elsewhere wants, 1 ≤ cap →
        claimLoop cap ownedInPools wants + elsewhere ≤ max (ownedInPools + elsewhere) cap) := by
  intro H
  have := H 1 0 1 [true] (by decide)
  revert this
  decide

theorem mem_resvOrds (ranges : List (Nat × Nat)) (base size o : Nat) :
    o ∈ resvOrds ranges base size ↔ o < size ∧ inRanges ranges (base + o) = true := by
  simp [resvOrds, List.mem_filter, List.mem_range]

/-- (`_guarded_partial`: the pool clause is the first conjunct of `guard20` restated and the
strict-affinity clause is its `own` conjunct plus the `ownOk` guard of `Cas.step`; `r.allowed` is
an arbitrary list here — its link to `allowedPools` and the link "real client ⇒ guard20" exist
only in the driver / correspondence run.  The reservation clause has content: the CIDR →
ordinal arithmetic `resvOrds` and the scan of `autoAssign`.)
Run level.  Take ANY run of the model from the empty store whose events pass `guard20`,
and any step of it by which thread `t` — executing an AutoAssign request `r` — records a new
address (block `b`, ordinal `o`) through the scan of `autoAssign`.  Then `b` lies in a pool
selected for the request, the address `base b + o` is in no reservation, and under strict
affinity the block it was taken from records the requesting host as its affinity. -/
theorem assigned_respects_limits_guarded_partial (env : Env20) (req : Nat → Option Req)
    (r0 nb : Nat) (evs : List Ev) (s s' : St) (e : Ev)
    (hr : run (St.init r0 nb) evs = some s) (hg : guard20 env req e = true) (hs : Cas.step s e = some s')
    (t b o : Nat) (hin : (b, o) ∈ s'.got t) (hnot : (b, o) ∉ s.got t)
    (r : Req) (hreq : req t = some r) :
    ∀ c g1 h k rv g2, e = Ev.call c → c.pl = Payload.blkRmw g1 (.assign h k rv) g2 →
      env.poolOf b ∈ r.allowed ∧
      (o < env.size b → inRanges env.ranges (env.base b + o) = false) ∧
      (r.strict = true → ∃ rv0 v0, s.blk b = some (rv0, v0) ∧ v0.aff = some r.host) := by
  intro c g1 h k rv g2 he hpl
  obtain ⟨c', g1', op, g2', _, he', own⟩ :=
    C19.got_grows_only_by_own_cas (C19.allWF_run (C19.allWF_init r0 nb) hr) hs hin hnot
  subst he
  cases he'
  cases hpl.symm.trans own.pl
  simp only [guard20, own.key, hpl, own.thread, hreq] at hg
  simp only [Bool.and_eq_true, List.contains_eq_mem, decide_eq_true_eq, beq_iff_eq, Bool.or_eq_true,
    Bool.not_eq_true'] at hg
  obtain ⟨⟨hpool, hrv⟩, hstrict⟩ := hg
  refine ⟨hpool, ?_, ?_⟩
  · intro hlt
    have hn : o ∉ rv := by
      rcases own.alloc with ⟨_, _, _, heq, hn⟩ | ⟨_, heq⟩ <;> cases heq
      exact hn
    rw [hrv, mem_resvOrds] at hn
    cases hx : inRanges env.ranges (env.base b + o) with
    | false => rfl
    | true => exact absurd ⟨hlt, hx⟩ hn
  · intro hst
    rcases hstrict with h1 | h1
    · rw [hst] at h1; cases h1
    · exact C19.own_guard hs h1 own.key (by rw [own.verb]; rfl) own.ok

/-- non-vacuity: a layout where a request is served from exactly one of three pools. -/
example : allowedPools
    [{ id := 0, enabled := true, uses := [.workload], nodeSel := 1, nsSel := 0, auto := true },
     { id := 1, enabled := false, uses := [.workload], nodeSel := 0, nsSel := 0, auto := true },
     { id := 2, enabled := true, uses := [.tunnel], nodeSel := 0, nsSel := 0, auto := true }]
    [] 1 0 .workload = some [0] := by decide

example : (autoAssign 2 1 [0, 2] { aff := some 0, slots := List.replicate 4 .free, unalloc := [0, 1, 2, 3] }).2 = [1, 3] := by
  decide

end CalicoVerif.C20
