import CalicoVerif.Proofs.C10
/-!
C10 — Workload traffic dispatch is exact and fails closed.

"Handed to the chain `c`" is expressed as: evaluation of the dispatch root chain reports `.missing c` — the endpoint
chains are not part of the dispatch chain set, so control left the dispatch chains towards exactly `c`.

`…_partial`: the prefix-tree theorems carry the guard "no configured name ends in the dataplane's wildcard byte"
(`+` / `*`), without which the property is false of the code (such a name is rendered as a pattern, see the last
`example`; unreachable for Calico-generated interface names), and the host theorem covers
`HostDispatchChains(endpoints, default, applyOnForward = false)` only; the two map-tracking theorems rest on an
idealised model of `felix/nftables/maps.go` (see their doc comments).  An empty configured name makes the real code
panic (`sortAndDivide = none`).  The chain-name side condition `chainNamesOK` is proved for every name list
(`workload_names_ok`, `host_names_ok`).
-/
namespace CalicoVerif.C10
open CalicoVerif.Netfilter

/-- The buckets computed by `sortAndDivideEndpointNamesToPrefixTree` partition exactly the
configured names by "common prefix + next byte", and the bucket of the bare common prefix is a
singleton (this is where sorting + adjacent de-duplication is needed). -/
theorem sortAndDivide_buckets {names : List Bytes} {t : Tree} (h : sortAndDivide names = some t) :
    TreeOK names t := sortAndDivide_ok h

/-- **Prefix-tree dispatch is exact** (any dataplane, any end rules, any chain set that contains
the tree's chains): a packet on a configured interface leaves the dispatch chains towards that
interface's endpoint chain and no other; any other packet reaches the end rules. -/
theorem tree_chain_exact_partial (env : Env) (chains : List Chain) (pkt : Packet) (d : IfDir)
    (names : List Bytes) (t : Tree) (chainName ifx epPfx : String) (endRules : List Rule)
    (G : Nat) (mark : Mark)
    (hsd : sortAndDivide names = some t)
    (hw : ∀ n ∈ names, n.getLast? ≠ some (wildcardByte env.dp))
    (hsub : ∀ c, c ∈ (buildTree env.dp chainName t epPfx d endRules ifx).1 ∨
                 c = (buildTree env.dp chainName t epPfx d endRules ifx).2 → c ∈ chains)
    (hnd : (chains.map (·.name)).Nodup)
    (hext : ∀ n ∈ names, lookupChain chains (endpointChainName epPfx n) = none) :
    (ifaceOf d pkt ∈ names →
      evalChain env chains pkt (G + 3) chainName mark =
        .missing (endpointChainName epPfx (ifaceOf d pkt))) ∧
    (ifaceOf d pkt ∉ names → ∃ F, 1 ≤ F ∧
      evalChain env chains pkt (G + 3) chainName mark =
        runRules env (evalChain env chains pkt F) pkt endRules mark) := by
  have hroot := lookupChain_of_mem hnd (hsub _ (Or.inr rfl))
  simp only [buildTree] at hroot
  have hchild : ∀ b ∈ t.buckets, (∀ n, b.2 ≠ [n]) → ∀ m,
      evalChain env chains pkt (G + 2) (childChainName chainName ifx t.commonPrefix b.1) m =
        runRules env (evalChain env chains pkt (G + 1)) pkt
          (b.2.map (endpointRule epPfx d) ++ endRules) m := fun b hb hm m =>
    evalChain_of_lookup (lookupChain_of_mem hnd (hsub _ (Or.inl
      (List.mem_filterMap.2 ⟨b, hb, childChain_multi _ _ _ _ _ _ b hm⟩)))) _ _
  obtain ⟨c, hc, h⟩ := tree_dispatch env _ _ pkt d mark names t chainName ifx epPfx endRules
    (sortAndDivide_ok hsd) hw hchild
  rw [evalChain_of_lookup hroot, h]
  constructor
  · intro hx
    rw [if_pos hx]
    rcases hc with rfl | rfl <;> exact evalChain_missing (hext _ hx) _ _
  · intro hx
    rw [if_neg hx]
    rcases hc with rfl | rfl
    · exact ⟨G + 2, by omega, rfl⟩
    · exact ⟨G + 1, by omega, rfl⟩

theorem tree_chain_deny (env : Env) (chains : List Chain) (pkt : Packet) (d : IfDir)
    (names : List Bytes) (t : Tree) (chainName epPfx : String) (reject : Bool) (G : Nat) (mark : Mark)
    (hsd : sortAndDivide names = some t)
    (hw : ∀ n ∈ names, n.getLast? ≠ some (wildcardByte env.dp))
    (hsub : ∀ c, c ∈ (buildTree env.dp chainName t epPfx d (unknownIfaceRules reject) "").1 ∨
                 c = (buildTree env.dp chainName t epPfx d (unknownIfaceRules reject) "").2 → c ∈ chains)
    (hnd : (chains.map (·.name)).Nodup)
    (hext : ∀ n ∈ names, lookupChain chains (endpointChainName epPfx n) = none) :
    evalChain env chains pkt (G + 3) chainName mark =
      if ifaceOf d pkt ∈ names then .missing (endpointChainName epPfx (ifaceOf d pkt))
      else .verdict (if reject then .reject else .drop) mark := by
  have h := tree_chain_exact_partial env chains pkt d names t chainName "" epPfx (unknownIfaceRules reject) G mark
    hsd hw hsub hnd hext
  split
  · rename_i hx; exact h.1 hx
  · rename_i hx
    obtain ⟨F, _, hF⟩ := h.2 hx
    rw [hF, runRules_deny]

/-- **Workload dispatch (iptables) is exact and fails closed**, both directions: traffic from /
to a configured workload interface goes to that interface's `cali-fw-` / `cali-tw-` chain,
traffic on any other interface is dropped (or rejected, per `FilterDenyAction`). -/
theorem workload_dispatch_exact_ipt_partial (names : List Bytes) (reject : Bool) (chains : List Chain)
    (pkt : Packet) (G : Nat) (mark : Mark)
    (hc : workloadDispatchChains .ipt reject names = some chains)
    (hw : ∀ n ∈ names, n.getLast? ≠ some (wildcardByte .ipt)) :
    evalChain (mkEnv .ipt names) chains pkt (G + 3) chainFromWl mark =
      (if pkt.inIface ∈ names then .missing (endpointChainName pfxFromWl pkt.inIface)
       else .verdict (if reject then .reject else .drop) mark) ∧
    evalChain (mkEnv .ipt names) chains pkt (G + 3) chainToWl mark =
      (if pkt.outIface ∈ names then .missing (endpointChainName pfxToWl pkt.outIface)
       else .verdict (if reject then .reject else .drop) mark) := by
  obtain ⟨hnd, hext⟩ := chainNamesOK_iff.1 (workload_names_ok .ipt reject names chains hc)
  obtain ⟨t, hsd, hc⟩ := workloadDispatch_chains hc
  simp only [List.mem_append, List.mem_map] at hext
  obtain ⟨hs1, hs2⟩ := mem_two_trees hc
  exact ⟨tree_chain_deny (mkEnv .ipt names) chains pkt .inp names t chainFromWl pfxFromWl reject G mark hsd hw hs1 hnd
      (fun n hn => hext _ (Or.inl ⟨n, hn, rfl⟩)),
    tree_chain_deny (mkEnv .ipt names) chains pkt .out names t chainToWl pfxToWl reject G mark hsd hw hs2 hnd
      (fun n hn => hext _ (Or.inr ⟨n, hn, rfl⟩))⟩

/-- **Workload dispatch (nftables verdict map) is exact and fails closed**: with the map
contents given by `DispatchMappings`, the root chain hands a packet on a configured interface to
that interface's chain, and denies everything else. -/
theorem workload_dispatch_exact_nft (names : List Bytes) (reject : Bool) (chains : List Chain)
    (pkt : Packet) (G : Nat) (mark : Mark)
    (hc : workloadDispatchChains .nft reject names = some chains) :
    evalChain (mkEnv .nft names) chains pkt (G + 2) chainFromWl mark =
      (if pkt.inIface ∈ names then .missing (endpointChainName pfxFromWl pkt.inIface)
       else .verdict (if reject then .reject else .drop) mark) ∧
    evalChain (mkEnv .nft names) chains pkt (G + 2) chainToWl mark =
      (if pkt.outIface ∈ names then .missing (endpointChainName pfxToWl pkt.outIface)
       else .verdict (if reject then .reject else .drop) mark) := by
  obtain ⟨hnd, hext⟩ := chainNamesOK_iff.1 (workload_names_ok .nft reject names chains hc)
  obtain ⟨t, hsd, hc⟩ := workloadDispatch_chains hc
  simp only [List.mem_append, List.mem_map] at hext
  have h1 : lookupChain chains chainFromWl =
      some (({ action := .vmap .src chainFromWl } : Rule) :: unknownIfaceRules reject) := by
    have := lookupChain_of_mem hnd (c := buildVmap chainFromWl .inp (unknownIfaceRules reject))
      (by rw [← hc]; simp)
    simpa [buildVmap] using this
  have h2 : lookupChain chains chainToWl =
      some (({ action := .vmap .dst chainToWl } : Rule) :: unknownIfaceRules reject) := by
    have := lookupChain_of_mem hnd (c := buildVmap chainToWl .out (unknownIfaceRules reject))
      (by rw [← hc]; simp)
    simpa [buildVmap] using this
  constructor
  · rw [evalChain_of_lookup h1]
    by_cases hx : pkt.inIface ∈ names
    · rw [if_pos hx, runRules_vmap_hit _ _ (endpointChainName pfxFromWl pkt.inIface)]
      · exact evalChain_missing (hext _ (Or.inl ⟨_, hx, rfl⟩)) _ _
      · simp [mkEnv, vmapEnv_from, hx]
    · rw [if_neg hx, runRules_vmap_miss]
      · exact runRules_deny _ _ _ _ _
      · simp [mkEnv, vmapEnv_from, hx]
  · rw [evalChain_of_lookup h2]
    by_cases hx : pkt.outIface ∈ names
    · rw [if_pos hx, runRules_vmap_hit _ _ (endpointChainName pfxToWl pkt.outIface)]
      · exact evalChain_missing (hext _ (Or.inr ⟨_, hx, rfl⟩)) _ _
      · simp [mkEnv, vmapEnv_to, hx]
    · rw [if_neg hx, runRules_vmap_miss]
      · exact runRules_deny _ _ _ _ _
      · simp [mkEnv, vmapEnv_to, hx]

/-- **Host endpoint dispatch is exact** (`HostDispatchChains(endpoints, default, false)`, either
dataplane): known host interfaces go to their own `cali-fh-`/`cali-th-` chain; anything else goes
to the wildcard host endpoint's chain only if one is configured (and, towards a workload
interface prefix, not at all); with no wildcard endpoint the packet just returns. -/
theorem host_dispatch_exact_partial (dp : Dataplane) (names : List Bytes) (dflt : Bytes) (wlp : List Bytes)
    (chains : List Chain) (pkt : Packet) (G : Nat) (mark : Mark)
    (hc : hostDispatchChains dp names dflt wlp .both false = some chains)
    (hw : ∀ n ∈ names, n.getLast? ≠ some (wildcardByte dp)) :
    evalChain (mkEnv dp names) chains pkt (G + 3) "cali-from-host-endpoint" mark =
      (if pkt.inIface ∈ names then .missing (endpointChainName "cali-fh-" pkt.inIface)
       else if dflt = [] then .returned mark
       else .missing (endpointChainName "cali-fh-" dflt)) ∧
    evalChain (mkEnv dp names) chains pkt (G + 3) "cali-to-host-endpoint" mark =
      (if pkt.outIface ∈ names then .missing (endpointChainName "cali-th-" pkt.outIface)
       else if dflt = [] then .returned mark
       else if wlp.any (fun p => p.isPrefixOf pkt.outIface) then .returned mark
       else .missing (endpointChainName "cali-th-" dflt)) := by
  obtain ⟨hnd, hext⟩ := chainNamesOK_iff.1 (host_names_ok dp names dflt wlp chains hc)
  obtain ⟨t, hsd, hc⟩ := hostDispatch_trees hc
  simp only [List.mem_append, List.mem_map, List.mem_cons, List.not_mem_nil, or_false] at hext
  -- the wildcard endpoint's chains are not dispatch chains either
  have hmiss : ∀ pfx : String, lookupChain chains (endpointChainName pfx dflt) = none → ∀ F, 1 ≤ F →
      evalChain (mkEnv dp names) chains pkt F (endpointChainName pfx dflt) mark =
        .missing (endpointChainName pfx dflt) := by
    intro pfx hl F hF
    obtain ⟨F', rfl⟩ : ∃ F', F = F' + 1 := ⟨F - 1, by omega⟩
    exact evalChain_missing hl _ _
  obtain ⟨hs1, hs2⟩ := mem_two_trees hc
  constructor
  · have h := tree_chain_exact_partial (mkEnv dp names) chains pkt .inp names t "cali-from-host-endpoint" ""
      "cali-fh-" _ G mark hsd hw hs1 hnd (fun n hn => hext _ (Or.inl (Or.inl ⟨n, hn, rfl⟩)))
    split
    · rename_i hx; exact h.1 hx
    · rename_i hx
      obtain ⟨F, hF1, hF⟩ := h.2 hx
      rw [hF, hostFromEnd]
      by_cases hd : dflt = []
      · rw [if_pos hd, if_neg (not_not_intro hd)]; rfl
      · rw [if_neg hd, if_pos hd, runRules_goto_only]
        exact hmiss _ (hext _ (Or.inr (Or.inl rfl))) F hF1
  · have h := tree_chain_exact_partial (mkEnv dp names) chains pkt .out names t "cali-to-host-endpoint" ""
      "cali-th-" _ G mark hsd hw hs2 hnd (fun n hn => hext _ (Or.inl (Or.inr ⟨n, hn, rfl⟩)))
    split
    · rename_i hx; exact h.1 hx
    · rename_i hx
      obtain ⟨F, hF1, hF⟩ := h.2 hx
      rw [hF, hostToEnd]
      by_cases hd : dflt = []
      · rw [if_pos hd, if_neg (not_not_intro hd), if_neg (not_not_intro hd)]; rfl
      · rw [if_neg hd, if_pos hd, if_pos hd]
        exact (runRules_skipWorkload (mkEnv dp names) _ pkt wlp _ mark).trans
          (by split
              · rfl
              · rw [runRules_goto_only]; exact hmiss _ (hext _ (Or.inr (Or.inr rfl))) F hF1)

/-- **`AddOrReplaceMap` + one successful `Apply()` converges from any prior TRACKED state of the
map**: afterwards the (tracked) kernel content is exactly the new member set — nothing at all when
the new set is empty.

`_partial`, and modest: the model (`Model/C10.lean`, `MapState`) is
`desired := m; dataplane := (dataplane \ toDel) ++ toAdd`, so this theorem is little more than the
set algebra of that definition (`(D \ (D \ m)) ∪ (m \ D) = m`).  What it does NOT cover:
`Dataplane()` is taken to be the real kernel content (no out-of-band change, no
`LoadDataplaneState` resync), every transaction succeeds (no failure / retry paths), and "any
history" only means "any start value of the tracked state".  Whether the real `maps.go` computes
these sets (e.g. the seeded early return of `AddOrReplaceMap` on the empty set) is checked by the
harness on the real `nftables.Maps` over the knftables fake, not by this theorem. -/
theorem maps_apply_exact_partial (s : MapState) (m : List Member) (e : Member) :
    e ∈ ((s.addOrReplace m).apply).dataplane ↔ e ∈ m := mapState_apply_mem s m e

/-- **nftables workload dispatch is exact on the map state reached from any prior tracked state**
(in particular any state left by earlier workload-interface sets, including transitions to and
from the empty set): once the endpoint manager has pushed the set `names` through
`AddOrReplaceMap` and one successful `Apply()`, a packet on a configured interface is handed to
that interface's chain and any other interface — in particular one that WAS configured earlier —
is denied.  `_partial` for the same reason as `maps_apply_exact_partial`: the map tracking is the
idealised `MapState` model (arbitrary start state; no resync, failure or retry). -/
theorem nft_dispatch_after_history_partial (s : MapsState) (names : List Bytes) (reject : Bool) (chains : List Chain)
    (pkt : Packet) (G : Nat) (mark : Mark)
    (hc : workloadDispatchChains .nft reject names = some chains) :
    evalChain (s.setWorkloads names).env chains pkt (G + 2) chainFromWl mark =
      (if pkt.inIface ∈ names then .missing (endpointChainName pfxFromWl pkt.inIface)
       else .verdict (if reject then .reject else .drop) mark) ∧
    evalChain (s.setWorkloads names).env chains pkt (G + 2) chainToWl mark =
      (if pkt.outIface ∈ names then .missing (endpointChainName pfxToWl pkt.outIface)
       else .verdict (if reject then .reject else .drop) mark) := by
  rw [setWorkloads_env]
  exact workload_dispatch_exact_nft names reject chains pkt G mark hc

/-- "cali1", "cali12", "calix" — a child chain for bucket `cali1`, a direct rule for `calix`. -/
def exNames : List Bytes := [[99,97,108,105,49], [99,97,108,105,49,50], [99,97,108,105,120]]

theorem sortNames_exNames : sortNames exNames = exNames :=
  List.mergeSort_of_pairwise (by decide)

example : (sortAndDivide exNames).isSome = true := by
  simp only [sortAndDivide, sortNames_exNames]; decide
example : ∀ n ∈ exNames, n.getLast? ≠ some (wildcardByte .ipt) := by decide

/-- The wildcard guard is necessary: with the configured name "c+" (iptables) the rule
`--in-interface c+` also matches the unknown interface "cx", which is therefore sent to the
chain of "c+" instead of being dropped. -/
example : ifaceMatches .ipt [99, 43] [99, 120] = true := by decide
example :
    runRules (mkEnv .ipt [[99, 43]]) (fun t _ => .missing t) { inIface := [99, 120] }
      ([endpointRule pfxFromWl .inp [99, 43]] ++ unknownIfaceRules false) 0 ≠ .verdict .drop 0 := by
  decide

end CalicoVerif.C10
