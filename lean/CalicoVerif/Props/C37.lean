import CalicoVerif.Proofs.C37
import CalicoVerif.Proofs.C37Ident
/-!
C37 — Length-limited kernel object names never collide.

Property theorems (helper lemmas live in `CalicoVerif.Proofs.C37`, `C37Ident`; the tie theorems
`policyString_shape`, `policyID_shape`, `groupWrite_shape`, `kindShortTable_facts` stand in `C37Ident` too: the first
and the last are read by the format lemmas there; `tempIPSet_shape` is here).
`hash` (base64url of SHA-256) is an uninterpreted parameter; where its length
(43) or its collision-freeness matters this is an explicit HYPOTHESIS of the
theorem, never an axiom. Strings are arbitrary byte lists, prefixes and limits
are arbitrary unless a theorem names the generated constants
(`Gen/C37.lean`, regenerated from /repo on every run).

Model = the code after /repo d3812f3 and 6a0784d:
* d3812f3: the hash is cut to `min(room, len(hash))` characters (before, the
  code panicked when the room exceeded the 43 hash characters — oracle
  signature `panic-hash-slice`, corpus/C37/nft-long-identity-panics.ops);
* 6a0784d: an identity starting with `_` is hashed when its name would be as
  long as a shortened ID really is, `min(maxLength, len(prefix)+1+43)` (before,
  the guard compared with `maxLength`, so with room for the whole hash the
  verbatim identity `"_" ++ hash(x)` collided with `x` — oracle signature
  `collision-marker-fullhash`, corpus/C37/nft-marker-fullhash-collision.ops).

Guard (DESIGN §5): the empty suffix is replaced by `"_"`, so `""` and `"_"`
always get the same name (`empty_suffix_is_underscore`); the distinctness
theorems therefore require non-empty suffixes.
-/
namespace CalicoVerif.C37

variable (hash : Str → Str)

/-- Every name returned fits the limit. -/
theorem fits_limit {p s : Str} {m : Int} {n : Str} (h : getLengthLimitedID hash p s m = some n) :
    (n.length : Int) ≤ m := by
  cases hs : shortens p s m with
  | true => have sh := gll_shortened_some hs h; have := sh.length; have := sh.kept_eq; omega
  | false =>
    rw [gll_verbatim hs] at h
    simp only [Option.some.injEq] at h
    have := (shortens_false_iff.1 hs).1
    rw [← h, List.length_append]
    omega

/-- `GetLengthLimitedID` panics exactly when it has to shorten and there is no
room for even one hash character (the documented `log.Panicf` precondition). -/
theorem panics_iff (p s : Str) (m : Int) :
    getLengthLimitedID hash p s m = none ↔
      shortens p s m = true ∧ m - 1 - (p.length : Int) ≤ 0 := by
  cases hs : shortens p s m with
  | true =>
    rw [gll_shortened hs]
    by_cases h1 : m - 1 - (p.length : Int) ≤ 0 <;> simp [h1]
  | false => rw [gll_verbatim hs]; simp

/-- **Every identity gets a name** as soon as the limit leaves room for the
prefix, the marker and one hash character. -/
theorem always_named (p s : Str) (m : Int) (h1 : 0 < m - 1 - (p.length : Int)) :
    (getLengthLimitedID hash p s m).isSome = true := by
  cases h : getLengthLimitedID hash p s m with
  | some n => rfl
  | none => have := ((panics_iff hash p s m).1 h).2; omega

/-- Both dataplane limits leave that room for every dynamic chain-name prefix
(finite generated table: `decide`), so every policy / profile / endpoint
identity gets an iptables AND an nftables chain name. -/
theorem chains_always_named (p : Str) (hp : p ∈ Gen.dynamicPrefixes) (s : Str) :
    (getLengthLimitedID hash p s Gen.maxChainNameLengthIptables).isSome = true ∧
    (getLengthLimitedID hash p s Gen.maxChainNameLengthNftables).isSome = true := by
  have hall : ∀ q ∈ Gen.dynamicPrefixes,
      0 < Gen.maxChainNameLengthIptables - 1 - (q.length : Int) ∧
        0 < Gen.maxChainNameLengthNftables - 1 - (q.length : Int) := by decide +kernel
  exact ⟨always_named hash p s _ (hall p hp).1, always_named hash p s _ (hall p hp).2⟩

/-- The identity that used to panic (prefix `cali-pi-`, 249 bytes, nftables). -/
example : (policyChainName hash Gen.maxChainNameLengthIptables Gen.maxChainNameLengthNftables
      Gen.pfx_PolicyInboundPfx (List.replicate 249 97) true).isSome = true :=
  (chains_always_named hash _ (by decide) _).2

/-- Guard: the empty suffix and `"_"` are the same identity for this function. -/
theorem empty_suffix_is_underscore (p : Str) (m : Int) :
    getLengthLimitedID hash p [] m = getLengthLimitedID hash p [us] m := by
  simp [getLengthLimitedID]

/-- Names used verbatim are injective. -/
theorem injective_unhashed {p s1 s2 : Str} {m : Int} (h1 : s1 ≠ []) (h2 : s2 ≠ [])
    (u1 : shortens p s1 m = false) (u2 : shortens p s2 m = false)
    (h : getLengthLimitedID hash p s1 m = getLengthLimitedID hash p s2 m) : s1 = s2 := by
  rw [gll_verbatim u1, gll_verbatim u2, eff_of_ne_nil h1, eff_of_ne_nil h2] at h
  simp only [Option.some.injEq] at h
  exact List.append_cancel_left h

/-- A shortened name is exactly `shortenedLen = min(maxLength, len(prefix)+1+43)` long. -/
theorem shortened_length (hlen : ∀ s, (hash s).length = 43) {p s : Str} {m : Int} {n : Str}
    (u : shortens p s m = true) (h : getLengthLimitedID hash p s m = some n) :
    (n.length : Int) = shortenedLen p m := by
  have sh := gll_shortened_some u h
  have hl := sh.length
  have hk := sh.kept_eq
  have hpos := sh.room
  rw [hlen] at hk
  unfold shortenedLen
  omega

/-- **The `_` marker argument**, full strength (every limit, every prefix): a
shortened name never equals a verbatim name. Only hypothesis: the hash values
are 43 characters long. -/
theorem hashed_never_equals_unhashed (hlen : ∀ s, (hash s).length = 43)
    {p s1 s2 : Str} {m : Int} {n1 n2 : Str}
    (u1 : shortens p s1 m = true) (u2 : shortens p s2 m = false)
    (h1 : getLengthLimitedID hash p s1 m = some n1) (h2 : getLengthLimitedID hash p s2 m = some n2) :
    n1 ≠ n2 := by
  intro e
  have hl1 := shortened_length hash hlen u1 h1
  have hn1 := (gll_shortened_some u1 h1).eq
  rw [gll_verbatim u2] at h2
  simp only [Option.some.injEq] at h2
  obtain ⟨hle, hmark⟩ := shortens_false_iff.1 u2
  have hlen2 : (n2.length : Int) = (p.length : Int) + ((eff s2).length : Int) := by
    rw [← h2, List.length_append]; omega
  have heq : us :: (hash (eff s1)).take (kept hash p s1 m) = eff s2 := by
    have : p ++ us :: (hash (eff s1)).take (kept hash p s1 m) = p ++ eff s2 := by
      rw [← hn1, e, h2]
    exact List.append_cancel_left this
  apply hmark (by rw [← hlen2, ← e, hl1])
  rw [← heq]; rfl

/-- The identity that collided before 6a0784d — `"_" ++ hash x` with room for
the whole hash — is now itself shortened (for every hash with 43-character values). -/
theorem marker_twin_is_shortened (hlen : ∀ s, (hash s).length = 43) (p x : Str) (m : Int)
    (hroom : m - 1 - (p.length : Int) ≥ 43) : shortens p (us :: hash (eff x)) m = true := by
  rw [shortens_iff, eff_of_ne_nil (List.cons_ne_nil _ _), List.length_cons, hlen]
  right
  refine ⟨?_, rfl⟩
  unfold shortenedLen
  omega

/-- Two shortened names are equal only if the kept parts of the hashes are equal. -/
theorem injective_hashed {p s1 s2 : Str} {m : Int} {n : Str}
    (u1 : shortens p s1 m = true) (u2 : shortens p s2 m = true)
    (h1 : getLengthLimitedID hash p s1 m = some n) (h2 : getLengthLimitedID hash p s2 m = some n) :
    (hash (eff s1)).take (kept hash p s1 m) = (hash (eff s2)).take (kept hash p s2 m) := by
  have e1 := (gll_shortened_some u1 h1).eq
  have e2 := (gll_shortened_some u2 h2).eq
  have := List.append_cancel_left (e1.symm.trans e2)
  simpa using this

/-- … and when the room is at least the hash length, the WHOLE hashes are
equal: two shortened names then collide only on a genuine SHA-256 collision. -/
theorem injective_hashed_full (hlen : ∀ s, (hash s).length = 43) {p s1 s2 : Str} {m : Int} {n : Str}
    (hroom : 43 ≤ m - 1 - (p.length : Int))
    (u1 : shortens p s1 m = true) (u2 : shortens p s2 m = true)
    (h1 : getLengthLimitedID hash p s1 m = some n) (h2 : getLengthLimitedID hash p s2 m = some n) :
    hash (eff s1) = hash (eff s2) := by
  have h := injective_hashed hash u1 u2 h1 h2
  have k1 : kept hash p s1 m = 43 := by rw [kept_of_len hlen]; omega
  have k2 : kept hash p s2 m = 43 := by rw [kept_of_len hlen]; omega
  rw [k1, k2, List.take_of_length_le (by rw [hlen]; omega),
    List.take_of_length_le (by rw [hlen]; omega)] at h
  exact h

/-- **Distinct identities get distinct names**, full strength: same prefix and
limit, two different non-empty identities (which may start with `_`, sit at any
length, under any limit). Only hypotheses: hash values are 43 characters, and
the cryptographic one — the two hashes differ within the characters kept. -/
theorem names_distinct (hlen : ∀ s, (hash s).length = 43) {p s1 s2 : Str} {m : Int} {n1 n2 : Str}
    (hne : s1 ≠ s2) (h1 : s1 ≠ []) (h2 : s2 ≠ [])
    (hcrypto : (hash s1).take (min (m - 1 - (p.length : Int)) 43).toNat ≠
      (hash s2).take (min (m - 1 - (p.length : Int)) 43).toNat)
    (g1 : getLengthLimitedID hash p s1 m = some n1) (g2 : getLengthLimitedID hash p s2 m = some n2) :
    n1 ≠ n2 := by
  intro e
  subst e
  have e1 := eff_of_ne_nil h1
  have e2 := eff_of_ne_nil h2
  cases u1 : shortens p s1 m <;> cases u2 : shortens p s2 m
  · exact hne (injective_unhashed hash h1 h2 u1 u2 (g1.trans g2.symm))
  · exact hashed_never_equals_unhashed hash hlen u2 u1 g2 g1 rfl
  · exact hashed_never_equals_unhashed hash hlen u1 u2 g1 g2 rfl
  · have := injective_hashed hash u1 u2 g1 g2
    rw [kept_of_len hlen, kept_of_len hlen, e1, e2] at this
    exact hcrypto this

/-- Non-vacuity: an identity at the limit starting with `_` is shortened, its
neighbour not starting with `_` is used verbatim, one byte more is shortened. -/
example : shortens [99, 45] [95, 97] 4 = true ∧ shortens [99, 45] [97, 97] 4 = false ∧
    shortens [99, 45] [97, 97, 97] 4 = true := by decide +kernel
example : getLengthLimitedID (fun _ => List.replicate 43 65) [99, 45] [97, 97, 97] 4 =
    some [99, 45, 95, 65] := by decide +kernel
/-- Room for the whole hash (limit 60, prefix 2): a 44-byte identity starting with `_` is
shortened (6a0784d), a 44-byte identity not starting with `_` and a 45-byte one with `_` are verbatim. -/
example : shortens [99, 45] (95 :: List.replicate 43 65) 60 = true ∧
    shortens [99, 45] (97 :: List.replicate 43 65) 60 = false ∧
    shortens [99, 45] (95 :: List.replicate 44 65) 60 = false := by decide +kernel
/-- Room (57) larger than the hash: the whole 43-character hash is used. -/
example : getLengthLimitedID (fun _ => List.replicate 43 65) [99, 45] (List.replicate 70 97) 60 =
    some ([99, 45, 95] ++ List.replicate 43 65) := by decide +kernel

/-- Names built on two prefixes neither of which is a prefix of the other differ
(whatever the identities, limits and hash). -/
theorem cross_prefix_distinct {p1 p2 s1 s2 : Str} {m1 m2 : Int} {n1 n2 : Str}
    (hinc : incomparable p1 p2 = true)
    (g1 : getLengthLimitedID hash p1 s1 m1 = some n1) (g2 : getLengthLimitedID hash p2 s2 m2 = some n2) :
    n1 ≠ n2 := by
  obtain ⟨r1, rfl⟩ := gll_has_prefix g1
  obtain ⟨r2, rfl⟩ := gll_has_prefix g2
  exact append_ne_of_incomparable hinc r1 r2

/-- The dynamic chain-name prefixes of rule_defs.go (policy in/out, profile
in/out, group in/out, the endpoint prefixes) are pairwise incomparable
(finite generated table: `decide`). Policy-group chain names are
`prefix ++ uid`, so the same argument covers them. -/
theorem dynamic_prefixes_incomparable :
    ∀ a ∈ Gen.dynamicPrefixes, ∀ b ∈ Gen.dynamicPrefixes, a ≠ b → incomparable a b = true := by
  decide +kernel

theorem group_cross_prefix_distinct {p1 p2 u1 u2 : Str} (hinc : incomparable p1 p2 = true) :
    groupChainName p1 u1 ≠ groupChainName p2 u2 :=
  append_ne_of_incomparable hinc u1 u2

/-- Policy-group chain names: injective in the UID, and within both limits for a UID of
`maxPolicyGroupUIDLength` bytes. -/
theorem group_names (p u1 u2 : Str) :
    (groupChainName p u1 = groupChainName p u2 ↔ u1 = u2) ∧
    (p ∈ [Gen.pfx_PolicyGroupInboundPrefix, Gen.pfx_PolicyGroupOutboundPrefix] →
      u1.length = Gen.maxPolicyGroupUIDLength →
      ((groupChainName p u1).length : Int) ≤ Gen.maxChainNameLengthIptables ∧
      ((groupChainName p u1).length : Int) ≤ Gen.maxChainNameLengthNftables) := by
  constructor
  · exact ⟨fun h => List.append_cancel_left h, fun h => by rw [h]⟩
  · intro hp hu
    have hl : p.length = 8 := by
      simp only [List.mem_cons, List.not_mem_nil, or_false] at hp
      rcases hp with rfl | rfl <;> rfl
    simp only [groupChainName, List.length_append, hl, hu]
    decide

/-- `"cali-arp-dispatch"` (`ChainARPDispatch` / `NftablesARPDispatchMap`). -/
def arpDispatchName : Str := Gen.pfx_WorkloadARPPfx ++ [100, 105, 115, 112, 97, 116, 99, 104]

/-- Table fact (finite generated tables: `decide`): the only fixed chain name
that starts with a dynamic prefix is `cali-arp-dispatch` (under `cali-arp-`). -/
theorem static_names_vs_dynamic_prefixes :
    ∀ n0 ∈ Gen.staticNames, ∀ p ∈ Gen.dynamicPrefixes, isPrefix p n0 = true →
      n0 = arpDispatchName ∧ p = Gen.pfx_WorkloadARPPfx := by
  decide +kernel

/-- No policy / profile / endpoint / group chain name ever equals a fixed chain
name other than `cali-arp-dispatch` (`_partial`: for that one name the
statement is false, see `arp_dispatch_clash`). -/
theorem dynamic_never_equals_static_partial {n0 p s : Str} {m : Int}
    (hn : n0 ∈ Gen.staticNames) (hne : n0 ≠ arpDispatchName) (hp : p ∈ Gen.dynamicPrefixes) :
    getLengthLimitedID hash p s m ≠ some n0 ∧ ∀ uid, groupChainName p uid ≠ n0 := by
  constructor
  · intro h
    obtain ⟨r, e⟩ := gll_has_prefix h
    have := static_names_vs_dynamic_prefixes n0 hn p hp (by rw [e]; exact isPrefix_append p r)
    exact hne this.1
  · intro uid e
    have := static_names_vs_dynamic_prefixes n0 hn p hp (by rw [← e]; exact isPrefix_append p uid)
    exact hne this.1

/-- NEGATION WITNESS for the remaining name: the ARP chain of a workload
interface called `dispatch` IS the fixed chain `cali-arp-dispatch`, under both
limits (interface names normally carry the configured interface prefix, e.g.
`cali…`, so this needs an unusual `InterfacePrefix`). Reproduced on the real
code by the harness oracle (`collision-static-chain`). -/
theorem arp_dispatch_clash :
    arpDispatchName ∈ Gen.staticNames ∧
    endpointChainName hash Gen.pfx_WorkloadARPPfx [100, 105, 115, 112, 97, 116, 99, 104]
      Gen.maxChainNameLengthIptables = some arpDispatchName ∧
    endpointChainName hash Gen.pfx_WorkloadARPPfx [100, 105, 115, 112, 97, 116, 99, 104]
      Gen.maxChainNameLengthNftables = some arpDispatchName := by
  -- 17 bytes: below both limits, so the name is used verbatim (`hash` is never consulted)
  exact ⟨by decide +kernel, rfl, rfl⟩

/-- IP set names fit the limit, and two ids get the same name iff they agree on
the first `limit - len(prefix)` bytes. NOTE: this is the exact characterisation, not
"distinct IP sets get distinct names": set ids are themselves hashes, so distinctness of
the NAMES rests on the (cryptographic, unproved) assumption that two set ids differ
within their first `31 - len(prefix)` bytes. -/
theorem ipset_names (p s1 s2 : Str) (M : Nat) (hp : p.length ≤ M) :
    (combineAndTrunc p s1 M).length ≤ M ∧
    (combineAndTrunc p s1 M = combineAndTrunc p s2 M ↔
      s1.take (M - p.length) = s2.take (M - p.length)) := by
  rw [combineAndTrunc_eq, combineAndTrunc_eq]
  constructor
  · simp only [List.length_take]; omega
  · rw [List.take_append, List.take_append, List.take_of_length_le hp]
    exact ⟨fun h => List.append_cancel_left h, fun h => by rw [h]⟩

/-- Main and temporary IP set names never coincide: right after the versioned
prefix the main name carries `mainIpsetToken` and the temporary one
`tempIpsetToken` (single, different bytes), provided the limit leaves room for
prefix + version + token. -/
theorem ipset_temp_main_disjoint (np id : Str) (v6 : Bool) (a b : Nat) (n M : Nat)
    (hab : a ≠ b) (hroom : np.length + 2 ≤ M) :
    nameForMainIPSet np v6 [a] M id ≠ nameForTempIPSet np v6 [b] n := by
  intro e
  have := congrArg (fun l => l[np.length + 1]?) e
  simp only [nameForMainIPSet, mainSetNamePrefix, nameForTempIPSet, combineAndTrunc_eq] at this
  rw [List.getElem?_take_of_lt (by omega)] at this
  simp at this
  exact hab this

/-- … instantiated with the generated tokens (`"0"` vs `"t"`) and limit (31): for the
default `cali` prefix and any prefix of at most 29 bytes. -/
theorem ipset_temp_main_disjoint_gen (np id : Str) (v6 : Bool) (n : Nat) (hnp : np.length ≤ 29) :
    nameForMainIPSet np v6 Gen.mainIpsetToken Gen.maxIPSetNameLength id ≠
      nameForTempIPSet np v6 Gen.tempIpsetToken n :=
  ipset_temp_main_disjoint np id v6 48 116 n 31 (by decide) (by omega)

theorem tempIPSet_shape : Gen.nameForTempIPSetExpr = "fmt.Sprint(c.tempSetNamePrefix, n)" ∧
    Gen.mainIpsetToken = [48] ∧ Gen.tempIpsetToken = [116] := ⟨rfl, rfl, rfl⟩

example : nameForMainIPSet Gen.ipSetNamePrefix false Gen.mainIpsetToken Gen.maxIPSetNameLength
    [115, 58, 65, 66] = [99, 97, 108, 105, 52, 48, 115, 58, 65, 66] := by decide +kernel

/-! ### The identity strings themselves

Distinct objects must first of all have distinct identity strings: what is
passed as `suffix` (`PolicyID.ID()`, `ProfileID.ID()` = the name, the interface
name) and what `PolicyGroup.UniqueID()` feeds into its hash. The formats are
taken from the source by the translator (`policyString_shape`,
`policyID_shape`, `groupWrite_shape`, `kindShortTable_facts` are the tie
obligations: a changed format/shape no longer proves).

Alphabet guard = what v3 validation guarantees: names and namespaces are
DNS-1123 strings (`validName`: `a-z 0-9 - .`), kinds come from the
`KindShortName` table (`knownKind`), a selector contains no newline. -/

/-- A group whose fields respect the alphabet guard. -/
def Group.valid (g : Group) : Prop :=
  10 ∉ g.selector ∧ ∀ p ∈ g.policies, validName p.name ∧ validName p.namespace_ ∧ 10 ∉ p.kind

/-- `PolicyID.ID()` (the identity used for policy chain names) is injective on
validated policies: Kind, Namespace and Name all matter. -/
theorem policy_id_injective {p q : PolicyID} (kp : knownKind p.kind) (kq : knownKind q.kind)
    (hp : validName p.name ∧ validName p.namespace_) (hq : validName q.name ∧ validName q.namespace_)
    (h : p.id = q.id) : p = q :=
  policyID_injective kp kq
    ⟨validName_not_mem hp.1 not_dns_47, validName_not_mem hp.2 not_dns_47⟩
    ⟨validName_not_mem hq.1 not_dns_47, validName_not_mem hq.2 not_dns_47⟩ h

/-- Why the guard is needed: with `/` inside a name or namespace two different
policies have the same `ID()` (namespace `a/b` + name `c` vs namespace `a` + name `b/c`). -/
theorem policy_id_ambiguous_without_guard :
    (PolicyID.mk [99] [97, 47, 98] [78, 101, 116, 119, 111, 114, 107, 80, 111, 108, 105, 99, 121]).id =
    (PolicyID.mk [98, 47, 99] [97] [78, 101, 116, 119, 111, 114, 107, 80, 111, 108, 105, 99, 121]).id := by
  decide

/-- `PolicyID.String()` (what a policy contributes to a group's hash) is injective
on validated policies. -/
theorem policy_string_injective {p q : PolicyID}
    (hp : validName p.name ∧ validName p.namespace_) (hq : validName q.name ∧ validName q.namespace_)
    (h : p.string = q.string) : p = q :=
  policyString_injective
    ⟨validName_not_mem hp.1 not_dns_44, validName_not_mem hp.2 not_dns_44⟩
    ⟨validName_not_mem hq.1 not_dns_44, validName_not_mem hq.2 not_dns_44⟩ h

/-- **The bytes hashed by `PolicyGroup.UniqueID()` determine the group**:
direction, selector and the ORDERED list of policies including each policy's
Kind, Namespace and Name. -/
theorem group_prehash_injective {g1 g2 : Group} (v1 : g1.valid) (v2 : g2.valid)
    (h : g1.preHash = g2.preHash) : g1 = g2 := by
  have hdir : ∀ g : Group, 10 ∉ g.direction := by
    intro g; unfold Group.direction; split <;> decide
  have hitems : ∀ g : Group, g.valid → ∀ x ∈ g.items, 10 ∉ x := by
    intro g v x hx
    simp only [Group.items, List.mem_cons, List.mem_map] at hx
    rcases hx with rfl | rfl | rfl | ⟨p, hp, rfl⟩
    · exact v.1
    · exact hdir g
    · intro m; have := natDigits_range _ 10 m; omega
    · have := v.2 p hp
      exact policyString_no_newline
        ⟨validName_not_mem this.1 not_dns_10, validName_not_mem this.2.1 not_dns_10, this.2.2⟩
  unfold Group.preHash at h
  rw [groupWrite_shape.2.1] at h
  have hi := joinSep_injective (hitems g1 v1) (hitems g2 v2) h
  simp only [Group.items, List.cons.injEq] at hi
  obtain ⟨hs, hd, -, hp⟩ := hi
  have hpol := map_string_injective
    (fun p hp => ⟨validName_not_mem (v1.2 p hp).1 not_dns_44, validName_not_mem (v1.2 p hp).2.1 not_dns_44⟩)
    (fun p hp => ⟨validName_not_mem (v2.2 p hp).1 not_dns_44, validName_not_mem (v2.2 p hp).2.1 not_dns_44⟩) hp
  have hout : g1.outbound = g2.outbound := by
    unfold Group.direction at hd
    cases h1 : g1.outbound <;> cases h2 : g2.outbound <;> simp [h1, h2] at hd ⊢ <;>
      exact absurd hd (by decide)
  cases g1; cases g2
  simp only [Group.mk.injEq]
  exact ⟨hout, hs, hpol⟩

/-- **Distinct policy groups get distinct chain names.** Hypothesis: the
cryptographic one — the base64(SHA3-224) values of the two (different) pre-hash
strings differ within the characters kept. -/
theorem group_names_distinct (h3 : Bytes → Bytes) {g1 g2 : Group} (v1 : g1.valid) (v2 : g2.valid)
    (hne : g1 ≠ g2)
    (hcrypto : g1.preHash ≠ g2.preHash →
      (h3 g1.preHash).take Gen.maxPolicyGroupUIDLength ≠ (h3 g2.preHash).take Gen.maxPolicyGroupUIDLength) :
    g1.chainName h3 ≠ g2.chainName h3 := by
  have hpre : g1.preHash ≠ g2.preHash := fun e => hne (group_prehash_injective v1 v2 e)
  have huid := hcrypto hpre
  unfold Group.chainName Group.uniqueID
  cases h1 : g1.outbound <;> cases h2 : g2.outbound
  · simp only [Bool.false_eq_true, if_false]; exact fun e => huid (List.append_cancel_left e)
  · simp only [Bool.false_eq_true, if_false, if_true]
    exact group_cross_prefix_distinct (by decide)
  · simp only [Bool.false_eq_true, if_false, if_true]
    exact group_cross_prefix_distinct (by decide)
  · simp only [if_true]; exact fun e => huid (List.append_cancel_left e)

/-- **Distinct validated policies get distinct policy chain names** (same
direction prefix, same dataplane limit), composing `policy_id_injective` with
`names_distinct`. Hypotheses: hash values have 43 characters and the hashes of
the two ID strings differ within the characters kept. -/
theorem policy_chain_names_distinct (hlen : ∀ s, (hash s).length = 43) {p q : PolicyID}
    {pfx : Str} {m : Int} {n1 n2 : Str}
    (kp : knownKind p.kind) (kq : knownKind q.kind)
    (hp : validName p.name ∧ validName p.namespace_) (hq : validName q.name ∧ validName q.namespace_)
    (hne : p ≠ q)
    (hcrypto : (hash p.id).take (min (m - 1 - (pfx.length : Int)) 43).toNat ≠
      (hash q.id).take (min (m - 1 - (pfx.length : Int)) 43).toNat)
    (g1 : getLengthLimitedID hash pfx p.id m = some n1) (g2 : getLengthLimitedID hash pfx q.id m = some n2) :
    n1 ≠ n2 := by
  have hid : p.id ≠ q.id := fun e => hne (policy_id_injective kp kq hp hq e)
  have nonempty : ∀ r : PolicyID, r.id ≠ [] := by
    intro r; unfold PolicyID.id; split <;> simp
  exact names_distinct hash hlen hid (nonempty p) (nonempty q) hcrypto g1 g2

/-- An injective toy hash with 43-character values (pad / cut the input to 43
bytes): used to show that the hypotheses of the distinctness theorems are
JOINTLY satisfiable. -/
def toyHash (s : Str) : Str := (s ++ List.replicate 43 0).take 43

theorem toyHash_length (s : Str) : (toyHash s).length = 43 := by
  simp [toyHash, List.length_take]

/-- Joint non-vacuity of `names_distinct`: with the toy hash, `hlen` and `hcrypto`
hold together for two 5-byte identities that both need shortening under
prefix `c-`, limit 6; the conclusion is the concrete `c-_aaa ≠ c-_bbb`. -/
example : ([99, 45, 95, 97, 97, 97] : Str) ≠ [99, 45, 95, 98, 98, 98] :=
  names_distinct toyHash toyHash_length (p := [99, 45]) (m := 6)
    (s1 := [97, 97, 97, 97, 97]) (s2 := [98, 98, 98, 98, 98])
    (by decide) (by decide) (by decide) (by decide) (by decide) (by decide)

/-- Joint non-vacuity of `policy_chain_names_distinct`: NetworkPolicy `a` vs `b`
(no namespace) under `cali-pi-` and the iptables limit, with the toy hash. -/
example : ∀ n1 n2,
    getLengthLimitedID toyHash Gen.pfx_PolicyInboundPfx
      (PolicyID.mk [97] [] [78, 101, 116, 119, 111, 114, 107, 80, 111, 108, 105, 99, 121]).id
      Gen.maxChainNameLengthIptables = some n1 →
    getLengthLimitedID toyHash Gen.pfx_PolicyInboundPfx
      (PolicyID.mk [98] [] [78, 101, 116, 119, 111, 114, 107, 80, 111, 108, 105, 99, 121]).id
      Gen.maxChainNameLengthIptables = some n2 → n1 ≠ n2 := by
  intro n1 n2 g1 g2
  have hv : ∀ c : Nat, c = 97 ∨ c = 98 → dnsChar c := by
    intro c hc; unfold dnsChar; omega
  have hk : knownKind [78, 101, 116, 119, 111, 114, 107, 80, 111, 108, 105, 99, 121] :=
    ⟨([78, 101, 116, 119, 111, 114, 107, 80, 111, 108, 105, 99, 121], [110, 112]), by decide, rfl⟩
  refine policy_chain_names_distinct toyHash toyHash_length
    hk hk ⟨?_, ?_⟩ ⟨?_, ?_⟩ (by decide) (by decide) g1 g2
  · intro c hc; simp at hc; exact hv c (Or.inl hc)
  · intro c hc; simp at hc
  · intro c hc; simp at hc; exact hv c (Or.inr hc)
  · intro c hc; simp at hc

/-- Non-vacuity: a valid one-policy group and its pre-hash string. -/
example : (Group.mk false [97] [⟨[112], [110], [75]⟩]).preHash =
    [97, 10] ++ [105, 110, 98, 111, 117, 110, 100, 10] ++ [49, 10] ++
    [123, 78, 97, 109, 101, 58, 32, 112, 44, 32, 78, 97, 109, 101, 115, 112, 97, 99, 101, 58, 32, 110,
      44, 32, 75, 105, 110, 100, 58, 32, 75, 125, 10] := by
  have hd : natDigits 1 = [49] := by rw [natDigits]; rfl
  simp only [Group.preHash, Group.items, joinSep, Group.direction, List.length_cons, List.length_nil, hd,
    List.map]
  rfl
example : (Group.mk false [97] [⟨[112], [110], [75]⟩]).valid := by
  refine ⟨by decide, ?_⟩
  intro p hp
  simp only [List.mem_singleton] at hp
  subst hp
  refine ⟨?_, ?_, by decide⟩ <;> intro c hc <;> simp at hc <;> subst hc <;> unfold dnsChar <;> omega

end CalicoVerif.C37
