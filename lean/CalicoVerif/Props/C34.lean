import CalicoVerif.Proofs.C34Sem
import CalicoVerif.Gen.C34
/-!
C34 — Tiered policy authorization is correct and race-free.
-/
namespace CalicoVerif.C34

/-- The model's hand-written decision `allowed` IS the condition of the final `if` regenerated from
the source (all 27 decision triples). -/
theorem allowed_eq_generated (v : Vars) : allowed v = Gen.allowedCond v := by
  obtain ⟨a, b, c⟩ := v
  cases a <;> cases b <;> cases c <;> decide

/-- **Decision theorem.**  With an authorizer and readable attributes, for ALL answers
(decision × error, 3 × 2 per check) of the three checks and for EVERY interleaving of the three
stores (any schedule in which each goroutine runs, in any order), the request is allowed exactly
when the user may GET the tier and may perform the operation on the policy's name or on the
tier's wildcard; errors returned by the authorizer do not change the outcome. -/
theorem authz_iff (ans : Nat → Answer) (sched : List Nat)
    (h0 : 0 ∈ sched) (h1 : 1 ∈ sched) (h2 : 2 ∈ sched) :
    authorizeTierOp true true ans sched = .allow ↔
      ((ans 0).d = .allow ∧ ((ans 1).d = .allow ∨ (ans 2).d = .allow)) := by
  unfold authorizeTierOp allowed
  simp only [Bool.not_true, Bool.false_eq_true, if_false, runSchedule_eq, h0, h1, h2, if_true]
  cases (ans 0).d <;> cases (ans 1).d <;> cases (ans 2).d <;> simp

/-- The outcome (including which Forbidden message) is the same for every schedule. -/
theorem schedule_independent (ans : Nat → Answer) (s1 s2 : List Nat)
    (h : ∀ g, g < 3 → (g ∈ s1 ∧ g ∈ s2)) (a b : Bool) :
    authorizeTierOp a b ans s1 = authorizeTierOp a b ans s2 := by
  have h0 := h 0 (by omega); have h1 := h 1 (by omega); have h2 := h 2 (by omega)
  unfold authorizeTierOp allowed
  simp only [runSchedule_eq, h0.1, h0.2, h1.1, h1.2, h2.1, h2.2, if_true]

/-- Fail closed: anything but `allow` from the tier GET forbids, with the "cannot get tier" message. -/
theorem no_tier_get_forbids (ans : Nat → Answer) (sched : List Nat) (h0 : 0 ∈ sched)
    (h : (ans 0).d ≠ .allow) : authorizeTierOp true true ans sched = .forbiddenNoGet := by
  unfold authorizeTierOp allowed
  simp only [Bool.not_true, Bool.false_eq_true, if_false, runSchedule_eq, h0, if_true]
  cases hd : (ans 0).d <;> simp_all

example : authorizeTierOp true true (fun g => if g = 1 then ⟨.deny, true⟩ else ⟨.allow, false⟩) [2, 0, 1] = .allow := by decide +kernel
example : authorizeTierOp true true (fun g => if g = 0 then ⟨.noOpinion, false⟩ else ⟨.allow, false⟩) [0, 1, 2] = .forbiddenNoGet := by decide +kernel

/-- **Race freedom.**  The access structure regenerated from the current source has no data race:
no captured variable is written by one goroutine and touched by another, nor written/read by the
main goroutine while a goroutine that touches it is already running. -/
theorem race_free : raceFree Gen.program = true := by decide +kernel

/-- Each decision variable is written by exactly one goroutine, and the three are distinct. -/
theorem decisions_single_writer :
    Gen.decisionVars.Nodup ∧
    ∀ v ∈ Gen.decisionVars, ((Gen.program.goroutines.filter (fun g => g.writes.contains v)).length = 1) := by
  decide

/-- Regression witness about the OLD shape of the function (before repo commit 4b22d3f every
goroutine assigned the captured outer `err`, variable 1): the checker reports exactly that. -/
def oldProgram : Program :=
  { goroutines := [⟨[2, 1], [3, 4, 5, 1, 6, 7]⟩, ⟨[8, 1], [3, 4, 5, 1, 9, 10, 7]⟩, ⟨[11, 1], [3, 4, 5, 1, 9, 6, 10, 7]⟩],
    mainBetween := [⟨[8, 11, 9, 10], [4, 10]⟩, ⟨[], []⟩, ⟨[], []⟩],
    afterJoinReads := [4, 2, 8, 11, 12, 13, 6] }

theorem old_shape_is_racy :
    raceFree oldProgram = false ∧ ∀ c ∈ conflicts oldProgram, c.var = 1 := by decide +kernel

example : raceFree ⟨[⟨[1], [3]⟩, ⟨[2], [3]⟩], [⟨[], []⟩, ⟨[], []⟩], [1, 2]⟩ = true := by decide +kernel
example : conflicts ⟨[⟨[1, 9], [3]⟩, ⟨[2, 9], [3]⟩], [⟨[], []⟩, ⟨[], []⟩], [1, 2]⟩ = [⟨9, 0, 1⟩] := by decide +kernel
/-- main writes a variable while an already started goroutine reads it -/
example : conflicts ⟨[⟨[1], [3]⟩, ⟨[2], []⟩], [⟨[3], []⟩, ⟨[], []⟩], []⟩ = [⟨3, 100, 0⟩] := by decide +kernel

/-- **Semantic race-freedom theorem.**  For EVERY fork-join access program `P` the checker
accepts, every family of goroutines that stays within `P`'s access sets, and every initial store:
any two interleavings (arbitrary schedules preserving each goroutine's program order) end in the
same store.  So the goroutine/goroutine half of `conflicts P = []` (the only half the proof reads) really means
"the join sees one result whatever the schedule"; `mainBetween` and `afterJoinReads` have no counterpart in
`run`/`IsInterleaving`. -/
theorem race_free_deterministic {P : Program} (hrf : raceFree P = true)
    {progs : List (List Step)} (href : Refines progs P) {tr1 tr2 : List Event}
    (h1 : IsInterleaving progs tr1) (h2 : IsInterleaving progs tr2) (σ : Store) :
    run tr1 σ = run tr2 σ := by
  have hc := (raceFree_iff P).1 hrf
  apply run_eq_of_proj_eq
  · intro a ha b hb hab
    obtain ⟨p, hp, hap⟩ := mem_getD (h1 a.1 ▸ mem_proj.2 ha)
    obtain ⟨q, hq, hbq⟩ := mem_getD (h1 b.1 ▸ mem_proj.2 hb)
    by_cases hlt : a.1 < b.1
    · exact indep_of_lt hc href hp hq hlt hap hbq
    · have hgt : b.1 < a.1 := by omega
      exact (indep_of_lt hc href hq hp hgt hbq hap).symm
  · intro g; rw [h1 g, h2 g]

/-- Instance for the function under check: whatever the three goroutines of
AuthorizeTierOperation compute from the variables the translator saw them read, into the
variables it saw them write, the state at `wg.Wait()` does not depend on the schedule. -/
theorem authorizer_goroutines_deterministic {progs : List (List Step)} (href : Refines progs Gen.program)
    {tr1 tr2 : List Event} (h1 : IsInterleaving progs tr1) (h2 : IsInterleaving progs tr2) (σ : Store) :
    run tr1 σ = run tr2 σ :=
  race_free_deterministic race_free href h1 h2 σ

/-- Not vacuous: for two one-step goroutines writing variables 1 and 2 from variable 3 both orders are
interleavings. -/
example : let s1 : Step := ⟨1, [3], fun l => l.sum⟩; let s2 : Step := ⟨2, [3], fun l => l.sum + 1⟩
    IsInterleaving [[s1], [s2]] [(0, s1), (1, s2)] ∧ IsInterleaving [[s1], [s2]] [(1, s2), (0, s1)] := by
  intro s1 s2
  constructor <;> intro g <;> (match g with | 0 => rfl | 1 => rfl | n + 2 => rfl)

/-- The hypothesis matters: with a conflict the two orders differ. -/
example : let s1 : Step := ⟨1, [], fun _ => 7⟩; let s2 : Step := ⟨1, [], fun _ => 9⟩
    run [(0, s1), (1, s2)] (fun _ => 0) 1 ≠ run [(1, s2), (0, s1)] (fun _ => 0) 1 := by decide +kernel

end CalicoVerif.C34
