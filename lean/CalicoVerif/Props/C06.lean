import CalicoVerif.Proofs.C06Roundtrip
import CalicoVerif.Proofs.C06Wf
import CalicoVerif.Proofs.C06Validate
/-!
C06 — Selectors keep their meaning through canonical formatting.

Property theorems only; helper lemmas live in `CalicoVerif.Proofs.C06*`, the
model in `CalicoVerif.Model.C06{Tokenizer,Ast,Parser}`.

Statement of the property: for every selector expression `s` the parser accepts
(`parse s = ok t`), the canonical text `t.text` parses back to a selector that
(a) matches the same label sets, (b) has the same canonical text, (c) has the
same identity hash; and (d) `Validate` accepts exactly what `Parse` accepts.
All four are proved at full strength for the current code.

Before /repo commit aa96e01 ("fix: keep nested negations distinct in a selector's
canonical text") (b) and (c) were false of the code: `!(!has(a))` parsed to
`Not(Not(Has a))`, was printed as `!!has(a)`, and that text re-parses to `has(a)`
(the parser folds a run of `!`).  The printer parenthesises a directly nested
negation since; the harness oracle reports signature `nested-not` should the old
behaviour come back (`corpus/C06/nested-not.ops` replays the witness on every run).
-/
namespace CalicoVerif.C06

/-- Everything `Parse` returns is well-formed: labels are non-empty identifiers of
at most 512 bytes, string values lack one of the two quote characters, set
literals are strictly ascending (sorted, de-duplicated), `&&`/`||` nodes have at
least two operands. -/
theorem parse_wf {s : Str} {t : Node} (h : parse s = .ok t) : WF t := WF.of_parse h

/-- FULL: `parse ∘ print = id` on every well-formed tree. -/
theorem parse_print_roundtrip {t : Node} (h : WF t) : parse t.text = .ok t :=
  parse_text t h

/-- FULL: re-parsing the canonical text of an accepted selector returns the very
same tree. -/
theorem reparse_exact {s : Str} {t : Node} (h : parse s = .ok t) : parse t.text = .ok t :=
  parse_text t (parse_wf h)

/-- FULL: the canonical text of every accepted selector parses back to a selector
that matches exactly the same label maps. -/
theorem reparse_same_eval {s : Str} {t : Node} (h : parse s = .ok t) :
    ∃ t', parse t.text = .ok t' ∧ ∀ labels : Labels, t'.eval labels = t.eval labels :=
  ⟨t, reparse_exact h, fun _ => rfl⟩

/-- FULL: … to a selector with the same canonical text. -/
theorem reparse_same_text {s : Str} {t : Node} (h : parse s = .ok t) :
    ∃ t', parse t.text = .ok t' ∧ t'.text = t.text :=
  ⟨t, reparse_exact h, rfl⟩

/-- FULL: … and the same identity hash, for every hash function. -/
theorem reparse_same_id (H : Str → Str) {s : Str} {t : Node} (h : parse s = .ok t) :
    ∃ t', parse t.text = .ok t' ∧ t'.uniqueID H = t.uniqueID H :=
  ⟨t, reparse_exact h, rfl⟩

/-- `!(!has(a))`, which did not round-trip before /repo aa96e01. -/
def nestedNotInput : Str := ['!','(','!','h','a','s','(','a',')',')']
example : parse nestedNotInput = .ok (.not (.not (.has ['a']))) := by rfl
example : (Node.not (.not (.has ['a']))).text = nestedNotInput := by decide
/-- `!!has(a)` is accepted and folded by the parser (`has(a)`); it is nothing the printer emits. -/
example : parse ['!','!','h','a','s','(','a',')'] = .ok (.has ['a']) := by rfl

/-- FULL: `Validate` fails with exactly the error `Parse` fails with. -/
theorem validate_error_iff_parse_error (s : Str) (e : Err) :
    validate s = .error e ↔ parse s = .error e := by
  rw [validate_eq_parse]
  cases parse s with
  | error e' => simp
  | ok t => simp

/-- FULL: `Validate` accepts an expression iff `Parse` accepts it. -/
theorem validate_iff_parse (s : Str) : validate s = .ok () ↔ ∃ t, parse s = .ok t := by
  rw [validate_eq_parse]
  cases parse s with
  | error e => simp
  | ok t => simp

/-- The canonical text determines the tree: two well-formed trees (in particular two
parser-built selectors) with the same canonical text are the same tree.  (This is
what makes `Selector.Equal`, which compares hashes of the text, an equality test
on selectors.) -/
theorem text_injective {t1 t2 : Node} (h1 : WF t1) (h2 : WF t2) (h : t1.text = t2.text) : t1 = t2 :=
  WF.text_inj h1 h2 h

/-- The model's `fuel` is a pure totalisation device: `Tokenize`, `Parse` and
`Validate` never return the model-only error `Err.fuel`. -/
theorem tokenize_ne_fuel (s : Str) : tokenize s ≠ .error .fuel := (tokenize_good s).ne_fuel
theorem parse_ne_fuel (s : Str) : parse s ≠ .error .fuel := (parse_good s).ne_fuel
theorem validate_ne_fuel (s : Str) : validate s ≠ .error .fuel :=
  fun h => parse_ne_fuel s ((validate_error_iff_parse_error s .fuel).1 h)

/-- `(a == "x" && !has(b)) || c in {"p", "q"}` … -/
def sampleTree : Node :=
  .or [.and [.eq ['a'] ['x'], .not (.has ['b'])], .inSet ['c'] [['p'], ['q']]]

example : WF sampleTree := by
  simp [sampleTree, WF, WFList, ValidLabel, QuoteSafe, StrictSorted, maxLabelLength, strLt]
  decide
example : parse sampleTree.text = .ok sampleTree := by rfl
/-- an accepted input whose tree differs from the input text's shape (sorting,
de-duplication, quote normalisation, `notin`). -/
example : parse ['a',' ','n','o','t','i','n','{','\'','q','\'',',','"','p','"',',','\'','q','\'','}'] =
    .ok (.notInSet ['a'] [['p'], ['q']]) := by rfl
example : validate ['a',' ','=','='] = .error .expectedString := by rfl
example : parse ['a',' ','=','='] = .error .expectedString := by rfl

/-- The canonical text of every accepted expression is itself accepted by `Validate`
(so a canonical selector stored back into the datastore never fails validation). -/
theorem validate_accepts_canonical {s : Str} {t : Node} (h : parse s = .ok t) :
    validate t.text = .ok () :=
  (validate_iff_parse t.text).2 ⟨t, reparse_exact h⟩

/-- Canonicalisation is idempotent: the canonical text of the re-parsed canonical text is the
canonical text (`Parse(sel.String()).String() == sel.String()` at every depth of repetition). -/
theorem canonical_idempotent {s : Str} {t t' : Node} (h : parse s = .ok t)
    (h' : parse t.text = .ok t') : t'.text = t.text := by
  rw [reparse_exact h] at h'
  cases h'
  rfl

/-- Two accepted expressions with the same canonical text are the same selector (same tree),
hence match exactly the same label sets. -/
theorem same_text_same_selector {s1 s2 : Str} {t1 t2 : Node} (h1 : parse s1 = .ok t1)
    (h2 : parse s2 = .ok t2) (h : t1.text = t2.text) : t1 = t2 :=
  text_injective (parse_wf h1) (parse_wf h2) h
end CalicoVerif.C06
