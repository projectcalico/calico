import CalicoVerif.Proofs.C25Conc
/-!
C25 — Reconnecting to Typha converges without stale or lost resources.

The system (`Sys`, `Sys.step`, `Op`) is defined in
`Proofs/C25.lean`: the model of the real `DedupeBuffer` (`Model/C25.lean`) driven
by an ARBITRARY list of ops

  `upd us`          upstream `OnUpdates(us)`            (any updates, any keys, sets and deletions)
  `status s order`  upstream `OnStatusUpdated(s)`       (`order` = Go map iteration order, arbitrary)
  `restart`         upstream `OnTyphaConnectionRestarted()`
  `pull n`          the sender pulls one batch of at most `n` elements and the sink consumes it
                    (the real batch size is 100; the theorems hold for every `n`, i.e. any pace)

together with the observers the property speaks about:
  `down`   the downstream consumer's map (fold of everything delivered so far),
  `view`   the latest connection's view (fold of every update since the last `restart`),
  `insync` the latest connection has reported InSync (reset by `restart`),
  `log`    every delivered update paired with "downstream held that key just before",
  `wf`     upstream never deleted a key that was absent from the connection's view.
-/
namespace CalicoVerif.C25

/-- No update is left in the queue (status elements may remain). -/
abbrev Drained (b : Buf) : Prop := ups b.pending = []

/-- **Convergence** (main statement of C25).  After ANY interleaving of upstream updates,
status changes, restarts and downstream pulls of any size: if the latest connection has reported
in-sync and the queue holds no update, then the downstream map equals the latest connection's view,
key by key — keys missing from the new connection have been deleted, keys it did not change are
still there with the connection's value, nothing stale survives. -/
theorem dedupe_converges (ops : List Op) :
    let s := Sys.init.run ops
    s.insync = true → Drained s.buf → ∀ k, s.down k = s.view k := by
  intro s hi hd k
  have h : Inv s := Inv.init.run ops
  refine h.down_eq_view k (fun n hn => ?_) (fun x hx => ?_)
  · rw [h.insync hi] at hn; cases hn
  · rw [hd] at hx; cases hx

/-- The buffer always drains: single-batch pulls of any positive size, at least as many as the queue is long,
empty the queue without changing what upstream has said. -/
theorem pulls_drain (n : Nat) : ∀ (j : Nat) (s : Sys), s.buf.pending.length ≤ j →
    let s' := s.run (List.replicate j (.pull (n + 1)))
    s'.buf.pending = [] ∧ s'.view = s.view ∧ s'.insync = s.insync
  | 0, s, h => ⟨List.length_eq_zero_iff.mp (Nat.le_zero.mp h), rfl, rfl⟩
  | j + 1, s, h =>
    pulls_drain n j (s.step (.pull (n + 1))) (by
      show (s.buf.pending.drop (n + 1)).length ≤ j
      rw [List.length_drop]; omega)

/-- **Convergence, end to end**: whatever happened before, once the latest connection has reported
in-sync, letting the sender run (at any positive batch size) until the queue is empty leaves
downstream with exactly the latest connection's view. -/
theorem dedupe_converges_after_drain (ops : List Op) (n : Nat) :
    let s := Sys.init.run ops
    let s' := s.run (List.replicate s.buf.pending.length (.pull (n + 1)))
    s.insync = true → s'.buf.pending = [] ∧ ∀ k, s'.down k = s.view k := by
  intro s s' hi
  obtain ⟨h1, h2, h3⟩ := pulls_drain n _ s (Nat.le_refl _)
  refine ⟨h1, fun k => ?_⟩
  have hrun : s' = Sys.init.run (ops ++ List.replicate s.buf.pending.length (.pull (n + 1))) :=
    (List.foldl_append ..).symm
  have := dedupe_converges (ops ++ List.replicate s.buf.pending.length (.pull (n + 1)))
  rw [← hrun] at this
  rw [← h2]
  exact this (h3.trans hi) (by show ups s'.buf.pending = []; rw [h1]; rfl) k

/-- **New versus updated notifications match what downstream already holds**: every delivered
update that carries a value is typed `Updated` exactly when downstream held the key at the moment
of delivery and `New` otherwise — for every interleaving, including across restarts. -/
theorem update_type_consistent (ops : List Op) :
    ∀ e ∈ (Sys.init.run ops).log, e.1.val.isSome = true →
      e.1.ut = if e.2 = true then utUpdated else utNew :=
  (Inv.init.run ops).logT

/-- **No deletion of an unknown key**: if upstream is well-formed (it only deletes keys that are in
its connection's view — what a Typha server does), every deletion delivered downstream, including the
ones synthesised after a reconnection, is for a key downstream holds. -/
theorem no_delete_of_unknown (ops : List Op) :
    (Sys.init.run ops).wf = true →
      ∀ e ∈ (Sys.init.run ops).log, e.1.val = none → e.2 = true :=
  (Inv.init.run ops).logD

/-- The anchor state `liveResourceKeys` (updated at pull time) is at every moment exactly the set of
keys downstream holds. -/
theorem live_keys_exact (ops : List Op) (k : Key) :
    k ∈ (Sys.init.run ops).buf.live ↔ ((Sys.init.run ops).down k).isSome = true :=
  (Inv.init.run ops).live_iff k

/-- During a resync, keys of the old connection that the new connection has not (yet) mentioned are
kept downstream untouched (not lost, nothing queued for them) until the new connection reports
in-sync. -/
theorem unseen_keys_kept_during_resync (ops : List Op) (n : List Key) (k : Key) :
    (Sys.init.run ops).buf.notSeen = some n → k ∈ n →
      ((Sys.init.run ops).down k).isSome = true ∧ isPending (Sys.init.run ops).buf.pending k = false ∧
        (Sys.init.run ops).view k = none := by
  intro hn hk
  have h := Inv.init.run ops
  obtain ⟨h1, h2, h3⟩ := h.ns n hn k hk
  exact ⟨(h.live_iff k).mp h2, (isPending_false_iff _ _).mpr h1, h3⟩

/-- At most one queued update per key (the dedupe itself), always. -/
theorem one_queued_update_per_key (ops : List Op) :
    ((ups (Sys.init.run ops).buf.pending).map (·.key)).Nodup :=
  (Inv.init.run ops).nodup

/-- Fidelity of the system to the model functions the driver runs: the buffer component of an
`upd` step is exactly `onUpdates` (the other ops use `onStatus`, `onRestart`, `pullNextBatch`
verbatim in `Sys.step`). -/
theorem upd_step_buf (s : Sys) (us : List Upd) : (s.step (.upd us)).buf = onUpdates s.buf us := by
  show (us.foldl Sys.upd1 s).buf = us.foldl onUpdate s.buf
  induction us generalizing s with
  | nil => rfl
  | cons u us ih => simp only [List.foldl_cons]; rw [ih]; rfl

/-- **Pull/deliver commutation (simulation)**: the concurrent system `Sys2` — the sender pulls a batch under the
lock, then hands its elements to the sink one at a time while upstream `OnUpdates` / `OnStatusUpdated` /
`OnTyphaConnectionRestarted` calls interleave — is, after "finishing the in-flight batch", exactly the atomic
system on the corresponding history. -/
theorem concurrent_simulated_by_atomic (ops : List Op2) :
    (Sys2.init.run ops).abs = Sys.init.run (absOps Sys2.init ops) := by
  rw [run_abs, init_abs]

/-- **Convergence with deliveries interleaved**: for ANY interleaving of upstream calls, pulls and individual
deliveries, once the latest connection reported in-sync, the queue holds no update and the in-flight batch has
been handed over, downstream equals the latest connection's view. -/
theorem dedupe_converges_concurrent (ops : List Op2) :
    let s := Sys2.init.run ops
    s.insync = true → Drained s.buf → s.inflight = [] → ∀ k, s.down k = s.view k := by
  intro s hi hd hf k
  have hc := dedupe_converges (absOps Sys2.init ops)
  rw [← concurrent_simulated_by_atomic ops] at hc
  have := hc hi hd k
  simp only [Sys2.abs, show (Sys2.init.run ops).inflight = [] from hf, deliver] at this
  exact this

/-- **New/updated consistency with deliveries interleaved**: every update really handed to the sink so far is
typed `Updated` exactly when downstream held the key at that moment. -/
theorem update_type_consistent_concurrent (ops : List Op2) :
    ∀ e ∈ (Sys2.init.run ops).log, e.1.val.isSome = true →
      e.1.ut = if e.2 = true then utUpdated else utNew := by
  intro e he hv
  have hmem := log_sub_abs _ e he
  rw [concurrent_simulated_by_atomic ops] at hmem
  exact update_type_consistent _ e hmem hv

/-- Likewise for "no deletion of an unknown key" (well-formed upstream). -/
theorem no_delete_of_unknown_concurrent (ops : List Op2) :
    (Sys2.init.run ops).wf = true →
      ∀ e ∈ (Sys2.init.run ops).log, e.1.val = none → e.2 = true := by
  intro hw e he hv
  have hmem := log_sub_abs _ e he
  have hw' : (Sys2.init.run ops).abs.wf = true := hw
  rw [concurrent_simulated_by_atomic ops] at hmem hw'
  exact no_delete_of_unknown _ hw' e hmem hv

/-- An interleaving in which a restart and the new snapshot arrive while a batch is half delivered. -/
example :
    let s := Sys2.init.run
      [ .upd [⟨1, some 10, 1, 0⟩, ⟨2, some 20, 2, 0⟩], .status inSync [], .pullOnly 100, .deliverOne,
        .restart, .status waitForDatastore [], .upd [⟨2, some 21, 3, 0⟩], .deliverOne, .deliverOne,
        .status inSync [1], .pullOnly 100, .deliverOne, .deliverOne, .deliverOne, .deliverOne ]
    s.inflight = [] ∧ s.insync = true ∧ Drained s.buf ∧ s.down 1 = none ∧ s.down 2 = some (21, 3) ∧
      s.log.map (fun e => (e.1.key, e.1.ut, e.2)) =
        [(1, utNew, false), (2, utNew, false), (2, utUpdated, true), (1, utDeleted, true)] := by
  decide

/-- Connection 1 sends keys 1,2,3 and is in sync; downstream pulls; restart; connection 2 re-sends 1
(changed) and 2, deletes nothing explicitly, reports in-sync (key 3 must be deleted by synthesis);
then the queue drains two elements at a time. -/
def demoOps : List Op :=
  [ .upd [⟨1, some 10, 1, 0⟩, ⟨2, some 20, 2, 0⟩, ⟨3, some 30, 3, 0⟩], .status inSync [], .pull 100,
    .restart, .status waitForDatastore [], .status resyncInProgress [],
    .upd [⟨1, some 11, 4, 0⟩, ⟨2, some 20, 2, 0⟩], .status inSync [3],
    .pull 2, .pull 2, .pull 2 ]

example : (Sys.init.run demoOps).insync = true ∧ Drained (Sys.init.run demoOps).buf ∧
    (Sys.init.run demoOps).wf = true ∧
    (Sys.init.run demoOps).down 1 = some (11, 4) ∧ (Sys.init.run demoOps).down 2 = some (20, 2) ∧
    (Sys.init.run demoOps).down 3 = none ∧
    (Sys.init.run demoOps).log.map (fun e => (e.1.key, e.1.ut, e.2)) =
      [(1, utNew, false), (2, utNew, false), (3, utNew, false),
       (1, utUpdated, true), (2, utUpdated, true), (3, utDeleted, true)] := by
  decide

/-- Mid-resync state is reachable: not-seen set non-empty. -/
example : (Sys.init.run (demoOps.take 7)).buf.notSeen = some [3] := by decide

/-- Observation outside the C25 statement (status delivery, not the key/value view): on the bare
buffer a queued-but-undelivered InSync is dropped by a restart and the next InSync is then
suppressed as a duplicate, so the sink is never told InSync.  The real sync client always calls
`OnStatusUpdated(WaitForDatastore)` right after `OnTyphaConnectionRestarted()`, which makes this
history unreachable in production. -/
example : (Sys.init.run [.status inSync [], .restart, .status inSync []]).buf.pending = [] ∧
    (Sys.init.run [.status inSync [], .restart, .status inSync []]).buf.mostRecent = inSync := by
  decide

end CalicoVerif.C25
