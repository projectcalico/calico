import CalicoVerif.Proofs.C27
/-!
C27 — Felix configuration resolves by source priority, deterministically.

Property theorems only (vocabulary and helper lemmas: `CalicoVerif.Proofs.C27`; model:
`CalicoVerif.Model.C27`, of the code after commits be6f163 and f0ff295). All theorems quantify over
EVERY context `c : Ctx` (any parameter table, any parse function, any lower-casing function, any
total order on key names — `OrderOK`) and every assignment `srcs : Sources` of key lists (in any
order) to the six sources; `KeysNodup` says that a source is a Go map (exact keys distinct).

Both statements that were false of the code before those commits (DESIGN §5: a shadowed fatal value
set `Err`; two keys of one source differing only in case resolved in map order) hold at full
strength: `shadowed_irrelevant`, `order_independent`.
-/
namespace CalicoVerif.C27

/-- `resolve` fails (sets `Err`) iff some known parameter has a fatal value (`none` on a non-zero
parameter, or an invalid value of a die-on-parse-failure parameter) among the keys of ITS deciding
source — the highest-priority source that sets it, datastore sources not counting for local-only
parameters. (If that source spells the parameter several ways, each spelling counts.) Keys of lower
sources never matter. -/
theorem resolve_fatal_iff (c : Ctx) (srcs : Sources) : resolve c srcs = none ↔ FatalTop c srcs :=
  resolve_none_iff c srcs

/-- The executable `resolveP` used by the `Config` object model (it also yields the state left behind
by a failed run) agrees with `resolve`. -/
theorem resolveP_spec (c : Ctx) (srcs : Sources) :
    resolve c srcs = if (resolveP c srcs).2 then none else some (resolveP c srcs).1 :=
  foldl_stepP c (flat c srcs) St.empty

/-- For every known parameter, when `resolve` succeeds, the field holds exactly what the DECIDING key
says: its parsed value, the zero value for `none`, the default if it is invalid and not fatal
(`valOf`); it is left at what `applyDefaults` wrote (`lookup = none`) when no source sets it. -/
theorem resolve_by_priority (c : Ctx) (srcs : Sources) (st : St)
    (h : resolve c srcs = some st) (l : String) (m : Meta) (hk : c.known l = some m) :
    st.fields.lookup l = (winner c srcs l m).bind (fun t => valOf c m t.2.2) := by
  have hp := congrArg Prod.fst (resolve_proj c srcs st h l m hk)
  simp only [proj] at hp
  rw [hp]
  cases hw : winner c srcs l m with
  | none => rfl
  | some t =>
    simp only [Option.bind_some]
    cases hv : valOf c m t.2.2 with
    | some v => rfl
    | none =>
      exfalso
      -- the winner's value is parsed, so a fatal one would have failed `resolve`
      obtain ⟨ht, hmem, hkf, -⟩ := winner_top hw
      have hnone := (resolve_none_iff c srcs).2 ⟨l, m, t.1, t.2, hk, ht, hmem, hkf, hv⟩
      rw [h] at hnone; cases hnone

/-- Who the deciding key is, without reference to sorting: it sits in the highest-priority source
holding an admissible key for the parameter, and among that source's spellings of the parameter it
is the greatest one in the key order. It is unique. -/
theorem deciding_key_spec (c : Ctx) (ho : OrderOK c) (srcs : Sources) (hn : KeysNodup srcs)
    (l : String) (m : Meta) (t : Src × KV) :
    winner c srcs l m = some t ↔ IsWinner c srcs l m t :=
  winner_eq_some_iff c ho srcs hn l m t

/-- … and no source sets the parameter iff there is no deciding key. -/
theorem no_deciding_key_iff (c : Ctx) (srcs : Sources) (l : String) (m : Meta) :
    winner c srcs l m = none ↔ ∀ s, ¬ HasKey c srcs l m s :=
  winner_none_iff c srcs l m

/-- The source recorded in `nameToSource` for a parameter is the deciding one. -/
theorem resolve_source_by_priority (c : Ctx) (srcs : Sources) (st : St)
    (h : resolve c srcs = some st) (l : String) (m : Meta) (hk : c.known l = some m) :
    st.cur l = ((winner c srcs l m).map (fun t => t.1.prio)).getD 0 := by
  have hp := congrArg Prod.snd (resolve_proj c srcs st h l m hk)
  simp only [proj] at hp
  rw [hp]
  cases winner c srcs l m <;> rfl

/-- Deleting every shadowed key — every key of a known parameter that sits in a source below the one
that decides the parameter — changes neither `Err` nor any field, WHATEVER the shadowed values are
(invalid and fatal ones included). -/
theorem shadowed_irrelevant (c : Ctx) (ho : OrderOK c) (srcs : Sources) (hn : KeysNodup srcs) :
    SameResult c (resolve c srcs) (resolve c (pruneShadowed c srcs)) :=
  sameResult_of_topKey c ho srcs _ hn (keysNodup_filter hn _) (topKey_prune c srcs)

def wCtx (die nonZero : Bool) : Ctx :=
  { lower := fun s => if s = "P" then "p" else s
    known := fun l => if l = "p" then some ⟨"P", false, die, nonZero⟩ else none
    parse := fun _ raw => if raw = "1" then some "one" else if raw = "2" then some "two" else none
    keyLe := fun a b => decide (a ≤ b) }

theorem wCtx_orderOK (d z : Bool) : OrderOK (wCtx d z) where
  total a b := by
    simp only [wCtx, Bool.or_eq_true, decide_eq_true_eq]
    exact String.le_total a b
  trans a b d' h1 h2 := by
    simp only [wCtx, decide_eq_true_eq] at *
    exact String.le_trans h1 h2
  antisymm a b h1 h2 := by
    simp only [wCtx, decide_eq_true_eq] at *
    exact String.le_antisymm h1 h2

def wShadowed : Sources := fun s => match s with
  | .env => [("p", "1")] | .global => [("p", "bogus")] | _ => []
def wShadowedNone : Sources := fun s => match s with
  | .env => [("p", "1")] | .global => [("p", "none")] | _ => []

def wFatalTop : Sources := fun s => match s with | .env => [("p", "bogus")] | _ => []

theorem wSorted1 (d z : Bool) (w : Sources) (hw : ∀ s, (w s).length ≤ 1) (s : Src) :
    (w s).Pairwise (fun a b => (wCtx d z).keyLe a.1 b.1 = true) := by
  have := hw s
  match h : w s with
  | [] => exact List.Pairwise.nil
  | [_] => exact List.pairwise_singleton _ _
  | _ :: _ :: _ => rw [h] at this; simp at this

/-- The witness of before be6f163 (env `p=1`, global `p=bogus` on a die-on-parse-failure parameter; the
DESIGN §5 `MetadataPort` example) resolves. -/
theorem shadowed_fatal_regression :
    (resolve (wCtx true false) wShadowed).map (fun st => st.fields.lookup "p") = some (some (.parsed "one")) ∧
    (resolve (wCtx false true) wShadowedNone).map (fun st => st.fields.lookup "p") = some (some (.parsed "one")) ∧
    -- the same fatal value in the DECIDING source is still fatal
    resolve (wCtx true false) wFatalTop = none := by
  rw [resolve_eq_resolveSorted _ _ (wSorted1 _ _ _ (by intro s; cases s <;> simp [wShadowed])),
    resolve_eq_resolveSorted _ _ (wSorted1 _ _ _ (by intro s; cases s <;> simp [wShadowedNone])),
    resolve_eq_resolveSorted _ _ (wSorted1 _ _ _ (by intro s; cases s <;> simp [wFatalTop]))]
  refine ⟨by decide +kernel, by decide +kernel, by decide +kernel⟩

/-- The sources are Go maps: whatever order each source's keys are listed (iterated) in, `resolve`
gives the identical result — every field, the raw values, the recorded sources, and `Err` —
because it sorts the keys. -/
theorem order_independent (c : Ctx) (ho : OrderOK c) (srcs srcs' : Sources) (hn : KeysNodup srcs)
    (hp : ∀ s, (srcs' s).Perm (srcs s)) : resolve c srcs' = resolve c srcs := by
  have : flat c srcs' = flat c srcs := by
    unfold flat
    congr 1
    funext s
    rw [sortKeys_eq_of_perm c ho (hp s).symm (hn s)]
  unfold resolve
  rw [this]

def wOrderA : Sources := fun s => match s with | .file => [("P", "1"), ("p", "2")] | _ => []
def wOrderB : Sources := fun s => match s with | .file => [("p", "2"), ("P", "1")] | _ => []

theorem wOrderA_sorted (s : Src) :
    (wOrderA s).Pairwise (fun a b => (wCtx false false).keyLe a.1 b.1 = true) := by
  cases s <;> simp [wOrderA, wCtx] <;> decide

/-- The witness of before f0ff295: one source with keys `P=1` and `p=2`; both listing orders give the
value of the greater spelling `p`. -/
theorem case_variant_order_regression :
    (resolve (wCtx false false) wOrderA).map (fun st => st.fields.lookup "p") = some (some (.parsed "two")) ∧
    (resolve (wCtx false false) wOrderB).map (fun st => st.fields.lookup "p") = some (some (.parsed "two")) := by
  have hB : resolve (wCtx false false) wOrderB = resolve (wCtx false false) wOrderA :=
    order_independent _ (wCtx_orderOK _ _) _ _ (by intro s; cases s <;> simp [wOrderA])
      (by
        intro s
        cases s <;> simp only [wOrderA, wOrderB, List.Perm.refl]
        exact List.Perm.swap _ _ _)
  rw [hB, resolve_eq_resolveSorted _ _ wOrderA_sorted]
  refine ⟨by decide +kernel, by decide +kernel⟩

/-- Removing every datastore (non-local source) key of every local-only parameter changes NOTHING:
fields, raw values, recorded sources and `Err` are identical, whatever those keys' values are. -/
theorem nonlocal_ignored_for_local_params (c : Ctx) (ho : OrderOK c) (srcs : Sources) (hn : KeysNodup srcs) :
    resolve c (dropNonLocal c srcs) = resolve c srcs := by
  unfold resolve dropNonLocal
  rw [flat_filter c ho srcs hn (fun s kv => !nonLocalOfLocal c s kv)]
  exact foldlM_filter_ident (step c) _ (fun st t ht => step_nonLocal c st t ht) _ _

/-- Hence two assignments that differ only in such keys resolve identically. -/
theorem nonlocal_ignored_for_local_params' (c : Ctx) (ho : OrderOK c) (srcs srcs' : Sources)
    (hn : KeysNodup srcs) (hn' : KeysNodup srcs')
    (h : dropNonLocal c srcs = dropNonLocal c srcs') : resolve c srcs = resolve c srcs' := by
  rw [← nonlocal_ignored_for_local_params c ho srcs hn, ← nonlocal_ignored_for_local_params c ho srcs' hn', h]

def wOk : Sources := fun s => match s with
  | .env => [("P", "1")] | .global => [("p", "2")] | _ => []

example : KeysNodup wOk := by intro s; cases s <;> simp [wOk]
example : KeysNodup wOrderA := by intro s; cases s <;> simp [wOrderA]
example : (resolve (wCtx true true) wOk).map (fun st => st.fields.lookup "p") = some (some (.parsed "one")) := by
  rw [resolve_eq_resolveSorted _ _ (wSorted1 _ _ _ (by intro s; cases s <;> simp [wOk]))]; decide
example : IsWinner (wCtx true true) wOk "p" ⟨"P", false, true, true⟩ (.env, ("P", "1")) := by
  refine ⟨⟨⟨by decide, ("P", "1"), by simp [wOk], by decide⟩, ?_⟩, by simp [wOk], by decide, ?_⟩
  · intro s' hlt; cases s' <;> simp [Src.prio] at hlt <;> simp [HasKey, wOk]
  · intro kv' hkv' _; simp [wOk] at hkv'; subst hkv'; decide
example : (pruneShadowed (wCtx true true) wOk) .global = [] := by decide
example : (pruneShadowed (wCtx true false) wShadowed) .global = [] := by decide
def wLocalCtx : Ctx := { wCtx true true with known := fun l => if l = "p" then some ⟨"P", true, true, true⟩ else none }
example : (dropNonLocal wLocalCtx wShadowed) .global = [] := by decide

end CalicoVerif.C27
