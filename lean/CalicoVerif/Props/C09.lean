import CalicoVerif.Proofs.C09
/-!
C09 — Endpoint verdicts follow tier, pass, staged and profile semantics.

`endpoint_chain_verdict_partial`: over a chain set holding the rendered endpoint chain, its policy-group, policy and
profile chains, evaluation of the endpoint chain (every chain type) reaches exactly the reference verdict at policy
level.  Not covered: a `pass` rule in a profile — the profile chains are entered with the pass bit possibly still set
by the last tier and it is never cleared between profiles (`profile_pass_stale_false`; C12 owns the profile-pass
question).  Intermediate theorems: `CalicoVerif.Proofs.C09`.
-/
namespace CalicoVerif.C09
open CalicoVerif.Netfilter CalicoVerif.Policy CalicoVerif.C08

/-- **Rendered endpoint chain = reference verdict, every chain type** (`_partial`: the full
statement of the property is false of the code — `profile_pass_stale_false` — and this theorem
carries these hypotheses: admin-up (admin-down: `endpoint_admin_down_drops`), a failsafe chain — if
any — that lets the packet through, a packet outside the conntrack / encap preamble, the drop bit
clear on entry, profiles without pass rules, and every rule satisfying C08's per-rule exactness
`RuleExact`, which `ruleExact_of_le2` provides for every rule with at most two positive blocks).

Over a chain set holding the rendered endpoint chain, the policy-group chains of its non-inlined
groups, the policy chains of its enforced policies and its profile chains, for any number of tiers,
groups (any length), enforced / staged policies and profiles, with the outcomes taken at POLICY
level (`policyTiers`: each tier's enforced policies in evaluation order, `policyOutcome` = first
matching rule):
* normal chains (workload endpoints, host endpoints): RETURN with the accept bit iff
  `endpointVerdict` = allow, DROP/REJECT iff deny — tiers in order, first allow/deny decides, pass
  moves to the next tier, a tier holding an enforced policy that matches nothing denies unless its
  default action is Pass, staged policies never count, then the profiles, else deny;
* forward chains: no tiers ⇒ allowed; otherwise the tier verdict, undecided ⇒ returns to the caller
  with the accept bit clear;
* untracked / pre-DNAT chains: the tier verdict without end-of-tier drop; undecided ⇒ returns with
  the accept bit clear.

Chain names are inputs of the model (the real ones are hashes with distinct prefixes `cali-pi-` /
`cali-gi-` / `cali-pri-` …).  The statement carries name distinctness — `hn1`: a group chain name
identifies its group, `hn2`: a group chain name is neither the name of an inlined policy chain nor
of a profile chain — but the proof does not use it (`endpoint_chain_verdict` is the same statement
without them): every jump target is judged by the chain the chain set holds under its name, and where
two targets share a name the hypotheses `hgrp`/`hpol`/`hprof` speak about the same chain.
All hypotheses are satisfied TOGETHER by `joint_instance` below. -/
theorem endpoint_chain_verdict_partial (cfg : Cfg) (mo : MarksOK cfg) (vb : VBits cfg) (vd : VD cfg) (e : EpCfg)
    (env : Env) (pkt : Packet) (chains : List Chain) (name : String) (tiers : List Tier) (profiles : List String)
    (polRules : String → List Policy.Rule) (F : Nat) (m : Mark)
    (hup : e.adminUp = true)
    (hfs : e.failsafe ≠ "" → ∀ m', evalChain env chains pkt (F + 3) e.failsafe m' = .returned m')
    (hct : pkt.ctState ≠ "RELATED" ∧ pkt.ctState ≠ "ESTABLISHED" ∧ pkt.ctState ≠ "INVALID")
    (henc : (e.dropVXLAN = true → pkt.proto ≠ 17) ∧ (e.dropIPIP = true → pkt.proto ≠ 4))
    (hmD : m &&& cfg.markDrop = 0)
    (hep : lookupChain chains name = some (endpointChain cfg e name tiers profiles).rules)
    (hgrp : ∀ t ∈ tiers, ∀ g ∈ t.groups, g.inlined = false →
      lookupChain chains g.chain = some (policyGroupChain cfg g).rules)
    (hpol : ∀ t ∈ tiers, ∀ g ∈ t.groups, ∀ p ∈ g.pols, p.staged = false →
      PolicyChainOK cfg env pkt chains (polRules p.chain) p.chain)
    (hprof : ∀ p ∈ profiles, ProfileChainOK cfg env pkt chains (polRules p) p)
    (hn1 : ∀ t ∈ tiers, ∀ g ∈ t.groups, g.inlined = false → ∀ t' ∈ tiers, ∀ g' ∈ t'.groups, g'.inlined = false →
      g'.chain = g.chain → g' = g)
    (hn2 : ∀ t ∈ tiers, ∀ g ∈ t.groups, g.inlined = false →
      (∀ t' ∈ tiers, ∀ g' ∈ t'.groups, g'.inlined = true → ∀ p ∈ g'.nonStaged, p.chain ≠ g.chain) ∧
      (∀ p ∈ profiles, p ≠ g.chain)) :
    let r := evalChain env chains pkt (F + 4) name m
    match e.chainType with
    | .normal =>
      VShape cfg (endpointVerdict (policyTiers env pkt polRules tiers true)
        (profiles.map fun p => policyOutcome env pkt.v6 pkt (polRules p))) r
    | .forward =>
      if tiers.isEmpty then ∃ m', r = .returned m' ∧ m' &&& cfg.markAccept = cfg.markAccept
      else TShape cfg (tiersVerdict (policyTiers env pkt polRules tiers true)) (fun m' => .returned m') r
    | _ => TShape cfg (tiersVerdict (policyTiers env pkt polRules tiers false)) (fun m' => .returned m') r :=
  endpoint_chain_verdict_names cfg mo vb vd e env pkt chains name tiers profiles polRules F m hup hfs hct henc hmD
    hep hgrp hpol hprof hn1 hn2

/-- an admin-down endpoint drops (rejects) everything -/
theorem endpoint_admin_down_drops (cfg : Cfg) (e : EpCfg) (env : Env) (call : String → Mark → Result) (pkt : Packet)
    (name : String) (tiers : List Tier) (profiles : List String) (m : Mark) (hdown : e.adminUp = false) :
    runRules env call pkt (endpointChain cfg e name tiers profiles).rules m = .verdict (denyV cfg) m :=
  endpoint_admin_down cfg e env call pkt name tiers profiles m hdown

def wPolRules : List Policy.Rule := [{ action := "pass", protocol := some (.name "udp") }]
def wProfRules : List Policy.Rule :=
  [{ action := "pass", protocol := some (.name "tcp") }, { action := "allow", protocol := some (.name "udp") }]
def wGroup : Group := { chain := "g", pols := [{ chain := "pol", staged := false }] }
def wTiers : List Tier := [{ name := "tier0", defaultPass := false, groups := [wGroup] }]
def wEnv9 : Env := { protoNum := fun s => if s == "udp" then some 17 else if s == "tcp" then some 6 else none }
def wUdp : Packet := { proto := 17 }

def wChains : List Chain :=
  [ { name := "ep", rules := (endpointChain {} {} "ep" wTiers ["prof"]).rules },
    { name := "pol", rules := (protoRulesToRules {} {} false wPolRules "c").getD [] },
    { name := "prof", rules := (protoRulesToRules {} { owner := 'R' } false wProfRules "c").getD [] } ]

/-- The tier passes the UDP packet, the profile's second rule allows it — the reference verdict is
allow — but the rendered chains DROP it: the pass bit (0x100) set by the tier makes the profile
chain return at its first (non-matching) pass rule. -/
theorem profile_pass_stale_false :
    endpointVerdict [([policyOutcome wEnv9 false wUdp wPolRules], false)] [policyOutcome wEnv9 false wUdp wProfRules]
      = .allow ∧
    evalChain wEnv9 wChains wUdp 4 "ep" 0 = .verdict .drop 0x100#32 := by
  constructor
  · decide
  · decide +kernel

/-! ### joint non-vacuity: one concrete layout satisfying ALL hypotheses of
`endpoint_chain_verdict_partial` at once

One tier with an inlined group `g1` (enforced `polA`, staged `polS`) and a group with its own chain
`g2` (enforced `polB`, staged `polS`, enforced `polC`), one profile `prof` without pass rules; default marks;
a UDP packet. -/
def jEnv : Env :=
  { protoNum := fun s => if s == "udp" then some 17 else if s == "tcp" then some 6 else none
    netContains := fun c _ => c == "0.0.0.0/0" || c == "::/0" }
def jA : List Policy.Rule := [{ action := "pass", protocol := some (.name "tcp") }]
def jB : List Policy.Rule := [{ action := "deny", protocol := some (.name "tcp") }]
def jC : List Policy.Rule := [{ action := "pass", protocol := some (.name "udp") }]
def jProf : List Policy.Rule := [{ action := "allow", protocol := some (.name "udp") }]
def jPolRules (c : String) : List Policy.Rule :=
  if c == "polA" then jA else if c == "polB" then jB else if c == "polC" then jC else if c == "prof" then jProf else []
def jG1 : Group := { chain := "g1", pols := [{ chain := "polA", staged := false }, { chain := "polS", staged := true }] }
def jG2 : Group := { chain := "g2", pols := [{ chain := "polB", staged := false }, { chain := "polS", staged := true }, { chain := "polC", staged := false }] }
def jTiers : List Tier := [{ name := "tier0", defaultPass := false, groups := [jG1, jG2] }]
def jChains : List Chain :=
  [ { name := "ep", rules := (endpointChain {} {} "ep" jTiers ["prof"]).rules },
    policyGroupChain {} jG2,
    { name := "polA", rules := (protoRulesToRules {} {} false jA "c").getD [] },
    { name := "polB", rules := (protoRulesToRules {} {} false jB "c").getD [] },
    { name := "polC", rules := (protoRulesToRules {} {} false jC "c").getD [] },
    { name := "prof", rules := (protoRulesToRules {} { owner := 'R' } false jProf "c").getD [] } ]

theorem jEnv_catchAll : EnvCatchAll jEnv := fun _ => ⟨rfl, rfl⟩

theorem jPolRules_eq : jPolRules "polA" = jA ∧ jPolRules "polB" = jB ∧ jPolRules "polC" = jC ∧ jPolRules "prof" = jProf := by
  decide +kernel

theorem jRuleExact (a p : String) : RuleExact {} jEnv wUdp { action := a, protocol := some (.name p) } := by
  apply ruleExact_of_le2 {} jEnv wUdp _ (by constructor <;> decide) jEnv_catchAll (Or.inr (by intro t c h; cases h))
  intro rc h
  have : rc = { action := a, protocol := some (.name p) } := by
    simp [filterRuleToIPVersion, filterNets, wUdp] at h; exact h.symm
  subst this; simp [numPositive, splitPortList]

/-- every hypothesis of `endpoint_chain_verdict_partial` holds for the layout above, so its
conclusion does; the reference verdict there is `allow` (`joint_instance_verdict`). -/
theorem joint_instance :
    VShape {} (endpointVerdict (policyTiers jEnv wUdp jPolRules jTiers true)
      (["prof"].map fun p => policyOutcome jEnv wUdp.v6 wUdp (jPolRules p)))
      (evalChain jEnv jChains wUdp 4 "ep" 0) := by
  have h := endpoint_chain_verdict_partial {} (by constructor <;> decide) (by constructor <;> decide) (by constructor <;> decide) {}
    jEnv wUdp jChains "ep" jTiers ["prof"] jPolRules 0 0 rfl (fun h => absurd rfl h) (by decide) (by decide) (by decide)
    (by decide +kernel) ?hgrp ?hpol ?hprof ?hn1 ?hn2
  · exact h
  case hgrp => decide +kernel
  case hpol =>
    intro t ht g hg p hp hs
    simp only [jTiers, List.mem_singleton] at ht; subst ht
    simp only [List.mem_cons, List.not_mem_nil, or_false] at hg
    rcases hg with rfl | rfl <;> simp only [jG1, jG2, List.mem_cons, List.not_mem_nil, or_false] at hp <;>
      rcases hp with rfl | rfl | rfl <;> first | exact absurd hs (by decide) | skip
    · refine ⟨{}, "c", (protoRulesToRules {} {} false jA "c").getD [], by decide +kernel, by decide +kernel, ?_, ?_⟩ <;>
        (simp only [jPolRules_eq.1, jA, List.mem_singleton]; intro r hr; subst hr)
      · exact jRuleExact _ _
      · decide
    · refine ⟨{}, "c", (protoRulesToRules {} {} false jB "c").getD [], by decide +kernel, by decide +kernel, ?_, ?_⟩ <;>
        (simp only [jPolRules_eq.2.1, jB, List.mem_singleton]; intro r hr; subst hr)
      · exact jRuleExact _ _
      · decide
    · refine ⟨{}, "c", (protoRulesToRules {} {} false jC "c").getD [], by decide +kernel, by decide +kernel, ?_, ?_⟩ <;>
        (simp only [jPolRules_eq.2.2.1, jC, List.mem_singleton]; intro r hr; subst hr)
      · exact jRuleExact _ _
      · decide
  case hprof =>
    intro p hp
    simp only [List.mem_singleton] at hp; subst hp
    refine ⟨{ owner := 'R' }, "c", (protoRulesToRules {} { owner := 'R' } false jProf "c").getD [], by decide +kernel, by decide +kernel, ?_, ?_⟩ <;>
      (simp only [jPolRules_eq.2.2.2, jProf, List.mem_singleton]; intro r hr; subst hr)
    · exact jRuleExact _ _
    · exact ⟨.allow, by decide, by decide⟩
  case hn1 => decide +kernel
  case hn2 =>
    exact fun t ht g hg hi =>
      ⟨(by decide +kernel : ∀ t ∈ jTiers, ∀ g ∈ t.groups, g.inlined = false →
          ∀ t' ∈ jTiers, ∀ g' ∈ t'.groups, g'.inlined = true → ∀ p ∈ g'.nonStaged, p.chain ≠ g.chain) t ht g hg hi,
        (by decide +kernel : ∀ t ∈ jTiers, ∀ g ∈ t.groups, g.inlined = false → ∀ p ∈ ["prof"], p ≠ g.chain)
          t ht g hg hi⟩

/-- … and the instance is not degenerate: `polC` passes the packet to the profile, which allows it;
the rendered chains return with the accept bit (0x80) set. -/
theorem joint_instance_verdict :
    endpointVerdict (policyTiers jEnv wUdp jPolRules jTiers true)
      (["prof"].map fun p => policyOutcome jEnv wUdp.v6 wUdp (jPolRules p)) = .allow ∧
    evalChain jEnv jChains wUdp 4 "ep" 0 = .returned 0x180#32 := by
  constructor <;> decide +kernel

example : MarksOK {} := by constructor <;> decide
example : VBits {} := by constructor <;> decide
example : VD {} := by constructor <;> decide

/-- a 7-policy group (two staged) crosses the return stride -/
example : (groupRulesFrom {} 0 ((List.range 7).map fun i => { chain := s!"p{i}", staged := i = 2 ∨ i = 3 })).length = 5 := by
  decide

/-- `RuleExact` is inhabited: every block-free rule satisfies it (here: allow tcp) -/
example (env : Env) (henv : EnvCatchAll env) (pkt : Packet) :
    RuleExact {} env pkt { action := "allow", protocol := some (.name "tcp") } := by
  apply ruleExact_of_le2 {} env pkt _ (by constructor <;> decide) henv (Or.inr (by intro t c h; cases h))
  intro rc h
  cases hv : pkt.v6 <;> rw [hv] at h <;>
    (have : rc = { action := "allow", protocol := some (.name "tcp") } := by
       simp [filterRuleToIPVersion, filterNets] at h; exact h.symm
     subst this; decide)

end CalicoVerif.C09
