import CalicoVerif.Proofs.C26Syncer
/-!
C26 — Datastore watchers converge across watch failures and resyncs.

The UpdateProcessor is STATEFUL: any `Proc` (a `Process` function of the private state since the last
`OnSyncerStarting` and the KV); the model records that the real code calls `OnSyncerStarting` before EVERY List of a
full resync (`WC.notifyConverter` in `listStep`), so the statements about a call that listed (`cache_converges`,
`vanished_deleted`, `session_converges`) are relative to a FRESH processor (`convSeq p [] …`); `list_converges` and
`watch_resume_extends` speak from the processor's current state (`wc.pst`).

Model: `Model/C26.lean` — one `watcherCache` as a machine over scripted List outcomes
(ok / not-found / expired / other ± retry-timeout elapsed / `pollStop`: an empty List with revision zero, the call
observed in its polling state), Watch-create outcomes (expired / connection
refused ± timeout / not supported / other) and watch events (add/modify, delete, bookmark, expired, error,
unknown), and `watcherSyncer.processResult`.  A *session* is any sequence of `call`s (one
`resyncAndLoopReadingFromWatcher` each, with ANY script) and `stop`s (`sendDeletionsForAllResources`);
`total` is everything the cache ever put on the results channel and `downFrom emptyView total` the view
of a consumer that applied all of it.

Sessions (`COp`, `Sess`, `lastListed`, `sessionSpec`, `sessionListed`) are defined in `Proofs/C26Sess`; the syncer
side (`WS.runBatches`, `cbQuiet`, `BatchesQuiet`, the composed system `Multi`) in `Proofs/C26Syncer`.
-/
namespace CalicoVerif.C26

/-- **In-sync only after every resource type is in sync**: for a syncer with at least one cache and ANY
sequence of result batches from its caches, whenever the syncer's status is InSync every cache's last
reported status is InSync (that a cache announces InSync only after a completed List is
`insync_only_after_list` below). -/
theorem insync_after_all_listed (n : Nat) (bs : List (Nat × List Res)) :
    let ws := (WS.new (n + 1)).runBatches bs
    ws.status = stInSync → ∀ s ∈ ws.cacheStatuses, s = stInSync := by
  intro ws hs
  exact (aggregate_insync_iff _).mp (runBatches_status (WInv.new n).agg bs ▸ hs)

/-- Symmetric statement for WaitForDatastore: the syncer is in WaitForDatastore only while every cache is. -/
theorem waiting_only_when_all_wait (n : Nat) (bs : List (Nat × List Res)) :
    let ws := (WS.new (n + 1)).runBatches bs
    ws.status = stWait → ∀ s ∈ ws.cacheStatuses, s = stWait := by
  intro ws hs
  exact aggregate_wait _ (runBatches_status (WInv.new n).agg bs ▸ hs)

/-- **The consumer's view is the cache's view, always**: after any session (any scripts, any failures,
any stops) a consumer that applied every emitted update holds exactly the keys and revisions in the
cache's `resources`. -/
theorem downstream_mirrors_cache (m : Option Proc) (sd : Bool) (ops : List COp) (hwf : ∀ op ∈ ops, op.WF) (k : Nat) :
    downFrom emptyView ((Sess.init m sd).run ops).total k = lookup ((Sess.init m sd).run ops).wc.res k :=
  (SInv.reach m sd ops hwf).mirror k

/-- **No update while waiting for the datastore**: in the stream of any session, no `updates` result is
emitted while the last status the cache announced (initially WaitForDatastore) is WaitForDatastore. -/
theorem quiet_while_waiting (m : Option Proc) (sd : Bool) (ops : List COp) (hwf : ∀ op ∈ ops, op.WF) :
    quietFrom stWait ((Sess.init m sd).run ops).total = true :=
  (SInv.reach m sd ops hwf).quiet

/-- The cache's `status` field is the status last announced on the stream, and a cache that is (again)
waiting has forgotten its watch revision, i.e. will re-list before watching. -/
theorem status_tracked (m : Option Proc) (sd : Bool) (ops : List COp) (hwf : ∀ op ∈ ops, op.WF) :
    lastStatus stWait ((Sess.init m sd).run ops).total = ((Sess.init m sd).run ops).wc.status ∧
    (((Sess.init m sd).run ops).wc.status = stWait → ((Sess.init m sd).run ops).wc.rev = 0) :=
  ⟨(SInv.reach m sd ops hwf).track, (SInv.reach m sd ops hwf).owed⟩

/-- **A successful List converges, whatever preceded**: for a cache in any reachable state, processing the
listed KVs leaves the cache (hence, by `downstream_mirrors_cache`, the consumer) with exactly the converted
list: entries not in the list are swept, unchanged revisions are kept without an update. -/
theorem list_converges {m0 : View} {st0 : Nat} {wc : WC} (h : Good m0 st0 wc) (kvs : List KV) (k : Nat) :
    downFrom m0 (wc.processList kvs).out k = (convSeq wc.proc wc.pst kvs).foldl applyKV emptyView k ∧
    (wc.processList kvs).status = stInSync := by
  have l := processList_ok h kvs
  exact ⟨by rw [l.good.inv.mirror, l.view], l.status⟩

/-- **Convergence across failures, to the LAST listed snapshot**: take any reachable cache whose watch revision is
lost (it must re-list: start of day, expired watch, too many errors, shutdown deletions …) and ANY script of
List / Watch-create failures and watch events.  The call lists at least once, and afterwards the consumer holds
exactly conversion(L followed by the watch events processed before the watch broke), where L is the LAST snapshot
a List returned before the watch was created — not an earlier, stale one. -/
theorem cache_converges (m : Option Proc) (sd : Bool) (ops : List COp) (hwf : ∀ op ∈ ops, op.WF)
    (lists : List ListOut) (watches : List WatchOut) (fin : List KV × Nat) (evs : List Ev) (hfin : fin.2 ≠ 0) :
    let s := (Sess.init m sd).run ops
    s.wc.rev = 0 →
    ∃ L, lastListed s.wc lists watches fin = some L ∧ ∀ k,
      downFrom emptyView (s.step (.call lists watches fin evs)).total k =
        (convSeq s.wc.proc [] (L ++ processed evs)).foldl applyKV emptyView k := by
  intro s hrev
  have h := (SessOK.init m sd).run ops hwf
  have h' := h.step (.call lists watches fin evs) hfin
  cases hl : lastListed ((Sess.init m sd).run ops).wc lists watches fin with
  | none => exact absurd hrev (lastListed_none h.inv lists watches fin hfin hl)
  | some L =>
    refine ⟨L, rfl, fun k => ?_⟩
    rw [h'.inv.mirror, h'.res, h.proc]
    simp only [specStep, hl]

/-- **Resources that vanished are deleted**: in the situation of `cache_converges`, a key that neither the last
listed snapshot nor the processed events (after conversion) mention is not held by the consumer afterwards —
whatever it held before. -/
theorem vanished_deleted (m : Option Proc) (sd : Bool) (ops : List COp) (hwf : ∀ op ∈ ops, op.WF)
    (lists : List ListOut) (watches : List WatchOut) (fin : List KV × Nat) (evs : List Ev) (hfin : fin.2 ≠ 0) :
    let s := (Sess.init m sd).run ops
    s.wc.rev = 0 →
    ∃ L, lastListed s.wc lists watches fin = some L ∧ ∀ k,
      (∀ kv ∈ convSeq s.wc.proc [] (L ++ processed evs), kv.key ≠ k) →
      downFrom emptyView (s.step (.call lists watches fin evs)).total k = none := by
  intro s hrev
  obtain ⟨L, hL, hv⟩ := cache_converges m sd ops hwf lists watches fin evs hfin hrev
  refine ⟨L, hL, fun k hk => ?_⟩
  rw [hv k, foldl_applyKV_not_mem _ _ _ hk]
  rfl

/-- **A call that resumes the watch extends the view**: take any reachable cache and any call that does NOT
re-list (the watch is re-created from the kept revision — e.g. after a watch error that does not lose the
revision), whatever Watch-create failures are scripted.  The consumer's view afterwards is its view before with the
conversion of the processed watch events applied, the processor continuing from its current state. -/
theorem watch_resume_extends (m : Option Proc) (sd : Bool) (ops : List COp) (hwf : ∀ op ∈ ops, op.WF)
    (lists : List ListOut) (watches : List WatchOut) (fin : List KV × Nat) (evs : List Ev) (hfin : fin.2 ≠ 0) :
    let s := (Sess.init m sd).run ops
    lastListed s.wc lists watches fin = none →
    ∀ k, downFrom emptyView (s.step (.call lists watches fin evs)).total k =
      (convSeq s.wc.proc s.wc.pst (processed evs)).foldl applyKV (downFrom emptyView s.total) k := by
  intro s hnl k
  have h := (SessOK.init m sd).run ops hwf
  have h' := h.step (.call lists watches fin evs) hfin
  rw [h'.inv.mirror, h'.res, h.proc, h.pst, funext h.inv.mirror, funext h.res]
  simp only [specStep, show lastListed ((Sess.init m sd).run ops).wc lists watches fin = none from hnl]

/-- **Convergence over whole histories**: after ANY session the consumer's view equals the datastore-side account
`sessionSpec`: the last snapshot listed by the last call that re-listed, followed by ALL watch events processed
since (in that call and in every later watch-resuming call), converted by a processor that was fresh at that List. -/
theorem session_converges (p : Option Proc) (sd : Bool) (ops : List COp) (hwf : ∀ op ∈ ops, op.WF) (k : Nat) :
    downFrom emptyView ((Sess.init p sd).run ops).total k =
      (sessionSpec p (Sess.init p sd) (emptyView, []) ops).1 k :=
  have h := (SessOK.init p sd).run ops hwf
  (h.inv.mirror k).trans (h.res k)

/-- **InSync only after a completed List** (cache level): if a cache's stream, over any session, contains
`status InSync`, then some call of that session completed a List — a successful List or the
"backing API not installed" outcome, which the code deliberately treats as in sync.  In particular the sticky
InSync of the polling / CRD-missing states (`beginFull`) never produces an InSync by itself. -/
theorem insync_only_after_list (m : Option Proc) (sd : Bool) (ops : List COp) (hwf : ∀ op ∈ ops, op.WF) :
    Res.status stInSync ∈ ((Sess.init m sd).run ops).total → sessionListed (Sess.init m sd) ops = true :=
  ((SessOK.init m sd).run ops hwf).silent

/-- **The syncer never delivers updates while it reports WaitForDatastore**: for any number of caches and any
interleaving of their (quiet) result batches, no `OnUpdates` callback happens while the last
`OnStatusUpdated` was WaitForDatastore. -/
theorem syncer_quiet_while_waiting (n : Nat) (bs : List (Nat × List Res))
    (hq : BatchesQuiet (WS.new (n + 1)) bs) :
    cbQuiet stWait ((WS.new (n + 1)).runBatches bs).cbs = true := by
  exact ((WInv.new n).runBatches bs hq).q.quiet

/-- **No update is delivered while the syncer waits for the datastore — composed**: any number of model caches,
each running ANY scripts, their batches interleaved in ANY order into the syncer: no `OnUpdates` callback ever
happens while the last `OnStatusUpdated` was WaitForDatastore. -/
theorem syncer_quiet_composed (n : Nat) (procMode : Option Proc) (sd : Bool) (ops : List (Nat × COp)) (hwf : ∀ o ∈ ops, o.2.WF) :
    cbQuiet stWait ((Multi.init (n + 1) procMode sd).run ops).ws.cbs = true :=
  ((MInv.init n procMode sd).run ops hwf).ws.q.quiet

/-- **In-sync only after every resource type — composed**: in the same setting, whenever the syncer's status is
InSync every cache's own status is InSync.  (That a cache announces InSync only after a completed List is
`insync_only_after_list`, a theorem about one cache's session `Sess`; it is not transferred to the caches of
`Multi` here.) -/
theorem syncer_insync_composed (n : Nat) (procMode : Option Proc) (sd : Bool) (ops : List (Nat × COp)) (hwf : ∀ o ∈ ops, o.2.WF) :
    let m := (Multi.init (n + 1) procMode sd).run ops
    m.ws.status = stInSync → ∀ (i : Nat) (wc : WC), m.caches[i]? = some wc → wc.status = stInSync := by
  intro m hs i wc hi
  have h : MInv m := (MInv.init n procMode sd).run ops hwf
  have hrec := (h.each i wc hi).2
  have hall := (aggregate_insync_iff _).mp (h.ws.agg ▸ hs)
  have hmem : wc.status ∈ m.ws.cacheStatuses := List.mem_of_getElem? hrec
  exact hall _ hmem

/-- Two caches: the syncer goes InSync only when the second cache has finished its list. -/
example :
    ((WS.new 2).runBatches [(0, [.status stResync, .updates [⟨1, 5, utNew⟩], .status stInSync])]).status = stResync ∧
    ((WS.new 2).runBatches [(0, [.status stResync, .status stInSync]), (1, [.status stResync, .status stInSync])]).status
      = stInSync := by decide

/-- Mark-and-sweep on the model: the watch expires, the cache re-lists; key 2 vanished during the
resync and is deleted, key 1's unchanged revision is swallowed, key 3 is new. -/
example :
    let wc0 := runCall (WC.new none false) [] [] ([⟨1, 5, false⟩, ⟨2, 6, false⟩], 7) [.errExpired]
    let wc1 := runCall wc0 [] [] ([⟨1, 5, false⟩, ⟨3, 8, false⟩], 9) []
    wc0.rev = 0 ∧
    wc1.out = [.status stResync, .updates [⟨3, 8, utNew⟩], .updates [⟨2, 0, utDeleted⟩], .status stInSync] ∧
    wc1.res = [(3, 8), (1, 5)] ∧ wc1.rev = 9 := by decide

/-- A session and a further call with failures at every stage.  The session: one call that lists fine and whose
watch then expires, so the next call starts at `rev = 0`. -/
def demoSession : List COp :=
  [ .call [] [] ([⟨1, 5, false⟩, ⟨2, 6, false⟩], 7) [.errExpired] ]

/-- The further call: a List error past the retry timeout (the cache regresses to WaitForDatastore), an expired List,
two Watch-create failures, then the final List and events ending in a watch error.  The hypotheses of
`cache_converges` hold for the two; the stream contains a WaitForDatastore and is quiet. -/
def demoCall : COp :=
  .call [.other true, .expired] [.other, .connRefused false] ([⟨1, 5, false⟩, ⟨3, 8, false⟩], 9)
    [.upsert ⟨4, 10, false⟩, .delete ⟨3, 11, false⟩, .errOther, .upsert ⟨5, 12, false⟩]

example : (∀ op ∈ demoSession, op.WF) ∧ demoCall.WF := by
  refine ⟨?_, by simp [demoCall, COp.WF]⟩
  intro op h
  simp only [demoSession, List.mem_singleton] at h
  subst h
  simp [COp.WF]

example : ((Sess.init none false).run demoSession).wc.rev = 0 ∧
    (((Sess.init none false).run demoSession).step demoCall).total =
      [.status stResync, .updates [⟨1, 5, utNew⟩], .updates [⟨2, 6, utNew⟩], .status stInSync,
       .status stResync, .backendErr, .status stWait, .status stResync,
       .updates [⟨3, 8, utNew⟩], .updates [⟨2, 0, utDeleted⟩], .status stInSync,
       .updates [⟨4, 10, utNew⟩], .updates [⟨3, 0, utDeleted⟩]] := by decide

/-- In that call two Lists fail and the final one succeeds: the ghost names the snapshot the theorem talks about,
and the call did complete a List. -/
example : lastListed ((Sess.init none false).run demoSession).wc [.other true, .expired] [.other, .connRefused false]
      ([⟨1, 5, false⟩, ⟨3, 8, false⟩], 9) = some [⟨1, 5, false⟩, ⟨3, 8, false⟩] ∧
    callListed ((Sess.init none false).run demoSession).wc [.other true, .expired] [.other, .connRefused false]
      ([⟨1, 5, false⟩, ⟨3, 8, false⟩], 9) = true := by decide

/-- A scripted List succeeds, the Watch then fails five times (forcing a re-list): the LAST list wins. -/
example : lastListed (WC.new none false) [.ok [⟨7, 1, false⟩] 2] [.other, .other, .other, .other, .other]
    ([⟨8, 3, false⟩], 4) = some [⟨8, 3, false⟩] := by decide

/-- The REAL-processor scenario (model of the conflict-resolving IPPool processor, `proc2`): List #1 returns two
resources with the same v1 index (k1 primary, k4 swallowed), the Watch is not supported (re-List), List #2 returns
only k4.  `OnSyncerStarting` is called before each List (2 calls), so the processor is fresh for List #2: the v1
key 301 ends with k4's revision — not deleted, not stale. -/
example :
    let wc := runCall (WC.new (some proc2) true) [.ok [⟨1, 1, false⟩, ⟨4, 4, false⟩] 5] [.notSupported] ([⟨4, 4, false⟩], 6) []
    wc.resets = 2 ∧ wc.res = [(301, 4)] ∧
    wc.out = [.status stResync, .updates [⟨301, 1, utNew⟩], .status stInSync, .updates [⟨301, 4, utUpdated⟩]] ∧
    convSeq (some proc2) [] [⟨4, 4, false⟩] = [⟨301, 4, false⟩] := by decide

/-- Everything vanished: a populated List + watch, the watch expires (410), the re-List returns zero items with a
zero revision and the call is observed in its polling steady state: the vanished resources are deleted, the cache
is InSync and polling. -/
example :
    let s := ((Sess.init none false).run
      [.call [] [] ([⟨1, 5, false⟩, ⟨2, 6, false⟩], 7) [.errExpired], .call [.pollStop] [] ([], 9) []])
    s.wc.res = [] ∧ s.wc.status = stInSync ∧ s.wc.listPolling = true ∧ s.wc.rev = 0 ∧
    s.total = [.status stResync, .updates [⟨1, 5, utNew⟩], .updates [⟨2, 6, utNew⟩], .status stInSync,
               .status stResync, .updates [⟨1, 0, utDeleted⟩, ⟨2, 0, utDeleted⟩], .status stInSync] := by decide

/-- A watch-resuming call: after a List, the watch breaks with an ordinary error (revision kept); the next call
re-creates the watch after one failed attempt WITHOUT listing (`lastListed = none`, hypothesis of
`watch_resume_extends`) and processes an add and a delete. -/
example :
    let s := (Sess.init none false).run [.call [] [] ([⟨1, 5, false⟩, ⟨2, 6, false⟩], 7) [.errOther]]
    lastListed s.wc [] [.other] ([], 9) = none ∧
    (s.step (.call [] [.other] ([], 9) [.upsert ⟨3, 8, false⟩, .delete ⟨1, 9, false⟩, .errExpired])).wc.res
      = [(3, 8), (2, 6)] ∧
    (sessionSpec none (Sess.init none false) (emptyView, [])
      [.call [] [] ([⟨1, 5, false⟩, ⟨2, 6, false⟩], 7) [.errOther],
       .call [] [.other] ([], 9) [.upsert ⟨3, 8, false⟩, .delete ⟨1, 9, false⟩, .errExpired]]).1 3 = some 8 := by
  decide

/-- Two caches feeding one syncer: the batches are quiet, the hypothesis of `syncer_quiet_while_waiting` holds. -/
example : BatchesQuiet (WS.new 2)
    [(0, [.status stResync, .updates [⟨1, 5, utNew⟩], .status stInSync]), (1, [.status stResync, .status stInSync])] := by
  refine ⟨⟨by decide, by decide⟩, ⟨by decide, by decide⟩, trivial⟩

end CalicoVerif.C26
