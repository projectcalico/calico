import CalicoVerif.Proofs.C16Apply
import CalicoVerif.Gen.C16
/-!
C16 — IP set sync converges and never breaks rules that use a set.
Property theorems over the model `CalicoVerif.Model.C16` of felix/ipsets (`IPSets`) and of the
`ipset` command.  `W` = Felix state + kernel + failure plan (which restore/list/destroy calls
fail and where) + order hints (Go map iteration orders).  The three `never_destroy_desired_*` theorems are for ALL `W`
(all kernels, all in-memory states, all failure plans, all orders); the history theorems (`invariant_always`,
`foreign_untouched`, the convergence clause) start from a fresh `IPSets` over ANY kernel, for a configuration with
`CfgOK` and `CfgMain` (proved of the one Felix uses: `realCfg_ok`, `realCfg_main`).

The convergence clause (`ipsets_converge_partial`, `ipsets_converge_no_stale_partial`) is proved for a
successful `ApplyUpdates` that begins with a full resync (`fullResyncRequired`: start of day, restart, or after
persistent failures), after any history and for every failure plan inside that call.
What is missing (hence `_partial`): the same statement for a call that relies on a view kept accurate
incrementally (no out-of-band edit since the last resync); that case is covered by the convergence oracle on
the real code and the model correspondence only.
-/
namespace CalicoVerif.C16

/-- **never_destroy_desired, line granularity**: no `ipset restore` line ever removes a set, so
after every single line (also of a restore that fails part-way) every set that existed still exists. -/
theorem never_destroy_desired_per_line (n : String) (ls : List Line) (K : Kernel)
    (h : K.has n = true) : ∀ Ki ∈ kstates K ls, Ki.has n = true :=
  kstates_has_mono ls K h

/-- **never_destroy_desired, ApplyUpdates**: over the whole retry loop (resyncs, temporary-set
clean-up, up to ten restore attempts, any failures), every set that is desired and present in
the kernel at the start is still present at the end. -/
theorem never_destroy_desired_applyUpdates (w : W) (n : String)
    (hd : w.F.desired.has n = true) (hk : w.K.has n = true) : w.applyUpdates.1.K.has n = true :=
  (applyUpdates_safe w).kd n hd hk

/-- **never_destroy_desired, ApplyDeletions**: `ApplyDeletions` only destroys sets that are not desired. -/
theorem never_destroy_desired_applyDeletions (w : W) (n : String)
    (hd : w.F.desired.has n = true) (hk : w.K.has n = true) : w.applyDeletions.1.K.has n = true :=
  (applyDeletions_AD w).safe.kd n hd hk

/-- **The invariant** (`Inv`): every set Felix was told about has a main-set name (owned, not a temporary
name) and a member tracker, the desired sets are among them and pass the filter, and the dataplane view and
the resync queue only hold owned names.  It holds after EVERY history from a fresh `IPSets` and any kernel:
API calls, restart, out-of-band kernel edits, and `ApplyUpdates`/`ApplyDeletions` with any failure plan and
any map-iteration order. -/
theorem invariant_always (c : Cfg) (hc : CfgOK c) (hm : CfgMain c) (K : Kernel) (ops : List Op) :
    (({ cfg := c, F := {}, K := K } : W).run ops).cfg = c ∧ Inv c (({ cfg := c, F := {}, K := K } : W).run ops).F :=
  let ⟨hcfg, hinv, _⟩ := run_inv ops { cfg := c, F := {}, K := K } hc hm (inv_init c)
  ⟨hcfg, hinv⟩

/-- **foreign_untouched, whole histories**: starting from a fresh `IPSets` and ANY kernel, after any
sequence of API calls, restarts, applies (any failure plans, any orders) and out-of-band edits of OTHER
sets, a set that Felix does not own is exactly as it was. -/
theorem foreign_untouched (c : Cfg) (hc : CfgOK c) (hm : CfgMain c) (K : Kernel) (ops : List Op) (x : String)
    (hx : c.owns x = false) (he : ∀ op ∈ ops, op.edits x = false) :
    (({ cfg := c, F := {}, K := K } : W).run ops).K.get x = K.get x :=
  let ⟨_, _, hforeign⟩ := run_inv ops { cfg := c, F := {}, K := K } hc hm (inv_init c)
  hforeign x hx he

/-- **ipsets_converge** (partial: calls that begin with a full resync).  After ANY history `ops` from a fresh
`IPSets` and ANY start kernel (stale temporary sets, stale or wrongly typed main sets, foreign sets,
unlistable sets), for ANY failure plan of the call (restores failing after any number of lines or at start,
listings failing with or without partial output, destroys failing) and any map-iteration orders: if
`ApplyUpdates` — begun with `fullResyncRequired` set, as at start of day, after a restart and after persistent
failures, and run with any failure plan `plan` and order hints — returns successfully, then every desired set is in the kernel with exactly the
desired type and parameters and exactly the desired members; every owned set in the kernel is in Felix's view;
and the desired map is untouched. -/
theorem ipsets_converge_partial (c : Cfg) (hc : CfgOK c) (hm : CfgMain c) (K : Kernel) (ops : List Op)
    (plan : Plan) (hintR : List (List String)) (hintD : List String) :
    let w : W := { ({ cfg := c, F := {}, K := K } : W).run ops with plan := plan, hintR := hintR, hintD := hintD }
    w.F.fullReq = true → w.applyUpdates.2 = true →
    ∀ (n : String) (dm : Meta) (t : MT), w.F.desired.get n = some dm → w.F.members.get n = some t →
    (∃ k, w.applyUpdates.1.K.get n = some k ∧ metaMatches k dm ∧ setEq k.members t.des) ∧
    Cov w.cfg w.applyUpdates.1.F w.applyUpdates.1.K ∧ w.applyUpdates.1.F.desired = w.F.desired := by
  intro w hfull hs n dm t hd ht
  obtain ⟨hcfg, h⟩ := invariant_always c hc hm K ops
  have hcfg : w.cfg = c := hcfg
  have post := applyUpdates_converges w (hcfg ▸ hc) (hcfg ▸ h.desOK) hfull hs
  have hn : w.F.desired.has n = true := Map.has_of_get hd
  exact ⟨(post.exact n hn).get (post.desired ▸ hd) (post.desKeep n t.des (h.desOK.inAll n hn) ⟨t, ht, rfl⟩), post.cov,
    post.desired⟩

/-- **ipsets_converge, deletions** (partial: as above).  After such an `ApplyUpdates`, any number of
`ApplyDeletions` calls (any destroy failures, any orders) keep every desired set exact, and once nothing is
pending deletion every Felix-owned set in the kernel is a desired one — no other Felix-owned set remains. -/
theorem ipsets_converge_no_stale_partial (c : Cfg) (hc : CfgOK c) (hm : CfgMain c) (K : Kernel) (ops : List Op)
    (plan : Plan) (hintR : List (List String)) (hintD : List String) (rounds : List (Plan × List String)) :
    let w : W := { ({ cfg := c, F := {}, K := K } : W).run ops with plan := plan, hintR := hintR, hintD := hintD }
    w.F.fullReq = true → w.applyUpdates.2 = true →
    let w' := w.applyUpdates.1.delRounds rounds
    (∀ n, w.F.desired.has n = true → Exact w'.F w'.K n) ∧
    (w'.F.pendingDeletions = [] → ∀ b, c.owns b = true → w'.K.has b = true → w.F.desired.has b = true) := by
  intro w hfull hs
  obtain ⟨hcfg, h⟩ := invariant_always c hc hm K ops
  have hcfg' : w.cfg = c := hcfg
  have post := applyUpdates_converges w (hcfg' ▸ hc) (hcfg' ▸ h.desOK) hfull hs
  have had := delRounds_AD rounds w.applyUpdates.1
  refine ⟨?_, ?_⟩
  · intro n hn
    apply had.exact (post.exact n hn)
    rw [post.allMeta]; exact h.desOK.inAll n hn
  · intro hdr b hown hk
    have hcov : Cov w.cfg (w.applyUpdates.1.delRounds rounds).F (w.applyUpdates.1.delRounds rounds).K := by
      have := had.cov (by rw [post.cfg]; exact post.cov)
      rw [post.cfg] at this; exact this
    have := no_stale_owned hcov hdr b (by rw [hcfg']; exact hown) hk
    rw [had.pres.desired, post.desired] at this
    exact this

/-- **Ownership is "prefix of"**: Felix owns a set name iff the name STARTS with one of the instance's prefixes (the
versioned current and historic prefixes and the legacy set names, which the code also matches as prefixes).  A name
that merely contains a prefix is foreign.  (Restates the model's `Cfg.owns`; the real `IPVersionConfig.OwnsIPSet` — a
regexp — is tied to it by the oracle `owns-not-prefix-of` on every kernel set name of every run.) -/
theorem owns_is_prefix_of (c : Cfg) (n : String) :
    c.owns n = true ↔ ∃ p ∈ c.prefixes, p.toList.isPrefixOf n.toList = true := by
  unfold Cfg.owns hasPrefix
  simp [List.any_eq_true]

example : realCfg.owns "cali40a" = true ∧ realCfg.owns "felix-masq-ipam-pools" = true ∧
    realCfg.owns "backup-cali40s:web" = false ∧ realCfg.owns "k8s-felix-4-allow" = false ∧
    realCfg.owns "fw_cali4t0" = false ∧ realCfg.owns "x-felix-masq-ipam-pools" = false := by decide

/-- **swap_atomic**: what `writeUpdates` writes for a set `n` (for every visiting order `ord` of
the member iterations).  Either the set is updated in place, and then every line targets `n`,
only desired members are added and only undesired members deleted (the visible contents stay
between old∩desired and old∪desired); or its metadata changes, and then the lines build a
temporary set and the LAST line swaps it in: in every kernel state reached while running the
lines before that swap, the visible set `n` is exactly what it was. -/
theorem swap_atomic {c : Cfg} (hc : CfgOK c) {ord : List String → List String}
    (hord : ∀ l x, x ∈ ord l → x ∈ l) {F F' : Felix} {n : String} {ls : List Line}
    (hn : c.isTemp n = false) (h : F.writeUpdates c ord n = some (F', ls)) (K : Kernel) :
    ∃ t, F.members.get n = some t ∧
      ((∀ l ∈ ls, l.names = [n] ∧ (∀ m, l = Line.add n m → m ∈ t.des) ∧ (∀ m, l = Line.del n m → m ∉ t.des)) ∨
       (∃ tmp body, ls = body ++ [Line.swap n tmp] ∧ ∀ Ki ∈ kstates K body, Ki.get n = K.get n)) := by
  obtain ⟨t, ht, hs⟩ := writeUpdates_shape hord h
  refine ⟨t, ht, ?_⟩
  rcases hs with hs | ⟨k, body, hb, hnames⟩
  · exact Or.inl hs
  · refine Or.inr ⟨c.tempName k, body, hb, ?_⟩
    apply kstates_get_other
    intro l hl hmem
    rw [hnames l hl] at hmem
    simp only [List.mem_singleton] at hmem
    have := hc.tempIsTemp k
    rw [← hmem, hn] at this
    exact absurd this (by simp)

def idxOf (l : List String) (x : String) : Nat := l.findIdx (· == x)

/-- **creates_before_tables_deletes_after**: in `InternalDataplane.apply()` (schedule regenerated from
the source on every run by translate/c16) the IP set updates are started and JOINED before any table
is applied, and the IP set deletions are only started after every table apply/clean-up has been
joined.  (`decide` over the generated finite list.) -/
theorem creates_before_tables_deletes_after :
    let s := Gen.applySchedule
    idxOf s "ipsets.ApplyUpdates" < idxOf s "ipSetsWG.Wait" ∧
    idxOf s "ipSetsWG.Wait" < idxOf s "tables.Apply" ∧
    idxOf s "tables.Apply" < idxOf s "iptablesWG.Wait" ∧
    idxOf s "tables.CleanUp" < idxOf s "iptablesWG.Wait" ∧
    idxOf s "iptablesWG.Wait" < idxOf s "ipsets.ApplyDeletions" ∧
    idxOf s "ipsets.ApplyDeletions" < s.length ∧
    (s.filter (· == "ipsets.ApplyUpdates")).length = 1 ∧ (s.filter (· == "ipsets.ApplyDeletions")).length = 1 ∧
    (s.filter (· == "tables.Apply")).length = 1 := by decide

example : CfgOK realCfg := realCfg_ok

/-- A concrete world: Felix wants `cali40a = {10.0.0.1}` (hash:ip), the kernel holds a stale
`cali40a` of another type, a stale temp set and a foreign set.  `ApplyUpdates` succeeds, swaps the
desired set in, and the foreign set is untouched. -/
def exW : W :=
  { cfg := realCfg
    F := Felix.addOrReplace realCfg {} "a" ⟨"hash:ip", 100, 0, 0, false, false⟩ ["10.0.0.1"]
    K := [("cali40a", ⟨"hash:net", 100, 0, 0, ["10.1.0.0/16"], false, false⟩),
          ("cali4t0", ⟨"hash:ip", 100, 0, 0, [], false, false⟩),
          ("foo", ⟨"hash:ip", 5, 0, 0, ["1.1.1.1"], false, false⟩)]
    hintR := [["cali40a"]], hintD := ["cali4t0"] }

example : exW.F.desired.has "cali40a" = true ∧ exW.K.has "cali40a" = true ∧ exW.cfg.owns "foo" = false := by decide
theorem exW_desired : exW.F.desired = [("cali40a", ⟨"hash:ip", 100, 0, 0, false, false⟩)] := by decide

example : CfgMain realCfg := realCfg_main

/-- `exW` is the world `ipsets_converge_partial` speaks of for the one-call history: its Felix state is reached from the
empty one by one API call (hence `Inv`), and it is at start of day (`fullResyncRequired`). -/
example : Inv exW.cfg exW.F :=
  addOrReplace_inv realCfg_main (inv_init realCfg) "a" ⟨"hash:ip", 100, 0, 0, false, false⟩ ["10.0.0.1"]
example : exW.F.fullReq = true := by decide
example : exW.F.desired.get "cali40a" = some ⟨"hash:ip", 100, 0, 0, false, false⟩ := by decide
example : (exW.F.members.get "cali40a").map (·.des) = some ["10.0.0.1"] := by decide

/- The remaining hypothesis of `ipsets_converge_partial` — `ApplyUpdates` succeeds — is satisfiable: evaluated
by the Lean interpreter (an executable check at build time, not a kernel proof: the kernel cannot unfold
`List.mergeSort`/`Nat.repr`).  `exW` takes the temp-set-and-swap path and destroys the stale temp set;
with a restore that dies after 2 lines and a failing first listing it still succeeds (after retries). -/
#guard exW.applyUpdates.2
#guard ({ exW with plan := { restores := [.failAt 2, .ok], names := [true, false] },
                   hintR := [["cali40a"], ["cali40a"]], hintD := ["cali4t0", "cali4t0", "cali4t1"] } : W).applyUpdates.2
#guard (exW.applyUpdates.1.K.get "cali40a").map (fun k => (k.type, k.members)) == some ("hash:ip", ["10.0.0.1"])

/- The same through a history, as in the statement of `ipsets_converge_partial`: a fresh `IPSets` over `exW`'s
kernel, one API call, then `ApplyUpdates` with a failure plan. -/
def exOps : List Op := [Op.add "a" "hash:ip" 100 0 0 ["10.0.0.1"]]
#guard (({ cfg := realCfg, F := {}, K := exW.K } : W).run exOps).F.fullReq
#guard ({ ({ cfg := realCfg, F := {}, K := exW.K } : W).run exOps with
           plan := { restores := [.failAt 2, .ok], names := [true, false] },
           hintR := [["cali40a"], ["cali40a"]], hintD := ["cali4t0", "cali4t0", "cali4t1"] } : W).applyUpdates.2
#guard (({ ({ cfg := realCfg, F := {}, K := exW.K } : W).run exOps with
           plan := { restores := [.failAt 2, .ok], names := [true, false] },
           hintR := [["cali40a"], ["cali40a"]], hintD := ["cali4t0", "cali4t0", "cali4t1"] } : W).applyUpdates.1.K.get "cali40a").map
         (fun k => (k.type, k.members)) == some ("hash:ip", ["10.0.0.1"])

/- `swap_atomic` is not vacuous: a set whose metadata differs from the dataplane's takes the
temporary-set branch (hypotheses satisfied by a concrete state). -/
def exF : Felix :=
  { desired := [("cali40a", ⟨"hash:ip", 200, 0, 0, false, false⟩)]
    dp := [("cali40a", ⟨"hash:ip", 100, 0, 0, false, false⟩)]
    members := [("cali40a", ⟨["10.0.0.2"], ["10.0.0.1"]⟩)] }

example : realCfg.isTemp "cali40a" = false := by decide
example : ∃ F' ls, exF.writeUpdates realCfg id "cali40a" = some (F', ls) := ⟨_, _, rfl⟩
example : needTemp (exF.dp.get "cali40a") ⟨"hash:ip", 200, 0, 0, false, false⟩ = true := by decide

end CalicoVerif.C16
