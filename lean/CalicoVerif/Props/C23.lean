import CalicoVerif.Proofs.C23
/-!
C23 — IPAM garbage collection never frees an address that is still in use.
Property theorems over the model `Model/C23.lean`.  Every conclusion is about the INPUT state of the
function concerned or about the state AT THE MOMENT of the call (`releaseTrace`), never about an
existentially chosen state.

IP releases
* `gc_release_justified_partial` — every item of a `ReleaseIPs` call of `garbageCollectKnownLeaks s` is a tracked
  allocation OF `s`, released with its tracked sequence number, which is a confirmed leak and fails the
  final re-validation against `s.env`.  `sync_release_justified_partial`: the same for a whole `syncIPAM`, about the
  state `checkAllocations` leaves.
* `handle_all_confirmed_partial` — every allocation of `s` sharing a released address's handle is a
  confirmed leak.  PARTIAL w.r.t. "all of a handle's addresses together or none": at batch level that is
  false and order dependent — `handle_split_witness` (reproduced on the real code, KNOWN-FINDING handle-split).
* `confirm_needs_grace_or_dead_node_partial` — `checkOne` turns a pod allocation into a confirmed leak only
  when it is invalid and its node is gone or a positive grace period has elapsed since it became a
  candidate.  PARTIAL: a statement about `checkOne` for arbitrary `knode`/`exists`; it is NOT lifted to
  `checkNode`/`checkAllocations`/whole histories (no invariant "confirmed ⇒ node gone ∨ grace elapsed" is
  proved), and nothing is proved about the confirmation of TUNNEL addresses (`checkNode`'s dead-node branch).
  `valid_is_never_confirmed` is a one-branch lemma about `checkOne`.

Block affinity releases (`releaseTrace` = the state at the moment of each call; `block_calls_eq_trace`)
* `block_release_guarded` — at each release: `emptyBlocks[b] = node`, `blocksByNode[node]` has ≥ 2 blocks,
  and a positive grace period has elapsed since an EARLIER sync first saw the block empty.  (That an
  `emptyBlocks` entry means "no allocation of the block is tracked" is not proved.)
* `reachable_idx`/`idx_step` — `blocksByNode[n]` is exactly the duplicate-free set of blocks with
  `nodesByBlock[b] = n`, and `emptyBlocks` entries name their block's node, in every reachable state.
* `never_last_block_index` — at each release another block `b'` has `nodesByBlock[b'] = node` (all reachable states).
* `never_last_block` — FULL strength w.r.t. the blocks SEEN (`seen`, a ghost field = latest host affinity delivered
  for each block; `reachable_tracks`: `nodesByBlock` agrees with it in every reachable state): at each release
  another block's latest seen affinity is `node`.  Both routes that used to break this are repaired in /repo
  (host→host 361e296, host→non-host 8ebf246); `last_block_history_fixed` / `last_block_virtual_history_fixed` are the
  old counterexample histories (kept as corpus + oracle signature `last-block-stale-index`).
-/
namespace CalicoVerif.C23

/-- PARTIAL w.r.t. the property's "its owner no longer justifies it": invalidity is
proved against the code's OWN validity function with the code's OWN choice of source (informer cache when the hosting
node is unknown, API otherwise), not against the ground truth — with a stale cache and an unknown node these differ
(KNOWN-FINDING release-in-use-node-gone-stale-cache), and the node name `a.knode` is the collector's cached one
(`tunnel_retry_history_fixed` is the history in which a stale one had a live node's tunnel address released).
What is proved: every (block, ordinal, handle, sequence number) that `garbageCollectKnownLeaks s`
passes to `ReleaseIPs` is an allocation tracked in `s`, with the sequence number tracked for it, that is a
confirmed leak and FAILS the final re-validation against the cluster state `s.env`. -/
theorem gc_release_justified_partial (s : St) (batch : List (Nat × Nat × Nat × Nat))
    (h : Call.releaseIPs batch ∈ (garbageCollectKnownLeaks s).2) :
    ∀ x ∈ batch, ∃ a ∈ s.allocs, x = (a.block, a.ord, a.handle, a.seq) ∧
      isValid s.env a a.knode.isNone = false ∧ a.confirmed = true := by
  intro x hx
  obtain ⟨a, ha, e, h1, h2, _⟩ := gc_items s batch h x hx
  exact ⟨a, ha, e, h1, h2⟩

/-- **handle guard (partial).** Every allocation tracked in `s` that shares the handle of a released address is a
confirmed leak (before any resurrection of this pass).  This is NOT "all of the handle's addresses are in the
batch": see `handle_split_witness`. -/
theorem handle_all_confirmed_partial (s : St) (batch : List (Nat × Nat × Nat × Nat))
    (h : Call.releaseIPs batch ∈ (garbageCollectKnownLeaks s).2) :
    ∀ x ∈ batch, ∀ c ∈ s.allocs, c.handle = x.2.2.1 → c.confirmed = true := by
  intro x hx c hc hch
  obtain ⟨a, _, e, _, _, h4⟩ := gc_items s batch h x hx
  subst e
  exact h4 c hc hch

/-- the `ReleaseIPs` calls of a whole `syncIPAM s` are those of `garbageCollectKnownLeaks` run on the state
`checkAllocations s` leaves; every item is justified in THAT state. -/
theorem sync_release_justified_partial (s : St) (batch : List (Nat × Nat × Nat × Nat))
    (h : Call.releaseIPs batch ∈ (syncIPAM s).2.1) :
    ∀ x ∈ batch, ∃ a ∈ (checkAllocations s).1.allocs, x = (a.block, a.ord, a.handle, a.seq) ∧
      isValid (checkAllocations s).1.env a a.knode.isNone = false ∧ a.confirmed = true := by
  rcases mem_syncIPAM_calls h with h | h | ⟨_, e⟩
  · exact gc_release_justified_partial _ batch h
  · obtain ⟨_, _, e⟩ := loop_only_rba _ _ _ h; cases e
  · cases e

theorem confirm_needs_grace_or_dead_node_partial (s : St) (knode : Option Nat) (ex : Bool) (a0 : Alloc)
    (h0 : a0.confirmed = false) (h1 : (checkOne s knode ex a0).a.confirmed = true) :
    a0.kind = .pod ∧ isValid s.env { a0 with knode := knode } true = false ∧
    (ex = false ∨ ∃ g t, s.grace = some g ∧ 0 < g ∧ a0.leakedAt = some t ∧ s.now - t > g) := by
  obtain ⟨blk, ord, hd, kind, nd, pd, sq, kn, la, cf⟩ := a0
  simp only at h0
  subst h0
  cases kind with
  | winres => simp [checkOne] at h1
  | unknown => simp [checkOne] at h1
  | tunnel => simp [checkOne] at h1
  | pod =>
    simp only [checkOne] at h1
    by_cases hv : isValid s.env { block := blk, ord := ord, handle := hd, kind := .pod, node := nd, pod := pd, seq := sq, knode := knode, leakedAt := la, confirmed := false } true = true
    · simp [hv, Alloc.markValid] at h1
    · simp only [hv] at h1
      refine ⟨rfl, by simpa using hv, ?_⟩
      cases ex with
      | false => exact Or.inl rfl
      | true =>
        right
        cases hg : s.grace with
        | none => simp [hg] at h1
        | some g =>
          simp only [hg, Bool.not_true, Bool.false_eq_true, if_false] at h1
          unfold Alloc.markLeak at h1
          cases la with
          | none => simp at h1
          | some t =>
            simp only [Option.getD_some, Bool.not_false, Bool.and_true] at h1
            by_cases hc : (decide (s.now - t > g) && decide (g > 0)) = true
            · simp only [Bool.and_eq_true, decide_eq_true_eq] at hc
              exact ⟨g, t, rfl, hc.2, rfl, hc.1⟩
            · simp [hc] at h1

/-- One call of `checkOne` on a pod allocation that is valid (for arbitrary `knode`/`ex`) resets it:
not confirmed, no candidate timestamp, and it blocks the clean-up of its node. -/
theorem valid_is_never_confirmed (s : St) (knode : Option Nat) (ex : Bool) (a0 : Alloc) (hk : a0.kind = .pod)
    (hv : isValid s.env { a0 with knode := knode } true = true) :
    (checkOne s knode ex a0).a.confirmed = false ∧ (checkOne s knode ex a0).a.leakedAt = none ∧
    (checkOne s knode ex a0).blocks = true := by
  obtain ⟨blk, ord, hd, kind, nd, pd, sq, kn, la, cf⟩ := a0
  simp only at hk
  subst hk
  simp only at hv
  simp [checkOne, hv, Alloc.markValid]

/-- the `ReleaseBlockAffinity` calls of `releaseUnusedBlocks st` are exactly the entries of the trace, in order:
each call is made in the recorded state -/
theorem block_calls_eq_trace (st : St) :
    (releaseUnusedBlocks st).2 = (releaseTrace st (sortKV st.emptyBlocks)).map (fun t => Call.releaseBlockAffinity t.2.1 t.2.2) :=
  loop_calls_eq_trace st _

/-- In the state at the moment of each `ReleaseBlockAffinity(b, node)`:
`emptyBlocks[b] = node`, `blocksByNode[node]` lists at least two blocks, and a positive grace period has elapsed
since an EARLIER sync first recorded the block as empty. -/
theorem block_release_guarded (st : St) :
    ∀ t ∈ releaseTrace st (sortKV st.emptyBlocks), BlockGuard t.1 t.2.1 t.2.2 :=
  trace_guard st _ (listOK_sortKV st)

/-- **never_last_block w.r.t. the collector's `nodesByBlock`** (every state with consistent indexes, i.e. every
reachable state): at the moment of each release, `nodesByBlock[b] = node` and ANOTHER block `b'` has
`nodesByBlock[b'] = node`. -/
theorem never_last_block_index (st : St) (hI : Idx st) :
    ∀ t ∈ releaseTrace st (sortKV st.emptyBlocks), NotLast t.1 t.2.1 t.2.2 :=
  fun t ht => notLast_of_guard ((stable_loop idx_stable _ st hI).2 t ht) (block_release_guarded st t ht)

/-- **never_last_block w.r.t. the blocks SEEN.**  In a state with consistent indexes that agree with the latest host
affinity seen for every block (every reachable state: `reachable_idx`, `reachable_tracks`), at the moment of each
release the released block's latest seen affinity is `node` and ANOTHER block's latest seen affinity is `node`. -/
theorem never_last_block (st : St) (hI : Idx st) (hT : Tracks st) :
    ∀ t ∈ releaseTrace st (sortKV st.emptyBlocks),
      t.1.seen.get t.2.1 = some t.2.2 ∧ ∃ b', b' ≠ t.2.1 ∧ t.1.seen.get b' = some t.2.2 := by
  intro t ht
  obtain ⟨hm, b', hne, hb'⟩ := never_last_block_index st hI t ht
  have hTt := (stable_loop tracks_stable _ st hT).2 t ht
  exact ⟨by rw [← hTt]; exact hm, b', hne, by rw [← hTt]; exact hb'⟩

/-- when `ReleaseIPs` fails the attempted batch is justified in the same way (and nothing is released) -/
theorem syncFail_release_justified_partial (s : St) (batch : List (Nat × Nat × Nat × Nat))
    (h : Call.releaseIPs batch ∈ (syncIPAMFail s).2.1) :
    ∀ x ∈ batch, ∃ a ∈ (checkAllocations s).1.allocs, x = (a.block, a.ord, a.handle, a.seq) ∧
      isValid (checkAllocations s).1.env a a.knode.isNone = false ∧ a.confirmed = true := by
  intro x hx
  simp only [syncIPAMFail, List.mem_singleton, Call.releaseIPs.injEq] at h
  subst h
  obtain ⟨a, h1, e, h2, h3, _⟩ := gcSelect_items (checkAllocations s).1 x hx
  exact ⟨a, h1, e, h2, h3⟩

theorem idx_step {s : St} (hI : Idx s) (op : Op) : Idx (step s op).1 := stable_step idx_stable hI op

/-- **a whole sync, from any state with consistent indexes**: every `ReleaseBlockAffinity(b, node)` of `syncIPAM s`
is an entry of the release trace of the state `s2` that `checkAllocations` and `garbageCollectKnownLeaks` leave,
and in the recorded at-release state the guard holds and `node` has another block in `nodesByBlock`. -/
theorem sync_block_release (s : St) (hI : Idx s) (b node : Nat)
    (h : Call.releaseBlockAffinity b node ∈ (syncIPAM s).2.1) :
    ∃ t ∈ releaseTrace (garbageCollectKnownLeaks (checkAllocations s).1).1
        (sortKV (garbageCollectKnownLeaks (checkAllocations s).1).1.emptyBlocks),
      t.2 = (b, node) ∧ BlockGuard t.1 b node ∧ NotLast t.1 b node := by
  have h2 : Idx (garbageCollectKnownLeaks (checkAllocations s).1).1 :=
    (hI.of_fr (fr_checkAllocations s)).of_fr (fr_gc _)
  rcases mem_syncIPAM_calls h with h | h | ⟨_, e⟩
  · cases gc_calls h
  · rw [block_calls_eq_trace, List.mem_map] at h
    obtain ⟨t, ht, he⟩ := h
    simp only [Call.releaseBlockAffinity.injEq] at he
    obtain ⟨rfl, rfl⟩ := he
    exact ⟨t, ht, rfl, block_release_guarded _ t ht, never_last_block_index _ h2 t ht⟩
  · cases e

def runOps (s : St) : List Op → St × List (List Call)
  | [] => (s, [])
  | op :: ops =>
    let r := step s op
    let r2 := runOps r.1 ops
    (r2.1, r.2.1 :: r2.2)

theorem idx_init (g : Option Nat) : Idx { grace := g } :=
  ⟨fun n b => by simp [blocksOf, AMap.get], fun n => by simp [blocksOf, AMap.get], fun b n h => by simp [AMap.get] at h⟩

theorem stable_runOps {P : St → Prop} (hP : Stable P) (ops : List Op) {s : St} (h : P s) : P (runOps s ops).1 := by
  induction ops generalizing s with
  | nil => exact h
  | cons op ops ih => exact ih (stable_step hP h op)

/-- every state reachable from a fresh controller has consistent indexes -/
theorem reachable_idx (g : Option Nat) (ops : List Op) : Idx (runOps { grace := g } ops).1 :=
  stable_runOps idx_stable ops (idx_init g)

/-- **the indexes agree with the blocks seen in every reachable state** (since /repo 8ebf246 also for blocks
re-seen with a non-`host:` affinity) -/
theorem reachable_tracks (g : Option Nat) (ops : List Op) : Tracks (runOps { grace := g } ops).1 :=
  stable_runOps tracks_stable ops (fun b => by simp [AMap.get])

/-- node 1 owns blocks 1 (one tunnel address) and 2 (empty); block 1 is then seen with a `virtual:` affinity
(not a host affinity: node 1 no longer owns it); two syncs 70 minutes apart (grace 60). -/
def lastBlockVirtualHistory : List Op :=
  [.inSync, .cnode 1 (some 1), .knode 1 true,
   .block 1 (.host 1) [⟨0, some 7, .tunnel, 1, 0, 1⟩], .block 2 (.host 1) [],
   .block 1 .other [⟨0, some 7, .tunnel, 1, 0, 1⟩],
   .sync true, .tick 70, .sync true]

/-- with the repaired `onBlockUpdated` (/repo 8ebf246) that history releases nothing: block 2 is node 1's only block -/
theorem last_block_virtual_history_fixed :
    let r := runOps { grace := some 60 } lastBlockVirtualHistory
    r.2.getLast? = some [] ∧ r.1.blocksByNode.get 1 = some [2] ∧ r.1.nodesByBlock.get 1 = none := by
  decide +kernel

/-- the host→host history that was a counterexample before /repo 361e296 now releases nothing -/
def lastBlockHistory : List Op :=
  [.inSync, .cnode 1 (some 1), .knode 1 true, .cnode 2 (some 2), .knode 2 true,
   .block 1 (.host 1) [⟨0, some 7, .tunnel, 1, 0, 1⟩], .block 2 (.host 1) [],
   .block 1 (.host 2) [⟨0, some 7, .tunnel, 1, 0, 1⟩],
   .sync true, .tick 70, .sync true]

theorem last_block_history_fixed :
    let r := runOps { grace := some 60 } lastBlockHistory
    r.2.getLast? = some [] ∧ r.1.blocksByNode.get 1 = some [2] ∧ r.1.blocksByNode.get 2 = some [1] := by
  decide +kernel

/-- node 1 is deleted, its tunnel address becomes a confirmed leak in a FULL sync whose `ReleaseIPs` fails; the node
is re-created before the dirty-only retry. -/
def tunnelRetryHistory : List Op :=
  [.inSync, .cnode 1 (some 1), .knode 1 true, .block 4 (.host 1) [⟨0, some 8, .tunnel, 1, 0, 1⟩], .sync true,
   .knode 1 false, .cnodeDel 1, .failRel, .sync true, .cnode 1 (some 1), .knode 1 true, .sync false]

/-- since /repo f65adf3 the node stays dirty after the failed sync, so the retry re-checks it, refreshes the cached
node name and releases NOTHING; the live node keeps its tunnel address (before the repair the retry released it:
corpus/C23/tunnel-stale-knode.ops). -/
theorem tunnel_retry_history_fixed :
    let r := runOps { grace := some 60 } tunnelRetryHistory
    r.2.getLast? = some [] ∧ r.1.leaks = [] ∧
    r.1.allocs.map (fun a => (a.block, a.ord, a.knode, a.confirmed)) = [(4, 0, some 1, false)] := by
  decide +kernel

/-- two addresses of handle 4 (pod 4 on node 1); the informer cache has lost the pod, the API has it and it
reports only address 1.1; both addresses become candidates, then (70 min later, grace 60) confirmed leaks. -/
def handleSplitHistory : List Op :=
  [.inSync, .cnode 1 (some 1), .knode 1 true,
   .block 1 (.host 1) [⟨0, some 4, .pod, 1, 4, 1⟩, ⟨1, some 4, .pod, 1, 4, 2⟩],
   .pod 4 false true ⟨1, [(1, 1)], false⟩, .sync false, .tick 70]

/-- **Witness: `handle_all_or_none` is false at batch level and depends on the order in which
`garbageCollectKnownLeaks` visits `confirmedLeaks`** (a Go map).  From the SAME state, visiting address 1.0
first releases it alone (its handle-mate 1.1 is resurrected by the final API check afterwards); visiting 1.1
first releases nothing.  Reproduced on the real controller by the harness's order-parametric probe
(64 fresh runs: both outcomes occur; oracle signature `handle-split`). -/
theorem handle_split_witness :
    let s := (checkAllocations { (runOps { grace := some 60 } handleSplitHistory).1 with fullSync := true }).1
    s.leaks = [(4, 1, 0), (4, 1, 1)] ∧
    ((gcSelect s [(4, 1, 0), (4, 1, 1)]).2.map (fun a => (a.block, a.ord))) = [(1, 0)] ∧
    ((gcSelect s [(4, 1, 1), (4, 1, 0)]).2.map (fun a => (a.block, a.ord))) = [] := by
  decide +kernel

/-- a pod address whose pod is gone from cache and API, on an existing node, grace 60 min:
candidate at the first sync, released (with its sequence number) at the sync 70 minutes later -/
def leakHistory : List Op :=
  [.inSync, .cnode 1 (some 1), .knode 1 true, .block 1 (.host 1) [⟨3, some 4, .pod, 1, 4, 9⟩],
   .sync false, .tick 70, .sync true]

example : ((runOps { grace := some 60 } leakHistory).2.getLast?) = some [Call.releaseIPs [(1, 3, 4, 9)]] := by
  decide +kernel

/-- … and is NOT released when only 40 minutes have passed, nor when the pod exists with that address -/
example : ((runOps { grace := some 60 } [.inSync, .cnode 1 (some 1), .knode 1 true,
    .block 1 (.host 1) [⟨3, some 4, .pod, 1, 4, 9⟩], .sync false, .tick 40, .sync true]).2.getLast?) = some [] := by
  decide +kernel

example : ((runOps { grace := some 60 } [.inSync, .cnode 1 (some 1), .knode 1 true,
    .pod 4 true true ⟨1, [(1, 3)], false⟩,
    .block 1 (.host 1) [⟨3, some 4, .pod, 1, 4, 9⟩], .sync false, .tick 70, .sync true]).2.getLast?) = some [] := by
  decide +kernel

/-- `block_release_guarded` is not vacuous: a node with one in-use and one empty block has the empty one released -/
example : ((runOps { grace := some 60 } [.inSync, .cnode 1 (some 1), .knode 1 true,
    .block 1 (.host 1) [⟨0, some 7, .tunnel, 1, 0, 1⟩], .block 2 (.host 1) [], .sync true, .tick 70, .sync true]).2.getLast?)
    = some [Call.releaseBlockAffinity 2 1] := by
  decide +kernel

end CalicoVerif.C23
