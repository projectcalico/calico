import CalicoVerif.Proofs.C15Fuel
import CalicoVerif.Proofs.C15Hooks
/-!
C15 — iptables sync converges and leaves other software's rules alone (legacy iptables backend).
Property theorems over the model `CalicoVerif.Model.C15` of felix/iptables/table.go and of
iptables-save and iptables-restore (atomic transactions).  Rule hashes are uninterpreted (supplied by the real
renderer on every correspondence run).

Convergence for Felix's own chains is proved end to end (`apply_converges_owned_chains_partial`; partial because
"desired" is the code's reference-count notion): after ANY history of
API calls, restarts, foreign edits of the table and Applies with any failures, from any start table, an `Apply`
that returns — over its whole retry loop, with any iptables-save or iptables-restore failures — leaves every Felix-owned chain
name holding exactly the desired rules in order, or absent.  The invariant behind it (`TInv`: the cache of
programmed hashes equals the desired hashes for clean chains, ...) is proved inductive over every operation
(`invariant_always`).  Explicit assumptions: the Apply re-reads the table (cache marked invalid — as after every
API change, refresh, restart or failed Apply); nobody edits the table between that read and the write; hash
soundness (`HashSound`: a kernel rule carrying a desired rule's hash IS that rule); hook rules are only put into
chains outside Felix's name space.
"Desired" is the code's notion (present + positive reference count); that the reference counts equal reachability
from hooks and force-programmed chains is NOT proved in Lean (it was false before /repo e60ddc3, see
`unforced_update_releases_children`); the harness checks it on the real code after every operation (oracle
`refcount-not-reachability`) and checks reachability of every Felix chain left in the table after every Apply.
Convergence for hook rules in shared chains is proved only for one iteration and only when the hooks are out of
sync (`apply_converges_hooks_partial`): NOT lifted over the retry loop/histories.  The nftables backend is not
modelled.
-/
namespace CalicoVerif.C15

/-- **The invariant** holds after every history from a new `Table`: well-formed API calls (hook rules go to
chains outside Felix's name space), restarts, foreign edits of the table, and `Apply` with any iptables-save /
iptables-restore failures and out-of-band edits, whether it returns or panics. -/
theorem invariant_always (P : List String) (hk : ∀ c ∈ kernelChains, oursP P c = false) (mode : Bool) (K0 : Kernel)
    (ops : List Op) (hwf : ∀ o ∈ ops, o.wf P) : TInv (({ t := T.new P mode, K := K0 } : W).run ops).t :=
  (run_pinv hk ops { t := T.new P mode, K := K0 } hwf (PInv.new P mode hk)).tinv

/-- **apply_converges, owned chains** (partial: "desired" is the code's notion — present in Felix's state with a
positive reference count; that the reference counts equal reachability from hook rules and force-programmed chains
is not proved in Lean, only checked exhaustively on small universes (`allOK`) and on the real code by an oracle; the
Apply must start with the cache out of date and `HashSound` is assumed).  From ANY start table `K0`, after ANY history `ops` (API calls, restarts,
foreign edits of the table, earlier Applies with any failures), if `Apply` — begun with the cache marked out of
date, run with any iptables-save failures `sf` and iptables-restore failures `rf` over its whole retry loop,
with nobody editing the table between Felix's read and its write — returns, then every Felix-owned chain name
holds exactly the desired rules in the desired order if the chain is desired (present in Felix's state and
referenced), and does not exist otherwise: stale Felix chains, including ones with historic prefixes, are gone. -/
theorem apply_converges_owned_chains_partial (P : List String) (hk : ∀ c ∈ kernelChains, oursP P c = false) (mode : Bool)
    (K0 : Kernel) (ops : List Op) (hwf : ∀ o ∈ ops, o.wf P) (sf rf : List Bool) :
    let w : W := { ({ t := T.new P mode, K := K0 } : W).run ops with saveFails := sf, restoreFails := rf, pre := none, trace := [] }
    w.t.inSync = false → HashSound w.t w.K → w.apply.2 = true →
    ∀ c, oursP P c = true → c ≠ "" →
      w.apply.1.K.get c = (w.t.desiredChain c).map (fun ch => ch.rules.map DRule.k) := by
  intro w hns hs hok c ho hne
  have hinv : PInv P w.t := run_pinv hk ops { t := T.new P mode, K := K0 } hwf (PInv.new P mode hk)
  exact apply_converges_loop w hinv.tinv hs hns rfl hok c ((hinv.ours c).trans ho)

/-- One iteration, as a stand-alone statement (the step the theorem above iterates): from ANY kernel table, one
`Apply` iteration that re-reads the table and whose transaction succeeds. -/
theorem apply_iteration_owned_chains (t : T) (K K' : Kernel) {lines newH newFull}
    (hinv : TInv t)
    (hsound : ∀ c ch rs, t.ours c = true → t.desiredChain c = some ch → K.get c = some rs → Sound rs ch.rules)
    (hplan : (t.load K).plan = some (lines, newH, newFull)) (hres : krestore K lines = some K')
    (c : String) (hours : t.ours c = true) (hne : c ≠ "") :
    K'.get c = (t.desiredChain c).map (fun ch => ch.rules.map DRule.k) :=
  apply_converges_owned t K K' hinv hsound hplan hres c hours

/-- **Rules and chains that are not Felix's are left alone** by a whole `Apply`: from ANY start table, after ANY
history of well-formed calls (Felix-prefixed chain names, hook rules only in chains outside the prefixes, jumps only
to Felix chains: `Op.wf`), an `Apply` begun with the cache out of date and with nobody editing the table between
Felix's read and its write — for any save/restore failure plan, whether it returns or panics — leaves in every chain
outside Felix's name space the rules of other software unchanged and in the same order, and neither creates nor
deletes such a chain.  (`dirtyChains` only ever holds Felix names: part of the invariant.) -/
theorem non_felix_rules_unchanged (P : List String) (hk : ∀ c ∈ kernelChains, oursP P c = false) (mode : Bool)
    (K0 : Kernel) (ops : List Op) (hwf : ∀ o ∈ ops, o.wf P) (sf rf : List Bool) :
    let w : W := { ({ t := T.new P mode, K := K0 } : W).run ops with saveFails := sf, restoreFails := rf, pre := none, trace := [] }
    w.t.inSync = false → ∀ x, oursP P x = false → x ≠ "" →
      (w.apply.1.K.get x).map foreignSub = (w.K.get x).map foreignSub := by
  intro w hns x hx hne
  have hinv : PInv P w.t := run_pinv hk ops { t := T.new P mode, K := K0 } hwf (PInv.new P mode hk)
  exact apply_foreign w hinv hns rfl x hx

/-- **The model's fuel bound is never reached** on ranked histories: if every `UpdateChain` only jumps to chains of
strictly lower rank (so the reference graph is acyclic; the real `decrefChain` does not terminate on a cycle) then
after any history the graph is still ranked, and every incref/decref cascade started at a chain of rank below the
model's fuel (64) computes the same state with any larger amount of fuel — the cut-off that makes the model total
plays no role.  (The other theorems do not assume rankedness; outside it they speak about the model only.) -/
theorem fuel_never_exhausted (rk : String → Nat) (P : List String) (mode : Bool) (K0 : Kernel) (ops : List Op)
    (hr : ∀ o ∈ ops, o.ranked rk) :
    let t := (({ t := T.new P mode, K := K0 } : W).run ops).t
    Ranked rk t ∧ ∀ n, rk n < fuel → ∀ k, T.incref (fuel + k) t n = T.incref fuel t n ∧ T.decref (fuel + k) t n = T.decref fuel t n := by
  intro t
  have h : Ranked rk t := run_ranked rk ops { t := T.new P mode, K := K0 } hr (fun c ch hc => nomatch hc)
  exact ⟨h, fun n hn k => ⟨fuel_enough rk T.incref (incref_fuel rk) t n h fuel hn k, fuel_enough rk T.decref (decref_fuel rk) t n h fuel hn k⟩⟩

/-- **apply_converges, hook rules** (partial: ONE iteration that re-reads the table and whose transaction
succeeds, and only when the chain's hooks are out of sync (`hnot`); not lifted over the retry loop or over
histories; of the hypotheses on the table state, `hdirtyOurs` holds after every history (`run_pinv`), `hkeys`,
`hnodupIA` and `hcIA` are not proved invariant).  For a shared (kernel) chain `c` whose hooks are out of
sync: afterwards it holds Felix's insert rules at the configured end (top in insert mode, after the other
software's rules in append mode) in the configured order, then the append rules last, and the other software's
rules exactly as they were and in the same order; every stale Felix rule (unknown hash, old-style insert) is gone. -/
theorem apply_converges_hooks_partial (t : T) (K K' : Kernel) {lines newH newFull} (c : String) (rs : List KRule)
    (hkeys : K.keys.Nodup) (hno : t.ours c = false) (hne : c ≠ "")
    (hdirtyOurs : ∀ x ∈ t.dirty, t.ours x = true) (hnodupIA : t.dirtyIA.Nodup)
    (hK : K.get c = some rs) (hhash : HashNonEmpty rs)
    (hplan : (t.load K).plan = some (lines, newH, newFull)) (hres : krestore K lines = some K')
    (hcIA : c ∈ (t.load K).dirtyIA)
    (hnot : (some (rs.map KRule.hash) == some (t.expectedIA c (numEmpty (rs.map KRule.hash)))) = false) :
    K'.get c = some
      (if t.insertMode then ((t.ins.get c).getD []).map DRule.k ++ foreignSub rs ++ ((t.app.get c).getD []).map DRule.k
       else foreignSub rs ++ ((t.ins.get c).getD []).map DRule.k ++ ((t.app.get c).getD []).map DRule.k) := by
  have hcd : c ∉ (t.load K).dirty := fun h => by
    have := (load_dirty h).elim (hdirtyOurs c) id
    rw [hno] at this; cases this
  have h := krestore_get c _ _ _ hres
  rw [hooks_at hplan hne hcd hcIA (load_nodupIA K hnodupIA), hK,
    iaLines_out_of_sync t K c rs hkeys hno hK hhash hnot] at h
  exact (effAt_hook_lines c rs _ _ t.insertMode h).symm ▸ rfl

/-- **The diff lemma**: the per-position replace / delete-from-the-end / append lines turn a chain whose hashes
are `ps` into exactly the desired rules, in order, always succeed, and touch no other chain. -/
theorem diff_lemma (c : String) (ps : List String) (rs : List DRule) (L : List KRule) (K : Kernel)
    (hm : L.map KRule.hash = ps) (hs : Sound L rs) (hk : K.get c = some L) :
    ∃ K', krestore K (diffLines c rs.length 0 ps rs) = some K' ∧
      K'.get c = some (rs.map DRule.k) ∧ ∀ x, x ≠ c → K'.get x = K.get x :=
  krestore_of_effAt c _ K _ (diffLines_chain c _ _ _ _) (hk ▸ diff_converges c rs.length 0 ps rs L [] (Nat.zero_add _).symm (fun _ => rfl) hm hs)

/-- **unowned_rules_unchanged** (one successful `applyUpdates` transaction, from ANY kernel table, for any
desired state and any cached state read by `loadDataplaneState`): for every chain `x` that is not in
`dirtyChains` — in particular every chain that is not Felix's — the rules of other software in `x`
are unchanged and in the same relative order, and `x` is neither created nor deleted. -/
theorem unowned_rules_unchanged {t : T} (hf : FullOK t) {lines newH newFull}
    (h : t.plan = some (lines, newH, newFull)) (K K' : Kernel) (hr : krestore K lines = some K')
    (x : String) (hx : x ∉ t.dirty) (hne : x ≠ "") :
    (K'.get x).map foreignSub = (K.get x).map foreignSub :=
  foreign_unchanged hf h K K' hr x hx

theorem unowned_unchanged {t : T} (hf : FullOK t) {lines newH newFull}
    (h : t.plan = some (lines, newH, newFull)) (K K' : Kernel) (hr : krestore K lines = some K')
    (x : String) (hx : x ∉ t.dirty) (hne : x ≠ "") :
    (K'.get x).map foreignSub = (K.get x).map foreignSub :=
  foreign_unchanged hf h K K' hr x hx

/-- The hypothesis `FullOK` of `unowned_rules_unchanged` holds after every `loadDataplaneState`
(and `Apply` re-reads the table before it writes hook rules: every API call of the model that queues a chain for its
hook rules also invalidates the cache, and the only other place that queues one is the re-read itself, the scans of
`loadDataplaneState` — read off `Model/C15`, not a theorem). -/
theorem fullOK_after_load (t : T) (K : Kernel) : FullOK (t.load K) := load_FullOK t K

/-- Chains that no line of a transaction names are bit-for-bit unchanged by it. -/
theorem untouched_chains_identical (x : String) (ls : List RLine) (K K' : Kernel)
    (h : ∀ l ∈ ls, l.chain ≠ x) (hr : krestore K ls = some K') : K'.get x = K.get x :=
  Option.some.inj ((krestore_get x ls K K' hr).symm.trans (effAt_quiet h _))

/-- What the transaction may contain: every line names a chain in `dirtyChains`, or is a tagged
hook line (insert/append of a Felix rule, delete-by-value of a Felix rule), or is malformed
(and then the whole transaction fails atomically). -/
theorem transaction_lines {t : T} (hf : FullOK t) {lines newH newFull}
    (h : t.plan = some (lines, newH, newFull)) :
    ∀ l ∈ lines, l.chain ∈ t.dirty ∨ l.tagged = true ∨ l.chain = "" := fun l hl =>
  (plan_lines_hook h l hl).imp_right fun ⟨c, _, hh⟩ => (hh.tagged (hf.get c)).imp_right fun ⟨_, e⟩ => e ▸ rfl

/-- **no_rewrite_if_equal**: the per-position diff of a chain whose dataplane hash list equals the
desired hash list is empty — no line is written for it, so its rules and counters are untouched. -/
theorem no_rewrite_if_equal (c : String) (n : Nat) (rs : List DRule) (i : Nat) :
    diffLines c n i (rs.map (·.hash)) rs = [] := by
  induction rs generalizing i with
  | nil => rw [List.map_nil, diffLines]
  | cons r rs ih => rw [List.map_cons, diffLines, if_pos (beq_self_eq_true _)]; exact ih _

example : FullOK (T.new [] true) := by
  intro c frs h; simp [T.new, Map.get] at h

example :
    (krestore [("FORWARD", [KRule.old "-j felix-FORWARD", KRule.foreign "-j DOCKER", KRule.felix "OLDHASH" "--jump DROP"])]
      [RLine.delVal "FORWARD" (KRule.old "-j felix-FORWARD"), RLine.delVal "FORWARD" (KRule.felix "OLDHASH" "--jump DROP"),
       RLine.insert "FORWARD" (KRule.felix "NEWHASH" "--jump cali-FORWARD")]).map (fun K => K.get "FORWARD")
    = some (some [KRule.felix "NEWHASH" "--jump cali-FORWARD", KRule.foreign "-j DOCKER"]) := by decide

example : diffLines "cali-a" 1 0 ["h1", "h2"] [⟨"h1", "--jump DROP", none⟩]
    = [RLine.delIdx "cali-a" 2] := by simp [diffLines]

/- `CacheOK`, `Sound` and the other hypotheses of the convergence theorems hold for `exT`, a fresh table with one
force-programmed chain, and `exK`, a kernel table with an out-of-date copy of it: the examples below. -/
def exT : T := (T.new ["cali-"] true).updateChain "cali-a" ⟨[⟨"h1", "--jump DROP", none⟩, ⟨"h2", "--jump ACCEPT", none⟩], true⟩
def exK : Kernel := [("cali-a", [KRule.felix "h1" "--jump DROP", KRule.felix "old" "--jump RETURN", KRule.felix "x" "--jump RETURN"]),
  ("FORWARD", [KRule.foreign "-j DOCKER"]), ("INPUT", []), ("OUTPUT", [])]

example : exT.ours "cali-a" = true ∧ exT.dirty.Nodup ∧ "cali-a" ∈ exT.dirty := by decide
example : Sound [KRule.felix "h1" "--jump DROP", KRule.felix "old" "--jump RETURN", KRule.felix "x" "--jump RETURN"]
    [⟨"h1", "--jump DROP", none⟩, ⟨"h2", "--jump ACCEPT", none⟩] := by
  simp [Sound, KRule.hash, DRule.k]
example : (krestore exK (diffLines "cali-a" 2 0 ["h1", "old", "x"]
    [⟨"h1", "--jump DROP", none⟩, ⟨"h2", "--jump ACCEPT", none⟩])).map (fun K => K.get "cali-a") =
    some (some [KRule.felix "h1" "--jump DROP", KRule.felix "h2" "--jump ACCEPT"]) := by
  simp [diffLines, krestore, kline, exK, Map.get, Map.set, Map.erase, List.lookup, DRule.k]
/-- `CacheOK exT`: the only owned chain with a desired state is dirty; nothing is cached for the others. -/
example : CacheOK exT := by
  intro c _ hnd
  have hd : exT.dirty = ["cali-a"] := by decide
  have hc : exT.chains = [("cali-a", ⟨[⟨"h1", "--jump DROP", none⟩, ⟨"h2", "--jump ACCEPT", none⟩], true⟩)] := by decide
  have hp : exT.dpHashes = [] := by decide
  rw [hd] at hnd
  have hne : c ≠ "cali-a" := by simpa using hnd
  have hg : exT.chains.get c = none := by
    have hb : (c == "cali-a") = false := by simp [hne]
    rw [hc]; simp only [Map.get, List.lookup, hb]
  have hg' : List.lookup c exT.chains = none := hg
  simp only [T.desiredChain, hp, Map.get, List.lookup, hg']
  split <;> rfl
/- The iteration the convergence theorems talk about exists for `exT`/`exK`: the plan after re-reading the table
is defined, its transaction succeeds, and the owned chain ends up as desired while the foreign rule stays. -/
#guard ((exT.load exK).plan).isSome
#guard (((exT.load exK).plan).bind (fun p => krestore exK p.1)).isSome
#guard (((exT.load exK).plan).bind (fun p => krestore exK p.1)).map (fun K => (K.get "cali-a", K.get "FORWARD")) ==
  some (some [KRule.felix "h1" "--jump DROP", KRule.felix "h2" "--jump ACCEPT"], some [KRule.foreign "-j DOCKER"])
example : HashNonEmpty [KRule.old "-j felix-FORWARD", KRule.foreign "-j DOCKER", KRule.felix "OLDHASH" "--jump DROP"] := by
  intro r hr
  simp only [List.mem_cons, List.not_mem_nil, or_false] at hr
  rcases hr with rfl | rfl | rfl <;> simp [KRule.hash, KRule.isForeign]

/-! Non-vacuity of `apply_converges_owned_chains_partial`: the real prefixes, a start table with a stale copy of a Felix
chain, a stale Felix chain nobody wants and a foreign rule; a history with an API call, an Apply whose first save and first transaction fail,
a foreign edit of the Felix chain, a stale Felix chain appearing, and a refresh; then an Apply with failures. -/
def exP : List String := ["cali-", "califw-", "calitw-", "califh-", "calith-", "calipi-", "calipo-", "felix-"]
def exOps : List Op :=
  [Op.chain "cali-a" ⟨[⟨"h1", "--jump DROP", none⟩, ⟨"h2", "--jump ACCEPT", none⟩], true⟩,
   Op.apply [true] [true] none,
   Op.kchain "cali-a" [KRule.felix "h1" "--jump DROP", KRule.felix "zz" "--jump RETURN"],
   Op.kchain "cali-stale" [KRule.felix "q" "--jump RETURN"],
   Op.invalidate]
def exW : W := { ({ t := T.new exP true, K := exK } : W).run exOps with saveFails := [true, false], restoreFails := [true, false], pre := none, trace := [] }

example : ∀ c ∈ kernelChains, oursP exP c = false := by decide
example : ∀ o ∈ exOps, o.wf exP := by
  intro o ho
  simp only [exOps, List.mem_cons, List.not_mem_nil, or_false] at ho
  rcases ho with rfl | rfl | rfl | rfl | rfl <;> first | trivial | (constructor <;> decide)
/- the same history is ranked (no jumps at all), and a history with hook rules and a two-level jump is well-formed
and ranked for the rank "position in a-b-c" -/
example : ∀ o ∈ exOps, o.ranked (fun _ => 0) := by
  intro o ho
  simp only [exOps, List.mem_cons, List.not_mem_nil, or_false] at ho
  rcases ho with rfl | rfl | rfl | rfl | rfl <;> first | trivial | (intro x hx; simp [refsOf] at hx)
def exRk (c : String) : Nat := if c == "cali-a" then 2 else if c == "cali-b" then 1 else 0
def exOps3 : List Op :=
  [Op.chain "cali-b" ⟨[⟨"hb", "--jump cali-c", some "cali-c"⟩], false⟩,
   Op.chain "cali-a" ⟨[⟨"ha", "--jump cali-b", some "cali-b"⟩], true⟩,
   Op.ins "FORWARD" [⟨"hf", "--jump cali-a", some "cali-a"⟩], Op.rmchain "cali-a"]
example : (∀ o ∈ exOps3, o.wf exP) ∧ (∀ o ∈ exOps3, o.ranked exRk) := by
  constructor <;> (intro o ho; simp only [exOps3, List.mem_cons, List.not_mem_nil, or_false] at ho;
                   rcases ho with rfl | rfl | rfl | rfl) <;> simp [Op.wf, Op.ranked, refsOf] <;> decide
#guard !exW.dead
#guard !exW.t.inSync
#guard exW.apply.2
#guard exW.K.get "cali-a" == some [KRule.felix "h1" "--jump DROP", KRule.felix "zz" "--jump RETURN"]
#guard exW.apply.1.K.get "cali-a" == some [KRule.felix "h1" "--jump DROP", KRule.felix "h2" "--jump ACCEPT"]
#guard exW.apply.1.K.get "cali-stale" == none
#guard exW.apply.1.K.get "FORWARD" == some [KRule.foreign "-j DOCKER"]
#guard exW.t.refd "cali-a" && exW.t.chains.keys == ["cali-a"]
/-- `HashSound` for a table like `exW`'s: the only kernel rule in `cali-a` that carries the hash of a desired rule
(`h1`) is that rule. -/
example : HashSound exT [("cali-a", [KRule.felix "h1" "--jump DROP", KRule.felix "zz" "--jump RETURN"]),
    ("cali-stale", [KRule.felix "q" "--jump RETURN"])] := by
  intro c ch rs _ hd hk r hr d hdm hh
  have hc : exT.chains = [("cali-a", ⟨[⟨"h1", "--jump DROP", none⟩, ⟨"h2", "--jump ACCEPT", none⟩], true⟩)] := by decide
  by_cases hca : c = "cali-a"
  · subst hca
    have hd' : exT.desiredChain "cali-a" = some ⟨[⟨"h1", "--jump DROP", none⟩, ⟨"h2", "--jump ACCEPT", none⟩], true⟩ := by decide
    rw [hd'] at hd
    simp only [Option.some.injEq] at hd
    subst hd
    simp only [Map.get, List.lookup, beq_self_eq_true, Option.some.injEq] at hk
    subst hk
    simp only [List.mem_cons, List.not_mem_nil, or_false] at hr hdm
    rcases hr with rfl | rfl <;> rcases hdm with rfl | rfl <;> simp [KRule.hash, DRule.k] at hh ⊢
  · exfalso
    have hb : (c == "cali-a") = false := by simp [hca]
    have hg : List.lookup c exT.chains = none := by rw [hc]; simp only [List.lookup, hb]
    simp only [T.desiredChain, Map.get, hg] at hd
    split at hd <;> simp at hd

/-! ### Regression: taking the force flag off an otherwise unreferenced chain releases everything (fixed in /repo e60ddc3)

Before the repair `UpdateChain` took references for the NEW rules while the chain was still referenced by its own
force flag and then dropped that self-reference, whose cascade released the OLD rules' references: the chains named by
the new rules kept a phantom reference.  With the repaired order nothing is left behind, on the same history. -/
def exLeak : T :=
  ((T.new exP true).updateChain "cali-d" ⟨[], true⟩).updateChain "cali-d" ⟨[⟨"h", "--jump cali-fw-x", some "cali-fw-x"⟩], false⟩

theorem unforced_update_releases_children :
    exLeak.refd "cali-d" = false ∧ exLeak.refd "cali-fw-x" = false ∧
    (exLeak.updateChain "cali-fw-x" ⟨[⟨"h2", "--jump DROP", none⟩], false⟩).desiredChain "cali-fw-x" = none := by decide

/- ... and the whole replay corpus/C15/unforced-update-leak.ops on the model: after the Apply neither chain exists. -/
def exLeakOps : List Op :=
  [Op.chain "cali-d" ⟨[], true⟩, Op.apply [] [] none,
   Op.chain "cali-d" ⟨[⟨"h", "--jump cali-fw-x", some "cali-fw-x"⟩], false⟩,
   Op.chain "cali-fw-x" ⟨[⟨"h2", "--jump DROP", none⟩], false⟩, Op.apply [] [] none]
#guard ((({ t := T.new exP true, K := kernelChains.map (fun c => (c, [])) } : W).run exLeakOps).K.get "cali-fw-x") == none
#guard ((({ t := T.new exP true, K := kernelChains.map (fun c => (c, [])) } : W).run exLeakOps).K.get "cali-d") == none
#guard ((({ t := T.new exP true, K := kernelChains.map (fun c => (c, [])) } : W).run (exLeakOps.take 2)).K.get "cali-d") == some []

/-! ### refcount = reachability, checked exhaustively on the model for small universes (NOT a theorem)

`refd` (positive reference count) is the code's notion of "wanted"; the property's notion is reachability from the
hook rules and force-programmed chains through the rules of the chains Felix was given.  The two are compared here
on the model for ALL sequences of up to 4 calls from a 27-call universe over three chains (every force flag, jumps
one and two levels down, duplicates, removal, hook rules with and without jumps), and on the real code after every
operation of every correspondence run (oracle `refcount-not-reachability`).  A kernel-checked proof for all
histories is not attempted: it needs the exact counting invariant through the recursive incref/decref cascades
together with acyclicity and a fuel bound. -/
def T.reachB (t : T) : List String :=
  let roots := (kernelChains.flatMap (fun c => refsOf ((t.ins.get c).getD []) ++ refsOf ((t.app.get c).getD []))) ++
    (t.chains.filter (fun p => p.2.force)).map (·.1)
  let step := fun (S : List String) => (S ++ S.flatMap (fun c => match t.chains.get c with | some ch => refsOf ch.rules | none => [])).eraseDups
  step (step (step (step roots.eraseDups)))

def T.refOK (t : T) (names : List String) : Bool :=
  names.all (fun c => t.refd c == t.reachB.contains c) && kernelChains.all t.refd

def jmp (c : String) : DRule := ⟨"h" ++ c, "--jump " ++ c, some c⟩
def smallOps : List Op :=
  ([true, false].flatMap (fun f =>
    [[], [jmp "cali-b"], [jmp "cali-c"], [jmp "cali-b", jmp "cali-c"], [jmp "cali-b", jmp "cali-b"]].map (fun rs => Op.chain "cali-a" ⟨rs, f⟩) ++
    [[], [jmp "cali-c"], [jmp "cali-c", jmp "cali-c"]].map (fun rs => Op.chain "cali-b" ⟨rs, f⟩) ++
    [Op.chain "cali-c" ⟨[], f⟩])) ++
  [Op.rmchain "cali-a", Op.rmchain "cali-b", Op.rmchain "cali-c"] ++
  [[], [jmp "cali-a"], [jmp "cali-b"], [jmp "cali-a", jmp "cali-c"]].map (Op.ins "FORWARD") ++
  [[], [jmp "cali-b"]].map (Op.app "FORWARD")

/-- All states reachable by at most `n` calls satisfy `refOK` (depth-first, sharing prefixes). -/
def allOK : Nat → W → Bool
  | 0, w => w.t.refOK ["cali-a", "cali-b", "cali-c"]
  | n + 1, w => w.t.refOK ["cali-a", "cali-b", "cali-c"] && smallOps.all (fun o => allOK n (w.stepOp o).1)

#guard smallOps.length == 27
/- the check is not vacuous: a phantom reference (what the pre-e60ddc3 order left behind) is rejected -/
#guard !({ exLeak with refc := exLeak.refc.set "cali-fw-x" 1 } : T).refOK ["cali-a", "cali-b", "cali-c", "cali-d", "cali-fw-x"]
#guard exLeak.refOK ["cali-a", "cali-b", "cali-c", "cali-d", "cali-fw-x"]
#guard allOK 4 { t := T.new exP true, K := [] }

end CalicoVerif.C15
