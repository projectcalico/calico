import CalicoVerif.Proofs.C44
/-!
C44 — Each workload interface carries exactly the state of its preferred endpoint.

The model follows resolveWorkloadEndpoints after the four repairs made in /repo (D2/D4: commit 8ff5c1a;
D1/D3: promote the endpoint shadowed on the OLD interface name when the active one renames away, and
release the old interface of an endpoint that gets shadowed on its new name).  With them the
full-strength property holds and is proved for ALL histories, renames included, both for batches of
updates processed in any order and for one update per CompleteDeferredWork (`IfaceStateEqSpec`,
`OrderIndependent` — the statements that were refuted for the old code); the `d1…d4` theorems are the
four histories that failed before the repairs (replayed on the real code by corpus/C44/d1…d4).
-/
namespace CalicoVerif.C44
open CalicoVerif.C18 (GoMap get)

/-- The full-strength property (one update per CompleteDeferredWork). -/
def IfaceStateEqSpec : Prop :=
  ∀ (ops : List Op) (name : Nat),
    get (run ops).chains name = specChains (live ops) name ∧
    get (run ops).routes name = specRoutes (live ops) name

/-- Order independence: the chains of every interface are a function of the live endpoints only (routes as well:
`order_independent_batches`). -/
def OrderIndependent : Prop :=
  ∀ (ops₁ ops₂ : List Op), (∀ id, get (live ops₁) id = get (live ops₂) id) →
    ∀ name, get (run ops₁).chains name = get (run ops₂).chains name

/-- **The property, for all histories of batches** — any number of updates and removals per
CompleteDeferredWork, processed in ANY order, renames of live endpoints included. -/
theorem iface_state_eq_spec_batches (bs : List Batch) (m : Mgr) (hr : ReachFrom Mgr.new bs m) (name : Nat) :
    get m.chains name = specChains (liveBs bs) name ∧
    get m.routes name = specRoutes (liveBs bs) name ∧
    get m.ifaceToID name = (preferred (liveBs bs) name).map (·.1) := by
  obtain ⟨g, hl⟩ := good_reach bs Mgr.new [] good_new C18.nodupKeys_nil m hr
  exact spec_of_good m (liveBs bs) g hl name

/-- **Order independence for batch histories**: two histories (whatever the order inside the batches
and however the updates are grouped into batches) that leave the same live endpoints leave the same
chains and routes on every interface. -/
theorem order_independent_batches (bs₁ bs₂ : List Batch) (m₁ m₂ : Mgr)
    (r₁ : ReachFrom Mgr.new bs₁ m₁) (r₂ : ReachFrom Mgr.new bs₂ m₂)
    (hl : ∀ id, get (liveBs bs₁) id = get (liveBs bs₂) id) (name : Nat) :
    get m₁.chains name = get m₂.chains name ∧ get m₁.routes name = get m₂.routes name := by
  -- both states are `Good` for the same live function, and `spec_of_good` reads the state off it
  obtain ⟨g1, n1⟩ := good_reach bs₁ Mgr.new [] good_new C18.nodupKeys_nil m₁ r₁
  obtain ⟨g2, _⟩ := good_reach bs₂ Mgr.new [] good_new C18.nodupKeys_nil m₂ r₂
  have g2' : Good m₂ (get (liveBs bs₁)) [] := (funext hl : get (liveBs bs₁) = get (liveBs bs₂)) ▸ g2
  obtain ⟨hc1, hr1, _⟩ := spec_of_good _ _ g1 n1 name
  obtain ⟨hc2, hr2, _⟩ := spec_of_good _ _ g2' n1 name
  exact ⟨hc1.trans hc2.symm, hr1.trans hr2.symm⟩

theorem ra_single (fuel : Nat) : ∀ (m : Mgr) (P : Pending), P.length ≤ 1 →
    Mgr.resolveAll fuel m P = [Mgr.resolveLoop fuel m P] := by
  induction fuel with
  | zero => intro m P _; rfl
  | succ fuel ih =>
    intro m P hP
    cases P with
    | nil => rfl
    | cons q ps =>
      have hps : ps = [] := by
        cases ps with
        | nil => rfl
        | cons _ _ => simp at hP
      subst hps
      simp only [Mgr.resolveAll, Mgr.resolveLoop, List.flatMap_cons, List.flatMap_nil, List.append_nil]
      apply ih
      have hd : C18.del [q] q.1 = [] := by simp [C18.del]
      rw [hd]
      cases (m.process [] q.1 q.2).2 with
      | none => simp
      | some be => simp [C18.set, C18.del]

/-- With ONE pending update the all-orders semantics is the single-update `resolve`. -/
theorem batch_single (m : Mgr) (id : Nat) (w : Option Ep) : m.batch [(id, w)] = [m.resolve id w] := by
  have hp : mkPending [(id, w)] = [(id, w)] := by simp [mkPending, C18.set, C18.del]
  unfold Mgr.batch Mgr.resolve
  simp only [hp, List.length_cons, List.length_nil]
  exact ra_single _ m _ (by simp)

theorem reach_run (ops : List Op) (m : Mgr) : ReachFrom m (ops.map Op.toBatch) (ops.foldl Mgr.step m) := by
  induction ops generalizing m with
  | nil => rfl
  | cons op r ih =>
    simp only [List.map_cons, List.foldl_cons, ReachFrom]
    refine ⟨m.step op, ?_, ih _⟩
    cases op with
    | update id w => simp [Op.toBatch, Mgr.step, batch_single]
    | remove id => simp [Op.toBatch, Mgr.step, batch_single]

theorem liveB_toBatch (l : GoMap Nat Ep) (op : Op) : liveB l op.toBatch = liveStep l op := by
  cases op <;> simp [Op.toBatch, liveB, mkPending, applyEntry, liveStep, C18.set, C18.del]

theorem live_eq_liveBs (ops : List Op) : liveBs (ops.map Op.toBatch) = live ops := by
  unfold liveBs live
  generalize ([] : GoMap Nat Ep) = l
  induction ops generalizing l with
  | nil => rfl
  | cons op r ih => simp only [List.map_cons, List.foldl_cons, liveB_toBatch, ih]

/-- **The full-strength property holds** (every history, renames included). -/
theorem iface_state_eq_spec : IfaceStateEqSpec := by
  intro ops name
  have := iface_state_eq_spec_batches (ops.map Op.toBatch) (run ops) (reach_run ops Mgr.new) name
  rw [live_eq_liveBs] at this
  exact ⟨this.1, this.2.1⟩

theorem dispatch_eq_spec (ops : List Op) (name : Nat) :
    get (run ops).ifaceToID name = (preferred (live ops) name).map (·.1) := by
  have := iface_state_eq_spec_batches (ops.map Op.toBatch) (run ops) (reach_run ops Mgr.new) name
  rw [live_eq_liveBs] at this
  exact this.2.2

/-- **Order independence holds.** -/
theorem order_independent : OrderIndependent := by
  intro ops₁ ops₂ hl name
  exact (order_independent_batches (ops₁.map Op.toBatch) (ops₂.map Op.toBatch) _ _
    (reach_run ops₁ Mgr.new) (reach_run ops₂ Mgr.new)
    (by intro id; rw [live_eq_liveBs, live_eq_liveBs]; exact hl id) name).1

/-- The name→id map only points at an ACTIVE endpoint that carries that interface name. -/
def Consistent (m : Mgr) : Prop :=
  ∀ name id, get m.ifaceToID name = some id → ∃ e, get m.active id = some e ∧ e.name = name

theorem ifaceToID_consistent (ops : List Op) : Consistent (run ops) := by
  obtain ⟨g, _⟩ := good_reach (ops.map Op.toBatch) Mgr.new [] good_new C18.nodupKeys_nil (run ops) (reach_run ops Mgr.new)
  exact g.idx.holder_active

/-- D1 history: 0<1 both claim iface 0; 0 moves to iface 1: endpoint 1 is promoted on iface 0. -/
theorem d1_history_now_correct :
    let ops := [Op.update 0 ⟨0, true, 1⟩, .update 1 ⟨0, true, 2⟩, .update 0 ⟨1, true, 3⟩]
    get (run ops).chains 0 = some ⟨1, true, 2⟩ ∧ get (run ops).chains 1 = some ⟨0, true, 3⟩ ∧
    get (run ops).routes 0 = some (1, 2) ∧ (run ops).shadowed = [] := by decide +kernel

/-- D2 history: 1 shadowed on iface 0, updated onto free iface 1, then 0 removed: 1 stays on iface 1. -/
theorem d2_history_now_correct :
    let ops := [Op.update 0 ⟨0, true, 1⟩, .update 1 ⟨0, true, 2⟩, .update 1 ⟨1, true, 3⟩, .remove 0]
    get (run ops).chains 1 = some ⟨1, true, 3⟩ ∧ get (run ops).chains 0 = none ∧
    get (run ops).routes 0 = none ∧ get (run ops).shadowed 1 = none := by decide +kernel

/-- D3 history: active endpoint 1 (iface 1) is renamed onto iface 0 held by 0: it is shadowed AND iface 1
is released. -/
theorem d3_history_now_correct :
    let ops := [Op.update 0 ⟨0, true, 1⟩, .update 1 ⟨1, true, 2⟩, .update 1 ⟨0, true, 3⟩]
    get (run ops).chains 1 = none ∧ get (run ops).routes 1 = none ∧
    get (run ops).shadowed 1 = some ⟨0, true, 3⟩ ∧ get (run ops).active 1 = none := by decide +kernel

/-- D4 history: endpoints 0<1 share iface 0; both removed before ONE CompleteDeferredWork: whatever the
processing order nothing stays programmed. -/
theorem d4_batch_now_correct :
    let m := run [Op.update 0 ⟨0, true, 1⟩, .update 1 ⟨0, true, 2⟩]
    let outs := m.batch [(0, none), (1, none)]
    outs.length = 2 ∧ (outs.map (fun o => get o.chains 0)) = [none, none] ∧
    (outs.map (fun o => get o.active 1)) = [none, none] ∧ (outs.map (fun o => o.shadowed)) = [[], []] := by decide +kernel

/-- A history with shadowing, an admin-down endpoint, promotion on removal, a rename that promotes and a
rename onto a held interface. -/
example :
    let ops := [Op.update 2 ⟨0, true, 1⟩, .update 0 ⟨0, true, 2⟩, .update 1 ⟨0, false, 3⟩, .remove 0,
      .update 1 ⟨1, true, 4⟩, .update 2 ⟨1, true, 5⟩]
    get (run ops).chains 0 = specChains (live ops) 0 ∧ get (run ops).chains 1 = some ⟨1, true, 4⟩ ∧
    get (run ops).chains 0 = none ∧ get (run ops).shadowed 2 = some ⟨1, true, 5⟩ := by decide +kernel

end CalicoVerif.C44
