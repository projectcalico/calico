import CalicoVerif.Proofs.C18
/-!
C18 — Desired-versus-actual tracking always reports the exact difference.

Specification: two plain maps `des dp : K → Option V` (`Spec`), updated per operation by
`specAt` (one key at a time — every operation of the tracker is key-local).  For a general
`valuesEqual` (`eqv`, only assumed reflexive and symmetric) the specification says which of
two `eqv`-equal objects the desired view returns (the tracker aliases them on purpose);
`specAt_plain_*` show that for a `valuesEqual` that is equality (cachingmap's `==`, the default
`reflect.DeepEqual` on plain data) the specification is literally "assign / delete in two maps".

Precondition made explicit (`Op.WF`): the iterator given to `ReplaceAllIter` yields distinct
keys.  `repl_duplicate_keys_break_it` is the excluded point (also executed on the real code).
-/
namespace CalicoVerif.C18
variable {K V : Type} [DecidableEq K]

structure Spec (K V : Type) where
  des : K → Option V
  dp : K → Option V

def Spec.empty : Spec K V := ⟨fun _ => none, fun _ => none⟩

/-- Abstraction: the tracker's `Desired().Get` and `Dataplane().Get`. -/
def abs (t : Tracker K V) : Spec K V := ⟨desiredGet t, dataplaneGet t⟩

def specStep (eqv : V → V → Bool) (s : Spec K V) (op : Op K V) : Spec K V :=
  ⟨fun k => (specAt eqv op k (s.des k, s.dp k)).1, fun k => (specAt eqv op k (s.des k, s.dp k)).2⟩

def specRun (eqv : V → V → Bool) (ops : List (Op K V)) : Spec K V := ops.foldl (specStep eqv) Spec.empty

/-- **Refinement, all histories.**  After ANY sequence of operations (whose `ReplaceAllIter`
iterators yield distinct keys) the partition invariant holds and the tracker's desired and
dataplane views equal the two maps of the specification. -/
theorem tracker_refines (eqv : V → V → Bool) (hs : Sym eqv) (hr : Refl eqv) (ops : List (Op K V))
    (hw : ∀ op ∈ ops, op.WF) :
    Inv eqv (run eqv ops) ∧ NodupKeys (run eqv ops).du ∧ abs (run eqv ops) = specRun eqv ops := by
  obtain ⟨hi, hn, ha⟩ := run_ind (J := fun pre t => abs t = specRun eqv pre) eqv hs hr ops hw rfl
    fun pre t op hm hi hn ha => by
      have hst := abs_step eqv hs hr t op hi hn (hw op hm)
      rw [specRun, List.foldl_append, ← specRun, ← ha]
      simp only [List.foldl_cons, List.foldl_nil, abs, specStep]
      congr 1 <;> funext k
      · exact congrArg Prod.fst (hst k)
      · exact congrArg Prod.snd (hst k)
  exact ⟨hi, hn.du, ha⟩

theorem desiredGet_run (eqv : V → V → Bool) (hs : Sym eqv) (hr : Refl eqv) (ops : List (Op K V))
    (hw : ∀ op ∈ ops, op.WF) (k : K) : desiredGet (run eqv ops) k = (specRun eqv ops).des k :=
  congrFun (congrArg Spec.des (tracker_refines eqv hs hr ops hw).2.2) k

theorem dataplaneGet_run (eqv : V → V → Bool) (hs : Sym eqv) (hr : Refl eqv) (ops : List (Op K V))
    (hw : ∀ op ∈ ops, op.WF) (k : K) : dataplaneGet (run eqv ops) k = (specRun eqv ops).dp k :=
  congrFun (congrArg Spec.dp (tracker_refines eqv hs hr ops hw).2.2) k

/-- **Pending updates are the exact difference**: `k` has a pending update iff it is desired and
the dataplane lacks it or has a different (per `valuesEqual`) value; the update carries the desired value. -/
theorem pending_updates_exact (eqv : V → V → Bool) (hr : Refl eqv) (t : Tracker K V) (hi : Inv eqv t) (k : K) :
    get t.du k = if pendU eqv (desiredGet t k, dataplaneGet t k) then desiredGet t k else none :=
  P.pendU_exact eqv hr (proj t k) (hi k)

/-- **Pending deletions are the exact difference**: in the dataplane and not desired. -/
theorem pending_deletions_exact (eqv : V → V → Bool) (t : Tracker K V) (hi : Inv eqv t) (k : K) :
    get t.dn k = if pendX (desiredGet t k, dataplaneGet t k) then dataplaneGet t k else none :=
  P.pendX_exact eqv (proj t k) (hi k)

/-- Both exact-difference statements after any history, in terms of the specification maps. -/
theorem pending_exact_after_history (eqv : V → V → Bool) (hs : Sym eqv) (hr : Refl eqv) (ops : List (Op K V))
    (hw : ∀ op ∈ ops, op.WF) (k : K) :
    let s := specRun eqv ops
    get (run eqv ops).du k = (if pendU eqv (s.des k, s.dp k) then s.des k else none) ∧
    get (run eqv ops).dn k = (if pendX (s.des k, s.dp k) then s.dp k else none) := by
  have hi := (tracker_refines eqv hs hr ops hw).1
  have h1 := pending_updates_exact eqv hr _ hi k
  have h2 := pending_deletions_exact eqv _ hi k
  rw [desiredGet_run eqv hs hr ops hw, dataplaneGet_run eqv hs hr ops hw] at h1 h2
  exact ⟨h1, h2⟩

/-- **Iteration-time mutation, any visiting order**: `PendingUpdates().Iter` visiting the pending
updates in ANY order `ord` (a permutation of the map) with ANY per-key action leaves the same
three maps (as maps) as visiting them in list order. -/
theorem uIter_order_independent (t : Tracker K V) (ord : List (K × V)) (act : K → Act)
    (hp : ord.Perm t.du) (hn : NodupKeys t.du) (k : K) :
    proj (uIter t ord act) k = proj (uIter t t.du act) k := by
  rw [proj_uIter t ord act hp hn, proj_uIter t t.du act (List.Perm.refl _) hn]

theorem xIter_order_independent (t : Tracker K V) (ord : List K) (act : K → Act)
    (hp : ord.Perm (keys t.dn)) (k : K) :
    proj (xIter t ord act) k = proj (xIter t (keys t.dn) act) k := by
  rw [proj_xIter t ord act (fun x => hp.mem_iff), proj_xIter t (keys t.dn) act (fun _ => Iff.rfl)]

/-- `IterBatched` (any batch size, any per-call limit, any failing keys, any visiting order):
exactly the offered items whose key does not fail are applied — it IS `Iter` with the action
"update unless the key fails". -/
theorem iterBatched_is_iter (t : Tracker K V) (B c : Nat) (F : K → Bool) (ord : List (K × V)) (ordx : List K) :
    uBatched t B F c ord = uIter t ord (batchAct F) ∧ xBatched t B F c ordx = xIter t ordx (batchAct F) :=
  ⟨uBatched_eq_uIter t B F c ord, xBatched_eq_xIter t B F c ordx⟩

def Lawful (eqv : V → V → Bool) : Prop := ∀ a b, eqv a b = true ↔ a = b

theorem specAt_plain_set (eqv : V → V → Bool) (hl : Lawful eqv) (x : S1 V) (v : V) :
    sDSet eqv x v = (some v, x.2) ∧ sPSet eqv x v = (x.1, some v) := by
  obtain ⟨d, q⟩ := x
  unfold sDSet sPSet
  constructor
  · cases q with
    | none => rfl
    | some w =>
      by_cases h : eqv w v = true
      · simp [(hl w v).1 h]
      · simp [h]
  · cases d with
    | none => rfl
    | some dv =>
      by_cases h : eqv dv v = true
      · simp [(hl dv v).1 h]
      · simp [h]

theorem specAt_plain_repl (eqv : V → V → Bool) (hl : Lawful eqv) (fail : Bool) (x : S1 V) (item : Option V) :
    sRepl eqv fail x item = (x.1, match item with
      | some v => some v
      | none => if fail then x.2 else none) := by
  obtain ⟨d, q⟩ := x
  unfold sRepl
  cases d with
  | none => cases item <;> rfl
  | some dv =>
    cases item with
    | none => rfl
    | some v =>
      by_cases h : eqv dv v = true
      · simp [(hl dv v).1 h]
      · simp [h]

/-- No stale aliasing: the aliasing rules of `sDSet`/`sPSet`/`sRepl` only ever swap a value for a
`valuesEqual` one — after `Desired().Set(v)` the desired view returns something `valuesEqual` to `v`, and a
`Dataplane().Set` or `ReplaceAllIter` leaves it `valuesEqual` to what it returned before. -/
theorem alias_only_equal (eqv : V → V → Bool) (hr : Refl eqv) (x : S1 V) (v : V) (fail : Bool) (item : Option V) :
    (∃ w, (sDSet eqv x v).1 = some w ∧ eqv w v = true) ∧
    (∀ dv, x.1 = some dv → ∃ w, (sPSet eqv x v).1 = some w ∧ eqv dv w = true) ∧
    (∀ dv, x.1 = some dv → ∃ w, (sRepl eqv fail x item).1 = some w ∧ eqv dv w = true) := by
  obtain ⟨d, q⟩ := x
  have := hr.apply
  unfold sDSet sPSet sRepl
  refine ⟨?_, ?_, ?_⟩
  · cases q with
    | none => exact ⟨v, rfl, this v⟩
    | some w => by_cases h : eqv w v = true <;> simp [h, this]
  · intro dv hd
    simp only at hd; subst hd
    by_cases h : eqv dv v = true <;> simp [h, this]
  · intro dv hd
    simp only at hd; subst hd
    cases item with
    | none => simp [this]
    | some v' => by_cases h : eqv dv v' = true <;> simp [h, this]

/-- `desiredLen` moves by exactly the change in membership of `k` in the desired view
(so `Desired().Len()` counts the desired keys; the other operations do not touch it). -/
theorem desiredLen_tracks (eqv : V → V → Bool) (t : Tracker K V) (hi : Inv eqv t) (k : K) (v : V) :
    (dSet eqv t k v).dlen = t.dlen + (if (desiredGet t k).isSome then 0 else 1) ∧
    (dDel t k).dlen = t.dlen - (if (desiredGet t k).isSome then 1 else 0) :=
  ⟨dlen_dSet eqv t hi k v, dlen_dDel t k⟩

theorem desiredLen_unchanged (eqv : V → V → Bool) (t : Tracker K V) (k : K) (v : V)
    (items : List (K × V)) (fail : Bool) (ord : List (K × V)) (ordx : List K) (act : K → Act) :
    (pSet eqv t k v).dlen = t.dlen ∧ (pDel t k).dlen = t.dlen ∧
    (replaceAllIter eqv t items fail).1.dlen = t.dlen ∧
    (uIter t ord act).dlen = t.dlen ∧ (xIter t ordx act).dlen = t.dlen :=
  ⟨dlen_pSet eqv t k v, dlen_pDel t k, dlen_repl eqv t items fail, dlen_uIter t ord act, dlen_xIter t ordx act⟩

def natEq : Nat → Nat → Bool := fun a b => a == b

example : Sym natEq ∧ Refl natEq ∧ Lawful natEq := by
  refine ⟨fun a b => ?_, fun a => ?_, fun a b => ?_⟩
  · show (a == b) = (b == a)
    exact Bool.beq_comm ..
  · simp [natEq]
  · simp [natEq]

/-- A non-trivial reachable state: key 1 desired with another value in the dataplane (pending
update), key 2 only in the dataplane (pending deletion), key 3 in sync. -/
def exOps : List (Op Nat Nat) :=
  [.dSet 1 5, .pSet 1 6, .pSet 2 7, .dSet 3 9, .repl [(3, 9), (2, 7), (1, 6)] false]

example : (∀ op ∈ exOps, op.WF) := by
  intro op h
  simp only [exOps, List.mem_cons, List.not_mem_nil, or_false] at h
  rcases h with rfl | rfl | rfl | rfl | rfl <;> simp [Op.WF, NodupKeys, keys]

example : get (run natEq exOps).du 1 = some 5 ∧ get (run natEq exOps).dn 2 = some 7 ∧
    get (run natEq exOps).du 3 = none ∧ desiredGet (run natEq exOps) 3 = some 9 := by decide

/-- The excluded point: an iterator that yields key 1 twice leaves key 1 in BOTH in-dataplane maps
(the invariant fails and `Dataplane().Get(1)` reports 5 although the last value yielded was 6). -/
theorem repl_duplicate_keys_break_it :
    let t := run natEq [.dSet 1 5, .repl [(1, 5), (1, 6)] false]
    get t.dd 1 = some 5 ∧ get t.dn 1 = some 6 ∧ ¬ Inv natEq t := by
  refine ⟨by decide, by decide, ?_⟩
  intro h
  have := (h 1).1
  revert this
  decide

end CalicoVerif.C18
