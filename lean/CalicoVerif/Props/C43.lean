import CalicoVerif.Proofs.C43Canon
import CalicoVerif.Proofs.C43Manager
/-!
C43 — Cluster routes take the path their pool's encapsulation requires.

Both IP families: a CIDR carries its family; the resolver's two tries are one family-tagged map.
The resolver side is an inductive invariant over the whole state machine (`Inv`, `Canon`); the
routeManager side says its maps are a function of the last message per destination; the `_fixed`
theorems are regression witnesses of defects the oracle found (repaired in /repo).
-/
namespace CalicoVerif.C43

/-- **route_kind_correct.**  `c` is a block (or borrowed address) recorded for the remote node `n`;
`pre` are the trie entries above it (pools and blocks only — hosts, workloads and tunnel addresses
are single addresses, /32 or /128, and cannot be proper ancestors); `ni` is what the resolver knows about `n`.  The manager is
the one of the pool type the resolver attributes to the route (hypothesis `hpt`; `routeOfPath_poolType` says
which pool type that is) and knows its parent device.  Then
(1) the manager keeps the route, (2) it is programmed as a no-encap route via the owner's address
iff the pool is unencapsulated or (a covering pool is cross-subnet and the owner's address lies in
the local node's subnet), and (3) otherwise the target is the manager's tunnel function applied to
the owner: a VXLAN route via the owner's VTEP / an on-link IPIP route via the owner's host address
(none for the no-encap manager), and never a direct route. -/
theorem route_kind_correct (m : RM) (me : Nat) (nodes : List (Nat × NodeInfo)) (c : Cidr)
    (pre : List (Cidr × RouteInfo)) (ri : RouteInfo) (n : Nat) (ni : NodeInfo)
    (hpre : PlainAncestors pre) (hb : ri.block = some n) (hh : ri.hosts = []) (hr : ri.refs = [])
    (hn : n ≠ me) (hnode : aget nodes n = some ni) (hip : ni.addrOf c.v6 ≠ 0)
    (hparent : m.parent = true)
    (hpt : (routeOfPath me nodes c (pre ++ [(c, ri)])).poolType = m.pt) :
    let r := routeOfPath me nodes c (pre ++ [(c, ri)])
    let direct := m.pt = ptNoEncap ∨ (pathCross (pre ++ [(c, ri)]) = true ∧ nodeInOurSubnet c.v6 me nodes n = true)
    aget (m.onRouteUpdate r).routes c = some r ∧
    (m.targetOf r = some (true, { cidr := c, typ := .noEncap, gw := ni.addrOf c.v6 }) ↔ direct) ∧
    (¬ direct → m.targetOf r = (m.tunnelRoute r).map (fun t => (false, t)) ∧
      m.tunnelRoute r =
        (if m.pt = ptVXLAN then (aget m.vteps n).map (fun a => { cidr := c, typ := .vxlan, gw := a })
         else if m.pt = ptIPIP then (aget m.hostIPs n).map (fun a => { cidr := c, typ := .onLink, gw := a })
         else none)) := by
  intro r direct
  have hbr := routeOfPath_block me nodes c pre ri n hpre hb hh hr
  have h1 : r.dst = c := hbr.dst
  have h2 : r.dstNode = some n := hbr.dstNode
  have h5 := hbr.dstNodeIp
  have h6 := hbr.sameSubnet
  simp only [hnode] at h5 h6
  have hrw : isType r tRemoteWorkload = true := by
    have := hbr.ofNode; rwa [if_neg (by simpa using hn)] at this
  have hnt : isType r tRemoteTunnel = false := hbr.notTunnel
  have hstores : stores m.pt r = true := by
    simp [stores, hrw, show r.poolType = m.pt from hpt]
  have hspec := targetOf_spec m r
  have hss : r.sameSubnet = (pathCross (pre ++ [(c, ri)]) && nodeInOurSubnet c.v6 me nodes n) := by
    simpa using h6
  have hdir : (m.parent = true ∧ (m.pt = ptNoEncap ∨ r.sameSubnet = true) ∧ r.dstNodeIp ≠ 0) ↔ direct := by
    simp only [direct, hss, hparent, true_and, Bool.and_eq_true]
    constructor
    · intro h; exact h.1
    · intro h; exact ⟨h, by rw [show r.dstNodeIp = ni.addrOf c.v6 from h5]; exact hip⟩
  refine ⟨?_, ?_, ?_⟩
  · have := (onRouteUpdate_spec m r c).2.1
    rw [this, show r.dst = c from h1]
    simp [storedOf, hstores]
  · have e : ({ cidr := r.dst, typ := .noEncap, gw := r.dstNodeIp } : Target)
        = { cidr := c, typ := .noEncap, gw := ni.addrOf c.v6 } := by
      rw [show r.dst = c from h1, show r.dstNodeIp = ni.addrOf c.v6 from h5]
    rw [← e]
    exact hspec.1.trans hdir
  · intro hnd
    have hnd' := (not_congr hdir).2 hnd
    refine ⟨hspec.2 hnd', ?_⟩
    unfold RM.tunnelRoute
    simp only [isRemoteTunnelRoute, isBorrowedRoute, hnt, Bool.and_false, Bool.false_and, Bool.or_self,
      Bool.false_eq_true, if_false, show r.dstNode = some n from h2, show r.dst = c from h1]
    by_cases hv : m.pt = ptVXLAN
    · simp [hv]
    · by_cases hi : m.pt = ptIPIP
      · simp [hi, ptIPIP, ptVXLAN]
      · simp [hv, hi]

/-- non-vacuity: a remote /26 block of node 3 under a cross-subnet IPIP pool, owner 10.0.1.13 in the
local node's 10.0.1.0/24: the IPIP manager programs it directly via 10.0.1.13. -/
example :
    let nodes : List (Nat × NodeInfo) :=
      [(1, { v4Addr := 167772427, cidr := ⟨167772416, 24, false⟩, ipip := 0, vxlan := 0, wg := 0 }),
       (3, { v4Addr := 167772429, cidr := ⟨167772416, 24, false⟩, ipip := 0, vxlan := 0, wg := 0 })]
    let pre : List (Cidr × RouteInfo) := [(⟨3232235776, 24, false⟩, { pool := some ⟨ptIPIP, false, true⟩ })]
    let m : RM := { pt := ptIPIP, me := 1, eth0Addr := 167772427, parent := true }
    m.targetOf (routeOfPath 1 nodes ⟨3232235840, 26, false⟩ (pre ++ [(⟨3232235840, 26, false⟩, { block := some 3 })]))
      = some (true, { cidr := ⟨3232235840, 26, false⟩, typ := .noEncap, gw := 167772429 }) := by decide +kernel

/-- the pool type the resolver attributes to a route is that of the innermost pool on the path whose
type is not NONE (and NONE when there is none). -/
theorem routeOfPath_poolType (me : Nat) (nodes : List (Nat × NodeInfo)) (c : Cidr)
    (path : List (Cidr × RouteInfo)) :
    (routeOfPath me nodes c path).poolType =
      (path.foldl (fun t e => match e.2.pool with
        | some p => if p.typ != ptNone then p.typ else t
        | none => t) ptNone) := by
  unfold routeOfPath
  simp only []
  suffices ∀ a : Acc, (path.foldl (accStep me c) a).poolType =
      path.foldl (fun t e => match e.2.pool with
        | some p => if p.typ != ptNone then p.typ else t
        | none => t) a.poolType from this {}
  induction path with
  | nil => intro a; rfl
  | cons e path ih =>
    intro a
    simp only [List.foldl_cons]
    rw [ih]
    congr 1
    simp only [accStep]
    rw [accRefs_poolType, accHost_poolType, accBlock_poolType]
    unfold accPool
    cases e.2.pool <;> rfl

/-- **blackhole_never_covers_local_wep (manager side).**  After ANY history of route updates /
removals, VTEP and host-metadata updates, parent-device changes and applies, starting from a
freshly created manager, no blackhole route in the route table (and no entry of
`localIPAMBlocks`) has a /32 destination — so a blackhole can never take the place of (or win the
longest-prefix match against) the /32 route of a local workload's own address — and no entry of
`localIPAMBlocks` is a route flagged `LocalWorkload`. -/
theorem blackhole_never_covers_local_wep (pt me eth : Nat) (ops : List MOp) :
    BHInv (ops.foldl RM.applyOp { pt := pt, me := me, eth0Addr := eth }) :=
  bh_run ops _ ⟨by intro e he; simp at he, by intro r hr; simp at hr⟩

/-- **blackhole_never_covers_local_wep (resolver side).**  The route the resolver emits for an
address that carries a live local workload (first ref at the CIDR is a WEP ref of the local node)
has `LocalWorkload` set, whatever lies above it, so the manager never classifies it as a local
block (no blackhole), for any pool type. -/
theorem local_wep_route_not_local_block (me : Nat) (nodes : List (Nat × NodeInfo)) (c : Cidr)
    (pre : List (Cidr × RouteInfo)) (ri : RouteInfo) (r0 : Ref) (rest : List Ref) (pt : Nat)
    (hrefs : ri.refs = r0 :: rest) (hw : r0.typ = refWEP) (hme : r0.node = me) :
    (routeOfPath me nodes c (pre ++ [(c, ri)])).localWorkload = true ∧
    routeIsLocalBlock pt (routeOfPath me nodes c (pre ++ [(c, ri)])) = false := by
  have hlw : (routeOfPath me nodes c (pre ++ [(c, ri)])).localWorkload = true := by
    unfold routeOfPath
    simp only [List.foldl_append, List.foldl_cons, List.foldl_nil]
    simp [accStep, accRefs, hrefs, hw, hme]
  exact ⟨hlw, by simp [routeIsLocalBlock, hlw]⟩

/-- non-vacuity: a local /26 block is blackholed, the /32 of a local workload inside it is not. -/
example :
    let m0 : RM := { pt := ptIPIP, me := 1, eth0Addr := 167772427 }
    let blk : RouteUpdate := { dst := ⟨3232235840, 26, false⟩, types := tLocalWorkload, poolType := ptIPIP, dstNode := some 1 }
    let wep : RouteUpdate := { dst := ⟨3232235843, 32, false⟩, types := tLocalWorkload, poolType := ptIPIP, dstNode := some 1, localWorkload := true }
    ([MOp.ev (.update blk), MOp.ev (.update wep), MOp.complete].foldl RM.applyOp m0).table
      = [((6, 2), []), ((9, 3), [{ cidr := ⟨3232235840, 26, false⟩, typ := .blackhole }])] := by decide +kernel

/-- **local blocks get blackhole routes.**  A RouteUpdate that `routeIsLocalBlock` classifies as a
local block is kept in `localIPAMBlocks` and, at the next `updateRoutes`, has a blackhole target for
its destination in the manager's blackhole route class. -/
theorem local_block_gets_blackhole (m : RM) (r : RouteUpdate) (h : routeIsLocalBlock m.pt r = true) :
    ∃ ts, aget ((m.onRouteUpdate r).updateRoutes).table ((m.onRouteUpdate r).classBlackhole, ifNone) = some ts ∧
      ({ cidr := r.dst, typ := .blackhole } : Target) ∈ ts := by
  refine ⟨_, updateRoutes_blackholes _, ?_⟩
  have hs := (onRouteUpdate_spec m r r.dst).2.2
  simp only [if_true, blockOf, h] at hs
  exact List.mem_map.2 ⟨(r.dst, r), aget_some_mem _ _ _ hs, rfl⟩

/-- resolver ∘ manager: the route the resolver emits for a block of the LOCAL node (nothing else at
its CIDR, not a single address) in a pool of the manager's type gets a blackhole. -/
theorem local_block_blackholed (m : RM) (me : Nat) (nodes : List (Nat × NodeInfo)) (c : Cidr)
    (pre : List (Cidr × RouteInfo)) (ri : RouteInfo)
    (hpre : PlainAncestors pre) (hb : ri.block = some me) (hh : ri.hosts = []) (hr : ri.refs = [])
    (hlen : c.len ≠ c.width) (hpt : (routeOfPath me nodes c (pre ++ [(c, ri)])).poolType = m.pt) :
    let r := routeOfPath me nodes c (pre ++ [(c, ri)])
    ∃ ts, aget ((m.onRouteUpdate r).updateRoutes).table ((m.onRouteUpdate r).classBlackhole, ifNone) = some ts ∧
      ({ cidr := c, typ := .blackhole } : Target) ∈ ts := by
  intro r
  have hbr := routeOfPath_block me nodes c pre ri me hpre hb hh hr
  have hlb : routeIsLocalBlock m.pt r = true := by
    have hty : isType r tLocalWorkload = true := by
      have := hbr.ofNode; rwa [if_pos (by simp)] at this
    simp only [routeIsLocalBlock, hty, Bool.true_and, show r.poolType = m.pt from hpt, beq_self_eq_true,
      show r.localWorkload = false from hbr.localWorkload, Bool.not_false, show r.dst = c from hbr.dst]
    simpa using hlen
  have := local_block_gets_blackhole m r hlb
  rw [show r.dst = c from hbr.dst] at this
  exact this

/-- **manager_order_independent.**  After ANY two sequences of route updates/removals that leave the
downstream map (dst ↦ last RouteUpdate) the same, a fresh routeManager holds the same
`routesByDest` and `localIPAMBlocks` entry for every destination — namely the last update for that
destination, kept iff `stores` / `routeIsLocalBlock` says so — and `updateRoutes` maps each stored
route through the pure function `targetOf`; so the programmed kinds do not depend on the order in
which the resolver's messages arrived.  On its own this is a small lemma (its hypothesis is "same
last message per destination"); `programmed_routes_order_independent_partial` composes the same fact,
for one destination, with `arrival_order_independent_partial`. -/
theorem manager_order_independent (pt me eth : Nat) (evs1 evs2 : List Event)
    (hsame : ∀ d, aget (applyEvents [] evs1) d = aget (applyEvents [] evs2) d) (d : Cidr) :
    let m1 := evs1.foldl RM.onEvent { pt := pt, me := me, eth0Addr := eth }
    let m2 := evs2.foldl RM.onEvent { pt := pt, me := me, eth0Addr := eth }
    aget m1.routes d = aget m2.routes d ∧ aget m1.localBlocks d = aget m2.localBlocks d ∧
    aget m1.routes d = (aget (applyEvents [] evs1) d).bind (storedOf pt) ∧
    aget m1.localBlocks d = (aget (applyEvents [] evs1) d).bind (blockOf pt) := by
  intro m1 m2
  have e := fresh_eq_at pt me eth evs1 evs2 d (hsame d)
  have a := fresh_agree pt me eth evs1 d
  exact ⟨e.1, e.2, a.1, a.2⟩

/-- **dirty_marking_complete (partial).**  After ANY history of node, pool and block updates (each followed
by the deferred `flush`), for every CIDR that carries a block / borrowed-address route and nothing
else at its own CIDR (`Tracked`), the RouteUpdate the dataplane last received for it IS the route
`flush` would compute from the resolver's CURRENT trie and node table: every change of a computed
route has been re-sent.  (Inductive invariant `Inv` over the whole modelled state machine:
`RouteTrie.updateCIDR`, pool "mark children dirty", block "mark descendants dirty", the local-CIDR
same-subnet re-evaluation, tunnel refs, host entries, `nodeRoutes`, `flush`.)
`_partial`, what is missing for the full statement: (i) CIDRs that carry a block route AND a node's
own address / a tunnel address / a workload ref at the very same CIDR (e.g. a borrowed tunnel IP)
are not `Tracked`; (ii) histories that contain workload endpoint updates (`Op.ok` excludes them; the
property's quantifier — pools, node addresses and subnets, blocks and borrowed IPs — does not list
them, but they interleave in a real Felix).  Both are exercised by the fresh-instance oracle on the
real code only.
The hypothesis `zeroHost c = false` excludes the two CIDRs 0.0.0.0/32 and ::/128: `flush` never sends a
route for `emptyV4Addr.AsCIDR()` / `emptyV6Addr.AsCIDR()` ("Skip sending a route for an empty CIDR"),
so nothing is claimed about them. -/
theorem dirty_marking_complete_partial (me : Nat) (ops : List Op) (hok : ∀ op ∈ ops, op.ok) :
    let r := St.run { me := me } [] ops
    ∀ c n, Tracked r.1 c n → zeroHost c = false → aget r.2 c = some (r.1.route c) :=
  fun c n ht h0 => (run_inv ops _ _ hok (inv_init me)).cur c n ht h0

/-- **route kind after any history (partial).**  `route_kind_correct` composed with
`dirty_marking_complete_partial`: after ANY history of node, pool and block updates, for every CIDR
`c` that carries a block / borrowed-address route of a REMOTE node `n` whose address is known, the
RouteUpdate `u` the dataplane holds for `c` is such that the manager of `u`'s pool type (parent
device known) keeps it and programs it directly via `n`'s address iff the pool is unencapsulated or
(a covering pool is cross-subnet and `n` is in the local node's subnet) — evaluated on the resolver's
CURRENT trie and node table.  `_partial` for the same
two reasons as `dirty_marking_complete_partial`. -/
theorem route_kind_after_history_partial (me : Nat) (ops : List Op) (hok : ∀ op ∈ ops, op.ok) (m : RM) :
    let r := St.run { me := me } [] ops
    ∀ c n ni, Tracked r.1 c n → zeroHost c = false → n ≠ r.1.me → aget r.1.nodes n = some ni →
      ni.addrOf c.v6 ≠ 0 → m.parent = true → (r.1.route c).poolType = m.pt →
      aget r.2 c = some (r.1.route c) ∧
      aget (m.onRouteUpdate (r.1.route c)).routes c = some (r.1.route c) ∧
      (m.targetOf (r.1.route c) = some (true, { cidr := c, typ := .noEncap, gw := ni.addrOf c.v6 }) ↔
        (m.pt = ptNoEncap ∨ (pathCross (fullPath r.1.view c) = true ∧ nodeInOurSubnet c.v6 r.1.me r.1.nodes n = true))) := by
  intro r c n ni ht h0 hn hnode hip hparent hpt
  have inv := run_inv ops _ _ hok (inv_init me)
  have hl : c.len ≤ c.width := inv.aux.l32 c (ne_empty_of_block _ n ht.1)
  have hk := route_kind_correct m r.1.me r.1.nodes c (ancPath r.1.view c) (r.1.view c) n ni
    (plain_ancPath r.1 inv.aux c hl) ht.1 ht.2.1 ht.2.2 hn hnode hip hparent hpt
  exact ⟨inv.cur c n ht h0, hk.1, hk.2.1⟩

theorem view_wasSent (s : St) (k : Cidr) : (s.view k).wasSent = false := rfl

/-- **arrival_order_independent (partial).**  Take ANY two histories of node, pool and block updates
(creations, changes, deletions, in any order and any number) during which IPAM blocks never overlap
(`DisjAlong`: no CIDR is routed by two blocks), and which end in the same datastore state — the same
last value per node, per pool and per block (`dsOf`).  Then for every CIDR that carries a block /
borrowed-address route (and no host / workload / tunnel entry at that very CIDR) the dataplane has
received the SAME RouteUpdate in both — pool type, owner, owner's address, same-subnet flag,
borrowed flag and all — hence the same kind of route is programmed
(`programmed_routes_order_independent_partial`).  `_partial`, not covered:
a CIDR that also is a node's own or tunnel address (e.g. a borrowed tunnel IP) and histories
containing workload endpoint updates; those are checked by the fresh-instance oracle on the real
code only. -/
theorem arrival_order_independent_partial (me : Nat) (ops1 ops2 : List Op)
    (ok1 : ∀ op ∈ ops1, op.ok) (ok2 : ∀ op ∈ ops2, op.ok)
    (hd1 : DisjAlong DS.empty ops1) (hd2 : DisjAlong DS.empty ops2)
    (hn : ∀ m, (dsOf ops1).nodes m = (dsOf ops2).nodes m)
    (hp : ∀ k, (dsOf ops1).pools k = (dsOf ops2).pools k)
    (hb : ∀ k, (dsOf ops1).blocks k = (dsOf ops2).blocks k) :
    let r1 := St.run { me := me } [] ops1
    let r2 := St.run { me := me } [] ops2
    ∀ c n, Tracked r1.1 c n → Tracked r2.1 c n → zeroHost c = false → aget r1.2 c = aget r2.2 c := by
  intro r1 r2 c n t1 t2 h0
  have i1 := run_inv ops1 _ _ ok1 (inv_init me)
  have i2 := run_inv ops2 _ _ ok2 (inv_init me)
  have c1 : Canon r1.1 (dsOf ops1) := canon_run ops1 _ [] _ ok1 (canon_init me) disj_empty hd1
  have c2 : Canon r2.1 (dsOf ops1) := by
    rw [DS.ext hn hp hb]; exact canon_run ops2 _ [] _ ok2 (canon_init me) disj_empty hd2
  rw [i1.cur c n t1 h0, i2.cur c n t2 h0,
    route_canon i1.aux i2.aux c1 c2 ((run_me ops1 _ _ ok1).trans (run_me ops2 _ _ ok2).symm) c n t1 t2]

/-- node 3 = 10.0.1.13/24, local node 1 = 10.0.1.11/24 (or v6-only: no IPv4 address/CIDR). -/
def wNode3 : Op := .node 3 (some { v4Addr := 167772429, cidr := ⟨167772416, 24, false⟩, ipip := 0, vxlan := 0, wg := 0 })
def wNode1v6 : Op := .node 1 (some { v4Addr := 0, cidr := ⟨0, 0, false⟩, ipip := 0, vxlan := 0, wg := 0 })
def wNode1v4 : Op := .node 1 (some { v4Addr := 167772427, cidr := ⟨167772416, 24, false⟩, ipip := 0, vxlan := 0, wg := 0 })
/-- 192.168.1.0/24, IPIP cross-subnet. -/
def wPool : Op := .pool ⟨3232235776, 24, false⟩ (some (poolOf 2 0 false false))
/-- 192.168.1.64/26 affine to node 3. -/
def wBlock : Op := .block ⟨3232235840, 26, false⟩ (some 3) []

/-- the two histories end in the same datastore state (the v6-only version of the local node is
overwritten by the dual-stack one). -/
def wHistory : List Op := [wPool, wBlock, wNode3, wNode1v6, wNode1v4]
def wFresh : List Op := [wPool, wBlock, wNode3, wNode1v4]

/-- non-vacuity of `arrival_order_independent_partial`: two different histories (the second one creates the
pool last, re-homes the block and flaps the local node) with a tracked CIDR in both and the same message for
it.  The histories do end in the same datastore and their blocks never overlap, but the statement below does not
check these two hypotheses (`dsOf`, `DisjAlong` are not decidable). -/
example :
    let h1 : List Op := [wPool, wBlock, wNode3, wNode1v4]
    let h2 : List Op := [.block ⟨3232235840, 26, false⟩ (some 5) [], wNode1v6, wNode3, wBlock, wNode1v4, wPool]
    Tracked (St.run { me := 1 } [] h1).1 ⟨3232235840, 26, false⟩ 3 ∧ Tracked (St.run { me := 1 } [] h2).1 ⟨3232235840, 26, false⟩ 3 ∧
    aget (St.run { me := 1 } [] h1).2 ⟨3232235840, 26, false⟩ = aget (St.run { me := 1 } [] h2).2 ⟨3232235840, 26, false⟩ ∧
    ((aget (St.run { me := 1 } [] h2).2 ⟨3232235840, 26, false⟩).map (·.sameSubnet) = some true) := by
  unfold Tracked
  decide +kernel

/-- all the messages the resolver sends over a history, in order. -/
def St.runEvents (s : St) : List Op → St × List Event
  | [] => (s, [])
  | op :: ops =>
    let r := s.step op
    let r2 := St.runEvents r.1 ops
    (r2.1, r.2 ++ r2.2)

theorem run_eq_runEvents (ops : List Op) (s : St) (sent : List (Cidr × RouteUpdate)) :
    St.run s sent ops = ((s.runEvents ops).1, applyEvents sent (s.runEvents ops).2) := by
  induction ops generalizing s sent with
  | nil => rfl
  | cons op ops ih =>
    simp only [St.run, St.runEvents]
    rw [ih, applyEvents_append]

/-- **resolver ∘ routeManager, order independence (partial).**  Feed a fresh routeManager (of any
pool type) every message the resolver emits over a history.  For two histories as in
`arrival_order_independent_partial` (same final datastore, blocks never overlapping), the manager
ends up holding the same `routesByDest` / `localIPAMBlocks` entry for every tracked CIDR, so
`updateRoutes` programs the same kind of route (direct / tunnel / blackhole / none) for it, whatever
the order in which the node, pool and block updates arrived.  `_partial` for the same two reasons as
`arrival_order_independent_partial`. -/
theorem programmed_routes_order_independent_partial (me pt eth : Nat) (ops1 ops2 : List Op)
    (ok1 : ∀ op ∈ ops1, op.ok) (ok2 : ∀ op ∈ ops2, op.ok)
    (hd1 : DisjAlong DS.empty ops1) (hd2 : DisjAlong DS.empty ops2)
    (hn : ∀ m, (dsOf ops1).nodes m = (dsOf ops2).nodes m)
    (hp : ∀ k, (dsOf ops1).pools k = (dsOf ops2).pools k)
    (hb : ∀ k, (dsOf ops1).blocks k = (dsOf ops2).blocks k) :
    let e1 := (St.runEvents { me := me } ops1)
    let e2 := (St.runEvents { me := me } ops2)
    let m1 := e1.2.foldl RM.onEvent { pt := pt, me := me, eth0Addr := eth }
    let m2 := e2.2.foldl RM.onEvent { pt := pt, me := me, eth0Addr := eth }
    ∀ c n, Tracked e1.1 c n → Tracked e2.1 c n → zeroHost c = false →
      aget m1.routes c = aget m2.routes c ∧ aget m1.localBlocks c = aget m2.localBlocks c := by
  intro e1 e2 m1 m2 c n t1 t2 h0
  have r1 := run_eq_runEvents ops1 { me := me } []
  have r2 := run_eq_runEvents ops2 { me := me } []
  have hs1 : (St.run { me := me } [] ops1).1 = e1.1 := by rw [r1]
  have hs2 : (St.run { me := me } [] ops2).1 = e2.1 := by rw [r2]
  have hsent := arrival_order_independent_partial me ops1 ops2 ok1 ok2 hd1 hd2 hn hp hb c n
    (by rw [hs1]; exact t1) (by rw [hs2]; exact t2) h0
  rw [r1, r2] at hsent
  exact fresh_eq_at pt me eth e1.2 e2.2 c hsent

/-- Regression witness for the defect repaired by repo commit 7bc5b47 (oracle signature
`order-dep-local-v4cidr-zero`, replay corpus/C43/local-v4cidr-zero.ops): the local node is first
known without an IPv4 CIDR and then gains 10.0.1.11/24.  Before the repair `onNodeUpdate` compared
"was/is same subnet" with `ContainsV4` on the zero CIDR (which contains every address), saw no flip
and left the remote block's route with `SameSubnet = false`; with the zero-CIDR guard both the
history and the fresh resolver send `SameSubnet = true`. -/
theorem arrival_order_v4cidr_zero_fixed :
    let blk : Cidr := ⟨3232235840, 26, false⟩
    ((aget ((St.run { me := 1 } [] wHistory).2) blk).map (·.sameSubnet) = some true) ∧
    ((aget ((St.run { me := 1 } [] wFresh).2) blk).map (·.sameSubnet) = some true) := by
  decide +kernel

/-- a remote block of node 2 in a VXLAN pool, as the resolver sends it. -/
def wVxRoute : RouteUpdate :=
  { dst := ⟨3232235584, 26, false⟩, types := tRemoteWorkload, poolType := ptVXLAN, dstNode := some 2, dstNodeIp := 167772172 }

/-- Regression witness for the defect repaired by repo commit f51d894 (oracle signature
`order-dep-stale-v4-vtep`, replay corpus/C43/stale-v4-vtep.ops): the IPv4 vxlan manager used to
ignore a VTEP update without an IPv4 address while keeping the IPv4 VTEP it already held for that
node (the EventSequencer coalesces the VXLANResolver's remove+update into that single update), so
the node's blocks stayed routed via the stale VTEP whereas a manager that only saw the final message
programmed nothing.  With the repair the history and the fresh manager agree. -/
theorem stale_v4_vtep_fixed :
    let m0 : RM := { pt := ptVXLAN, me := 0, eth0Addr := 167772170, parent := true }
    let hist := (((m0.onVtep 2 (some (3232235522, 167772172))).onVtep 2 (some (0, 167772172))).onRouteUpdate wVxRoute)
    let fresh := ((m0.onVtep 2 (some (0, 167772172))).onRouteUpdate wVxRoute)
    hist.targetOf wVxRoute = none ∧ fresh.targetOf wVxRoute = none ∧
    ((m0.onVtep 2 (some (3232235522, 167772172))).onRouteUpdate wVxRoute).targetOf wVxRoute
      = some (false, { cidr := ⟨3232235584, 26, false⟩, typ := .vxlan, gw := 3232235522 }) := by
  decide +kernel

/-- fd00:100::/48, VXLAN cross-subnet; block fd00:100::/122 of node 3; node 3 = 10.0.1.13/24 +
fd00:a:1::13/64; local node 1 = 10.0.1.11/24 + fd00:a:1::11/64. -/
def w6Pool : Op := .pool ⟨336294703215993319496333610198178463744, 48, true⟩ (some (poolOf 0 2 false false))
def w6Block : Op := .block ⟨336294703215993319496333610198178463744, 122, true⟩ (some 3) []
def w6Info (a4 a6 : Nat) : NodeInfo :=
  { v4Addr := a4, cidr := ⟨167772416, 24, false⟩, ipip := 0, vxlan := 0, wg := 0,
    v6Addr := a6, cidr6 := ⟨336294683725866549913126176815541387264, 64, true⟩ }
def w6Node3 : Op := .node 3 (some (w6Info 167772429 336294683725866549913126176815541387283))
def w6Node1 : Op := .node 1 (some (w6Info 167772427 336294683725866549913126176815541387281))

/-- Witness for seeded defect C43-2 (replay corpus/C43/local-dualstack-arrives-last.ops): ONE update
of the local node that changes both its IPv4 and its IPv6 subnet (here: its first appearance, after
the pool, the remote block and the remote node) must re-evaluate the IPv6 routes as well as the IPv4
ones — the two passes of `onNodeUpdate` are independent `if`s, not `if … else if`.  In the model (and
in the unchanged code) the IPv6 block ends up SameSubnet, as it does when the local node comes first;
both are instances of `arrival_order_independent_partial`, which is proved for both families. -/
theorem dualstack_local_node_last_same_subnet :
    let blk : Cidr := ⟨336294703215993319496333610198178463744, 122, true⟩
    ((aget ((St.run { me := 1 } [] [w6Pool, w6Block, w6Node3, w6Node1]).2) blk).map (·.sameSubnet) = some true) ∧
    ((aget ((St.run { me := 1 } [] [w6Node1, w6Pool, w6Block, w6Node3]).2) blk).map (·.sameSubnet) = some true) ∧
    ((aget ((St.run { me := 1 } [] [w6Pool, w6Block, w6Node3, w6Node1]).2) blk).map (·.dstNodeIp)
      = some 336294683725866549913126176815541387283) := by
  decide +kernel

end CalicoVerif.C43
