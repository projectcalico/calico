import CalicoVerif.Gen.C28
/-!
C28 — Exactly one component programs each IP pool's cluster routes.

The decision tables of both halves (`Gen.bgpTable`, `Gen.felixTable`) and the list of supported
pairings (`Gen.supportedPairs`, from the design doc) are regenerated from the source on every run;
the theorems below are re-checked against them.  Settings range over ALL strings (and absent);
the case split over the finite part (4×4 recognised values × 4×4 pool modes) is done once, in
`exactly_one_iff_supported`.  After the decision tables (`exactly_one_owner`) the file holds: Felix's dataplane
consumers against the config-level decision (`felix_consumers_agree`, `exactly_one_owner_dataplane`), the route
manager's bookkeeping (`programmed_iff_last_message`), the `Dyn` scenario and the disabled flag (examples,
`ownership_ignores_disabled`), and confd's cache (`confd_last_event_wins`).  The family has no `Proofs` module: its
few helper lemmas stand here too.
-/
namespace CalicoVerif.C28
open Gen

def bgpDefaultName (T : BgpTable) : Str :=
  match T.cases.find? (fun c => c.2 == T.dflt) with
  | some c => c.1
  | none => []

/-- The setting the BGP half effectively acts on: one of the switch's case values if the raw
setting is exactly one of them, otherwise `bgpDefaultName`. -/
def bgpEff (T : BgpTable) : Option Str → Str
  | none => bgpDefaultName T
  | some s => if (T.cases.lookup s).isSome then s else bgpDefaultName T

theorem bgpPolicy_eq_eff (T : BgpTable) (hd : bgpPolicy T (some (bgpDefaultName T)) = T.dflt) (bv : Option Str) :
    bgpPolicy T bv = bgpPolicy T (some (bgpEff T bv)) := by
  cases bv with
  | none => simp only [bgpEff, hd]; rfl
  | some s =>
    unfold bgpEff
    cases h : T.cases.lookup s with
    | some p => simp [h]
    | none =>
      simp only [h, Option.isSome_none, Bool.false_eq_true, if_false, hd]
      simp [bgpPolicy, h]

/-- Exactly one owner as BIRD's RENDERED IPv4 kernel filter decides it: `hasSubnet` = the node's
`network_v4` key is present (without it `processIPPools` emits no IPv4 statement and the template's
catch-all `accept` applies; the IPv6 filter always behaves as `hasSubnet = true`). -/
def ExactlyOneK (hasSubnet : Bool) (fv : Str) (p : Policy) (ipip vxlan : Mode) : Prop :=
  (felixPrograms felixTable fv ipip vxlan ≠ birdKernelV4 hasSubnet p ipip vxlan) ∧
  (modeOn vxlan = true →
    felixPrograms felixTable fv ipip vxlan = true ∧ birdKernelV4 hasSubnet p ipip vxlan = false)

instance (hs : Bool) (fv : Str) (p : Policy) (i v : Mode) : Decidable (ExactlyOneK hs fv p i v) := by
  unfold ExactlyOneK; exact inferInstance

theorem mem_allModes (m : Mode) : m ∈ allModes := by cases m <;> decide

/-- The supported pairings are exactly the right ones: among the recognised values of the two
settings, every pool mode has exactly one owner **iff** the pairing is a supported one. -/
theorem exactly_one_iff_supported :
    ∀ f ∈ felixTable.oneof, ∀ b ∈ bgpTable.cases.map (·.1),
      ((∀ i ∈ allModes, ∀ v ∈ allModes, ExactlyOneK true f (bgpPolicy bgpTable (some b)) i v) ↔
        (f, b) ∈ supportedPairs) := by decide +kernel

/-- **Main theorem.**  HYPOTHESIS `hasSubnet = true`: the node's `network_v4` key is present (IPv4
filter; the IPv6 filter needs no such hypothesis).  Then for every raw Felix setting and every raw
BGP setting (any string, or absent; on the BGP side also "no BGPConfiguration"), if the settings the
two halves effectively act on form one of the supported pairings, for every pool encapsulation mode
the pool's cluster routes are programmed by exactly one of Felix and BIRD's rendered kernel filter,
and VXLAN pools by Felix. -/
theorem exactly_one_owner (hasSubnet : Bool) (hsub : hasSubnet = true) (fv bv : Option Str)
    (hsup : (felixValue felixTable fv, bgpEff bgpTable bv) ∈ supportedPairs) (ipip vxlan : Mode) :
    ExactlyOneK hasSubnet (felixValue felixTable fv) (bgpPolicy bgpTable bv) ipip vxlan := by
  subst hsub
  rw [bgpPolicy_eq_eff bgpTable (by decide +kernel)]
  have hrec : ∀ pr ∈ supportedPairs, pr.1 ∈ felixTable.oneof ∧ pr.2 ∈ bgpTable.cases.map (·.1) := by
    decide
  obtain ⟨hf, hb⟩ := hrec _ hsup
  exact (exactly_one_iff_supported _ hf _ hb).2 hsup ipip (mem_allModes _) vxlan (mem_allModes _)

/-- The hypothesis is needed — Lean witness for `hasSubnet = false`, both settings absent (the
default, supported pairing): BIRD's filter accepts a VXLAN pool and an IPIP pool that Felix programs
too.  Reproduced on the real code by `corpus/C28/obs-c-no-network-v4.ops` (`dsub 0`); it is an
OBSERVATION outside the property's quantifier (settings × pool modes), counted in the evidence as
`obs:no-network_v4`, not evaluated by the oracle and not a KNOWN-FINDING. -/
theorem no_network_v4_two_owners :
    (felixValue felixTable none, bgpEff bgpTable none) ∈ supportedPairs ∧
    ¬ ExactlyOneK false (felixValue felixTable none) (bgpPolicy bgpTable none) .never .always ∧
    ¬ ExactlyOneK false (felixValue felixTable none) (bgpPolicy bgpTable none) .always .never := by decide +kernel

/-- Not vacuous: the all-defaults configuration (both settings absent) is a supported pairing,
and so is an unrecognised string on both sides. -/
example : (felixValue felixTable none, bgpEff bgpTable none) ∈ supportedPairs := by decide +kernel
example : (felixValue felixTable (some [98, 111, 103, 117, 115]), bgpEff bgpTable (some [98, 111, 103, 117, 115])) ∈ supportedPairs := by decide +kernel

/-- Absent and unrecognised settings are treated alike, on both sides: as the default. -/
theorem absent_and_unknown_default_alike :
    (∀ s : Str, lower s ≠ noneStr → (∀ o ∈ felixTable.oneof, lower o ≠ lower s) →
        felixValue felixTable (some s) = felixValue felixTable none) ∧
    (∀ s : Str, bgpTable.cases.lookup s = none →
        bgpPolicy bgpTable (some s) = bgpPolicy bgpTable none) := by
  constructor
  · intro s h1 h2
    have hf : felixTable.oneof.find? (fun o => lower o == lower s) = none := by
      rw [List.find?_eq_none]
      intro o ho
      simpa using h2 o ho
    simp [felixValue, h1, hf]
  · intro s h
    simp [bgpPolicy, h]

/-- The two defaults (Felix's, and the case value BGP's default policy coincides with) form a supported pairing. -/
theorem defaults_are_a_supported_pairing :
    (felixTable.dflt, bgpDefaultName bgpTable) ∈ supportedPairs := by decide +kernel

/-- Felix recognises its setting case-insensitively and stores the canonical spelling
(`enabled` acts as `Enabled`), confd's switch is case-sensitive (`enabled` → default). -/
example : felixValue felixTable (some [101, 110, 97, 98, 108, 101, 100]) = [69, 110, 97, 98, 108, 101, 100] := by decide +kernel
example : bgpEff bgpTable (some [101, 110, 97, 98, 108, 101, 100]) = bgpDefaultName bgpTable := by decide +kernel

theorem modeOnFelix_eq_modeOn {m : Mode} (h : m ≠ .other) : modeOnFelix m = modeOn m := by
  cases m <;> first | rfl | exact absurd rfl h

/-- On the three real modes Felix's own classification (mode ≠ Never) and confd's (mode ∈ {Always,
CrossSubnet}) coincide, so `exactly_one_owner` is a statement about Felix's behaviour there. -/
theorem felix_class_agrees_on_valid_modes (v : Str) (ipip vxlan : Mode)
    (h1 : ipip ≠ .other) (h2 : vxlan ≠ .other) :
    felixProgramsOwnClass felixTable v ipip vxlan = felixPrograms felixTable v ipip vxlan := by
  simp only [felixProgramsOwnClass, felixPrograms, modeOnFelix_eq_modeOn h1, modeOnFelix_eq_modeOn h2]

/-- The `other` rows of `exactly_one_owner` are confd's classification applied to both sides, NOT
Felix's behaviour: with Felix's own classification an unknown ipip mode string is double-programmed
under the default pairing (Felix counts the pool as IPIP, confd as unencapsulated).  Unreachable: the
v3→v1 conversion only produces the three modes. -/
theorem other_mode_row_refuted :
    felixProgramsOwnClass felixTable (felixValue felixTable none) .other .never = true ∧
    birdPrograms (bgpPolicy bgpTable none) .other .never = true := by decide +kernel

/-- For every stored setting (any string), every combination of pools present and of the unrelated
switches: for a pool class that is present, Felix's dataplane (manager started ∧ routes handed to the
route manager, guards regenerated from ipip_mgr.go / int_dataplane.go) programs the class exactly when
the config-level decision `felixPrograms` says so, and whenever it does the L3 route resolver that
feeds the managers is wired in. -/
theorem felix_consumers_agree (v : Str) (ps : Pools) (vx6 bpf wg wg6 : Bool) (c : PoolClass)
    (hc : ps.has c = true) :
    felixDataplanePrograms guards (felixEnv felixTable v ps vx6 bpf wg wg6) c =
      felixPrograms felixTable v c.modes.1 c.modes.2 ∧
    (felixDataplanePrograms guards (felixEnv felixTable v ps vx6 bpf wg wg6) c = true →
      guards.resolver (felixEnv felixTable v ps vx6 bpf wg wg6) = true) := by
  -- the guard of each manager is one of the disjuncts of the resolver's gate
  cases c
  · have hc : ps.vxlan = true := hc
    refine ⟨hc, fun _ => ?_⟩
    simp only [guards, felixEnv, hc, Bool.or_true, Bool.true_or]
  · have hc : ps.ipip = true := hc
    refine ⟨?_, fun h => Bool.or_eq_true_iff.2 (.inr h)⟩
    show (ps.ipip && felixIPIP felixTable v) = felixIPIP felixTable v
    rw [hc, Bool.true_and]
  · have hc : ps.noEncap = true := hc
    have e : felixDataplanePrograms guards (felixEnv felixTable v ps vx6 bpf wg wg6) .noEncap =
        felixNoEncap felixTable v := by
      show (felixNoEncap felixTable v && (felixNoEncap felixTable v && ps.noEncap)) = _
      rw [hc, Bool.and_true, Bool.and_self]
    refine ⟨e, fun h => ?_⟩
    rw [e] at h
    simp only [guards, felixEnv, h, hc, Bool.and_true, Bool.or_true, Bool.true_or]

/-- **End to end.**  `network_v4` present and supported effective pairing ⇒ for every pool class present, exactly one of
Felix's dataplane and BIRD's kernel filter programs its cluster routes; VXLAN is Felix's. -/
theorem exactly_one_owner_dataplane (hasSubnet : Bool) (hsub : hasSubnet = true) (fv bv : Option Str)
    (hsup : (felixValue felixTable fv, bgpEff bgpTable bv) ∈ supportedPairs)
    (ps : Pools) (vx6 bpf wg wg6 : Bool) (c : PoolClass) (hc : ps.has c = true) :
    felixDataplanePrograms guards (felixEnv felixTable (felixValue felixTable fv) ps vx6 bpf wg wg6) c ≠
      birdKernelV4 hasSubnet (bgpPolicy bgpTable bv) c.modes.1 c.modes.2 ∧
    (c = .vxlan → felixDataplanePrograms guards (felixEnv felixTable (felixValue felixTable fv) ps vx6 bpf wg wg6) c = true) := by
  have h1 := (felix_consumers_agree (felixValue felixTable fv) ps vx6 bpf wg wg6 c hc).1
  have h2 := exactly_one_owner hasSubnet hsub fv bv hsup c.modes.1 c.modes.2
  rw [h1]
  refine ⟨h2.1, ?_⟩
  rintro rfl
  exact (h2.2 (by decide)).1

example : felixDataplanePrograms guards (felixEnv felixTable felixTable.dflt ⟨true, false, true⟩ false false false false) .ipip = true ∧
    felixDataplanePrograms guards (felixEnv felixTable felixTable.dflt ⟨true, false, true⟩ false false false false) .noEncap = false := by decide +kernel

theorem mem_rmUpdate (ty : PoolClass) (st : List Nat) (m : RMsg) (d : Nat) :
    d ∈ rmUpdate ty st m ↔
      if m.dst = d then m.poolType = ty ∧ m.qualifies = true else d ∈ st := by
  have hf : d ∈ st.filter (fun d => d != m.dst) ↔ d ≠ m.dst ∧ d ∈ st := by
    rw [List.mem_filter, bne_iff_ne, and_comm]
  unfold rmUpdate
  by_cases hd : m.dst = d
  · subst hd
    split <;> simp [*]
  · have hd' : d ≠ m.dst := Ne.symm hd
    split <;> simp [*]

theorem rmRun_mem_iff (ty : PoolClass) (d : Nat) (hist : List RMsg) (st : List Nat)
    (acc : Option RMsg) (h : d ∈ st ↔ ∃ m, acc = some m ∧ m.poolType = ty ∧ m.qualifies = true) :
    d ∈ rmRun ty st hist ↔ ∃ m, lastFor d acc hist = some m ∧ m.poolType = ty ∧ m.qualifies = true := by
  induction hist generalizing st acc with
  | nil => exact h
  | cons m t ih =>
    apply ih
    rw [mem_rmUpdate]
    split
    · simp only [Option.some.injEq, exists_eq_left']
    · exact h

/-- **Bookkeeping theorem.**  After ANY history of route updates, a (fresh) manager of pool type
`ty` programs exactly the destinations whose LAST message is of its own pool type and qualifies;
in particular a destination whose last message has another pool type is not programmed. -/
theorem programmed_iff_last_message (ty : PoolClass) (hist : List RMsg) (d : Nat) :
    d ∈ rmRun ty [] hist ↔ ∃ m, lastFor d none hist = some m ∧ m.poolType = ty ∧ m.qualifies = true :=
  rmRun_mem_iff ty d hist [] none (by simp)

theorem not_programmed_after_type_change (ty : PoolClass) (hist : List RMsg) (d : Nat) (m : RMsg)
    (hl : lastFor d none hist = some m) (hne : m.poolType ≠ ty) : d ∉ rmRun ty [] hist := by
  rw [programmed_iff_last_message]
  rintro ⟨m', h1, h2, _⟩
  rw [hl] at h1
  exact hne ((Option.some.inj h1) ▸ h2)

/-- pool 0 is IPIP, then re-announced as unencapsulated: the IPIP manager forgets both its blocks. -/
example : rmRun .ipip [] (poolMsgs 0 .ipip ++ poolMsgs 1 .ipip ++ poolMsgs 0 .noEncap) = [3, 2] := by decide +kernel

/-- The scenario behind the bookkeeping: default pairing, IPIP pools 0 and 1, pool 0 becomes
unencapsulated while pool 1 stays (no restart): Felix stops programming pool 0's blocks. -/
example : let s := (Dyn.setClass felixTable guards felixTable.dflt (Dyn.start felixTable guards felixTable.dflt [.ipip, .ipip, .noEncap]) 0 .noEncap)
    s.2 = false ∧ s.1.programs 0 = false ∧ s.1.programs 1 = false ∧ s.1.programs 2 = true := by decide +kernel

/-- Two pool lists that differ only in their `disabled` flags give the same Felix state (same
managers started, same destinations programmed) — and BIRD's verdict is a function of the modes
alone.  DEFINITIONAL in the model (it classifies a pool by its two modes only); what it rests on is
the translator tie that `EncapsulationCalculator.updatePool` takes exactly (cidr, ipipEnabled,
vxlanEnabled) and that confd's `processIPPool`/`programsPool` bodies are the modelled ones, plus
the correspondence run and the exactly-one-owner oracle over histories with disabled pools that
still have blocks. -/
theorem ownership_ignores_disabled (v : Str) (ps qs : List PoolSpec)
    (h : ps.map (·.cls) = qs.map (·.cls)) :
    Dyn.startSpecs felixTable guards v ps = Dyn.startSpecs felixTable guards v qs := by
  unfold Dyn.startSpecs; rw [h]

/-- Felix owns the no-encap routes (Felix Enabled / BGP Disabled) and the only no-encap pool is
disabled: Felix still programs its blocks, BIRD still rejects them — exactly one owner. -/
example : let s := Dyn.startSpecs felixTable guards [69, 110, 97, 98, 108, 101, 100] [⟨.noEncap, true⟩, ⟨.ipip, false⟩]
    s.programs 0 = true ∧ s.programs 1 = true ∧
    birdKernelV4 true (bgpPolicy bgpTable (some [68, 105, 115, 97, 98, 108, 101, 100])) .never .never = false := by decide +kernel

/-- After any history of syncer events for BGPConfiguration `default`, the cached resource is that
of the LAST event (whatever was cached before).  DEFINITIONAL: `confdStep` ignores the previous
state by construction of the model; the content is the translator tie that `updateBGPConfigCache`
assigns `c.globalBGPConfig = v3res` unconditionally (nil on delete) and the correspondence run of
the real client.  Kept as the statement the model makes, not as a proof of the code. -/
theorem confd_last_event_wins (st : Option (Option Str)) (hist : List BgpEvent) (e : BgpEvent) :
    confdRun st (hist ++ [e]) = confdStep none e := by
  simp only [confdRun, List.foldl_append, List.foldl_cons, List.foldl_nil]
  cases e <;> rfl

/-- … so the policy BIRD's filter is rendered from is that of the last event; after a delete it is
the default, exactly as if the setting were absent. -/
theorem confd_policy_after_history (st : Option (Option Str)) (hist : List BgpEvent) :
    (∀ v, bgpPolicy bgpTable (confdSetting (confdRun st (hist ++ [.set v]))) = bgpPolicy bgpTable v) ∧
    bgpPolicy bgpTable (confdSetting (confdRun st (hist ++ [.del]))) = bgpPolicy bgpTable none ∧
    bgpPolicy bgpTable none = bgpTable.dflt := by
  refine ⟨fun v => ?_, ?_, rfl⟩ <;> rw [confd_last_event_wins] <;> rfl

example : confdSetting (confdRun none [.set (some [69]), .del]) = none := by decide +kernel

end CalicoVerif.C28
