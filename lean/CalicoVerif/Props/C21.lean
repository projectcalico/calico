import CalicoVerif.Proofs.C21
/-!
C21 — IPAM release is safe against stale requests and honours cooldown
(block level: `allocationBlock` of libcalico-go/lib/ipam/ipam_block.go).

The model is `CalicoVerif.Model.C21`, the lemmas are in `CalicoVerif.Proofs.C21`. `WF` is the well-formedness of
blocks produced by the modelled operations (`newBlock_WF`, `run_WF`); `LiveAt b o a` = ordinal `o` is allocated with attribute `a`
and not in cooldown; `CoolingAt b o r` = `o` is in cooldown since `r`.
-/
namespace CalicoVerif.C21

theorem release_refused {b : Block} {opts : List ROpt} {x : ROpt} (cd : Int) (now : Nat) (hx : x ∈ dedupe opts)
    (herr : (b.verdict x).isErr = true) :
    (b.release cd now opts).1 = b ∧ ∃ e, (b.release cd now opts).2 = .err e := by
  have hmem : (x, b.verdict x) ∈ b.verdicts opts := List.mem_map.2 ⟨x, hx, rfl⟩
  cases release_cases b cd now opts with
  | refused _ _ _ hb he => exact ⟨hb, he⟩
  | nothing hno | released hno => have := hno _ hmem; rw [herr] at this; cases this

/-- `release`: if the (last) option given for some address names a sequence number different from
the one stored for that address, the whole request is refused and the block is unchanged. -/
theorem stale_seq_never_frees (b : Block) (cd : Int) (now : Nat) (opts : List ROpt) (x : ROpt) (s : Nat)
    (hx : x ∈ dedupe opts) (hs : x.seq = some s) (hne : s ≠ b.getSeq x.ord) :
    (b.release cd now opts).1 = b ∧ ∃ e, (b.release cd now opts).2 = .err e := by
  refine release_refused cd now hx ?_
  rcases verdict_cases b x with ⟨_, e⟩ | ⟨_, _, _, e⟩ | ⟨_, h2, _⟩
  · rw [e]; rfl
  · rw [e]; rfl
  · exact absurd (h2 s hs) hne

/-- `releaseByHandle` with a sequence number: an address of that handle whose stored sequence
number differs stays allocated, with exactly the same attribute. -/
theorem stale_seq_never_frees_by_handle {b : Block} (hw : WF b) (cd : Int) (now : Nat) (h : Handle) (s : Nat)
    (o : Nat) (a : Attr) (hl : b.LiveAt o a) (hne : s ≠ b.getSeq o) :
    (b.releaseByHandle cd now h (some s)).1.LiveAt o a := by
  have hnot : o ∉ b.relhOrds h (some s) := fun hm => hne ((mem_relhOrds.1 hm).2.2 s rfl)
  rcases relh_cases b cd now h (some s) with ⟨_, hc⟩ | ⟨_, hc⟩ | ⟨_, hc⟩
  · rw [hc]; exact hl
  · rw [hc]; exact gc_live hw.alen hl cd now
  · rw [hc]
    exact gc_live (mc_WF hw _ _ _ (relhOrds_live hw)).alen (mc_live hw _ _ (relhOrds_live hw) hnot hl) cd now

/-- `release`: if the option for a live address names a (non-empty) handle different from the
(sanitised) handle stored for it, the whole request is refused and the block is unchanged. -/
theorem wrong_handle_never_frees (b : Block) (cd : Int) (now : Nat) (opts : List ROpt) (x : ROpt) (a : Attr)
    (hx : x ∈ dedupe opts) (hl : b.LiveAt x.ord a) (hh : x.handle ≠ []) (hne : a.hid ≠ x.handle) :
    (b.release cd now opts).1 = b ∧ ∃ e, (b.release cd now opts).2 = .err e := by
  have h2 : (b.verdict2 x).isErr = true := by
    have : (x.handle != [] && a.hid != x.handle) = true := by simp [hh, hne]
    simp [Block.verdict2, hl.1, hl.2, this, OptVerdict.isErr]
  refine release_refused cd now hx ?_
  rcases verdict_cases b x with ⟨_, e⟩ | ⟨_, _, _, e⟩ | ⟨_, _, e⟩ <;> rw [e]
  · rfl
  · rfl
  · exact h2

/-- If every named address is inside the block, passes the sequence check, and is not live
(free or in cooldown), `release` succeeds, reports all of them as skipped, releases nothing and
leaves the block unchanged (not even a garbage collection). -/
theorem double_release_noop (b : Block) (cd : Int) (now : Nat) (opts : List ROpt)
    (hall : ∀ x ∈ dedupe opts, x.ord < b.n ∧ (∀ s, x.seq = some s → s = b.getSeq x.ord) ∧ ¬ ∃ a, b.LiveAt x.ord a) :
    (b.release cd now opts).1 = b ∧
    ∃ sk, (b.release cd now opts).2 = .ok sk [] ∧ ∀ x ∈ dedupe opts, x.ord ∈ sk := by
  have hskip : ∀ x ∈ dedupe opts, b.verdict x = .skip := by
    intro x hx
    obtain ⟨hlt, hsq, hnl⟩ := hall x hx
    have h2 : b.verdict2 x = .skip := by
      unfold Block.verdict2
      cases ha : b.attrAt x.ord with
      | none => rfl
      | some a =>
        cases hr : a.releasedAt with
        | none => exact absurd ⟨a, ha, hr⟩ hnl
        | some r => simp [hr]
    rcases verdict_cases b x with ⟨hge, _⟩ | ⟨s, hs, hne, _⟩ | ⟨_, _, e⟩
    · omega
    · exact absurd (hsq s hs) hne
    · exact e.trans h2
  have hmem : ∀ x ∈ dedupe opts, (x, OptVerdict.skip) ∈ b.verdicts opts := by
    intro x hx; unfold Block.verdicts; exact List.mem_map.2 ⟨x, hx, by rw [hskip x hx]⟩
  have hnorel : b.relOrds opts = [] := List.eq_nil_iff_forall_not_mem.2 fun o ho => by
    obtain ⟨x, hx, _, h, hv⟩ := mem_relOrds.1 ho
    rw [hskip x hx] at hv; cases hv
  cases release_cases b cd now opts with
  | refused p hp he =>
    unfold Block.verdicts at hp
    obtain ⟨x, hx, rfl⟩ := List.mem_map.1 hp
    rw [hskip x hx] at he; cases he
  | nothing _ _ hc =>
    rw [hc]
    refine ⟨rfl, skippedOf (b.verdicts opts), ?_, ?_⟩
    · have : relsOf (b.verdicts opts) = [] := by
        unfold Block.relOrds at hnorel; exact List.map_eq_nil_iff.1 hnorel
      rw [this]
    · intro x hx
      unfold skippedOf
      exact List.mem_filterMap.2 ⟨(x, .skip), hmem x hx, rfl⟩
  | released _ hne => exact absurd hnorel hne

/-- After a successful `release` of an address, that address is no longer live (it is in cooldown
since `now`, or already deallocated when the cooldown is not positive) — so releasing it again is
covered by `double_release_noop`. -/
theorem released_not_live {b : Block} (hw : WF b) (cd : Int) (now : Nat) (opts : List ROpt) (o : Nat)
    (hok : ∀ p ∈ b.verdicts opts, p.2.isErr = false) (ho : o ∈ b.relOrds opts) :
    (b.release cd now opts).1.attrAt o = none ∨ (b.release cd now opts).1.CoolingAt o now := by
  cases release_cases b cd now opts with
  | refused p hp he => rw [hok p hp] at he; cases he
  | nothing _ hnil => rw [hnil] at ho; cases ho
  | released _ _ hc =>
    rw [hc]
    exact gc_cooling_or_free (mc_WF hw _ _ _ relOrds_live).alen (mc_selected hw _ _ relOrds_live ho) cd now

/-- Over every history (any interleaving of assign / auto-assign / release / release-by-handle /
garbage collection / sequence bumps / time advance) in which all cooldown-taking operations use
the same cooldown `c ≥ 0`: an address that is in cooldown since `r` (or whose cooldown already
passed) can only be live again at a time `≥ r + c`. -/
theorem cooldown_respected {s : St} (hw : WF s.blk) {c : Int} (hc0 : 0 ≤ c) (ops : List Op)
    (hops : ∀ op ∈ ops, op.usesCd c) (o r : Nat) (hcool : s.blk.CoolingAt o r)
    (a : Attr) (hlive : (run s ops).blk.LiveAt o a) :
    (r : Int) + c ≤ (run s ops).now := by
  rcases cooling_run hw hc0 ops hops (Or.inl hcool) with ⟨a', ha', hr'⟩ | h
  · rw [hlive.1] at ha'; cases ha'; rw [hlive.2] at hr'; cases hr'
  · exact h

/-- End to end: an address released by `release` at time `t` with cooldown `c ≥ 0` is not live
again (handed out by `autoAssign` or `assign`) before time `t + c`, whatever happens in between. -/
theorem cooldown_respected_after_release {s : St} (hw : WF s.blk) {c : Int} (hc0 : 0 ≤ c) (opts : List ROpt)
    (ops : List Op) (hops : ∀ op ∈ ops, op.usesCd c) (o : Nat)
    (hok : ∀ p ∈ s.blk.verdicts opts, p.2.isErr = false) (ho : o ∈ s.blk.relOrds opts)
    (a : Attr) (hlive : (run (step s (.release c opts)) ops).blk.LiveAt o a) :
    (s.now : Int) + c ≤ (run (step s (.release c opts)) ops).now := by
  have hw1 : WF (step s (.release c opts)).blk := step_WF hw _
  have hstart : (step s (.release c opts)).blk.CoolingAt o s.now ∨ (s.now : Int) + c ≤ (step s (.release c opts)).now := by
    simp only [step]
    cases release_cases s.blk c s.now opts with
    | refused p hp he => rw [hok p hp] at he; cases he
    | nothing _ hnil => rw [hnil] at ho; cases ho
    | released _ _ hcs =>
      rw [hcs]
      exact gc_cooling (mc_WF hw _ _ _ relOrds_live).alen (mc_selected hw _ _ relOrds_live ho) c hc0 s.now
  rcases cooling_run hw1 hc0 ops hops hstart with ⟨a', ha', hr'⟩ | h
  · rw [hlive.1] at ha'; cases ha'; rw [hlive.2] at hr'; cases hr'
  · exact h

/-- Along every history that starts from a freshly created block, the free queue `Unallocated`
is ordered by the step at which each address entered it (deallocation order; addresses that were
deallocated by the same garbage-collection pass, or never allocated, are in ordinal order). -/
theorem fifo_queue_is_deallocation_order (n seq0 t : Nat) (ops : List Op) :
    GInv (grun (ginit { blk := newBlock n seq0 none, now := t }) ops) :=
  grun_inv (ginit_inv n seq0 t) ops

/-- `autoAssign` reuses longest-free first: in every reachable state, every address it hands out
has been in the free queue longer (`G.before`: earlier step, ties by ordinal) than every address it
leaves in the queue, except addresses excluded by the caller's reservations. -/
theorem fifo_reuse (n seq0 t : Nat) (ops : List Op) (num : Nat) (h : Option Handle) (owner : Nat) (rsv : List Nat)
    (y x : Nat) :
    let g := grun (ginit { blk := newBlock n seq0 none, now := t }) ops
    y ∈ (g.st.blk.autoAssign num h owner rsv).2 →
    x ∈ (g.st.blk.autoAssign num h owner rsv).1.unalloc → rsv.contains x = false →
    g.before y x := by
  intro g hy hx hr
  have hi : GInv g := grun_inv (ginit_inv n seq0 t) ops
  rw [aa_result] at hy
  rw [aa_unalloc] at hx
  exact autoLoop_fifo g.before rsv num _ hi.sorted y hy x hx hr

/-- … and it hands out only addresses of the free queue that are not reserved, as many as asked
for while there are any (`autoLoop_perm`: taken ++ kept is a permutation of the queue). -/
theorem auto_assign_from_queue (b : Block) (num : Nat) (h : Option Handle) (owner : Nat) (rsv : List Nat) :
    ((b.autoAssign num h owner rsv).2 ++ (b.autoAssign num h owner rsv).1.unalloc).Perm b.unalloc ∧
    ∀ y ∈ (b.autoAssign num h owner rsv).2, rsv.contains y = false := by
  rw [aa_result, aa_unalloc]
  exact ⟨autoLoop_perm rsv num b.unalloc, autoLoop_taken_not_reserved rsv num b.unalloc⟩

/-- Which ordinals `releaseByHandle` selects: exactly the allocated ordinals whose attribute
carries a handle that sanitises to `h` (and, if a sequence number is given, whose stored sequence
number equals it). -/
theorem release_by_handle_selects {b : Block} {h : Handle} {seq : Option Nat} {o : Nat} :
    o ∈ b.relhOrds h seq ↔ o < b.n ∧ (∃ a x, b.attrAt o = some a ∧ a.handle = some x ∧ sanitize x = h) ∧
      (∀ s, seq = some s → s = b.getSeq o) := mem_relhOrds

/-- `releaseByHandle` frees exactly the selected addresses: a selected address is no longer live
(in cooldown since `now`, or deallocated), every other live address stays live with exactly the
same attribute, and the returned count is the number of selected addresses. -/
theorem release_by_handle_exact {b : Block} (hw : WF b) (cd : Int) (now : Nat) (h : Handle) (seq : Option Nat) :
    (∀ o ∈ b.relhOrds h seq, (b.releaseByHandle cd now h seq).1.attrAt o = none ∨
        (b.releaseByHandle cd now h seq).1.CoolingAt o now) ∧
    (∀ o a, o ∉ b.relhOrds h seq → b.LiveAt o a → (b.releaseByHandle cd now h seq).1.LiveAt o a) ∧
    (b.releaseByHandle cd now h seq).2 = (b.relhOrds h seq).length := by
  rcases relh_cases b cd now h seq with ⟨hi, hc⟩ | ⟨hn, hc⟩ | ⟨hne, hc⟩
  · have hn := relhOrds_nil_of_idxs_nil (seq := seq) hi
    rw [hc, hn]; exact ⟨by simp, fun o a _ hl => hl, rfl⟩
  · rw [hc, hn]; exact ⟨by simp, fun o a _ hl => gc_live hw.alen hl cd now, rfl⟩
  · rw [hc]
    have hwm := mc_WF hw now (b.relhOrds h seq) false (relhOrds_live hw)
    exact ⟨fun o ho => gc_cooling_or_free hwm.alen (mc_selected hw _ _ (relhOrds_live hw) ho) cd now,
      fun o a hno hl => gc_live hwm.alen (mc_live hw _ _ (relhOrds_live hw) hno hl) cd now, rfl⟩

/-- `SeqLt` (every stored per-address sequence number is below the block's) and `WF` are invariants
of every history in which clients follow the code's discipline: read + garbage collect, operate,
`SequenceNumber++`, write — or drop the in-memory copy (`cstep`); the block's sequence number never
decreases. -/
theorem client_discipline_invariant {s : St} (hw : WF s.blk) (h : s.blk.SeqLt) (cs : List (Int × Op × Bool)) :
    WF (crun s cs).blk ∧ (crun s cs).blk.SeqLt ∧ s.blk.seq ≤ (crun s cs).blk.seq :=
  crun_inv hw h cs

theorem aba_refused {b' : Block} {o v1 q : Nat} (hv : v1 < q) (hseq : b'.getSeq o = q) :
    v1 < b'.getSeq o ∧
    ∀ (cd' : Int) (now' : Nat) (hd : Handle),
      (b'.release cd' now' [⟨o, some v1, hd⟩]).1 = b' ∧ ∃ e, (b'.release cd' now' [⟨o, some v1, hd⟩]).2 = .err e :=
  ⟨hseq ▸ hv, fun cd' now' hd =>
    stale_seq_never_frees b' cd' now' _ ⟨o, some v1, hd⟩ v1 (by simp [dedupe]) rfl (by simp only []; omega)⟩

/-- ABA safety, auto-assign: take a sequence number `v1` stored for address `o` at some point,
let ANY client-discipline history happen (release of `o`, cooldown, garbage collection, …), and let
`o` then be handed out again by `autoAssign`. The new allocation carries a strictly larger sequence
number, so a release request still naming `v1` is refused and changes nothing. -/
theorem aba_stale_release_refused {s1 : St} (hw : WF s1.blk) (hlt : s1.blk.SeqLt) (o v1 : Nat)
    (htok : s1.blk.seqFor[o]? = some (some v1)) (cs : List (Int × Op × Bool)) (cd : Int) (now : Nat)
    (num : Nat) (h : Option Handle) (owner : Nat) (rsv : List Nat)
    (ho : o ∈ ((((crun s1 cs).blk.gc cd now).1).autoAssign num h owner rsv).2) :
    let b' := ((((crun s1 cs).blk.gc cd now).1).autoAssign num h owner rsv).1
    v1 < b'.getSeq o ∧
    ∀ (cd' : Int) (now' : Nat) (hd : Handle),
      (b'.release cd' now' [⟨o, some v1, hd⟩]).1 = b' ∧ ∃ e, (b'.release cd' now' [⟨o, some v1, hd⟩]).2 = .err e := by
  obtain ⟨hw2, _, hge⟩ := crun_inv hw hlt cs
  exact aba_refused (Nat.lt_of_lt_of_le (hlt o v1 htok) hge)
    (by rw [aa_getSeq (gc_WF cd now hw2) num h owner rsv o ho, gc_seq])

/-- ABA safety, `assign` of a specific address. -/
theorem aba_stale_release_refused_assign {s1 : St} (hw : WF s1.blk) (hlt : s1.blk.SeqLt) (o v1 : Nat)
    (htok : s1.blk.seqFor[o]? = some (some v1)) (cs : List (Int × Op × Bool)) (cd : Int) (now : Nat)
    (h : Option Handle) (owner : Nat)
    (hok : ((((crun s1 cs).blk.gc cd now).1).assign o h owner).2 = .ok) :
    let b' := ((((crun s1 cs).blk.gc cd now).1).assign o h owner).1
    v1 < b'.getSeq o ∧
    ∀ (cd' : Int) (now' : Nat) (hd : Handle),
      (b'.release cd' now' [⟨o, some v1, hd⟩]).1 = b' ∧ ∃ e, (b'.release cd' now' [⟨o, some v1, hd⟩]).2 = .err e := by
  obtain ⟨hw2, _, hge⟩ := crun_inv hw hlt cs
  exact aba_refused (Nat.lt_of_lt_of_le (hlt o v1 htok) hge)
    (by rw [assign_ok_getSeq (gc_WF cd now hw2) o h owner hok, gc_seq])

/-- a freshly created block satisfies `SeqLt` (no sequence number is stored yet) -/
theorem newBlock_seqLt (n seq0 : Nat) : (newBlock n seq0 none).SeqLt := by
  intro o v h
  simp only [newBlock, List.getElem?_replicate] at h
  split at h <;> cases h

/-- `empty()` gates every deletion of a block (releaseBlockAffinity, ReleaseIPs / ReleaseByHandle on a block
without affinity). A block it calls empty holds NO address in cooldown (in every reachable block a cooldown
attribute has no handle, `WF.cool`), so deleting it cannot discard a `ReleasedAt` stamp and let the address be
handed out again inside its cooldown by whoever claims the CIDR next. -/
theorem empty_has_no_cooling_address {b : Block} (hw : WF b) (he : b.isEmpty = true) (o r : Nat) : ¬ b.CoolingAt o r := by
  rintro ⟨a, ha, hr⟩
  obtain ⟨hd, hh, _⟩ := isEmpty_attr he o a ha
  have := hw.cool a (attrAt_mem ha) (by simp [hr])
  rw [this] at hh; cases hh

/-- … and every live address of an "empty" block belongs to the Windows reserved handle. -/
theorem empty_only_reserved_live {b : Block} (he : b.isEmpty = true) (o : Nat) (a : Attr) (hl : b.LiveAt o a) :
    ∃ hd, a.handle = some hd ∧ lowerH hd = windowsReservedHandle := isEmpty_attr he o a hl.1

-- non-vacuity: a fresh block is empty; a block with a cooling address is not (cooldown 5, released at t=0)
example : (newBlock 4 7 none).isEmpty = true := by decide
example : (run { blk := newBlock 4 7 none, now := 0 } [.auto 2 (some [97]) 2 [], .bump, .release 5 [⟨0, none, []⟩], .release 5 [⟨1, none, []⟩]]).blk.isEmpty = false := by decide

/-- Well-formedness is an invariant of every history from a freshly created block (so the
hypothesis `WF` of the theorems above is satisfied by every reachable block). -/
theorem reachable_WF (n seq0 t : Nat) (ops : List Op) : WF (run { blk := newBlock n seq0 none, now := t } ops).blk :=
  run_WF (newBlock_WF n seq0) ops

/-- a /30 block, two addresses auto-assigned to handle "a" (bytes [97]), sequence bumped -/
def exS : St := run { blk := newBlock 4 7 none, now := 0 } [.auto 2 (some [97]) 2 [], .bump]

example : exS.blk.LiveAt 0 ⟨some [97], 2, none⟩ := ⟨by decide, rfl⟩
example : exS.blk.getSeq 0 = 7 := by decide
-- stale sequence number (8 ≠ 7) is refused, right one accepted
example : (exS.blk.release 5 0 [⟨0, some 8, []⟩]).2 = .err (some .seq) := by decide
example : (exS.blk.release 5 0 [⟨0, some 7, [97]⟩]).2 = .ok [] [(0, [97])] := by decide
-- wrong handle refused
example : (exS.blk.release 5 0 [⟨0, none, [98]⟩]).2 = .err (some .handle) := by decide
-- double release: second one skips
example : ((exS.blk.release 5 0 [⟨0, none, []⟩]).1.release 5 1 [⟨0, none, []⟩]).2 = .ok [0] [] := by decide
-- cooldown: released at t=0 with cooldown 5; at t=4 address 0 is still unavailable, at t=5 it is back in the queue
example : (run exS [.release 5 [⟨0, none, []⟩], .tick 4, .gc 5]).blk.CoolingAt 0 0 := ⟨⟨none, 0, some 0⟩, by decide, rfl⟩
example : (run exS [.release 5 [⟨0, none, []⟩], .tick 5, .gc 5]).blk.unalloc = [2, 3, 0] := by decide
-- FIFO: 0 re-enters the queue behind 2 and 3
example : ((run exS [.release 5 [⟨0, none, []⟩], .tick 5, .gc 5]).blk.autoAssign 1 none 0 []).2 = [2] := by decide
-- release by handle selects both addresses of "a"
example : exS.blk.relhOrds [97] none = [0, 1] := by decide
example : (exS.blk.releaseByHandle 5 0 [97] none).2 = 2 := by decide

/-- Inside ONE garbage-collection pass the queue order is by ordinal,
not by `ReleasedAt`. Address 1 is released at t=0, address 0 at t=1; one pass at t=10 deallocates
both and queues 0 before 1, although 1 has been released (not: deallocated) for longer. Under
`fifo_reuse`'s notion (time of entering the free queue) the two are tied, and ties go by ordinal. -/
example : (run exS [.release 5 [⟨1, none, []⟩], .tick 1, .release 5 [⟨0, none, []⟩], .tick 9, .gc 5]).blk.unalloc
    = [2, 3, 0, 1] := by decide

-- ABA: address 0 allocated at seq 7, released, cooled down, re-allocated at seq 9; the old token 7 is refused
def exABA : St := crun { blk := newBlock 4 7 none, now := 0 }
  [(0, .auto 1 (some [97]) 2 [], true), (0, .release 0 [⟨0, some 7, []⟩], true), (0, .auto 4 (some [98]) 2 [], true)]
example : exABA.blk.getSeq 0 = 9 := by decide
example : (exABA.blk.release 0 0 [⟨0, some 7, []⟩]).2 = .err (some .seq) := by decide

end CalicoVerif.C21
