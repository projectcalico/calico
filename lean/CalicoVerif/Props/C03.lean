import CalicoVerif.Proofs.C03Dirty
/-!
C03 — Each local endpoint gets exactly its matching policies, correctly ordered.

Model: `CalicoVerif.Model.C03` (PolicySorter incl. both btrees, TierLess, PolKVLess,
ExtractPolicyMetadata, PolicyResolver incl. pendingPolicyUpdates / dirty set / Flush) and
`Model.C02.tierInfoToProto` (the ingress/egress split done by the EventSequencer).  Which endpoints a
policy matches is an input relation (the real ActiveRulesCalculator supplies it in the harness).

What is PROVED, for ALL histories of resolver inputs with flushes anywhere: `resolver_eq_spec` — after
any history followed by a flush in sync, the last update emitted for every local endpoint (re-emitted
by that flush or not) is the from-scratch list `IsSpec` for the current datastore state, and `IsSpec`
determines the list; `Flush` never hits the `Sorted()` panic; the ingress/egress split follows the
policy's types (`split_by_type`).  The theorems named `_partial` below are weaker statements (per emitted
update / sorter content).
The clause "only policies that apply to some local endpoint are sent" is the ActiveRulesCalculator's
(its OnPolicyActive/OnPolicyInactive calls towards the RuleScanner); the ARC is NOT modelled here
(its match relation is an input), so that clause has no Lean theorem: it is established by the
harness only (oracle signatures `inactive-policy-sent` / `active-policy-missing`, and the ARC's active
set is compared on every flush line with the set of policies that have a match in the recorded match
relation).  What Lean does prove on the resolver side: the sorter holds, and endpoints are sent, only
policies with a live match (`sorter_content_sound_partial` (i), `resolver_eq_spec`).
The exactness part was false of the code before commit c70bf97 (regression example at the end).
-/
namespace CalicoVerif.C03
open CalicoVerif.C02

/-- **`resolver_eq_spec` (the property, full strength).**  For ALL histories of resolver inputs
(datastore updates for endpoints / policies / tiers, status changes, the ActiveRulesCalculator's match
start/stop calls) with flushes at arbitrary points, whose policy keys have pairwise different
tie-break strings (`KeyU`, true of validated Calico names): after the history followed by a flush
with the resolver in sync, the LAST update emitted for EVERY local endpoint — whether that last flush
re-emitted it or not (dirty-set completeness) — carries the endpoint's current data and a tier list
`l` with `IsSpec ds all matched e l`, the from-scratch description w.r.t. the datastore tier resources
`ds = dsHist [] hist`, the policy metadata `all = polHistory [] hist`, the match relation
`matched = matchedHistory [] hist` and the endpoint table `epHistory [] hist` — all four plain folds of the
HISTORY, not fields of the resolver: tiers ascending (existing tiers
first, order, unset last, name) with the datastore tier's order / default action, no empty tier,
policies ascending (order, default last, name/namespace/kind), and a policy is listed — with its
current metadata, in the tier that metadata names — iff it matches the endpoint.  `IsSpec` determines
the list (`isSpec_determines_list`), so this list equals the one a freshly started resolver fed only the final
state emits.  An endpoint that does not exist has no update or a removal as its last update. -/
theorem resolver_eq_spec (K : PolicyKey → Prop) (hK : KeyU K) (hist : List RStep) (hin : HistIn K hist)
    (r : Resolver) (L : Last) (hr : runL {} (fun _ => none) (hist ++ [.flush]) = some (r, L)) (hsync : r.inSync = true)
    (e : EpKey) :
    match mget (epHistory [] hist) e with
    | none => L e = none ∨ L e = some none
    | some ep => ∃ l, L e = some (some ⟨ep, l⟩) ∧
        IsSpec (dsHist [] hist) (polHistory [] hist) (matchedHistory [] hist) e l := by
  obtain ⟨t1, t2, t3⟩ := (runL_folds _ hr).append_flush
  rw [← t1, ← t2, ← t3]
  exact upToDate_after_flush hK (DInv.init K) hist hin hr hsync e

/-- The resolver's internal policy table, match relation and endpoint table are exactly the folds of the history (`polHistory` = last policy update per key,
`matchedHistory` = started-and-not-stopped matches, `epHistory` = last endpoint update per key), so a
model that dropped or invented an update could not satisfy `resolver_eq_spec`. -/
theorem resolver_tables_are_history_folds (hist : List RStep) (r : Resolver) (L : Last)
    (hr : runL {} (fun _ => none) hist = some (r, L)) :
    r.allPolicies = polHistory [] hist ∧ r.matched = matchedHistory [] hist ∧ r.endpoints = epHistory [] hist :=
  have t := runL_folds hist hr
  ⟨t.allPolicies, t.matched, t.endpoints⟩

/-- no panic: the run of `resolver_eq_spec` always succeeds -/
theorem resolver_run_total (K : PolicyKey → Prop) (hK : KeyU K) (hist : List RStep) (hin : HistIn K hist) :
    ∃ r L, runL {} (fun _ => none) hist = some (r, L) :=
  runL_some SInv.init _ hist

/-- `IsSpec` is a complete description: two lists satisfying it for the same state are equal. -/
theorem isSpec_determines_list {ds all matched e} {l₁ l₂ : List TierInfo} (h1 : IsSpec ds all matched e l₁)
    (h2 : IsSpec ds all matched e l₂) : l₁ = l₂ :=
  h1.unique h2

/-- Weaker than `resolver_eq_spec` (see header): for every history, no panic and every emitted update is
`GoodUpdate`: ∃ a tier list sorted by `TierLess` whose tiers' policies are sorted by `PolKVLess`, of
which the endpoint's tier list is the `filterTiers` image w.r.t. the match relation at that flush. -/
theorem resolver_output_sorted_matching_partial (hist : List RStep) :
    ∃ r outs, runR {} hist = some (r, outs) ∧ ∀ o ∈ outs, ∀ c ∈ o.2, GoodUpdate o.1 c :=
  runR_spec SInv.init hist

/-- Soundness of the sorter's content, for ALL histories: every policy the PolicySorter holds
(i) currently matches at least one local endpoint, (ii) is stored with exactly the metadata (order,
flags, tier) of the policy as it is in the datastore now, (iii) in the tier that metadata names, and
(iv) in no other tier; and every policy waiting in `pendingPolicyUpdates` still matches an endpoint.
(This is the invariant that the code before /repo commit c70bf97 violated: (i) and (ii) failed for a
policy whose last match stopped while it was pending.)  The converse after an in-sync flush is
`sorter_content_exact_partial`. -/
theorem sorter_content_sound_partial (hist : List RStep) (r : Resolver)
    (outs : List (List (PolicyKey × EpKey) × List Call)) (hr : runR {} hist = some (r, outs)) :
    (∀ p n m, holdsIn r.sorter p n m → r.polHasMatch p = true ∧ mget r.allPolicies p = some m ∧ m.tier = n) ∧
    (∀ p n n' m m', holdsIn r.sorter p n m → holdsIn r.sorter p n' m' → n = n') ∧
    (∀ p, p ∈ r.pending → r.polHasMatch p = true) := by
  have := runR_content RInv.init hist hr
  exact ⟨this.held, this.uniq, this.pend⟩

/-- Exactness of the sorter's content after a flush in sync, for ALL histories: right after a `Flush`
executed while in sync, the set of policies held by the PolicySorter is EXACTLY the set of policies that
match some local endpoint and exist in the datastore (each with its current metadata, by
`sorter_content_sound_partial`).  `_partial` w.r.t. the property: it speaks of the sorter's content
only; the emitted lists are `emitted_lists_exact_partial`, `emitted_tier_attrs_partial` and, in full,
`resolver_eq_spec`. -/
theorem sorter_content_exact_partial (hist : List RStep) (r : Resolver)
    (outs : List (List (PolicyKey × EpKey) × List Call)) (hr : runR {} (hist ++ [.flush]) = some (r, outs))
    (hsync : ∀ r0 outs0, runR {} hist = some (r0, outs0) → r0.inSync = true) (p : PolicyKey) :
    (∃ n m, holdsIn r.sorter p n m) ↔ (r.polHasMatch p = true ∧ (mget r.allPolicies p).isSome) := by
  constructor
  · rintro ⟨n, m, hx⟩
    obtain ⟨a, b, _⟩ := (runR_content RInv.init _ hr).held p n m hx
    exact ⟨a, by simp [b]⟩
  · rintro ⟨a, b⟩
    obtain ⟨_, hl⟩ := runL_of_runR hr fun _ => none
    obtain ⟨r0, _, calls, h0, hf, _⟩ := runL_append_flush hist hl
    obtain ⟨outs0, h0⟩ := runR_of_runL h0
    exact (runR_content RInv.init hist h0).flush_held hf (hsync r0 outs0 h0) p a b

/-- **Exactly the matching policies, with their current metadata, in the tier that metadata names** —
for ALL histories: take any history whose policy keys have pairwise different tie-break strings
(`KeyU`; true of validated Calico names), let the resolver be in sync afterwards and flush.  Then for
every endpoint update `u` that flush emits for an endpoint `e`, and every policy `p` / metadata `m`:
`p` with `m` is listed in a tier of `u` named `m.tier`  ⟺  `p` currently matches `e` and `m` is the
metadata of `p` as it is in the datastore now.  Together with `goodUpdate_meaning` (tiers / policies
sorted, no empty tiers) and `split_by_type` this is the statement of C03 for the endpoints a flush
emits (tier attributes: `emitted_tier_attrs_partial`).  Gap to the full property (hence `_partial`):
nothing is said here about an endpoint that a flush does NOT re-emit; that dirty-set completeness is
part of `resolver_eq_spec`. -/
theorem emitted_lists_exact_partial (K : PolicyKey → Prop) (hK : KeyU K) (hist : List RStep) (hin : HistIn K hist)
    (r0 : Resolver) (outs0 : List (List (PolicyKey × EpKey) × List Call)) (h0 : runR {} hist = some (r0, outs0))
    (hsync : r0.inSync = true) (r' : Resolver) (calls : List Call) (hf : r0.flush = some (r', calls))
    (e : EpKey) (u : EpUpd) (hu : Call.endpointUpdate e (some u) ∈ calls) (p : PolicyKey) (m : PolMeta) :
    (∃ t' ∈ u.tiers, t'.name = m.tier ∧ ⟨p, m⟩ ∈ t'.policies) ↔
      ((p, e) ∈ r0.matched ∧ mget r0.allPolicies p = some m) := by
  obtain ⟨_, hl⟩ := runL_of_runR h0 fun _ => none
  have hd := runL_inv hK (DInv.init K) hist hin hl
  have hd' := hd.flush hK hf
  obtain ⟨_, _, rfl⟩ := mem_flush_calls hd.rinv.sinv hf hu
  have := emitted_exact hd'.rinv hd'.tc (hd.rinv.flush_held hf hsync) e p m
  rwa [flush_matched hf, flush_allPolicies hf] at this

/-- Tier attributes, for ALL histories: in every endpoint update emitted by a flush executed in sync,
a tier carries the order and default action of the datastore's tier resource of that name
(`dsHist [] hist` = the tier resources after the history); a tier that does not exist in the datastore
(deleted, or only named by a policy) is listed with no order and an empty default action.  With
`goodUpdate_meaning` this gives: existing tiers first, ascending datastore order, unset last, then name. -/
theorem emitted_tier_attrs_partial (hist : List RStep) (r0 : Resolver)
    (outs0 : List (List (PolicyKey × EpKey) × List Call)) (h0 : runR {} hist = some (r0, outs0))
    (hsync : r0.inSync = true) (r' : Resolver) (calls : List Call) (hf : r0.flush = some (r', calls))
    (e : EpKey) (u : EpUpd) (hu : Call.endpointUpdate e (some u) ∈ calls) (t' : TierInfo) (ht' : t' ∈ u.tiers) :
    match mget (dsHist [] hist) t'.name with
    | some (o, a) => t'.order = o ∧ t'.defaultAction = a
    | none => t'.order = none ∧ t'.defaultAction = "" := by
  have hfull := runR_content RInv.init hist h0
  have hta := runR_tiers SInv.init TierAttr.init hist h0
  exact emitted_tier_attrs hfull.sinv hta hf e u hu t' ht'

/-- Only matching policies, policies sorted, tiers sorted: the three clauses spelled out for one emitted update. -/
theorem goodUpdate_meaning {matched : List (PolicyKey × EpKey)} {e : EpKey} {u : EpUpd}
    (h : GoodUpdate matched (.endpointUpdate e (some u))) :
    -- only policies that match the endpoint are listed, and no listed tier is empty
    (∀ t ∈ u.tiers, t.policies ≠ [] ∧ ∀ kv ∈ t.policies, (kv.key, e) ∈ matched) ∧
    -- inside every tier the policies ascend under PolKVLess (order, unset last, then name/namespace/kind)
    (∀ t ∈ u.tiers, Sorted polKVLess t.policies) ∧
    -- the tiers are a subsequence of a TierLess-ascending tier list (valid first, order, unset last, name)
    (∃ ts : List TierInfo, Sorted tierLess (ts.map TierInfo.key) ∧ (u.tiers.map (·.name)).Sublist (ts.map (·.name)) ∧
      ∀ t' ∈ u.tiers, ∃ t ∈ ts, t'.name = t.name ∧ t'.order = t.order ∧ t'.defaultAction = t.defaultAction ∧
        t'.policies = t.policies.filter (fun kv => decide ((kv.key, e) ∈ matched))) := by
  obtain ⟨ts, h1, h2, h3⟩ := h
  rw [h3]
  -- every listed tier is what `filterTiers` makes of a tier of `ts`
  have back : ∀ t' ∈ filterTiers matched e ts, t'.policies ≠ [] ∧ ∃ t ∈ ts, keepMatching matched e t = t' :=
    fun _ => mem_filterTiers.1
  refine ⟨fun t' ht' => ?_, fun t' ht' => ?_, ts, h1, ?_, fun t' ht' => ?_⟩
  · obtain ⟨hne, t, _, rfl⟩ := back t' ht'
    exact ⟨hne, fun kv hkv => by simpa using (List.mem_filter.1 hkv).2⟩
  · obtain ⟨_, t, ht, rfl⟩ := back t' ht'
    exact List.Pairwise.filter _ (h2 t ht)
  · rw [filterTiers_eq]
    exact (List.filter_sublist.map _).trans (by rw [List.map_map]; exact List.Sublist.refl _)
  · obtain ⟨_, t, ht, rfl⟩ := back t' ht'
    exact ⟨t, ht, rfl, rfl, rfl, rfl⟩

def isNormal (p : PolKV) : Bool := !p.val.doNotTrack && !p.val.preDNAT
def isUntracked (p : PolKV) : Bool := p.val.doNotTrack
def isPreDNAT (p : PolKV) : Bool := !p.val.doNotTrack && p.val.preDNAT
def isForward (p : PolKV) : Bool := !p.val.doNotTrack && !p.val.preDNAT && p.val.applyOnForward

def keysWhere (ps : List PolKV) (f : PolKV → Bool) : List PolicyKey := (ps.filter f).map (·.key)

theorem keysWhere_cons (p : PolKV) (ps : List PolKV) (f : PolKV → Bool) :
    keysWhere (p :: ps) f = (if f p then [p.key] else []) ++ keysWhere ps f := by
  unfold keysWhere; rw [List.filter_cons]; split <;> rfl

theorem addPolicyToTierInfo_eq (pol : PolKV) (ti : ProtoTier) (eg : Bool) :
    addPolicyToTierInfo pol ti eg =
      { ti with ingress := ti.ingress ++ (if pol.val.ingress then [pol.key] else []),
                egress := ti.egress ++ (if eg && pol.val.egress then [pol.key] else []) } := by
  unfold addPolicyToTierInfo
  cases pol.val.ingress <;> cases (eg && pol.val.egress) <;> simp

theorem splitPolicies_spec (ps : List PolKV) (s : Split) :
    let r := splitPolicies ps s
    r.normal = { s.normal with ingress := s.normal.ingress ++ keysWhere ps (fun p => isNormal p && p.val.ingress),
                               egress := s.normal.egress ++ keysWhere ps (fun p => isNormal p && p.val.egress) } ∧
    r.untracked = { s.untracked with ingress := s.untracked.ingress ++ keysWhere ps (fun p => isUntracked p && p.val.ingress),
                                     egress := s.untracked.egress ++ keysWhere ps (fun p => isUntracked p && p.val.egress) } ∧
    r.preDNAT = { s.preDNAT with ingress := s.preDNAT.ingress ++ keysWhere ps (fun p => isPreDNAT p && p.val.ingress) } ∧
    r.forward = { s.forward with ingress := s.forward.ingress ++ keysWhere ps (fun p => isForward p && p.val.ingress),
                                 egress := s.forward.egress ++ keysWhere ps (fun p => isForward p && p.val.egress) } := by
  induction ps generalizing s with
  | nil => simp [splitPolicies, keysWhere]
  | cons p t ih =>
    simp only [splitPolicies, keysWhere_cons, isNormal, isUntracked, isPreDNAT, isForward]
    cases hu : p.val.doNotTrack
    · cases hd : p.val.preDNAT
      · cases hf : p.val.applyOnForward <;>
          simp [ih, addPolicyToTierInfo_eq, isNormal, isUntracked, isPreDNAT, isForward]
      · simp [ih, addPolicyToTierInfo_eq, isNormal, isUntracked, isPreDNAT, isForward]
    · simp [ih, addPolicyToTierInfo_eq, isNormal, isUntracked, isPreDNAT, isForward]

def optTier (t : ProtoTier) : List ProtoTier := if t.nonEmpty then [t] else []

/-- `tierInfoToProtoTierInfo`: per tier and category (normal / untracked / pre-DNAT / forward) the
ingress list is exactly the category's policies that govern ingress, in order; the egress list those
that govern egress (never for pre-DNAT); a tier is listed in a category iff one list is non-empty. -/
theorem split_by_type (ts : List TierInfo) :
    (tierInfoToProto ts).normal = ts.flatMap (fun t => optTier ⟨t.name, t.defaultAction,
      keysWhere t.policies (fun p => isNormal p && p.val.ingress), keysWhere t.policies (fun p => isNormal p && p.val.egress)⟩) ∧
    (tierInfoToProto ts).untracked = ts.flatMap (fun t => optTier ⟨t.name, "Pass",
      keysWhere t.policies (fun p => isUntracked p && p.val.ingress), keysWhere t.policies (fun p => isUntracked p && p.val.egress)⟩) ∧
    (tierInfoToProto ts).preDNAT = ts.flatMap (fun t => optTier ⟨t.name, "Pass",
      keysWhere t.policies (fun p => isPreDNAT p && p.val.ingress), []⟩) ∧
    (tierInfoToProto ts).forward = ts.flatMap (fun t => optTier ⟨t.name, t.defaultAction,
      keysWhere t.policies (fun p => isForward p && p.val.ingress), keysWhere t.policies (fun p => isForward p && p.val.egress)⟩) := by
  induction ts with
  | nil => simp [tierInfoToProto]
  | cons t ts ih =>
    obtain ⟨i1, i2, i3, i4⟩ := ih
    obtain ⟨s1, s2, s3, s4⟩ := splitPolicies_spec t.policies
      { normal := ⟨t.name, t.defaultAction, [], []⟩, untracked := ⟨t.name, "Pass", [], []⟩,
        preDNAT := ⟨t.name, "Pass", [], []⟩, forward := ⟨t.name, t.defaultAction, [], []⟩ }
    simp only [tierInfoToProto, List.flatMap_cons, i1, i2, i3, i4, s1, s2, s3, s4, List.nil_append, optTier]
    simp

/-- Both comparators are strict weak orders (what google/btree needs to behave like a sorted set). -/
theorem comparators_strict_weak : SWO tierLess ∧ SWO polKVLess := ⟨swo_tierLess, swo_polKVLess⟩

/-- The PolicySorter keeps both btrees sorted and every key of the tier btree resolvable in the tier
map, whatever sequence of policy / tier updates it sees. -/
theorem sorter_invariant (s : Sorter) (h : SInv s) :
    (∀ k m, SInv (s.updatePolicy k m).1) ∧ (∀ n v, SInv (s.onTierUpdate n v).1) ∧
    ∃ ts, s.sortedOut = some ts ∧ ts.map TierInfo.key = s.sortedTiers ∧ ∀ t ∈ ts, Sorted polKVLess t.policies :=
  ⟨fun k m => h.updatePolicy k m, fun n v => h.onTierUpdate n v, _, sortedOut_eq h, outTiers_keys h, outTiers_policies_sorted h⟩

/-- `ExtractPolicyMetadata`: no Types = ingress and egress; otherwise exactly the listed ones
(case-insensitively); an empty tier name means the default tier. -/
theorem extract_types (p : PolicyIn) :
    ((extractPolicyMetadata p).ingress = true ↔ (p.types = [] ∨ ∃ t ∈ p.types, equalFoldAscii t "ingress" = true)) ∧
    ((extractPolicyMetadata p).egress = true ↔ (p.types = [] ∨ ∃ t ∈ p.types, equalFoldAscii t "egress" = true)) ∧
    (extractPolicyMetadata p).order = p.order ∧
    (extractPolicyMetadata p).tier = (if p.tier = "" then "default" else p.tier) := by
  simp [extractPolicyMetadata, List.isEmpty_iff]

private def P : PolicyKey := ⟨"p", "", "gnp"⟩
private def Q : PolicyKey := ⟨"q", "ns", "np"⟩
private def R : PolicyKey := ⟨"r", "", "gnp"⟩
private def E : EpKey := .wep "e"

/-- three tiers (equal orders, an unset order), three matching policies (an unset order, an untracked
one) and one non-matching policy: the emitted list is t0 (order 1, name before t1), then t1 with q
(order 10) before p (default order); the tier of the non-matching policy is not listed. -/
example : (runR {} [.ev (.status true),
    .ev (.tier "t1" (some (some 1, "Deny"))), .ev (.tier "t2" (some (none, "Pass"))), .ev (.tier "t0" (some (some 1, "Pass"))),
    .ev (.endpoint E (some ⟨"x", []⟩)),
    .ev (.matchStarted P E), .ev (.policy P (some ⟨"t1", none, false, false, false, []⟩)),
    .ev (.matchStarted Q E), .ev (.policy Q (some ⟨"t1", some 10, true, false, false, []⟩)),
    .ev (.matchStarted R E), .ev (.policy R (some ⟨"t0", some 10, false, false, false, []⟩)),
    .ev (.policy ⟨"z", "", "gnp"⟩ (some ⟨"t2", some 1, false, false, false, []⟩)),
    .flush]).map (fun x => x.2.map (·.2)) =
  some [[.endpointUpdate E (some ⟨⟨"x", []⟩,
    [⟨"t0", some 1, "Pass", true, [⟨R, ⟨some 10, false, false, false, true, true, "t0"⟩⟩]⟩,
     ⟨"t1", some 1, "Deny", true, [⟨Q, ⟨some 10, true, false, false, true, true, "t1"⟩⟩,
                                    ⟨P, ⟨none, false, false, false, true, true, "t1"⟩⟩]⟩]⟩)]] := by rfl

/-- the key-universe hypothesis of `emitted_lists_exact_partial` is satisfiable: the three keys above
(equal names would need different namespaces/kinds) have pairwise different tie-break strings -/
example : KeyU (fun k => k = P ∨ k = Q ∨ k = R) := by
  constructor
  rintro a b (rfl | rfl | rfl) (rfl | rfl | rfl) h <;> first | rfl | (exfalso; revert h; decide)

/-- `resolver_eq_spec` speaks about endpoints the last flush did NOT re-emit: here the second flush
re-emits nothing for `e` (an unrelated, non-matching policy changed), and the last update of `e` is still
the one from the first flush. -/
example : (runL {} (fun _ => none) [.ev (.status true), .ev (.tier "t1" (some (some 1, "Deny"))),
    .ev (.endpoint E (some ⟨"x", []⟩)),
    .ev (.matchStarted P E), .ev (.policy P (some ⟨"t1", none, false, false, false, []⟩)), .flush,
    .ev (.policy Q (some ⟨"t1", some 3, false, false, false, []⟩)), .flush]).map (fun x => x.2 E) =
  some (some (some ⟨⟨"x", []⟩, [⟨"t1", some 1, "Deny", true, [⟨P, ⟨none, false, false, false, true, true, "t1"⟩⟩]⟩]⟩)) := by rfl

/-- Regression for the defect fixed in /repo commit c70bf97 ("drop pending policy update when the
policy's last match stops"): a policy matches and stops matching before the first flush, is then
changed (other tier, other order, no longer untracked) while unmatched, and matches again.  The model
of the repaired code emits it with its CURRENT metadata (tier t1, order 5).  With the line
`pending := sdel p r.pending` removed from `Resolver.step (.matchStopped …)` — the code before the
fix — the same history emits the STALE metadata (tier t2, order 10, untracked); the harness oracle
reports that on the real code with signature `stale-metadata-unmatched-pending`. -/
example : (runR {} [.ev (.tier "t1" (some (some 1, "Deny"))), .ev (.tier "t2" (some (some 2, "Pass"))),
    .ev (.endpoint E (some ⟨"x", []⟩)),
    .ev (.matchStarted P E), .ev (.policy P (some ⟨"t2", some 10, true, false, false, []⟩)),
    .ev (.matchStopped P E),
    .ev (.status true), .flush,
    .ev (.policy P (some ⟨"t1", some 5, false, false, false, []⟩)),
    .ev (.matchStarted P E), .flush]).map (fun x => x.2.map (·.2)) =
  some [[.endpointUpdate E (some ⟨⟨"x", []⟩, []⟩)],
        [.endpointUpdate E (some ⟨⟨"x", []⟩,
          [⟨"t1", some 1, "Deny", true, [⟨P, ⟨some 5, false, false, false, true, true, "t1"⟩⟩]⟩]⟩)]] := by rfl

end CalicoVerif.C03
