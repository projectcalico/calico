import CalicoVerif.Proofs.C19
/-!
C19 — IPAM never gives one address to two live allocations.

The theorems quantify over ALL event sequences `evs` of the model's transition
function `Cas.step` started from the empty store: any number of client threads,
any interleaving of their datastore calls, any injected CAS conflict / datastore
error, and crashes at any call (a crashed thread contributes no further events;
its ghost tokens are simply never spent).  The correspondence run checks that
every write the REAL ipamClient issues is an instance of `Cas.step` (same
outcome, same abstract value after).
-/
namespace CalicoVerif.C19
open CalicoVerif.Cas

/-- Every block ever stored is well formed: `Unallocated` has no duplicates and is
exactly the set of free ordinals.  (This is what `autoAssign`, which does not
look at `Allocations`, relies on.) -/
theorem wf_invariant (r0 nb : Nat) (evs : List Ev) (s : St)
    (h : run (St.init r0 nb) evs = some s) : AllWF s :=
  allWF_run (allWF_init r0 nb) h

/-- No double allocation: in every reachable state, an allocating write to a block
(one `autoAssign`/`assign` read-modify-write, whatever garbage collection it
performs) only takes ordinals that are NOT live in the stored value it replaces —
so an address recorded for one live owner is never recorded for a second one. -/
theorem no_double_alloc (r0 nb : Nat) (evs : List Ev) (s : St)
    (h : run (St.init r0 nb) evs = some s)
    (b rv : Nat) (v : Blk) (hb : s.blk b = some (rv, v))
    (g1 g2 : List Nat) (op : BOp) (res : BRes) (hr : rmw g1 op g2 v = some res)
    (o : Nat) (ho : o ∈ res.got) : ∀ h', v.slots[o]? ≠ some (Slot.live h') := by
  intro h' hc
  rcases (rmw_got (wf_invariant r0 nb evs s h b rv v hb) hr ho).was with h1 | h1 <;>
    (rw [h1] at hc; cases hc)

/-- non-vacuity: a reachable state with a block and an allocating write on it. -/
example : ∃ s, run (St.init 100 2)
    [.call { t := 1, fault := .none, verb := .create, key := .blk 0, rev := none, pl := .blkCreate 0 4 },
     .call { t := 1, fault := .none, verb := .create, key := .hdl 1, rev := none, pl := .hInc 0 2 },
     .call { t := 1, fault := .none, verb := .update, key := .blk 0, rev := some 101,
             pl := .blkRmw [] (.assign 1 2 []) [] }] = some s ∧
    (s.blk 0).map (·.2.slots) = some [.live 1, .live 1, .free, .free] := by
  refine ⟨_, rfl, ?_⟩
  decide

/-- Handle records agree with block records (code after repairs 9cd85f1, 2a2a7ee, e889066):
in EVERY reachable state, for every real handle and block, the handle's count EQUALS the
number of the block's addresses live for that handle plus the outstanding tokens —
increments whose block write has not happened (yet, or ever: crash) and releases whose
decrement has not happened. -/
theorem handle_block_agree (r0 nb : Nat) (evs : List Ev) (s : St)
    (h : run (St.init r0 nb) evs = some s) : HEq s :=
  (inv_run (inv_init r0 nb) h).2

/-- Quiescent agreement at full strength: with no token outstanding (nothing in flight,
nothing abandoned by a crash) the handle count of every block equals the block's records. -/
theorem handle_block_agree_quiescent (r0 nb : Nat) (evs : List Ev) (s : St)
    (h : run (St.init r0 nb) evs = some s) (hq : s.creds = []) :
    ∀ h' b, h' ≠ 0 → hcount s h' b = liveAt s b h' := by
  intro h' b hh
  have := handle_block_agree r0 nb evs s h h' b hh
  rw [hq] at this
  simpa [credTot] using this

/-- Mid-operation statement: at every point of every execution (operations in flight,
crashed threads) handle counts never under-count block records. -/
theorem handle_ge_block (r0 nb : Nat) (evs : List Ev) (s : St)
    (h : run (St.init r0 nb) evs = some s) :
    ∀ h' b, h' ≠ 0 → liveAt s b h' + credTot h' b s.creds ≤ hcount s h' b := by
  intro h' b hh
  have := handle_block_agree r0 nb evs s h h' b hh
  omega

def w (t : Nat) (verb : Verb) (key : Key) (rev : Option Nat) (pl : Payload) : Ev :=
  .call { t := t, fault := .none, verb := verb, key := key, rev := rev, pl := pl }

/-- Why `handle_block_agree_quiescent` needs "no token outstanding": a client that stops
between `incrementHandle` and its block write (crash) leaves its token unspent and the
handle over-counting the block forever.  (Until repair 2a2a7ee the real AssignIP did the
same on every CAS-conflict retry, and until e889066 releaseByHandle decremented without a
token; `corpus/C19/assignip-retry.ops` and `stale-delete.ops` are the regression guards.) -/
def abandonedTrace : List Ev :=
  [w 1 .create (.blk 0) none (.blkCreate 0 2),
   .call { t := 2, fault := .crashAfter, verb := .create, key := .hdl 3, rev := none, pl := .hInc 0 1 }]

theorem abandoned_increment_overcounts :
    ∃ s, run (St.init 100 1) abandonedTrace = some s ∧
      hcount s 3 0 = 1 ∧ liveAt s 0 3 = 0 ∧ credTot 3 0 s.creds = 1 :=
  ⟨_, rfl, by decide, by decide, by decide⟩

/-- (The admissibility guard of the model's `endOp` event unfolded: the driver accepts the
addresses a real operation returns only if they are in the caller's `got` list.)  Every
address returned to a caller is in the caller's `got` list … -/
theorem returned_is_recorded_partial (s s' : St) (t : Nat) (addrs : List (Nat × Nat))
    (h : step s (.endOp t addrs) = some s') : ∀ a ∈ addrs, a ∈ s.got t := by
  simp only [step] at h
  split at h
  · rename_i hc
    simp only [List.all_eq_true, List.contains_eq_mem, decide_eq_true_eq] at hc
    exact hc
  · cases h

/-- … and `got` grows only by the caller's own successful compare-and-swap on that block —
an allocating read-modify-write `op` carrying the caller's handle `opHandle op` — which
stored the address as live FOR THAT HANDLE: "an address is returned only after the CAS
that records it for the caller's handle succeeded", at every step of every reachable
execution. -/
theorem recorded_by_own_cas (r0 nb : Nat) (evs : List Ev) (s s' : St) (e : Ev)
    (hr : run (St.init r0 nb) evs = some s) (h : step s e = some s')
    (t b o : Nat) (hin : (b, o) ∈ s'.got t) (hnot : (b, o) ∉ s.got t) :
    ∃ c, e = Ev.call c ∧ c.t = t ∧ c.key = Key.blk b ∧
      casOutcome (s.curRev c.key) c.verb c.rev c.fault = Outcome.ok ∧
      ∃ g1 op g2 rv v, c.pl = Payload.blkRmw g1 op g2 ∧ s'.blk b = some (rv, v) ∧
        v.slots[o]? = some (Slot.live (opHandle op)) := by
  obtain ⟨c, g1, op, g2, v, he, own⟩ :=
    got_grows_only_by_own_cas (wf_invariant r0 nb evs s hr) h hin hnot
  exact ⟨c, he, own.thread, own.key, own.ok, g1, op, g2, _, v, own.pl, own.stored, own.live⟩

end CalicoVerif.C19
