import CalicoVerif.Proofs.C39
import CalicoVerif.Proofs.CoreFacts
/-!
C39 — Overlapping IP pools resolve to one allocatable pool per address.

Every theorem is stated for an ARBITRARY configuration (`pools`: any list of pools with
any conditions, finalizers, deletion marks, creation times; `blocks`: any set of blocks),
which covers every state reachable by any history of creations, disablings, deletions and
block changes (and states left behind by other writers).  `verdicts pools` is the decision
taken for every pool by one `reconcileConditions` pass, `reconcile blocks pools` the pools
after `reconcile()` and the API server's removal of finalizer-less deleted objects.
`overlapP` is plain prefix arithmetic (same family, one CIDR covers the other).
-/
namespace CalicoVerif.C39
open CalicoVerif.C36

/-- **(1) No two allocatable pools overlap.**  After a reconcile of ANY configuration, any
two pools whose `Allocatable` condition is True have disjoint CIDRs. -/
theorem active_pairwise_disjoint (pools : List Pool) (hw : ∀ p ∈ pools, p.WF) (blocks : List (Bool × Pfx)) :
    (reconcile blocks pools).Pairwise
      (fun a b => a.allocTrue = true → b.allocTrue = true → overlapP a b = false) := by
  unfold reconcile gc reconcileConditions
  refine List.Pairwise.sublist List.filter_sublist ?_
  rw [List.pairwise_map, List.pairwise_map]
  refine (verdicts_pairwise hw).imp_of_mem ?_
  intro a b ha hb hR hta htb
  rw [← passPool_none, ← passPool_none, overlapP_congr (passPool_cidr ..) (passPool_cidr ..)]
  -- `reconcileFinalizer` keeps the condition; a True condition comes from `active` or from a skipped pool
  rw [reconcileFinalizer_eq] at hta htb
  rcases (applyVerdict_allocTrue ..).1 hta with va | ⟨va, _⟩
  · rcases (applyVerdict_allocTrue ..).1 htb with vb | ⟨vb, _⟩
    · exact hR (Or.inl va) vb
    · exact overlapP_none_right _ ((verdict_skipped_iff hw hb).1 vb)
  · exact overlapP_none_left _ ((verdict_skipped_iff hw ha).1 va)

/-- **(2) An already-allocatable pool is never displaced by a newer overlapping pool.**
If a pool that was allocatable (Allocatable=True, not being deleted) loses the verdict
`active` to an overlap, the pool it overlaps is itself an already-allocatable pool that
sorts before it (older creation time, or same time and smaller name) and stays active —
never a new, disabled-by-overlap or terminating pool, never a younger one. -/
theorem incumbent_not_displaced (pools : List Pool) (hw : ∀ p ∈ pools, p.WF) (p : Pool)
    (hcat : p.category = 0) (hov : (p, Verdict.overlap) ∈ verdicts pools) :
    ∃ q, (q, Verdict.active) ∈ verdicts pools ∧ q.category = 0 ∧ q.le p = true ∧ overlapP q p = true := by
  rw [verdicts_eq_spec hw] at hov ⊢
  obtain ⟨q, h1, h2, h3⟩ := loopSpec_overlap_witness (sortPools pools) [] (sortPools_sorted pools)
    (fun s hs => nomatch hs) (p, .overlap) hov rfl
  have hq0 : q.category = 0 := by
    have := Pool.category_le_of_le h2
    simp only at this
    omega
  rcases h3 with h3 | h3 | h3
  · cases h3
  · exact ⟨q, h3, hq0, h2, h1⟩
  · -- a terminating pool is being deleted, so it is not in category 0
    obtain ⟨_, _, S, _, e, _⟩ := mem_loopSpec _ _ _ h3
    have := ((verdictOf_terminating_iff S q).1 e.symm).2.2
    rw [((category_zero_iff q).1 hq0).2] at this
    cases this

/-- **(2') In a consistent configuration every incumbent stays allocatable**: if no OTHER
already-allocatable pool overlaps `p`, then `p` is not judged overlapping. -/
theorem incumbent_stays (pools : List Pool) (hw : ∀ p ∈ pools, p.WF) (hnd : pools.Nodup) (p : Pool)
    (hcat : p.category = 0)
    (hcons : ∀ q ∈ pools, q.category = 0 → overlapP q p = true → q = p) :
    (p, Verdict.overlap) ∉ verdicts pools := by
  intro hov
  obtain ⟨q, hq, hq0, _, hqo⟩ := incumbent_not_displaced pools hw p hcat hov
  have e := hcons q (mem_of_mem_verdicts hw hq) hq0 hqo
  subst e
  -- `q` would occur twice in the verdicts, with two different verdicts
  have hnd' : ((verdicts pools).map (·.1)).Nodup := by
    rw [verdicts_eq_spec hw, loopSpec_map_fst]
    exact (List.mergeSort_perm pools Pool.le).nodup_iff.2 hnd
  rw [List.nodup_iff_pairwise_ne, List.pairwise_map] at hnd'
  rcases pairwise_mem_or hnd' hq hov with e | e | e
  · cases e
  · exact e rfl
  · exact e rfl

/-- **(2'') An allocatable pool stays allocatable.**  In any configuration whose
Allocatable=True pools are pairwise disjoint (which every reconcile establishes, theorem (1),
and every event of a history preserves, `history_keeps_true_disjoint`), a pool that is
allocatable, not being deleted, not administratively disabled and has a valid CIDR is judged
`active` again — whatever other pools (newer, older, overlapping, terminating) exist. -/
theorem allocatable_stays_allocatable (pools : List Pool) (hw : ∀ p ∈ pools, p.WF)
    (hJ : TrueDisjoint pools) (p : Pool) (hp : p ∈ pools) (hcat : p.category = 0)
    (hd : p.disabled = false) (hc : p.cidr ≠ none) : (p, Verdict.active) ∈ verdicts pools := by
  obtain ⟨v, hv⟩ := mem_verdicts_of_mem hw hp
  rwa [← verdicts_incumbents hw hJ.effDisjoint hv hcat hd hc]

/-- Events of a history in the sense of the property: everything except writing the `Allocatable` condition
behind the controller's back, and except passes in which a write fails. -/
def Event.Benign : Event → Prop
  | .setCond _ _ => False
  | .reconcileF _ _ => False   -- passes with write failures: see `pass_never_creates_overlap` instead
  | .create _ c _ => match c with
    | none => True
    | some (v6, c) => c.WF (width v6)
  | _ => True

def runEvents (s : State) (es : List Event) : State := es.foldl State.step s

theorem step_invariant (s : State) (hw : ∀ p ∈ s.pools, p.WF) (hJ : TrueDisjoint s.pools) (e : Event)
    (he : e.Benign) : (∀ p ∈ (s.step e).pools, p.WF) ∧ TrueDisjoint (s.step e).pools := by
  have hmap : ∀ (n : Nat) (f : Pool → Pool), (∀ p, (f p).cond = p.cond ∧ (f p).cidr = p.cidr) →
      (∀ p ∈ updPool s.pools n f, p.WF) ∧ TrueDisjoint (updPool s.pools n f) := by
    intro n f hf
    have hg : ∀ p, (if p.name = n then f p else p).cond = p.cond ∧ (if p.name = n then f p else p).cidr = p.cidr := by
      intro p; split
      · exact hf p
      · exact ⟨rfl, rfl⟩
    refine ⟨fun p hp => ?_, trueDisjoint_map _ hg hJ⟩
    obtain ⟨q, hq, rfl⟩ := List.mem_map.1 hp
    have := hw q hq
    unfold Pool.WF at this ⊢
    rw [(hg q).2]; exact this
  have hgc : ∀ l : List Pool, ((∀ p ∈ l, p.WF) ∧ TrueDisjoint l) → (∀ p ∈ gc l, p.WF) ∧ TrueDisjoint (gc l) :=
    fun l h => ⟨fun p hp => h.1 p (List.mem_filter.1 hp).1, trueDisjoint_gc h.2⟩
  cases e with
  | create n c t =>
    simp only [State.step]
    split
    · exact ⟨hw, hJ⟩
    · refine ⟨fun p hp => ?_, ?_⟩
      · rcases List.mem_append.1 hp with hp | hp
        · exact hw p hp
        · rw [List.mem_singleton.1 hp]
          unfold Pool.WF
          cases c with
          | none => trivial
          | some fc => exact he
      · unfold TrueDisjoint
        rw [List.pairwise_append]
        refine ⟨hJ, List.pairwise_singleton .., fun a _ b hb _ hbt => ?_⟩
        rw [List.mem_singleton.1 hb] at hbt
        simp [Pool.allocTrue] at hbt
  | setDisabled n b => exact hmap n _ (fun p => ⟨rfl, rfl⟩)
  | delete n => exact hgc _ (hmap n _ (fun p => ⟨rfl, rfl⟩))
  | addBlock b =>
    simp only [State.step]
    split <;> exact ⟨hw, hJ⟩
  | delBlock b => exact ⟨hw, hJ⟩
  | reconcile =>
    refine ⟨fun p hp => ?_, active_pairwise_disjoint s.pools hw s.blocks⟩
    obtain ⟨q, hq, e, _⟩ := reconcile_origin hw hp
    have := hw q hq
    unfold Pool.WF at this ⊢
    rw [e]; exact this
  | setCond n c => exact absurd he id
  | reconcileF fs ff => exact absurd he id
  | setFin n b => exact hgc _ (hmap n _ (fun p => ⟨rfl, rfl⟩))

/-- **Histories.**  Starting from any state whose True pools are disjoint (in particular the
empty cluster) every history of pool creations, disablings/enablings, delete requests, block
additions/removals, finalizer edits and reconciles — everything except another writer forging
the `Allocatable` condition and passes in which an API write fails (`reconcileF`: a failed status write can leave
a disabled pool True beside a new overlapping one; `pass_never_creates_overlap` is what holds of those) — keeps
them disjoint (and CIDRs well formed). -/
theorem history_keeps_true_disjoint (es : List Event) (s : State) (hw : ∀ p ∈ s.pools, p.WF)
    (hJ : TrueDisjoint s.pools) (he : ∀ e ∈ es, e.Benign) :
    (∀ p ∈ (runEvents s es).pools, p.WF) ∧ TrueDisjoint (runEvents s es).pools :=
  List.foldlRecOn (motive := fun s => (∀ p ∈ s.pools, p.WF) ∧ TrueDisjoint s.pools) es State.step ⟨hw, hJ⟩
    fun s h e hm => step_invariant s h.1 h.2 e (he e hm)

/-- **(2) over histories**: after ANY such history from the empty cluster, at the next
reconcile every allocatable, non-disabled pool that is not being deleted is kept active. -/
theorem never_displaced_over_history (es : List Event) (he : ∀ e ∈ es, e.Benign) (p : Pool)
    (hp : p ∈ (runEvents ⟨[], []⟩ es).pools) (hcat : p.category = 0) (hd : p.disabled = false)
    (hc : p.cidr ≠ none) : (p, Verdict.active) ∈ verdicts (runEvents ⟨[], []⟩ es).pools := by
  have h := history_keeps_true_disjoint es ⟨[], []⟩ (fun p hp => nomatch hp) List.Pairwise.nil he
  exact allocatable_stays_allocatable _ h.1 h.2 p hp hcat hd hc

/-- **(3) A terminating pool keeps masking overlapping pools until it is gone.**  While a
pool with a deletion timestamp (and not administratively disabled — a disabled pool never
masks, by design) is still present, no overlapping pool that was not already allocatable
(new, or previously disabled by overlap) becomes allocatable. -/
theorem terminating_masks (pools : List Pool) (hw : ∀ p ∈ pools, p.WF) (t p : Pool)
    (ht : t ∈ pools) (htd : t.deleting = true) (htn : t.disabled = false)
    (hpc : 2 ≤ p.category) (hov : overlapP t p = true) :
    (p, Verdict.active) ∉ verdicts pools := by
  intro hp
  obtain ⟨v, hv⟩ := mem_verdicts_of_mem hw ht
  have htc : t.cidr ≠ none := fun e => by rw [overlapP_none_left p e] at hov; cases hov
  obtain rfl : v = .terminating := (verdict_terminating_iff hw hv).2 ⟨htc, htn, htd⟩
  have htcat : t.category ≤ 1 := by unfold Pool.category; rw [htd]; simp
  -- `t` is inserted before `p` or sorts after it
  rcases pairwise_mem_or ((verdicts_pairwise hw).and (verdicts_sorted hw)) hv hp with e | e | e
  · cases e
  · rw [e.1 (Or.inr rfl) rfl] at hov; cases hov
  · have := Pool.category_le_of_le e.2
    simp only at this
    omega

/-! `reconcileF F blocks pools`: one pass in which the `UpdateStatus` of the pools in `F.status`
and the finalizer `Update` of the pools in `F.fin` fail (object unchanged, pass continues, as
the code does).  The conditions in the API are what IPAM reads, so the clauses are stated on
the API objects after the pass, for EVERY failure plan `F`. -/

/-- With no failing write `reconcileF` is `reconcile` (the theorems above are the case `F = none`). -/
theorem reconcileF_none (blocks : List (Bool × Pfx)) (pools : List Pool) :
    reconcileF Fails.none blocks pools = reconcile blocks pools := by
  unfold reconcileF reconcile reconcileConditions
  rw [List.map_map]
  congr 1
  apply List.map_congr_left
  intro pv _
  exact passPool_none blocks pv.1 pv.2

/-- **(any failures) Only pools judged active are ever turned Allocatable=True.** -/
theorem only_active_turn_true (F : Fails) (blocks : List (Bool × Pfx)) (p : Pool) (v : Verdict)
    (h : (passPool F blocks p v).allocTrue = true) : v = .active ∨ p.allocTrue = true := by
  have hc : (passPool F blocks p v).cond = if F.status p.name then p.cond else (applyVerdict p v).cond := rfl
  unfold Pool.allocTrue at h
  rw [hc] at h
  by_cases hf : F.status p.name = true
  · rw [if_pos hf] at h; exact Or.inr h
  · rw [if_neg hf] at h
    rcases (applyVerdict_allocTrue p v).1 h with e | ⟨_, e⟩
    · exact Or.inl e
    · exact Or.inr e

/-- **(1, any failures) A pass never creates an overlap among effectively allocatable pools**
(Allocatable=True, not disabled, not being deleted — what `filterIPPool` lets IPAM use):
if none overlapped before the pass, none overlap after it, whichever writes failed. -/
theorem pass_never_creates_overlap (F : Fails) (blocks : List (Bool × Pfx)) (pools : List Pool)
    (hw : ∀ p ∈ pools, p.WF) (hE : EffDisjoint pools) : EffDisjoint (reconcileF F blocks pools) := by
  unfold EffDisjoint reconcileF gc
  refine List.Pairwise.sublist List.filter_sublist ?_
  rw [List.pairwise_map]
  refine (verdicts_pairwise hw).imp_of_mem ?_
  intro a b ha hb hR hEa hEb
  show overlapP (passPool F blocks a.1 a.2) (passPool F blocks b.1 b.2) = false
  rw [overlapP_congr (passPool_cidr ..) (passPool_cidr ..)]
  by_cases hca : a.1.cidr = none
  · exact overlapP_none_left _ hca
  by_cases hcb : b.1.cidr = none
  · exact overlapP_none_right _ hcb
  -- a pool that is effectively allocatable after the pass was judged active: either the pass turned
  -- it True, or it was True already, and then it was an incumbent
  have act : ∀ x ∈ verdicts pools, Eff (passPool F blocks x.1 x.2) → x.1.cidr ≠ none → x.2 = .active := by
    intro x hx hEx hc
    rcases only_active_turn_true F blocks _ _ hEx.1 with e | e
    · exact e
    · exact verdicts_incumbents hw hE hx ((category_zero_iff x.1).2 ⟨e, hEx.2.2⟩) hEx.2.1 hc
  exact hR (Or.inl (act a ha hEa hca)) (act b hb hEb hcb)

/-- **(3, any failures) A terminating pool keeps masking even when its own status write
fails**: the pool is inserted into the overlap trie whether or not `UpdateStatus` succeeded, so
in EVERY pass, with ANY failure plan, an overlapping pool that was not already allocatable
does not have Allocatable=True afterwards. -/
theorem terminating_masks_any_failures (F : Fails) (blocks : List (Bool × Pfx)) (pools : List Pool)
    (hw : ∀ p ∈ pools, p.WF) (t p : Pool) (ht : t ∈ pools) (htd : t.deleting = true)
    (htn : t.disabled = false) (hpc : 2 ≤ p.category) (hov : overlapP t p = true) (v : Verdict)
    (hv : (p, v) ∈ verdicts pools) : (passPool F blocks p v).allocTrue = false := by
  cases h : (passPool F blocks p v).allocTrue with
  | false => rfl
  | true =>
    exfalso
    rcases only_active_turn_true F blocks p v h with e | e
    · subst e; exact terminating_masks pools hw t p ht htd htn hpc hov hv
    · unfold Pool.category at hpc
      rw [e] at hpc
      cases hd : p.deleting <;> rw [hd] at hpc <;> simp at hpc

/-- **(4b, any failures) A pool is not deleted while it still has address blocks**, whichever
writes fail. -/
theorem no_delete_with_blocks_any_failures (F : Fails) (pools : List Pool) (hw : ∀ p ∈ pools, p.WF)
    (blocks : List (Bool × Pfx)) (p : Pool) (hp : p ∈ pools) (hd : p.deleting = true) (hf : p.fin = true)
    (v6 : Bool) (c : Pfx) (hc : p.cidr = some (v6, c)) (hb : blocksInPool blocks v6 c = true) :
    ∃ p' ∈ reconcileF F blocks pools, p'.name = p.name ∧ p'.fin = true ∧ p'.deleting = true ∧ p'.cidr = p.cidr := by
  obtain ⟨v, hv⟩ := mem_verdicts_of_mem hw hp
  have hx : (reconcileFinalizer blocks (applyVerdict p v)).fin = true := by
    rw [applyVerdict_eq]
    simp [reconcileFinalizer, hd, hf, hc, hb]
  have hfin : (passPool F blocks p v).fin = true := by
    unfold passPool; simp only; split
    · exact hf
    · exact hx
  refine ⟨passPool F blocks p v, ?_, rfl, hfin, hd, rfl⟩
  unfold reconcileF gc
  refine List.mem_filter.2 ⟨List.mem_map.2 ⟨(p, v), hv, rfl⟩, ?_⟩
  simp [hfin]

/-- **(4b) A pool is not deleted while it still has address blocks.**  A pool that is being
deleted, carries the finalizer (as every allocatable pool does, 4a) and has a block whose
base address lies inside its CIDR is still present after the reconcile, finalizer intact. -/
theorem no_delete_with_blocks (pools : List Pool) (hw : ∀ p ∈ pools, p.WF) (blocks : List (Bool × Pfx))
    (p : Pool) (hp : p ∈ pools) (hd : p.deleting = true) (hf : p.fin = true)
    (v6 : Bool) (c : Pfx) (hc : p.cidr = some (v6, c)) (hb : blocksInPool blocks v6 c = true) :
    ∃ p' ∈ reconcile blocks pools, p'.name = p.name ∧ p'.fin = true ∧ p'.deleting = true ∧ p'.cidr = p.cidr :=
  reconcileF_none blocks pools ▸ no_delete_with_blocks_any_failures Fails.none pools hw blocks p hp hd hf v6 c hc hb

/-- **(4c) The controller drops its finalizer from a deleting pool only when no block is
left inside it** (contrapositive form of 4b on the single pool). -/
theorem finalizer_removed_only_without_blocks (blocks : List (Bool × Pfx)) (p : Pool)
    (hd : p.deleting = true) (hf : p.fin = true) (hgone : (reconcileFinalizer blocks p).fin = false)
    (v6 : Bool) (c : Pfx) (hc : p.cidr = some (v6, c)) : blocksInPool blocks v6 c = false := by
  cases hb : blocksInPool blocks v6 c with
  | false => rfl
  | true =>
    unfold reconcileFinalizer at hgone
    simp [hd, hf, hc, hb] at hgone

/-- **(4a, any failures) An allocatable pool whose own writes went through carries the finalizer.** -/
theorem allocatable_has_finalizer_any_failures (F : Fails) (blocks : List (Bool × Pfx)) (p : Pool) (v : Verdict)
    (hs : F.status p.name = false) (hf : F.fin p.name = false)
    (ht : (passPool F blocks p v).allocTrue = true) (hd : p.deleting = false) :
    (passPool F blocks p v).fin = true := by
  unfold passPool Pool.allocTrue at ht
  simp only [hs, Bool.false_eq_true, if_false] at ht
  -- the local copy has a True condition and is not being deleted: `reconcileFinalizer` adds the finalizer
  have hxf : (applyVerdict p v).allocFalse = false := by
    unfold Pool.allocFalse
    cases hc : (applyVerdict p v).cond with
    | none => rfl
    | some c => rw [hc] at ht; simp only at ht ⊢; rw [ht]; rfl
  have hxd : (applyVerdict p v).deleting = false := by rw [applyVerdict_eq]; exact hd
  simp [passPool, hf, reconcileFinalizer, hxd, hxf]

/-- **(4a) Every allocatable pool carries the finalizer after a reconcile**, so a delete
request cannot remove it at once. -/
theorem allocatable_has_finalizer (pools : List Pool) (blocks : List (Bool × Pfx)) (p : Pool)
    (hp : p ∈ reconcile blocks pools) (ht : p.allocTrue = true) (hd : p.deleting = false) : p.fin = true := by
  rw [← reconcileF_none] at hp
  unfold reconcileF gc at hp
  obtain ⟨pv, _, rfl⟩ := List.mem_map.1 (List.mem_filter.1 hp).1
  exact allocatable_has_finalizer_any_failures Fails.none blocks pv.1 pv.2 rfl rfl ht hd

/-- **Limit under write failures (witness).**  `allocatable_has_finalizer_any_failures` needs
the pool's own writes to go through, and that hypothesis cannot be dropped: with the plan
"status write succeeds, finalizer `Update` fails" a pool is Allocatable=True WITHOUT the
finalizer after the pass; a delete request arriving before the next pass then removes it at
once although a block lies inside it.  Transient (the next successful pass adds the
finalizer) and outside the property's quantifier, which ranges over histories of pool/block
events, not over API fault sequences — recorded here so that the limit is explicit. -/
theorem finalizer_write_failure_witness :
    let pX : Pool := ⟨7, some (false, ⟨0x0a000000, 16⟩), 0, false, false, none, false⟩
    let s0 : State := ⟨[pX], [(false, ⟨0x0a000040, 26⟩)]⟩
    let s1 := s0.step (.reconcileF [] [7])
    let s2 := s1.step (.delete 7)
    s1.pools.map (fun p => (p.name, p.allocTrue, p.fin)) = [(7, true, false)] ∧
    s2.pools = [] ∧ blocksInPool s2.blocks false ⟨0x0a000000, 16⟩ = true := by
  intro pX s0 s1 s2
  simp only [s2, s1, s0, pX, State.step, reconcileF, verdicts, sortPools, List.mergeSort_singleton]
  decide

def pA : Pool := ⟨0, some (false, ⟨0x0a000000, 16⟩), 1, false, false, some ⟨true, "OK"⟩, true⟩    -- incumbent 10.0.0.0/16
def pB : Pool := ⟨1, some (false, ⟨0x0a000000, 8⟩), 0, false, false, none, false⟩               -- new, older, overlaps A
def pT : Pool := ⟨2, some (false, ⟨0x0b000000, 8⟩), 0, false, true, some ⟨true, "OK"⟩, true⟩     -- terminating 11.0.0.0/8
def pC : Pool := ⟨3, some (false, ⟨0x0b010000, 16⟩), 2, false, false, none, false⟩              -- new inside T
def exPools : List Pool := [pA, pT, pB, pC]   -- already in poolSortFunc order
theorem exSorted : sortPools exPools = exPools := List.mergeSort_of_pairwise (by decide)
def exBlocks : List (Bool × Pfx) := [(false, ⟨0x0b000040, 26⟩)]

example : ∀ p ∈ exPools, p.WF := by decide
example : exPools.Nodup := by decide
example : (verdicts exPools).map (fun pv => (pv.1.name, pv.2)) =
    [(0, .active), (2, .terminating), (1, .overlap), (3, .overlap)] := by
  unfold verdicts; rw [exSorted]; decide
example : pA.category = 0 ∧ 2 ≤ pC.category ∧ overlapP pT pC = true ∧ pT.deleting = true := by decide
example : blocksInPool exBlocks false ⟨0x0b000000, 8⟩ = true := by decide
example : ((reconcile exBlocks exPools).map (fun p => (p.name, p.allocTrue, p.fin))) =
    [(0, true, true), (2, false, true), (1, false, false), (3, false, false)] := by
  unfold reconcile reconcileConditions verdicts; rw [exSorted]; decide
/-- once the block is gone the terminating pool is released and removed -/
example : ((reconcile [] exPools).map (·.name)) = [0, 1, 3] := by
  unfold reconcile reconcileConditions verdicts; rw [exSorted]; decide


/-- the example configuration satisfies the hypothesis of `pass_never_creates_overlap` -/
example : EffDisjoint exPools := by
  unfold EffDisjoint EffD Eff exPools
  decide
def exFails : Fails := ⟨fun n => n == 2, fun n => n == 0⟩   -- T's status write and A's finalizer write fail
example : (verdicts exPools).map (fun pv => ((passPool exFails exBlocks pv.1 pv.2).name,
      (passPool exFails exBlocks pv.1 pv.2).allocTrue)) = [(0, true), (2, true), (1, false), (3, false)] := by
  unfold verdicts; rw [exSorted]; decide

/-- a benign history from the empty cluster: create A, reconcile, create overlapping older B -/
def exHist : List Event :=
  [.create 0 (some (false, ⟨0x0a000000, 16⟩)) 5, .reconcile, .create 1 (some (false, ⟨0x0a000000, 8⟩)) 0]
example : ∀ e ∈ exHist, e.Benign := by
  intro e he
  simp only [exHist, List.mem_cons, List.not_mem_nil, or_false] at he
  rcases he with rfl | rfl | rfl
  · show Pfx.WF 32 _; decide
  · trivial
  · show Pfx.WF 32 _; decide

end CalicoVerif.C39
