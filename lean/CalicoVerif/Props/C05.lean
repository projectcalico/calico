import CalicoVerif.Proofs.C05
import CalicoVerif.Model.C05Pol
import CalicoVerif.Props.C03
/-!
C05 — Missing or invalid references fail closed.

Kinds covered: workload / host endpoints, profile rules (model `Model/C05.lean`: profile path of
`active_rules_calculator.go` + `validation_filter.go`), policies and tiers (`Model/C05Pol.lean`: the
ValidationFilter in front of the C03 model of `policy_resolver.go` / `policy_sorter.go`).
The theorems quantify over EVERY history of raw datastore updates (from a fresh calculator / resolver, or from
any state).  The validators are trusted: an update carries the bit "passes validation".
Not modelled: the deny stand-in's content (`DummyDropRules` is checked by the harness on the real
value), the validators, other resource kinds, the ARC's label index (the real one runs in the harness).
-/
namespace CalicoVerif.C05

variable {R : Type} [DecidableEq R]

/-- **The rule scanner's table is a function of the current inputs only** (the form used for
composition): after any history, profile `p` maps to `outOf st p` if it is referenced, and is
absent otherwise. -/
theorem view_eq_spec (us : List (RawUpd R)) (p : String) :
    (referenced (runRaw (Arc.new R) us) p →
      alGet p (view (runRaw (Arc.new R) us).out) = some (outOf (runRaw (Arc.new R) us) p)) ∧
    (¬ referenced (runRaw (Arc.new R) us) p → alGet p (view (runRaw (Arc.new R) us).out) = none) :=
  run_view_spec (us.map filter) p

/-- **Missing or invalid profile ⇒ deny.**  After any history, a profile that some local endpoint
references but that does not exist (never created, deleted while referenced, or replaced by a
version that fails validation) is active at the rule scanner with the deny stand-in. -/
theorem missing_profile_denies (us : List (RawUpd R)) (p : String)
    (href : referenced (runRaw (Arc.new R) us) p)
    (hmiss : alGet p (runRaw (Arc.new R) us).profiles = none) :
    alGet p (view (runRaw (Arc.new R) us).out) = some .dummyDrop := by
  rw [(view_eq_spec us p).1 href, outOf, hmiss]

/-- **Known profile ⇒ its real rules** (in particular: in the very step in which a missing profile
arrives, the deny stand-in is replaced by the real rules — the invariant holds after every step). -/
theorem known_profile_real_rules (us : List (RawUpd R)) (p : String) (r : R)
    (href : referenced (runRaw (Arc.new R) us) p)
    (hk : alGet p (runRaw (Arc.new R) us).profiles = some r) :
    alGet p (view (runRaw (Arc.new R) us).out) = some (.real r) := by
  rw [(view_eq_spec us p).1 href, outOf, hk]

/-- A profile no endpoint references is not active at all. -/
theorem unreferenced_profile_inactive (us : List (RawUpd R)) (p : String)
    (href : ¬ referenced (runRaw (Arc.new R) us) p) :
    alGet p (view (runRaw (Arc.new R) us).out) = none :=
  (view_eq_spec us p).2 href

/-- The stored profile table is "last valid writer wins": a valid profile update stores the rules,
a deletion or an invalid value removes them. -/
theorem profile_table_after (st : Arc R) (p : String) (v : Option (R × Bool)) :
    alGet p (step st (filter (.profileRules p v))).profiles =
      match v with
      | some (r, true) => some r
      | _ => none := by
  have h : ∀ x : Option R, alGet p (step st (.profileRules p x)).profiles = x := fun x => by
    rw [show step st (.profileRules p x) = updateProfileRules p x st from rfl, (updateProfileRules_set p x st).profiles,
      if_pos rfl]
  match v with
  | none => exact h none
  | some (r, false) => exact h none
  | some (r, true) => exact h (some r)

/-- An endpoint's recorded profile list is "last valid writer wins" too (an empty list is recorded as no entry). -/
theorem endpoint_table_after (st : Arc R) (ep : String) (v : Option (List String × Bool)) :
    alGet ep (step st (filter (.endpoint ep v))).epProfiles =
      match v with
      | some (ids, true) => if ids.isEmpty then none else some ids
      | _ => none := by
  have key : ∀ ids : List String, alGet ep (updateEndpointProfileIDs ep ids st).epProfiles =
      if ids.isEmpty then none else some ids := by
    intro ids
    rw [(updateEndpointProfileIDs_kept ep ids st).epProfiles]
    by_cases h : ids.isEmpty
    · simp [h, alGet_alErase]
    · simp [h, alGet_alSet]
  match v with
  | none => simpa [filter, step] using key []
  | some (ids, false) => simpa [filter, step] using key []
  | some (ids, true) => simpa [filter, step] using key ids

/-- replace every value that fails validation by a deletion -/
def asDelete : RawUpd R → RawUpd R
  | .endpoint ep (some (_, false)) => .endpoint ep none
  | .profileRules p (some (_, false)) => .profileRules p none
  | u => u

omit [DecidableEq R] in
theorem filter_asDelete (u : RawUpd R) : filter (asDelete u) = filter u := by
  cases u with
  | endpoint ep v =>
    match v with
    | none => rfl
    | some (ids, true) => rfl
    | some (ids, false) => rfl
  | profileRules p v =>
    match v with
    | none => rfl
    | some (r, true) => rfl
    | some (r, false) => rfl

/-- **Invalid = absent, endpoint / profile-rules kinds** (`_partial`: these two kinds only; policy and
tier kinds: `invalid_eq_absent_emitted_partial` below; other resource kinds are not modelled).  By
itself this only says that the filter replaces a rejected value by nil; what "absent" then MEANS for
the output is `missing_profile_denies` / `unreferenced_profile_inactive`.  Any history behaves exactly
like the same history in which every value that fails validation has been replaced by a deletion of
that key: same stored state, same calls to the rule scanner, at every position (apply to every prefix). -/
theorem invalid_eq_absent_profiles_partial (st : Arc R) (us : List (RawUpd R)) :
    runRaw st us = runRaw st (us.map asDelete) := by
  unfold runRaw
  rw [List.map_map]
  congr 1
  apply List.map_congr_left
  intro u _
  exact (filter_asDelete u).symm

/-- **Never partially applied.**  What an invalid value contains is irrelevant: two histories that
differ only in the contents of values that fail validation behave identically. -/
theorem invalid_content_irrelevant_profiles_partial (st : Arc R) (us us' : List (RawUpd R))
    (h : us.map asDelete = us'.map asDelete) : runRaw st us = runRaw st us' := by
  rw [invalid_eq_absent_profiles_partial st us, invalid_eq_absent_profiles_partial st us', h]

set_option linter.unusedSectionVars false in
/-- A value that passes validation reaches the calculator unchanged. -/
theorem filter_valid_passthrough (ep p : String) (ids : List String) (r : R) :
    filter (R := R) (.endpoint ep (some (ids, true))) = .endpoint ep (some ids) ∧
    filter (.profileRules p (some (r, true))) = .profileRules p (some r) := ⟨rfl, rfl⟩

section PolTier
open CalicoVerif.C02 CalicoVerif.C03

/-- a raw history: datastore updates before validation, the ARC's match calls, flushes -/
inductive RawStep where
  | ev (e : RawEvent)
  | flush

def filterStep : RawStep → RStep
  | .ev e => .ev (filterEv e)
  | .flush => .flush

def asDeleteStep : RawStep → RawStep
  | .ev e => .ev (asDeleteEv e)
  | .flush => .flush

/-- ValidationFilter, then resolver, from a fresh resolver; per flush the emitted calls -/
def runPol (h : List RawStep) : Option (Resolver × List (List (PolicyKey × EpKey) × List Call)) :=
  runR {} (h.map filterStep)

/-- the tier resources that exist (and are valid) after a raw history: last valid writer wins -/
def tierTable (h : List RawStep) : TierDS := dsHist [] (h.map filterStep)

/-- `tierTable` is "last valid writer wins": a valid tier update stores (order, default action); a
deletion or an update that fails validation removes the tier; the other tiers' entries stay. -/
theorem tier_table_after (h : List RawStep) (n : String) (v : Option ((Option Int × String) × Bool)) (n' : String) :
    mget (tierTable (h ++ [.ev (.tier n v)])) n' = if n' = n then validated v else mget (tierTable h) n' := by
  unfold tierTable
  rw [List.map_append, dsHist_append]
  simp only [List.map_cons, List.map_nil, filterStep, filterEv, dsHist, dsEvent, mget_dsTier]

theorem tier_never_mentioned (h : List RawStep) (n : String)
    (hn : ∀ n' v, RawStep.ev (.tier n' v) ∈ h → n' ≠ n) : mget (tierTable h) n = none := by
  unfold tierTable
  have : ∀ (hs : List RawStep) (ds : TierDS), (∀ n' v, RawStep.ev (.tier n' v) ∈ hs → n' ≠ n) →
      mget (dsHist ds (hs.map filterStep)) n = mget ds n := by
    intro hs
    induction hs with
    | nil => intro ds _; rfl
    | cons x hs ih =>
      intro ds hx
      cases x with
      | flush => exact ih ds (fun n' v hm => hx n' v (List.mem_cons_of_mem _ hm))
      | ev e =>
        simp only [List.map_cons, filterStep, dsHist]
        rw [ih _ (fun n' v hm => hx n' v (List.mem_cons_of_mem _ hm))]
        cases e with
        | tier n' v =>
          have hne : n' ≠ n := hx n' v (List.mem_cons_self ..)
          have hne' : ¬ n = n' := fun e => hne e.symm
          simp only [filterEv, dsEvent, mget_dsTier, hne', if_false]
        | endpoint k v => rfl
        | policy k v => rfl
        | status s => rfl
        | matchStarted p e => rfl
        | matchStopped p e => rfl
  rw [this h [] hn]; rfl

/-- **A missing, deleted-while-referenced or invalid TIER fails closed, for every history.**  Take any
raw history (tier / policy / endpoint updates with any validation verdicts, the ARC's match calls,
flushes anywhere), let the resolver be in sync and flush.  Every tier an endpoint is told about carries
the order and default action of the tier resource that currently exists and is valid; a tier that is
only NAMED by a policy — never created, deleted while policies still reference it, or whose latest
version failed validation — is listed with NO order and the EMPTY default action (= deny at the end of
the tier), whatever order / default action (e.g. Pass) it had before.  Its position in the tier list:
after all existing tiers (C03: tiers ascend under `TierLess`, `Valid` first). -/
theorem dangling_tier_fails_closed (h : List RawStep) (r0 : Resolver)
    (outs0 : List (List (PolicyKey × EpKey) × List Call)) (h0 : runPol h = some (r0, outs0))
    (hsync : r0.inSync = true) (r' : Resolver) (calls : List Call) (hf : r0.flush = some (r', calls))
    (e : EpKey) (u : EpUpd) (hu : Call.endpointUpdate e (some u) ∈ calls) (t' : TierInfo) (ht' : t' ∈ u.tiers) :
    match mget (tierTable h) t'.name with
    | some (o, a) => t'.order = o ∧ t'.defaultAction = a
    | none => t'.order = none ∧ t'.defaultAction = "" := by
  exact emitted_tier_attrs_partial (h.map filterStep) r0 outs0 h0 hsync r' calls hf e u hu t' ht'

/-- **… exactly as if the tier had never existed.**  The three ways a tier reference can dangle —
(a) no update ever mentioned the tier, (b) the history ends with its deletion, (c) the history ends
with a version of it that fails validation — give the same tier table entry (none), hence by
`dangling_tier_fails_closed` the same emitted attributes. -/
theorem dangling_same_as_never_existed (h : List RawStep) (n : String) (x : (Option Int × String)) :
    mget (tierTable (h ++ [.ev (.tier n none)])) n = none ∧
    mget (tierTable (h ++ [.ev (.tier n (some (x, false)))])) n = none ∧
    ((∀ n' v, RawStep.ev (.tier n' v) ∈ h → n' ≠ n) → mget (tierTable h) n = none) := by
  refine ⟨?_, ?_, tier_never_mentioned h n⟩
  · rw [tier_table_after]; simp [validated]
  · rw [tier_table_after]; simp [validated]

/-- **Invalid = absent at the level of the emitted endpoint / tier data** (`_partial`: endpoint, policy
and tier kinds, profile rules above; other resource kinds are not modelled): every flush of a raw
history emits exactly the calls it emits when each value that fails validation is replaced by a
deletion of its key.  (This is the filter's contract; what absence then means for the output is
`dangling_tier_fails_closed` and `invalid_policy_not_listed_partial`.) -/
theorem invalid_eq_absent_emitted_partial (h : List RawStep) : runPol h = runPol (h.map asDeleteStep) := by
  unfold runPol
  rw [List.map_map]
  congr 1
  apply List.map_congr_left
  intro s _
  cases s with
  | flush => rfl
  | ev e =>
    simp only [Function.comp, asDeleteStep, filterStep]
    congr 1
    cases e with
    | endpoint k v => match v with
      | none => rfl
      | some (_, true) => rfl
      | some (_, false) => rfl
    | policy k v => match v with
      | none => rfl
      | some (_, true) => rfl
      | some (_, false) => rfl
    | tier n v => match v with
      | none => rfl
      | some (_, true) => rfl
      | some (_, false) => rfl
    | status s => rfl
    | matchStarted p e => rfl
    | matchStopped p e => rfl

/-- the resolver's policy table (`allPolicies`) after a history of filtered events: the last writer wins -/
def polHist (ps : List (PolicyKey × PolMeta)) : List RStep → List (PolicyKey × PolMeta)
  | [] => ps
  | .ev (.policy k (some p)) :: t => polHist (mset k (extractPolicyMetadata p) ps) t
  | .ev (.policy k none) :: t => polHist (mdel k ps) t
  | _ :: t => polHist ps t

theorem allPolicies_ite {c : Prop} [Decidable c] (a b : Resolver) :
    (if c then a else b).allPolicies = if c then a.allPolicies else b.allPolicies := by
  split <;> rfl

theorem polHist_eq (ps : List (PolicyKey × PolMeta)) (h : List RStep) : polHist ps h = polHistory ps h := by
  fun_induction polHist ps h <;> simp_all [polHistory]

theorem runR_allPolicies (hist : List RStep) (r r0 : Resolver)
    (outs : List (List (PolicyKey × EpKey) × List Call)) (hr : runR r hist = some (r0, outs)) :
    r0.allPolicies = polHist r.allPolicies hist := by
  obtain ⟨_, hl⟩ := runL_of_runR hr fun _ => none
  rw [polHist_eq]
  exact (runL_folds hist hl).allPolicies

/-- the policies that exist (and are valid) after a raw history -/
def polTable (h : List RawStep) : List (PolicyKey × PolMeta) := polHist [] (h.map filterStep)

/-- **A missing / deleted / invalid POLICY is not applied** (`_partial`: for the endpoints a flush
emits, inherited from C03's `emitted_lists_exact_partial`; which endpoints a policy matches is the
ARC's input — that the real ARC stops the matches of a deleted policy is checked by the harness).
After any raw history, in sync, a flush lists policy `p` with metadata `m` in its tier for endpoint
`e` iff `p` currently matches `e` AND `m` is the metadata of the latest VALID version of `p`; in
particular a policy that was deleted, or whose latest version failed validation, is listed nowhere
with any metadata — the endpoint falls through to the tier's default action as if the policy had
never existed. -/
theorem invalid_policy_not_listed_partial (K : PolicyKey → Prop) (hK : KeyU K) (h : List RawStep)
    (hin : HistIn K (h.map filterStep)) (r0 : Resolver)
    (outs0 : List (List (PolicyKey × EpKey) × List Call)) (h0 : runPol h = some (r0, outs0))
    (hsync : r0.inSync = true) (r' : Resolver) (calls : List Call) (hf : r0.flush = some (r', calls))
    (e : EpKey) (u : EpUpd) (hu : Call.endpointUpdate e (some u) ∈ calls) (p : PolicyKey) (m : PolMeta) :
    (∃ t' ∈ u.tiers, t'.name = m.tier ∧ ⟨p, m⟩ ∈ t'.policies) ↔
      ((p, e) ∈ r0.matched ∧ mget (polTable h) p = some m) := by
  have := emitted_lists_exact_partial K hK (h.map filterStep) hin r0 outs0 h0 hsync r' calls hf e u hu p m
  rw [this, runR_allPolicies _ _ _ _ h0]
  rfl

/-- `polTable` is "last valid writer wins" -/
theorem pol_table_after (h : List RawStep) (k : PolicyKey) (v : Option (PolicyIn × Bool)) (k' : PolicyKey) :
    mget (polTable (h ++ [.ev (.policy k v)])) k' =
      if k' = k then (validated v).map extractPolicyMetadata else mget (polTable h) k' := by
  unfold polTable
  rw [List.map_append, polHist_eq, polHistory_append, ← polHist_eq, ← polHist_eq]
  simp only [List.map_cons, List.map_nil, filterStep, filterEv]
  cases hv : validated v with
  | none => simp only [polHist, mget_mdel, Option.map_none]
  | some x => simp only [polHist, mget_mset, Option.map_some]

/-! non-vacuity: tier `t1` with default action Pass, a matching policy in it, flush; then the tier is
deleted while the policy still names it, flush: the endpoint is told `t1` with no order and the empty
default action. -/
def exPol : List RawStep :=
  [ .ev (.status true),
    .ev (.tier "t1" (some ((some 100, "Pass"), true))),
    .ev (.endpoint (.wep "1") (some (⟨"cali1", []⟩, true))),
    .ev (.policy ⟨"p1", "", "GlobalNetworkPolicy"⟩ (some (⟨"t1", some 100, false, false, false, []⟩, true))),
    .ev (.matchStarted ⟨"p1", "", "GlobalNetworkPolicy"⟩ (.wep "1")),
    .flush,
    .ev (.tier "t1" none) ]

example : mget (tierTable exPol) "t1" = none := by decide

/-- the (name, order, default action) of the tiers the final flush tells endpoint `e` -/
def finalTiers (h : List RawStep) (e : EpKey) : Option (List (String × Option Int × String)) :=
  match runPol h with
  | some (r0, _) =>
    match r0.flush with
    | some (_, calls) => calls.findSome? (fun c => match c with
        | .endpointUpdate e' (some u) =>
          if e' = e then some (u.tiers.map (fun t => (t.name, t.order, t.defaultAction))) else none
        | _ => none)
    | none => none
  | none => none

example : finalTiers (exPol.take 5) (.wep "1") = some [("t1", some 100, "Pass")] := by decide
example : finalTiers exPol (.wep "1") = some [("t1", none, "")] := by decide

end PolTier

def exHist : List (RawUpd Nat) :=
  [ .endpoint "w1" (some (["p1", "p2"], true)),      -- references p1, p2: both missing
    .profileRules "p1" (some (7, true)),              -- p1 arrives late
    .profileRules "p2" (some (8, false)),             -- p2 arrives but is invalid
    .profileRules "p1" (some (9, false)) ]            -- p1 replaced by an invalid version

example : alGet "p1" (view (runRaw (Arc.new Nat) (exHist.take 1)).out) = some .dummyDrop := by decide
example : alGet "p1" (view (runRaw (Arc.new Nat) (exHist.take 2)).out) = some (.real 7) := by decide
example : alGet "p2" (view (runRaw (Arc.new Nat) (exHist.take 3)).out) = some .dummyDrop := by decide
example : alGet "p1" (view (runRaw (Arc.new Nat) exHist).out) = some .dummyDrop := by decide
example : referenced (runRaw (Arc.new Nat) exHist) "p1" := ⟨"w1", ["p1", "p2"], by decide, by decide⟩
example : alGet "p1" (runRaw (Arc.new Nat) exHist).profiles = none := by decide

end CalicoVerif.C05
