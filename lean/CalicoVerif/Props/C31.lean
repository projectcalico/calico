import CalicoVerif.Proofs.C31Inv
/-!
C31 — Per-workload policy sync streams are complete, minimal and ordered.  Definitions of the statements:
`Proofs/C31Spec.lean` (`View`/`applyMsg` = the policy-sync client, `Complete`, `Closed`, `Pre`/`Valid`/`Respects` = the
calculation graph's contract, `monitor`); model: `Model/C31.lean`.
The clauses are proved over whole histories: complete + minimal `stream_complete`, ordered `stream_closed` (both over
histories that respect the contract, on which the Processor does not panic: `contract_no_panic`), nothing after a leave
`nothing_after_close`, `leave_closes` (no contract needed).  Outside `Pre` the real code panics exactly where the model
returns `none` (checked by correspondence).
-/
namespace CalicoVerif.C31

/-- Every reachable state satisfies the channel discipline: endpoints have
distinct keys, live output channels are pairwise distinct, were handed out by
a join, and none of them has been closed. -/
theorem reachable_chan (ops : List Op) (p : Proc) (evs : List Ev) (h : run Proc.init ops = some (p, evs)) :
    ∃ closed, monitor [] evs = some closed ∧ ChanInv p closed :=
  run_chan chanInv_init h

/-- **silent after leave.**  For every history of dataplane updates, joins and
leaves on which the Processor does not panic: once a channel has been closed
(matching leave, re-join of the same workload, endpoint removal) NOTHING more
happens on it — no message is sent and it is not closed again (either would be a
Go panic). -/
theorem nothing_after_close (ops : List Op) (p : Proc) (evs : List Ev) (h : run Proc.init ops = some (p, evs))
    (a b : List Ev) (c : Nat) (hsplit : evs = a ++ (c, none) :: b) : ∀ e ∈ b, e.1 ≠ c := by
  obtain ⟨cl, hm, _⟩ := reachable_chan ops p evs h
  rw [hsplit, monitor_append] at hm
  cases h1 : monitor [] a with
  | none => simp [h1] at hm
  | some cl1 =>
    simp only [h1, Option.bind_some] at hm
    by_cases hc : c ∈ cl1
    · simp only [monitor, List.contains_iff_mem.2 hc, if_true] at hm; cases hm
    · rw [monitor_close hc] at hm
      exact fun e he heq => monitor_spec hm e he (heq ▸ List.mem_cons_self)

/-- A matching leave closes the workload's channel and the Processor forgets it. -/
theorem leave_closes {p p' : Proc} {w uid c : Nat} {ei : EpInfo} {evs : List Ev}
    (hg : p.eps.get w = some ei) (hu : ei.joinUID = uid) (ho : ei.output = some c)
    (h : step p (.leave w uid) = some (p', evs)) :
    evs = [(c, none)] ∧ ∀ ei', p'.eps.get w = some ei' → ei'.output = none := by
  rcases step_leave.1 h with ⟨hn, _⟩ | ⟨ei0, hg0, ⟨hne, _⟩ | ⟨c0, _, ho0, rfl, rfl⟩⟩
  · exact nomatch hg.symm.trans hn
  · cases hg.symm.trans hg0; exact absurd hu hne
  · cases hg.symm.trans hg0
    cases ho.symm.trans ho0
    refine ⟨rfl, fun ei' hg' => ?_⟩
    split at hg'
    · rw [AMap.get_del_eq] at hg'; cases hg'
    · rw [AMap.get_set_eq] at hg'; cases hg'; rfl

/-- **stream_complete_of_valid (complete + minimal).**  For EVERY history of dataplane updates, joins and leaves that respects
the calculation graph's contract (`Valid`: `Pre` holds at every step and the Processor does not panic), and
for every workload that is joined at the end: its stream — ALL the messages ever sent on its channel,
applied in order by the client — yields EXACTLY its own endpoint (if the Processor knows it), the latest
versions of exactly the policies and profiles that endpoint lists, the latest members of exactly the IP sets
those name, every service account and namespace in its latest version, and the in-sync flag; nothing else. -/
theorem stream_complete_of_valid (ops : List Op) (p : Proc) (evs : List Ev) (h : Valid Proc.init ops p evs)
    (w c : Nat) (ei : EpInfo) (hg : p.eps.get w = some ei) (ho : ei.output = some c) :
    Complete p w ei.ep (viewOf evs c) := by
  have hi : Inv p evs := (valid_inv runInv_init h).inv
  have hok := hi.streams (w, ei) (AMap.mem_of_get hg) c ho
  exact hok.complete fun x hx => hi.good.needed ((hok.exact.ipsets x).1 hx)

/-- the contract is kept by the stores along every such history (what `Pre` at each step buys) -/
theorem stores_respect_contract (ops : List Op) (p : Proc) (evs : List Ev) (h : Valid Proc.init ops p evs) : Good p :=
  (valid_inv runInv_init h).inv.good

/-- **stream_closed_of_valid ("never references something not yet sent").**  For every contract-respecting history,
every channel `c` (joined, left or replaced) and every `k`: after the first `k` messages ever sent on `c`, the
client is referentially closed — its endpoint's policies and profiles are present and so is every IP set a
present policy or profile names.  So IP sets arrive before the policies that name them, policies before the
endpoint that lists them, and removals only after nothing present refers to what is removed. -/
theorem stream_closed_of_valid (ops : List Op) (p : Proc) (evs : List Ev) (h : Valid Proc.init ops p evs) (c k : Nat) :
    Closed (applyMsgs View.empty ((msgsOf evs c).take k)) :=
  closedAlong_take ((valid_inv runInv_init h).closed c) k

/-- **contract_no_panic.**  A history that respects the contract (`Respects`: `Pre` holds before every step,
whatever states the earlier steps led to) never makes the Processor panic: the whole history runs. -/
theorem contract_no_panic (ops : List Op) (h : Respects Proc.init ops) :
    ∃ p evs, run Proc.init ops = some (p, evs) ∧ Valid Proc.init ops p evs := by
  obtain ⟨p, evs, hv, _⟩ := respects_run runInv_init h
  exact ⟨p, evs, valid_run hv, hv⟩

/-- **stream_complete (complete + minimal, with the run).**  For every history of dataplane updates, joins and leaves
that respects the calculation graph's contract, the Processor runs it to a state `p` with events `evs`, and every
workload joined at the end holds — after applying ALL messages ever sent on its channel, in order — exactly its
own endpoint, the latest versions of exactly the policies/profiles it lists and of exactly the IP sets those
name, every service account and namespace, and the in-sync flag. -/
theorem stream_complete (ops : List Op) (h : Respects Proc.init ops) :
    ∃ p evs, run Proc.init ops = some (p, evs) ∧
      ∀ w c ei, p.eps.get w = some ei → ei.output = some c → Complete p w ei.ep (viewOf evs c) := by
  obtain ⟨p, evs, hr, hv⟩ := contract_no_panic ops h
  exact ⟨p, evs, hr, fun w c ei hg ho => stream_complete_of_valid ops p evs hv w c ei hg ho⟩

/-- **stream_closed (with the run).**  For every contract-respecting history, every channel and every prefix
of its stream, the client is referentially closed after that prefix. -/
theorem stream_closed (ops : List Op) (h : Respects Proc.init ops) :
    ∃ p evs, run Proc.init ops = some (p, evs) ∧
      ∀ c k, Closed (applyMsgs View.empty ((msgsOf evs c).take k)) := by
  obtain ⟨p, evs, hr, hv⟩ := contract_no_panic ops h
  exact ⟨p, evs, hr, fun c k => stream_closed_of_valid ops p evs hv c k⟩

instance (p : Proc) (op : Op) : Decidable (Pre p op) := by
  cases op <;> unfold Pre <;> infer_instance

/-- executable check that a history respects the contract and does not panic -/
def validB : Proc → List Op → Bool
  | _, [] => true
  | p, op :: ops => decide (Pre p op) && (match step p op with
    | some (p', _) => validB p' ops
    | none => false)

theorem valid_of_validB {p : Proc} {ops : List Op} (h : validB p ops = true) : ∃ p' evs, Valid p ops p' evs := by
  induction ops generalizing p with
  | nil => exact ⟨p, [], Valid.nil p⟩
  | cons op ops ih =>
    simp only [validB, Bool.and_eq_true, decide_eq_true_eq] at h
    cases hs : step p op with
    | none => simp [hs] at h
    | some r =>
      obtain ⟨p1, evs1⟩ := r
      simp only [hs] at h
      obtain ⟨p2, evs2, hv⟩ := ih h.2
      exact ⟨p2, evs1 ++ evs2, Valid.cons h.1 hs hv⟩

/-- a policy naming IP set 0 through two different rule fields, an endpoint using it, a join, then a matching leave -/
def demoOps : List Op :=
  [.ipset 0 [1, 2], .pol 1 ⟨[⟨5, [(0, 0), (8, 0)]⟩], []⟩, .ep 0 ⟨1, [⟨0, [1], [1]⟩], []⟩, .sa 1 3, .join 0 1, .leave 0 1]

example : (run Proc.init demoOps).map (·.2) = some
    [(0, some (Msg.ipUpd 0 [1, 2])), (0, some (Msg.polUpd 1 ⟨[⟨5, [(0, 0), (8, 0)]⟩], []⟩)),
      (0, some (Msg.epUpd 0 ⟨1, [⟨0, [1], [1]⟩], []⟩)), (0, some (Msg.saUpd 1 3)), (0, none)] := by
  decide +kernel

theorem respects_of_validB {p : Proc} {ops : List Op} (h : validB p ops = true) : Respects p ops := by
  obtain ⟨_, _, hv⟩ := valid_of_validB h
  exact hv.respects

/-- a richer contract-respecting history: join before the endpoint is known, policy and profile updates that
add and drop IP sets, a delta, an endpoint update dropping a policy, service accounts, in-sync, re-join, leave -/
def validOps : List Op :=
  [.join 0 1, .ipset 0 [1, 2], .ipset 1 [3], .pol 1 ⟨[⟨5, [(0, 0)]⟩], []⟩, .prof 2 ⟨[], [⟨1, [(3, 1)]⟩]⟩,
   .ep 0 ⟨1, [⟨0, [1], [1]⟩], [2]⟩, .sa 1 3, .inSync, .pol 1 ⟨[⟨6, [(8, 1)]⟩], []⟩, .ipDelta 1 [4] [3],
   .ipset 0 [7], .ep 0 ⟨2, [], [2]⟩, .polRm 1, .join 0 2, .ns 4 4, .leave 0 2, .ep 0 ⟨3, [], []⟩, .profRm 2, .ipRm 1]

/-- `stream_complete` / `stream_closed` are not vacuous: the histories above are `Valid` -/
example : ∃ p evs, Valid Proc.init validOps p evs := valid_of_validB (by decide +kernel)
example : Respects Proc.init validOps := respects_of_validB (by decide +kernel)
example : ∃ p evs, Valid Proc.init demoOps p evs := valid_of_validB (by decide +kernel)

/-- `nothing_after_close` is not vacuous: the demo history is panic-free and closes channel 0. -/
example : (run Proc.init demoOps).isSome = true := by decide +kernel

/-- a non-trivial reachable state in which a join succeeds -/
example : (((run Proc.init (demoOps.take 4)).map (·.1)).getD Proc.init).sas = [(1, 3)] := by decide +kernel
example : ((run Proc.init (demoOps.take 4)).bind (fun r => step r.1 (.join 0 1))).isSome = true := by decide +kernel

/-- the model panics exactly where the Go code does: a leave with UID 0 for a known, never-joined endpoint is `close(nil)`. -/
example : run Proc.init [.ep 0 ⟨1, [], []⟩, .leave 0 0] = none := by decide +kernel

end CalicoVerif.C31
