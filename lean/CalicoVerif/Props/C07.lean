import CalicoVerif.Proofs.C07Hist
import CalicoVerif.Proofs.C07RIdx
import CalicoVerif.Proofs.C07Restr
import CalicoVerif.Proofs.C06Roundtrip
/-!
C07 — Indexed selector matching equals direct selector evaluation.

Model: `CalicoVerif.Model.C07` (selectors: the shared model `CalicoVerif.Model.C06*`).  The InheritIndex theorems are for
ALL histories of its operations (any ids, labels, parent chains, selectors); the restriction index is proved twice:
its specification `isCandidate` never prunes a matching selector, and the STRUCTURAL model (label → value → ids /
wildcard ids / unoptimised ids, with the Go code's clean-up of empty sets and sub-indexes) emits exactly the specified
candidates after any history of AddSelector/DeleteSelector.
-/
namespace CalicoVerif.C07
open CalicoVerif.C06

/-- FULL (histories): after ANY sequence of operations on a fresh index, a
(selector id, item id) pair is reported as matching iff the selector and the item
currently exist and the selector evaluates to true on the item's effective labels. -/
theorem index_eq_eval (ops : List Op) (sel item : Nat) :
    (sel, item) ∈ (run ops).1.matched ↔
      ∃ n it, lookup sel (run ops).1.sels = some n ∧ lookup item (run ops).1.items = some it ∧
        n.eval (effLabels (run ops).1 it) = true :=
  (runFrom_inv ops inv_empty).sound (sel, item)

/-- Effective labels: own labels override the parents', the first parent that has
the label wins, parents without labels (or unknown) contribute nothing. -/
theorem effLabels_spec (st : Idx) (it : Item) (k : Str) :
    effLabels st it k =
      match lookup k it.labels with
      | some v => some v
      | none => (it.parents.findSome? (fun p => lookup k ((lookup p st.parents).getD []))) := by
  unfold effLabels
  cases lookup k it.labels with
  | some v => rfl
  | none =>
    simp only []
    induction it.parents with
    | nil => rfl
    | cons p ps ih =>
      simp only [firstParent, parentLabels, List.findSome?_cons]
      cases lookup k ((lookup p st.parents).getD []) with
      | some v => rfl
      | none => exact ih

/-- FULL (histories): the callbacks emitted along ANY history alternate per pair —
`OnMatchStarted` is only ever called for a pair that is not matching,
`OnMatchStopped` only for a pair that is (never two starts, never a stop without
a start) — and replaying them from the empty set yields the final match set. -/
theorem callbacks_alternate (ops : List Op) : Replay [] (run ops).2 (run ops).1.matched :=
  runFrom_replay ops inv_empty

/-- **The tables `index_eq_eval` reads are the last values written.**  `index_eq_eval` is stated over the
index's item, parent-label and selector tables; along every history from a fresh index these tables are exactly
"last writer wins" (`Tables.apply`).  The selector table keeps a selector's canonical text, which determines the
selector among parser outputs only (`selector_equal_iff`). -/
theorem input_tables_last_writer_wins (ops : List Op) :
    tablesOf (run ops).1 = ops.foldl Tables.apply ⟨fun _ => none, fun _ => none, fun _ => none⟩ :=
  tables_runFrom ops {}

/-- FULL (all selectors, all label maps): a label map that the selector matches
satisfies every restriction `LabelRestrictions()` derives (must-be-present,
must-be-absent, must-have-one-of-values), so pruning on them is safe. -/
theorem restrictions_sound (t : Node) (ls : Labels) (h : t.eval ls = true) :
    ∀ l r, (l, r) ∈ restrictions t →
      (r.mustBePresent = true → ls l ≠ none) ∧ (r.mustBeAbsent = true → ls l = none) ∧
      (∀ vs, r.values = some vs → ∃ x, ls l = some x ∧ x ∈ vs) :=
  fun l r hm => let s := restrictions_satisfied ls t h l r hm; ⟨s.present, s.absent, s.values⟩

/-- FULL: a selector that matches an item (given by its effective label list) is
always among the restriction index's candidates for that item. -/
theorem candidates_complete (ri : RIdx) (id : Nat) (n : Node) (kvs : List (Str × Str))
    (hmem : (id, n) ∈ ri) (h : n.eval (Labels.ofList kvs) = true) : id ∈ ri.candidates kvs := by
  unfold RIdx.candidates
  exact List.mem_map.mpr ⟨(id, n), List.mem_filter.mpr ⟨hmem, isCandidate_of_eval n kvs h⟩, rfl⟩

/-- The operations of `LabelRestrictionIndex`. -/
inductive ROp
  | add (id : Nat) (sel : Node)
  | delete (id : Nat)

def ROp.apply (st : RIdxS) : ROp → RIdxS
  | .add id n => st.addSelector id n
  | .delete id => st.deleteSelector id

/-- Run a history on a fresh index (`labelrestrictionindex.New`). -/
def runR (ops : List ROp) : RIdxS := ops.foldl ROp.apply {}

theorem apply_rinv {st : RIdxS} (h : RInv st) : ∀ op : ROp, RInv (op.apply st)
  | .add id n => addSelector_rinv h id n
  | .delete id => deleteSelector_rinv h id

theorem runR_rinv (ops : List ROp) : RInv (runR ops) :=
  List.foldlRecOn ops _ rinv_empty fun _ h op _ => apply_rinv h op

/-- FULL (histories, refinement): after ANY sequence of AddSelector / DeleteSelector,
the set of ids `AllPotentialMatches(item)` emits is exactly the set of stored
selectors that the specification `isCandidate` keeps for the item. -/
theorem ridx_refines_spec (ops : List ROp) (kvs : List (Str × Str)) (id : Nat) :
    id ∈ (runR ops).potentialMatches kvs ↔ id ∈ RIdx.candidates (runR ops).sels kvs :=
  potentialMatches_eq_candidates (runR_rinv ops) kvs id

/-- FULL (histories): a stored selector that matches the item is always emitted. -/
theorem ridx_complete (ops : List ROp) (kvs : List (Str × Str)) (id : Nat) (n : Node)
    (hst : lookup id (runR ops).sels = some n) (h : n.eval (Labels.ofList kvs) = true) :
    id ∈ (runR ops).potentialMatches kvs :=
  (ridx_refines_spec ops kvs id).mpr (candidates_complete _ id n kvs (mem_of_lookup hst) h)

theorem ridx_lookup_delete (st : RIdxS) (id : Nat) (x : Nat) :
    lookup x (st.deleteSelector id).sels = if x = id then none else lookup x st.sels := by
  unfold RIdxS.deleteSelector
  cases hl : lookup id st.sels with
  | none =>
    by_cases h : x = id
    · subst h; simp [hl]
    · simp [h]
  | some m => simp only [sels_unfile, lookup_erase]

/-- One step of "the stored selectors are the last `add` of each id not deleted since": `AddSelector` writes its id,
`ridx_lookup_delete` removes it, nothing else moves (no history form is stated). -/
theorem ridx_lookup_add (st : RIdxS) (id : Nat) (n : Node) (x : Nat) :
    lookup x (st.addSelector id n).sels = if id = x then some n else lookup x st.sels := by
  rw [addSelector_eq, sels_file, lookup_insert, ridx_lookup_delete]
  by_cases h : x = id
  · simp [h]
  · simp [h, Ne.symm h]

/-- For parser-built (well-formed) selectors, equal canonical text means equal
selector — so the model's text comparison in `updateSelector` is the comparison
`Selector.Equal` makes (up to hash collisions). -/
theorem selector_equal_iff {a b : Node} (ha : WF a) (hb : WF b) : a.text = b.text ↔ a = b := by
  constructor
  · intro h
    have e1 := parse_text a ha
    have e2 := parse_text b hb
    rw [h, e2] at e1
    injection e1 with e1
    exact e1.symm
  · rintro rfl; rfl

/-- a history exercising replacement and clean-up of the nested maps. -/
def rhistory : List ROp :=
  [.add 1 (.eq ['a'] ['x']), .add 2 (.has ['a']), .add 3 (.ne ['b'] ['y']), .add 1 (.inSet ['a'] [['y'], ['z']]),
   .delete 2]
example : (runR rhistory).potentialMatches [(['a'], ['y'])] = [1, 3] := by rfl
example : (runR rhistory).potentialMatches [(['a'], ['x'])] = [3] := by rfl
example : (runR (rhistory ++ [.delete 1])).byLabel.length = 0 := by rfl

/-- `a == "x" && has(b)`: both labels restricted; pruned for an item without `a=x`. -/
def selAB : Node := .and [.eq ['a'] ['x'], .has ['b']]
example : restrictions selAB =
    [(['b'], { mustBePresent := true }), (['a'], { mustBePresent := true, values := some [['x']] })] := by rfl
example : isCandidate selAB [(['a'], ['y']), (['b'], ['z'])] = false := by rfl
example : isCandidate selAB [(['a'], ['x'])] = true := by rfl
/-- an unsatisfiable selector is never a candidate. -/
example : isCandidate (.and [.eq ['a'] ['x'], .eq ['a'] ['y']]) [(['a'], ['x'])] = false := by rfl

def selA : Node := .eq ['a'] ['x']
def history : List Op :=
  [.updateSelector 0 selA, .updateLabels 7 [] [['p']], .updateParentLabels ['p'] [(['a'], ['x'])],
   .updateLabels 7 [(['a'], ['y'])] [['p']], .deleteParentLabels ['p']]

/-- the item inherits `a=x` from profile `p` (start), then its own `a=y` overrides it (stop). -/
example : (run history).2 = [.started 0 7, .stopped 0 7] := by rfl
example : (run history).1.matched = [] := by rfl
example : (run (history.take 3)).1.matched = [(0, 7)] := by rfl

end CalicoVerif.C07
