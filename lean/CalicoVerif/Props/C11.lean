import CalicoVerif.Proofs.C11Range
import CalicoVerif.Proofs.C11Long
import CalicoVerif.Proofs.C11ChainTop
/-!
C11 — BPF policy programs reach the same verdict as the policy semantics.

Everything below is proved for ALL inputs of the stated shape (no sampling), about the Lean model of
`polprog.Builder` + `asm.Block` that the correspondence run compares INSTRUCTION BY INSTRUCTION with
the real builder's output, executed by the eBPF-subset interpreter of `Model/C11Interp`, against the
reference verdict of `Model/C11Ref`.

Main theorems (the property), each with what it does NOT cover:

* `polprog_verdict_partial` — ONE program (IPv4 or IPv6) below the trampoline stride, not split
  (`NoSplit`: splitting disabled or fewer jump-class instructions than the per-program limit):
  for every `Rules` configuration whose policy and profile rules have allow/deny/pass/next-tier/log
  actions and API-valid criteria (`ProgOK`), with or without rule-hit recording, every packet state
  and IP-set environment, the instructions `Builder.Instructions` returns, run from the entry, end
  exactly as the reference verdict demands: tail call through the static jump map to the allow /
  deny index with `pol_rc` = 1 / 2, or (failed tail call) exit TC_ACT_SHOT / XDP_DROP with
  `pol_rc` = 10 / 2, or XDP_PASS for untracked policy that neither allows nor denies.  Covers all
  match criteria and negations (protocol; CIDRs — IPv4 one masked word, IPv6 up to four sections
  with the early exit to the per-CIDR end label; IP sets incl. the byte-exact 20- or 32-byte LPM key;
  numeric and named ports; ICMP type/code), `log` rules, rule-hit recording, tiers, pass,
  end-of-tier actions, profiles, pre-DNAT / apply-on-forward / normal host policy, host flags, XDP.
  NOT covered (`_partial`): programs beyond the stride and split builds (the next two theorems);
  the successful build `hi` and the successful state lookup `hs` are hypotheses here
  (`compile_total_partial` / `polprog_state_lookup_fails`).
* `polprog_verdict_long_partial` — ONE program of ANY length (splitting disabled): the long-jump
  trampolines of `asm.Block` are included.  NOT covered: the build succeeding beyond the stride
  (hypothesis `hi`); splitting enabled with trampolines.
* `polprog_chain_partial` — builds SPLIT into a chain of programs at any `maybeSplitProgram` call
  site (before a rule, a CIDR, a named-port set, after a port range): landing pads, `next-program`
  block, header + dispatch + reload of the continuation program; the chain of assembled programs
  (`runChain`) ends as the reference verdict demands.  NOT covered: trampolines INSIDE the programs
  of a split build (`ShortBlocks`), a failing policy-jump tail call and slot arithmetic beyond 32
  bits (`ChainEnv`); the build succeeding is a hypothesis here (`hi`) and proved in
  `compile_total_split_partial` / `polprog_chain_built_partial`.
* `compile_total_partial`, `polprog_built_verdict_partial` — `Builder.Instructions` neither panics
  nor does `Assemble` fail on valid input (`Buildable`), so the whole-program statement holds
  without a build hypothesis.  NOT covered: programs beyond the stride (split builds: next item).
* `compile_total_split_partial`, `polprog_chain_built_partial` — the same for SPLIT builds: every
  program of the chain assembles (each block ends with an empty fix-up table), so the chain theorem
  holds without a build hypothesis.  NOT covered: programs that reach the trampoline stride.
* `polprog_state_lookup_fails` — a failing state-map lookup drops the packet, state untouched
  (unsplit programs of any length).

Component theorems (about the models of `asm.Block`, for ALL event lists): `assemble_sound_all`
(assembling preserves the label-level semantics), `asm_jumps_in_range` (every resolved jump is
forward, ≤ 32767 and inside the program), `trampolines_sound_all` (inserting trampoline blocks
preserves the semantics), `assemble_total_all`.

Lemmas kept here for the reader but NOT in the theorem list of `checks/C11.json` (the listed theorems
are proved from them): shape of `expand` — `expand_noSplit_all`, `expand_relayed_all`,
`expand_cont_all`; intermediate layer (rule → policy → tier / profiles on the label-level
semantics) — `rule_guard`, `tiers_verdict`, `profiles_verdict`, `lrun_program_partial` (the whole
program before assembly).

Two statements that record code fixes (DESIGN §11): `profile_log_label` (a PROFILE `log` rule logs and continues —
profile log rules are inside `ProgOK`/`Buildable`) and `proto_names_agree` (the builder's
protocol table equals the API's for every known protocol).
-/
namespace CalicoVerif.C11

/-- Assembler soundness, for all event lists and machine states. -/
theorem assemble_sound_all (env : Env) (evs : List Ev) (prog : List Insn) (m : Mach)
    (ha : assemble evs = some prog) (hnf : (lrun env evs m).isFault = false) :
    execL env prog m = lrun env evs m :=
  assemble_sound env evs prog m ha hnf

-- non-vacuity: a program with a forward jump over dead code assembles (and the dead code is dropped)
example : assemble [jump .exit, movImm64 R0 7, .label .exit, movImm64 R0 2, exitI] =
    some [⟨opJumpA, 0, 0, 0, 0⟩, ⟨opMovImm64, 0, 0, 0, 2⟩, ⟨opExit, 0, 0, 0, 0⟩] := by decide

/-- Every jump the assembler resolves is forward, in int16 range and inside the program. -/
theorem asm_jumps_in_range (evs : List Ev) (prog : List Insn) (hp : InsPlain evs) (ha : assemble evs = some prog) :
    JumpsOK prog :=
  asm_jumps_ok evs none [] [] prog hp ha

-- non-vacuity: the example program above satisfies the hypothesis
example : InsPlain [jump .exit, movImm64 R0 7, .label .exit, movImm64 R0 2, exitI] := by
  intro i hi; simp [movImm64, exitI, mk, jump, mkJ] at hi; rcases hi with rfl | rfl | rfl <;> decide

/-- No splitting, no trampolines: one block with exactly the plain events. -/
theorem expand_noSplit_all (c : Cfg) (xdp : Bool) (bevs : List BEv) (h : c.policyMapStride = 0)
    (hlen : (flat bevs).length < c.trampolineStride) : expand c xdp bevs = [flat bevs] :=
  expand_one c xdp bevs (Or.inl h) hlen

/-- The match part of any API-valid rule is a guard for the reference `ruleMatch`
(IPv4 and IPv6 programs; `SetCtx`: full-size state value, IP-set map FD ≠ state map FD). -/
theorem rule_guard (env : Env) (st : List Byte) (hc : SetCtx env st) (rid : Nat) (r : Rule) (destLeg : Leg)
    (hok : RuleOK r) :
    Guard env st (.ruleNoMatch rid) (flat (ruleMatches env.c rid r destLeg)) (ruleMatch env (pktOfD st) destLeg r) :=
  (ruleMatches_guard env st hc rid r destLeg hok).1

/-- rule → policy → tier: `writeTiers` decides what the reference `evalTiers` decides. -/
theorem tiers_verdict (env : Env) (st : List Byte) (hc : SetCtx env st) (leg : Leg) (al : Label)
    (ts : List Tier) (rid tid : Nat) (hal : isAllowLabel al) (hts : TiersGood ts) :
    Decides env st (flat (writeTiers env.c leg al ts rid tid).1) (tiersDec al (evalTiers env (pktOfD st) leg ts)) :=
  (tiers_block env st hc leg al ts rid tid hal hts).1

/-- profiles: `writeProfiles` decides what the reference `evalProfiles` (pass ⇒ deny) decides. -/
theorem profiles_verdict (env : Env) (st : List Byte) (hc : SetCtx env st) (al : Label)
    (ps : List Policy) (noMatchID rid : Nat) (hal : isAllowLabel al)
    (hps : ProfsGood ps) :
    Decides env st (flat (writeProfiles env.c al ps noMatchID rid).1)
      (profDec al (evalProfiles true env (pktOfD st) ps)) :=
  (profiles_block env st hc al ps noMatchID rid hal hps).1

/-- Whole program on the label-level semantics (`_partial`: the plain event list of ONE program, before
assembly, trampolines and splitting — those are `polprog_verdict_partial` / `_long_partial` / `polprog_chain_partial`). -/
theorem lrun_program_partial (env : Env) (st : List Byte) (r : Rules) (hok : ProgOK env st r)
    (hs : env.stateOK = true) :
    ∃ o, (lrun env (flat (compile env.c r)) (Mach.init st)).obs = some o ∧
      (expectedObs env r.forXDP (verdict env r (pktOfD st))).agrees o = true :=
  lrun_program env st r hok hs

/-- **Whole program, assembled instructions** (IPv4 or IPv6 program, not split — `NoSplit`: splitting
disabled, or fewer jump-class instructions than the per-program limit — and shorter than the
trampoline stride): running the instructions `Builder.Instructions` returns ends as the reference
verdict demands. -/
theorem polprog_verdict_partial (env : Env) (st : List Byte) (r : Rules) (hok : ProgOK env st r)
    (hs : env.stateOK = true) (hnosplit : NoSplit env.c (flat (compile env.c r)))
    (hshort : (flat (compile env.c r)).length < env.c.trampolineStride)
    (prog : List Insn) (hi : instructions env.c r = some (some [prog])) :
    ∃ o, (execL env prog (Mach.init st)).obs = some o ∧
      (expectedObs env r.forXDP (verdict env r (pktOfD st))).agrees o = true :=
  polprog_verdict env st r hok hs hnosplit hshort prog hi

-- non-vacuity of `ProgOK`: a workload endpoint with one tier (allow TCP from 10.0.0.0/8 to port 80 in set 7) and a profile
def exRule1 : Rule :=
  { action := "allow", protocol := some (Proto.name "tcp"), srcNet := [{ v6 := false, addr := 167772160, pfx := 8 }],
    dstPorts := [{ first := 80, last := 80 }], dstIpSetIds := [7] }
def exRule2 : Rule := { action := "deny" }
def exRules : Rules :=
  { tiers := [{ endAction := EndAction.deny, endRuleID := 1, policies := [{ rules := [exRule1] }] }],
    profiles := [{ rules := [exRule2] }] }

theorem exRule2_ok : RuleOK exRule2 := by
  refine ⟨?_, ?_, ?_, ?_⟩ <;> intro x h <;> simp [Rule.ipSetIDs, exRule2] at h

theorem exRules_progOK (env : Env) (st : List Byte) (hc : SetCtx env st) : ProgOK env st exRules := by
  have hr1 : RuleOK exRule1 := by
    refine ⟨?_, ?_, ?_, ?_⟩
    · intro pr h
      simp [exRule1] at h
      subst h
      exact ⟨6, by decide, by decide, by decide⟩
    · intro pr h; simp [exRule1] at h
    · intro id h; simp [Rule.ipSetIDs, exRule1] at h; subst h; decide
    · intro pr h; simp [exRule1] at h; subst h; exact ⟨by decide, by decide, by decide⟩
  refine ⟨hc, ?_, nofun, nofun, nofun, ?_, nofun⟩ <;> simp [TiersGood, ProfsGood, exRules]
  · exact ⟨by decide, hr1⟩
  · exact ⟨by decide, exRule2_ok⟩

-- `SetCtx` is inhabited (distinct map FDs, a full-size state value)
example : SetCtx { c := exCfg } (List.replicate 512 0) :=
  ⟨List.length_replicate, by decide⟩
example : SetCtx { c := { exCfg with v6 := true } } (List.replicate 512 0) :=
  ⟨List.length_replicate, by decide⟩

-- the build hypothesis of `polprog_verdict_partial` is satisfiable: `exRules` compiles to ONE program
example : (match instructions exCfg exRules with
    | some (some [_]) => true
    | _ => false) = true := by decide +kernel

-- IPv6: a program with a /40 source CIDR (two sections, early exit) and a /128 (four sections) and an IP set
def exRule6 : Rule :=
  { action := "allow", protocol := some (Proto.name "udp"),
    srcNet := [{ v6 := true, addr := 0x20010db8ff0000000000000000000000, pfx := 40 }],
    notDstNet := [{ v6 := true, addr := 0x20010db8000000000000000000000001, pfx := 128 }], srcIpSetIds := [9] }
def exRules6 : Rules :=
  { tiers := [{ endAction := EndAction.pass, endRuleID := 1, policies := [{ rules := [exRule6] }] }],
    profiles := [{ rules := [exRule2] }] }
example : (match instructions { exCfg with v6 := true } exRules6 with
    | some (some [p]) => decide (0 < p.length)
    | _ => false) = true := by decide +kernel

example (env : Env) (st : List Byte) (hc : SetCtx env st) : ProgOK env st exRules6 := by
  have hr1 : RuleOK exRule6 := by
    refine ⟨?_, ?_, ?_, ?_⟩
    · intro pr h
      simp [exRule6] at h
      subst h
      exact ⟨17, by decide, by decide, by decide⟩
    · intro pr h; simp [exRule6] at h
    · intro id h; simp [Rule.ipSetIDs, exRule6] at h; subst h; decide
    · intro pr h; simp [exRule6] at h
  refine ⟨hc, ?_, nofun, nofun, nofun, ?_, nofun⟩ <;> simp [TiersGood, ProfsGood, exRules6]
  · exact ⟨by decide, hr1⟩
  · exact ⟨by decide, exRule2_ok⟩

-- ... short of the trampoline stride and without splitting
example : exCfg.policyMapStride = 0 ∧ (flat (compile exCfg exRules)).length < exCfg.trampolineStride := by
  decide +kernel

/-- **compile_total (IPv4 or IPv6, not split)**: for every configuration whose policy and profile
rules have an allow/deny/pass/next-tier/log action and carry non-zero IP-set ids and at most one destination
IP set (`Buildable` — what the calculation graph hands to the builder), the builder neither panics nor does
`Assemble` fail: every jump it emits targets a label defined LATER in the program, at most 32767 instructions
ahead.  `hshort`/`hstride`: the program fits one block below the trampoline stride
(the stride is `TrampolineStrideDefault` = 32667 unless `SetTrampolineStride` is given a value below 2^14).
`_partial`: NOT covered are split builds (those: `compile_total_split_partial`) and programs beyond the trampoline
stride (there `Assemble` succeeding is checked by the instruction-exact run only). -/
theorem compile_total_partial (c : Cfg) (r : Rules) (hb : Buildable r)
    (hnosplit : NoSplit c (flat (compile c r))) (hshort : (flat (compile c r)).length < c.trampolineStride)
    (hstride : c.trampolineStride ≤ 32768) :
    ∃ prog, instructions c r = some (some [prog]) :=
  instructions_total c r hb hnosplit hshort hstride

/-- `Assemble` succeeds on ANY event list whose jumps all target later labels and that has at most
32767 events (the assembler model that is compared with the real `Block.Assemble`). -/
theorem assemble_total_all (evs : List Ev) (hc : closedIn [] evs = true) (hlen : evs.length ≤ 32767) :
    ∃ prog, assemble evs = some prog :=
  assemble_total evs hc hlen

/-- The whole-program theorem without a build hypothesis: the program EXISTS and decides as the
reference demands (`_partial`: one unsplit program below the stride, like `compile_total_partial`). -/
theorem polprog_built_verdict_partial (env : Env) (st : List Byte) (r : Rules) (hok : ProgOK env st r)
    (hb : Buildable r) (hs : env.stateOK = true) (hnosplit : NoSplit env.c (flat (compile env.c r)))
    (hshort : (flat (compile env.c r)).length < env.c.trampolineStride)
    (hstride : env.c.trampolineStride ≤ 32768) :
    ∃ prog, instructions env.c r = some (some [prog]) ∧
      ∃ o, (execL env prog (Mach.init st)).obs = some o ∧
        (expectedObs env r.forXDP (verdict env r (pktOfD st))).agrees o = true := by
  obtain ⟨prog, hi⟩ := instructions_total env.c r hb hnosplit hshort hstride
  exact ⟨prog, hi, polprog_verdict_partial env st r hok hs hnosplit hshort prog hi⟩

-- non-vacuity: the example configuration is buildable, the stride bound holds for the default stride
example : Buildable exRules := by
  have i1 : RuleIds exRule1 := ⟨by decide, by intro id h; simp [Rule.ipSetIDs, exRule1] at h; subst h; decide⟩
  have i2 : RuleIds exRule2 := ⟨by decide, by intro id h; simp [Rule.ipSetIDs, exRule2] at h⟩
  refine ⟨?_, nofun, nofun, nofun, ?_, nofun⟩ <;> simp [TiersBuild, ProfsBuild, exRules]
  · exact ⟨by decide, i1⟩
  · exact ⟨by decide, i2⟩
example : exCfg.trampolineStride ≤ 32768 := by decide

-- `assemble_total_all`: a closed list, and why closedness is needed (a jump to an undefined label does not assemble)
example : closedIn [] [jump .exit, movImm64 R0 7, .label .exit, movImm64 R0 2, exitI] = true := by decide
example : assemble [jump .deny] = none := by decide

/-- **Whole program, unsplit, ANY length** (`policyMapStride = 0`): when the program is longer than the
trampoline stride the block inserts long-jump trampolines (`JumpA skip; (t: JumpA t)*; skip:`) for the
still unresolved jump targets; the instructions `Builder.Instructions` returns still end as the
reference verdict demands.  `_partial`: NOT covered are builds with splitting enabled, and the build
succeeding is a hypothesis (`hi`; `compile_total_partial` proves it only for programs below the stride). -/
theorem polprog_verdict_long_partial (env : Env) (st : List Byte) (r : Rules) (hok : ProgOK env st r)
    (hs : env.stateOK = true) (hnosplit : env.c.policyMapStride = 0)
    (prog : List Insn) (hi : instructions env.c r = some (some [prog])) :
    ∃ o, (execL env prog (Mach.init st)).obs = some o ∧
      (expectedObs env r.forXDP (verdict env r (pktOfD st))).agrees o = true :=
  polprog_verdict_long env st r hok hs hnosplit prog hi

/-- Inserting trampoline blocks anywhere (not before the second slot of a `LoadImm64`, not for skip
labels) into ANY event list whose jumps do not target skip labels preserves its semantics. -/
theorem trampolines_sound_all (env : Env) (o n : List Ev) (h : Relayed o n) (hn : NoSkipJ o) (m : Mach) :
    lrun env n m = lrun env o m :=
  (relayed_sound env h hn).1 m

/-- With splitting disabled the builder's single block is the plain event list with trampolines. -/
theorem expand_relayed_all (c : Cfg) (xdp : Bool) (bevs : List BEv) (hns : c.policyMapStride = 0)
    (hn : NoSkipJ (flat bevs)) : ∃ n, expand c xdp bevs = [n] ∧ Relayed (flat bevs) n :=
  expand_relayed c xdp bevs hns hn

-- `expand_relayed_all`: no jump of the builder's output targets a trampoline-skip label
example (env : Env) (st : List Byte) (hc : SetCtx env st) : NoSkipJ (flat (compile env.c exRules)) :=
  compile_noSkipJ env st exRules (exRules_progOK env st hc)

-- non-vacuity: with a trampoline stride of 20 the example program really gets trampolines
-- (the block is longer than the plain event list) and still builds to one program
example : (match expand { exCfg with trampolineStride := 20 } false (compile { exCfg with trampolineStride := 20 } exRules) with
    | [n] => decide ((flat (compile { exCfg with trampolineStride := 20 } exRules)).length < n.length)
    | _ => false) = true := by decide +kernel
example : (match instructions { exCfg with trampolineStride := 20 } exRules with
    | some (some [_]) => true
    | _ => false) = true := by decide +kernel

-- `NoSplit` also covers the production setting: splitting enabled, fewer jumps than the limit
example : NoSplit { exCfg with policyMapStride := 1000 } (flat (compile { exCfg with policyMapStride := 1000 } exRules)) :=
  Or.inr (by decide +kernel)

-- `trampolines_sound_all`: a list with one trampoline block (for `deny`) in front of its second instruction
example : Relayed [movImm64 R0 1, jump .deny, .label .deny, exitI]
    (movImm64 R0 1 :: (trampBlock 0 [.deny] ++ jump .deny :: [.label .deny, exitI])) :=
  .cons _ (.tramp 0 [.deny] _ (by intro t ht; simp at ht; subst ht; rfl) (by intro j hj; simp [jump, mkJ] at hj)
    (Relayed.refl _))
example : NoSkipJ [movImm64 R0 1, jump .deny, .label .deny, exitI] := by
  intro i l h; simp [movImm64, exitI, mk, jump, mkJ] at h; rw [h.2]; rfl

-- `polprog_state_lookup_fails`: an environment whose state lookup fails
example : ({ c := exCfg, stateOK := false } : Env).stateOK = false := rfl

/-- **The state-map lookup of the header fails** (no `cali_tc_state` entry): the program (unsplit, any
length) exits with TC_ACT_SHOT (XDP: XDP_DROP) and leaves the state value, hence `pol_rc`, untouched. -/
theorem polprog_state_lookup_fails (env : Env) (st : List Byte) (r : Rules) (hok : ProgOK env st r)
    (hs : env.stateOK = false) (hnosplit : env.c.policyMapStride = 0)
    (prog : List Insn) (hi : instructions env.c r = some (some [prog])) :
    ∃ m, m.st = st ∧ execL env prog (Mach.init st) = .exit (sext32 (if r.forXDP then 1 else 2)) m :=
  polprog_stateFail env st r hok hs hnosplit prog hi

/-- **Split builds** (`maybeSplitProgram`): when the per-program jump limit is reached at one of the
builder's call sites (before every rule, every CIDR, every named-port set, after every port range) the
current program is finished with `mov r0, 0; goto next-program`, a copy of the footer, a landing pad per
still unresolved jump target (`t_i: mov r0, i+1; goto next-program`) and the `next-program` block (stash
R0 in `pol_rc`, tail-call the next program through the policy jump map); the next program starts with
the header, reads R0 back from `pol_rc`, clears it, dispatches `if r0 == i+1 goto t_i`, and re-executes
the reload instructions of the call site (the port loop reloads the port into R1).

The theorem: for every configuration as in `polprog_verdict_partial`, the programs
`Builder.Instructions` returns, run as a CHAIN from the first one (a successful policy-jump tail call
continues in the addressed later program with fresh registers and stack and the state as it is), end
as the reference verdict demands.  `ChainEnv`: state lookups and policy-jump tail calls succeed, the
slots `policyMapIndex + k * stride` of the `nmax + 1` programs fit 32 bits, the two jump maps differ.
`ShortBlocks`: no program reaches the trampoline stride (so no trampoline is written inside a
split program).  `_partial`: NOT covered are trampolines inside the programs of a split build
(`ShortBlocks`), a FAILING policy-jump tail call (`ChainEnv` assumes success; the code then falls through
to the `exit` after the call with the drop code), slot arithmetic beyond 32 bits; the build succeeding is a
hypothesis here (`hi`), discharged in `polprog_chain_built_partial`. -/
theorem polprog_chain_partial (env : Env) (st : List Byte) (r : Rules) (hok : ProgOK env st r) (nmax : Nat)
    (he : ChainEnv env nmax) (hsb : ShortBlocks env.c r.forXDP (compile env.c r) {})
    (hnb : (cont env.c r.forXDP (compile env.c r) {}).2.length ≤ nmax)
    (progs : List (List Insn)) (hi : instructions env.c r = some (some progs)) :
    ∃ o, (runChain env progs 0 st).obs = some o ∧
      (expectedObs env r.forXDP (verdict env r (pktOfD st))).agrees o = true :=
  polprog_chain env st r hok nmax he hsb hnb progs hi

/-- The programs `expand` produces when no block reaches the trampoline stride: the split fold
`cont` (bookkeeping with `raw` only). -/
theorem expand_cont_all (c : Cfg) (xdp : Bool) (bevs : List BEv) (hs : ShortBlocks c xdp bevs {}) :
    expand c xdp bevs = (cont c xdp bevs {}).1 :: (cont c xdp bevs {}).2 :=
  expand_cont c xdp bevs hs

-- non-vacuity: with a jump limit of 6 the example configuration is really split (4 programs),
-- the hypotheses of `polprog_chain_partial` hold for it, and the chain is what `Instructions` returns
def exCfgSplit : Cfg := { exCfg with maxJumps := 6, policyMapStride := 1000, policyMapIndex := 3 }
example : (cont exCfgSplit false (compile exCfgSplit exRules) {}).2.length = 3 := by decide +kernel
example : (match instructions exCfgSplit exRules with
    | some (some [_, _, _, _]) => true
    | _ => false) = true := by decide +kernel
example : ShortBlocks exCfgSplit false (compile exCfgSplit exRules) {} := by
  unfold ShortBlocks; decide +kernel
example : ChainEnv { c := exCfgSplit } 3 :=
  ⟨rfl, rfl, by decide, by decide, by decide, by decide, by decide, by decide⟩
example : ProgOK { c := exCfgSplit } (List.replicate 512 0) exRules :=
  exRules_progOK _ _ ⟨List.length_replicate, by decide⟩

/-- **`Builder.Instructions` is total on SPLIT builds**: for a buildable configuration (`Buildable`, as in
`compile_total_partial`) whose programs all stay below the trampoline stride, the builder neither panics nor
does `Assemble` fail for ANY program of the chain: at every split each still unresolved jump target gets a
landing pad, `next-program` is defined by the glue, the dispatch jumps of the continuation program are
resolved later or get landing pads again, so every block ends with an empty fix-up table (`cont_fix`), and a
block with an empty fix-up table of at most 32767 events assembles (`asm_of_fix`).  `_partial`: NOT covered
are programs that reach the trampoline stride (`ShortBlocks`). -/
theorem compile_total_split_partial (c : Cfg) (r : Rules) (hb : Buildable r)
    (hsb : ShortBlocks c r.forXDP (compile c r) {}) (hstride : c.trampolineStride ≤ 32767) :
    ∃ progs, instructions c r = some (some progs) :=
  instructions_total_split c r hb hsb hstride

/-- `polprog_chain_partial` without a build hypothesis: the chain of programs EXISTS and decides as the
reference demands.  `_partial`: NOT covered are trampolines inside the programs of a split build
(`ShortBlocks`), a failing policy-jump tail call and slot arithmetic beyond 32 bits (`ChainEnv`). -/
theorem polprog_chain_built_partial (env : Env) (st : List Byte) (r : Rules) (hok : ProgOK env st r)
    (hb : Buildable r) (nmax : Nat) (he : ChainEnv env nmax)
    (hsb : ShortBlocks env.c r.forXDP (compile env.c r) {})
    (hnb : (cont env.c r.forXDP (compile env.c r) {}).2.length ≤ nmax) (hstride : env.c.trampolineStride ≤ 32767) :
    ∃ progs, instructions env.c r = some (some progs) ∧
      ∃ o, (runChain env progs 0 st).obs = some o ∧
        (expectedObs env r.forXDP (verdict env r (pktOfD st))).agrees o = true :=
  polprog_chain_built env st r hok hb nmax he hsb hnb hstride

-- non-vacuity: the split example configuration satisfies the extra hypotheses (`Buildable exRules` and
-- `ShortBlocks exCfgSplit …` are shown above)
example : exCfgSplit.trampolineStride ≤ 32767 := by decide
-- every call site's reload sequence is jump-free (the hypothesis `cont_fix` needs, proved for all inputs)
example : (compile exCfgSplit exRules).all mOK = true := by decide +kernel

/-! ### Findings fixed in the code (de590aa, c209e06), as positive statements -/

/-- `writeProfile`'s action-label map sends `log` (valid in the Calico API) to the log label, so a PROFILE rule with
that action sets the log flag and evaluation continues — what `polprog_verdict_partial` / `compile_total_partial`
state for ALL valid profile actions (`ProfsGood`/`Buildable` ask for allow/deny/pass/next-tier/log, like for policy
rules). Before the fix `Builder.Instructions` panicked on it ("empty action label"). -/
theorem profile_log_label (al : Label) : profileActionLabel al "log" = .log ∧ profileActionLabel al "Log" = .log := by
  constructor <;> (rw [profileActionLabel_actOf]; rfl)

-- the counterexample of the finding builds (and so does a tier policy with the same rule)
example : (instructions {} { profiles := [⟨[{ action := "log" }]⟩] }).isSome = true := by decide
example : (instructions {} { tiers := [{ endAction := .deny, endRuleID := 0, policies := [⟨[{ action := "log" }]⟩] }] }).isSome = true := by
  decide
-- ... and it is inside the hypotheses of the whole-program theorems
example : Buildable { profiles := [⟨[{ action := "log" }, { action := "allow" }]⟩] } := by
  refine ⟨nofun, nofun, nofun, nofun, ?_, nofun⟩
  simp [ProfsBuild]
  constructor <;> exact ⟨by decide, by decide, by intro id h; simp [Rule.ipSetIDs] at h⟩

/-- **The builder's protocol-name table agrees with the API**: every protocol the reference semantics knows is
compiled to its IANA number, so the `ProtoOK` side condition of `ProgOK` holds for every API-valid
protocol (before the fix the table knew tcp/udp/icmp/sctp only and compiled `icmpv6` / `udplite` to protocol 0). -/
theorem proto_names_agree (pr : Proto) (k : Nat) (h : protoNumberRef pr = some k) :
    protocolToNumber pr = (k : Int) ∧ ProtoOK pr := by
  obtain ⟨k', hk', h1, h2⟩ := protoOK_of_ref pr k h
  rw [h] at h1; cases h1
  exact ⟨h2, protoOK_of_ref pr k h⟩

example : protocolToNumber (.name "ICMPv6") = 58 ∧ protocolToNumber (.name "udplite") = 136 := by decide

end CalicoVerif.C11
