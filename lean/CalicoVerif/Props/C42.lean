import CalicoVerif.Proofs.C42
import CalicoVerif.Proofs.CoreFacts
/-!
C42 — BPF service load balancing state is never inconsistent mid-update.

Property theorems (helper lemmas: `CalicoVerif.Proofs.C42`, model: `CalicoVerif.Model.C42`).

* `Consistent d`: every frontend's backend count refers only to backend entries that exist.
* `Reach n d0 σ`: `σ` is reachable from the maps `d0` by single map writes of one `apply` whose
  desired state is `n` — in ANY order inside a phase, with ANY writes failing, stopping ANYWHERE.

Then exactness: a completed sync leaves exactly the desired maps (`apply_final_exact`), which hold each service's
ready endpoints and nothing stale.  The primed theorems replace the hypothesis that no two `updateService` calls share
an ID by the bookkeeping invariant `WFPrev`, which every `GoodSyncer` (fresh after a restart, or in steady state)
satisfies when it builds the desired maps.
-/
namespace CalicoVerif.C42

/-- **After every individual map write** of one sync — whatever the order inside a phase, whichever
writes fail, wherever the process stops — the maps stay consistent, provided they were consistent
before and the desired state is consistent. -/
theorem prefix_consistent {n d0 : DP} (hn : Consistent n) (h0 : Consistent d0) {σ : St}
    (r : Reach n d0 σ) : Consistent σ.dp :=
  (r.inv hn h0).consistent hn

/-- The desired maps `apply` computes are consistent for every syncer state (also a stale or
half-initialised one), every service/endpoint state, every service order and every ID choice. -/
theorem desired_consistent (s : Syncer) (st : KState) (hint : AMap SvcKey Nat) :
    Consistent (buildDesired s st hint).des :=
  (buildDesired_ok s st hint).cons

/-- One sync by any syncer from consistent maps: consistent after every single write. -/
theorem apply_any_order_consistent (s : Syncer) (st : KState) (hint : AMap SvcKey Nat) {d : DP}
    (h0 : Consistent d) {σ : St} (r : Reach (buildDesired s st hint).des d σ) : Consistent σ.dp :=
  prefix_consistent (desired_consistent s st hint) h0 r

/-- Map states reachable from empty maps by ANY history of syncs: each sync by a syncer in an
arbitrary internal state (this covers restarts, failed and half-done earlier syncs), for an
arbitrary service/endpoint state, executed up to an arbitrary point (crash = stop). -/
inductive DPReach : DP → Prop
  | empty : DPReach ⟨[], []⟩
  | sync {d : DP} (s : Syncer) (st : KState) (hint : AMap SvcKey Nat) {σ : St} :
      DPReach d → Reach (buildDesired s st hint).des d σ → DPReach σ.dp

/-- **All histories, all crash points**: every map state ever observable is consistent. -/
theorem history_consistent {d : DP} (h : DPReach d) : Consistent d := by
  induction h with
  | empty => exact consistent_empty
  | sync s st hint _ r ih => exact apply_any_order_consistent s st hint ih r

theorem startupBuildPrev_dp (s : Syncer) (st : KState) : (startupBuildPrev s st).dp = s.dp := rfl

/-- the syncer state `Syncer.apply` builds the desired maps from. -/
def prepared (s : Syncer) (st : KState) : Syncer :=
  if s.synced then { s with prevSvc := s.newSvc, prevEps := s.newEps } else startupBuildPrev s st

theorem prepared_dp (s : Syncer) (st : KState) : (prepared s st).dp = s.dp := by
  unfold prepared; split <;> rfl

theorem apply_phases (s : Syncer) (st : KState) (hint : AMap SvcKey Nat) (fp : Nat) :
    (s.apply st hint fp).phases = (schedule s.dp (buildDesired (prepared s st) st hint).des fp).1 := by
  rw [← prepared_dp s st]; rfl

theorem apply_ok (s : Syncer) (st : KState) (hint : AMap SvcKey Nat) (fp : Nat) :
    (s.apply st hint fp).ok = (schedule s.dp (buildDesired (prepared s st) st hint).des fp).2 := by
  rw [← prepared_dp s st]; rfl

theorem apply_dp (s : Syncer) (st : KState) (hint : AMap SvcKey Nat) (fp : Nat) :
    (s.apply st hint fp).syncer.dp = runWrites s.dp (s.apply st hint fp).phases.flatten := by
  rw [← prepared_dp s st]; rfl

/-- The model's `Apply`: after every prefix of the writes it performs (phase `fp` failing or not)
the maps are consistent. -/
theorem apply_every_write_consistent (s : Syncer) (st : KState) (hint : AMap SvcKey Nat) (fp : Nat)
    (h0 : Consistent s.dp) {ws : List Write} (h : ws <+: (s.apply st hint fp).phases.flatten) :
    Consistent (runWrites s.dp ws) := by
  rw [apply_phases] at h
  obtain ⟨ph, r⟩ := fullWrites_reach s.dp _ (h.trans (schedule_prefix _ _ fp))
  exact apply_any_order_consistent _ st hint h0 r

/-- histories of the executable model: syncs (with an optional failing phase) and restarts. -/
inductive Op where
  | sync (st : KState) (hint : AMap SvcKey Nat) (failPhase : Nat)
  | restart (npIPs : List Nat) (routes : AMap Nat Route)

def runOp (s : Syncer) : Op → Syncer
  | .sync st hint fp => (s.apply st hint fp).syncer
  | .restart np rts => Syncer.new np rts s.dp

def runOps (s : Syncer) (ops : List Op) : Syncer := ops.foldl runOp s

theorem runOps_dpReach (s : Syncer) (hs : DPReach s.dp) (ops : List Op) : DPReach (runOps s ops).dp := by
  induction ops generalizing s with
  | nil => exact hs
  | cons op ops ih =>
    apply ih
    cases op with
    | restart np rts => exact hs
    | sync st hint fp =>
      simp only [runOp]
      rw [apply_dp, apply_phases]
      obtain ⟨ph, r⟩ := fullWrites_reach s.dp _ (schedule_prefix s.dp (buildDesired (prepared s st) st hint).des fp)
      exact DPReach.sync _ st hint hs r

/-- every history of the model from empty maps: consistent after every single write of every sync. -/
theorem model_history_every_write (np : List Nat) (rts : AMap Nat Route) (ops : List Op)
    (st : KState) (hint : AMap SvcKey Nat) (fp : Nat) {ws : List Write}
    (h : ws <+: ((runOps (Syncer.new np rts ⟨[], []⟩) ops).apply st hint fp).phases.flatten) :
    Consistent (runWrites (runOps (Syncer.new np rts ⟨[], []⟩) ops).dp ws) :=
  apply_every_write_consistent _ st hint fp
    (history_consistent (runOps_dpReach _ DPReach.empty ops)) h

theorem schedule_ok (d n : DP) (fp : Nat) (h : (schedule d n fp).2 = true) :
    (schedule d n fp).1.flatten = fullWrites d n := by
  obtain ⟨k, e, hk⟩ := schedule_cases d n fp
  rw [e, hk h]; rfl

/-- **Final exactness / stale entries removed**: when `Apply` succeeds, the frontend and backend maps
are exactly the desired maps: every desired entry is present with its value and nothing else is. -/
theorem apply_final_exact (s : Syncer) (st : KState) (hint : AMap SvcKey Nat) (fp : Nat)
    (hok : (s.apply st hint fp).ok = true) :
    (∀ k, (s.apply st hint fp).syncer.dp.F.get k = (buildDesired (prepared s st) st hint).des.F.get k) ∧
    (∀ k, (s.apply st hint fp).syncer.dp.B.get k = (buildDesired (prepared s st) st hint).des.B.get k) := by
  have hok' : (schedule s.dp (buildDesired (prepared s st) st hint).des fp).2 = true := by
    rw [← apply_ok]; exact hok
  rw [apply_dp, apply_phases, schedule_ok _ _ _ hok']
  exact fullWrites_exact _ _

theorem mem_readyOrdered (eps : List Ep) (e : Ep) : e ∈ readyOrdered eps ↔ e ∈ eps ∧ e.ready = true := by
  simp only [readyOrdered, List.mem_append, List.mem_filter, Bool.and_eq_true, Bool.not_eq_true']
  constructor
  · rintro (⟨h, _, h2⟩ | ⟨h, _, h2⟩) <;> exact ⟨h, h2⟩
  · rintro ⟨h, h2⟩
    cases hl : e.isLocal
    · exact Or.inr ⟨h, rfl, h2⟩
    · exact Or.inl ⟨h, rfl, h2⟩

theorem readyOrdered_local_first (eps : List Ep) (i : Nat) (hi : i < (readyOrdered eps).length) :
    (readyOrdered eps)[i].isLocal = decide (i < localReady eps) := by
  unfold readyOrdered localReady at *
  by_cases h : i < (eps.filter (fun e => e.isLocal && e.ready)).length
  · rw [List.getElem_append_left h]
    have := List.getElem_mem h
    simp only [List.mem_filter, Bool.and_eq_true] at this
    simp [h, this.2.1]
  · rw [List.getElem_append_right (by omega)]
    have hm := List.getElem_mem (l := eps.filter (fun e => !e.isLocal && e.ready))
      (n := i - (eps.filter (fun e => e.isLocal && e.ready)).length) (by simp at hi; omega)
    simp only [List.mem_filter, Bool.and_eq_true, Bool.not_eq_true'] at hm
    simp [h, hm.2.1]

/-! `calls` / `fwrites` are ghost traces of the builder: every `updateService(skey, id, eps)` call and every
`bpfSvcs.Desired().Set(key, val)`.  Hypotheses: no NAT service ID is used by two `updateService` calls of
the sync (monitored on the real code by the harness oracle `id-shared`) and no frontend key is `Set`
twice ("we assume that k8s provide us with no duplicities", syncer.go). -/

/-- **Exactness of the cluster-IP frontend**: in the desired maps of a sync, the service's
`clusterIP:port` frontend carries the number of its ready endpoints and of its local ready endpoints, and
its backend `i` is the `i`-th ready endpoint in the order local first (`readyOrdered`,
`mem_readyOrdered`, `readyOrdered_local_first`). -/
theorem cluster_ip_frontend_exact (s : Syncer) (st : KState) (hint : AMap SvcKey Nat) (sname : String) (svc : Svc)
    (hm : (sname, svc) ∈ st.svcs)
    (hF : ((buildDesired s st hint).fwrites.map (·.1)).Nodup)
    (hI : ((buildDesired s st hint).calls.map (·.2.1)).Nodup) :
    ∃ v, (buildDesired s st hint).des.F.get (zeroKey svc) = some v ∧
      v.count = (readyOrdered (epsFor s st sname svc)).length ∧ v.lcl = localReady (epsFor s st sname svc) ∧
      v.aff = affOf svc ∧
      ∀ i (hi : i < (readyOrdered (epsFor s st sname svc)).length),
        (buildDesired s st hint).des.B.get ⟨v.id, i⟩ =
          some ⟨(readyOrdered (epsFor s st sname svc))[i].ip, (readyOrdered (epsFor s st sname svc))[i].port⟩ := by
  obtain ⟨id, r⟩ := service_recorded s st hint sname svc hm
  have hb : BOK (buildDesired s st hint) := Pres.buildDesired BOK_pres s st hint (fun _ c h => by simp at h)
  exact ⟨_, desired_of_write s st hint hF r.prim, rfl, rfl, rfl, fun i hi => hb hI _ r.call i hi⟩

/-- … and therefore in the kernel maps once the sync completed. -/
theorem synced_cluster_ip_frontend_exact (s : Syncer) (st : KState) (hint : AMap SvcKey Nat) (fp : Nat)
    (hok : (s.apply st hint fp).ok = true) (sname : String) (svc : Svc) (hm : (sname, svc) ∈ st.svcs)
    (hF : ((buildDesired (prepared s st) st hint).fwrites.map (·.1)).Nodup)
    (hI : ((buildDesired (prepared s st) st hint).calls.map (·.2.1)).Nodup) :
    ∃ v, (s.apply st hint fp).syncer.dp.F.get (zeroKey svc) = some v ∧
      v.count = (readyOrdered (epsFor (prepared s st) st sname svc)).length ∧
      v.lcl = localReady (epsFor (prepared s st) st sname svc) ∧
      ∀ i (hi : i < (readyOrdered (epsFor (prepared s st) st sname svc)).length),
        (s.apply st hint fp).syncer.dp.B.get ⟨v.id, i⟩ =
          some ⟨(readyOrdered (epsFor (prepared s st) st sname svc))[i].ip,
                (readyOrdered (epsFor (prepared s st) st sname svc))[i].port⟩ := by
  obtain ⟨v, h1, h2, h3, _, h5⟩ := cluster_ip_frontend_exact (prepared s st) st hint sname svc hm hF hI
  obtain ⟨eF, eB⟩ := apply_final_exact s st hint fp hok
  exact ⟨v, by rw [eF]; exact h1, h2, h3, fun i hi => by rw [eB]; exact h5 i hi⟩

/-- **Exactness of the derived frontends**: in the desired maps of a sync every external-IP,
LoadBalancer (per source range, if configured) and node-port frontend of a service carries the same
ID, count and local count as its cluster-IP frontend — i.e. lists the same backend block. -/
theorem derived_frontends_exact (s : Syncer) (st : KState) (hint : AMap SvcKey Nat) (sname : String) (svc : Svc)
    (hm : (sname, svc) ∈ st.svcs)
    (hF : ((buildDesired s st hint).fwrites.map (·.1)).Nodup) :
    ∃ v, (buildDesired s st hint).des.F.get (zeroKey svc) = some v ∧
      ∀ k ∈ derivedKeys s svc, ∃ v', (buildDesired s st hint).des.F.get k = some v' ∧
        v'.id = v.id ∧ v'.count = v.count ∧ v'.lcl = v.lcl := by
  obtain ⟨id, r⟩ := service_recorded s st hint sname svc hm
  refine ⟨_, desired_of_write s st hint hF r.prim, fun k hk => ?_⟩
  obtain ⟨v', hm', h⟩ := r.derived k hk
  exact ⟨v', desired_of_write s st hint hF hm', h⟩

/-- **the IDs of one sync are pairwise distinct**: if the previous-sync bookkeeping is well formed, the
services have distinct names (keys of a Go map) and the fresh IDs are a legal outcome of `newSvcID`
(distinct, not below `nextSvcID`; the driver's `bad-hint` check), no NAT ID is used by two
`updateService` calls. -/
theorem calls_ids_nodup (s : Syncer) (wf : WFPrev s.prevSvc s.nextId) (st : KState) (hint : AMap SvcKey Nat)
    (hnames : (st.svcs.map (·.1)).Nodup)
    (hfresh : FreshGood s.nextId (buildDesired s st hint)) :
    ((buildDesired s st hint).calls.map (·.2.1)).Nodup :=
  (buildDesired_idInv s wf st hint hnames).ids hfresh

/-- **the next sync inherits a well-formed bookkeeping** (steady state: `prevSvcMap = newSvcMap`). -/
theorem wfPrev_next (s : Syncer) (wf : WFPrev s.prevSvc s.nextId) (st : KState) (hint : AMap SvcKey Nat)
    (hnames : (st.svcs.map (·.1)).Nodup) (hfr : freshOk s.nextId (buildDesired s st hint).fresh = true) :
    WFPrev (buildDesired s st hint).newSvc (buildDesired s st hint).nextId := by
  obtain ⟨hfg, hrange⟩ := freshGood_of_freshOk hfr
  have hids := calls_ids_nodup s wf st hint hnames hfg
  have nx := NextInv.buildDesired s st hint
  have inv := buildDesired_idInv s wf st hint hnames
  constructor
  · intro sk info ho hg
    obtain ⟨eps, hc⟩ := nx.own sk info ho hg
    rw [nx.nid]
    rcases inv.cls _ hc with ⟨info', hi', hid'⟩ | hfrm
    · have := wf.lt sk info' ho hi'
      simp only at hid'; omega
    · exact hrange _ hfrm
  · intro sk1 sk2 i1 i2 ho1 ho2 h1 h2 hne hid
    obtain ⟨e1, hc1⟩ := nx.own sk1 i1 ho1 h1
    obtain ⟨e2, hc2⟩ := nx.own sk2 i2 ho2 h2
    have := inj_of_nodup_map hids hc1 hc2 hid
    exact hne (congrArg Prod.fst this)

theorem wfPrev_empty (n : Nat) : WFPrev [] n :=
  ⟨fun _ _ _ h => by simp [AMap.get] at h, fun _ _ _ _ _ _ h => by simp [AMap.get] at h⟩

/-- **Exactness without the ID hypothesis**: for a syncer with well-formed bookkeeping, distinct
service names and a legal ID hint, the cluster-IP frontend of every service lists exactly its ready
endpoints, local ones first — provided only that no frontend key is `Set` twice (the code's
"no duplicities" assumption). -/
theorem cluster_ip_frontend_exact' (s : Syncer) (wf : WFPrev s.prevSvc s.nextId) (st : KState) (hint : AMap SvcKey Nat)
    (hnames : (st.svcs.map (·.1)).Nodup) (hfr : freshOk s.nextId (buildDesired s st hint).fresh = true)
    (sname : String) (svc : Svc) (hm : (sname, svc) ∈ st.svcs)
    (hF : ((buildDesired s st hint).fwrites.map (·.1)).Nodup) :
    ∃ v, (buildDesired s st hint).des.F.get (zeroKey svc) = some v ∧
      v.count = (readyOrdered (epsFor s st sname svc)).length ∧ v.lcl = localReady (epsFor s st sname svc) ∧
      ∀ i (hi : i < (readyOrdered (epsFor s st sname svc)).length),
        (buildDesired s st hint).des.B.get ⟨v.id, i⟩ =
          some ⟨(readyOrdered (epsFor s st sname svc))[i].ip, (readyOrdered (epsFor s st sname svc))[i].port⟩ := by
  obtain ⟨v, h1, h2, h3, _, h5⟩ := cluster_ip_frontend_exact s st hint sname svc hm hF
    (calls_ids_nodup s wf st hint hnames (freshGood_of_freshOk hfr).1)
  exact ⟨v, h1, h2, h3, h5⟩

/-- **restart**: the bookkeeping a fresh syncer adopts from whatever is in the maps is well formed —
IDs found twice under different services are not adopted (`duplicateIDs`), `nextSvcID` is above
every matched ID. -/
theorem wfPrev_startup (s : Syncer) (hs : s.prevSvc = []) (st : KState) :
    WFPrev (startupBuildPrev s st).prevSvc (startupBuildPrev s st).nextId := by
  unfold startupBuildPrev
  simp only [hs]
  generalize hfes : matchedFrontends s.npIPs st.svcs s.dp.F = fes
  -- `nextSvcID` is a running maximum of `id + 1` over the matched frontends
  have hmax : ∀ fe ∈ fes, fe.2.id < fes.foldl (fun n fe => if fe.2.id ≥ n then fe.2.id + 1 else n) s.nextId :=
    fun fe hfe => le_foldl_of_mem (μ := id) (fun n fe => by dsimp only [id]; split <;> omega) hfe
      (fun n => by dsimp only [id]; split <;> omega) _
  constructor
  · intro sk info _ hg
    rcases adopt_get _ _ _ sk info hg with h | ⟨fe, hfe, _, hid⟩
    · simp [AMap.get] at h
    · rw [hid]; exact hmax fe (List.mem_filter.1 hfe).1
  · intro sk1 sk2 i1 i2 ho1 ho2 h1 h2 hne hid
    rcases adopt_get _ _ _ sk1 i1 h1 with h | ⟨fe1, hfe1, hk1, hid1⟩
    · simp [AMap.get] at h
    rcases adopt_get _ _ _ sk2 i2 h2 with h | ⟨fe2, hfe2, hk2, hid2⟩
    · simp [AMap.get] at h
    obtain ⟨hm1, hnd1⟩ := List.mem_filter.1 hfe1
    obtain ⟨hm2, _⟩ := List.mem_filter.1 hfe2
    -- owner keys adopted at start-up are cluster-IP keys: different keys = different services
    have hs : fe1.1.sname ≠ fe2.1.sname := by
      intro hsn
      apply hne
      rw [← hk1, ← hk2]
      have e1 : fe1.1.extra = .prim := by
        rcases ho1 with h | ⟨n, h⟩
        · rw [← hk1] at h; exact h
        · rw [← hk1] at h; exact absurd h (matched_extra (hfes ▸ hm1) n)
      have e2 : fe2.1.extra = .prim := by
        rcases ho2 with h | ⟨n, h⟩
        · rw [← hk2] at h; exact h
        · rw [← hk2] at h; exact absurd h (matched_extra (hfes ▸ hm2) n)
      cases hh1 : fe1.1 with | mk s1 x1 => cases hh2 : fe2.1 with | mk s2 x2 =>
        rw [hh1] at e1 hsn; rw [hh2] at e2 hsn
        simp only at e1 e2 hsn
        rw [e1, e2, hsn]
    have hdup : isDupId fes fe1.2.id = true := by
      unfold isDupId
      rw [List.any_eq_true]
      refine ⟨fe1, hm1, ?_⟩
      simp only [beq_self_eq_true, Bool.true_and, List.any_eq_true]
      refine ⟨fe2, hm2, ?_⟩
      simp only [Bool.and_eq_true, beq_iff_eq, bne_iff_ne, ne_eq]
      exact ⟨by rw [← hid2, ← hid, hid1], hs⟩
    simp [hdup] at hnd1

/-- a syncer whose ID bookkeeping can be relied on: freshly created (also over non-empty maps), or synced
with a well-formed `newSvcMap`. -/
def GoodSyncer (s : Syncer) : Prop :=
  (s.synced = false ∧ s.prevSvc = []) ∨ (s.synced = true ∧ WFPrev s.newSvc s.nextId)

theorem goodSyncer_new (np : List Nat) (rts : AMap Nat Route) (dp : DP) : GoodSyncer (Syncer.new np rts dp) :=
  Or.inl ⟨rfl, rfl⟩

theorem prepared_wf (s : Syncer) (hg : GoodSyncer s) (st : KState) :
    WFPrev (prepared s st).prevSvc (prepared s st).nextId := by
  unfold prepared
  rcases hg with ⟨h1, h2⟩ | ⟨h1, h2⟩
  · simp only [h1, Bool.false_eq_true, if_false]; exact wfPrev_startup s h2 st
  · simp only [h1, if_true]; exact h2

/-- the bookkeeping `Apply` leaves is that of `buildDesired (prepared s st)`, checked against the hint: it
is well formed whenever the syncer was good, whether or not the sync succeeds. -/
theorem apply_wf (s : Syncer) (hg : GoodSyncer s) (st : KState) (hint : AMap SvcKey Nat) (fp : Nat)
    (hnames : (st.svcs.map (·.1)).Nodup) (hh : (s.apply st hint fp).hintOk = true) :
    WFPrev (s.apply st hint fp).syncer.newSvc (s.apply st hint fp).syncer.nextId :=
  wfPrev_next (prepared s st) (prepared_wf s hg st) st hint hnames hh

/-- steady state: a synced syncer whose bookkeeping is well formed stays so after any further `Apply`
(successful or not) on a state with distinct service names and a legal ID hint. -/
theorem apply_preserves_wf (s : Syncer) (hs : s.synced = true) (wf : WFPrev s.newSvc s.nextId)
    (st : KState) (hint : AMap SvcKey Nat) (fp : Nat) (hnames : (st.svcs.map (·.1)).Nodup)
    (hh : (s.apply st hint fp).hintOk = true) :
    WFPrev (s.apply st hint fp).syncer.newSvc (s.apply st hint fp).syncer.nextId :=
  apply_wf s (Or.inr ⟨hs, wf⟩) st hint fp hnames hh

/-- `Apply` keeps the syncer good, unless it is a FIRST sync that fails (then `prevSvcMap` is kept and
`startupBuildPrev` runs again on top of it — not covered). -/
theorem apply_good (s : Syncer) (hg : GoodSyncer s) (st : KState) (hint : AMap SvcKey Nat) (fp : Nat)
    (hnames : (st.svcs.map (·.1)).Nodup) (hh : (s.apply st hint fp).hintOk = true)
    (hok : s.synced = true ∨ (s.apply st hint fp).ok = true) : GoodSyncer (s.apply st hint fp).syncer := by
  have hsy : (s.apply st hint fp).syncer.synced = true := by
    unfold Syncer.apply at hok ⊢
    rcases hok with h | h
    · simp [h]
    · split at h <;> simp_all
  exact Or.inr ⟨hsy, apply_wf s hg st hint fp hnames hh⟩

/-- **Exactness with no ID hypothesis at all**, for every good syncer (fresh after a restart over any map
contents, or in steady state): the cluster-IP frontend of every service lists exactly its ready
endpoints, local ones first, in the kernel maps after a completed sync. -/
theorem synced_cluster_ip_frontend_exact' (s : Syncer) (hg : GoodSyncer s) (st : KState) (hint : AMap SvcKey Nat) (fp : Nat)
    (hnames : (st.svcs.map (·.1)).Nodup) (hh : (s.apply st hint fp).hintOk = true)
    (hok : (s.apply st hint fp).ok = true) (sname : String) (svc : Svc) (hm : (sname, svc) ∈ st.svcs)
    (hF : ((buildDesired (prepared s st) st hint).fwrites.map (·.1)).Nodup) :
    ∃ v, (s.apply st hint fp).syncer.dp.F.get (zeroKey svc) = some v ∧
      v.count = (readyOrdered (epsFor (prepared s st) st sname svc)).length ∧
      v.lcl = localReady (epsFor (prepared s st) st sname svc) ∧
      ∀ i (hi : i < (readyOrdered (epsFor (prepared s st) st sname svc)).length),
        (s.apply st hint fp).syncer.dp.B.get ⟨v.id, i⟩ =
          some ⟨(readyOrdered (epsFor (prepared s st) st sname svc))[i].ip,
                (readyOrdered (epsFor (prepared s st) st sname svc))[i].port⟩ := by
  exact synced_cluster_ip_frontend_exact s st hint fp hok sname svc hm hF
    (calls_ids_nodup (prepared s st) (prepared_wf s hg st) st hint hnames
      (freshGood_of_freshOk (n0 := (prepared s st).nextId) (b := buildDesired (prepared s st) st hint) hh).1)

/-- **no stale frontend in the desired maps**: every frontend key of the maps a sync builds belongs to a
service of the current state (`KeyOf`). -/
theorem desired_frontends_only_current (s : Syncer) (st : KState) (hint : AMap SvcKey Nat) (k : FKey) (v : FVal)
    (h : (buildDesired s st hint).des.F.get k = some v) : ∃ p ∈ st.svcs, KeyOf p.2 k :=
  QO.buildDesired s st hint (k, v) (Assoc.mem_of_get ((buildDesired_feq s st hint k).symm.trans h))

/-- **no stale backend in the desired maps**: if no frontend key is `Set` twice in the sync, every backend
entry `(id, i)` of the maps it builds is counted by a frontend of those maps (`i < count`). -/
theorem desired_backends_only_current (s : Syncer) (st : KState) (hint : AMap SvcKey Nat)
    (hF : ((buildDesired s st hint).fwrites.map (·.1)).Nodup) (k : BKey) (bv : BVal)
    (h : (buildDesired s st hint).des.B.get k = some bv) :
    ∃ fk v, (buildDesired s st hint).des.F.get fk = some v ∧ v.id = k.id ∧ k.idx < v.count := by
  have bk : BK (buildDesired s st hint) := Pres.buildDesired BK_pres s st hint (fun k hk => by simp [AMap.get] at hk)
  have cf : CF (buildDesired s st hint) := Pres2.buildDesired CF_pres2 s st hint (fun _ h => by simp at h)
  obtain ⟨c, hc, h1, h2⟩ := bk k (by simp [h])
  obtain ⟨w, hw, h3, h4⟩ := cf c hc
  exact ⟨w.1, w.2, desired_of_write s st hint hF hw, by rw [h3, h1], by rw [h4]; exact h2⟩

/-- **no stale entries**: the maps a sync builds — and hence, by `apply_final_exact`, the kernel maps
after a completed sync — contain only frontends of current services, and (if no frontend key is `Set`
twice) only backends counted by one of those frontends. -/
theorem desired_only_current (s : Syncer) (st : KState) (hint : AMap SvcKey Nat) :
    (∀ k v, (buildDesired s st hint).des.F.get k = some v → ∃ p ∈ st.svcs, KeyOf p.2 k) ∧
    (((buildDesired s st hint).fwrites.map (·.1)).Nodup → ∀ k bv, (buildDesired s st hint).des.B.get k = some bv →
      ∃ fk v, (buildDesired s st hint).des.F.get fk = some v ∧ v.id = k.id ∧ k.idx < v.count) :=
  ⟨fun k v h => desired_frontends_only_current s st hint k v h,
   fun hF k bv h => desired_backends_only_current s st hint hF k bv h⟩

/-- **local-only where the (internal) traffic policy requires**: the cluster-IP frontend of a service
with internal traffic policy Local carries `NATFlgInternalLocal` (and no such flag otherwise), next to
the local count proved in `cluster_ip_frontend_exact`. -/
theorem cluster_ip_frontend_flags (s : Syncer) (st : KState) (hint : AMap SvcKey Nat) (sname : String) (svc : Svc)
    (hm : (sname, svc) ∈ st.svcs) (hF : ((buildDesired s st hint).fwrites.map (·.1)).Nodup) :
    ∃ v, (buildDesired s st hint).des.F.get (zeroKey svc) = some v ∧ v.flags = primFlags svc := by
  obtain ⟨id, r⟩ := service_recorded s st hint sname svc hm
  exact ⟨_, desired_of_write s st hint hF r.prim, rfl⟩

/-- a non-trivial consistent state: one frontend with two backends, one black-hole frontend. -/
def exDP : DP :=
  { F := [(⟨10, 80, 6, 0, 0⟩, ⟨3, 2, 1, 0, 0⟩), (⟨11, 80, 6, 5, 24⟩, ⟨3, blackHole, 0, 0, 0⟩)],
    B := [(⟨3, 0⟩, ⟨100, 8080⟩), (⟨3, 1⟩, ⟨101, 8080⟩)] }

example : Consistent exDP := consistent_of_consistentB (by decide)

/-- the predicate is not trivially true: writing a frontend before its backends breaks it
(this is exactly the order `apply` must not use). -/
example : ¬ Consistent (runWrites ⟨[], []⟩ [.setF ⟨10, 80, 6, 0, 0⟩ ⟨3, 2, 1, 0, 0⟩]) := by
  intro h
  have := h ⟨10, 80, 6, 0, 0⟩ ⟨3, 2, 1, 0, 0⟩ (by decide) (by decide) 0 (by decide)
  revert this; decide

/-- and deleting a backend that a frontend still counts breaks it too. -/
example : ¬ Consistent (Write.run exDP (.delB ⟨3, 1⟩)) := by
  intro h
  have := h ⟨10, 80, 6, 0, 0⟩ ⟨3, 2, 1, 0, 0⟩ (by decide) (by decide) 1 (by decide)
  revert this; decide

def exSvc : Svc :=
  { clusterIP := 10, port := 80, proto := 6, nodePort := 30000, extIPs := [20], lbVIPs := [], srcRanges := [],
    affinity := none, extLocal := false, intLocal := false, hcNodePort := 0, exclude := false, reapUDP := false,
    topoMode := "" }

def exEp (ip : Nat) (loc rdy : Bool) : Ep :=
  { ip, port := 8080, isLocal := loc, ready := rdy, serving := rdy, terminating := false, zoneHints := [], nodeHints := [] }

def exState (eps : List Ep) : KState := { svcs := [("n/s", exSvc)], eps := [("n/s", eps)], host := "h", zone := "z" }

/-- the syncer after the first of two example syncs; the second (below) writes in all four phases. -/
def exSyncer : Syncer :=
  ((Syncer.new [7] [] ⟨[], []⟩).apply (exState [exEp 100 false true, exEp 101 true true, exEp 102 false false]) [] 0).syncer

example : exSyncer.dp.F.length = 3 ∧ exSyncer.dp.B.length = 2 := by decide +kernel
example : exSyncer.dp.B.get ⟨0, 0⟩ = some ⟨101, 8080⟩ := by decide +kernel  -- the local endpoint comes first

def exSvc2 : Svc := { exSvc with extIPs := [] }
def exState2 : KState := { svcs := [("n/s", exSvc2)], eps := [("n/s", [exEp 100 false true])], host := "h", zone := "z" }

/-- the second sync writes in all four phases: 1 frontend deleted, 1 backend written,
2 frontends updated (the changed service gets a new ID), 2 old backends deleted. -/
example : (exSyncer.apply exState2 [] 0).phases.map List.length = [1, 1, 2, 2] := by decide +kernel

example : readyOrdered [exEp 100 false true, exEp 101 true true, exEp 102 false false] =
    [exEp 101 true true, exEp 100 false true] := by decide

/-- the no-duplicates hypotheses of `cluster_ip_frontend_exact` hold for the example sync
(one service with a node port and an external IP: three frontend keys, one ID). -/
example : ((buildDesired (Syncer.new [7] [] ⟨[], []⟩) (exState [exEp 100 false true, exEp 101 true true]) []).fwrites.map (·.1)).Nodup ∧
    ((buildDesired (Syncer.new [7] [] ⟨[], []⟩) (exState [exEp 100 false true, exEp 101 true true]) []).calls.map (·.2.1)).Nodup ∧
    (buildDesired (Syncer.new [7] [] ⟨[], []⟩) (exState [exEp 100 false true, exEp 101 true true]) []).fwrites.length = 3 := by
  decide +kernel

/-- the derived keys of the example service: its external IP and its node port on the local address. -/
example : derivedKeys (Syncer.new [7] [] ⟨[], []⟩) exSvc = [⟨20, 80, 6, 0, 0⟩, ⟨7, 30000, 6, 0, 0⟩] := by decide

example : primFlags { exSvc with intLocal := true } = 2 ∧ primFlags exSvc = 0 := by decide

example : GoodSyncer (Syncer.new [7] [] exDP) := goodSyncer_new _ _ _

/-- `KeyOf` is not trivially true: a key with a foreign address does not belong to the example service. -/
example : KeyOf exSvc ⟨20, 80, 6, 0, 0⟩ ∧ ¬ KeyOf exSvc ⟨99, 80, 6, 0, 0⟩ := by
  refine ⟨⟨rfl, Or.inl ⟨rfl, Or.inr (Or.inl (by decide))⟩⟩, ?_⟩
  rintro ⟨_, ⟨_, h | h | h⟩ | ⟨_, h⟩⟩ <;> revert h <;> decide

/-- a reachable mid-update state (one write of phase 1 done). -/
example : ∃ σ, Reach ⟨[], []⟩ exDP σ ∧ σ.dp.F.length = 1 :=
  ⟨_, Reach.init.step (Step.delF exDP ⟨10, 80, 6, 0, 0⟩ rfl), by decide⟩

end CalicoVerif.C42
