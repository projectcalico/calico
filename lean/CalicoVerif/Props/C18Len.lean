import CalicoVerif.Proofs.C18Len
import CalicoVerif.Props.C18
/-!
C18 (continued) — `Len()` of the four views and `InSync()`.

`IsCard n S` = "a duplicate-free list of length `n` enumerates exactly the keys satisfying `S`",
i.e. `n` is the cardinality of `S`.  Second half: convergence of the tracker itself (`apply_all_converges`: applying
every pending update and every pending deletion once leaves it in sync).
-/
namespace CalicoVerif.C18
variable {K V : Type} [DecidableEq K]

/-- **Len() of every view is a cardinality, InSync() means "no difference", after ANY history.**
`univ` is any duplicate-free list containing every key the history passes to `Desired().Set`
(e.g. those keys de-duplicated); it only serves to count. -/
theorem lens_exact (eqv : V → V → Bool) (hs : Sym eqv) (hr : Refl eqv) (ops : List (Op K V))
    (hw : ∀ op ∈ ops, op.WF) (univ : List K) (hu : univ.Nodup) (hk : ∀ op ∈ ops, op.keysIn univ) :
    let t := run eqv ops
    let s := specRun eqv ops
    (0 ≤ t.desiredLen ∧ IsCard t.desiredLen.toNat (fun k => (s.des k).isSome = true)) ∧
    IsCard t.dataplaneLen (fun k => (s.dp k).isSome = true) ∧
    IsCard t.pendingUpdatesLen (fun k => pendU eqv (s.des k, s.dp k) = true) ∧
    IsCard t.pendingDeletionsLen (fun k => pendX (s.des k, s.dp k) = true) ∧
    (t.inSync = true ↔ ∀ k, pendU eqv (s.des k, s.dp k) = false ∧ pendX (s.des k, s.dp k) = false) := by
  obtain ⟨hi, hw3, hj⟩ := g_run eqv hs hr univ hu ops hw hk
  have hd := desiredGet_run eqv hs hr ops hw
  have hp := dataplaneGet_run eqv hs hr ops hw
  have c1 := card_desired univ hu _ hj
  have c2 := card_dataplane eqv _ hi hw3
  have c3 := card_pendingUpdates eqv hr _ hi hw3
  have c4 := card_pendingDeletions eqv _ hi hw3
  have c5 := inSync_iff eqv hr _ hi
  simp only [hd, hp] at c1 c2 c3 c4 c5
  exact ⟨c1, c2, c3, c4, c5⟩

/-- When `valuesEqual` is equality, "no pending update and no pending deletion at `k`" is
literally `desired[k] = dataplane[k]` — so `InSync()` ⇔ the two maps are equal. -/
theorem no_pending_iff_equal (eqv : V → V → Bool) (hl : Lawful eqv) (d q : Option V) :
    (pendU eqv (d, q) = false ∧ pendX (d, q) = false) ↔ d = q := by
  unfold pendU pendX
  cases d with
  | none => cases q <;> simp
  | some v =>
    cases q with
    | none => simp
    | some w =>
      have := hl v w
      by_cases h : eqv v w = true
      · have e := this.1 h
        subst e
        simp [h]
      · have hne : v ≠ w := fun e => h (this.2 e)
        simp [h, hne]

/-- Non-vacuity: the example history of `Props.C18` with universe [1,2,3]. -/
example : (∀ op ∈ exOps, op.keysIn [1, 2, 3]) ∧ (run natEq exOps).desiredLen = 2 ∧
    (run natEq exOps).dataplaneLen = 3 ∧ (run natEq exOps).pendingUpdatesLen = 1 ∧
    (run natEq exOps).pendingDeletionsLen = 1 ∧ (run natEq exOps).inSync = false := by
  refine ⟨?_, by decide, by decide, by decide, by decide, by decide⟩
  intro op h
  simp only [exOps, List.mem_cons, List.not_mem_nil, or_false] at h
  rcases h with rfl | rfl | rfl | rfl | rfl <;> simp [Op.keysIn]

theorem specRun_append (eqv : V → V → Bool) (a b : List (Op K V)) :
    specRun eqv (a ++ b) = b.foldl (specStep eqv) (specRun eqv a) := by
  simp [specRun, List.foldl_append]

/-- **Convergence of the tracker itself.**  After ANY history, one `PendingUpdates().Iter`
whose callback applies every item followed by one `PendingDeletions().Iter` that applies
every item leaves `InSync()` true, the desired map untouched, and the dataplane map equal to
the desired map up to `valuesEqual` (exactly equal when `valuesEqual` is equality, see
`no_pending_iff_equal`). -/
theorem apply_all_converges (eqv : V → V → Bool) (hs : Sym eqv) (hr : Refl eqv) (ops : List (Op K V))
    (hw : ∀ op ∈ ops, op.WF) :
    let ops' := ops ++ [.uIter (fun _ => Act.update), .xIter (fun _ => Act.update)]
    (run eqv ops').inSync = true ∧
    (∀ k, (specRun eqv ops').des k = (specRun eqv ops).des k) ∧
    (∀ k, pendU eqv ((specRun eqv ops).des k, (specRun eqv ops').dp k) = false ∧
          pendX ((specRun eqv ops).des k, (specRun eqv ops').dp k) = false) := by
  intro ops'
  have hw' : ∀ op ∈ ops', op.WF := by
    intro op h
    simp only [ops', List.mem_append, List.mem_cons, List.not_mem_nil, or_false] at h
    rcases h with h | rfl | rfl
    · exact hw op h
    · trivial
    · trivial
  have hi := (tracker_refines eqv hs hr ops' hw').1
  have hd := desiredGet_run eqv hs hr ops' hw'
  have hp := dataplaneGet_run eqv hs hr ops' hw'
  have key : ∀ k, (specRun eqv ops').des k = (specRun eqv ops).des k ∧
      pendU eqv ((specRun eqv ops).des k, (specRun eqv ops').dp k) = false ∧
      pendX ((specRun eqv ops).des k, (specRun eqv ops').dp k) = false := by
    intro k
    simp only [ops', specRun_append, List.foldl_cons, List.foldl_nil, specStep, specAt, decide_true]
    generalize (specRun eqv ops).des k = d
    generalize (specRun eqv ops).dp k = q
    have hrr := hr.apply
    cases d <;> cases q <;> simp [sUIter, sXIter, pendU, pendX, hrr]
    rename_i v w
    by_cases h : eqv v w = true <;> simp [h, hrr]
  refine ⟨?_, fun k => (key k).1, fun k => (key k).2⟩
  rw [inSync_iff eqv hr _ hi]
  intro k
  rw [hd, hp, (key k).1]
  exact (key k).2

/-- Non-vacuity on the example history: it is out of sync before and in sync after. -/
example : (run natEq exOps).inSync = false ∧
    (run natEq (exOps ++ [.uIter (fun _ => Act.update), .xIter (fun _ => Act.update)])).inSync = true := by
  decide
end CalicoVerif.C18
