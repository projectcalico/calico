import CalicoVerif.Proofs.C12BridgeNets
import CalicoVerif.Proofs.C09
import CalicoVerif.Proofs.C11Long
/-!
C12 — all dataplanes agree on the policy verdict.

Three implementations decide a workload endpoint's policy: the iptables/nftables renderer (chains,
evaluated by the netfilter model of C08/C09), the BPF policy program (C11: instructions, interpreted)
and the app-policy checker (Go loops `checkTiers`/`checkRules`, modelled in `Model/C12.lean`).  The
agreement statements say that they reach ONE verdict; each is proved by tying every side to ONE reference
semantics (the C11 reference; `references_agree_full_partial` ties the reference of C09 to it).  The general
forms name the verdict, `bpfVerdict` of the shared policy state: `ipt_bpf_verdict` (chain and program, for any rule
translation bridged to the reference; the C09-side hypotheses bundled as `ChainSide`), `bpf_verdict`,
`checker_tiers_ref`, `checker_tiers_nets_ref`; the agreement statements put them together behind `∃ v`.  Names ending
in `_partial` are restricted; what each one does NOT cover is listed with it.  The unrestricted statement is
FALSE of the code: `profile_pass_disagree`, `stale_pass_mark_disagree` (a profile rule with action pass,
KNOWN-FINDING sig `profile-pass`), `checker_ignores_ip_family` (sig `checker-ip-family`).

The checker model is tied to the Go code by the correspondence run only; the criteria the checker evaluates
through its own stores (selectors, named ports, service accounts, HTTP) are outside the MODEL, see
`checks/C12.json` level_note.  `iptVerdict` (`ref_semantics_agree_partial`) is a hand-written mark-bit model of
the profile part of the endpoint chain, tied to the renderer by the correspondence run, not by proof.

The fragment predicates and `EnvRelN` have a satisfiability example next to their theorem, and ALL hypotheses of
`dataplanes_agree_nets_partial` are instantiated together on one policy / packet / environment / chain set /
program at the end of the file (`joint_instance`, `joint_instance_verdict`).
-/
namespace CalicoVerif.C12
open CalicoVerif.C11

/-- Without pass rules in profiles the two profile semantics coincide (`_partial`: profiles with a pass rule are
NOT covered — false there). -/
theorem profiles_agree_partial (env : Env) (p : Pkt) :
    ∀ ps : List Policy, NoProfilePass ps → evalProfiles true env p ps = evalProfiles false env p ps := by
  intro ps
  induction ps with
  | nil => intro _; rfl
  | cons pr ps ih =>
    intro h
    have ih' := ih (fun pr' hp' => h pr' (List.mem_cons_of_mem _ hp'))
    have hne := evalRules_ne_pass env p .dest pr.rules (h pr (List.mem_cons_self))
    simp only [evalProfiles]
    cases he : evalRules env p .dest pr.rules <;> simp_all

theorem iptProfileRules_noPass (env : Env) (p : Pkt) (b : Bool) :
    ∀ rs : List Rule, (∀ r ∈ rs, actOf r.action ≠ .pass ∧ actOf r.action ≠ .invalid) →
      iptProfileRules env p b rs = (match evalRules env p .dest rs with
        | .allow => .accept | .deny => .drop | _ => .ret b) := by
  intro rs
  induction rs with
  | nil => intro _; rfl
  | cons r rs ih =>
    intro h
    have ih' := ih (fun r' hr' => h r' (List.mem_cons_of_mem _ hr'))
    obtain ⟨h1, h2⟩ := h r (List.mem_cons_self)
    simp only [iptProfileRules, evalRules]
    cases filterRule env.c.v6 r with
    | none => exact ih'
    | some fr =>
      simp only
      cases ha : actOf r.action <;> simp_all <;>
        (by_cases hm : ruleMatch env p .dest fr = true <;> simp [hm])

/-- Invalid actions are excluded too: the reference denies on one, `iptProfileRules` skips it. -/
def ProfilesNoPass (ps : List Policy) : Prop :=
  ∀ pr ∈ ps, ∀ r ∈ pr.rules, actOf r.action ≠ .pass ∧ actOf r.action ≠ .invalid

theorem ProfilesNoPass.noPass {ps : List Policy} (h : ProfilesNoPass ps) : NoProfilePass ps :=
  fun pr hp r hr => (h pr hp r hr).1

theorem iptProfiles_noPass (env : Env) (p : Pkt) :
    ∀ (ps : List Policy) (b : Bool), ProfilesNoPass ps →
      iptProfiles env p b ps = (match evalProfiles true env p ps with | .allow => .allow | _ => .deny) := by
  intro ps
  induction ps with
  | nil => intro _ _; rfl
  | cons pr ps ih =>
    intro b h
    have h1 := iptProfileRules_noPass env p b pr.rules (h pr (List.mem_cons_self))
    have hne := evalRules_ne_pass env p .dest pr.rules (h.noPass pr (List.mem_cons_self))
    have ih' := ih b (fun pr' hp' => h pr' (List.mem_cons_of_mem _ hp'))
    simp only [iptProfiles, evalProfiles, h1]
    cases he : evalRules env p .dest pr.rules <;> simp_all

theorem iptTiers_fst (env : Env) (p : Pkt) :
    ∀ ts : List Tier, (match (iptTiers env p ts).1 with | .allow => Dec.allow | .deny => .deny | _ => .noMatch) =
      (match evalTiers env p .dest ts with | .allow => Dec.allow | .deny => .deny | _ => .noMatch) := by
  intro ts
  induction ts with
  | nil => rfl
  | cons t ts ih =>
    simp only [iptTiers, evalTiers]
    cases evalPolicies env p .dest t.policies with
    | allow => rfl
    | deny => rfl
    | pass =>
      simp only
      cases ts with
      | nil => rfl
      | cons t2 ts2 => simpa using ih
    | noMatch =>
      simp only
      cases t.endAction <;> first | rfl | exact ih

/-- The two REFERENCE functions `iptVerdict` (mark-bit model of the iptables endpoint chain's
profile part) and `bpfVerdict` (C11 reference) coincide for every workload policy whose profiles
contain no pass/next-tier rule (and no invalid action): any tiers, packets, IP-set environments.  `_partial`:
NOT covered are profiles with a pass rule (false: the two witnesses below); and both sides are hand-written
references — the tie to rendered chains / instructions is `dataplanes_agree_partial`. -/
theorem ref_semantics_agree_partial (env : Env) (r : Rules) (p : Pkt) (h : ProfilesNoPass r.profiles) :
    iptVerdict env r p = bpfVerdict env r p := by
  unfold iptVerdict bpfVerdict workloadVerdict
  have ht := iptTiers_fst env p r.tiers
  simp only [Bool.false_eq_true, if_false]
  cases hi : iptTiers env p r.tiers with
  | mk d stale =>
    rw [hi] at ht
    simp only at ht
    have hp := iptProfiles_noPass env p r.profiles stale h
    cases d <;> cases he : evalTiers env p .dest r.tiers
    all_goals first
      | (exfalso; rw [he] at ht; simp at ht; done)
      | (simp only [hp]; try rfl)

example : ProfilesNoPass [⟨[{ action := "allow" }, { action := "deny" }, { action := "log" }]⟩] := by
  intro pr hp r hr
  simp at hp; subst hp
  simp at hr
  rcases hr with rfl | rfl | rfl <;> decide

/-- The full statement is false (1): profile 1 = [pass], profile 2 = [allow], no
tiers.  BPF (`writeProfile`: pass ⇒ deny label) and the app-policy checker
(`case DENY, PASS`) deny; iptables/nftables (profile chain returns with the pass
mark, endpoint chain only tests the accept mark) go on to profile 2 and allow. -/
theorem profile_pass_disagree :
    let r : Rules := { profiles := [⟨[{ action := "pass" }]⟩, ⟨[{ action := "allow" }]⟩] }
    let env : Env := { c := {} }
    let p : Pkt := { src := [0], preDst := [0], postDst := [0], sport := 0, icmpW := 0, preDport := 0,
                     postDport := 0, proto := 6, flags := 0 }
    bpfVerdict env r p = .deny ∧ iptVerdict env r p = .allow ∧ checkTiers 6 r.profiles r.tiers = some false := by
  decide

/-- The full statement is false (2), the other way round: a tier left through a
pass rule leaves the pass mark set; the profile [pass-if-tcp, allow] then
returns at its `pass mark set ⇒ return` check for a UDP packet too, so
iptables/nftables drop what BPF and the checker allow. -/
theorem stale_pass_mark_disagree :
    let r : Rules := { tiers := [{ endAction := .deny, endRuleID := 0, policies := [⟨[{ action := "pass" }]⟩] }],
                       profiles := [⟨[{ action := "pass", protocol := some (.num 6) }, { action := "allow" }]⟩] }
    let env : Env := { c := {} }
    let p : Pkt := { src := [0], preDst := [0], postDst := [0], sport := 0, icmpW := 0, preDport := 0,
                     postDport := 0, proto := 17, flags := 0 }
    bpfVerdict env r p = .allow ∧ iptVerdict env r p = .deny ∧ checkTiers 17 r.profiles r.tiers = some true := by
  decide

/-- `checkRules` = reference `evalRules`, for protocol-only rules with API actions and a packet
whose protocol is in 1..255 (the checker rejects protocol 0). -/
theorem checker_rules_ref (env : Env) (p : Pkt) (n : Nat) (hn : 1 ≤ n) (hp : p.proto.toNat = n)
    (rs : List Rule) (h : RulesL4 rs) :
    checkRules (n : Int) rs = some (decToCAct (evalRules env p .dest rs)) :=
  -- the parse of the action string is generalised: `rfl` between the model's `match` and the lemma's (two matcher
  -- constants) would first unfold `actionFromString` on a variable
  rulesLoop_ref rfl (fun r rs => by rw [checkRules]; generalize actionFromString r.action = a; rfl) rs
    (ruleRef_l4 env p n hn hp h)

theorem checker_profiles_ref (env : Env) (p : Pkt) (n : Nat) (hn : 1 ≤ n) (hp : p.proto.toNat = n)
    (ps : List Policy) (h : PoliciesL4 ps) :
    checkProfiles (n : Int) ps = some (evalProfiles true env p ps == .allow) :=
  profilesLoop_ref rfl (fun _ _ => rfl) ps fun pol hpol => checker_rules_ref env p n hn hp _ (h pol hpol)

/-- `checkTiers` = the reference workload verdict (= `bpfVerdict`), on protocol-only rules with API actions, tiers
with at least one policy, and a packet whose protocol is in 1..255. -/
theorem checker_tiers_ref (env : Env) (p : Pkt) (n : Nat) (hn : 1 ≤ n) (hp : p.proto.toNat = n)
    (r : Rules) (ht : TiersL4 r.tiers) (hpr : PoliciesL4 r.profiles) :
    checkTiers (n : Int) r.profiles r.tiers = some (bpfVerdict env r p == .allow) := by
  rw [bpfVerdict_eq]
  exact tiersLoop_ref (checker_profiles_ref env p n hn hp _ hpr) (fun _ _ => rfl) r.tiers fun t h =>
    ⟨(ht t h).1, policiesLoop_ref rfl (fun _ _ => rfl) _ fun pol hpol => checker_rules_ref env p n hn hp _ ((ht t h).2 pol hpol)⟩

def exL4a : Rule := { action := "allow", protocol := some (Proto.name "tcp") }
def exL4b : Rule := { action := "deny", notProtocol := some (Proto.num 17) }
example : RulesL4 [exL4a, exL4b] := by
  simp [RulesL4]
  exact ⟨⟨rfl, by decide⟩, rfl, by decide⟩
example : TiersL4 [{ endAction := EndAction.deny, endRuleID := 0, policies := [{ rules := [exL4a, exL4b] }] }] := by
  simp [TiersL4, PoliciesL4, RulesL4]
  exact ⟨⟨rfl, by decide⟩, rfl, by decide⟩

/-- The enforced view of a tier whose policies are all staged (or that has none) is the
pass-through tier; every model skips it: reference / BPF, iptables, checker. -/
theorem staged_only_tier_skipped (env : Env) (p : Pkt) (n : Int) (profiles : List Policy) (t : TierS) (ts : List Tier)
    (h : ∀ q ∈ t.policies, q.staged = true) :
    evalTiers env p .dest (enforcedTier t :: ts) = evalTiers env p .dest ts ∧
    iptTiers env p (enforcedTier t :: ts) = iptTiers env p ts ∧
    checkTiers n profiles (enforcedTier t :: ts) = checkTiers n profiles ts := by
  have he : (t.policies.filter (fun q => !q.staged)) = [] := by
    rw [List.filter_eq_nil_iff]
    intro q hq; simp [h q hq]
  have ht : enforcedTier t = { endAction := .pass, endRuleID := 0, policies := [] } := by
    simp [enforcedTier, he]
  rw [ht]
  refine ⟨rfl, rfl, rfl⟩

theorem common_L4 {ps : List Policy} (h : PoliciesCommon ps) : PoliciesL4 ps := by
  intro pol hp r hr
  have hc := h pol hp r hr
  refine ⟨hc.po, ?_⟩
  rcases hc.act with e | e | e | e | e <;> rw [e] <;> decide

/-- `polprog.Rules` of a workload interface without host policy (`SuppressNormalHostPolicy`). -/
def wlRules (tiers : List Tier) (profiles : List Policy) (np : Nat) : Rules :=
  { tiers := tiers, profiles := profiles, noProfileMatchID := np, suppressNormalHostPolicy := true }

theorem verdict_workload (env : Env) (tiers : List Tier) (profiles : List Policy) (np : Nat) (p : Pkt) :
    verdict env (wlRules tiers profiles np) p =
      bpfVerdict env (wlRules tiers profiles np) p := by
  simp only [wlRules, verdict, bpfVerdict, evalTiers, Bool.false_eq_true, if_false, if_true]
  cases toOrFromHost p <;> rfl

theorem bpf_verdict (tiers : List Tier) (profiles : List Policy) (np : Nat) (env : Env) (st : List Byte)
    (hok : ProgOK env st (wlRules tiers profiles np))
    (hs : env.stateOK = true) (hnosplit : NoSplit env.c (flat (compile env.c (wlRules tiers profiles np))))
    (hshort : (flat (compile env.c (wlRules tiers profiles np))).length < env.c.trampolineStride)
    (prog : List Insn) (hi : instructions env.c (wlRules tiers profiles np) = some (some [prog])) :
    agreesV env false (bpfVerdict env (wlRules tiers profiles np) (pktOfD st)) (execL env prog (Mach.init st)) := by
  have := polprog_verdict env st _ hok hs hnosplit hshort prog hi
  rw [verdict_workload] at this
  exact this

/-- The hypotheses of `C09.endpoint_chain_verdict`, at normal chain type and without a failsafe chain; the agreement
statements below spell them out (`mo` … `h10`). -/
structure ChainSide (cfg : C08.Cfg) (e : C09.EpCfg) (env9 : Netfilter.Env) (pkt9 : Netfilter.Packet)
    (chains : List Netfilter.Chain) (name : String) (tiers9 : List C09.Tier) (profiles9 : List String)
    (polRules : String → List Policy.Rule) (m : Netfilter.Mark) : Prop where
  marks : C08.MarksOK cfg
  vbits : C09.VBits cfg
  vd : C09.VD cfg
  normal : e.chainType = .normal
  up : e.adminUp = true
  noFailsafe : e.failsafe = ""
  newConn : pkt9.ctState ≠ "RELATED" ∧ pkt9.ctState ≠ "ESTABLISHED" ∧ pkt9.ctState ≠ "INVALID"
  notEncap : (e.dropVXLAN = true → pkt9.proto ≠ 17) ∧ (e.dropIPIP = true → pkt9.proto ≠ 4)
  mark : m &&& cfg.markDrop = 0
  endpoint : Netfilter.lookupChain chains name = some (C09.endpointChain cfg e name tiers9 profiles9).rules
  groups : ∀ t ∈ tiers9, ∀ g ∈ t.groups, g.inlined = false →
    Netfilter.lookupChain chains g.chain = some (C09.policyGroupChain cfg g).rules
  policies : ∀ t ∈ tiers9, ∀ g ∈ t.groups, ∀ p ∈ g.pols, p.staged = false →
    C09.PolicyChainOK cfg env9 pkt9 chains (polRules p.chain) p.chain
  profiles : ∀ p ∈ profiles9, C09.ProfileChainOK cfg env9 pkt9 chains (polRules p) p

section
variable {cfg : C08.Cfg} {e : C09.EpCfg} {env9 : Netfilter.Env} {pkt9 : Netfilter.Packet} {chains : List Netfilter.Chain}
  {name : String} {tiers9 : List C09.Tier} {profiles9 : List String} {polRules : String → List Policy.Rule}
  {m : Netfilter.Mark}

theorem ChainSide.verdict (hc : ChainSide cfg e env9 pkt9 chains name tiers9 profiles9 polRules m) (F : Nat) {v : Verdict}
    (hv : C09.endpointVerdict (C09.policyTiers env9 pkt9 polRules tiers9 true)
      (profiles9.map fun p => C09.policyOutcome env9 pkt9.v6 pkt9 (polRules p)) = toV9 v) :
    C09.VShape cfg (toV9 v) (Netfilter.evalChain env9 chains pkt9 (F + 4) name m) := by
  have h09 := C09.endpoint_chain_verdict cfg hc.marks hc.vbits hc.vd e env9 pkt9 chains name tiers9 profiles9 polRules F m
    hc.up (fun hne => absurd hc.noFailsafe hne) hc.newConn hc.notEncap hc.mark hc.endpoint hc.groups hc.policies hc.profiles
  simp only [hc.normal] at h09
  rw [hv] at h09
  exact h09

/-- **The rendered chain and the BPF program reach the reference verdict**, for ANY rule translation `tr` that is
bridged to the reference on a class `Ok` of rules (`RuleBridge`): the rendered iptables/nftables endpoint chain
returns with the accept mark / drops, and the interpreted BPF program ends, as `bpfVerdict` of the shared policy
state demands. -/
theorem ipt_bpf_verdict {tr : C11.Rule → Policy.Rule} {Ok : C11.Rule → Prop} {tiers : List Tier} {profiles : List Policy}
    {np : Nat} {env : Env} {st : List Byte}
    (hb : RuleBridge env9 pkt9 env (pktOfD st) tr Ok) (hct : TiersOkG Ok tiers) (hcp : ProfilesOkG Ok profiles)
    (hok : ProgOK env st (wlRules tiers profiles np))
    (hs : env.stateOK = true) (hnosplit : NoSplit env.c (flat (compile env.c (wlRules tiers profiles np))))
    (hshort : (flat (compile env.c (wlRules tiers profiles np))).length < env.c.trampolineStride)
    (prog : List Insn) (hi : instructions env.c (wlRules tiers profiles np) = some (some [prog]))
    (hc : ChainSide cfg e env9 pkt9 chains name tiers9 profiles9 polRules m) (F : Nat)
    (hT : C09.policyTiers env9 pkt9 polRules tiers9 true =
      tiers.map (fun t => (outsG env9 pkt9 tr t.policies, t.endAction == .pass)))
    (hP : profiles9.map (fun p => C09.policyOutcome env9 pkt9.v6 pkt9 (polRules p)) = outsG env9 pkt9 tr profiles) :
    C09.VShape cfg (toV9 (bpfVerdict env (wlRules tiers profiles np) (pktOfD st)))
      (Netfilter.evalChain env9 chains pkt9 (F + 4) name m) ∧
    agreesV env false (bpfVerdict env (wlRules tiers profiles np) (pktOfD st)) (execL env prog (Mach.init st)) :=
  ⟨hc.verdict F (by rw [hT, hP, bpfVerdict_eq]; exact endpointVerdict_bridgeG hb profiles hcp tiers hct),
    bpf_verdict tiers profiles np env st hok hs hnosplit hshort prog hi⟩

end

/-- `checkTiers` with `matchSrcNet` / `matchDstNet` computes the reference workload verdict, for rules
with protocol / not-protocol and IPv4 source / not-source / destination / not-destination CIDR lists
(`TiersNetsL4`/`PoliciesNetsL4`: that shape, IPv4 CIDRs, an API action), an IPv4 program and the
flow's addresses sitting in the state in network byte order (`FlowAddrs`). -/
theorem checker_tiers_nets_ref (env : Env) (hv4 : env.c.v6 = false) (p : Pkt) (n : Nat) (hn : 1 ≤ n)
    (hp : p.proto.toNat = n) (src dst : Nat) (hf : FlowAddrs p src dst) (r : Rules)
    (ht : TiersNetsL4 r.tiers) (hpr : PoliciesNetsL4 r.profiles) :
    checkTiersN (n : Int) src dst r.profiles r.tiers = some (bpfVerdict env r p == .allow) := by
  have hg : ∀ rs, RulesNetsL4 rs → checkRulesN (n : Int) src dst rs = some (decToCAct (evalRules env p .dest rs)) :=
    fun rs h => rulesLoop_ref rfl (fun r rs => by rw [checkRulesN]; generalize actionFromString r.action = a; rfl) rs
      (ruleRef_nets env hv4 p n hn hp src dst hf h)
  rw [bpfVerdict_eq]
  exact tiersLoop_ref (profilesLoop_ref rfl (fun _ _ => rfl) _ fun pol hpol => hg _ (hpr pol hpol)) (fun _ _ => rfl) r.tiers
    fun t h => ⟨(ht t h).1, policiesLoop_ref rfl (fun _ _ => rfl) _ fun pol hpol => hg _ ((ht t h).2 pol hpol)⟩

/-- The checker's rule match with CIDRs is the reference match (rules dropped for the IP version do
not match). -/
theorem checker_match_nets_ref (env : Env) (hv4 : env.c.v6 = false) (p : Pkt) (n : Nat) (hn : 1 ≤ n)
    (hp : p.proto.toNat = n) (src dst : Nat) (hf : FlowAddrs p src dst) (r : Rule) (h : NetsL4 r) :
    matchRuleN r (n : Int) src dst =
      (match filterRule env.c.v6 r with
       | none => false
       | some fr => ruleMatch env p .dest fr) :=
  matchRuleN_ref env hv4 p n hn hp src dst hf r h

/-- **app-policy and BPF agree with literal CIDRs**: for a workload interface without host policy,
rules of the protocol + IPv4-CIDR fragment and any flow, the BPF program's instructions, interpreted,
end as verdict `v` demands, and the checker answers OK iff `v` is allow.  (`_partial`: NOT covered are the
iptables side, IPv6 flows / IPv6 CIDRs / explicit `ipVersion` — `NetsL4` —, criteria beyond protocol and
CIDRs, protocol number 0 (`hn`: the checker rejects it), and split or trampolined BPF builds — `NoSplit`,
`hshort`, one program.) -/
theorem checker_bpf_agree_nets_partial (tiers : List Tier) (profiles : List Policy) (np : Nat) (env : Env)
    (st : List Byte) (src dst : Nat)
    (hct : TiersNetsL4 tiers) (hcp : PoliciesNetsL4 profiles) (hv4 : env.c.v6 = false)
    (hn : 1 ≤ (pktOfD st).proto.toNat) (hf : FlowAddrs (pktOfD st) src dst)
    (hok : ProgOK env st (wlRules tiers profiles np))
    (hs : env.stateOK = true) (hnosplit : NoSplit env.c (flat (compile env.c (wlRules tiers profiles np))))
    (hshort : (flat (compile env.c (wlRules tiers profiles np))).length < env.c.trampolineStride)
    (prog : List Insn) (hi : instructions env.c (wlRules tiers profiles np) = some (some [prog])) :
    ∃ v : Verdict,
      (∃ o, (execL env prog (Mach.init st)).obs = some o ∧ (expectedObs env false v).agrees o = true) ∧
      checkTiersN ((pktOfD st).proto.toNat : Int) src dst profiles tiers = some (v == .allow) :=
  ⟨_, bpf_verdict tiers profiles np env st hok hs hnosplit hshort prog hi,
    checker_tiers_nets_ref env hv4 (pktOfD st) _ hn rfl src dst hf (wlRules tiers profiles np) hct hcp⟩

-- non-vacuity: "allow tcp to !10.0.0.0/8 from 10.1.0.0/16" is in the fragment
def exNets : Rule :=
  { action := "allow", protocol := some (Proto.name "tcp"), srcNet := [{ v6 := false, addr := 0x0a010000, pfx := 16 }],
    notDstNet := [{ v6 := false, addr := 0x0a000000, pfx := 8 }] }
/-- the CIDR universe of `exNets` (what the kernel-side environment has to describe) -/
def exU : List Net := [{ v6 := false, addr := 0x0a010000, pfx := 16 }, { v6 := false, addr := 0x0a000000, pfx := 8 }]
theorem exNets_netsL4 : NetsL4 exNets := ⟨rfl, by intro n hn; simp [exNets] at hn; rcases hn with rfl | rfl <;> rfl⟩
example : NetsL4 exNets := exNets_netsL4
-- ... and the checker model decides it per side: source inside 10.1/16, destination inside / outside 10/8
example : matchRuleN exNets 6 0x0a010203 0x0a000002 = false ∧ matchRuleN exNets 6 0x0a010203 0xc0a80001 = true ∧
    matchRuleN exNets 6 0xc0a80001 0xc0a80001 = false := by decide

/-- **The full statement is FALSE of the current code**: the dataplanes first restrict every rule to the
IP version they render (`rules.FilterRuleToIPVersion`: a rule with explicit `ipVersion: 6`, or one whose
negated CIDR list holds only IPv6 CIDRs, is DROPPED from the IPv4 dataplane), the app-policy checker
neither reads `Rule.IpVersion` nor drops such rules — so "allow, ipVersion 6" and
"allow, notNets [2001:db8::/32]" allow an IPv4 flow in the checker while iptables/nftables and BPF
skip the rule.  (Positive lists agree: an IPv6 CIDR never contains an IPv4 address.) -/
theorem checker_ignores_ip_family :
    let r6 : Rule := { action := "allow", ipVersion := 6 }
    let rn : Rule := { action := "allow", notSrcNet := [{ v6 := true, addr := 0x20010db8000000000000000000000000, pfx := 32 }] }
    (matchRuleN r6 6 0x0a000001 0x0a000002 = true ∧ filterRule false r6 = none) ∧
    (matchRuleN rn 6 0x0a000001 0x0a000002 = true ∧ filterRule false rn = none) ∧
    -- whole verdicts: one tier, default deny
    checkTiersN 6 0x0a000001 0x0a000002 [] [{ endAction := .deny, endRuleID := 0, policies := [⟨[r6]⟩] }] = some true ∧
    bpfVerdict { c := {} } { tiers := [{ endAction := .deny, endRuleID := 0, policies := [⟨[r6]⟩] }] }
      { src := [0, 0, 0, 0], preDst := [0, 0, 0, 0], postDst := [0, 0, 0, 0], sport := 0, icmpW := 0, preDport := 0,
        postDport := 0, proto := 6, flags := 0 } = .deny := by
  decide

/-- **All dataplanes agree**, protocol-only fragment (`TiersCommon`/`ProfilesCommon`).  `_partial`: NOT covered
are all other criteria (CIDRs: `dataplanes_agree_nets_partial`), IPv6, pass rules in profiles (false:
`profile_pass_disagree`), tiers without enforced policy, protocol number 0 (`hn`: the checker rejects it), split or
trampolined BPF builds, packets of an established connection and endpoints with failsafes / non-normal chain type
(`h1`…`h6`). -/
theorem dataplanes_agree_partial
    -- the shared policy state and packet
    (tiers : List Tier) (profiles : List Policy) (np : Nat) (env : Env) (st : List Byte)
    (hct : TiersCommon tiers) (hcp : ProfilesCommon profiles)
    (hn : 1 ≤ (pktOfD st).proto.toNat)
    -- BPF side (hypotheses of `C11.polprog_verdict`, with splitting disabled)
    (hok : ProgOK env st (wlRules tiers profiles np))
    (hs : env.stateOK = true) (hnosplit : env.c.policyMapStride = 0)
    (hshort : (flat (compile env.c (wlRules tiers profiles np))).length < env.c.trampolineStride)
    (prog : List Insn)
    (hi : instructions env.c (wlRules tiers profiles np) = some (some [prog]))
    -- iptables/nftables side (hypotheses of `C09.endpoint_chain_verdict`: `ChainSide`)
    (cfg : C08.Cfg) (mo : C08.MarksOK cfg) (vb : C09.VBits cfg) (vd : C09.VD cfg) (e : C09.EpCfg) (env9 : Netfilter.Env)
    (pkt9 : Netfilter.Packet) (chains : List Netfilter.Chain) (name : String) (tiers9 : List C09.Tier)
    (profiles9 : List String) (polRules : String → List Policy.Rule) (F : Nat)
    (m : Netfilter.Mark)
    (h1 : e.chainType = .normal) (h2 : e.adminUp = true) (h3 : e.failsafe = "")
    (h4 : pkt9.ctState ≠ "RELATED" ∧ pkt9.ctState ≠ "ESTABLISHED" ∧ pkt9.ctState ≠ "INVALID")
    (h5 : (e.dropVXLAN = true → pkt9.proto ≠ 17) ∧ (e.dropIPIP = true → pkt9.proto ≠ 4))
    (h6 : m &&& cfg.markDrop = 0)
    (h7 : Netfilter.lookupChain chains name = some (C09.endpointChain cfg e name tiers9 profiles9).rules)
    (h8 : ∀ t ∈ tiers9, ∀ g ∈ t.groups, g.inlined = false →
      Netfilter.lookupChain chains g.chain = some (C09.policyGroupChain cfg g).rules)
    (h9 : ∀ t ∈ tiers9, ∀ g ∈ t.groups, ∀ p ∈ g.pols, p.staged = false →
      C09.PolicyChainOK cfg env9 pkt9 chains (polRules p.chain) p.chain)
    (h10 : ∀ p ∈ profiles9, C09.ProfileChainOK cfg env9 pkt9 chains (polRules p) p)
    -- chain names: a group chain name identifies its group and is no inlined policy's / profile's chain name
    -- (not used: `C09.endpoint_chain_verdict` does not need them)
    (hn1 : ∀ t ∈ tiers9, ∀ g ∈ t.groups, g.inlined = false → ∀ t' ∈ tiers9, ∀ g' ∈ t'.groups, g'.inlined = false →
      g'.chain = g.chain → g' = g)
    (hn2 : ∀ t ∈ tiers9, ∀ g ∈ t.groups, g.inlined = false →
      (∀ t' ∈ tiers9, ∀ g' ∈ t'.groups, g'.inlined = true → ∀ p ∈ g'.nonStaged, p.chain ≠ g.chain) ∧
      (∀ p ∈ profiles9, p ≠ g.chain))
    -- the two sides talk about the same state and packet
    (he : EnvProto env9) (hv : pkt9.v6 = false) (hpr : pkt9.proto = (pktOfD st).proto.toNat)
    (hT : C09.policyTiers env9 pkt9 polRules tiers9 true =
      tiers.map (fun t => (outs9 env9 pkt9 t.policies, t.endAction == .pass)))
    (hP : profiles9.map (fun p => C09.policyOutcome env9 pkt9.v6 pkt9 (polRules p)) = outs9 env9 pkt9 profiles) :
    ∃ v : Verdict,
      -- iptables/nftables: the rendered endpoint chain returns with the accept mark / drops
      C09.VShape cfg (toV9 v) (Netfilter.evalChain env9 chains pkt9 (F + 4) name m) ∧
      -- BPF: the program ends with the tail call / pol_rc of `v`
      (∃ o, (execL env prog (Mach.init st)).obs = some o ∧ (expectedObs env false v).agrees o = true) ∧
      -- app-policy: OK iff `v` is allow
      checkTiers ((pktOfD st).proto.toNat : Int) profiles tiers = some (v == .allow) := by
  simp only [outs9_eq] at hT hP
  have ⟨hipt, hbpf⟩ := ipt_bpf_verdict (ruleBridge_common env9 he pkt9 env (pktOfD st) hv hpr) hct.okG hcp.okG hok hs
    (Or.inl hnosplit) hshort prog hi ⟨mo, vb, vd, h1, h2, h3, h4, h5, h6, h7, h8, h9, h10⟩ F hT hP
  exact ⟨_, hipt, hbpf, checker_tiers_ref env (pktOfD st) _ hn rfl (wlRules tiers profiles np)
    (fun t ht => ⟨(hct t ht).1, common_L4 (hct t ht).2⟩) (common_L4 hcp.1)⟩

/-- **The two reference semantics are unified beyond the protocol-only fragment**: for rules with ANY
criterion (protocol, IPv4 CIDR lists, numeric and named ports, IP sets, (ip,port) sets, ICMP type/code
and all their negations — `RuleFullN`: as the API validates them, CIDRs IPv4), `C09.endpointVerdict` over
`Model/Policy.ruleMatches` of the translated rules equals the C11 reference workload verdict, when
the two environments describe the same packet, the same IP sets and, for the CIDRs `U` the policy mentions,
the same CIDR containment (`EnvRelN`).  `_partial`: NOT covered are IPv6 packets, IPv6 CIDRs and explicit
`ipVersion` in a rule, pass rules in profiles, tiers without an enforced policy. -/
theorem references_agree_full_partial {N : NamesN} {U : List Net} {env9 : Netfilter.Env} {pkt9 : Netfilter.Packet}
    {env : Env} {p : Pkt}
    (he : EnvRelN N U env9 pkt9 env p) (tiers : List Tier) (profiles : List Policy)
    (hct : TiersOkG (RuleFullN U) tiers) (hcp : ProfilesOkG (RuleFullN U) profiles) :
    C09.endpointVerdict (tiers.map (fun t => (outsG env9 pkt9 (trRuleFN N) t.policies, t.endAction == .pass)))
        (outsG env9 pkt9 (trRuleFN N) profiles) =
      toV9 (match evalTiers env p .dest tiers with
        | .allow => Verdict.allow
        | .deny => .deny
        | _ => (match evalProfiles true env p profiles with | .allow => .allow | _ => .deny)) :=
  endpointVerdict_bridgeG (ruleBridge_fullN he) profiles hcp tiers hct

/-- **iptables/nftables and BPF agree, all criteria (CIDRs: IPv4)**: the rendered endpoint chain
(`C09.endpoint_chain_verdict`) and the interpreted BPF policy program
(`C11.polprog_verdict`) yield the same verdict, over ONE reference
(`references_agree_full_partial`).  Same hypotheses as `dataplanes_agree_partial`, with `RuleFullN`
rules and `EnvRelN` instead of the protocol-only fragment; the app-policy checker is not part of this
statement (its model covers protocol and CIDR criteria only: `dataplanes_agree_nets_partial`).  `_partial`:
NOT covered are also IPv6, pass rules in profiles, split or trampolined BPF builds, established connections. -/
theorem ipt_bpf_agree_full_partial
    (N : NamesN) (U : List Net) (tiers : List Tier) (profiles : List Policy) (np : Nat) (env : Env) (st : List Byte)
    (hct : TiersOkG (RuleFullN U) tiers) (hcp : ProfilesOkG (RuleFullN U) profiles)
    (hok : ProgOK env st (wlRules tiers profiles np))
    (hs : env.stateOK = true) (hnosplit : NoSplit env.c (flat (compile env.c (wlRules tiers profiles np))))
    (hshort : (flat (compile env.c (wlRules tiers profiles np))).length < env.c.trampolineStride)
    (prog : List Insn)
    (hi : instructions env.c (wlRules tiers profiles np) = some (some [prog]))
    (cfg : C08.Cfg) (mo : C08.MarksOK cfg) (vb : C09.VBits cfg) (vd : C09.VD cfg) (e : C09.EpCfg) (env9 : Netfilter.Env)
    (pkt9 : Netfilter.Packet) (chains : List Netfilter.Chain) (name : String) (tiers9 : List C09.Tier)
    (profiles9 : List String) (polRules : String → List Policy.Rule) (F : Nat)
    (m : Netfilter.Mark)
    (h1 : e.chainType = .normal) (h2 : e.adminUp = true) (h3 : e.failsafe = "")
    (h4 : pkt9.ctState ≠ "RELATED" ∧ pkt9.ctState ≠ "ESTABLISHED" ∧ pkt9.ctState ≠ "INVALID")
    (h5 : (e.dropVXLAN = true → pkt9.proto ≠ 17) ∧ (e.dropIPIP = true → pkt9.proto ≠ 4))
    (h6 : m &&& cfg.markDrop = 0)
    (h7 : Netfilter.lookupChain chains name = some (C09.endpointChain cfg e name tiers9 profiles9).rules)
    (h8 : ∀ t ∈ tiers9, ∀ g ∈ t.groups, g.inlined = false →
      Netfilter.lookupChain chains g.chain = some (C09.policyGroupChain cfg g).rules)
    (h9 : ∀ t ∈ tiers9, ∀ g ∈ t.groups, ∀ p ∈ g.pols, p.staged = false →
      C09.PolicyChainOK cfg env9 pkt9 chains (polRules p.chain) p.chain)
    (h10 : ∀ p ∈ profiles9, C09.ProfileChainOK cfg env9 pkt9 chains (polRules p) p)
    -- chain names: a group chain name identifies its group and is no inlined policy's / profile's chain name
    -- (not used: `C09.endpoint_chain_verdict` does not need them)
    (hn1 : ∀ t ∈ tiers9, ∀ g ∈ t.groups, g.inlined = false → ∀ t' ∈ tiers9, ∀ g' ∈ t'.groups, g'.inlined = false →
      g'.chain = g.chain → g' = g)
    (hn2 : ∀ t ∈ tiers9, ∀ g ∈ t.groups, g.inlined = false →
      (∀ t' ∈ tiers9, ∀ g' ∈ t'.groups, g'.inlined = true → ∀ p ∈ g'.nonStaged, p.chain ≠ g.chain) ∧
      (∀ p ∈ profiles9, p ≠ g.chain))
    (he : EnvRelN N U env9 pkt9 env (pktOfD st))
    (hT : C09.policyTiers env9 pkt9 polRules tiers9 true =
      tiers.map (fun t => (outsG env9 pkt9 (trRuleFN N) t.policies, t.endAction == .pass)))
    (hP : profiles9.map (fun p => C09.policyOutcome env9 pkt9.v6 pkt9 (polRules p)) =
      outsG env9 pkt9 (trRuleFN N) profiles) :
    ∃ v : Verdict,
      C09.VShape cfg (toV9 v) (Netfilter.evalChain env9 chains pkt9 (F + 4) name m) ∧
      (∃ o, (execL env prog (Mach.init st)).obs = some o ∧ (expectedObs env false v).agrees o = true) :=
  ⟨_, ipt_bpf_verdict (ruleBridge_fullN he) hct hcp hok hs hnosplit hshort prog hi
    ⟨mo, vb, vd, h1, h2, h3, h4, h5, h6, h7, h8, h9, h10⟩ F hT hP⟩

/-- **All three agree with literal CIDRs**: on rules carrying protocol / not-protocol and IPv4 source /
not-source / destination / not-destination CIDR lists (the intersection of `RuleFullN` and `NetsL4`),
the rendered iptables/nftables endpoint chain, the interpreted BPF program AND the app-policy checker
model yield the same verdict — `dataplanes_agree_partial` extended by the CIDR criteria.
`U` is the list of CIDRs the policy mentions; `EnvRelN N U` asks the kernel-side environment to describe the
same packet and, for the CIDRs of `U` only, the same containment.  The iptables layout (tiers → policy groups,
inlined or with their own chain → policies, staged ones skipped) is tied to the shared tiers by `hT`/`hP`:
`C09.policyTiers` (each tier's enforced policies in evaluation order, ANY grouping) yields the outcome lists of
the shared tiers' policies; `hn1`/`hn2` are the chain name distinctness hypotheses of
`C09.endpoint_chain_verdict_partial`, which the proof does not use.  `_partial`: NOT
covered are IPv6 flows, IPv6 CIDRs and explicit `ipVersion` (false: `checker_ignores_ip_family`), pass rules
in profiles (false: `profile_pass_disagree`), the criteria outside the checker model (ports, IP sets, ICMP:
two-way only, `ipt_bpf_agree_full_partial`), tiers without enforced policy, protocol number 0 (`hn`), split or
trampolined BPF builds, established connections / failsafes. -/
theorem dataplanes_agree_nets_partial
    (N : NamesN) (U : List Net) (tiers : List Tier) (profiles : List Policy) (np : Nat) (env : Env) (st : List Byte)
    (src dst : Nat)
    (hct : TiersOkG (RuleFullN U) tiers) (hcp : ProfilesOkG (RuleFullN U) profiles)
    (hctN : TiersNetsL4 tiers) (hcpN : PoliciesNetsL4 profiles)
    (hn : 1 ≤ (pktOfD st).proto.toNat) (hf : FlowAddrs (pktOfD st) src dst)
    (hok : ProgOK env st (wlRules tiers profiles np))
    (hs : env.stateOK = true) (hnosplit : NoSplit env.c (flat (compile env.c (wlRules tiers profiles np))))
    (hshort : (flat (compile env.c (wlRules tiers profiles np))).length < env.c.trampolineStride)
    (prog : List Insn)
    (hi : instructions env.c (wlRules tiers profiles np) = some (some [prog]))
    (cfg : C08.Cfg) (mo : C08.MarksOK cfg) (vb : C09.VBits cfg) (vd : C09.VD cfg) (e : C09.EpCfg) (env9 : Netfilter.Env)
    (pkt9 : Netfilter.Packet) (chains : List Netfilter.Chain) (name : String) (tiers9 : List C09.Tier)
    (profiles9 : List String) (polRules : String → List Policy.Rule) (F : Nat)
    (m : Netfilter.Mark)
    (h1 : e.chainType = .normal) (h2 : e.adminUp = true) (h3 : e.failsafe = "")
    (h4 : pkt9.ctState ≠ "RELATED" ∧ pkt9.ctState ≠ "ESTABLISHED" ∧ pkt9.ctState ≠ "INVALID")
    (h5 : (e.dropVXLAN = true → pkt9.proto ≠ 17) ∧ (e.dropIPIP = true → pkt9.proto ≠ 4))
    (h6 : m &&& cfg.markDrop = 0)
    (h7 : Netfilter.lookupChain chains name = some (C09.endpointChain cfg e name tiers9 profiles9).rules)
    (h8 : ∀ t ∈ tiers9, ∀ g ∈ t.groups, g.inlined = false →
      Netfilter.lookupChain chains g.chain = some (C09.policyGroupChain cfg g).rules)
    (h9 : ∀ t ∈ tiers9, ∀ g ∈ t.groups, ∀ p ∈ g.pols, p.staged = false →
      C09.PolicyChainOK cfg env9 pkt9 chains (polRules p.chain) p.chain)
    (h10 : ∀ p ∈ profiles9, C09.ProfileChainOK cfg env9 pkt9 chains (polRules p) p)
    -- chain names: a group chain name identifies its group and is no inlined policy's / profile's chain name
    -- (not used: `C09.endpoint_chain_verdict` does not need them)
    (hn1 : ∀ t ∈ tiers9, ∀ g ∈ t.groups, g.inlined = false → ∀ t' ∈ tiers9, ∀ g' ∈ t'.groups, g'.inlined = false →
      g'.chain = g.chain → g' = g)
    (hn2 : ∀ t ∈ tiers9, ∀ g ∈ t.groups, g.inlined = false →
      (∀ t' ∈ tiers9, ∀ g' ∈ t'.groups, g'.inlined = true → ∀ p ∈ g'.nonStaged, p.chain ≠ g.chain) ∧
      (∀ p ∈ profiles9, p ≠ g.chain))
    (he : EnvRelN N U env9 pkt9 env (pktOfD st))
    (hT : C09.policyTiers env9 pkt9 polRules tiers9 true =
      tiers.map (fun t => (outsG env9 pkt9 (trRuleFN N) t.policies, t.endAction == .pass)))
    (hP : profiles9.map (fun p => C09.policyOutcome env9 pkt9.v6 pkt9 (polRules p)) =
      outsG env9 pkt9 (trRuleFN N) profiles) :
    ∃ v : Verdict,
      C09.VShape cfg (toV9 v) (Netfilter.evalChain env9 chains pkt9 (F + 4) name m) ∧
      (∃ o, (execL env prog (Mach.init st)).obs = some o ∧ (expectedObs env false v).agrees o = true) ∧
      checkTiersN ((pktOfD st).proto.toNat : Int) src dst profiles tiers = some (v == .allow) := by
  have ⟨hipt, hbpf⟩ := ipt_bpf_verdict (ruleBridge_fullN he) hct hcp hok hs hnosplit hshort prog hi
    ⟨mo, vb, vd, h1, h2, h3, h4, h5, h6, h7, h8, h9, h10⟩ F hT hP
  exact ⟨_, hipt, hbpf,
    checker_tiers_nets_ref env he.base.v4 (pktOfD st) _ hn rfl src dst hf (wlRules tiers profiles np) hctN hcpN⟩

-- non-vacuity of the extended fragment: "allow tcp from set 7 to ports 80,8000-8080, not to set 9"
def exFull : Rule :=
  { action := "allow", protocol := some (Proto.name "tcp"), srcIpSetIds := [7], notDstIpSetIds := [9],
    dstPorts := [{ first := 80, last := 80 }, { first := 8000, last := 8080 }] }
example : RuleFullN [] exFull := by
  refine ⟨⟨Or.inl rfl, trivial, trivial, ⟨rfl, rfl, rfl, rfl, rfl⟩, ?_, ?_, ?_, ⟨trivial, trivial⟩, by decide⟩,
    by intro n hn; simp [exFull] at hn, by intro n hn; simp [exFull] at hn⟩
  · intro pr h
    simp [exFull, clearNets] at h
    rcases h with rfl | rfl <;> exact ⟨by decide, by decide, by decide⟩
  · intro _; exact ⟨_, 6, rfl, by decide, Or.inl rfl⟩
  · intro h; rcases h with h | h <;> exact absurd rfl h
theorem exNets_full : RuleFullN exU exNets :=
  exNets_netsL4.fullN (Or.inl rfl) trivial trivial (by intro n hn; simp [exNets] at hn; rcases hn with rfl | rfl <;> simp [exU])

-- non-vacuity of `EnvRelN`: a kernel-side environment and packet that describe the C11-side packet
-- 10.1.2.3 -> 192.168.0.1 (tcp, 1234 -> 80), no IP sets, and contain exactly the two CIDRs of `exNets`
def exNames : NamesN :=
  { set := fun id => toString id,
    cidr := fun n => if n.v6 then ":" else if n.pfx = 16 then "10.1.0.0/16" else "10.0.0.0/8",
    cidrFam := by
      intro n
      cases hv : n.v6 <;> by_cases h : n.pfx = 16 <;> simp [h, Policy.cidrIsV6] <;> decide }
def exEnv9 : Netfilter.Env :=
  { netContains := fun c a => if c = "10.1.0.0/16" then a / 65536 == 0x0a01 else if c = "10.0.0.0/8" then a / 16777216 == 10 else false,
    protoNum := fun s => protoNumberRef (.name s) }
theorem exEnv9_proto : EnvProto exEnv9 := fun _ => by simp only [exEnv9]
def exPkt9 : Netfilter.Packet := { proto := 6, src := 0x0a010203, dst := 0xc0a80001, sport := 1234, dport := 80 }
def exP : Pkt :=
  { src := [rev32bv 0x0a010203#32, 0, 0, 0], preDst := [rev32bv 0xc0a80001#32, 0, 0, 0],
    postDst := [rev32bv 0xc0a80001#32, 0, 0, 0], sport := 1234, icmpW := 0, preDport := 80, postDport := 80, proto := 6,
    flags := 0 }
theorem exEnvRel : EnvRelN exNames exU exEnv9 exPkt9 { c := exCfg } exP := by
  refine ⟨⟨rfl, rfl, exEnv9_proto, rfl, rfl, rfl, rfl, rfl, fun _ => rfl, fun _ => rfl, fun _ => rfl, fun _ => rfl⟩, ?_, ?_⟩
  · intro n hn _; simp [exU] at hn; rcases hn with rfl | rfl <;> decide
  · intro n hn _; simp [exU] at hn; rcases hn with rfl | rfl <;> decide
example : FlowAddrs exP 0x0a010203 0xc0a80001 := ⟨rfl, rfl⟩

-- non-vacuity of the tier/profile fragments of `dataplanes_agree_nets_partial`, and of its conclusion: on this
-- policy state and packet the unified reference (hence every one of the three sides) says ALLOW, and
-- DENY once the destination lies inside 10.0.0.0/8
def exTiersN : List Tier := [{ endAction := EndAction.deny, endRuleID := 0, policies := [{ rules := [exNets] }] }]
theorem exTiersN_ok : TiersOkG (RuleFullN exU) exTiersN ∧ TiersNetsL4 exTiersN := by
  simp [TiersOkG, PoliciesOkG, TiersNetsL4, PoliciesNetsL4, RulesNetsL4, exTiersN]
  exact ⟨exNets_full, ⟨rfl, by intro n hn; simp [exNets] at hn; rcases hn with rfl | rfl <;> rfl⟩, by decide⟩
example :
    C09.endpointVerdict (exTiersN.map (fun t => (outsG exEnv9 exPkt9 (trRuleFN exNames) t.policies, t.endAction == .pass)))
        (outsG exEnv9 exPkt9 (trRuleFN exNames) []) = toV9 .allow ∧
      checkTiersN 6 0x0a010203 0xc0a80001 [] exTiersN = some true ∧
      checkTiersN 6 0x0a010203 0x0a000002 [] exTiersN = some false := by
  refine ⟨?_, by decide, by decide⟩
  rw [references_agree_full_partial exEnvRel exTiersN [] exTiersN_ok.1 ⟨(by intro _ h; cases h), (by intro _ h; cases h)⟩]
  decide

theorem exL4_common : RuleCommon exL4a ∧ RuleCommon exL4b :=
  ⟨⟨rfl, Or.inl rfl, trivial, trivial⟩, ⟨rfl, Or.inr (Or.inl rfl), trivial, ⟨by decide, by decide⟩⟩⟩
example : TiersCommon [{ endAction := EndAction.deny, endRuleID := 0, policies := [{ rules := [exL4a, exL4b] }] }] := by
  simp [TiersCommon, PoliciesCommon]
  exact exL4_common
example : ProfilesCommon [{ rules := [exL4a, exL4b] }] ∧ EnvProto exEnv9 := by
  simp [ProfilesCommon, PoliciesCommon]
  exact ⟨⟨exL4_common, by decide, by decide⟩, exEnv9_proto⟩

/-! ### Joint non-vacuity: ALL hypotheses of `dataplanes_agree_nets_partial` on one instance

One workload endpoint: a tier (end action deny) whose policy group `g` holds the enforced policies
`polA` = [allow tcp from 10.1.0.0/16 to !10.0.0.0/8] (`exNets`), `polB` = [deny tcp] and a staged policy
(so the group has its own chain: NOT inlined), and the profile `prof` = [allow tcp]; the flow
10.1.2.3:1234 → 192.168.0.1:80 tcp as 512 state bytes `jSt` (BPF side), as `exPkt9` (netfilter side)
and as addresses (checker side); the kernel environment `jEnv9` knows the two CIDRs of the policy and the
catch-all CIDRs; the chain set `jChains` holds the rendered endpoint, group, policy and profile chains;
the BPF program is the one `Instructions` builds (`jProg_built`).  `joint_instance` feeds all of it to
the theorem; `joint_instance_verdict` evaluates the three sides independently: all ALLOW. -/

def jSt : List Byte :=
  List.replicate 8 0 ++ [10, 1, 2, 3] ++ List.replicate 28 0 ++ [192, 168, 0, 1] ++ List.replicate 12 0 ++
    [192, 168, 0, 1] ++ List.replicate 36 0 ++ [0xD2, 0x04, 0, 0, 80, 0, 80, 0, 6] ++ List.replicate 407 0
theorem jSt_len : jSt.length = 512 := by decide +kernel
theorem jSt_pkt : pktOfD jSt = exP := by
  unfold pktOfD exP
  congr 1

def jEnv9 : Netfilter.Env :=
  { netContains := fun c a => if c = "0.0.0.0/0" ∨ c = "::/0" then true else exEnv9.netContains c a,
    protoNum := fun s => protoNumberRef (.name s) }
theorem jEnv9_catchAll : C08.EnvCatchAll jEnv9 := fun _ => ⟨rfl, rfl⟩
theorem jEnvRel : EnvRelN exNames exU jEnv9 exPkt9 { c := exCfg } (pktOfD jSt) := by
  rw [jSt_pkt]
  refine ⟨⟨rfl, rfl, fun _ => by simp only [jEnv9], rfl, rfl, rfl, rfl, rfl, fun _ => rfl, fun _ => rfl, fun _ => rfl, fun _ => rfl⟩, ?_, ?_⟩
  · intro n hn _; simp [exU] at hn; rcases hn with rfl | rfl <;> decide
  · intro n hn _; simp [exU] at hn; rcases hn with rfl | rfl <;> decide

def jDeny : Rule := { action := "deny", protocol := some (Proto.name "tcp") }
def jTiers : List Tier :=
  [{ endAction := EndAction.deny, endRuleID := 1, policies := [{ rules := [exNets] }, { rules := [jDeny] }] }]
def jProfs : List Policy := [{ rules := [exL4a] }]

def jPolRules (c : String) : List Policy.Rule :=
  if c == "polA" then [trRuleFN exNames exNets] else if c == "polB" then [trRuleFN exNames jDeny]
  else if c == "prof" then [trRuleFN exNames exL4a] else []
def jG : C09.Group := { chain := "g", pols := [{ chain := "polA", staged := false }, { chain := "polS", staged := true }, { chain := "polB", staged := false }] }
def jTiers9 : List C09.Tier := [{ name := "t", defaultPass := false, groups := [jG] }]
def jChains : List Netfilter.Chain :=
  [ { name := "ep", rules := (C09.endpointChain {} {} "ep" jTiers9 ["prof"]).rules },
    C09.policyGroupChain {} jG,
    { name := "polA", rules := (C09.protoRulesToRules {} {} false (jPolRules "polA") "c").getD [] },
    { name := "polB", rules := (C09.protoRulesToRules {} {} false (jPolRules "polB") "c").getD [] },
    { name := "prof", rules := (C09.protoRulesToRules {} { owner := 'R' } false (jPolRules "prof") "c").getD [] } ]

def jRules : Rules := wlRules jTiers jProfs 0
def jProg : List Insn := match instructions exCfg jRules with | some (some [p]) => p | _ => []
theorem jProg_built : instructions exCfg jRules = some (some [jProg]) := by decide +kernel

theorem hpos_of (v6 : Bool) (r : Policy.Rule)
    (h : (match C08.filterRuleToIPVersion v6 r with | some rc => decide (C08.numPositive rc ≤ 2) | none => true) = true) :
    ∀ rc, C08.filterRuleToIPVersion v6 r = some rc → C08.numPositive rc ≤ 2 := by
  intro rc hrc; rw [hrc] at h; simpa using h

theorem jExact (r : Policy.Rule)
    (h : (match C08.filterRuleToIPVersion false r with | some rc => decide (C08.numPositive rc ≤ 2) | none => true) = true) :
    C09.RuleExact {} jEnv9 exPkt9 r :=
  C09.ruleExact_of_le2 {} jEnv9 exPkt9 r (by constructor <;> decide) jEnv9_catchAll (Or.inl rfl) (hpos_of false r h)

theorem jExactA : C09.RuleExact {} jEnv9 exPkt9 (trRuleFN exNames exNets) := jExact _ (by decide +kernel)

theorem jDeny_full : RuleFullN exU jDeny ∧ NetsL4 jDeny :=
  have h : NetsL4 jDeny := ⟨rfl, by intro n hn; simp [jDeny] at hn⟩
  ⟨h.fullN (Or.inr (Or.inl rfl)) trivial trivial (by intro n hn; simp [jDeny] at hn), h⟩
theorem exL4a_full : RuleFullN exU exL4a ∧ NetsL4 exL4a :=
  have h : NetsL4 exL4a := ⟨rfl, by intro n hn; simp [exL4a] at hn⟩
  ⟨h.fullN (Or.inl rfl) trivial trivial (by intro n hn; simp [exL4a] at hn), h⟩

theorem NetsL4.ruleOK {r : Rule} (h : NetsL4 r) (h1 : ∀ pr, r.protocol = some pr → ProtoOK pr)
    (h2 : ∀ pr, r.notProtocol = some pr → ProtoOK pr) : RuleOK r := by
  have e : r.ipSetIDs = [] ∧ r.srcPorts ++ r.notSrcPorts ++ r.dstPorts ++ r.notDstPorts = [] := by
    rw [h.shape]; exact ⟨rfl, rfl⟩
  exact ⟨h1, h2, by rw [e.1]; nofun, by rw [e.2]; nofun⟩

theorem tcp_ok (pr : Proto) (h : some (Proto.name "tcp") = some pr) : ProtoOK pr := by
  cases h; exact protoOK_of_ref _ 6 rfl

theorem exNets_ok : RuleOK exNets := exNets_netsL4.ruleOK tcp_ok nofun
theorem jDeny_ok : RuleOK jDeny := jDeny_full.2.ruleOK tcp_ok nofun
theorem exL4a_ok : RuleOK exL4a := exL4a_full.2.ruleOK tcp_ok nofun

theorem joint_instance :
    ∃ v : Verdict,
      C09.VShape {} (toV9 v) (Netfilter.evalChain jEnv9 jChains exPkt9 4 "ep" 0) ∧
      (∃ o, (execL { c := exCfg } jProg (Mach.init jSt)).obs = some o ∧ (expectedObs { c := exCfg } false v).agrees o = true) ∧
      checkTiersN ((pktOfD jSt).proto.toNat : Int) 0x0a010203 0xc0a80001 jProfs jTiers = some (v == .allow) := by
  have hct : TiersOkG (RuleFullN exU) jTiers := by
    simp [TiersOkG, PoliciesOkG, jTiers]
    exact ⟨exNets_full, jDeny_full.1⟩
  have hcp : ProfilesOkG (RuleFullN exU) jProfs := by
    simp [ProfilesOkG, PoliciesOkG, jProfs]
    exact ⟨exL4a_full.1, by decide⟩
  have hctN : TiersNetsL4 jTiers := by
    simp [TiersNetsL4, PoliciesNetsL4, RulesNetsL4, jTiers]
    exact ⟨⟨exNets_netsL4, by decide⟩, jDeny_full.2, by decide⟩
  have hcpN : PoliciesNetsL4 jProfs := by
    simp [PoliciesNetsL4, RulesNetsL4, jProfs]
    exact ⟨exL4a_full.2, by decide⟩
  have hn : 1 ≤ (pktOfD jSt).proto.toNat := by rw [jSt_pkt]; decide
  have hf : FlowAddrs (pktOfD jSt) 0x0a010203 0xc0a80001 := by rw [jSt_pkt]; exact ⟨rfl, rfl⟩
  have hok : ProgOK { c := exCfg } jSt (wlRules jTiers jProfs 0) := by
    refine ⟨⟨jSt_len, by decide⟩, ?_, nofun, nofun, nofun, ?_, nofun⟩ <;> simp [TiersGood, ProfsGood, wlRules, jTiers, jProfs]
    · exact ⟨⟨by decide, exNets_ok⟩, by decide, jDeny_ok⟩
    · exact ⟨by decide, exL4a_ok⟩
  have hshort : (flat (compile exCfg (wlRules jTiers jProfs 0))).length < exCfg.trampolineStride := by decide +kernel
  refine dataplanes_agree_nets_partial exNames exU jTiers jProfs 0 { c := exCfg } jSt 0x0a010203 0xc0a80001
    hct hcp hctN hcpN hn hf hok rfl (Or.inl rfl) hshort jProg jProg_built
    {} (by constructor <;> decide) (by constructor <;> decide) (by constructor <;> decide) {} jEnv9 exPkt9 jChains "ep" jTiers9 ["prof"] jPolRules 0 0
    rfl rfl rfl (by decide) (by decide) (by decide) (by decide +kernel) ?h8 ?h9 ?h10 ?hn1 ?hn2 jEnvRel ?hT ?hP
  case h8 => decide +kernel
  case h9 =>
    intro t ht g hg p hp hs
    simp only [jTiers9, List.mem_singleton] at ht; subst ht
    simp only [List.mem_singleton] at hg; subst hg
    simp only [jG, List.mem_cons, List.not_mem_nil, or_false] at hp
    rcases hp with rfl | rfl | rfl
    · refine ⟨{}, "c", (C09.protoRulesToRules {} {} false (jPolRules "polA") "c").getD [], by decide +kernel, by decide +kernel, ?_, ?_⟩ <;>
        (intro r hr; have : r = trRuleFN exNames exNets := by simpa [jPolRules] using hr
         subst this)
      · exact jExactA
      · decide +kernel
    · exact absurd hs (by decide)
    · refine ⟨{}, "c", (C09.protoRulesToRules {} {} false (jPolRules "polB") "c").getD [], by decide +kernel, by decide +kernel, ?_, ?_⟩ <;>
        (intro r hr; have : r = trRuleFN exNames jDeny := by simpa [jPolRules] using hr
         subst this)
      · exact jExact _ (by decide +kernel)
      · decide +kernel
  case h10 =>
    intro p hp
    simp only [List.mem_singleton] at hp; subst hp
    refine ⟨{ owner := 'R' }, "c", (C09.protoRulesToRules {} { owner := 'R' } false (jPolRules "prof") "c").getD [], by decide +kernel, by decide +kernel, ?_, ?_⟩ <;>
      (intro r hr; have : r = trRuleFN exNames exL4a := by simpa [jPolRules] using hr
       subst this)
    · exact jExact _ (by decide +kernel)
    · exact ⟨.allow, by decide +kernel, by decide⟩
  case hn1 => decide +kernel
  case hn2 => refine fun t ht g hg _ => ⟨?_, ?_⟩ <;> decide +kernel +revert
  case hT => rfl
  case hP => rfl
theorem joint_instance_verdict :
    bpfVerdict { c := exCfg } (wlRules jTiers jProfs 0) (pktOfD jSt) = .allow ∧
    Netfilter.evalChain jEnv9 jChains exPkt9 4 "ep" 0 = .returned 0x80#32 ∧
    checkTiersN 6 0x0a010203 0xc0a80001 jProfs jTiers = some true := by
  refine ⟨by rw [jSt_pkt]; decide, by decide +kernel, by decide⟩

end CalicoVerif.C12
