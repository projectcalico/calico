import CalicoVerif.Proofs.C24Run
/-!
C24 — Typha clients converge to the datastore view from any join point.

Runs (`CacheOp`, `Cache.run`), `clientView` and `consumedBy` are defined in `Proofs/C24Run`.  Model: `Model/C24.lean` (snapshot
cache: `push`, `loopOnce` =
`fillBatchFromInputQueue` + `publishBreadcrumbs`; per-connection sender: `snapshotMsgs`,
`sendDeltas`).  Quantification:
  * `ops : List CacheOp` — ANY stream of syncer updates / status changes pushed to the cache and any
    points at which the cache's loop runs (that fixes how the input is batched into breadcrumbs), with any
    timestamps;
  * `start` — ANY join point (the crumb whose snapshot the client is sent);
  * `cfg`, `lags` — ANY message size, batching-age threshold, fall-behind limit, grace-period state and ANY
    script of how far ahead the cache's newest crumb is each time the sender looks (= any read speed);
  * `m` — any snapshot message size.
A client applies every `kvs` message in order to an initially empty map (`applyDs emptyView …`).
-/
namespace CalicoVerif.C24

/-- **Breadcrumb chain invariant**: in every reachable cache, each crumb's snapshot is exactly the
previous crumb's snapshot with the crumb's own deltas applied (skipped no-op updates change neither),
and sequence numbers count up by one. -/
theorem crumb_chain_inv (b : Nat) (ops : List CacheOp) (i : Nat) (x y : Crumb) :
    let chain := ((Cache.new b).run ops).chain
    chain[i]? = some x → chain[i + 1]? = some y →
      asMap y.kvs = applyDs (asMap x.kvs) y.deltas ∧ y.seq = x.seq + 1 := by
  exact chainOK_link _ ((Ready.new b).run ops).inv.chain i x y

theorem snapshot_gives_crumb_view (b : Nat) (ops : List CacheOp) (start m : Nat) (c : Crumb)
    (hc : ((Cache.new b).run ops).chain[start]? = some c) :
    clientView emptyView (snapshotMsgs c m) = asMap c.kvs :=
  ((Ready.new b).run ops).inv.snapshot_view hc m

/-- **No loss, no duplication, no reordering under any batching**: the KVs of the delta messages of a
connection are exactly the deltas of the crumbs `start+1 … p` in order, for some `p` up to the sender's
final position; and if the sender was not disconnected they are (with anything still held) the deltas
up to its final position.  In particular a key's updates reach the client in the order the server
applied them — an older value never follows a newer one. -/
theorem delta_stream_exact (chain : List Crumb) (cfg : SrvCfg) (start : Nat) (lags : List Nat) :
    let r := sendDeltas chain cfg start lags
    (∃ p, start ≤ p ∧ p ≤ r.pos ∧ kvsConcat r.msgs = dB chain start p) ∧
    (r.disconnected = false → kvsConcat r.msgs ++ r.held = dB chain start r.pos) :=
  ⟨(sendDeltas_spec chain cfg start lags).prefix_exact, (sendDeltas_spec chain cfg start lags).exact⟩

/-- **Convergence from any join point**: a client that joined at crumb `start` (snapshot in messages of
any size) and read the delta stream until the sender had nothing more (not disconnected, nothing held
back) holds exactly the view of the crumb the sender reached — for every update history, join point,
batching configuration and read speed. -/
theorem client_converges (b : Nat) (ops : List CacheOp) (start m : Nat) (cfg : SrvCfg) (lags : List Nat)
    (c : Crumb) :
    let chain := ((Cache.new b).run ops).chain
    let r := sendDeltas chain cfg start lags
    chain[start]? = some c → r.disconnected = false → r.held = [] →
      clientView (clientView emptyView (snapshotMsgs c m)) r.msgs = viewAt chain r.pos := by
  intro chain r hc hd hh
  have sp := sendDeltas_spec chain cfg start lags
  have hex := sp.exact hd
  rw [hh, List.append_nil] at hex
  have h := ((Ready.new b).run ops).inv
  rw [h.snapshot_view hc, clientView, hex]
  exact h.view_advance hc sp.fwd.1 (sp.fwd.2 (List.getElem?_eq_some_iff.mp hc).1)

/-- **Consistency at every moment, even for a client that is later disconnected**: what the client holds
after the delta messages is always the exact view of SOME crumb between its join point and the sender's
position — never a mixture. -/
theorem client_view_is_a_crumb_view (b : Nat) (ops : List CacheOp) (start m : Nat) (cfg : SrvCfg)
    (lags : List Nat) (c : Crumb) :
    let chain := ((Cache.new b).run ops).chain
    let r := sendDeltas chain cfg start lags
    chain[start]? = some c →
      ∃ p, start ≤ p ∧ p ≤ r.pos ∧
        clientView (clientView emptyView (snapshotMsgs c m)) r.msgs = viewAt chain p := by
  intro chain r hc
  have sp := sendDeltas_spec chain cfg start lags
  obtain ⟨p, hp1, hp2, hk⟩ := sp.prefix_exact
  refine ⟨p, hp1, hp2, ?_⟩
  have h := ((Ready.new b).run ops).inv
  rw [h.snapshot_view hc, clientView, hk]
  exact h.view_advance hc hp1 (Nat.lt_of_le_of_lt hp2 (sp.fwd.2 (List.getElem?_eq_some_iff.mp hc).1))

/-- **In-sync is never announced early**: at every status message `s` of a connection's delta stream, the
client (snapshot + all KV messages before that status) holds exactly the view of a crumb `p ≥ start`
whose status is `s`.  For `s = InSync`: the client is told in-sync only when it holds the snapshot of a
crumb at which the server was in sync. -/
theorem insync_sound (b : Nat) (ops : List CacheOp) (start : Nat) (cfg : SrvCfg) (lags : List Nat) (c : Crumb) :
    let chain := ((Cache.new b).run ops).chain
    let r := sendDeltas chain cfg start lags
    chain[start]? = some c →
      statusesOK (fun acc s => ∃ p, start ≤ p ∧ applyDs (asMap c.kvs) acc = viewAt chain p ∧
        (chain[p]?).map (·.status) = some s) [] r.msgs := by
  intro chain r hc
  refine statusesOK_mono ?_ [] r.msgs (sendDeltas_spec chain cfg start lags).statuses
  intro acc s ⟨p, hp, hacc, hst⟩
  have hpl : p < chain.length := by
    cases hg : chain[p]? with
    | none => rw [hg] at hst; cases hst
    | some _ => exact (List.getElem?_eq_some_iff.mp hg).1
  exact ⟨p, hp, hacc ▸ ((Ready.new b).run ops).inv.view_advance hc hp hpl, hst⟩

/-- The status a crumb carries is only ever changed on the LAST chunk of a batch (`publishBreadcrumb`):
a crumb minted while more updates of the same batch are still pending keeps the previous status. -/
theorem status_only_on_last_chunk (c : Cache) (ts : Nat)
    (h : c.pendingUpdates.length > c.maxBatch) :
    (publishBreadcrumb c ts).cur.status = c.cur.status := by
  rw [publishBreadcrumb_eq]
  split
  · exact if_neg (Nat.not_le.mpr h)
  · rfl

/-- **A client that is not cut off reads to the end**: with MaxMessageSize > 0 and MinBatchingAgeThreshold > 0
(what `Config.ApplyDefaults` enforces), for every chain, join point and "how far behind" script, a sender that
does not disconnect its client walks to the LAST crumb and holds nothing back — no fairness assumption is needed
beyond "the sender keeps running" (the model runs it until `Next` would block). -/
theorem reads_to_end (chain : List Crumb) (cfg : SrvCfg) (start : Nat) (lags : List Nat)
    (hmsg : 0 < cfg.maxMsg) (hage : 0 < cfg.minBatchAge) (hs : start < chain.length) :
    (sendDeltas chain cfg start lags).disconnected = false →
      (sendDeltas chain cfg start lags).pos + 1 = chain.length ∧ (sendDeltas chain cfg start lags).held = [] :=
  outer_reads_to_end chain cfg hmsg hage _ _ _ _ _ hs (by omega)

/-- **Convergence to the server's CURRENT view**: a client that joined at any crumb and is not disconnected ends
up with exactly the snapshot of the cache's current breadcrumb — with no "nothing held" premise: under the two
positivity conditions of `reads_to_end`, not being disconnected implies it. -/
theorem client_converges_to_current (b : Nat) (ops : List CacheOp) (start m : Nat) (cfg : SrvCfg) (lags : List Nat)
    (c : Crumb) (hmsg : 0 < cfg.maxMsg) (hage : 0 < cfg.minBatchAge) :
    let cache := (Cache.new b).run ops
    let r := sendDeltas cache.chain cfg start lags
    cache.chain[start]? = some c → r.disconnected = false →
      clientView (clientView emptyView (snapshotMsgs c m)) r.msgs = asMap cache.cur.kvs := by
  intro cache r hc hd
  obtain ⟨hpos, hheld⟩ :=
    reads_to_end cache.chain cfg start lags hmsg hage (List.getElem?_eq_some_iff.mp hc).1 hd
  refine (client_converges b ops start m cfg lags c hc hd hheld).trans ?_
  have hlast : (sendDeltas cache.chain cfg start lags).pos = cache.older.length := by
    have : cache.chain.length = cache.older.length + 1 := List.length_append
    omega
  rw [hlast]
  exact viewAt_of_get (List.getElem?_concat_length ..)

/-- **In-sync is never attached too early by the cache**: one iteration of `Cache.loop` on any cache satisfying the
invariant.  `b = fillBatch c` holds the updates (`b.pendingUpdates`) and the last status (`b.pendingStatus`)
consumed from the syncer in this iteration.  After publishing:
nothing is left pending; the current crumb's snapshot is (value-wise) the previous tree with EVERY consumed
update applied; every other crumb minted in this iteration still carries the status from before the iteration;
so a status change (e.g. to InSync) is only ever announced on a crumb that already contains all updates the
syncer sent before that status. -/
theorem status_never_precedes_updates (c : Cache) (h : CacheInv c) (hmb : 0 < c.maxBatch) (ts : Nat) :
    let b := fillBatch c
    let c' := loopOnce c ts
    c'.pendingUpdates = [] ∧
    vmap c'.cur.kvs = vfold (vmap b.kvs) b.pendingUpdates ∧
    (∀ x ∈ c'.older, x ∈ b.older ∨ x.status = b.cur.status) ∧
    (c'.cur.status ≠ b.cur.status → c'.cur.status = b.pendingStatus) :=
  have ⟨d, hnil⟩ := loopOnce_drained ⟨h, hmb⟩ ts
  ⟨hnil, d.drained hnil, d.older, fun hne => (d.status hne).2⟩

/-- Every reachable cache satisfies the hypotheses of `status_never_precedes_updates`. -/
theorem reachable_cache_ok (bsz : Nat) (ops : List CacheOp) :
    CacheInv ((Cache.new bsz).run ops) ∧ 0 < ((Cache.new bsz).run ops).maxBatch :=
  ⟨((Ready.new bsz).run ops).inv, ((Ready.new bsz).run ops).pos⟩

/-- **The current snapshot is the datastore view**: over any run, the cache's current breadcrumb holds
(value-wise; a skipped no-op keeps the older revision) exactly the fold of EVERY update the cache has taken off its
input channel, and nothing is left pending between loop iterations.  With `client_converges_to_current`: a client
that is not cut off ends with the datastore view of everything Typha has consumed. -/
theorem current_snapshot_is_datastore (bsz : Nat) (ops : List CacheOp) :
    vmap ((Cache.new bsz).run ops).cur.kvs = vfold (fun _ => none) (consumedBy (Cache.new bsz) ops) ∧
      ((Cache.new bsz).run ops).pendingUpdates = [] :=
  run_current_view ops (Cache.new bsz) (Ready.new bsz) rfl

def keySeq (k : Nat) (l : List SU) : List SU := l.filter (fun u => u.key == k)

theorem keySeq_append (k : Nat) (a b : List SU) : keySeq k (a ++ b) = keySeq k a ++ keySeq k b := by
  simp [keySeq]

/-- **Per key, never an older value after a newer one**: let `all` be every delta the cache ever applied, in order.
For each key `k`, what the client receives for `k` is: the snapshot entry, which is the result of applying the
prefix `keySeq k (deltas up to the join point)`, followed by `keySeq k` of its delta messages, which is exactly the
NEXT contiguous stretch of `keySeq k all` (everything up to some crumb `p` not beyond the sender's position; that
`p` is the last crumb for a sender that is not cut off is `delta_stream_exact` with `reads_to_end`, not said here).
So the client's per-key sequence is a contiguous continuation of the cache's applied sequence: no older value can
follow a newer one, and none is skipped in between. -/
theorem per_key_order (bsz : Nat) (ops : List CacheOp) (start : Nat) (cfg : SrvCfg) (lags : List Nat) (c : Crumb)
    (k : Nat) :
    let chain := ((Cache.new bsz).run ops).chain
    let r := sendDeltas chain cfg start lags
    chain[start]? = some c →
      ∃ p, start ≤ p ∧ p ≤ r.pos ∧ p < chain.length ∧
        keySeq k (dB chain 0 (chain.length - 1)) =
          keySeq k (dB chain 0 start) ++ keySeq k (kvsConcat r.msgs) ++ keySeq k (dB chain p (chain.length - 1)) ∧
        asMap c.kvs k = applyDs emptyView (dB chain 0 start) k := by
  intro chain r hc
  have hlt := (List.getElem?_eq_some_iff.mp hc).1
  have sp := sendDeltas_spec chain cfg start lags
  have hpos := sp.fwd.2 hlt
  obtain ⟨p, hp1, hp2, hk⟩ := sp.prefix_exact
  refine ⟨p, hp1, hp2, by omega, ?_, ?_⟩
  · show _ = keySeq k (dB chain 0 start) ++ keySeq k (kvsConcat (sendDeltas chain cfg start lags).msgs) ++ _
    rw [hk, ← keySeq_append, ← keySeq_append, dB_split chain 0 start p (Nat.zero_le _) hp1,
      dB_split chain 0 p (chain.length - 1) (Nat.zero_le _) (by omega)]
  · rw [← chain_head_empty bsz ops, ← viewAt_of_get hc,
      chain_telescope chain ((Ready.new bsz).run ops).inv.chain 0 start (Nat.zero_le _) hlt]

/-- A history with a no-op skip, a deletion, a batch split over two crumbs and a late InSync. -/
def demoOps : List CacheOp :=
  [ .push (.ups [⟨1, some 10, 1, 1⟩, ⟨2, some 20, 2, 1⟩, ⟨3, some 30, 3, 1⟩]), .loop 10,
    .push (.ups [⟨2, some 20, 4, 2⟩, ⟨1, none, 5, 3⟩]), .push (.st stInSync), .loop 500,
    .push (.ups [⟨4, some 40, 6, 1⟩]), .loop 1000 ]

def demoChain : List Crumb := ((Cache.new 2).run demoOps).chain

example : demoChain.map (fun c => (c.seq, c.status, c.deltas.length, c.kvs.length)) =
    [(0, 0, 0, 0), (1, 0, 2, 2), (2, 0, 1, 3), (3, 0, 1, 2), (4, 2, 1, 3)] := by decide

/-- A client joining at crumb 1 with a sender that coalesces (always 3 crumbs behind) reads to the end:
hypotheses of `client_converges` hold, in-sync is announced after the deletion reached it. -/
example :
    let r := sendDeltas demoChain ⟨100, 100, 100000, false⟩ 1 [3, 3, 3]
    r.disconnected = false ∧ r.held = [] ∧ r.pos = 4 ∧
      r.msgs = [.kvs [⟨3, some 30, 3, 1⟩, ⟨1, none, 5, 3⟩, ⟨4, some 40, 6, 1⟩], .status stInSync] := by
  decide

/-- A slow client past the grace period is disconnected (the `disconnected` branch is reachable). -/
example : (sendDeltas demoChain ⟨100, 100, 50, true⟩ 0 [4]).disconnected = true := by decide

end CalicoVerif.C24
