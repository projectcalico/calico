import CalicoVerif.Proofs.C06Parse
/-!
C04, rule level — `combineMatchesIfPossible` (felix/calc/rule_scanner.go) folds a rule's selector
`pos` and notSelector `neg` into ONE IP-set selector, the text `"(" pos ") && (!(" neg "))"`, which is
then parsed by the selector parser (model: `C06`).

Proved here, at the level of the parser's token stream (`C06.parseOrExpression`), precedence included:
* `combined_parses_to_and_not`: if `pos` and `neg` are token sequences that the parser reads as `P`
  resp. `N` up to a closing parenthesis, the combined token sequence `( pos ) && ( ! ( neg ) )`
  parses to exactly `and [P, not N]`;
* `combined_eval`: that selector evaluates to `P ∧ ¬N` on every label map;
* `canonical_operand`: every canonical selector text satisfies the operand hypothesis (by
  `C06.parseOperation_toks`), so the two theorems apply to all canonical `pos` / `neg`;
* `unparenthesised_is_wrong`: WITHOUT the parentheses around `pos` the text `a || b && !(c)` parses to
  `or [a, and [b, not c]]`, which accepts a label map that `(a || b) ∧ ¬c` rejects — the parentheses
  are necessary, not cosmetic.
Not proved: the tokenizer step for arbitrary (non-canonical) operand TEXTS, i.e. that the tokens of the
concatenated string are the concatenation of the operands' tokens; the real tokenizer + parser run in
the harness (`rule` ops through the real RuleScanner, oracle `rule-ipset-mismatch`).
-/
namespace CalicoVerif.C04
-- `WF`, `Labels`, `Node` … below are C06's: this file imports no C04 module, or `C04.WF` / `C04.Labels` would take the names
open CalicoVerif.C06

/-- "the parser reads these tokens as node `n` and stops at a closing parenthesis", for every
sufficiently large fuel -/
def ReadsAs (ts : List Token) (n : Node) (bound : Nat) : Prop :=
  ∀ F, bound ≤ F → ∀ r, parseOrWith (parseOperation F) F (ts ++ Token.rParen :: r) = .ok (n, Token.rParen :: r)

/-- the token sequence of `"(" pos ") && (!(" neg "))"` -/
def combinedToks (tp tn : List Token) : List Token :=
  Token.lParen :: (tp ++ Token.rParen :: Token.and :: Token.lParen :: Token.not :: Token.lParen ::
    (tn ++ [Token.rParen, Token.rParen, Token.eof]))

/-- **`(pos) && (!(neg))` parses to `and [P, not N]`.** -/
theorem combined_parses_to_and_not {tp tn : List Token} {P N : Node} {bP bN : Nat}
    (hP : ReadsAs tp P bP) (hN : ReadsAs tn N bN) (F : Nat) (hF : bP + bN + 3 ≤ F) :
    parseOrExpression F (combinedToks tp tn) = .ok (.and [P, .not N], [Token.eof]) := by
  obtain ⟨f, rfl⟩ : ∃ f, F = f + 1 := ⟨F - 1, by omega⟩
  obtain ⟨g, rfl⟩ : ∃ g, f = g + 1 := ⟨f - 1, by omega⟩
  -- innermost: `! ( neg )` followed by `) eof`
  have hneg : parseOperation (g + 1) (Token.not :: Token.lParen :: (tn ++ [Token.rParen, Token.rParen, Token.eof])) =
      .ok (.not N, [Token.rParen, Token.eof]) := by
    rw [parseOperation_succ, opFrom_not]
    exact opFrom_paren _ _ (hN g (by omega) [Token.rParen, Token.eof])
  -- `( ! ( neg ) )` followed by `eof`
  have hnegP : parseOperation (g + 2) (Token.lParen :: Token.not :: Token.lParen :: (tn ++ [Token.rParen, Token.rParen, Token.eof])) =
      .ok (.not N, [Token.eof]) := by
    rw [parseOperation_succ]
    have h1 : parseOrWith (parseOperation (g + 1)) (g + 1)
        (Token.not :: Token.lParen :: (tn ++ [Token.rParen, Token.rParen, Token.eof])) = .ok (.not N, [Token.rParen, Token.eof]) := by
      unfold parseOrWith parseAndWith
      rw [hneg]
      simp only []
      rw [andRest_stop _ _ (by intro r h; cases h)]
      simp only [mkAnd]
      rw [orRest_stop _ _ _ (by intro r h; cases h)]
      simp [mkOr]
    exact opFrom_paren _ false h1
  -- `( pos )` followed by the rest
  have hpos : ∀ R, parseOperation (g + 2) (Token.lParen :: (tp ++ Token.rParen :: R)) = .ok (P, R) := by
    intro R
    rw [parseOperation_succ]
    exact opFrom_paren _ false (hP (g + 1) (by omega) R)
  unfold parseOrExpression parseOrWith parseAndWith combinedToks
  rw [hpos]
  simp only []
  rw [show andRest (parseOperation (g + 1 + 1)) (g + 1 + 1)
      (Token.and :: Token.lParen :: Token.not :: Token.lParen :: (tn ++ [Token.rParen, Token.rParen, Token.eof])) =
      .ok ([.not N], [Token.eof]) from by
    rw [andRest]
    rw [hnegP]
    simp only []
    rw [andRest_stop _ _ (by intro r h; cases h)]]
  simp only [mkAnd]
  rw [orRest_stop _ _ _ (by intro r h; cases h)]
  simp [mkOr]

/-- **The combined selector means `pos ∧ ¬neg`** on every label map. -/
theorem combined_eval (P N : Node) (labels : Labels) :
    (Node.and [P, .not N]).eval labels = (P.eval labels && !N.eval labels) := by
  simp [Node.eval, Node.evalAll]

/-- Every canonical selector text (tokens `toks t` of a well-formed node) satisfies the operand
hypothesis. -/
theorem canonical_operand (t : Node) (h : WF t) : ReadsAs (toks t) t ((toks t).length + 1) := by
  intro F hF r
  exact parseOrWith_single _ F t (fun r' e => by cases e) (fun r' e => by cases e) fun r' =>
    parseOperation_toks t h F r' (by omega)

def aX : Node := .eq ['a'] ['x']
def bX : Node := .eq ['b'] ['x']
def cX : Node := .eq ['c'] ['x']

/-- tokens of `a == 'x' || b == 'x' && !(c == 'x')` (what the text becomes without the parentheses
around the positive selector) -/
def unparenthesised : List Token :=
  toks aX ++ [Token.or] ++ toks bX ++ [Token.and, Token.not, Token.lParen] ++ toks cX ++ [Token.rParen, Token.eof]

/-- the raw operand `a == 'x' || b == 'x'` (top-level `||`, no parentheses of its own) is read as
`or [a, b]` up to a closing parenthesis -/
theorem raw_or_operand : ReadsAs (toks aX ++ [Token.or] ++ toks bX) (.or [aX, bX]) 8 := by
  intro F hF r
  obtain ⟨f, rfl⟩ : ∃ f, F = f + 1 := ⟨F - 1, by omega⟩
  simp only [toks, aX, bX, List.cons_append, List.nil_append, parseOrWith, parseAndWith, parseOperation, stripNots,
    parseLabelOp]
  rw [andRest_stop _ _ (by intro r' h'; cases h')]
  simp only [mkAnd]
  obtain ⟨g, rfl⟩ : ∃ g, f = g + 1 := ⟨f - 1, by omega⟩
  simp only [orRest, parseAndWith, parseOperation, stripNots, parseLabelOp]
  rw [andRest_stop _ _ (by intro r' h'; cases h')]
  simp only [mkAnd]
  rw [orRest_stop _ _ _ (by intro r' h'; cases h')]
  simp [mkOr]

/-- non-vacuity + the correct result for that rule: `(a || b) && (!(c))` parses to
`and [or [a, b], not c]`, which rejects `{a = x, c = x}` -/
example : parseOrExpression 20 (combinedToks (toks aX ++ [Token.or] ++ toks bX) (toks cX)) =
    .ok (.and [.or [aX, bX], .not cX], [Token.eof]) :=
  combined_parses_to_and_not raw_or_operand (canonical_operand cX (by simp [cX, WF, ValidLabel, QuoteSafe, maxLabelLength, identifierChar])) 20 (by simp [toks, cX])

/-- **Without the parentheses the selector is a different one**: it parses to
`or [a, and [b, not c]]`, and on the labels `{a = x, c = x}` that evaluates to true, whereas the
rule (`a || b`, not `c`) does not select them. -/
theorem unparenthesised_is_wrong :
    parseOrExpression unparenthesised.length unparenthesised =
      .ok (.or [aX, .and [bX, .not cX]], [Token.eof]) ∧
    (Node.or [aX, .and [bX, .not cX]]).eval (Labels.ofList [(['a'], ['x']), (['c'], ['x'])]) = true ∧
    (Node.and [.or [aX, bX], .not cX]).eval (Labels.ofList [(['a'], ['x']), (['c'], ['x'])]) = false := by
  refine ⟨by rfl, by decide, by decide⟩

end CalicoVerif.C04
