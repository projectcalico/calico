import CalicoVerif.Proofs.C45
/-!
C45 — Every node elects the same owner for a load-balancer address.

All theorems hold for EVERY byte-slice hasher `H` (a parameter: XXH3 or any
other deterministic function, including ones full of collisions), every
`replicas ≥ 1`, `probes ≥ 1`, every value type `V` and every history `ops` of
`Insert` / `Remove` / `Lookup` calls on a ring created by `New` (`Lookup`s are
part of the history because they sweep and sort the internal table).

`memberMap ops` is the specification of "the current member set" after a
history (independent of the ring's internals: inserts set, removes delete).
-/
namespace CalicoVerif.C45

variable {V : Type}

/-- **History independence.** Two arbitrary histories (any interleaving of
inserts, removes — swept or still pending — and lookups) that end with the same
member set give the same `Lookup` answer for every key. -/
theorem lookup_history_independent (H : List Nat → Nat) {R P : Int} {r0 : Ring V}
    (h0 : Ring.new R P = some r0) (ops1 ops2 : List (Op V))
    (hm : ∀ k, memberMap ops1 k = memberMap ops2 k) (q : Key) :
    ((r0.run H ops1).lookup H q).2 = ((r0.run H ops2).lookup H q).2 := by
  obtain ⟨hi1, hR1, hP1⟩ := inv_of_new H h0 ops1
  obtain ⟨hi2, hR2, hP2⟩ := inv_of_new H h0 ops2
  exact lookup_canonical H hi1 hi2 (hR1.trans hR2.symm) (hP1.trans hP2.symm)
    (fun k => by rw [live_eq_memberMap H h0, live_eq_memberMap H h0, hm]) q

/-- The form used by the correspondence oracle: a ring built FRESH from the
current members, inserted in any order (`kvs` is any duplicate-free listing of
the member set), answers every `Lookup` like the ring with the history. -/
theorem lookup_fresh_build (H : List Nat → Nat) {R P : Int} {r0 : Ring V}
    (h0 : Ring.new R P = some r0) (ops : List (Op V)) (kvs : List (Key × V))
    (hn : (kvs.map (·.1)).Nodup) (hk : ∀ k, mget kvs k = memberMap ops k) (q : Key) :
    ((r0.run H (insertAll kvs)).lookup H q).2 = ((r0.run H ops).lookup H q).2 :=
  lookup_history_independent H h0 _ _
    (fun k => by rw [memberMap, foldl_insertAll kvs hn, Option.or_none, hk]) q

/-- **The owner is a current member** (and `Lookup` never indexes out of
range): the answer is either "no owner" or the value of some current member. -/
theorem owner_is_member (H : List Nat → Nat) {R P : Int} {r0 : Ring V}
    (h0 : Ring.new R P = some r0) (ops : List (Op V)) (q : Key) :
    ((r0.run H ops).lookup H q).2 = .absent ∨
      ∃ k v, memberMap ops k = some v ∧ ((r0.run H ops).lookup H q).2 = .owner (some v) := by
  have hi := (inv_of_new H h0 ops).1
  by_cases hz : (r0.run H ops).len = 0
  · exact Or.inl (by rw [lookup_eq, if_pos hz])
  · obtain ⟨k, v, hk, hres⟩ := lookup_owner H hi hz q
    exact Or.inr ⟨k, v, by rw [← live_eq_memberMap H h0, hk], hres⟩

theorem lookup_never_panics (H : List Nat → Nat) {R P : Int} {r0 : Ring V}
    (h0 : Ring.new R P = some r0) (ops : List (Op V)) (q : Key) :
    ((r0.run H ops).lookup H q).2 ≠ .panic := by
  rcases owner_is_member H h0 ops q with h | ⟨k, v, -, h⟩ <;> rw [h] <;> simp

/-- **No owner iff no members.** -/
theorem none_iff_empty (H : List Nat → Nat) {R P : Int} {r0 : Ring V}
    (h0 : Ring.new R P = some r0) (ops : List (Op V)) (q : Key) :
    ((r0.run H ops).lookup H q).2 = .absent ↔ ∀ k, memberMap ops k = none := by
  have hi := (inv_of_new H h0 ops).1
  have hz := len_zero_iff H hi
  simp only [live_eq_memberMap H h0] at hz
  rw [← hz, lookup_eq]
  by_cases hl : (r0.run H ops).len = 0
  · simp [hl]
  · simp [hl, lookupRes_ne_absent]

/-- `Len()` is the number of current members. -/
theorem len_is_member_count (H : List Nat → Nat) {R P : Int} {r0 : Ring V}
    (h0 : Ring.new R P = some r0) (ops : List (Op V)) :
    ∃ ks : List Key, ks.Nodup ∧ (∀ k, k ∈ ks ↔ (memberMap ops k).isSome = true) ∧
      (r0.run H ops).len = (ks.length : Int) := by
  have hi := (inv_of_new H h0 ops).1
  refine ⟨liveKeys (r0.run H ops), List.Pairwise.filter _ hi.nodupKeys, ?_, len_eq H hi⟩
  intro k
  rw [mem_liveKeys, live_eq_memberMap H h0]

/-- `saltedHash(key, i)` encodes `uint32(i)`: indices that differ by a multiple
of 2^32 hash identically (replica / probe `i` and `i + 2^32` would share a ring
position). The model carries this truncation (`le32`), so every theorem above
holds for ALL replica and probe counts, not only those below 2^32. -/
theorem saltedHash_uint32_truncation (H : List Nat → Nat) (key : Key) (i : Nat) :
    saltedHash H key i = saltedHash H key (i % 2 ^ 32) := by
  -- byte `j` of `i` is `i / 256 ^ j % 256`, and `256 ^ j * 256` divides `2 ^ 32` for `j < 4`
  have byte : ∀ k t, 2 ^ 32 = k * (256 * t) → i % 2 ^ 32 / k % 256 = i / k % 256 := fun k t h => by
    rw [h, Nat.mod_mul_right_div_self, Nat.mod_mul_right_mod]
  have : le32 (i % 2 ^ 32) = le32 i := by
    unfold le32
    rw [Nat.mod_mod_of_dvd i (⟨2 ^ 24, rfl⟩ : 256 ∣ 2 ^ 32), byte 256 65536 rfl, byte 65536 256 rfl, byte 16777216 1 rfl]
  unfold saltedHash
  rw [this]

example : saltedHash (fun b => b.sum) [97] (2 ^ 32 + 5) = saltedHash (fun b => b.sum) [97] 5 := by
  decide

/-- `New` succeeds for replicas, probes ≥ 1 (and only then). -/
example : ∃ r0 : Ring Nat, Ring.new 100 1 = some r0 := ⟨_, rfl⟩
example : (Ring.new 0 1 : Option (Ring Nat)) = none := rfl

/-- Two different histories with the same final member set: one removes and
re-inserts before any sweep, looks up in between, and updates a value. -/
example : ∀ k, memberMap (V := Nat) [.insert [1] 10, .insert [2] 20, .remove [1], .lookup [9],
      .insert [1] 11, .remove [2], .insert [2] 21] k =
    memberMap [.insert [2] 21, .insert [1] 11] k := by
  intro k
  simp only [memberMap, List.foldl_cons, List.foldl_nil, Op.apply]
  by_cases h1 : k = [1] <;> by_cases h2 : k = [2] <;> simp [h1, h2]

/-- A concrete history with a pending (unswept) remove: for EVERY hasher the
lookup has an owner and it is one of the two remaining members. -/
example (H : List Nat → Nat) {r0 : Ring Nat} (h0 : Ring.new 2 2 = some r0) :
    ∃ v, (v = 20 ∨ v = 30) ∧ ((r0.run H [.insert [1] 10, .insert [2] 20, .insert [3] 30,
      .remove [1]]).lookup H [7]).2 = .owner (some v) := by
  rcases owner_is_member H h0 [.insert [1] 10, .insert [2] 20, .insert [3] 30, .remove [1]] [7]
    with h | ⟨k, v, hk, hr⟩
  · have := (none_iff_empty H h0 _ [7]).1 h [2]
    simp [memberMap, Op.apply] at this
  · refine ⟨v, ?_, hr⟩
    simp only [memberMap, List.foldl_cons, List.foldl_nil, Op.apply] at hk
    by_cases h1 : k = [1] <;> by_cases h2 : k = [2] <;> by_cases h3 : k = [3] <;>
      simp [h1, h2, h3] at hk <;> omega

/-! Each theorem below is `lookup_history_independent` at one kind of difference between two nodes'
histories. -/

/-- **Every node elects the same owner.** Two nodes create their rings separately (same
configuration) and see arbitrary, different histories of the same final membership. -/
theorem nodes_agree (H : List Nat → Nat) {R P : Int} {rA rB : Ring V}
    (hA : Ring.new R P = some rA) (hB : Ring.new R P = some rB) (opsA opsB : List (Op V))
    (hm : ∀ k, memberMap opsA k = memberMap opsB k) (q : Key) :
    ((rA.run H opsA).lookup H q).2 = ((rB.run H opsB).lookup H q).2 := by
  have : rA = rB := by rw [hA] at hB; exact Option.some.inj hB
  subst this
  exact lookup_history_independent H hA opsA opsB hm q

/-- Insertion order does not matter. -/
theorem insert_order_irrelevant (H : List Nat → Nat) {R P : Int} {r0 : Ring V}
    (h0 : Ring.new R P = some r0) (ops : List (Op V)) (k1 k2 : Key) (v1 v2 : V) (hne : k1 ≠ k2) (q : Key) :
    ((r0.run H (ops ++ [.insert k1 v1, .insert k2 v2])).lookup H q).2 =
      ((r0.run H (ops ++ [.insert k2 v2, .insert k1 v1])).lookup H q).2 := by
  apply lookup_history_independent H h0
  intro k
  simp only [memberMap_append, List.foldl_cons, List.foldl_nil, Op.apply]
  by_cases h1 : k = k1
  · subst h1; rw [if_neg hne, if_pos rfl, if_pos rfl]
  · rw [if_neg h1, if_neg h1]

/-- A member that joins and leaves again (swept or not, with any lookups in between that do
not change membership) leaves no trace in later answers. -/
theorem insert_remove_no_trace (H : List Nat → Nat) {R P : Int} {r0 : Ring V}
    (h0 : Ring.new R P = some r0) (ops : List (Op V)) (k : Key) (v : V) (qs : List Key)
    (hk : memberMap ops k = none) (q : Key) :
    ((r0.run H (ops ++ [.insert k v] ++ qs.map .lookup ++ [.remove k])).lookup H q).2 =
      ((r0.run H ops).lookup H q).2 := by
  apply lookup_history_independent H h0
  intro k'
  simp only [memberMap_append, List.foldl_cons, List.foldl_nil, foldl_lookups, Op.apply]
  split
  · subst k'; exact hk.symm
  · rfl

/-- Lookups (which sweep and sort the internal table) never change later answers. -/
theorem lookups_transparent (H : List Nat → Nat) {R P : Int} {r0 : Ring V}
    (h0 : Ring.new R P = some r0) (ops1 ops2 : List (Op V)) (qs : List Key) (q : Key) :
    ((r0.run H (ops1 ++ qs.map .lookup ++ ops2)).lookup H q).2 =
      ((r0.run H (ops1 ++ ops2)).lookup H q).2 := by
  apply lookup_history_independent H h0
  intro k'
  rw [memberMap_append, memberMap_append, memberMap_append, foldl_lookups]

/-- Re-inserting a member with the value it already has changes nothing. -/
theorem reinsert_idempotent (H : List Nat → Nat) {R P : Int} {r0 : Ring V}
    (h0 : Ring.new R P = some r0) (ops : List (Op V)) (k : Key) (v : V)
    (hk : memberMap ops k = some v) (q : Key) :
    ((r0.run H (ops ++ [.insert k v])).lookup H q).2 = ((r0.run H ops).lookup H q).2 := by
  apply lookup_history_independent H h0
  intro k'
  simp only [memberMap_append, List.foldl_cons, List.foldl_nil, Op.apply]
  split
  · subst k'; exact hk.symm
  · rfl

/-- Removing a non-member changes nothing. -/
theorem remove_absent_noop (H : List Nat → Nat) {R P : Int} {r0 : Ring V}
    (h0 : Ring.new R P = some r0) (ops : List (Op V)) (k : Key)
    (hk : memberMap ops k = none) (q : Key) :
    ((r0.run H (ops ++ [.remove k])).lookup H q).2 = ((r0.run H ops).lookup H q).2 := by
  apply lookup_history_independent H h0
  intro k'
  simp only [memberMap_append, List.foldl_cons, List.foldl_nil, Op.apply]
  split
  · subst k'; exact hk.symm
  · rfl

end CalicoVerif.C45
