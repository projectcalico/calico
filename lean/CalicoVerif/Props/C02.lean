import CalicoVerif.Proofs.C02Hist
import CalicoVerif.Proofs.C03Dirty
/-!
C02 — Felix's output stream never references something the dataplane lacks.

Model: `CalicoVerif.Model.C02` (EventSequencer + AsyncCalcGraph flush logic).  Vocabulary
(`Proofs/C02Spec`, `Proofs/C02Hist`): `DP` = the dataplane state described by a message stream,
`DP.apply` = effect of one message, `WF d m` = message `m` is well-formed on arrival at state `d`
(deltas add only absent / remove only present members of an existing set, removals name existing
objects), `AllWF` / `AfterEach` = "for every message of the stream, in order", `execHist` = run a
history (upstream calls interleaved with flushes at arbitrary points), `upHist` = the state upstream
has declared, `ValidHist` = upstream respects the IP-set protocol, `ClosedAtFlushes` / `RoutesClosedAtFlushes` =
whenever a flush happens the declared state is reference-closed in its IP set / policy / profile / endpoint part
(`DP.closedMain`) / in its route → VTEP part (`DP.closedRoutes`); both are the calc graph's obligation.
All theorems quantify over ALL histories and ALL placements of flushes.
-/
namespace CalicoVerif.C02

/-- (ii) of DESIGN.md (deltas well-formed, removals name only existing objects) and no panic: for every history of
protocol-respecting upstream calls with flushes anywhere, the sequencer never panics and EVERY
emitted message is well-formed against the dataplane state produced by all messages before it. -/
theorem stream_wellformed (h : List Step) (hv : ValidHist {} h) :
    ∃ s ms, execHist {} h = some (s, ms) ∧ AllWF {} ms := by
  obtain ⟨s, ms, he, ok⟩ := hist_ok Inv.init h hv
  exact ⟨s, ms, he, ok.wf⟩

/-- (iv) `coalesce_sound`: after any history followed by a flush, the dataplane state described by
the whole emitted stream IS the state upstream has declared (IP sets incl. members, policies,
profiles, endpoints, VTEPs, routes, pass-through objects). -/
theorem coalesce_sound (h : List Step) (hv : ValidHist {} h) :
    ∃ s ms, execHist {} (h ++ [.flush]) = some (s, ms) ∧ ({} : DP).applyAll ms = upHist {} h := by
  obtain ⟨s, ms, he, ok⟩ := hist_ok Inv.init h hv
  have hs := flush_synced ok.inv
  refine ⟨s.flush.1, ms ++ s.flush.2, execHist_append_flush he, ?_⟩
  · rw [applyAll_append]; exact hs

/-- (i) `flush_refs_closed`, IP set / policy / profile / endpoint part: if the state upstream has
declared is reference-closed whenever a flush happens, then after EVERY SINGLE emitted message the
dataplane holds no dangling reference: every policy's and profile's IP sets exist, every endpoint's
policies and profiles exist.  (Route → VTEP: `routes_closed`; both together: `flush_refs_closed`.) -/
theorem policy_refs_closed (h : List Step) (hv : ValidHist {} h) (hc : ClosedAtFlushes {} h) :
    ∃ s ms, execHist {} h = some (s, ms) ∧ AfterEach DP.closedMain {} ms :=
  let ⟨s, ms, he, ok⟩ := hist_run (fun _ _ _ h => h) (fun _ _ h => h) flush_closed Inv.init
    (by simp [DP.closedMain]) h hv hc
  ⟨s, ms, he, ok.after⟩

/-- (iii) `insync_not_before`: whatever input events the AsyncCalcGraph loop processes (updates —
abstracted to the upstream calls they cause —, status changes, timer ticks), an `InSync` message is
in its output only if an `api.InSync` status is among the events processed so far. -/
theorem insync_not_before (evs : List AcgEvent) (a : Acg) (ms : List Msg)
    (hr : acgRun {} evs = some (a, ms)) (hm : Msg.inSync ∈ ms) : evs.any isInSyncStatus = true := by
  have := (acg_run (a := {}) (by simp [AcgInv]) hr).2 hm
  simpa using this

/-- (i) `flush_refs_closed`, route → VTEP part, for ALL histories and placements of flushes: if the
declared state is route-closed at every flush, then after EVERY SINGLE emitted message every route's
VTEP is present (flush order: route removes, VTEP adds, route adds/updates, VTEP removes — the order
of /repo commit 5d49db3; with the previous order this was false, see the regression example below). -/
theorem routes_closed (h : List Step) (hv : ValidHist {} h) (hr : RoutesClosedAtFlushes {} h) :
    ∃ s ms, execHist {} h = some (s, ms) ∧ AfterEach DP.closedRoutes {} ms :=
  let ⟨s, ms, he, ok⟩ := hist_run (fun _ _ _ h => h) (fun _ _ h => h) flush_closed_routes Inv.init
    (by intro dst r n h1; simp at h1) h hv hr
  ⟨s, ms, he, ok.after⟩

/-- (i) `flush_refs_closed`, full statement: if the declared state is reference-closed at every flush
(IP set → policy/profile → endpoint, and route → VTEP), then after EVERY SINGLE emitted message the
dataplane holds no dangling reference of any of these kinds. -/
theorem flush_refs_closed (h : List Step) (hv : ValidHist {} h) (hc : ClosedAtFlushes {} h)
    (hr : RoutesClosedAtFlushes {} h) :
    ∃ s ms, execHist {} h = some (s, ms) ∧ AfterEach DP.closed {} ms :=
  let ⟨s, ms, he, ok⟩ := hist_run (R := fun u h => ClosedAtFlushes u h ∧ RoutesClosedAtFlushes u h)
    (fun _ _ _ h => h) (fun _ _ h => ⟨⟨h.1.1, h.2.1⟩, h.1.2, h.2.2⟩) flush_closed_all Inv.init
    ⟨by simp [DP.closedMain], by intro dst r n h1; simp at h1⟩ h hv ⟨hc, hr⟩
  ⟨s, ms, he, ok.after⟩

/-- A route that needs VTEP `n2` is re-pointed (same destination) and the VTEP removed, both between
two flushes.  Before /repo commit 5d49db3 (`Flush` sent VTEP removes before route updates) the stream
was `…; vtep-rm n2; route-upd r` and route `r` pointed at the removed VTEP after the third message
(oracle signature `dangling-route-vtep`).  In the order modelled the route update comes first. -/
def routeVtepWitness : List Step :=
  [Step.call (.routeUpdate "r" ⟨"a", some "n2"⟩), Step.call (.vtepUpdate "n2" "b"), Step.flush,
   Step.call (.routeUpdate "r" ⟨"a", none⟩), Step.call (.vtepRemove "n2"), Step.flush]

theorem route_vtep_regression :
    (execHist {} routeVtepWitness).map (·.2) = some [Msg.vtepUpdate "n2" "b", Msg.routeUpdate "r" ⟨"a", some "n2"⟩,
      Msg.routeUpdate "r" ⟨"a", none⟩, Msg.vtepRemove "n2"] ∧
    ValidHist {} routeVtepWitness ∧ RoutesClosedAtFlushes {} routeVtepWitness := by
  refine ⟨rfl, by simp [routeVtepWitness, ValidHist, upValid], ?_⟩
  simp only [routeVtepWitness, RoutesClosedAtFlushes, upApply, DP.closedRoutes]
  refine ⟨?_, ?_, trivial⟩
  · intro dst r n h1 h2
    simp only [fupd] at h1 ⊢
    by_cases hd : dst = "r"
    · simp only [hd, if_true, Option.some.injEq] at h1
      subst h1; simp only [Option.some.injEq] at h2; subst h2; simp
    · simp [hd] at h1
  · intro dst r n h1 h2
    simp only [fupd] at h1
    by_cases hd : dst = "r"
    · simp only [hd, if_true, Option.some.injEq] at h1
      subst h1; simp at h2
    · simp [hd] at h1

/-- Closure hypothesis discharged on the resolver side, for histories with ARBITRARY sync-status
sequences (status regressions after in-sync included; `Event.status` is just another event of the
history): after any history followed by a flush, the last `OnEndpointTierUpdate` the PolicyResolver
has handed to the sequencer for an endpoint lists only policies that currently match that endpoint
(`matchedHistory [] hist`: the match-started calls of the history not yet followed by match-stopped).
So when the ActiveRulesCalculator declares a policy inactive (its last match stopped) no endpoint
update presented to the sequencer references it.  That the endpoint → policy part of `ClosedAtFlushes` then
holds at every flush of the real wiring (resolver flushed before the sequencer) would follow together with the
ActiveRulesCalculator's contract; that composition is not assembled in Lean.  What makes this
true under status regressions is the one-way latch of `OnDatamodelStatus` (model: `.status` never
resets `inSync`); with `InitialSyncCompleted = (status == InSync)` the real code violates it
(seeded change C02-2, caught by the graph-mode correspondence and oracle `graph-dangling-*`). -/
theorem status_latch_refs_live (K : PolicyKey → Prop) (hK : C03.KeyU K) (hist : List C03.RStep) (hin : C03.HistIn K hist)
    (r : C03.Resolver) (L : C03.Last) (hr : C03.runL {} (fun _ => none) (hist ++ [.flush]) = some (r, L))
    (e : EpKey) (u : EpUpd) (hu : L e = some (some u)) :
    ∀ t ∈ u.tiers, ∀ kv ∈ t.policies, (kv.key, e) ∈ C03.matchedHistory [] hist := by
  have h := C03.last_update_refs_live hK hist hin hr e u hu
  have t2 := (C03.runL_folds _ hr).append_flush.matched
  rw [← t2]; exact h

/-- A non-trivial history, with the stream it gives below: an IP set with a member, a policy using it, a profile, an
endpoint using both, a flush, then member churn, a flush, then the endpoint's removal, a policy deactivation and an
in-window remove/re-add of the IP set. -/
def sampleHist : List Step :=
  [Step.call (.ipsetAdded "s1" 0), Step.call (.memberAdded "s1" "10.0.0.1"),
   Step.call (.policyActive ⟨"p", "", "gnp"⟩ ⟨"t", ["s1"]⟩), Step.call (.profileActive "prof" ⟨"t", []⟩),
   Step.call (.endpointUpdate (.wep "e") (some ⟨⟨"x", ["prof"]⟩,
     [⟨"default", none, "Deny", true, [⟨⟨"p", "", "gnp"⟩, ⟨none, false, false, false, true, true, "default"⟩⟩]⟩]⟩)),
   Step.flush,
   Step.call (.memberAdded "s1" "10.0.0.2"), Step.call (.memberRemoved "s1" "10.0.0.1"),
   Step.flush,
   Step.call (.endpointUpdate (.wep "e") none), Step.call (.policyInactive ⟨"p", "", "gnp"⟩),
   Step.call (.ipsetRemoved "s1"), Step.call (.ipsetAdded "s1" 1),
   Step.flush]

example : (execHist {} sampleHist).map (·.2) = some
    [Msg.ipsetUpdate "s1" 0 ["10.0.0.1"], Msg.policyUpdate ⟨"p", "", "gnp"⟩ ⟨"t", ["s1"]⟩, Msg.profileUpdate "prof" ⟨"t", []⟩,
     Msg.wepUpdate "e" ⟨"x", ["prof"]⟩ [⟨"default", "Deny", [⟨"p", "", "gnp"⟩], [⟨"p", "", "gnp"⟩]⟩],
     Msg.ipsetDelta "s1" ["10.0.0.2"] ["10.0.0.1"],
     Msg.ipsetUpdate "s1" 1 [], Msg.wepRemove "e", Msg.policyRemove ⟨"p", "", "gnp"⟩] := rfl

/-- a history with member churn across flushes -/
def smallHist : List Step :=
  [Step.call (.ipsetAdded "s1" 0), Step.call (.memberAdded "s1" "m"), Step.call (.policyActive ⟨"p", "", "gnp"⟩ ⟨"t", ["s1"]⟩),
   Step.flush, Step.call (.memberRemoved "s1" "m"), Step.flush]

/-- `ValidHist` and `ClosedAtFlushes`, the hypotheses of `stream_wellformed`, `coalesce_sound` and
`policy_refs_closed`, hold for it -/
example : ValidHist {} smallHist ∧ ClosedAtFlushes {} smallHist := by
  -- at both flushes the only policy declared refers to "s1", which is declared
  have cl : ∀ I : String → Option (String → Bool), (I "s1").isSome →
      DP.closedMain { ipsets := I, pol := fupd (fun _ => none) ⟨"p", "", "gnp"⟩ (some ⟨"t", ["s1"]⟩) } := fun I hI =>
    ⟨forall_fupd_some (fun _ _ h => nomatch h) fun x hx => List.mem_singleton.1 hx ▸ hI,
      fun _ _ h => (nomatch h), fun _ _ h => (nomatch h)⟩
  exact ⟨⟨rfl, ⟨_, rfl, rfl⟩, trivial, ⟨_, rfl, rfl⟩, trivial⟩, cl _ rfl, cl _ rfl, trivial⟩

example : (execHist {} smallHist).map (·.2) = some
    [Msg.ipsetUpdate "s1" 0 ["m"], Msg.policyUpdate ⟨"p", "", "gnp"⟩ ⟨"t", ["s1"]⟩, Msg.ipsetDelta "s1" [] ["m"]] := rfl

/-- the hypothesis of `insync_not_before` is satisfiable with an `InSync` in the output -/
example : (acgRun {} [.tick, .status .inSync []]).map (·.2) = some [Msg.inSync] := by decide

end CalicoVerif.C02
