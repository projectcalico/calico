import CalicoVerif.Proofs.C19
import CalicoVerif.Model.C22
/-!
C22 — Each block has at most one confirmed owner.

Same model (`Cas.step`) and same quantification (ALL event sequences =
all interleavings / conflicts / crash points, crashes between the two claim
phases included) as C19.  BlockAffinity objects are compare-and-swap cells whose
state is written by `getPendingAffinity` / `confirmAffinity` /
`releaseBlockAffinity` / `deleteAffinity`; the block's own `Affinity` field is
the ownership record that allocation checks.

What is TRUE of the current code and proved here:
* `one_owner_record_partial` (over ALL runs): a block's recorded affinity never changes
  from one host to another; it only goes host → none (release) or the block is deleted.
* `release_requires_empty_partial`, `pending_not_ownership_partial`: the guards of the
  model's transitions unfolded (delete only of a block without live allocation; an
  affinity-checked allocation only into a block recording the allocating host); their
  content is the correspondence run, which checks every real write against these guards.
* `claim_invalidates_concurrent_release` (over ALL runs): after the claimer's successful rewrite of
  the block, a release that read the block before it cannot delete or overwrite it.
* `confirm_requires_own_block_write_partial`: the licence guard of the claim paths (`step22`) unfolded.

What is FALSE of the current code (witness traces below, reproduced on the real
client by the harness, corpus/C22/two-confirmed.ops, no fault injected):
* `affinity_matches_block` and `one_confirmed_owner` as statements about the
  BlockAffinity OBJECTS: a `ReleaseAffinity` and a `ClaimAffinity` of the same host
  racing on one block leave a confirmed affinity for a deleted block; another
  host then claims the block and two hosts hold confirmed affinities for it.
-/
namespace CalicoVerif.C22
open CalicoVerif.Cas CalicoVerif.C19

/-- (`_partial`: this is the admissibility guard of the model's block-delete transition
unfolded; its content lies in the correspondence run, which checks that every delete the
REAL releaseBlockAffinity issues is an instance of that transition.)
`releaseBlockAffinity`'s delete (no release in the same write) removes a block only
if the stored value it replaces — the compare-and-swap guarantees it is the value
the emptiness check was made on — holds no live allocation. -/
theorem release_requires_empty_partial (s s' : St) (c : Call) (hw : applyWrite s c = some s')
    (b : Nat) (g1 g2 : List Nat) (hk : c.key = Key.blk b) (hv : c.verb = Verb.delete)
    (hp : c.pl = Payload.blkDelete g1 none g2) (r : Nat) (v : Blk) (hb : s.blk b = some (r, v)) :
    ∀ (o h : Nat), v.slots[o]? ≠ some (Slot.live h) := by
  intro o h hl
  cases write_of_applyWrite (fun e => by rw [hv] at e; cases e) hw with
  | blkDel hk' _ _ hb' hg he =>
    cases hk'.symm.trans hk
    cases hb'.symm.trans hb
    -- a live slot survives the garbage collection, and the collected block is empty
    have := liveCount_pos (gc_keeps_live hg hl)
    rw [liveCount_eq_zero he] at this
    cases this
  | blkCreate _ hv' | hCreate _ hv' | blkRmw _ hv' | hInc _ hv' | hDec _ hv' => cases hv'.symm.trans hv
  | blkDelOp _ _ hp' | hDel _ _ hp' => cases hp'.symm.trans hp
  | aff _ hk' => cases hk'.symm.trans hk

/-- (`_partial`: the `ownOk` guard of `Cas.step` unfolded; content = the correspondence run
checks that every affinity-checked allocation of the REAL client passes that guard.)
Pending is not ownership: every allocation made with the affinity check by host `x`
is a compare-and-swap against a stored block value that records `x` as its affinity. -/
theorem pending_not_ownership_partial (s s' : St) (c : Call) (x b : Nat)
    (h : step s (.call c) = some s') (hown : c.own = some x) (hk : c.key = Key.blk b)
    (hw : c.verb.isWrite = true)
    (hok : casOutcome (s.curRev c.key) c.verb c.rev c.fault = Outcome.ok) :
    ∃ r v, s.blk b = some (r, v) ∧ v.aff = some x :=
  own_guard h hown hk hw hok

def absentAlong (b : Nat) : St → List Ev → Prop
  | s, [] => s.blk b = none
  | s, e :: es => s.blk b = none ∨
    match step s e with
    | some s1 => absentAlong b s1 es
    | none => False

/-- Run-level (ALL event lists = all interleavings / conflicts / crash points): as long as a
block is never absent in between, its recorded affinity at the end is what it was at the
start, or none — ownership is never handed from one host to another; a new owner can only
appear by creating the block after it was deleted.  (`_partial`: this is about the
ownership RECORD in the block; the statements about BlockAffinity objects are refuted below.) -/
theorem one_owner_record_partial : ∀ (evs : List Ev) (s s' : St) (b r r' : Nat) (v v' : Blk),
    run s evs = some s' → s.blk b = some (r, v) → s'.blk b = some (r', v') → ¬ absentAlong b s evs →
    v'.aff = v.aff ∨ v'.aff = none
  | [], s, s', b, r, r', v, v', hr, hb, hb', _ => by
    cases run_nil.1 hr
    rw [hb] at hb'; cases hb'; exact .inl rfl
  | e :: es, s, s', b, r, r', v, v', hr, hb, hb', hna => by
    obtain ⟨s1, h1, hr⟩ := run_cons.1 hr
    have hna1 : ¬ absentAlong b s1 es := fun hc => hna (by simp only [absentAlong, h1]; exact .inr hc)
    cases hb1 : s1.blk b with
    | none =>
      exfalso; apply hna1
      cases es <;> simp only [absentAlong] <;> first | exact hb1 | exact .inl hb1
    | some p =>
      obtain ⟨r1, v1⟩ := p
      have st := owner_record_step s s1 e h1 b r r1 v v1 hb hb1
      rcases one_owner_record_partial es s1 s' b r1 r' v1 v' hr hb1 hb' hna1 with ih | ih
      · rcases st with st | st
        · left; rw [ih, st]
        · right; rw [ih, st]
      · right; exact ih

set_option linter.unusedVariables false in
/-- The block rewrite of `getBlockFromAffinity` ("writing block to get a new revision") is what
makes a concurrent `releaseBlockAffinity` fail: let a releaser read block `b` at revision `q`
(state `s1`), let ANYTHING happen (`evs2`), let the claimer's rewrite of `b` succeed; then the
releaser's compare-and-delete / compare-and-swap of `b` with its revision `q` cannot succeed,
whatever fault is injected.  (That the write is the `bump` rewrite, `hp`, plays no part: any successful
write to the block does the same, `Cas.Write.stale_cas_fails`.) -/
theorem claim_invalidates_concurrent_release (r0 nb : Nat) (evs1 evs2 : List Ev) (s1 s2 s3 : St)
    (h1 : run (St.init r0 nb) evs1 = some s1) (b q : Nat) (v : Blk) (hread : s1.blk b = some (q, v))
    (h2 : run s1 evs2 = some s2)
    (c : Call) (hk : c.key = Key.blk b) (hv : c.verb = Verb.update) (g1 g2 : List Nat)
    (hp : c.pl = Payload.blkRmw g1 BOp.bump g2)
    (hok : casOutcome (s2.curRev c.key) c.verb c.rev c.fault = Outcome.ok)
    (h3 : step s2 (.call c) = some s3) :
    ∀ (verb : Verb) (f : Fault), verb = Verb.delete ∨ verb = Verb.update →
      casOutcome (s3.curRev (Key.blk b)) verb (some q) f ≠ Outcome.ok := by
  have hq : q ≤ s2.rev :=
    Nat.le_trans (run_invariant revB_step (revB_init r0 nb) h1 b q v hread) (run_rev_le h2)
  exact fun _ f hverb => (step_call_ok hok (by rw [hv]; rfl) h3).write.stale_cas_fails hk hq f hverb

/-- (`_partial`: the `licStep` guard unfolded; its content is the driver evaluating it on every
real call, so a DROPPED block rewrite in getBlockFromAffinity is a model/code disagreement.)
The claim paths as call sequences (`step22`): in every run, a write of a BlockAffinity to
`confirmed` by thread `t` succeeds only if `t` holds the licence for exactly that (host,
block) — obtained, since its last `pending` write, by its own block create, its own read
after a lost create, or its own block rewrite. -/
theorem confirm_requires_own_block_write_partial (s s' : St22) (c : Call) (x b : Nat)
    (h : step22 s (.call c) = some s') (hk : c.key = Key.aff x b) (hv : c.verb = Verb.update)
    (hp : c.pl = Payload.affSt AffSt.confirmed)
    (hok : casOutcome (s.cas.curRev c.key) c.verb c.rev c.fault = Outcome.ok) :
    s.l.lic c.t = some (x, b) := by
  simp only [step22] at h
  cases hl : licStep s.l s.cas c with
  | none => simp [hl] at h
  | some l' =>
    unfold licStep at hl
    rw [hk, hv, hp] at hl
    simp only [hk, hv] at hok
    simp only [hok, beq_self_eq_true, if_true] at hl
    split at hl
    · rename_i hc; simpa using hc
    · cases hl

def ConfirmedMatches (s : St) : Prop :=
  ∀ x b r, s.aff x b = some (r, AffSt.confirmed) → ∃ rv v, s.blk b = some (rv, v) ∧ v.aff = some x

def OneConfirmed (s : St) : Prop :=
  ∀ x y b r1 r2, s.aff x b = some (r1, AffSt.confirmed) → s.aff y b = some (r2, AffSt.confirmed) → x = y

def w (t : Nat) (verb : Verb) (key : Key) (rev : Option Nat) (pl : Payload) : Ev :=
  .call { t := t, fault := .none, verb := verb, key := key, rev := rev, pl := pl }

def rd (t : Nat) (key : Key) : Ev :=
  .call { t := t, fault := .none, verb := .get, key := key, rev := none, pl := .noev }

/-- Host 1 owns block 0.  Thread 6 = `ReleaseAffinity(host 1, block 0)`, thread 7 =
`ClaimAffinity(host 1, block 0)`, no fault: 7 re-marks the affinity pending after 6
marked it pendingDeletion, sees the block still there and affine to host 1; 6
deletes the block (its block revision is still current); 7 confirms. -/
def raceTrace : List Ev :=
  [w 2 .create (.aff 1 0) none (.affSt .pending),          -- rev 104
   w 2 .create (.blk 0) none (.blkCreate 1 2),             -- rev 105
   w 2 .update (.aff 1 0) (some 104) (.affSt .confirmed),  -- rev 106
   w 7 .create (.aff 1 0) none .noev,                      -- exists
   rd 6 (.aff 1 0), rd 6 (.blk 0),
   w 6 .update (.aff 1 0) (some 106) (.affSt .pendingDeletion), -- rev 107
   rd 7 (.aff 1 0),
   w 7 .update (.aff 1 0) (some 107) (.affSt .pending),    -- rev 108
   w 7 .create (.blk 0) none .noev,                        -- exists
   rd 7 (.blk 0),                                          -- "already claimed by this host"
   w 6 .delete (.blk 0) (some 105) (.blkDelete [] none []),-- rev 109
   w 7 .update (.aff 1 0) (some 108) (.affSt .confirmed)]  -- rev 110

/-- …then host 0 claims the (absent) block. -/
def raceTrace2 : List Ev := raceTrace ++
  [w 6 .delete (.aff 1 0) (some 107) .affDel,              -- conflict
   w 8 .create (.aff 0 0) none (.affSt .pending),          -- rev 111
   w 8 .create (.blk 0) none (.blkCreate 0 2),             -- rev 112
   w 8 .update (.aff 0 0) (some 111) (.affSt .confirmed)]  -- rev 113

def init22 : St22 := { cas := St.init 103 2, l := Lic.init }
def raceEnd : St22 := (run22 init22 raceTrace).getD init22
def raceEnd2 : St22 := (run22 init22 raceTrace2).getD init22

theorem run_race : run22 init22 raceTrace = some raceEnd := by rfl
theorem run_race2 : run22 init22 raceTrace2 = some raceEnd2 := by rfl

/-- "A block's recorded affinity matches its confirmed claim" is false of the code — refuted
over `run22`, i.e. over runs that ALSO satisfy the claim-path call-sequence model the driver
checks on the real client (affinity objects created pending only; a confirm only after the
thread's own block create / read after a lost create / block rewrite).  The trace is the
real client's log (reads included), corpus/C22/two-confirmed.ops. -/
theorem affinity_matches_block_false :
    ¬ (∀ evs s, run22 init22 evs = some s → ConfirmedMatches s.cas) := by
  intro H
  obtain ⟨rv, v, hb, _⟩ := H raceTrace raceEnd run_race 1 0 110 (by decide)
  have : raceEnd.cas.blk 0 = none := by decide
  rw [this] at hb; cases hb

/-- "A block is confirmed as affine to at most one host" (as a statement about
BlockAffinity objects) is false of the code — again over `run22`. -/
theorem one_confirmed_owner_false :
    ¬ (∀ evs s, run22 init22 evs = some s → OneConfirmed s.cas) := by
  intro H
  have := H raceTrace2 raceEnd2 run_race2 1 0 0 110 113 (by decide) (by decide)
  cases this

/-- The licence model is not vacuous the other way: confirming without the thread's own block
write is NOT a run (this is the seeded "dropped block rewrite" of getBlockFromAffinity). -/
example : (run22 init22
    [w 2 .create (.aff 1 0) none (.affSt .pending), w 2 .create (.blk 0) none (.blkCreate 1 2),
     rd 4 (.aff 1 0), rd 4 (.blk 0),
     w 4 .update (.aff 1 0) (some 104) (.affSt .pending),
     w 4 .update (.aff 1 0) (some 106) (.affSt .confirmed)]).isSome = false := by decide

/-- non-vacuity: a strict-affinity allocation step as in `pending_not_ownership_partial`. -/
example : ∃ s s', run (St.init 100 1)
      [w 1 .create (.blk 0) none (.blkCreate 3 2), w 1 .create (.hdl 1) none (.hInc 0 1)] = some s ∧
    step s (.call { t := 1, fault := .none, verb := .update, key := .blk 0, rev := some 101,
                    pl := .blkRmw [] (.assign 1 1 []) [], own := some 3 }) = some s' ∧
    (s'.blk 0).map (·.2.slots) = some [.live 1, .free] :=
  ⟨_, _, rfl, rfl, by decide⟩

end CalicoVerif.C22
