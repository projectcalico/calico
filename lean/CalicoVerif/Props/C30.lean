import CalicoVerif.Proofs.C30Tier
/-!
C30 — Windows rule flattening preserves policy verdicts for supported rules.
Property theorems (helper lemmas live in `CalicoVerif.Proofs.C30*`).

`getPolicySetRules ∘ members` is the model of what policysets hands to HNS for one tier and one
direction; `hnsActions` returns the actions of ALL matching rules with the lowest priority number
(HNS's own tie-break between equal priorities is unknown), `tierVerdict` is Calico's
first-match-in-order semantics with the end-of-tier action.

The hypotheses of the theorems below are defined under `Proofs/`, each with the proofs that use it: `IPSets.wf` in
`Proofs/C30Addr`; `IPSets.ipportOK`, `IPSets.ipportV4`, `Rule.supported`, `Rule.supportedIn` in `Proofs/C30Rule`;
`PolicySet.supported`, `genTier` in `Proofs/C30Tier`; `RuleOK` in `Proofs/C30`; `TierOK`, `Total`, `mvH` in
`Proofs/C30Flat`.
-/
namespace CalicoVerif.C30

/-- protocolNameToNumber is case-insensitive on the names Calico uses (finite table). -/
theorem protocolNameToNumber_table :
    protocolNameToNumber "TCP" = 6 ∧ protocolNameToNumber "tcp" = 6 ∧ protocolNameToNumber "Udp" = 17 ∧
    protocolNameToNumber "sctp" = 132 ∧ protocolNameToNumber "bogus" = 256 := by decide

/-- Chunking (SplitIPList / SplitPortList, any chunk size > 0, any list) never changes whether an
address/port list admits a value: "no constraint, or some element matches" is preserved. -/
theorem split_preserves {α : Type} (l : List α) (n : Nat) (hn : 0 < n) (f : α → Bool) :
    (splitList l n).any (fun c => c.isEmpty || c.any f) = (l.isEmpty || l.any f) :=
  splitList_any l n hn f

example : splitList [1, 2, 3, 4, 5] 2 = [[1, 2], [3, 4], [5]] := by decide
example : splitList ([] : List Nat) 2 = [[]] := by decide

/-- IntersectCIDRs (used when a rule has both CIDRs and an IP set on one side): an address is in some
output CIDR iff it is in a CIDR of each input list. -/
theorem intersect_preserves (as bs : List Addr) (ha : ∀ a ∈ as, a.v6 = false) (hb : ∀ b ∈ bs, b.v6 = false)
    (ip : Nat) :
    (intersectCIDRs as bs).any (·.contains ip) = (as.any (·.contains ip) && bs.any (·.contains ip)) :=
  intersectCIDRs_any as bs ha hb ip

/-- One supported proto rule: every generated HNS rule carries the rule's action and direction, and
a packet matches SOME generated rule iff it matches the proto rule — whatever the chunk size, i.e.
"including when addresses or ports are split across several rules".

PARTIAL: `supportedIn` restricts an (egress) rule on a destination Service (IP-port set) to carry no
nets / IP sets (protocol and source ports are honoured).  SOURCE nets and
IP sets next to a Service are legal in the v3 API but ignored by the converter, so without the
restriction the statement is false of the current code: `hns_verdict_false_service_source`. -/
theorem rule_flattening_partial (s : IPSets) (hs : s.wf) (hipp : s.ipportOK) (r : Rule) (inbound : Bool)
    (hsup : r.supportedIn inbound) (n : Nat) (hn : 0 < n) (pid : String) (p : Pkt) :
    (∀ h ∈ hr s pid r inbound n, h.action = ruleAction r ∧ h.inbound = inbound) ∧
    (hr s pid r inbound n).any (·.matches p) = r.matches s p :=
  ⟨hr_fields s pid r inbound n, hr_any s hs hipp r inbound hsup n hn pid p⟩

/-- Priority bumping: in the list built by GetPolicySetRules priorities never decrease and two
rules with different actions never share a priority "run" — for ANY members, supported or not. -/
theorem priorities_good (sets : List (Option (List HRule))) (inbound eotDrop : Bool) :
    good (getPolicySetRules sets inbound eotDrop) :=
  (getPolicySetRules_spec sets inbound eotDrop).1

/-- MAIN THEOREM (partial).  For every IP set contents, every list of policy sets whose rules use
supported criteria only, both directions, both end-of-tier actions, every chunk size and every packet:
the HNS rules evaluated by priority have at least one decisive rule, and EVERY decisive rule
(whatever HNS's tie-break) carries exactly the verdict of the policy semantics.

PARTIAL because `PolicySet.supported` (via `Rule.supportedIn`) demands that an egress rule matching
a destination Service (IP-port set) carries no source nets / IP sets, although those are criteria the
dataplane supports and the v3 API accepts next to a Service: the converter ignores them
(`hns_verdict_false_service_source`, known finding service-rule-source-ignored).  Protocol and source
ports on such a rule ARE covered.  The other restrictions in
`supported` (at most one IP set per side, known protocol name) are guaranteed upstream. -/
theorem hns_verdict_partial (s : IPSets) (hs : s.wf) (hipp : s.ipportOK) (sets : List (String × PolicySet))
    (hsup : ∀ x ∈ sets, x.2.supported) (n : Nat) (hn : 0 < n) (d eot : Bool) (p : Pkt) :
    let rules := getPolicySetRules (sets.map fun x => some (x.2.members s x.1 n)) d eot
    hnsActions rules p ≠ [] ∧ ∀ a ∈ hnsActions rules p, a = tierVerdict s (sets.map (·.2)) d eot p := by
  intro rules
  exact first_match_decides rules (getPolicySetRules_spec _ d eot).1 p _
    (tier_first s hs hipp n hn d p (sets, eot) hsup)

def a1 : Addr := ⟨"10.0.0.1", false, 167772161, 32⟩
def a2 : Addr := ⟨"10.0.0.2", false, 167772162, 32⟩
def net24 : Addr := ⟨"10.0.0.0/24", false, 167772160, 24⟩
def setsW : IPSets := ⟨[("s1", [a1, a2])], [("pp", [⟨a1, "tcp", 80⟩])]⟩
/-- deny from IP set s1 on tcp/80, then allow 10.0.0.0/24 -/
def psW : PolicySet :=
  ⟨[{ action := "deny", proto := some (.name "tcp"), srcSets := ["s1"], dstPorts := [⟨80, 80⟩], ruleId := "r1" },
    { action := "allow", srcNet := [net24], ruleId := "r2" }], []⟩

theorem setsW_wf : setsW.wf := IPSets.wf_of_entries _ (by decide)

theorem setsW_ipportOK : setsW.ipportOK := IPSets.ipportOK_of_entries _ (by decide)

theorem psW_supported : psW.supported := by
  constructor
  · intro r hmem
    simp only [psW, List.mem_cons, List.not_mem_nil, or_false] at hmem
    rcases hmem with rfl | rfl
    · exact ⟨⟨Or.inl rfl, rfl, rfl, rfl, rfl, rfl, by decide, by decide, by decide, by decide⟩, Or.inl rfl⟩
    · exact ⟨⟨Or.inl rfl, rfl, rfl, rfl, rfl, rfl, by decide, trivial, by decide, by decide⟩, Or.inl rfl⟩
  · intro r hmem; simp [psW] at hmem

/-- The hypotheses of `hns_verdict_partial` hold for a non-trivial instance, and its verdicts differ by packet. -/
example : setsW.wf ∧ setsW.ipportOK ∧ psW.supported ∧
    tierVerdict setsW [psW] true true ⟨6, 167772161, 1000, 167772170, 80⟩ = .block ∧
    tierVerdict setsW [psW] true true ⟨6, 167772165, 1000, 167772170, 80⟩ = .allow ∧
    tierVerdict setsW [psW] true false ⟨6, 3232235777, 1000, 167772170, 80⟩ = .pass :=
  ⟨setsW_wf, setsW_ipportOK, psW_supported, by decide, by decide, by decide⟩

/-- Two IP sets on one side: Calico means "in BOTH sets", the converter emits their UNION.
(Not reachable from the v3 API: validation forbids combining a selector with a source Service, so
the calculation graph never emits two ids on a side; stated to show the hypothesis is necessary.) -/
theorem two_sets_union_not_intersection :
    ∃ (s : IPSets) (ps : PolicySet) (p : Pkt), s.wf ∧
      hnsActions (getPolicySetRules [some (ps.members s "p" 4000)] true true) p = [.allow] ∧
      tierVerdict s [ps] true true p = .block := by
  refine ⟨⟨[("s1", [a1]), ("s2", [a2])], []⟩,
    ⟨[{ action := "allow", srcSets := ["s1", "s2"], ruleId := "r1" }], []⟩,
    ⟨6, 167772161, 1000, 167772170, 80⟩, ?_, by decide, by decide⟩
  exact IPSets.wf_of_entries _ (by decide)

/-- Regression guard for /repo commit 44f8f9c: "allow udp to service {10.0.0.1 tcp/80}" does not let TCP through
(with the rule's protocol ignored this packet would be allowed). -/
def psUdpToService : PolicySet :=
  ⟨[], [{ action := "allow", proto := some (.name "udp"), dstIpPortSets := ["pp"], ruleId := "r1" }]⟩

example : hnsActions (getPolicySetRules [some (psUdpToService.members setsW "p" 4000)] false true)
    ⟨6, 167772170, 1000, 167772161, 80⟩ = [.block] := by decide

/-- COUNTEREXAMPLE (reachable): an egress rule that names a destination Service AND source nets.
The DstIpPortSetIds branch of protoRuleToHnsRules never looks at SrcNet / SrcIpSetIds:
"allow from 10.0.0.0/24 to service {10.0.0.1 tcp/80}" also allows a source outside 10.0.0.0/24.
All criteria used are supported ones and the v3 API accepts the combination (only DESTINATION nets,
selectors and ports are forbidden next to destination.services), so the unrestricted statement is
false of the current code. -/
theorem hns_verdict_false_service_source :
    ∃ (s : IPSets) (ps : PolicySet) (p : Pkt), s.wf ∧ s.ipportOK ∧
      (∀ r ∈ ps.outRules, r.supported) ∧
      hnsActions (getPolicySetRules [some (ps.members s "p" 4000)] false true) p = [.allow] ∧
      tierVerdict s [ps] false true p = .block :=
  ⟨setsW, ⟨[], [{ action := "allow", srcNet := [net24], dstIpPortSets := ["pp"], ruleId := "r1" }]⟩,
    ⟨6, 3232235777, 1000, 167772161, 80⟩, setsW_wf, setsW_ipportOK,
    by
      intro r hmem
      simp only [List.mem_singleton] at hmem; subst hmem
      exact ⟨Or.inl rfl, rfl, rfl, rfl, rfl, rfl, by decide, trivial, by decide, by decide⟩,
    by decide, by decide⟩

/-- combinePorts computes the intersection: `none` (ErrRuleIsNoOp) iff no port satisfies both lists,
otherwise the result admits exactly the ports both admit — for ALL port lists. -/
theorem combinePorts_intersection (a b : List PortRange) (x : Nat) :
    match combinePorts a b with
    | some c => portsOK c x = (portsOK a x && portsOK b x)
    | none => (portsOK a x && portsOK b x) = false := by
  have := combinePorts_sem a b x
  revert this
  cases combinePorts a b
  · exact Eq.symm
  · exact id

example : combinePorts [⟨80, 80⟩] [⟨80, 80⟩] = some [⟨80, 80⟩] := by decide
example : combinePorts [⟨20, 20⟩] [⟨30, 31⟩] = none := by decide
example : combinePorts [⟨1, 2⟩, ⟨10, 15⟩] [⟨2, 2⟩, ⟨12, 16⟩, ⟨55, 55⟩] = some [⟨2, 2⟩, ⟨12, 15⟩] := by decide

/-- Regression witnesses: what combinePorts did BEFORE the fix (kept as `combinePortsBeforeFix`):
a panic when both lists share their largest port, and "any port" for disjoint lists.  The oracle
signatures flatten-panic / flatten-disjoint-ports-any and corpus/C30/flatten-*.ops guard against a
regression on the real code. -/
theorem combinePorts_same_max_panicked : combinePortsBeforeFix [⟨80, 80⟩] [⟨80, 80⟩] = none := by decide
theorem combinePorts_disjoint_was_any : combinePortsBeforeFix [⟨20, 20⟩] [⟨30, 31⟩] = some [] := by decide

/-- Regression witness (tier 1 = "pass tcp dport 20, else drop", tier 2 = "allow tcp dport 30, else drop"): the
flattened list drops TCP to port 22, like the tiers do. -/
def tierPass20 : List HRule :=
  [HRule.mk .pass true 6 [] [] [⟨20, 20⟩] [] 1000 "", eotRule true true 1001]
def tierAllow30 : List HRule :=
  [HRule.mk .allow true 6 [] [] [⟨30, 30⟩] [] 1000 "", eotRule true true 1001]

example : (flattenTiers [tierPass20, tierAllow30]).map
    (fun l => hnsActions (rewritePriorities l policyRuleMaxPriority) ⟨6, 1, 1000, 2, 22⟩) = some [.block] := by decide

/-- FLATTENING THEOREM (full, at the level flattener.go works on).  For ANY non-empty list of tiers
of HNS rules of one direction with IPv4 addresses (`TierOK`), each tier deciding every packet (`Total`; generated
tiers do: `total_generated`), with ANY ports on ANY rules: flattenTiers does not panic, and the
flattened list with rewritten priorities, evaluated by HNS with any tie-break, gives exactly the
tier-by-tier verdict `mvH` (first match per tier; a pass continues in the next tier; a pass in the
last tier is a drop).
Note on `limit`: Go computes `limit-currentPriority` in uint16 (it wraps when `limit < 1000`), the
model uses truncated subtraction; the theorem holds for BOTH branches of rewritePriorities, so the
difference cannot matter, and the only caller passes 65000. -/
theorem flatten_verdict (d : Bool) (tiers : List (List HRule)) (hne : tiers ≠ [])
    (h : ∀ t ∈ tiers, TierOK d t ∧ Total t) (limit : Nat) (p : Pkt) :
    ∃ l, flattenTiers tiers = some l ∧ ∃ a, mvH p tiers = some a ∧
      hnsActions (rewritePriorities l limit) p ≠ [] ∧
      ∀ b ∈ hnsActions (rewritePriorities l limit) p, b = a := by
  obtain ⟨l, hl, hlf⟩ := flattenTiers_sem d tiers hne h
  obtain ⟨hg, hfa⟩ := rewritePriorities_sem l limit p
  obtain ⟨a, ha⟩ := mvH_isSome p tiers hne (fun t ht => (h t ht).2)
  exact ⟨l, hl, a, ha, first_match_decides _ hg p _ (by rw [hfa, hlf p, ha])⟩

/-- … composed with policysets: for tiers generated by GetPolicySetRules from supported rules the
verdict is the policies' tier-by-tier verdict.  PARTIAL only through `PolicySet.supported` (Service
rules without source nets / IP sets, see `hns_verdict_partial`); no restriction on ports. -/
theorem flatten_policy_verdict_partial (s : IPSets) (hs : s.wf) (hipp : s.ipportOK) (hv : s.ipportV4)
    (ts : List TierSpec) (hne : ts ≠ [])
    (hsup : ∀ t ∈ ts, ∀ x ∈ t.1, x.2.supported)
    (n : Nat) (hn : 0 < n) (d : Bool) (limit : Nat) (p : Pkt) :
    ∃ l, flattenTiers (ts.map (genTier s n d)) = some l ∧
      hnsActions (rewritePriorities l limit) p ≠ [] ∧
      ∀ a ∈ hnsActions (rewritePriorities l limit) p,
        a = multiVerdict s d p (ts.map fun t => (t.1.map (·.2), t.2)) := by
  have htiers : ∀ t ∈ ts.map (genTier s n d), TierOK d t ∧ Total t := by
    intro t ht
    obtain ⟨x, hx, rfl⟩ := List.mem_map.1 ht
    exact ⟨tierOK_generated s hs hv n hn d x, total_generated s hs hipp n hn d x (hsup x hx)⟩
  obtain ⟨l, hl, a, ha, hne', hall⟩ := flatten_verdict d (ts.map (genTier s n d)) (by simpa using hne) htiers limit p
  rw [mvH_generated s hs hipp n hn d p ts hne hsup] at ha
  simp only [Option.some.injEq] at ha
  exact ⟨l, hl, hne', fun b hb => by rw [hall b hb, ← ha]⟩

end CalicoVerif.C30
