import CalicoVerif.Proofs.C04Tables
/-!
C04 — IP set contents equal the addresses selected by the rule.

Property theorems over the model `CalicoVerif/Model/C04.lean` of
`felix/labelindex/named_port_index.go` (+ ipsetmember, overlap suppressor).

Full statement (`ipset_members_eq_spec`): for EVERY history of index operations from a fresh
index — IP sets added / changed in place / removed, endpoints and network sets added / updated /
deleted, profile labels set / deleted, in any order, with shared IPs, nested and duplicate CIDRs,
named ports, and any Go map iteration order (`perm…` ops) — in both suppressor modes, every
callback alternates, the consumer holds each member once, and holds exactly the members
contributed by the endpoints whose effective labels match the set's selector (with suppression:
minus CIDRs strictly inside another contributed CIDR).  `refcount_eq_card`: reference counts
count contributions.  `suppressed_cover_eq_spec`: antichain + same covered addresses.
Hypothesis `Op.ok`: CIDRs canonical (true of every `ip.CIDRFrom…`).  Profile-id lists may repeat ids
(`UpdateEndpointOrSet` lists each parent once, `dedupParents`: `dup_profile_id_no_panic`,
`repeated_profile_ids_same_as_deduplicated`).

The emission-layer theorems (`noop_members_eq_refcounted` … `suppressor_trie_eq_refcounted`) and the statements about
bare refcount transitions (`refcount_transitions_keep_invariants_partial`, `flags_sticky`) are corollaries of the same
invariants (`WF`, `Good`); the full statement does not go through them.  What it rests on
(`members_once_and_alternate`, `refcounted_iff_contributed`, `Inv.members_eq_spec`, `inv_new`, `run_inv`) is in
`Proofs/C04Refc`, `C04Sum`, `C04Main`.  Selector evaluation is the parameter `matchSel`.  How scan strategies and the
trie are abstracted, and why that is faithful, is said in the head of `Model/C04.lean` ("What is abstracted") and nowhere
else; no theorem here is about it.
-/
namespace CalicoVerif.C04

set_option linter.unusedSectionVars false
variable {Sel : Type} [DecidableEq Sel]

/-- Without overlap suppression: the consumer holds exactly the members whose reference
count is positive (named-port members included). -/
theorem noop_members_eq_refcounted {st : Idx Sel} (h : WF st) (hs : st.suppress = false) :
    ∃ D, replay st.out = some D ∧ ∀ s m, (s, m) ∈ D ↔ 0 < refCount st s m := by
  obtain ⟨D, hD, hm⟩ := h.e.down
  exact ⟨D, hD, fun s m => by rw [hm, visible_noop hs]⟩

/-- Named-port (address, protocol, port) members are never suppressed, in either mode. -/
theorem named_port_members_eq_refcounted {st : Idx Sel} (h : WF st) :
    ∃ D, replay st.out = some D ∧
      ∀ s v a po pr, (s, Member.ipp v a po pr) ∈ D ↔ 0 < refCount st s (.ipp v a po pr) := by
  obtain ⟨D, hD, hm⟩ := h.e.down
  exact ⟨D, hD, fun s v a po pr => by rw [hm, visible_ipp]⟩

/-- With suppression no emitted member lies inside another emitted member. -/
theorem suppressed_antichain {st : Idx Sel} (h : WF st) (hs : st.suppress = true) :
    ∃ D, replay st.out = some D ∧
      ∀ s a b, (s, Member.cidr a) ∈ D → (s, Member.cidr b) ∈ D → a.sc b = false := by
  obtain ⟨D, hD, hm⟩ := h.e.down
  refine ⟨D, hD, fun s a b ha hb => ?_⟩
  exact ((hm s _).1 hb).2 hs b rfl a ((hm s _).1 ha).1

theorem refcounted_covered {st : Idx Sel} (s : String) :
    ∀ (n : Nat) (c : Cidr), c.len = n → 0 < refCount st s (.cidr c) →
      ∃ c', visible st s (.cidr c') ∧ (c' = c ∨ c'.sc c = true) := by
  intro n
  induction n using Nat.strongRecOn with
  | _ n ih =>
    intro c hn hc
    by_cases hv : visible st s (.cidr c)
    · exact ⟨c, hv, Or.inl rfl⟩
    · unfold visible at hv
      simp only [hc, true_and] at hv
      have : ∃ c', 0 < refCount st s (.cidr c') ∧ c'.sc c = true := by
        apply Classical.byContradiction
        intro hne
        apply hv
        intro _ c0 hc0 c' hc'
        cases hc0
        cases hsc : c'.sc c
        · rfl
        · exact absurd ⟨c', hc', hsc⟩ hne
      obtain ⟨c', hc', hsc⟩ := this
      have hlt : c'.len < n := by rw [← hn]; exact (Cidr.sc_iff.1 hsc).2.1
      obtain ⟨c'', hv'', hor⟩ := ih c'.len hlt c' rfl hc'
      refine ⟨c'', hv'', Or.inr ?_⟩
      rcases hor with rfl | h
      · exact hsc
      · exact Cidr.sc_trans h hsc

/-- In either mode the emitted members cover exactly the addresses covered by the reference-counted CIDRs of the set
(without suppression they are those CIDRs; with it this is what makes dropping the covered ones harmless). -/
theorem suppressed_cover_eq {st : Idx Sel} (h : WF st) :
    ∃ D, replay st.out = some D ∧
      ∀ s (v6 : Bool) (x : Nat),
        (∃ c, (s, Member.cidr c) ∈ D ∧ c.v6 = v6 ∧ c.hasAddr x) ↔
        (∃ c, 0 < refCount st s (.cidr c) ∧ c.v6 = v6 ∧ c.hasAddr x) := by
  obtain ⟨D, hD, hm⟩ := h.e.down
  refine ⟨D, hD, fun s v6 x => ?_⟩
  constructor
  · rintro ⟨c, hc, hv, hx⟩
    exact ⟨c, ((hm s _).1 hc).1, hv, hx⟩
  · rintro ⟨c, hc, hv, hx⟩
    obtain ⟨c', hv', hor⟩ := refcounted_covered (st := st) s c.len c rfl hc
    refine ⟨c', (hm s _).2 hv', ?_⟩
    rcases hor with rfl | hsc
    · exact ⟨hv, hx⟩
    · exact ⟨(Cidr.sc_iff.1 hsc).1.trans hv, Cidr.hasAddr_of_sc hsc hx⟩

/-- With suppression the trie holds exactly the reference-counted CIDRs, so the suppressor is
only ever asked to add absent and remove present CIDRs. -/
theorem suppressor_trie_eq_refcounted {st : Idx Sel} (h : WF st) (hs : st.suppress = true) (s : String)
    (c : Cidr) : c ∈ trieOf st s ↔ 0 < refCount st s (.cidr c) := h.e.trie hs s c

/-- The refcount transitions the index performs. `scan` is a whole
`scanEndpointAgainstIPSets(epData, oldContributions)` pass. -/
inductive Prim where
  | inc (s : String) (m : Member)
  | dec (s : String) (m : Member)
  | scan (e : EpData) (old : List (String × List Member))

/-- CIDRs entering the index are canonical (they come from `ip.CIDRFrom…`). -/
def Prim.canon : Prim → Prop
  | .inc _ m => ∀ c, m = .cidr c → c.canon
  | .dec _ _ => True
  | .scan e _ => ∀ c ∈ e.nets, c.canon

def stepPrim (matchSel : Sel → Labels → Bool) (st : Idx Sel) : Prim → Idx Sel
  | .inc s m => incref s m st
  | .dec s m => decref s m st
  | .scan e old => (scanEp matchSel e old st).1

/-- For every sequence of refcount transitions (any order, any members, including
decrements that hit zero, re-adds, nested and duplicate CIDRs) from a well-formed state:
either a flag went up (Go panic on a missing set / uint64 refcount wrap — both are
bookkeeping errors of the CALLER of these transitions) or every invariant above still
holds.  `_partial`: that no flag goes up along a history of index operations is part of
`ipset_members_eq_spec`. -/
theorem refcount_transitions_keep_invariants_partial (matchSel : Sel → Labels → Bool)
    (ops : List Prim) (st : Idx Sel) (hg : Good st) (hc : ∀ op ∈ ops, op.canon) :
    Good (ops.foldl (stepPrim matchSel) st) :=
  List.foldlRecOn ops _ hg fun st hg op hop => by
    have hop := hc op hop
    cases op with
    | inc s m => exact incref_good hg hop
    | dec s m => exact decref_good hg
    | scan e old => exact scanEp_good matchSel hg hop

/-- A raised flag is never lowered by a transition. -/
theorem flags_sticky (matchSel : Sel → Labels → Bool) (ops : List Prim) (st : Idx Sel)
    (hb : bad st = true) : bad (ops.foldl (stepPrim matchSel) st) = true :=
  List.foldlRecOn (motive := fun st => bad st = true) ops _ hb fun st hb op _ => by
    cases op with
    | inc s m => exact (incref_refcOnly s m st).frame.badMono hb
    | dec s m => exact (decref_refcOnly s m st).frame.badMono hb
    | scan e old => exact (scanEp_refcOnly matchSel e old st).frame.badMono hb

/-- a fresh suppressing index with one selector IP set `s` -/
def exIdx : Idx Nat :=
  { Idx.new Nat true with ipsets := [("s", { sel := 0, proto := 0, port := "", refc := [] })] }

example : WF exIdx :=
  wf_of_empty _ (fun p hp => by simp [exIdx] at hp; subst hp; rfl) rfl rfl rfl (by simp [exIdx])

def ex24 : Member := .cidr { v6 := false, addr := 167772160, len := 24 }   -- 10.0.0.0/24
def ex32 : Member := .cidr { v6 := false, addr := 167772161, len := 32 }   -- 10.0.0.1/32

/-- hypotheses of the history theorem are satisfiable by a non-trivial history: add the /32,
then the /24 that masks it, then remove the /24 again. -/
example : ∀ op ∈ [Prim.inc "s" ex32, .inc "s" ex24, .inc "s" ex24, .dec "s" ex24, .dec "s" ex24], op.canon := by
  intro op hop
  simp only [List.mem_cons, List.not_mem_nil, or_false] at hop
  rcases hop with rfl | rfl | rfl | rfl | rfl <;>
    first
      | trivial
      | (intro c hc; simp only [ex32, ex24, Member.cidr.injEq] at hc; subst hc; decide)

/-- … and on it the model emits: add /32; add /24 and remove the now-masked /32; nothing for
the duplicate add and the first decrement; then remove /24 and re-add /32. -/
example :
    ([Prim.inc "s" ex32, .inc "s" ex24, .inc "s" ex24, .dec "s" ex24, .dec "s" ex24].foldl
      (stepPrim (fun _ _ => true)) exIdx).out =
    [.added "s" ex32, .added "s" ex24, .removed "s" ex32, .removed "s" ex24, .added "s" ex32] := by
  decide

theorem protoFrom_cases (p : PortProto) : protoFrom p = protoUDP ∨ protoFrom p = protoSCTP ∨ protoFrom p = protoTCP := by
  unfold protoFrom
  split
  · exact Or.inl rfl
  · split
    · exact Or.inr (Or.inl rfl)
    · exact Or.inr (Or.inr rfl)

/-- **Characterisation of an endpoint's contribution.**  For a plain selector set (no named port)
the members are exactly the endpoint's / network set's CIDRs.  For a named-port set with protocol
`P` and port name `N` they are exactly the triples (address of one of its nets, L4 protocol, port
number) for each of its named ports whose name is `N` and whose protocol is accepted for `P`
(`protoMatches`: TCP/UDP/SCTP by number or case-insensitive name; an unspecified numeric protocol
only for `Any`); the member's protocol is `protoFrom` of the port's protocol (UDP, SCTP, else TCP). -/
theorem mem_contrib_iff (e : EpData) (d : IpSetData Sel) (m : Member) :
    m ∈ contrib e d ↔
      if d.proto = protoNone then ∃ c ∈ e.nets, m = .cidr c
      else ∃ p ∈ e.ports, p.name = d.port ∧ protoMatches d.proto p.proto = true ∧
        ∃ c ∈ e.nets, m = .ipp c.v6 c.addr p.port (protoFrom p.proto) := by
  unfold contrib lookupNamedPorts
  by_cases hp : d.proto = protoNone
  · simp only [hp, ne_eq, not_true_eq_false, if_false, if_true, List.mem_map]
    constructor
    · rintro ⟨c, hc, rfl⟩; exact ⟨c, hc, rfl⟩
    · rintro ⟨c, hc, rfl⟩; exact ⟨c, hc, rfl⟩
  · simp only [hp, ne_eq, not_false_eq_true, if_true, if_false, List.mem_flatMap, List.mem_filterMap, List.mem_map]
    have hmk : ∀ (c : Cidr) (p : Port), mkIPPortProto c.v6 c.addr p.port (protoFrom p.proto) =
        .ipp c.v6 c.addr p.port (protoFrom p.proto) := by
      intro c p
      unfold mkIPPortProto
      have : ¬ (p.port = 0 ∧ protoFrom p.proto = protoNone) := by
        rintro ⟨_, h⟩
        rcases protoFrom_cases p.proto with h' | h' | h' <;> rw [h'] at h <;> cases h
      simp only [this, if_false]
    constructor
    · rintro ⟨pp, ⟨p, hp1, hp2⟩, c, hc, rfl⟩
      split at hp2
      · rename_i hcond
        cases hp2
        exact ⟨p, hp1, hcond.1, hcond.2, c, hc, hmk c p⟩
      · cases hp2
    · rintro ⟨p, hp1, hn, hm, c, hc, rfl⟩
      refine ⟨(protoFrom p.proto, p.port), ⟨p, hp1, ?_⟩, c, hc, hmk c p⟩
      simp [hn, hm]

/-- **C04, full statement.**  For EVERY history of index operations from a fresh index (IP sets
added / changed in place / removed, endpoints and network sets added / updated / deleted,
profile labels set / deleted, in any order, with shared IPs, nested and duplicate CIDRs, named
ports, and any Go map iteration order — the `perm…` operations), in both suppressor modes:
every callback alternated (strict replay succeeds), the consumer holds each member once, no Go
panic and no refcount wrap happened, and the consumer holds EXACTLY the members contributed by
the endpoints whose effective labels match the set's selector — with overlap suppression, minus
the CIDRs strictly inside another contributed CIDR. -/
theorem ipset_members_eq_spec (matchSel : Sel → Labels → Bool) (suppress : Bool) (ops : List (Op Sel))
    (hops : ∀ op ∈ ops, op.ok) :
    ∃ D, replay (run matchSel (Idx.new Sel suppress) ops).out = some D ∧ D.Nodup ∧
      (run matchSel (Idx.new Sel suppress) ops).panicked = false ∧
      (run matchSel (Idx.new Sel suppress) ops).underflow = false ∧
      ∀ s m, (s, m) ∈ D ↔ memberSpec matchSel (run matchSel (Idx.new Sel suppress) ops) s m := by
  have hinv := run_inv matchSel ops hops (inv_new matchSel suppress)
  obtain ⟨D, hD, hnd, hmem⟩ := hinv.members_eq_spec
  have hb := hinv.core.nb
  unfold bad at hb
  simp only [Bool.or_eq_false_iff] at hb
  exact ⟨D, hD, hnd, hb.1, hb.2, hmem⟩

/-- **The tables the spec reads are the last values written.**  `memberSpec` / `contributed` are
stated over the state's endpoint data, parent labels and IP set configuration; along every history
from a fresh index these three tables are exactly "last writer wins" (`Tables.apply`: an update
stores the written labels / nets / ports / de-duplicated profile ids, resp. profile labels, resp.
selector / protocol / port name under its key, a deletion removes the key, nothing else changes; the
map-order permutations change nothing).  That `memberSpec` reads the state through these tables (and the suppressor
mode) only is not stated in this family; the composed graph uses both facts to make the consumer's IP sets a function
of the current datastore contents (`Proofs/C01Ipsets`). -/
theorem input_tables_last_writer_wins (matchSel : Sel → Labels → Bool) (suppress : Bool) (ops : List (Op Sel))
    (hops : ∀ op ∈ ops, op.ok) :
    tablesOf (run matchSel (Idx.new Sel suppress) ops) =
      ops.foldl Tables.apply ⟨fun _ => none, fun _ => [], fun _ => none⟩ := by
  rw [tables_run matchSel ops hops (inv_new matchSel suppress)]
  rfl

/-- **Reference counts count contributions.**  After every history the reference count of a
member is the number of times the matching endpoints contribute it. -/
theorem refcount_eq_card (matchSel : Sel → Labels → Bool) (suppress : Bool) (ops : List (Op Sel))
    (hops : ∀ op ∈ ops, op.ok) (s : String) (m : Member) :
    refCount (run matchSel (Idx.new Sel suppress) ops) s m =
      sumBy (fun p => match alGet s (run matchSel (Idx.new Sel suppress) ops).ipsets with
        | some d => if matchSel d.sel (effLabels (run matchSel (Idx.new Sel suppress) ops) p.2) = true
            then (contrib p.2 d).count m else 0
        | none => 0) (run matchSel (Idx.new Sel suppress) ops).eps := by
  rw [(run_inv matchSel ops hops (inv_new matchSel suppress)).refCount_eq]
  refine sumBy_congr fun p _ => ?_
  unfold share matchAt contribAt
  cases alGet s (run matchSel (Idx.new Sel suppress) ops).ipsets <;> simp

/-- With suppression: no emitted member inside another, and the emitted CIDRs cover exactly the
addresses of the CIDRs contributed by the matching endpoints / network sets. -/
theorem suppressed_cover_eq_spec (matchSel : Sel → Labels → Bool) (ops : List (Op Sel))
    (hops : ∀ op ∈ ops, op.ok) :
    ∃ D, replay (run matchSel (Idx.new Sel true) ops).out = some D ∧
      (∀ s a b, (s, Member.cidr a) ∈ D → (s, Member.cidr b) ∈ D → a.sc b = false) ∧
      ∀ s (v6 : Bool) (x : Nat),
        (∃ c, (s, Member.cidr c) ∈ D ∧ c.v6 = v6 ∧ c.hasAddr x) ↔
        (∃ c, contributed matchSel (run matchSel (Idx.new Sel true) ops) s (.cidr c) ∧ c.v6 = v6 ∧ c.hasAddr x) := by
  have hinv := run_inv matchSel ops hops (inv_new matchSel true)
  have hsup : (run matchSel (Idx.new Sel true) ops).suppress = true := run_suppress matchSel _ ops
  obtain ⟨D, hD, hanti⟩ := suppressed_antichain hinv.core.wf hsup
  obtain ⟨D', hD', hcov⟩ := suppressed_cover_eq hinv.core.wf
  rw [hD] at hD'; cases hD'
  refine ⟨D, hD, hanti, fun s v6 x => ?_⟩
  rw [hcov]
  simp only [refcounted_iff_contributed hinv]

/-- non-vacuity of `ipset_members_eq_spec`: a history with an IP set, a network set with nested
CIDRs and a workload sharing one of the addresses satisfies `Op.ok` … -/
def exOps : List (Op Nat) :=
  [ .updateIPSet "s" 0 0 "",
    .updateEndpoint "n1" [] [⟨false, 167772160, 24⟩, ⟨false, 167772161, 32⟩] [] ["p1"],
    .updateEndpoint "w1" [] [⟨false, 167772161, 32⟩] [] [],
    .updateParentLabels "p1" [("a", "x")],
    .deleteEndpoint "n1" ]

example : ∀ op ∈ exOps, op.ok := by
  intro op hop
  simp only [exOps, List.mem_cons, List.not_mem_nil, or_false] at hop
  rcases hop with rfl | rfl | rfl | rfl | rfl
  · trivial
  · intro c hc
    simp only [List.mem_cons, List.not_mem_nil, or_false] at hc
    rcases hc with rfl | rfl <;> decide
  · intro c hc
    simp only [List.mem_cons, List.not_mem_nil, or_false] at hc
    rcases hc with rfl <;> decide
  · trivial
  · trivial

/-- … and with suppression the consumer ends up holding exactly 10.0.0.1/32 (the /24 masked it
while the network set existed, its removal re-exposed it; the refcount of 2 dropped to 1). -/
example : replay (run (fun _ _ => true) (Idx.new Nat true) exOps).out =
    some [("s", .cidr ⟨false, 167772161, 32⟩)] := by decide

/-- A repeated profile id is listed once (`dedupParents`): no panic, the stored parents are `["p1"]`, and deleting the
endpoint leaves the index empty.  (Regression statement for /repo c40ff03: a clean-up loop that discards the endpoint
from its parent once per occurrence of the profile id panics with "discard of unknown ID" on this history.) -/
theorem dup_profile_id_no_panic :
    (run (fun (_ : Nat) _ => true) (Idx.new Nat false)
      [.updateEndpoint "w1" [] [] [] ["p1", "p1"]]).eps.map (fun p => (p.1, p.2.parents)) = [("w1", ["p1"])] ∧
    (run (fun (_ : Nat) _ => true) (Idx.new Nat false)
      [.updateEndpoint "w1" [] [] [] ["p1", "p1"], .deleteEndpoint "w1"]).panicked = false ∧
    (run (fun (_ : Nat) _ => true) (Idx.new Nat false)
      [.updateEndpoint "w1" [] [] [] ["p1", "p1"], .deleteEndpoint "w1"]).eps = [] := by
  decide

/-- In general: a profile-id list with repeats behaves exactly like its de-duplicated version. -/
theorem repeated_profile_ids_same_as_deduplicated (matchSel : Sel → Labels → Bool) (id : String) (labels : Labels)
    (nets : List Cidr) (ports : List Port) (parents : List String) (st : Idx Sel) :
    updateEndpoint matchSel id labels nets ports parents st =
      updateEndpoint matchSel id labels nets ports (dedupParents parents) st ∧
    (dedupParents parents).Nodup ∧ ∀ p, p ∈ dedupParents parents ↔ p ∈ parents := by
  refine ⟨?_, dedupParents_nodup parents, mem_dedupParents parents⟩
  unfold updateEndpoint
  congr 1
  exact (dedupParents_of_nodup (dedupParents_nodup parents)).symm

end CalicoVerif.C04
