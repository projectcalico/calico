import CalicoVerif.Proofs.C04Main
/-! C04: what an operation does to everything but refcounts and match caches.  The spec reads three input tables
(`tablesOf`: endpoint data `epData`, parent labels, IP set configuration `cfgAt`); `Tables.apply` is "the operation
writes its entry, nothing else changes", and `tables_step` / `tables_run` say the index's tables follow it along every
history.  Besides, the suppressor mode never changes (`step_suppress`) and every member callback is for a set the index
knows (`step_log`).

All of this comes from one description per operation, composed from the refcount layer's `RefcOnly`:
* `Quiet st st'`: the three tables (`Keep`) and the suppressor mode are as before, the log grew by member callbacks for
  known sets.  `RefcOnly.quiet`; every loop body is `Quiet`, loops by `foldl_chain Quiet.refl Quiet.trans`.
* `EpWritten id v`, `SetWritten s v`, `ParWritten pid labels`: `Quiet` but for the one entry written (`SetWritten` may
  also make callbacks for `s` itself).  A chain "quiet, write, quiet" is composed with `Quiet.written`, `EpWritten.quiet`,
  `EpWritten.trans` (last write wins) and their `SetWritten` namesakes, as in `updateEndpointCore_written`. -/
namespace CalicoVerif.C04

-- many lemmas of a section need neither `DecidableEq Sel` nor `matchSel`
set_option linter.unusedSectionVars false

section Tables
variable {Sel : Type} [DecidableEq Sel] (matchSel : Sel → Labels → Bool)

/-- what the index remembers of an endpoint's / network set's datastore value (cache aside) -/
def epData (st : Idx Sel) (id : String) : Option (Labels × List Cidr × List Port × List String) :=
  (alGet id st.eps).map (fun e => (e.labels, e.nets, e.ports, e.parents))

theorem epData_eq (st : Idx Sel) (id : String) : epData st id = (alGet id st.eps).map EpData.input := rfl

theorem epData_of_some {st : Idx Sel} {id : String} {e : EpData} (h : alGet id st.eps = some e) :
    epData st id = some e.input := by rw [epData_eq, h]; rfl

structure Keep (st st' : Idx Sel) : Prop where
  eps : ∀ id, epData st' id = epData st id
  parents : st'.parents = st.parents
  cfg : ∀ s, cfgAt st' s = cfgAt st s

theorem Keep.refl (st : Idx Sel) : Keep st st := ⟨fun _ => rfl, rfl, fun _ => rfl⟩
theorem Keep.trans {a b c : Idx Sel} (h1 : Keep a b) (h2 : Keep b c) : Keep a c :=
  ⟨fun id => (h2.eps id).trans (h1.eps id), h2.parents.trans h1.parents, fun s => (h2.cfg s).trans (h1.cfg s)⟩

theorem RefcOnly.keep {a b : Idx Sel} (h : RefcOnly a b) : Keep a b :=
  ⟨fun id => by rw [epData_eq, epData_eq, h.frame.eps], h.frame.parents, h.cfg⟩

theorem mem_keys_iff (st : Idx Sel) (k : String) : k ∈ st.ipsets.map (·.1) ↔ (cfgAt st k).isSome = true := by
  rw [← present_iff_cfg]; exact alGet_isSome_iff.symm

theorem keys_sub_of_cfg {a b : Idx Sel} (h : ∀ s, cfgAt b s = cfgAt a s) :
    ∀ k ∈ b.ipsets.map (·.1), k ∈ a.ipsets.map (·.1) := fun k hk => by
  rwa [mem_keys_iff, ← h, ← mem_keys_iff]

/-- what an operation does apart from the one table entry it writes -/
structure Quiet (st st' : Idx Sel) : Prop where
  keep : Keep st st'
  suppress : st'.suppress = st.suppress
  log : Grows (st.ipsets.map (·.1)) st st'

theorem Quiet.refl (st : Idx Sel) : Quiet st st := ⟨Keep.refl st, rfl, Grows.of_eq rfl⟩
theorem Quiet.trans {a b c : Idx Sel} (h1 : Quiet a b) (h2 : Quiet b c) : Quiet a c :=
  ⟨h1.keep.trans h2.keep, h2.suppress.trans h1.suppress, h1.log.trans (h2.log.mono (keys_sub_of_cfg h1.keep.cfg))⟩

theorem RefcOnly.quiet {a b : Idx Sel} (h : RefcOnly a b) : Quiet a b := ⟨h.keep, h.frame.suppress, h.log⟩

theorem quiet_panicked (c : Bool) (st : Idx Sel) :
    Quiet st (if c = true then { st with panicked := true } else st) := by
  cases c <;> exact ⟨⟨fun _ => rfl, rfl, fun _ => rfl⟩, rfl, Grows.of_eq rfl⟩

theorem quiet_alMod (st : Idx Sel) (id : String) (g : EpData → EpData)
    (hg : ∀ e, alGet id st.eps = some e → (g e).input = e.input) :
    Quiet st { st with eps := alMod id g st.eps } := by
  refine ⟨⟨fun id' => ?_, rfl, fun _ => rfl⟩, rfl, Grows.of_eq rfl⟩
  rw [epData_eq, epData_eq]
  show (alGet id' (alMod id g st.eps)).map EpData.input = _
  rw [alGet_alMod]
  split
  · next h =>
    subst h
    cases hget : alGet id' st.eps with
    | none => rfl
    | some e => exact congrArg some (hg e hget)
  · rfl

structure EpWritten (id : String) (v : Option (Labels × List Cidr × List Port × List String)) (st st' : Idx Sel) :
    Prop where
  eps : ∀ id', epData st' id' = if id' = id then v else epData st id'
  parents : st'.parents = st.parents
  cfg : ∀ s, cfgAt st' s = cfgAt st s
  suppress : st'.suppress = st.suppress
  log : Grows (st.ipsets.map (·.1)) st st'

/-- the last write to `id` wins -/
theorem EpWritten.trans {id : String} {v w : Option (Labels × List Cidr × List Port × List String)}
    {a b c : Idx Sel} (h1 : EpWritten id v a b) (h2 : EpWritten id w b c) : EpWritten id w a c :=
  ⟨fun id' => by rw [h2.eps, h1.eps]; split <;> rfl, h2.parents.trans h1.parents,
    fun s => (h2.cfg s).trans (h1.cfg s), h2.suppress.trans h1.suppress,
    h1.log.trans (h2.log.mono (keys_sub_of_cfg h1.cfg))⟩

theorem EpWritten.quiet {id : String} {v : Option (Labels × List Cidr × List Port × List String)}
    {a b c : Idx Sel} (h : EpWritten id v a b) (q : Quiet b c) : EpWritten id v a c :=
  ⟨fun id' => (q.keep.eps id').trans (h.eps id'), q.keep.parents.trans h.parents,
    fun s => (q.keep.cfg s).trans (h.cfg s), q.suppress.trans h.suppress,
    h.log.trans (q.log.mono (keys_sub_of_cfg h.cfg))⟩

theorem Quiet.written {id : String} {v : Option (Labels × List Cidr × List Port × List String)}
    {a b c : Idx Sel} (q : Quiet a b) (h : EpWritten id v b c) : EpWritten id v a c :=
  ⟨fun id' => by rw [h.eps, q.keep.eps], h.parents.trans q.keep.parents,
    fun s => (h.cfg s).trans (q.keep.cfg s), h.suppress.trans q.suppress,
    q.log.trans (h.log.mono (keys_sub_of_cfg q.keep.cfg))⟩

theorem epWritten_set (st : Idx Sel) (id : String) (e : EpData) :
    EpWritten id (some e.input) st { st with eps := alSet id e st.eps } :=
  ⟨fun id' => by simp only [epData_eq, alGet_alSet]; split <;> rfl, rfl, fun _ => rfl, rfl, Grows.of_eq rfl⟩

theorem epWritten_erase (st : Idx Sel) (id : String) :
    EpWritten id none st { st with eps := alErase id st.eps } :=
  ⟨fun id' => by simp only [epData_eq, alGet_alErase]; split <;> rfl, rfl, fun _ => rfl, rfl, Grows.of_eq rfl⟩

/-- **Endpoint table, last writer wins.** -/
theorem updateEndpointCore_written (id : String) (labels : Labels) (nets : List Cidr) (ports : List Port)
    (parents : List String) (st : Idx Sel) :
    EpWritten id (some (labels, nets, ports, parents)) st
      (updateEndpointCore matchSel id labels nets ports parents st) := by
  -- scan the new data, then store what the scan returns
  have fin : ∀ (st0 : Idx Sel) (old : List (String × List Member)) r,
      r = scanEp matchSel ⟨labels, nets, ports, parents, []⟩ old st0 →
      EpWritten id (some (labels, nets, ports, parents)) st0 { r.1 with eps := alSet id r.2 r.1.eps } := by
    rintro st0 old r rfl
    have k := scanEp_refcOnly matchSel ⟨labels, nets, ports, parents, []⟩ old st0
    have hi := scanEp_input matchSel ⟨labels, nets, ports, parents, []⟩ old st0
    have := k.quiet.written (epWritten_set _ id (scanEp matchSel ⟨labels, nets, ports, parents, []⟩ old st0).2)
    rwa [hi] at this
  unfold updateEndpointCore
  cases hget : alGet id st.eps with
  | none => exact fin st [] _ rfl
  | some old =>
    dsimp only
    split
    · rename_i heq
      simp only [epEquals, Bool.and_eq_true, beq_iff_eq] at heq
      refine ⟨fun id' => ?_, rfl, fun _ => rfl, rfl, Grows.of_eq rfl⟩
      by_cases h : id' = id
      · subst h; rw [if_pos rfl, epData_of_some hget]; simp [EpData.input, heq.1.1.1, heq.1.1.2, heq.1.2, heq.2]
      · rw [if_neg h]
    · exact ((((quiet_panicked _ st).written (epWritten_erase _ id)).trans (fin _ _ _ rfl)).quiet (quiet_panicked _ _))

theorem updateEndpoint_written (id : String) (labels : Labels) (nets : List Cidr) (ports : List Port)
    (parents : List String) (st : Idx Sel) :
    EpWritten id (some (labels, nets, ports, dedupParents parents)) st
      (updateEndpoint matchSel id labels nets ports parents st) :=
  updateEndpointCore_written matchSel id labels nets ports (dedupParents parents) st

theorem deleteEndpoint_written (id : String) (st : Idx Sel) : EpWritten id none st (deleteEndpoint id st) := by
  unfold deleteEndpoint
  cases hget : alGet id st.eps with
  | none =>
    refine ⟨fun id' => ?_, rfl, fun _ => rfl, rfl, Grows.of_eq rfl⟩
    by_cases h : id' = id
    · subst h; rw [if_pos rfl, epData_eq, hget]; rfl
    · rw [if_neg h]
  | some old =>
    exact ((((quiet_panicked _ st).trans (decrefOld_refcOnly _ _).quiet).written (epWritten_erase _ id)).quiet
      (quiet_panicked _ _))

theorem rescanEp_quiet (id : String) (st : Idx Sel) : Quiet st (rescanEp matchSel id st) := by
  unfold rescanEp
  cases hget : alGet id st.eps with
  | none => exact Quiet.refl st
  | some e =>
    dsimp only
    have q0 := quiet_panicked (recalcPanics e st) st
    generalize (if recalcPanics e st = true then ({ st with panicked := true } : Idx Sel) else st) = st0 at q0 ⊢
    have k := scanEp_refcOnly matchSel e (recalc e st0) st0
    have hi := scanEp_input matchSel e (recalc e st0) st0
    refine q0.trans (k.quiet.trans (quiet_alMod _ id _ fun e' he' => ?_))
    rw [k.frame.eps] at he'
    have := (q0.keep.eps id).symm
    rw [epData_of_some hget, epData_of_some he'] at this
    exact hi.trans (Option.some.inj this)

theorem rescanFold_quiet (ids : List String) (st : Idx Sel) :
    Quiet st (ids.foldl (fun st id => rescanEp matchSel id st) st) :=
  foldl_chain Quiet.refl Quiet.trans _ (fun st id => rescanEp_quiet matchSel id st) ids st

structure ParWritten (pid : String) (labels : Labels) (st st' : Idx Sel) : Prop where
  eps : ∀ id, epData st' id = epData st id
  par : ∀ p, parentLabels st' p = if p = pid then labels else parentLabels st p
  cfg : ∀ s, cfgAt st' s = cfgAt st s
  suppress : st'.suppress = st.suppress
  log : Grows (st.ipsets.map (·.1)) st st'

theorem updateParentLabels_written (pid : String) (labels : Labels) (st : Idx Sel) :
    ParWritten pid labels st (updateParentLabels matchSel pid labels st) := by
  unfold updateParentLabels
  split
  · next heq =>
    refine ⟨fun _ => rfl, fun p => ?_, fun _ => rfl, rfl, Grows.of_eq rfl⟩
    split
    · next e => rw [e]; exact heq
    · rfl
  · have q := rescanFold_quiet matchSel ((st.eps.filter (fun p => pid ∈ p.2.parents)).map (·.1))
      { st with parents := alSet pid labels st.parents }
    refine ⟨q.keep.eps, fun p => ?_, q.keep.cfg, q.suppress, q.log⟩
    unfold parentLabels
    rw [q.keep.parents]
    simp only [alGet_alSet]
    split <;> rfl

structure SetWritten (s : String) (v : Option (Sel × Nat × String)) (st st' : Idx Sel) : Prop where
  eps : ∀ id, epData st' id = epData st id
  parents : st'.parents = st.parents
  cfg : ∀ s', cfgAt st' s' = if s' = s then v else cfgAt st s'
  suppress : st'.suppress = st.suppress
  log : Grows (s :: st.ipsets.map (·.1)) st st'

theorem SetWritten.keys_sub {s : String} {v : Option (Sel × Nat × String)} {a b : Idx Sel} (h : SetWritten s v a b) :
    ∀ k ∈ b.ipsets.map (·.1), k ∈ s :: a.ipsets.map (·.1) := fun k hk => by
  rw [mem_keys_iff, h.cfg] at hk
  by_cases e : k = s
  · exact e ▸ List.mem_cons_self ..
  · rw [if_neg e] at hk; exact List.mem_cons_of_mem _ ((mem_keys_iff a k).2 hk)

/-- the last write to `s` wins -/
theorem SetWritten.trans {s : String} {v w : Option (Sel × Nat × String)} {a b c : Idx Sel}
    (h1 : SetWritten s v a b) (h2 : SetWritten s w b c) : SetWritten s w a c :=
  ⟨fun id => (h2.eps id).trans (h1.eps id), h2.parents.trans h1.parents,
    fun s' => by rw [h2.cfg, h1.cfg]; split <;> rfl, h2.suppress.trans h1.suppress,
    h1.log.trans (h2.log.mono fun k hk => (List.mem_cons.1 hk).elim (fun e => e ▸ List.mem_cons_self ..) (h1.keys_sub k))⟩

theorem SetWritten.quiet {s : String} {v : Option (Sel × Nat × String)} {a b c : Idx Sel}
    (h : SetWritten s v a b) (q : Quiet b c) : SetWritten s v a c :=
  ⟨fun id => (q.keep.eps id).trans (h.eps id), q.keep.parents.trans h.parents,
    fun s' => (q.keep.cfg s').trans (h.cfg s'), q.suppress.trans h.suppress, h.log.trans (q.log.mono h.keys_sub)⟩

theorem Quiet.setWritten {s : String} {v : Option (Sel × Nat × String)} {a b c : Idx Sel}
    (q : Quiet a b) (h : SetWritten s v b c) : SetWritten s v a c :=
  ⟨fun id => (h.eps id).trans (q.keep.eps id), h.parents.trans q.keep.parents,
    fun s' => by rw [h.cfg, q.keep.cfg], h.suppress.trans q.suppress,
    (q.log.mono fun _ => List.mem_cons_of_mem _).trans (h.log.mono fun k hk =>
      (List.mem_cons.1 hk).elim (fun e => e ▸ List.mem_cons_self ..) fun hk =>
        List.mem_cons_of_mem _ (keys_sub_of_cfg q.keep.cfg k hk))⟩

theorem deleteIPSetCore_written (s : String) (st : Idx Sel) :
    SetWritten s none st (deleteIPSetCore s st) ∧ (deleteIPSetCore s st).out = st.out := by
  unfold deleteIPSetCore
  cases hget : alGet s st.ipsets with
  | none =>
    refine ⟨⟨fun _ => rfl, rfl, fun s' => ?_, rfl, Grows.of_eq rfl⟩, rfl⟩
    by_cases h : s' = s
    · subst h; rw [if_pos rfl, cfgAt_of_none hget]
    · rw [if_neg h]
  | some d =>
    refine ⟨⟨fun id => ?_, rfl, fun s' => ?_, rfl, Grows.of_eq rfl⟩, rfl⟩
    · rw [epData_eq, epData_eq]
      refine (congrArg _ (alGet_map_val (fun e : EpData => { e with cached := e.cached.filter (fun x => x ≠ s) })
        st.eps id)).trans ?_
      cases alGet id st.eps <;> rfl
    · exact cfgAt_alErase rfl s'

theorem addIPSetScanOne_quiet (s : String) (sel : Sel) (id : String) (st : Idx Sel) :
    Quiet st (addIPSetScanOne matchSel s sel id st) := by
  unfold addIPSetScanOne
  cases alGet id st.eps with
  | none => exact Quiet.refl st
  | some e =>
    cases alGet s st.ipsets with
    | none => exact Quiet.refl st
    | some d =>
      dsimp only
      split
      · split
        · exact Quiet.refl st
        · exact (quiet_alMod st id (fun e => { e with cached := setAdd s e.cached }) fun _ _ => rfl).trans
            (increfAll_refcOnly _ _ _).quiet
      · exact Quiet.refl st

theorem addIPSet_written (s : String) (sel : Sel) (proto : Nat) (port : String) (st : Idx Sel) :
    SetWritten s (some (sel, proto, port)) st (addIPSet matchSel s sel proto port st) := by
  unfold addIPSet
  have w : SetWritten s (some (sel, proto, port)) st
      { st with ipsets := alSet s (⟨sel, proto, port, []⟩ : IpSetData Sel) st.ipsets } := by
    exact ⟨fun _ => rfl, rfl, cfgAt_alSet (d := ⟨sel, proto, port, []⟩) rfl, rfl, Grows.of_eq rfl⟩
  exact w.quiet
    (foldl_chain Quiet.refl Quiet.trans _ (fun st id => addIPSetScanOne_quiet matchSel s sel id st) (st.eps.map (·.1)) _)

/-- **IP set table, last writer wins.** -/
theorem updateIPSet_written (s : String) (sel : Sel) (proto : Nat) (port : String) (st : Idx Sel) :
    SetWritten s (some (sel, proto, port)) st (updateIPSet matchSel s sel proto port st) := by
  unfold updateIPSet
  cases hget : alGet s st.ipsets with
  | none => exact addIPSet_written matchSel s sel proto port st
  | some d =>
    dsimp only
    split
    · rename_i heq
      refine ⟨fun _ => rfl, rfl, fun s' => ?_, rfl, Grows.of_eq rfl⟩
      split
      · subst s'; rw [cfgAt_of_some hget, ← heq.1, ← heq.2.1, ← heq.2.2]; rfl
      · rfl
    · -- the forced removals are callbacks for `s`, which is known as long as they run
      have k1 : Quiet st ((d.refc.map (·.1)).foldl (fun st m => forceRemove s m st) st) :=
        foldl_chain (R := fun a b : Idx Sel => (alGet s a.ipsets).isSome = true → Quiet a b) (fun a _ => Quiet.refl a)
          (fun h1 h2 hp => (h1 hp).trans (h2 (by rw [present_iff_cfg, (h1 hp).keep.cfg, ← present_iff_cfg]; exact hp)))
          _ (fun st m hp => (forceRemove_refcOnly hp m).quiet) _ _ (by rw [hget]; rfl)
      exact (k1.setWritten (deleteIPSetCore_written s _).1).trans (addIPSet_written matchSel s sel proto port _)

/-- the suppressor mode chosen at construction never changes -/
theorem step_suppress (st : Idx Sel) (op : Op Sel) : (step matchSel st op).suppress = st.suppress := by
  cases op with
  | updateIPSet s sel proto port => exact (updateIPSet_written matchSel s sel proto port st).suppress
  | deleteIPSet s => exact (deleteIPSetCore_written s st).1.suppress
  | updateEndpoint id labels nets ports parents => exact (updateEndpoint_written matchSel id labels nets ports parents st).suppress
  | deleteEndpoint id => exact (deleteEndpoint_written id st).suppress
  | updateParentLabels pid labels => exact (updateParentLabels_written matchSel pid labels st).suppress
  | deleteParentLabels pid => exact (updateParentLabels_written matchSel pid [] st).suppress
  | permEps l => simp only [step]; split <;> rfl
  | permIPSets l => simp only [step]; split <;> rfl
  | permCached id l => rfl
  | permRefc s l => rfl

theorem run_suppress (st : Idx Sel) (ops : List (Op Sel)) : (run matchSel st ops).suppress = st.suppress :=
  foldl_chain (R := fun a b : Idx Sel => b.suppress = a.suppress) (fun _ => rfl) (fun h1 h2 => h2.trans h1)
    _ (step_suppress matchSel) ops st

/-- **Every callback is for a known set.**  An operation other than `DeleteIPSet` appends member callbacks only,
each for a set known before it or, for `UpdateIPSet`, the one it installs (`K` is any list holding these); and it
knows no other sets afterwards. -/
theorem step_log {K : List String} (st : Idx Sel) (op : Op Sel) (hK : ∀ k ∈ st.ipsets.map (·.1), k ∈ K)
    (hnew : ∀ s sel proto port, op = .updateIPSet s sel proto port → s ∈ K) (hdel : ∀ s, op ≠ .deleteIPSet s) :
    Grows K st (step matchSel st op) ∧ ∀ k ∈ (step matchSel st op).ipsets.map (·.1), k ∈ K := by
  have same : ∀ st' : Idx Sel, Grows (st.ipsets.map (·.1)) st st' →
      (∀ k ∈ st'.ipsets.map (·.1), k ∈ st.ipsets.map (·.1)) → Grows K st st' ∧ ∀ k ∈ st'.ipsets.map (·.1), k ∈ K :=
    fun st' hl hk => ⟨hl.mono hK, fun k h => hK k (hk k h)⟩
  cases op with
  | updateIPSet s sel proto port =>
    have w := updateIPSet_written matchSel s sel proto port st
    have hsK : ∀ k ∈ s :: st.ipsets.map (·.1), k ∈ K :=
      fun k hk => (List.mem_cons.1 hk).elim (fun e => e ▸ hnew s sel proto port rfl) (hK k)
    exact ⟨w.log.mono hsK, fun k hk => hsK k (w.keys_sub k hk)⟩
  | deleteIPSet s => exact absurd rfl (hdel s)
  | updateEndpoint id labels nets ports parents =>
    have w := updateEndpoint_written matchSel id labels nets ports parents st
    exact same _ w.log (keys_sub_of_cfg w.cfg)
  | deleteEndpoint id => exact same _ (deleteEndpoint_written id st).log (keys_sub_of_cfg (deleteEndpoint_written id st).cfg)
  | updateParentLabels pid labels =>
    have w := updateParentLabels_written matchSel pid labels st
    exact same _ w.log (keys_sub_of_cfg w.cfg)
  | deleteParentLabels pid =>
    have w := updateParentLabels_written matchSel pid [] st
    exact same _ w.log (keys_sub_of_cfg w.cfg)
  | permEps l => simp only [step]; split <;> exact same _ (Grows.of_eq rfl) fun _ h => h
  | permIPSets l =>
    simp only [step]
    split
    · rename_i hp
      exact same _ (Grows.of_eq rfl) fun k hk => ((hp.map _).mem_iff).1 hk
    · exact same _ (Grows.of_eq rfl) fun _ h => h
  | permCached id l => exact same _ (Grows.of_eq rfl) fun _ h => h
  | permRefc s l => exact same _ (Grows.of_eq rfl) fun k hk => by rwa [step, alMod_keys] at hk

theorem deleteIPSet_log (s : String) (st : Idx Sel) :
    (deleteIPSet s st).out = st.out ++ [.cleared s] ∧
    ∀ k ∈ (deleteIPSet s st).ipsets.map (·.1), k ∈ st.ipsets.map (·.1) ∧ k ≠ s := by
  obtain ⟨w, ho⟩ := deleteIPSetCore_written s st
  refine ⟨by rw [deleteIPSet, emit, ho], fun k hk => ?_⟩
  have hc := (mem_keys_iff (deleteIPSetCore s st) k).1 hk
  rw [w.cfg] at hc
  by_cases e : k = s
  · rw [if_pos e] at hc; cases hc
  · rw [if_neg e] at hc; exact ⟨(mem_keys_iff st k).2 hc, e⟩

theorem stepEvents_of_out {st : Idx Sel} {op : Op Sel} {evs : List Event}
    (h : (step matchSel st op).out = st.out ++ evs) : (stepEvents matchSel st op).2 = evs := by
  show (step matchSel st op).out.drop st.out.length = evs
  rw [h]; exact List.drop_left

/-- the three input tables the spec `memberSpec` reads, as plain functions -/
structure Tables (Sel : Type) where
  ep : String → Option (Labels × List Cidr × List Port × List String)
  par : String → Labels
  cfg : String → Option (Sel × Nat × String)

def tablesOf (st : Idx Sel) : Tables Sel := ⟨epData st, parentLabels st, cfgAt st⟩

/-- what an operation WRITES: last writer wins, nothing else changes -/
def Tables.apply (t : Tables Sel) : Op Sel → Tables Sel
  | .updateIPSet s sel proto port => { t with cfg := fun s' => if s' = s then some (sel, proto, port) else t.cfg s' }
  | .deleteIPSet s => { t with cfg := fun s' => if s' = s then none else t.cfg s' }
  | .updateEndpoint id labels nets ports parents =>
    { t with ep := fun id' => if id' = id then some (labels, nets, ports, dedupParents parents) else t.ep id' }
  | .deleteEndpoint id => { t with ep := fun id' => if id' = id then none else t.ep id' }
  | .updateParentLabels pid labels => { t with par := fun p => if p = pid then labels else t.par p }
  | .deleteParentLabels pid => { t with par := fun p => if p = pid then [] else t.par p }
  | _ => t

theorem tablesOf_eq {st : Idx Sel} {t : Tables Sel} (h1 : ∀ id, epData st id = t.ep id)
    (h2 : ∀ p, parentLabels st p = t.par p) (h3 : ∀ s, cfgAt st s = t.cfg s) : tablesOf st = t := by
  cases t
  simp only [tablesOf, Tables.mk.injEq]
  exact ⟨funext h1, funext h2, funext h3⟩

theorem parentLabels_congr {st st' : Idx Sel} (h : st'.parents = st.parents) (p : String) :
    parentLabels st' p = parentLabels st p := by
  unfold parentLabels; rw [h]

theorem tables_step {st : Idx Sel} (h : Inv matchSel st) (op : Op Sel) :
    tablesOf (step matchSel st op) = (tablesOf st).apply op := by
  cases op with
  | updateIPSet s sel proto port =>
    have w := updateIPSet_written matchSel s sel proto port st
    exact tablesOf_eq w.eps (parentLabels_congr w.parents) w.cfg
  | deleteIPSet s =>
    have w := (deleteIPSetCore_written s st).1
    exact tablesOf_eq w.eps (parentLabels_congr w.parents) w.cfg
  | updateEndpoint id labels nets ports parents =>
    have w := updateEndpoint_written matchSel id labels nets ports parents st
    exact tablesOf_eq w.eps (parentLabels_congr w.parents) w.cfg
  | deleteEndpoint id =>
    have w := deleteEndpoint_written id st
    exact tablesOf_eq w.eps (parentLabels_congr w.parents) w.cfg
  | updateParentLabels pid labels =>
    have w := updateParentLabels_written matchSel pid labels st
    exact tablesOf_eq w.eps w.par w.cfg
  | deleteParentLabels pid =>
    have w := updateParentLabels_written matchSel pid [] st
    exact tablesOf_eq w.eps w.par w.cfg
  | permEps l =>
    simp only [step, Tables.apply]
    split
    · rename_i hp
      refine tablesOf_eq (fun id => ?_) (fun _ => rfl) (fun _ => rfl)
      exact congrArg (Option.map EpData.input) (alGet_perm h.core.epsNodup hp id)
    · rfl
  | permIPSets l =>
    simp only [step, Tables.apply]
    split
    · rename_i hp
      exact tablesOf_eq (fun _ => rfl) (fun _ => rfl) fun s => cfgAt_congr_get (alGet_perm h.core.wf.sets hp s)
    · rfl
  | permCached id l =>
    exact tablesOf_eq (quiet_alMod st id _ fun e _ => permCachedFn_input l e).keep.eps (fun _ => rfl) (fun _ => rfl)
  | permRefc s l =>
    refine tablesOf_eq (fun _ => rfl) (fun _ => rfl) (cfgAt_alMod (st := st) (s := s) (f := permRefcFn l) rfl fun d => ?_)
    unfold permRefcFn
    split <;> rfl

/-- **The input tables are "last writer wins" along every history.** -/
theorem tables_run (ops : List (Op Sel)) (hops : ∀ op ∈ ops, op.ok) {st : Idx Sel} (h : Inv matchSel st) :
    tablesOf (run matchSel st ops) = ops.foldl Tables.apply (tablesOf st) :=
  (List.foldl_rel (r := fun st t => Inv matchSel st ∧ tablesOf st = t) ⟨h, rfl⟩
    fun op ho _ _ ⟨hi, e⟩ => ⟨step_inv matchSel op (hops op ho) hi, e ▸ tables_step matchSel hi op⟩).2

end Tables
end CalicoVerif.C04
