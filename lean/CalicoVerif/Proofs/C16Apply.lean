import CalicoVerif.Proofs.C16Resync
import CalicoVerif.Proofs.C16Restore
import CalicoVerif.Proofs.C16Delete
/-!
C16 — whole operations.  `ApplyUpdates` is a finite sequence of elementary actions (`Acts`: resync, temp-set
clean-up, restore pass) closed, when it succeeds, by one attempt without errors (`applyLoop_acts`, the only walk
through the retry loop).  Every action is `Safe` (`Acts.safe`), and a clean attempt that begins with a full
resync has converged (`Clean.converges`).  Every operation of the API keeps the invariant `Inv`, so it holds
along every history (`run_inv`), and sets Felix does not own are never touched.
-/
namespace CalicoVerif.C16

theorem Res.safe {w w' : W} (h : Res w w') : Safe w w' :=
  Safe.of_kernel_eq h.K h.wpres.keep h.qd

theorem Safe.of_flags {w w' : W} (hK : w'.K = w.K) (hc : w'.cfg = w.cfg) (hF : ∃ b, w'.F = { w.F with fullReq := b }) :
    Safe w w' := by
  obtain ⟨b, hF⟩ := hF
  exact Safe.of_kernel_eq hK ⟨hc, by rw [hF], by rw [hF], by rw [hF], fun _ _ _ h => by rwa [Tracked, hF]⟩
    fun h => by rw [hF]; exact h.of_eq rfl rfl rfl

inductive Acts : W → W → Prop
  | nil (w : W) : Acts w w
  | resync {a w : W} : Acts a w → Acts a w.tryResync.1
  | temp {a w : W} : Acts a w → Acts a w.tryTempDeletions
  | update {a w : W} : Acts a w → Acts a (w.tryUpdates w.F.dirtyForUpdate).1
  | sleep {a w : W} (n : Nat) : Acts a w → Acts a { w with sleeps := n }
  | full {a w : W} : Acts a w → Acts a { w with F := { w.F with fullReq := true } }

/-- An attempt of the retry loop in which neither the resync (if one ran) nor the restore reported an error. -/
def Clean (w w' : W) : Prop :=
  ∃ w1 w3, (w.F.fullReq = false ∧ w1 = w ∨ w.tryResync = (w1, false)) ∧
    w1.tryTempDeletions.tryUpdates w1.tryTempDeletions.F.dirtyForUpdate = (w3, false) ∧
    w' = { w3 with F := { w3.F with fullReq := false } }

/-- The sequence ends without success when the loop is out of attempts or on a Panic.  `a` is where the sequence
began: the walk only ever appends to it.  (`att < 5` in the loop is `treatFailureAsTransient := attempt <
MaxRetryAttempt/2`.) -/
theorem applyLoop_acts (fuel att : Nat) (rerr : Bool) (w : W) : ∀ a, Acts a w → ∃ w0, Acts a w0 ∧
    (W.applyLoop fuel att rerr w = (w0, false) ∨ ∃ w', Clean w0 w' ∧ W.applyLoop fuel att rerr w = (w', true)) := by
  -- the resync, if one is due, is an action
  have res : ∀ {a w w1 : W} {d rerr e : Bool}, Acts a w → (if d = true then w.tryResync else (w, rerr)) = (w1, e) →
      Acts a w1 := by
    intro a w w1 d rerr e ha he
    split at he
    · simpa [he] using ha.resync
    · cases he; exact ha
  -- and so are the clean-up and the restore pass after it
  have upd : ∀ {a w1 w3 : W} {e : Bool}, Acts a w1 →
      w1.tryTempDeletions.tryUpdates w1.tryTempDeletions.F.dirtyForUpdate = (w3, e) → Acts a w3 :=
    fun ha h3 => by simpa [h3] using ha.temp.update
  fun_induction W.applyLoop fuel att rerr w with
  | case1 att rerr w => exact fun a ha => ⟨w, ha, Or.inl rfl⟩
  | case2 fuel att rerr w _ _ w1 e he _ ih => exact fun a ha => ih a ((res ha he).sleep _)
  | case3 fuel att rerr w _ _ w1 e he _ _ _ w3 ue h3 hdead => exact fun a ha => ⟨w3, upd (res ha he) h3, Or.inl rfl⟩
  | case4 fuel att rerr w _ _ w1 e he _ _ _ w3 ue h3 _ w4 _ ih =>
    refine fun a ha => ih a (Acts.sleep _ ?_)
    show Acts a (if _ then _ else _)
    split
    · exact (upd (res ha he) h3).full
    · exact upd (res ha he) h3
  | case5 fuel att rerr w _ doResync w1 e he _ _ _ w3 ue h3 _ _ hre =>
    intro a ha
    simp only [Bool.or_eq_true, not_or, Bool.not_eq_true] at hre
    obtain ⟨rfl, rfl⟩ := hre
    refine ⟨w, ha, Or.inr ⟨_, ⟨w1, w3, ?_, h3, rfl⟩, rfl⟩⟩
    split at he
    · exact Or.inr he
    · rename_i hd
      cases he
      exact Or.inl ⟨by cases hf : w.F.fullReq <;> simp [hf, doResync] at hd ⊢, rfl⟩

theorem applyUpdates_acts (w : W) : ∃ w0, Acts w w0 ∧
    (w.applyUpdates = ({ w0 with dead := true }, false) ∨ ∃ w', Clean w0 w' ∧ w.applyUpdates = (w', true)) := by
  unfold W.applyUpdates
  obtain ⟨w0, ha, h | ⟨w', hcl, h⟩⟩ := applyLoop_acts 10 0 false w w (.nil w) <;> rw [h]
  · exact ⟨w0, ha, Or.inl rfl⟩
  · exact ⟨w0, ha, Or.inr ⟨w', hcl, rfl⟩⟩

theorem Acts.safe {w w' : W} (h : Acts w w') : Safe w w' := by
  induction h with
  | nil => exact Safe.refl _
  | resync _ ih => exact ih.trans (tryResync_res _).safe
  | temp _ ih => exact ih.trans (tryTempDeletions_safe _)
  | update _ ih => exact ih.trans (tryUpdates_safe _)
  | sleep n _ ih => exact ih.trans (Safe.of_flags rfl rfl ⟨_, rfl⟩)
  | full _ ih => exact ih.trans (Safe.of_flags rfl rfl ⟨_, rfl⟩)

theorem applyUpdates_safe (w : W) : Safe w w.applyUpdates.1 := by
  obtain ⟨w0, ha, h | ⟨_, ⟨w1, w3, h1, h3, rfl⟩, h⟩⟩ := applyUpdates_acts w <;> rw [h]
  · exact ha.safe.trans (Safe.of_flags rfl rfl ⟨_, rfl⟩)
  · have ha1 : Acts w w1 := h1.elim (fun e => e.2 ▸ ha) fun e => by simpa [e] using ha.resync
    have ha3 : Acts w w3 := by simpa [h3] using ha1.temp.update
    exact ha3.safe.trans (Safe.of_flags rfl rfl ⟨_, rfl⟩)

/-- So a failed attempt leaves the next one the same hypotheses. -/
theorem Acts.wpres {w w' : W} (h : Acts w w') (hf : w.F.fullReq = true) : WPres w w' := by
  induction h with
  | nil => exact .refl _
  | resync _ ih => exact ih.trans (tryResync_res _).wpres
  | temp _ ih => exact ih.trans (tryTempDeletions_TD _).wpres
  | update _ ih => exact ih.trans (tryUpdates_pres _ _)
  | sleep n _ ih => exact ⟨ih.cfg, ih.pres⟩
  | full _ ih => exact ih.trans ⟨rfl, Pres.of_members ⟨rfl, rfl, rfl, (ih.pres.fullReq.trans hf).symm⟩ rfl⟩

/-- What a successful `ApplyUpdates` that began with a full resync establishes. -/
structure ConvPost (w w' : W) : Prop where
  cfg : w'.cfg = w.cfg
  allMeta : w'.F.allMeta = w.F.allMeta
  desired : w'.F.desired = w.F.desired
  filter : w'.F.filter = w.F.filter
  fullReq : w'.F.fullReq = false
  desKeep : ∀ n des, w.F.allMeta.has n = true → Tracked w.F n des → Tracked w'.F n des
  exact : ∀ n, w.F.desired.has n = true → Exact w'.F w'.K n
  cov : Cov w.cfg w'.F w'.K
  dpOwned : ∀ b, w'.F.dp.has b = true → w.cfg.owns b = true
  qOwned : (∀ x ∈ w'.F.qMust, w.cfg.owns x = true) ∧ (∀ x ∈ w'.F.qBg, w.cfg.owns x = true)

/-- The resync was accurate, the clean-up kept it so, the restore made the sets exact.  `w` is where `ApplyUpdates`
began, `w0` where the attempt did. -/
theorem Clean.converges {w w0 w' : W} (hb : WPres w w0) (hc : CfgOK w.cfg) (hok : DesOK w.cfg w.F)
    (hfull : w0.F.fullReq = true) (h : Clean w0 w') : ConvPost w w' := by
  obtain ⟨w1, w3, h1, h3, rfl⟩ := h
  have h1 := h1.resolve_left fun e => by simp [hfull] at e
  have hres := tryResync_res w0
  have rp := fullResync_post w0 (hb.cfg ▸ hok.pres hb.pres) hfull
  rw [h1] at hres rp
  obtain ⟨rwinv, rdirty, rcov, rqd⟩ := rp rfl
  have htd := tryTempDeletions_TD w1
  generalize w1.tryTempDeletions = w2 at h3 htd
  have hwp2 : WPres w w2 := (hb.trans hres.wpres).trans htd.wpres
  have hp3 := tryUpdates_pres w2 w2.F.dirtyForUpdate
  have up := tryUpdates_post w2 (hwp2.cfg ▸ hc) (htd.cfg ▸ hres.cfg ▸ htd.winv (hres.cfg ▸ rwinv)) (htd.dirtyOK rdirty)
  rw [h3] at hp3 up
  have up := up rfl
  have hp13 : WPres w w3 := hwp2.trans hp3
  rw [hb.cfg] at rcov rqd
  have hc1 : w1.cfg = w.cfg := hres.cfg.trans hb.cfg
  have hcov2 : Cov w.cfg w2.F w2.K := hc1 ▸ htd.cov (hc1 ▸ rcov)
  refine ⟨hp13.cfg, hp13.pres.allMeta, hp13.pres.desired, hp13.pres.filter, rfl, hp13.pres.tracked,
    fun n hn => up.exact n (hwp2.pres.desired ▸ hn), fun b hown hb => ?_, fun b hb => ?_, ?_, ?_⟩
  · exact (up.covK b hb).elim (fun h' => up.covDp b (hcov2 b hown h')) id
  · rcases up.dpNew b hb with h' | h' | h'
    · exact rqd.dp b (htd.dpSub b h')
    · exact hok.owned b (hwp2.pres.desired ▸ h')
    · exact hc.tempOwned b (hwp2.cfg ▸ h')
  · intro x hx
    exact rqd.qMust x (htd.qSub.1 x (up.queues.1 ▸ hx))
  · intro x hx
    exact rqd.qBg x (htd.qSub.2 x (up.queues.2.1 ▸ hx))

theorem applyUpdates_converges (w : W) (hc : CfgOK w.cfg) (hok : DesOK w.cfg w.F) (hfull : w.F.fullReq = true)
    (hs : w.applyUpdates.2 = true) : ConvPost w w.applyUpdates.1 := by
  obtain ⟨w0, ha, h | ⟨w', hcl, h⟩⟩ := applyUpdates_acts w <;> rw [h] at hs ⊢
  · cases hs
  · exact hcl.converges (ha.wpres hfull) hc hok ((ha.wpres hfull).pres.fullReq.trans hfull)

theorem addOrReplace_eq (c : Cfg) (F : Felix) (id : String) (m : Meta) (ms : List String) :
    ∃ d, F.addOrReplace c id m ms =
      { F with allMeta := F.allMeta.set (c.mainName id) m,
               desired := if F.needed (c.mainName id) then F.desired.set (c.mainName id) m else F.desired,
               members := F.members.set (c.mainName id) { F.tracker (c.mainName id) with des := ms.eraseDups },
               dirty := d } := by
  unfold Felix.addOrReplace
  dsimp only
  by_cases hn : F.needed (c.mainName id) = true
  · have hn' : ({ F with allMeta := F.allMeta.set (c.mainName id) m } : Felix).needed (c.mainName id) = true := hn
    simp only [hn', hn, if_true]
    obtain ⟨d, hd, _, _⟩ := updateDirtiness_eq _ (c.mainName id)
    exact ⟨d, by rw [hd]; rfl⟩
  · have hn' : ¬({ F with allMeta := F.allMeta.set (c.mainName id) m } : Felix).needed (c.mainName id) = true := hn
    simp only [hn', hn]
    obtain ⟨d, hd, _, _⟩ := updateDirtiness_eq _ (c.mainName id)
    exact ⟨d, by rw [hd]; rfl⟩

theorem addOrReplace_inv {c : Cfg} (hm : CfgMain c) {F : Felix} (h : Inv c F) (id : String) (m : Meta) (ms : List String) :
    Inv c (F.addOrReplace c id m ms) := by
  obtain ⟨d, hd⟩ := addOrReplace_eq c F id m ms
  rw [hd]
  obtain ⟨hok, hq⟩ := h
  refine ⟨DesOK.of_names (fun n hn => ?_) (fun n hn => ?_) (fun n hn => ?_) (fun n hn => ?_), hq.of_eq rfl rfl rfl⟩
  · dsimp only at hn
    rw [Map.has_set, Bool.or_eq_true, beq_iff_eq] at hn
    rcases hn with rfl | hn
    · exact ⟨hm.notTemp id, hm.owned id⟩
    · exact ⟨hok.allNotTemp n hn, hok.allOwned n hn⟩
  · dsimp only at hn ⊢
    rw [Map.has_set, Bool.or_eq_true, beq_iff_eq]
    split at hn
    · rw [Map.has_set, Bool.or_eq_true, beq_iff_eq] at hn
      exact hn.imp_right (hok.inAll n)
    · exact Or.inr (hok.inAll n hn)
  · dsimp only at hn ⊢
    rw [Map.has_set, Bool.or_eq_true, beq_iff_eq] at hn ⊢
    exact hn.imp_right (hok.tracked n)
  · dsimp only at hn
    show F.needed n = true
    split at hn
    · rename_i hneed
      rw [Map.has_set, Bool.or_eq_true, beq_iff_eq] at hn
      rcases hn with rfl | hn
      · exact hneed
      · exact hok.needed n hn
    · exact hok.needed n hn

theorem inv_members_dirty {c : Cfg} {F : Felix} (h : Inv c F) (n : String) (t : MT) (d : List String) :
    Inv c { F with members := F.members.set n t, dirty := d } :=
  ⟨⟨h.desOK.notTemp, h.desOK.owned, h.desOK.inAll, fun x hx => by
      rw [Map.has_set, Bool.or_eq_true]; exact Or.inr (h.desOK.tracked x hx), h.desOK.needed, h.desOK.allOwned,
      h.desOK.allNotTemp⟩,
    h.qd.of_eq rfl rfl rfl⟩

/-- `AddMembers` and `RemoveMembers` differ only in how the desired members of the tracker change (`g`). -/
theorem membersOp_inv {c : Cfg} {F F' : Felix} (h : Inv c F) (name : String) (ms : List String) (g : MT → List String)
    (he : (if !F.allMeta.has name then none
      else if ms.isEmpty then some F
      else match F.members.get name with
        | none => none
        | some t => some ({ F with members := F.members.set name { t with des := g t } }.updateDirtiness name)) =
      some F') : Inv c F' := by
  by_cases h1 : (!F.allMeta.has name) = true
  · rw [if_pos h1] at he; cases he
  · rw [if_neg h1] at he
    by_cases h2 : ms.isEmpty = true
    · rw [if_pos h2] at he; cases he; exact h
    · rw [if_neg h2] at he
      cases hg : F.members.get name with
      | none => rw [hg] at he; cases he
      | some t =>
        rw [hg] at he
        cases he
        obtain ⟨d, hd, _, _⟩ := updateDirtiness_eq
          ({ F with members := F.members.set name { t with des := g t } } : Felix) name
        rw [hd]
        exact inv_members_dirty h _ _ d

theorem addMembers_inv {c : Cfg} {F F' : Felix} (h : Inv c F) {id : String} {ms : List String}
    (he : F.addMembers c id ms = some F') : Inv c F' :=
  membersOp_inv h (c.mainName id) ms (fun t => ms.foldl sAdd t.des) he

theorem removeMembers_inv {c : Cfg} {F F' : Felix} (h : Inv c F) {id : String} {ms : List String}
    (he : F.removeMembers c id ms = some F') : Inv c F' :=
  membersOp_inv h (c.mainName id) ms (fun t => ms.foldl sErase t.des) he

theorem remove_inv {c : Cfg} {F F' : Felix} (h : Inv c F) {id : String} (he : F.remove c id = some F') : Inv c F' := by
  obtain ⟨hok, hq⟩ := h
  unfold Felix.remove at he
  dsimp only at he
  have base : ∀ (mem : Map MT) (d : List String), (∀ x, x ≠ c.mainName id → F.members.has x = true → mem.has x = true) →
      Inv c { F with allMeta := F.allMeta.erase (c.mainName id), desired := F.desired.erase (c.mainName id),
                     members := mem, dirty := d } := by
    intro mem d hmem
    refine ⟨DesOK.of_names (fun n hn => ?_) (fun n hn => ?_) (fun n hn => ?_) (fun n hn => ?_), hq.of_eq rfl rfl rfl⟩ <;>
      simp only [Map.has_erase, Bool.and_eq_true, bne_iff_ne] at hn ⊢
    · exact ⟨hok.allNotTemp n hn.2, hok.allOwned n hn.2⟩
    · exact ⟨hn.1, hok.inAll n hn.2⟩
    · exact hmem n hn.1 (hok.tracked n hn.2)
    · exact hok.needed n hn.2
  split at he
  · split at he
    · simp at he
    · rename_i t ht
      simp only [Option.some.injEq] at he
      rw [← he]
      obtain ⟨d, hd, _, _⟩ := updateDirtiness_eq
        ({ F with allMeta := F.allMeta.erase (c.mainName id), desired := F.desired.erase (c.mainName id),
                  members := F.members.set (c.mainName id) { t with des := [] } } : Felix) (c.mainName id)
      rw [hd]
      apply base
      intro x _ hx
      rw [Map.has_set, Bool.or_eq_true]; exact Or.inr hx
  · simp only [Option.some.injEq] at he
    rw [← he]
    obtain ⟨d, hd, _, _⟩ := updateDirtiness_eq
      ({ F with allMeta := F.allMeta.erase (c.mainName id), desired := F.desired.erase (c.mainName id),
                members := F.members.erase (c.mainName id) } : Felix) (c.mainName id)
    rw [hd]
    apply base
    intro x hx hh
    rw [Map.has_erase, Bool.and_eq_true, bne_iff_ne]; exact ⟨hx, hh⟩

/-- The body of `SetFilter`'s loop over `allMeta`. -/
def sfStep (G : Felix) (p : String × Meta) : Felix :=
  (if G.needed p.1 then { G with desired := G.desired.set p.1 p.2 }
   else { G with desired := G.desired.erase p.1 }).updateDirtiness p.1

theorem sfStep_eq (G : Felix) (p : String × Meta) : ∃ des d, sfStep G p = { G with desired := des, dirty := d } ∧
    ∀ n, des.has n = (if n = p.1 then G.needed p.1 else G.desired.has n) := by
  unfold sfStep
  cases hn : G.needed p.1 <;> simp only [if_true, Bool.false_eq_true, if_false]
  · obtain ⟨d, hd, _, _⟩ := updateDirtiness_eq { G with desired := G.desired.erase p.1 } p.1
    exact ⟨_, d, hd, fun n => by rw [Map.has_erase]; by_cases h : n = p.1 <;> simp [h]⟩
  · obtain ⟨d, hd, _, _⟩ := updateDirtiness_eq { G with desired := G.desired.set p.1 p.2 } p.1
    exact ⟨_, d, hd, fun n => by rw [Map.has_set]; by_cases h : n = p.1 <;> simp [h]⟩

theorem sf_fold : ∀ (L : List (String × Meta)) (G : Felix),
    ∃ des d, L.foldl sfStep G = { G with desired := des, dirty := d } ∧
    ∀ n, des.has n = (if n ∈ L.map (·.1) then G.needed n else G.desired.has n) := by
  intro L
  induction L with
  | nil => intro G; exact ⟨_, _, rfl, fun n => by simp⟩
  | cons p L ih =>
    intro G
    obtain ⟨des1, d1, h1, hd1⟩ := sfStep_eq G p
    obtain ⟨des2, d2, h2, hd2⟩ := ih (sfStep G p)
    rw [List.foldl_cons, h2, h1]
    rw [h1] at hd2
    refine ⟨des2, d2, rfl, fun n => ?_⟩
    rw [hd2 n, hd1 n]
    show _ = if n ∈ (p :: L).map (·.1) then G.needed n else _
    simp only [List.map_cons, List.mem_cons]
    by_cases h1 : n ∈ L.map (·.1)
    · -- the filter is a field the step leaves alone
      simp only [h1, or_true, if_true]; rfl
    · by_cases h2 : n = p.1
      · subst h2; simp [h1]
      · simp [h1, h2]

theorem setFilter_inv {c : Cfg} {F : Felix} (h : Inv c F) (f : Option (List String)) : Inv c (F.setFilter f) := by
  unfold Felix.setFilter
  split
  · exact h
  · obtain ⟨hok, hq⟩ := h
    obtain ⟨des, d, he, hDes⟩ := sf_fold F.allMeta { F with filter := f }
    have hkeys : ∀ n, n ∈ F.allMeta.map (·.1) ↔ F.allMeta.has n = true := fun n => (Map.has_iff_mem_keys F.allMeta n).symm
    show Inv c (F.allMeta.foldl sfStep { F with filter := f })
    rw [he]
    refine ⟨DesOK.of_names (fun n hn => ⟨hok.allNotTemp n hn, hok.allOwned n hn⟩) (fun n hn => ?_)
      (fun n hn => hok.tracked n hn) (fun n hn => ?_), hq.of_eq rfl rfl rfl⟩ <;>
      (dsimp only at hn ⊢; rw [hDes n] at hn; split at hn)
    · rename_i hk; exact (hkeys n).1 hk
    · exact hok.inAll n hn
    · exact hn
    · rename_i hk; exact absurd ((hkeys n).2 (hok.inAll n hn)) hk

theorem inv_init (c : Cfg) : Inv c ({} : Felix) := by
  refine ⟨⟨?_, ?_, ?_, ?_, ?_, ?_, ?_⟩, ⟨?_, ?_, ?_⟩⟩ <;> intro n hn <;> simp [Map.has, Map.get, List.lookup] at hn

/-- The histories the theorems of `Props/C16` quantify over.  A run goes on after a Panic (`dead`): the theorems cover
more histories than the code can produce. -/
def W.run (w : W) : List Op → W
  | [] => w
  | op :: ops => ((w.stepOp op).1).run ops

/-- Operations that edit the kernel set `x` out of band. -/
def Op.edits (x : String) : Op → Bool
  | .kset n _ => n == x
  | .kdel n => n == x
  | .kdrop n _ => n == x
  | _ => false

theorem stepOp_inv (w : W) (op : Op) (hc : CfgOK w.cfg) (hm : CfgMain w.cfg) (h : Inv w.cfg w.F) :
    (w.stepOp op).1.cfg = w.cfg ∧ Inv w.cfg (w.stepOp op).1.F ∧
    ∀ x, w.cfg.owns x = false → op.edits x = false → (w.stepOp op).1.K.get x = w.K.get x := by
  have ofSafe : ∀ {w0 w' : W}, w0.cfg = w.cfg → w0.F = w.F → w0.K = w.K → Safe w0 w' →
      w'.cfg = w.cfg ∧ Inv w.cfg w'.F ∧ ∀ x, w.cfg.owns x = false → w'.K.get x = w.K.get x := by
    intro w0 w' e1 e2 e3 hs
    have hi0 : Inv w0.cfg w0.F := by rw [e1, e2]; exact h
    obtain ⟨q, f⟩ := hs.own (e1.symm ▸ hc) hi0
    have hd := hi0.desOK.keep hs.keep
    rw [e1] at q hd
    exact ⟨hs.keep.cfg.trans e1, ⟨hd, q⟩, fun x hx => by rw [f x (by rw [e1]; exact hx), e3]⟩
  have orDead_case : ∀ (o : Option Felix) (P : String → Prop), (∀ F', o = some F' → Inv w.cfg F') →
      (orDead w o).cfg = w.cfg ∧ Inv w.cfg (orDead w o).F ∧
      ∀ x, w.cfg.owns x = false → P x → (orDead w o).K.get x = w.K.get x := by
    intro o P ho
    cases o with
    | none => exact ⟨rfl, h, fun _ _ _ => rfl⟩
    | some F' => exact ⟨rfl, ho F' rfl, fun _ _ _ => rfl⟩
  have ne : ∀ {n x : String}, (n == x) = false → x ≠ n := fun hb e => by simp [e] at hb
  unfold W.stepOp
  cases op with
  | add id t ms a b mem =>
    dsimp only
    exact ⟨rfl, addOrReplace_inv hm h id _ mem, fun _ _ _ => rfl⟩
  | rm id =>
    dsimp only
    exact orDead_case _ _ fun _ he => remove_inv h he
  | addm id mem =>
    dsimp only
    exact orDead_case _ _ fun _ he => addMembers_inv h he
  | delm id mem =>
    dsimp only
    exact orDead_case _ _ fun _ he => removeMembers_inv h he
  | filter f =>
    dsimp only
    exact ⟨rfl, setFilter_inv h f, fun _ _ _ => rfl⟩
  | qresync =>
    dsimp only
    exact ⟨rfl, ⟨h.desOK.of_eq rfl rfl rfl fun _ _ _ ht => ht, h.qd.of_eq rfl rfl rfl⟩, fun _ _ _ => rfl⟩
  | restart =>
    dsimp only
    exact ⟨rfl, inv_init w.cfg, fun _ _ _ => rfl⟩
  | apply plan hr hd =>
    dsimp only
    obtain ⟨h1, h2, h3⟩ := ofSafe (w0 := { w with plan := plan, hintR := hr, hintD := hd, trace := [] }) rfl rfl rfl
      (applyUpdates_safe _)
    exact ⟨h1, h2, fun x hx _ => h3 x hx⟩
  | applydel plan hd =>
    dsimp only
    obtain ⟨h1, h2, h3⟩ := ofSafe (w0 := { w with plan := plan, hintR := [], hintD := hd, trace := [] }) rfl rfl rfl
      (applyDeletions_AD _).safe
    exact ⟨h1, h2, fun x hx _ => h3 x hx⟩
  | kset n k =>
    dsimp only
    exact ⟨rfl, h, fun x _ he => by simp [Map.get_set, ne he]⟩
  | kdel n =>
    dsimp only
    exact ⟨rfl, h, fun x _ he => by simp [Map.get_erase, ne he]⟩
  | kdrop n k =>
    dsimp only
    split
    · split
      · exact ⟨rfl, h, fun _ _ _ => rfl⟩
      · exact ⟨rfl, h, fun x _ he => by simp [Map.get_set, ne he]⟩
    · exact ⟨rfl, h, fun _ _ _ => rfl⟩

theorem run_inv : ∀ (ops : List Op) (w : W), CfgOK w.cfg → CfgMain w.cfg → Inv w.cfg w.F →
    (w.run ops).cfg = w.cfg ∧ Inv w.cfg (w.run ops).F ∧
    ∀ x, w.cfg.owns x = false → (∀ op ∈ ops, op.edits x = false) → (w.run ops).K.get x = w.K.get x := by
  intro ops
  induction ops with
  | nil => intro w _ _ h; exact ⟨rfl, h, fun _ _ _ => rfl⟩
  | cons op ops ih =>
    intro w hc hm h
    obtain ⟨h1, h2, h3⟩ := stepOp_inv w op hc hm h
    obtain ⟨i1, i2, i3⟩ := ih (w.stepOp op).1 (h1 ▸ hc) (h1 ▸ hm) (h1 ▸ h2)
    rw [W.run]
    refine ⟨i1.trans h1, h1 ▸ i2, fun x hx he => ?_⟩
    rw [i3 x (h1 ▸ hx) fun o ho => he o (List.mem_cons_of_mem _ ho)]
    exact h3 x hx (he op List.mem_cons_self)

def W.delRounds (w : W) : List (Plan × List String) → W
  | [] => w
  | (plan, hd) :: rest => (({ w with plan := plan, hintR := [], hintD := hd, trace := [] } : W).applyDeletions.1).delRounds rest

theorem delRounds_AD : ∀ (rs : List (Plan × List String)) (w : W), AD w (w.delRounds rs) := by
  intro rs
  induction rs with
  | nil => intro w; exact AD.of_eq rfl rfl rfl
  | cons r rs ih =>
    intro w
    obtain ⟨plan, hd⟩ := r
    rw [W.delRounds]
    exact (AD.of_eq (w := w) (w' := { w with plan := plan, hintR := [], hintD := hd, trace := [] }) rfl rfl rfl).trans
      ((applyDeletions_AD _).trans (ih _))

end CalicoVerif.C16
