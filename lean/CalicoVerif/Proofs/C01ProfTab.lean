import CalicoVerif.Proofs.C01Arc
import CalicoVerif.Proofs.C01Mirror
import CalicoVerif.Proofs.C05
/-! C01 helper: the ARC profile path's tables (C05 model) are the datastore's, hence the RuleScanner's
`active` table for PROFILES is the specification's `DS.activeProfs`. -/
namespace CalicoVerif.C01
open CalicoVerif C02

def profsOf (v : EpVal) : Option (List String) := if v.profiles.isEmpty then none else some v.profiles

structure PInv (N : Numbering) (g : Graph) (ds : DS) : Prop where
  profs : Mirror id (fun _ (x : RulesIn) => some x) (fun p => C05.alGet p g.arcProf.profiles) ds.profRules
  eps : Mirror (fun i => epKeyStr (N.ek i)) (fun i (x : EpKey × Bool × EpVal) => if N.lc i then profsOf x.2.2 else none)
    (fun k => C05.alGet k g.arcProf.epProfiles) ds.eps

theorem pInv_frame {N : Numbering} {g g' : Graph} {ds : DS} (hi : PInv N g ds) (h : g'.arcProf = g.arcProf) :
    PInv N g' ds := ⟨hi.profs.same (fun _ => by rw [h]), hi.eps.same (fun _ => by rw [h])⟩

theorem pInv_step (H : IdFn) {N : Numbering} {g : Graph} {ds : DS} (hi : PInv N g ds) (u : Upd) (hu : N.updOk u) :
    PInv N (g.step H u) (ds.apply u) := by
  have hstep := arcProf_step H g u
  cases u with
  | endpoint nid key isLocal v =>
    obtain ⟨rfl, rfl⟩ := hu
    cases hl : N.lc nid with
    | false =>
      rw [hl] at hstep
      exact ⟨hi.profs.same (fun _ => by rw [hstep]; rfl),
        (hi.eps.skip nid _ (fun _ => by simp [hl])).same (fun _ => by rw [hstep]; rfl)⟩
    | true =>
      rw [hl] at hstep
      -- both `some ids` and `none` are `updateEndpointProfileIDs` with a (possibly empty) list
      have htab : (g.step H (.endpoint nid (N.ek nid) true v)).arcProf.profiles = g.arcProf.profiles ∧
          ∀ k, C05.alGet k (g.step H (.endpoint nid (N.ek nid) true v)).arcProf.epProfiles =
            if k = epKeyStr (N.ek nid) then v.bind profsOf else C05.alGet k g.arcProf.epProfiles := by
        rw [hstep]
        cases v with
        | none =>
          have k0 := C05.updateEndpointProfileIDs_kept (epKeyStr (N.ek nid)) [] g.arcProf
          refine ⟨k0.profiles, fun k => ?_⟩
          show C05.alGet k (C05.updateEndpointProfileIDs (epKeyStr (N.ek nid)) [] g.arcProf).epProfiles = _
          rw [k0.epProfiles]
          exact C05.alGet_alErase ..
        | some e =>
          have k0 := C05.updateEndpointProfileIDs_kept (epKeyStr (N.ek nid)) e.profiles g.arcProf
          refine ⟨k0.profiles, fun k => ?_⟩
          show C05.alGet k (C05.updateEndpointProfileIDs (epKeyStr (N.ek nid)) e.profiles g.arcProf).epProfiles = _
          rw [k0.epProfiles]
          simp only [Option.bind_some, profsOf]
          cases e.profiles.isEmpty
          · exact C05.alGet_alSet ..
          · exact C05.alGet_alErase ..
      refine ⟨hi.profs.same (fun _ => by rw [htab.1]),
        hi.eps.write (fun a b e => N.ekInj _ _ (epKeyStr_inj e)) nid _ (fun k => ?_)⟩
      rw [htab.2]
      cases v <;> simp [hl]
  | profRules pid v =>
    have hw := C05.updateProfileRules_set pid v g.arcProf
    refine ⟨hi.profs.write (fun _ _ e => e) pid v (fun p => ?_),
      hi.eps.same (fun _ => by rw [hstep]; exact congrArg _ hw.epProfiles)⟩
    rw [hstep]
    exact (hw.profiles p).trans (by cases v <;> rfl)
  | _ => exact ⟨hi.profs.same (fun _ => by rw [hstep]; rfl), hi.eps.same (fun _ => by rw [hstep]; rfl)⟩

theorem pInv_run (H : IdFn) {N : Numbering} (h : List HStep) {g : Graph} {ds : DS}
    (hi : PInv N g ds) (hN : ∀ st ∈ h, N.stepOk st) : PInv N (run H g h).1 (dsRun ds h) :=
  run_induction (P := fun ds g => PInv N g ds) (fun u hu hi => pInv_step H hi u hu) (fun hi => pInv_frame hi rfl)
    (fun hi => pInv_frame hi (arcProf_flush _)) h hN hi

theorem pInv_new (N : Numbering) (s : Bool) : PInv N (Graph.new s) {} :=
  ⟨⟨fun _ => rfl, fun _ h => nomatch h⟩, ⟨fun _ => rfl, fun _ h => nomatch h⟩⟩

theorem referenced_iff {N : Numbering} {g : Graph} {ds : DS} (hi : PInv N g ds) (hd : DSOk N ds) (p : String) :
    C05.referenced g.arcProf p ↔ p ∈ ds.localEps.flatMap (fun e => e.2.profiles) := by
  unfold C05.referenced DS.localEps
  simp only [List.mem_flatMap, List.mem_filterMap]
  constructor
  · rintro ⟨ep, ids, h1, h2⟩
    obtain ⟨nid, rfl⟩ := hi.eps.range ep (by rw [h1]; rfl)
    rw [hi.eps.at_ nid] at h1
    cases hx : mget ds.eps nid with
    | none => rw [hx] at h1; cases h1
    | some x =>
      rw [hx] at h1
      simp only [Option.bind_some, profsOf] at h1
      split at h1
      · rename_i hl
        split at h1
        · cases h1
        · simp only [Option.some.injEq] at h1
          have hm := mem_of_mget hx
          have c := hd.epsConf _ hm
          simp only [] at c
          refine ⟨(x.1, x.2.2), ⟨(nid, x), hm, by simp [c.2, hl]⟩, ?_⟩
          simp only []
          rw [h1]; exact h2
      · cases h1
  · rintro ⟨⟨k, v⟩, ⟨⟨nid, x⟩, hm, hloc⟩, hp⟩
    have c := hd.epsConf _ hm
    simp only [] at c hloc hp
    by_cases hl : x.2.1 = true
    · simp only [hl, if_true, Option.some.injEq, Prod.mk.injEq] at hloc
      obtain ⟨rfl, rfl⟩ := hloc
      have hx := mget_of_mem hd.eps hm
      refine ⟨epKeyStr (N.ek nid), x.2.2.profiles, ?_, hp⟩
      show C05.alGet (epKeyStr (N.ek nid)) g.arcProf.epProfiles = _
      rw [hi.eps.at_ nid, hx]
      have : N.lc nid = true := by rw [← c.2]; exact hl
      simp only [this, if_true, Option.bind_some, profsOf]
      have hne : x.2.2.profiles.isEmpty = false := by
        cases hq : x.2.2.profiles with
        | nil => rw [hq] at hp; cases hp
        | cons a t => rfl
      simp [hne]
    · simp only [hl] at hloc
      cases hloc

theorem outRules_outOf {N : Numbering} {g : Graph} {ds : DS} (hi : PInv N g ds) (p : String) :
    outRules (C05.outOf g.arcProf p) = (mget ds.profRules p).getD dummyDropRules := by
  unfold C05.outOf
  rw [show C05.alGet p g.arcProf.profiles = _ from hi.profs.at_ p]
  cases mget ds.profRules p <;> rfl

theorem activeProfs_eq_ds {N : Numbering} {g : Graph} {ds : DS} {p : String} (hi : PInv N g ds) (hd : DSOk N ds)
    (hr : C05.RefInv g.arcProf)
    (hact : mget g.active (.prof p) =
      if C05.isActive g.arcProf p then some (outRules (C05.outOf g.arcProf p)) else none) :
    mget g.active (.prof p) = mget ds.activeProfs p := by
  unfold DS.activeProfs
  rw [mget_map_self (fun p => (mget ds.profRules p).getD dummyDropRules), hact, outRules_outOf hi p]
  exact ite_congr (propext ((C05.isActive_iff_referenced hr p).trans
    ((referenced_iff hi hd p).trans List.mem_eraseDups.symm))) (fun _ => rfl) (fun _ => rfl)

/-- The graph's profile path after a history is a run of a fresh C05 calculator (`arcProf_run`), so C05's two
invariants hold of it. -/
theorem arcProf_inv (H : IdFn) (s : Bool) (h : List HStep) :
    C05.ViewInv (run H (Graph.new s) h).1.arcProf ∧ C05.RefInv (run H (Graph.new s) h).1.arcProf := by
  rw [arcProf_run]; exact C05.run_new_inv _

theorem profActive_run (H : IdFn) (s : Bool) (h : List HStep) (p : String) :
    mget (run H (Graph.new s) h).1.active (.prof p) =
      if C05.isActive (run H (Graph.new s) h).1.arcProf p
      then some (outRules (C05.outOf (run H (Graph.new s) h).1.arcProf p)) else none := by
  refine (congrFun (profActInv_run H h (profActInv_new s)) p).trans ?_
  unfold viewFn
  rw [(arcProf_inv H s h).1 p]
  split <;> rfl

theorem active_profiles_eq_datastore (H : IdFn) (s : Bool) (h : List HStep) (N : Numbering)
    (hN : ∀ st ∈ h, N.stepOk st) (p : String) :
    mget (run H (Graph.new s) (h ++ [.flush])).1.active (.prof p) = mget (lastState h).activeProfs p := by
  have hi := pInv_frame (pInv_run H h (pInv_new N s) hN) (arcProf_flush (run H (Graph.new s) h).1)
  rw [← run_snoc_flush_fst] at hi
  exact activeProfs_eq_ds hi (dsOk_lastState N h hN) (arcProf_inv H s _).2 (profActive_run H s _ p)

end CalicoVerif.C01
