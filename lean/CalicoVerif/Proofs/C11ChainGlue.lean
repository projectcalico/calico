import CalicoVerif.Proofs.C11Chain
import CalicoVerif.Proofs.C11Ends
/-!
C11 — machine-level lemmas for the glue of a split build (the header of a continuation program, the
copy of the footer, landing pads, the `next-program` block, the dispatch at the start of the next
program), put together in `cross` (control that enters the glue at an entry point is at that entry point again
in the next program), and with it the simulation step at a `maybeSplitProgram` call site (`GA.marker`).

In `GA.marker`, `R` is the call site's reload list: the instructions the builder repeats at the start of the next
program when it splits here (none, or the port load inside the port loop); `hR` says that from any machine with `Inv`
they establish the carry `c'` that the code behind the call site relies on. `hc`: if no split happens the carry `c` in
front of the call site must already be `c'` — unless `c'` is `.none`. `hEx`, `hEe`, `hEn` are the three fields of `EOK`
(`C11ChainB`).
-/
namespace CalicoVerif.C11

theorem StSim.trans {st st1 st2 : List Byte} (h1 : StSim st st1) (h2 : StSim st1 st2) : StSim st st2 :=
  ⟨h2.len, fun j hj => (h2.same j hj).trans (h1.same j hj), h2.flags.trans h1.flags⟩

theorem footer_out_append (env : Env) (st : List Byte) (xdp : Bool) (l : Label) (V : Verdict) (hV : vOf l = some V)
    (hx : l = .xdpPass → xdp = true) (tl : List Ev) (m : Mach) (hI : Inv st m) :
    (goto env l (footerEvs env.c xdp ++ tl) m).final env ∧ agreesV env xdp V (goto env l (footerEvs env.c xdp ++ tl) m) := by
  have h := footer_out env st xdp l V hV hx m hI
  rwa [goto_append_nofault env l _ tl m (final_nofault h.1)]

theorem idxOf_cons_ne {t l : Label} (ts : List Label) (h : ¬ t = l) : (t :: ts).idxOf l = ts.idxOf l + 1 := by
  have hb : (t == l) = false := by simpa using h
  simp [List.idxOf_cons, hb]

theorem goto_pad (env : Env) (rest : List Ev) :
    ∀ (T : List Label) (j : Nat) (l : Label) (m : Mach), l ∈ T → Label.nextProgram ∉ T → m.regs.length = 11 →
      goto env l (landingPads T j ++ (Ev.label .nextProgram :: rest)) m =
        lrun env rest (m.setReg 0 (sext32 (((j + T.idxOf l + 1 : Nat) : Int)))) := by
  intro T
  induction T with
  | nil => intro j l m h; cases h
  | cons t ts ih =>
    intro j l m hl hnp hlen
    have hnpt : t ≠ .nextProgram := fun e => hnp (by rw [e]; exact List.mem_cons_self)
    have hnps : Label.nextProgram ∉ ts := fun h => hnp (List.mem_cons_of_mem _ h)
    by_cases hlt : t = l
    · subst hlt
      rw [List.idxOf_cons_self]
      cases ts with
      | nil =>
        simp only [landingPads, List.cons_append, List.nil_append]
        rw [goto_label_self]
        unfold movImm64 mk R0
        refine (lrun_ins_next (step_movImm64 env m 0 0 _ _ (by omega))).trans ?_
        rw [lrun_label]
        congr 2
      | cons t2 ts2 =>
        simp only [landingPads, List.cons_append, List.nil_append]
        rw [goto_label_self]
        unfold movImm64 mk R0
        refine (lrun_ins_next (step_movImm64 env m 0 0 _ _ (by omega))).trans ?_
        rw [lrun_jump, goto_append _ _ (by rw [labelsOf_landingPads]; exact hnps), goto_label_self]
        congr 2
    · have hl' : l ∈ ts := (List.mem_cons.1 hl).resolve_left fun e => hlt e.symm
      have hidx : (t :: ts).idxOf l = ts.idxOf l + 1 := idxOf_cons_ne ts hlt
      cases ts with
      | nil => cases hl'
      | cons t2 ts2 =>
        simp only [landingPads, List.cons_append, List.nil_append]
        rw [goto_cons_label_ne env _ m hlt]
        unfold movImm64 mk jump mkJ
        rw [goto_cons_ins, goto_cons_jmp, ih (j + 1) l m hl' hnps hlen, hidx]
        congr 3
        omega

theorem step_tail_policy (env : Env) (m : Mach) (r3 : Word) (nxt : Option Insn)
    (hne : mapHandle env.c.policyJumpMapFD ≠ mapHandle env.c.staticJumpMapFD) (hok : env.polTailOK = true)
    (h1 : m.reg 1 = some ctxW) (h2 : m.reg 2 = some (mapHandle env.c.policyJumpMapFD)) (h3 : m.reg 3 = some r3) :
    step env ⟨opCall, 0, 0, 0, helperTailCall⟩ nxt m =
      .tail env.c.policyJumpMapFD ((r3.setWidth 32).setWidth 64) m := by
  simp [step, opCall, opLoadImm64, opJumpA, opExit, helperCall, helperTailCall, helperMapLookupElem, h1, h2, h3, ctxW,
    hne, hok]

def npBody (c : Cfg) (xdp : Bool) (idx : Int) : List Ev :=
  [store32 R9 R0 stateOffPolResult, mov64 R1 R6] ++ loadMapFD R2 c.policyJumpMapFD ++
    [movImm64 R3 idx, call helperTailCall] ++ exitTargetEvs xdp

theorem npBlock_eq (c : Cfg) (xdp : Bool) (idx : Int) : npBlock c xdp idx = Ev.label .nextProgram :: npBody c xdp idx := by
  simp [npBlock, npBody]

theorem lrun_npBody (env : Env) (st : List Byte) (xdp : Bool) (idx : Int) (m : Mach) (v : Word)
    (hne : mapHandle env.c.policyJumpMapFD ≠ mapHandle env.c.staticJumpMapFD) (hok : env.polTailOK = true)
    (hI : Inv st m) (h0 : m.reg 0 = some v) :
    ∃ m', m'.st = writeAt m.st 92 (toLE v.toNat 4) ∧
      lrun env (npBody env.c xdp idx) m =
        .tail env.c.policyJumpMapFD (((sext32 idx).setWidth 32).setWidth 64) m' := by
  have L : Line env st ((View.ofInv m).set 0 v)
      ([store32 R9 R0 stateOffPolResult, mov64 R1 R6] ++ (loadMapFD R2 env.c.policyJumpMapFD ++ [movImm64 R3 idx])) _ :=
    (Line.stxAt opStoreReg32 9 0 92 92 4 StOp.w rfl rfl rfl (by omega)
      (hI.sim.write 92 _ (Or.inr (Or.inr ⟨by omega, by rw [toLE_length]; omega⟩)))).cons <|
    (Line.mov64 1 6 (by omega) rfl).cons <| (Line.loadMapFD 2 _ (by omega)).append <| Line.movImm64 3 idx (by omega)
  obtain ⟨_, m', ⟨rfl, hS⟩, e⟩ := L (call helperTailCall :: exitTargetEvs xdp) m ((Sees.ofInv hI).know 0 v h0)
  refine ⟨m', hS.state, ?_⟩
  have esh : npBody env.c xdp idx = ([store32 R9 R0 stateOffPolResult, mov64 R1 R6] ++
      (loadMapFD R2 env.c.policyJumpMapFD ++ [movImm64 R3 idx])) ++ (call helperTailCall :: exitTargetEvs xdp) := by
    simp [npBody]
  rw [esh, e]
  exact lrun_ins_tail (step_tail_policy env m' (sext32 idx) _ hne hok (hS.reg 1 _ rfl) (hS.reg 2 _ rfl) (hS.reg 3 _ rfl))

theorem all_trampolineJumps : ∀ (T : List Label) (j : Nat),
    (trampolineJumps T j).all (fun e => !e.isLabel && !e.uncond) = true
  | [], _ => rfl
  | t :: ts, j => by rw [trampolineJumps, List.all_cons, all_trampolineJumps ts (j + 1)]; rfl

theorem live_trampolineJumps (T : List Label) (j : Nat) :
    Live (trampolineJumps T j) = true ∧ MayFall (trampolineJumps T j) = true :=
  live_of_all _ (all_trampolineJumps T j)

theorem labelsOf_trampolineJumps (T : List Label) (j : Nat) : labelsOf (trampolineJumps T j) = [] :=
  labelsOf_of_live _ (live_trampolineJumps T j).1

theorem lrun_jr0 (env : Env) (m : Mach) (v k : Nat) (l : Label) (r : List Ev)
    (h0 : m.reg 0 = some (BitVec.ofNat 64 v)) (hv : v < 2 ^ 64) (hk : k < 2 ^ 64) :
    lrun env (jumpEqImm64 R0 (k : Int) l :: r) m = if v = k then goto env l r m else lrun env r m :=
  (lrun_jcond64 env m opJumpEqImm64 0 k _ (v == k) l r (Or.inl rfl) h0 (cond_nat 1 hv hk)).trans (by simp)

theorem dispatch_zero (env : Env) (rest : List Ev) (m : Mach) (h0 : m.reg 0 = some (BitVec.ofNat 64 0)) :
    ∀ (T : List Label) (j : Nat), j + T.length < 2 ^ 64 →
      lrun env (trampolineJumps T j ++ rest) m = lrun env rest m := by
  intro T
  induction T with
  | nil => intro j _; rfl
  | cons t ts ih =>
    intro j hb
    simp only [List.length_cons] at hb
    simp only [trampolineJumps, List.cons_append]
    have := lrun_jr0 env m 0 (j + 1) t (trampolineJumps ts (j + 1) ++ rest) h0 (by omega) (by omega)
    push_cast at this
    rw [this]
    exact ih (j + 1) (by omega)

theorem dispatch_hit (env : Env) (rest : List Ev) (m : Mach) (l : Label) :
    ∀ (T : List Label) (j : Nat), l ∈ T → j + T.length < 2 ^ 64 →
      m.reg 0 = some (BitVec.ofNat 64 (j + T.idxOf l + 1)) →
      lrun env (trampolineJumps T j ++ rest) m = goto env l rest m := by
  intro T
  induction T with
  | nil => intro j h; cases h
  | cons t ts ih =>
    intro j hl hb h0
    simp only [List.length_cons] at hb
    simp only [trampolineJumps, List.cons_append]
    have hidxle : (t :: ts).idxOf l < (t :: ts).length := List.idxOf_lt_length_of_mem hl
    simp only [List.length_cons] at hidxle
    have := lrun_jr0 env m (j + (t :: ts).idxOf l + 1) (j + 1) t (trampolineJumps ts (j + 1) ++ rest) h0 (by omega) (by omega)
    push_cast at this
    rw [this]
    by_cases hlt : t = l
    · subst hlt
      rw [List.idxOf_cons_self, Nat.add_zero, if_pos rfl]
      rw [goto_append _ m (by rw [labelsOf_trampolineJumps]; simp)]
    · have hl' : l ∈ ts := (List.mem_cons.1 hl).resolve_left fun e => hlt e.symm
      have hidx : (t :: ts).idxOf l = ts.idxOf l + 1 := idxOf_cons_ne ts hlt
      rw [hidx, if_neg (by omega)]
      exact ih (j + 1) hl' (by omega) (by rw [h0, hidx]; congr 2; omega)

theorem slot_of_split (c : Cfg) (k : Nat) (h0 : 0 ≤ c.policyMapIndex) (hs : 0 < c.policyMapStride)
    (hb : c.policyMapIndex + ((k : Int) + 1) * c.policyMapStride < 4294967296) :
    slotToProg c (((sext32 (c.policyMapIndex + ((k + 1 : Nat) : Int) * c.policyMapStride)).setWidth 32).setWidth 64) =
      some (k + 1) := by
  have hnn : 0 ≤ c.policyMapIndex + ((k + 1 : Nat) : Int) * c.policyMapStride := by
    have : 0 ≤ ((k + 1 : Nat) : Int) * c.policyMapStride := Int.mul_nonneg (by omega) (by omega)
    omega
  obtain ⟨n, hn⟩ : ∃ n : Nat, c.policyMapIndex + ((k + 1 : Nat) : Int) * c.policyMapStride = (n : Int) :=
    ⟨_, (Int.toNat_of_nonneg hnn).symm⟩
  have hnlt : n < 4294967296 := by
    have : (n : Int) < 4294967296 := by rw [← hn]; push_cast; exact hb
    omega
  have htn : ((((sext32 (n : Int)).setWidth 32).setWidth 64 : Word)).toNat = n := by
    rw [sext32_nat]
    simp only [BitVec.toNat_setWidth, BitVec.toNat_ofNat]
    omega
  unfold slotToProg
  rw [hn, htn]
  have hd : (n : Int) - c.policyMapIndex = ((k + 1 : Nat) : Int) * c.policyMapStride := by omega
  simp only [hd]
  have h1 : ((k + 1 : Nat) : Int) * c.policyMapStride % c.policyMapStride = 0 := Int.mul_emod_left _ _
  have h2 : ((k + 1 : Nat) : Int) * c.policyMapStride / c.policyMapStride = ((k + 1 : Nat) : Int) :=
    Int.mul_ediv_cancel _ (by omega)
  have h3 : ((k + 1 : Nat) : Int) * c.policyMapStride ≥ 0 := Int.mul_nonneg (by omega) (by omega)
  rw [if_pos ⟨hs, h3, h1⟩, h2]
  simp

theorem jmp_mem_trampolineJumps : ∀ (T : List Label) (j : Nat) (l : Label), l ∈ T →
    ∃ i, Ev.jmp i l ∈ trampolineJumps T j := by
  intro T
  induction T with
  | nil => intro j l h; cases h
  | cons t ts ih =>
    intro j l h
    rcases List.mem_cons.1 h with rfl | h
    · exact ⟨_, by simp only [trampolineJumps, jumpEqImm64, mkJ]; exact List.mem_cons_self⟩
    · obtain ⟨i, hi⟩ := ih (j + 1) l h
      exact ⟨i, by simp only [trampolineJumps]; exact List.mem_cons_of_mem _ hi⟩

theorem header_reach (c : Cfg) : (rawAll {} (headerEvs c)).reach = true := rfl

theorem pre_state (c : Cfg) (T : List Label) (R : List Ev) (hR : Live R = true) (hRf : MayFall R = true) :
    (rawAll {} (preEvs c T R)).reach = true ∧
    ∀ l ∈ T, l ∈ (rawAll {} (preEvs c T R)).fix ∧ l ∈ (rawAll {} (preEvs c T R)).use := by
  simp only [preEvs, rawAll_append]
  obtain ⟨hd1, hd2⟩ := live_trampolineJumps T 0
  obtain ⟨h0, _⟩ := rawAll_live [load32 R0 R9 stateOffPolResult, movImm32 R1 0, store32 R9 R1 stateOffPolResult] _
    (header_reach c) rfl
  obtain ⟨h1, h2⟩ := rawAll_live _ _ (h0 rfl) hd1
  obtain ⟨h3, _⟩ := rawAll_live R _ (h1 hd2) hR
  refine ⟨h3 hRf, fun l hl => ?_⟩
  obtain ⟨i, hi⟩ := jmp_mem_trampolineJumps T 0 l hl
  obtain ⟨hf, hu⟩ := h2 i l hi
  exact ⟨rawAll_fix_mono R l (by rw [labelsOf_of_live R hR]; simp) _ hf, rawAll_use_mono R _ l hu⟩

theorem length_landingPads : ∀ (T : List Label) (j : Nat), T.length ≤ (landingPads T j).length := by
  intro T
  induction T with
  | nil => intro j; simp [landingPads]
  | cons t ts ih =>
    intro j
    cases ts with
    | nil => simp [landingPads]
    | cons t2 ts2 =>
      have := ih (j + 1)
      simp only [landingPads, List.cons_append, List.nil_append, List.length_cons] at this ⊢
      omega

/-- What the chain theorem assumes about the environment and the configuration.  `bound`: the policy-jump slots
`policyMapIndex + k*stride` of the `nmax + 1` programs are below 2^32; the two jump maps are distinct twice, as file
descriptors (`fdne`: what `chainK` tests) and as map handles (`hne`: what the interpreter's tail-call helper tests);
`tstride`: the trampoline stride bounds the number of dispatch codes. -/
structure ChainEnv (env : Env) (nmax : Nat) : Prop where
  stateOK : env.stateOK = true
  polTailOK : env.polTailOK = true
  idx0 : 0 ≤ env.c.policyMapIndex
  stride : 0 < env.c.policyMapStride
  bound : env.c.policyMapIndex + ((nmax : Int) + 1) * env.c.policyMapStride < 4294967296
  fdne : env.c.policyJumpMapFD ≠ env.c.staticJumpMapFD
  hne : mapHandle env.c.policyJumpMapFD ≠ mapHandle env.c.staticJumpMapFD
  tstride : env.c.trampolineStride < 4294967296

theorem flat_marker (R : List Ev) (S : List BEv) : flat (BEv.maybeSplit R :: S) = flat S := rfl

theorem not_footer_of_vOf {xdp : Bool} {l : Label} (hv : vOf l = none) (he : l ≠ .exit) : l ∉ footerLabels xdp := by
  have : ∀ xdp, ∀ l ∈ footerLabels xdp, vOf l ≠ none ∨ l = .exit := by decide
  exact fun hm => (this xdp l hm).elim (fun h => h hv) he

theorem glueEvs_goto (env : Env) (xdp : Bool) (s : SplitSt) (l : Label) (m : Mach) :
    goto env l (glueEvs env.c xdp s) m = goto env l (footerEvs env.c xdp ++ glueTail env.c xdp s) m := by
  unfold glueEvs glueHead movImm64 mk jump mkJ
  simp only [List.cons_append, List.nil_append]
  rw [goto_cons_ins, goto_cons_jmp]

/-- What the glue hands to the next program in R0 for control that falls into the call site (`none`) or arrives by a
jump to `l`: 0, or the number of `l`'s landing pad. -/
def padCode (T : List Label) : Option Label → Nat
  | none => 0
  | some l => T.idxOf l + 1

theorem glueEvs_enter (env : Env) (xdp : Bool) (s : SplitSt) (e : Option Label) (m : Mach) (hl : m.regs.length = 11)
    (he : ∀ l, e = some l → l ∈ splitTargets env.c xdp s) :
    resume env (glueEvs env.c xdp s) e m =
      lrun env (npBody env.c xdp (splitIdx env.c s))
        (m.setReg 0 (BitVec.ofNat 64 (padCode (splitTargets env.c xdp s) e))) := by
  have hnp : Label.nextProgram ∉ splitTargets env.c xdp s := fun h => (mem_splitTargets.1 h).2.2 rfl
  cases e with
  | none =>
    have e0 : glueEvs env.c xdp s = Ev.ins ⟨opMovImm64, 0, 0, 0, 0⟩ :: jump .nextProgram ::
        (footerEvs env.c xdp ++ (landingPads (splitTargets env.c xdp s) 0 ++
          (Ev.label .nextProgram :: npBody env.c xdp (splitIdx env.c s)))) := by
      simp [glueEvs, glueHead, glueTail, npBlock_eq, movImm64, mk, R0]
    rw [resume, e0]
    refine (lrun_ins_next (step_movImm64 env m 0 0 0 _ (by omega))).trans ?_
    rw [show sext32 0 = BitVec.ofNat 64 0 from sext32_nat 0]
    rw [lrun_jump, goto_append _ _ (by rw [labelsOf_footer]; cases xdp <;> simp [footerLabels]),
      goto_append _ _ (by rw [labelsOf_landingPads]; exact hnp), goto_label_self]
    rfl
  | some l =>
    have hlT := he l rfl
    rw [resume, glueEvs_goto, goto_append _ _ (by rw [labelsOf_footer]; exact (mem_splitTargets.1 hlT).2.1)]
    unfold glueTail
    rw [npBlock_eq, goto_pad env _ _ 0 l m hlT hnp hl, sext32_nat, Nat.zero_add]
    rfl

theorem dispatch (env : Env) (rest : List Ev) (m : Mach) (T : List Label) (e : Option Label)
    (he : ∀ l, e = some l → l ∈ T) (hb : T.length < 2 ^ 64) (h0 : m.reg 0 = some (BitVec.ofNat 64 (padCode T e))) :
    lrun env (trampolineJumps T 0 ++ rest) m = resume env rest e m := by
  cases e with
  | none => exact dispatch_zero env rest m h0 T 0 (by omega)
  | some l => exact dispatch_hit env rest m l T 0 (he l rfl) (by omega) (by rw [h0, padCode, Nat.zero_add])

/-- **Crossing a split**: control that enters the glue of one program at `e` is, in the next program and behind its
dispatch, again at `e` in front of the reload instructions — with a machine of which only the invariant is known. -/
theorem cross (env : Env) (st : List Byte) (xdp : Bool) (nmax : Nat) (he : ChainEnv env nmax) (s : SplitSt)
    (hk : s.done.length + 1 ≤ nmax) (hT : (splitTargets env.c xdp s).length < 4294967296)
    (R r1 : List Ev) (r2 : List (List Ev)) (e : Option Label) (hmem : ∀ l, e = some l → l ∈ splitTargets env.c xdp s)
    (m : Mach) (hI : Inv st m) :
    ∃ m2, Inv st m2 ∧
      chainK env ((preEvs env.c (splitTargets env.c xdp s) R ++ r1) :: r2) (s.done.length + 1)
          (resume env (glueEvs env.c xdp s) e m) =
        chainK env r2 (s.done.length + 1 + 1) (resume env (R ++ r1) e m2) := by
  generalize hwd : padCode (splitTargets env.c xdp s) e = w
  have hw : w < 4294967296 := by
    rw [← hwd]
    cases e with
    | none => exact Nat.lt_of_le_of_lt (Nat.zero_le _) hT
    | some l => have := List.idxOf_lt_length_of_mem (hmem l rfl); simp only [padCode]; omega
  -- this program: the glue puts the code into R0, the `next-program` block stashes it in `pol_rc` and tail-calls
  rw [glueEvs_enter env xdp s e m hI.regsLen hmem, hwd]
  obtain ⟨m', hst', e1⟩ := lrun_npBody env st xdp (splitIdx env.c s) _ (BitVec.ofNat 64 w) he.hne he.polTailOK
    (hI.setReg 0 _ (by omega) (by omega) (by omega)) (reg_setReg_eq (by rw [hI.regsLen]; omega))
  rw [show (BitVec.ofNat 64 w).toNat = w by simp only [BitVec.toNat_ofNat]; omega] at hst'
  change m'.st = writeAt m.st 92 (toLE w 4) at hst'
  have hslot : slotToProg env.c (((sext32 (splitIdx env.c s)).setWidth 32).setWidth 64) = some (s.done.length + 1) := by
    unfold splitIdx
    apply slot_of_split env.c s.done.length he.idx0 he.stride
    have h1 : ((s.done.length : Int) + 1) * env.c.policyMapStride ≤ ((nmax : Int) + 1) * env.c.policyMapStride :=
      Int.mul_le_mul_of_nonneg_right (by omega) (by have := he.stride; omega)
    have := he.bound
    omega
  rw [e1]
  simp only [chainK, he.fdne, ne_eq, not_false_eq_true, and_self, if_true, hslot]
  -- next program: the header, then R0 is read back from `pol_rc`, which is cleared
  have hsim1 : StSim st m'.st := by
    rw [hst']; exact hI.sim.write 92 _ (Or.inr (Or.inr ⟨by omega, by rw [toLE_length]; omega⟩))
  obtain ⟨m0, hI0, hst0, e2⟩ := lrun_header_sim env st m'.st hsim1 hI.stLen he.stateOK
    ([load32 R0 R9 stateOffPolResult, movImm32 R1 0, store32 R9 R1 stateOffPolResult] ++
        (trampolineJumps (splitTargets env.c xdp s) 0 ++ (R ++ r1)))
  have L : Line env st (View.ofInv m0) [load32 R0 R9 stateOffPolResult, movImm32 R1 0, store32 R9 R1 stateOffPolResult] _ :=
    (Line.ldxState opLoadReg32 0 92 4 LdOp.w (by omega) (by omega)).cons <| (Line.movImm32 1 0 (by omega)).cons <|
    Line.stxAt opStoreReg32 9 1 92 92 4 StOp.w rfl rfl rfl (by omega)
      (hI0.sim.write 92 _ (Or.inr (Or.inr ⟨by omega, by rw [toLE_length]; omega⟩)))
  obtain ⟨_, m2, ⟨rfl, hS2⟩, e3⟩ := L (trampolineJumps (splitTargets env.c xdp s) 0 ++ (R ++ r1)) m0 (Sees.ofInv hI0)
  have h02 : m2.reg 0 = some (BitVec.ofNat 64 (padCode (splitTargets env.c xdp s) e)) := by
    rw [hwd, hS2.reg 0 _ rfl]
    show some (BitVec.ofNat 64 (fieldN m0.st 92 4)) = _
    rw [hst0, hst', fieldN_pol m.st w hI.sim.len, Nat.mod_eq_of_lt hw]
  refine ⟨m2, hS2.inv, ?_⟩
  rw [show preEvs env.c (splitTargets env.c xdp s) R ++ r1 = headerEvs env.c ++
      ([load32 R0 R9 stateOffPolResult, movImm32 R1 0, store32 R9 R1 stateOffPolResult] ++
        (trampolineJumps (splitTargets env.c xdp s) 0 ++ (R ++ r1))) by simp [preEvs, List.append_assoc], e2, e3]
  exact congrArg _ (dispatch env _ m2 _ e hmem (by omega) h02)

theorem GA.marker {env : Env} {st : List Byte} {xdp : Bool} {nmax : Nat} {E : List Label} {c c' : Carry}
    {S : List BEv} (he : ChainEnv env nmax) (R : List Ev)
    (hR : DecidesC env st .none c' R none) (hRl : Live R = true) (hRf : MayFall R = true)
    (hc : c' = .none ∨ c = c')
    (hEx : Label.xdpPass ∈ E → xdp = true) (hEe : Label.exit ∉ E) (hEn : Label.nextProgram ∉ E)
    (h : GA env st xdp nmax E c' S) : GA env st xdp nmax E c (BEv.maybeSplit R :: S) := by
  have hcv : ∀ m, InvC st c m → InvC st c' m := by
    intro m hm
    rcases hc with e | e
    · rw [e]; exact hm.drop
    · rw [← e]; exact hm
  have hRlab : labelsOf R = [] := labelsOf_of_live R hRl
  have hsplit : ∀ s : SplitSt, willSplit env.c s = true →
      s.done.length + (cont env.c xdp (BEv.maybeSplit R :: S) s).2.length ≤ nmax →
      ShortBlocks env.c xdp (BEv.maybeSplit R :: S) s →
      (splitState env.c xdp s R).done.length + (cont env.c xdp S (splitState env.c xdp s R)).2.length ≤ nmax ∧
      ShortBlocks env.c xdp S (splitState env.c xdp s R) ∧ s.done.length + 1 ≤ nmax ∧
      (splitTargets env.c xdp s).length < 4294967296 := by
    intro s hw hn hsb
    rw [cont_marker_split _ _ _ _ _ hw] at hn
    simp only [List.length_cons] at hn
    obtain ⟨hs1, _, hsb'⟩ := hsb.split hw
    refine ⟨by rw [splitState_done]; omega, hsb', by omega, ?_⟩
    have h1 := length_landingPads (splitTargets env.c xdp s) 0
    have h2 : (landingPads (splitTargets env.c xdp s) 0).length ≤ (glueEvs env.c xdp s).length := by
      simp only [glueEvs, glueTail, List.length_append]; omega
    have := he.tstride
    omega
  refine ⟨?_, ?_, ?_⟩
  · intro s hreach hn hsb mC mF hC hF
    rw [flat_marker]
    cases hw : willSplit env.c s with
    | true =>
      obtain ⟨hn', hsb', hk, hT⟩ := hsplit s hw hn hsb
      rw [cont_marker_split _ _ _ _ _ hw]
      obtain ⟨m2, hI2, e2⟩ := cross env st xdp nmax he s hk hT R (cont env.c xdp S (splitState env.c xdp s R)).1
        (cont env.c xdp S (splitState env.c xdp s R)).2 none (by intro l e; cases e) mC hC.inv
      obtain ⟨m3, hI3, hc3, e3⟩ := hR (cont env.c xdp S (splitState env.c xdp s R)).1 m2 (InvC.none hI2)
      have hreach4 : (splitState env.c xdp s R).cur.reach = true := by
        rw [splitState_cur]; exact (pre_state env.c (splitTargets env.c xdp s) R hRl hRf).1
      simp only
      rw [show lrun env (glueEvs env.c xdp s) mC = resume env (glueEvs env.c xdp s) none mC from rfl, e2]
      simp only [resume]
      rw [e3]
      have := h.start (splitState env.c xdp s R) hreach4 hn' hsb' m3 mF (hc3 rfl) (hcv mF hF)
      rw [splitState_done] at this
      exact this
    | false =>
      rw [cont_marker_nosplit _ _ _ _ _ hw] at hn ⊢
      exact h.start s hreach hn (hsb.nosplit hw) mC mF (hcv mC hC) (hcv mF hF)
  · intro s l hl hfix huse hn hsb mC mF hC hF
    rw [flat_marker]
    cases hw : willSplit env.c s with
    | true =>
      obtain ⟨hn', hsb', hk, hT⟩ := hsplit s hw hn hsb
      rw [cont_marker_split _ _ _ _ _ hw]
      simp only
      cases hv : vOf l with
      | some V =>
        -- a footer label: the local copy of the footer decides
        have hlx : l = .xdpPass → xdp = true := fun e => hEx (e ▸ hl)
        rw [glueEvs_goto]
        obtain ⟨hfin, hag⟩ := footer_out_append env st xdp l V hv hlx (glueTail env.c xdp s) mC hC
        rw [chainK_final env _ _ _ hfin]
        exact Both.ofLabel hv hlx hag (h.foot l hl V hv mF hF)
      | none =>
        have hlT : l ∈ splitTargets env.c xdp s :=
          mem_splitTargets.2 ⟨hfix, not_footer_of_vOf hv (fun e => hEe (e ▸ hl)), fun e => hEn (e ▸ hl)⟩
        obtain ⟨m2, hI2, e2⟩ := cross env st xdp nmax he s hk hT R (cont env.c xdp S (splitState env.c xdp s R)).1
          (cont env.c xdp S (splitState env.c xdp s R)).2 (some l) (by intro l' e; cases e; exact hlT) mC hC
        have hp4 : l ∈ (splitState env.c xdp s R).cur.fix ∧ l ∈ (splitState env.c xdp s R).cur.use := by
          rw [splitState_cur]; exact (pre_state env.c (splitTargets env.c xdp s) R hRl hRf).2 l hlT
        rw [show goto env l (glueEvs env.c xdp s) mC = resume env (glueEvs env.c xdp s) (some l) mC from rfl, e2]
        simp only [resume]
        rw [goto_append _ _ (by rw [hRlab]; simp)]
        have := h.lab (splitState env.c xdp s R) l hl hp4.1 hp4.2 hn' hsb' m2 mF hI2 hF
        rw [splitState_done] at this
        exact this
    | false =>
      rw [cont_marker_nosplit _ _ _ _ _ hw] at hn ⊢
      exact h.lab s l hl hfix huse hn (hsb.nosplit hw) mC mF hC hF
  · intro l hl V hV mF hF
    rw [flat_marker]
    exact h.foot l hl V hV mF hF

end CalicoVerif.C11
