import CalicoVerif.Model.C33
/-! C33: the table does not depend on the order (or multiplicity) in which backends were learned. -/
namespace CalicoVerif.C33

/-- `bytesLe` is the lexicographic order of core Lean on `List Nat`, which is total, antisymmetric and transitive -/
theorem bytesLe_iff : ∀ (a b : List Nat), bytesLe a b = true ↔ a ≤ b
  | [], b => by simp [bytesLe]
  | _ :: _, [] => by simp [bytesLe]
  | x :: xs, y :: ys => by
    rw [bytesLe, List.cons_le_cons_iff, ← bytesLe_iff xs ys]
    by_cases h1 : x < y
    · simp [h1]
    · by_cases h2 : y < x
      · have : x ≠ y := by omega
        simp [h1, h2, this]
      · have : x = y := by omega
        simp [this]

theorem bytesLe_total (a b : List Nat) : (bytesLe a b || bytesLe b a) = true := by
  rw [Bool.or_eq_true, bytesLe_iff, bytesLe_iff]; exact List.le_total a b

theorem bytesLe_antisymm (a b : List Nat) (h1 : bytesLe a b = true) (h2 : bytesLe b a = true) : a = b :=
  List.le_antisymm ((bytesLe_iff a b).1 h1) ((bytesLe_iff b a).1 h2)

theorem bytesLe_trans (a b c : List Nat) (h1 : bytesLe a b = true) (h2 : bytesLe b c = true) : bytesLe a c = true :=
  (bytesLe_iff a c).2 (List.le_trans ((bytesLe_iff a b).1 h1) ((bytesLe_iff b c).1 h2))

theorem sortNames_eq_of_perm {a b : List (List Nat)} (h : a.Perm b) : sortNames a = sortNames b :=
  List.Perm.eq_of_pairwise (le := fun x y => bytesLe x y = true) (fun x y _ _ => bytesLe_antisymm x y)
    (List.pairwise_mergeSort bytesLe_trans bytesLe_total a) (List.pairwise_mergeSort bytesLe_trans bytesLe_total b)
    (((List.mergeSort_perm a _).trans h).trans (List.mergeSort_perm b _).symm)

theorem addBackends_spec (perm : List Nat → Res (List Nat)) :
    ∀ (ns acc : List (List Nat)), acc.Nodup → (∀ x ∈ acc, ∃ p, perm x = .ok p) →
      ((addBackends perm acc ns = none ↔ ∃ n ∈ ns, perm n = .panic) ∧
       (∀ r, addBackends perm acc ns = some r →
          r.Nodup ∧ ∀ x, x ∈ r ↔ (x ∈ acc ∨ (x ∈ ns ∧ ∃ p, perm x = .ok p)))) := by
  intro ns
  induction ns with
  | nil =>
    intro acc hnd _
    refine ⟨by simp [addBackends], fun r hr => ?_⟩
    cases hr
    exact ⟨hnd, by simp⟩
  | cons n ns ih =>
    intro acc hnd hok
    -- `AddBackend n` without a panic goes on with `acc'` = `acc`, plus `n` if its permutation is ok
    have key : ∀ acc' : List (List Nat), acc'.Nodup → (∀ x ∈ acc', ∃ p, perm x = .ok p) →
        (∀ x, x ∈ acc' ↔ x ∈ acc ∨ (x = n ∧ ∃ p, perm x = .ok p)) → perm n ≠ .panic →
        ((addBackends perm acc' ns = none ↔ ∃ x ∈ n :: ns, perm x = .panic) ∧
         (∀ r, addBackends perm acc' ns = some r →
            r.Nodup ∧ ∀ x, x ∈ r ↔ (x ∈ acc ∨ (x ∈ n :: ns ∧ ∃ p, perm x = .ok p)))) := by
      intro acc' hnd' hok' hmem hnp
      obtain ⟨ih1, ih2⟩ := ih acc' hnd' hok'
      refine ⟨by rw [ih1]; simp [hnp], fun r hr => ⟨(ih2 r hr).1, fun x => ?_⟩⟩
      rw [(ih2 r hr).2 x, hmem x, List.mem_cons, or_and_right, or_assoc]
    unfold addBackends
    split
    · rename_i hc
      have hmem : n ∈ acc := by simpa using hc
      obtain ⟨p, hp⟩ := hok n hmem
      exact key acc hnd hok (fun x => ⟨Or.inl, fun h => h.elim id fun h => h.1 ▸ hmem⟩) (by rw [hp]; nofun)
    · rename_i hc
      have hnm : n ∉ acc := by simpa using hc
      cases hp : perm n with
      | panic => exact ⟨⟨fun _ => ⟨n, List.mem_cons_self, hp⟩, fun _ => rfl⟩, nofun⟩
      | err =>
        refine key acc hnd hok (fun x => ⟨Or.inl, fun h => h.elim id fun ⟨hx, q, hq⟩ => ?_⟩) (by rw [hp]; nofun)
        rw [hx, hp] at hq; cases hq
      | ok p =>
        refine key (acc ++ [n]) (List.nodup_append.2 ⟨hnd, by simp, ?_⟩) (fun x hx => ?_) (fun x => ?_)
          (by rw [hp]; nofun)
        · rintro a ha b hb rfl
          exact hnm (List.mem_singleton.1 hb ▸ ha)
        · rcases List.mem_append.1 hx with h | h
          · exact hok x h
          · exact List.mem_singleton.1 h ▸ ⟨p, hp⟩
        · rw [List.mem_append, List.mem_singleton]
          exact or_congr_right ⟨fun h => ⟨h, h ▸ ⟨p, hp⟩⟩, fun h => h.1⟩

theorem addBackends_none_iff (perm : List Nat → Res (List Nat)) (ns : List (List Nat)) :
    addBackends perm [] ns = none ↔ ∃ n ∈ ns, perm n = .panic :=
  (addBackends_spec perm ns [] List.nodup_nil nofun).1

theorem addBackends_some {perm : List Nat → Res (List Nat)} {ns r : List (List Nat)} (h : addBackends perm [] ns = some r) :
    r.Nodup ∧ ∀ x, x ∈ r ↔ (x ∈ ns ∧ ∃ p, perm x = .ok p) := by
  obtain ⟨hnd, hm⟩ := (addBackends_spec perm ns [] List.nodup_nil nofun).2 r h
  exact ⟨hnd, fun x => (hm x).trans (or_iff_right List.not_mem_nil)⟩

theorem sorted_backends_eq (perm : List Nat → Res (List Nat)) {a b : List (List Nat)}
    (hab : ∀ x, x ∈ a ↔ x ∈ b) :
    (addBackends perm [] a).map sortNames = (addBackends perm [] b).map sortNames := by
  have hpanic : (∃ n ∈ a, perm n = .panic) ↔ ∃ n ∈ b, perm n = .panic :=
    exists_congr fun n => and_congr_left fun _ => hab n
  cases ha : addBackends perm [] a with
  | none => rw [(addBackends_none_iff perm b).2 (hpanic.1 ((addBackends_none_iff perm a).1 ha))]
  | some ra =>
    cases hb : addBackends perm [] b with
    | none => rw [(addBackends_none_iff perm a).2 (hpanic.2 ((addBackends_none_iff perm b).1 hb))] at ha; cases ha
    | some rb =>
      obtain ⟨nda, ma⟩ := addBackends_some ha
      obtain ⟨ndb, mb⟩ := addBackends_some hb
      refine congrArg some (sortNames_eq_of_perm ((List.perm_ext_iff_of_nodup nda ndb).2 fun x => ?_))
      rw [ma x, mb x, hab x]

theorem tableWith_eq (perm : List Nat → Res (List Nat)) (m : Nat) (arrivals : List (List Nat)) :
    tableWith perm m arrivals =
      ((addBackends perm [] arrivals).map sortNames).bind
        (fun sorted => (generate (permsOf perm sorted) m).map (namesOfLut sorted)) := by
  unfold tableWith
  cases addBackends perm [] arrivals <;> rfl

end CalicoVerif.C33
