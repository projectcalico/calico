import CalicoVerif.Proofs.C31Sync
/-! C31 — the whole-history invariant `Inv`: the channel discipline, the stores respect the calculation graph's
contract, every joined endpoint's client is `EpOK`, and no event has been seen on a channel not yet handed out.  `RunInv`
adds what else a history keeps (`NoStaleUID`, every stream so far referentially closed: `Streams` speaks of the live channels
only, `ClosedAll` of every channel ever used).  From a state that satisfies
it, every step the contract allows succeeds and re-establishes it (`step_inv`: `step_ok` for `Good`/`Streams` and the
guards, `step_chan` for the rest); so every contract-respecting history runs to its end (`respects_run`).  `Respects`
asks `Pre` of every state a step may lead to; `step` being a function, that is the one state it does lead to
(`Valid.respects`), which is how `valid_inv` reads a `Valid` history's invariant off `respects_run`. -/
namespace CalicoVerif.C31

def SameStores (p p' : Proc) : Prop :=
  p'.pols = p.pols ∧ p'.profs = p.profs ∧ p'.ipsets = p.ipsets ∧ p'.sas = p.sas ∧ p'.nss = p.nss ∧ p'.inSync = p.inSync

theorem sameStores_refl (p : Proc) : SameStores p p := ⟨rfl, rfl, rfl, rfl, rfl, rfl⟩

theorem SameStores.pols {p p' : Proc} (h : SameStores p p') : p'.pols = p.pols := h.1
theorem SameStores.profs {p p' : Proc} (h : SameStores p p') : p'.profs = p.profs := h.2.1
theorem SameStores.ipsets {p p' : Proc} (h : SameStores p p') : p'.ipsets = p.ipsets := h.2.2.1
theorem SameStores.sas {p p' : Proc} (h : SameStores p p') : p'.sas = p.sas := h.2.2.2.1
theorem SameStores.nss {p p' : Proc} (h : SameStores p p') : p'.nss = p.nss := h.2.2.2.2.1
theorem SameStores.inSync {p p' : Proc} (h : SameStores p p') : p'.inSync = p.inSync := h.2.2.2.2.2

theorem EpOK.congr {p p' : Proc} {w : Nat} {ei : EpInfo} {v : View} (hok : EpOK p w ei v) (h : SameStores p p') :
    EpOK p' w ei v :=
  hok.of_stores (fun _ _ => by rw [h.pols]) (fun _ _ => by rw [h.profs]) (fun _ _ => by rw [h.ipsets]) h.sas h.nss h.inSync

def Streams (p : Proc) (evs : List Ev) : Prop :=
  ∀ kv ∈ p.eps, ∀ c, kv.2.output = some c → EpOK p kv.1 kv.2 (viewOf evs c)

/-- no event on a channel not yet handed out (a join's new channel starts from the empty view) -/
def Bound (p : Proc) (evs : List Ev) : Prop := ∀ e ∈ evs, e.1 < p.nextCh

/-- `chan` does not say which channels were closed: here the discipline only tells the live channels apart; that nothing
happens on a closed channel holds on every run, contract or no contract, and is carried by `run_chan` -/
structure Inv (p : Proc) (evs : List Ev) : Prop where
  chan : ∃ cl, ChanInv p cl
  good : Good p
  streams : Streams p evs
  bound : Bound p evs

/-- what a step has to re-establish besides the channel discipline -/
structure StepOK (p' : Proc) (evs new : List Ev) : Prop where
  good : Good p'
  streams : Streams p' (evs ++ new)
  guarded : ∀ c, Guarded (viewOf evs c) (msgsOf new c)

theorem Good.of_eps {p p' : Proc} (hg : Good p) (hst : SameStores p p')
    (heps : ∀ kv' ∈ p'.eps, ∀ e, kv'.2.ep = some e → ∃ kv ∈ p.eps, kv.2.ep = some e) : Good p' := by
  refine ⟨fun kv' hkv' e he => ?_, ?_, ?_, by rw [hst.sas]; exact hg.sasK, by rw [hst.nss]; exact hg.nssK⟩
  · obtain ⟨kv, hkv, hke⟩ := heps kv' hkv' e he
    rw [hst.pols, hst.profs]; exact hg.epRefs kv hkv e hke
  · rw [hst.pols, hst.ipsets]; exact hg.polRefs
  · rw [hst.profs, hst.ipsets]; exact hg.profRefs

theorem Good.polSet {p : Proc} (hg : Good p) {id : Nat} {r : Rules} (hr : ∀ x ∈ r.refs, (p.ipsets.get x).isSome) :
    Good { p with pols := p.pols.set id r } :=
  ⟨fun kv hkv e he => (hg.epRefs kv hkv e he).imp_right <| .imp_right <| .imp_left fun c i hi =>
      AMap.isSome_get_set _ _ _ _ (c i hi),
    fun id' r' h x hx => (AMap.of_get_set h).elim (fun e => hr x (e ▸ hx)) fun h' => hg.polRefs id' r' h'.2 x hx,
    hg.profRefs, hg.sasK, hg.nssK⟩

theorem Good.profSet {p : Proc} (hg : Good p) {id : Nat} {r : Rules} (hr : ∀ x ∈ r.refs, (p.ipsets.get x).isSome) :
    Good { p with profs := p.profs.set id r } :=
  ⟨fun kv hkv e he => (hg.epRefs kv hkv e he).imp_right <| .imp_right <| .imp_right fun d i hi =>
      AMap.isSome_get_set _ _ _ _ (d i hi),
    hg.polRefs,
    fun id' r' h x hx => (AMap.of_get_set h).elim (fun e => hr x (e ▸ hx)) fun h' => hg.profRefs id' r' h'.2 x hx,
    hg.sasK, hg.nssK⟩

theorem Good.polDel {p : Proc} (hg : Good p) {id : Nat} (hid : ∀ kv ∈ p.eps, id ∉ epPols kv.2.ep) :
    Good { p with pols := p.pols.del id } :=
  ⟨fun kv hkv e he => (hg.epRefs kv hkv e he).imp_right <| .imp_right <| .imp_left fun c i hi =>
      (AMap.get_del_ne p.pols fun (e' : i = id) => hid kv hkv (by rw [he]; exact e' ▸ hi)) ▸ c i hi,
    fun id' r' h x hx => hg.polRefs id' r' (AMap.of_get_del h).2 x hx, hg.profRefs, hg.sasK, hg.nssK⟩

theorem Good.profDel {p : Proc} (hg : Good p) {id : Nat} (hid : ∀ kv ∈ p.eps, id ∉ epProfs kv.2.ep) :
    Good { p with profs := p.profs.del id } :=
  ⟨fun kv hkv e he => (hg.epRefs kv hkv e he).imp_right <| .imp_right <| .imp_right fun d i hi =>
      (AMap.get_del_ne p.profs fun (e' : i = id) => hid kv hkv (by rw [he]; exact e' ▸ hi)) ▸ d i hi,
    hg.polRefs, fun id' r' h x hx => hg.profRefs id' r' (AMap.of_get_del h).2 x hx, hg.sasK, hg.nssK⟩

theorem Good.ipSet {p : Proc} (hg : Good p) (id : Nat) (ms : List Nat) : Good { p with ipsets := p.ipsets.set id ms } :=
  ⟨hg.epRefs, fun id' r h x hx => AMap.isSome_get_set _ _ _ _ (hg.polRefs id' r h x hx),
    fun id' r h x hx => AMap.isSome_get_set _ _ _ _ (hg.profRefs id' r h x hx), hg.sasK, hg.nssK⟩

theorem Good.ipDel {p : Proc} (hg : Good p) {id : Nat} (hP : ∀ kv ∈ p.pols, id ∉ kv.2.refs) (hF : ∀ kv ∈ p.profs, id ∉ kv.2.refs) :
    Good { p with ipsets := p.ipsets.del id } :=
  ⟨hg.epRefs,
    fun id' r h x hx => (AMap.get_del_ne p.ipsets fun (e : x = id) => hP _ (AMap.mem_of_get h) (e ▸ hx)) ▸ hg.polRefs id' r h x hx,
    fun id' r h x hx => (AMap.get_del_ne p.ipsets fun (e : x = id) => hF _ (AMap.mem_of_get h) (e ▸ hx)) ▸ hg.profRefs id' r h x hx,
    hg.sasK, hg.nssK⟩

theorem streams_quiet {p p' : Proc} {evs : List Ev} (hs : Streams p evs) (hg : Good p') (heps : p'.eps = p.eps)
    (hok : ∀ kv ∈ p.eps, ∀ v, EpOK p kv.1 kv.2 v → EpOK p' kv.1 kv.2 v) : StepOK p' evs [] := by
  refine ⟨hg, fun kv hkv c ho => ?_, fun _ => trivial⟩
  rw [heps] at hkv
  rw [List.append_nil]
  exact hok kv hkv _ (hs kv hkv c ho)

/-- `p1`: the Processor after its stores were updated, before the loop over the updateable endpoints -/
theorem streams_each {p p1 : Proc} {cl : List Nat} {evs : List Ev} {f : EpInfo → Option (EpInfo × List Msg)}
    (hch : ChanInv p cl) (hs : Streams p evs) (hg : Good p1) (heps : p1.eps = p.eps) (hf : KeepsAll f)
    (hok : ∀ kv ∈ p.eps, ∀ v, EpOK p kv.1 kv.2 v →
      ∃ ei' ms, f kv.2 = some (ei', ms) ∧ EpOK p1 kv.1 ei' (applyMsgs v ms) ∧ Guarded v ms) :
    ∃ eps' new, eachUpdateable f p.eps = some (eps', new) ∧ StepOK { p1 with eps := eps' } evs new := by
  obtain ⟨⟨eps', new⟩, h⟩ := each_total (f := f) (eps := p.eps) fun kv hkv c ho => by
    obtain ⟨ei', ms, hfe, _⟩ := hok kv hkv _ (hs kv hkv c ho); exact ⟨_, hfe⟩
  have hst : SameStores p1 { p1 with eps := eps' } := sameStores_refl p1
  have hl := each_lift hf hch.nodup h
  -- what the loop did to the entry `kv'` on its channel `c`
  have key : ∀ kv' ∈ eps', ∀ c, kv'.2.output = some c →
      EpOK p1 kv'.1 kv'.2 (applyMsgs (viewOf evs c) (msgsOf new c)) ∧ Guarded (viewOf evs c) (msgsOf new c) := by
    intro kv' hkv' c ho
    obtain ⟨ei, hm, hsc, hsome⟩ := hl kv' hkv'
    rw [hsc.output] at ho
    obtain ⟨ms, hfe, hmsgs⟩ := hsome c ho
    obtain ⟨ei'', ms'', hfe', r⟩ := hok (kv'.1, ei) hm _ (hs (kv'.1, ei) hm c ho)
    cases hfe.symm.trans hfe'
    exact hmsgs ▸ r
  refine ⟨eps', new, h, hg.of_eps hst fun kv' hkv' e he => ?_, fun kv' hkv' c ho => ?_, fun c => ?_⟩
  · obtain ⟨ei, hm, hsc, _⟩ := hl kv' hkv'
    exact ⟨(kv'.1, ei), heps ▸ hm, hsc.ep.symm.trans he⟩
  · rw [viewOf_append]; exact (key kv' hkv' c ho).1.congr hst
  · obtain ⟨_, hchans, hev⟩ := each_chan hf h
    by_cases hc : c ∈ chans p.eps
    · obtain ⟨kv', hkv', ho'⟩ := mem_chans.1 (hchans ▸ hc)
      exact (key kv' hkv' c ho').2
    · rw [msgsOf_nil_of_notin fun e he (hec : e.1 = c) => hc (hec ▸ (hev e he).2)]
      trivial

theorem streams_broadcast {p p' : Proc} {cl : List Nat} {evs : List Ev} (hch : ChanInv p cl) (hs : Streams p evs) (hg : Good p')
    {m : Msg} (hm : ∀ v, guard v m) (heps : p'.eps = p.eps) (hok : ∀ w ei v, EpOK p w ei v → EpOK p' w ei (applyMsgs v [m])) :
    StepOK p' evs (broadcast m p.eps) := by
  obtain ⟨eps', new, he, h⟩ := streams_each hch hs hg heps (keepsAll_const [m]) fun kv _ v h =>
    ⟨_, _, rfl, hok _ _ v h, hm v, trivial⟩
  cases (each_bcast m p.eps).symm.trans he
  exact heps ▸ h

theorem other_chan_ne {p : Proc} {cl : List Nat} (hch : ChanInv p cl) {w : Nat} {ei : EpInfo} (hg : p.eps.get w = some ei)
    {kv : Nat × EpInfo} (hkv : kv ∈ p.eps) (hne : kv.1 ≠ w) {c : Nat} (ho : kv.2.output = some c) : ei.output ≠ some c :=
  fun ho' => hne (congrArg Prod.fst (chans_inj hch.nodup hkv (AMap.mem_of_get hg) ho ho'))

theorem streams_entries {p p' : Proc} {evs new : List Ev} (hs : Streams p evs) (hg : Good p') (hst : SameStores p p')
    (hsub : ∀ kv' ∈ p'.eps, ∀ c, kv'.2.output = some c →
      (kv' ∈ p.eps ∧ msgsOf new c = []) ∨ EpOK p' kv'.1 kv'.2 (viewOf (evs ++ new) c))
    (hgd : ∀ c, Guarded (viewOf evs c) (msgsOf new c)) : StepOK p' evs new := by
  refine ⟨hg, fun kv' hkv' c ho => ?_, hgd⟩
  rcases hsub kv' hkv' c ho with ⟨hkv, hnew⟩ | h
  · rw [viewOf_append, hnew]; exact (hs kv' hkv c ho).congr hst
  · exact h

theorem step_ok_ep {p : Proc} {cl : List Nat} {evs : List Ev} {w : Nat} {e : Endpoint} (hch : ChanInv p cl) (hg : Good p)
    (hst : Streams p evs) (hpre : Pre p (.ep w e)) : ∃ p' new, step p (.ep w e) = some (p', new) ∧ StepOK p' evs new := by
  have hpre' : e.pols.Nodup ∧ e.profs.Nodup ∧ (∀ id ∈ e.pols, (p.pols.get id).isSome) ∧
      (∀ id ∈ e.profs, (p.profs.get id).isSome) := hpre
  have hgood : ∀ ei' : EpInfo, ei'.ep = some e → Good { p with eps := p.eps.set w ei' } := fun ei' hep => by
    refine ⟨fun kv' hkv' e' he' => ?_, hg.polRefs, hg.profRefs, hg.sasK, hg.nssK⟩
    rcases AMap.mem_set hkv' with rfl | ⟨hkv, _⟩
    · cases hep.symm.trans he'; exact hpre'
    · exact hg.epRefs kv' hkv e' he'
  have hep := epForUpdate_ep p w e
  cases ho : (epForUpdate p w e).output with
  | none =>
    -- an endpoint without a client: nothing is sent
    refine ⟨_, _, step_ep.2 ⟨_, _, maybeSync_idle (Or.inr ho), rfl, rfl⟩, ?_⟩
    rw [ho]
    refine streams_entries hst (hgood _ hep) (sameStores_refl p) (fun kv' hkv' c hc => ?_) fun _ => trivial
    rcases AMap.mem_set hkv' with rfl | ⟨hkv, _⟩
    · exact nomatch ho.symm.trans hc
    · exact Or.inl ⟨hkv, rfl⟩
  | some c =>
    obtain ⟨ei, hgw, heq⟩ := (epForUpdate_cases p w e).resolve_left fun h => nomatch h.2.1.symm.trans ho
    have hoc : ei.output = some c := by rw [heq] at ho; exact ho
    have hok := hst (w, ei) (AMap.mem_of_get hgw) c hoc
    obtain ⟨ei', ms, hm, hb⟩ := maybeSync_burst (w := w) (ei := epForUpdate p w e) (v := viewOf evs c)
      (by rw [heq]; exact ⟨hok.core.pols, hok.core.profs, hok.core.ipsets⟩) hep ho
      ⟨hpre'.2.2.1, hpre'.2.2.2, fun _ => hg.needed⟩ ⟨hpre'.1, hpre'.2.1⟩
    obtain ⟨hout, hep', _⟩ := maybeSync_sameClient hm
    rw [hep] at hep'; rw [ho] at hout
    have : EpOK p w ei' (applyMsgs (viewOf evs c) ms) := ⟨hb.core, hb.exact, by rw [hb.ep, hep']; rfl,
      hb.frame.sas (by decide) ▸ hok.sas, hb.frame.nss (by decide) ▸ hok.nss, hb.frame.inSync (by decide) ▸ hok.inSync⟩
    refine ⟨_, _, step_ep.2 ⟨ei', ms, hm, rfl, rfl⟩,
      streams_entries hst (hgood ei' hep') (sameStores_refl p) (fun kv' hkv' c' hc => ?_) fun c' => ?_⟩
    · rcases AMap.mem_set hkv' with rfl | ⟨hkv, hne⟩
      · cases hout.symm.trans hc
        refine Or.inr ?_
        rw [viewOf_append, msgsOf_evsFor, if_pos hout]
        exact this.congr (sameStores_refl p)
      · exact Or.inl ⟨hkv, by
          rw [msgsOf_evsFor, if_neg fun h => other_chan_ne hch hgw hkv hne hc (hoc.trans (hout.symm.trans h))]⟩
    · rw [msgsOf_evsFor]; split
      · next h => cases hout.symm.trans h; exact hb.guarded
      · trivial

theorem step_ok_epRm {p : Proc} {cl : List Nat} {evs : List Ev} {w : Nat} (hch : ChanInv p cl) (hg : Good p)
    (hst : Streams p evs) (hpre : Pre p (.epRm w)) : ∃ p' new, step p (.epRm w) = some (p', new) ∧ StepOK p' evs new := by
  obtain ⟨ei, hgw⟩ := Option.isSome_iff_exists.1 (show (p.eps.get w).isSome from hpre)
  have hmsgs : ∀ c, msgsOf (evsFor ei.output [Msg.epRm w] ++ closeEv ei.output) c = if ei.output = some c then [Msg.epRm w] else [] :=
    fun c => by rw [msgsOf_append, msgsOf_closeEv, List.append_nil, msgsOf_evsFor]
  refine ⟨_, _, step_epRm.2 ⟨ei, hgw, rfl, rfl⟩,
    streams_entries hst (hg.of_eps (sameStores_refl p) fun kv' hkv' e he => ⟨kv', (AMap.mem_del hkv').1, he⟩)
      (sameStores_refl p) (fun kv' hkv' c hc => ?_) fun c => ?_⟩
  · obtain ⟨hkv, hne⟩ := AMap.mem_del hkv'
    exact Or.inl ⟨hkv, by rw [hmsgs, if_neg (other_chan_ne hch hgw hkv hne hc)]⟩
  · rw [hmsgs]; split
    · exact ⟨trivial, trivial⟩
    · trivial

theorem step_ok_leave {p p' : Proc} {evs new : List Ev} {w uid : Nat} (hg : Good p)
    (hst : Streams p evs) (hs : step p (.leave w uid) = some (p', new)) : StepOK p' evs new := by
  have hdel : Good { p with eps := p.eps.del w } :=
    hg.of_eps (sameStores_refl _) fun kv' hkv' e he => ⟨kv', (AMap.mem_del hkv').1, he⟩
  have hclose : ∀ c c' : Nat, msgsOf [((c, none) : Ev)] c' = [] := fun c c' => msgsOf_closeEv (some c) c'
  have hquiet : StepOK { p with eps := p.eps.del w } evs [] :=
    streams_entries hst hdel (sameStores_refl _) (fun kv' hkv' c hc => Or.inl ⟨(AMap.mem_del hkv').1, rfl⟩) fun _ => trivial
  have hsame : StepOK p evs [] :=
    streams_entries hst hg (sameStores_refl _) (fun kv' hkv' c hc => Or.inl ⟨hkv', rfl⟩) fun _ => trivial
  rcases step_leave.1 hs with ⟨_, rfl, rfl⟩ | ⟨ei, hgw, ⟨_, rfl, rfl⟩ | ⟨c, _, ho, rfl, rfl⟩⟩
  · exact hsame
  · split
    · exact hquiet
    · exact hsame
  · split
    · exact streams_entries hst hdel (sameStores_refl _) (fun kv' hkv' c' hc => Or.inl ⟨(AMap.mem_del hkv').1, hclose c c'⟩)
        fun c' => by rw [hclose]; trivial
    · refine streams_entries hst (hg.of_eps (sameStores_refl _) fun kv' hkv' e he => ?_) (sameStores_refl _)
        (fun kv' hkv' c' hc => ?_) fun c' => by rw [hclose]; trivial
      · rcases AMap.mem_set hkv' with rfl | ⟨hkv, _⟩
        · exact ⟨(w, ei), AMap.mem_of_get hgw, he⟩
        · exact ⟨kv', hkv, he⟩
      · rcases AMap.mem_set hkv' with rfl | ⟨hkv, _⟩
        · cases hc
        · exact Or.inl ⟨hkv, hclose c c'⟩

theorem step_ok_join {p : Proc} {cl : List Nat} {evs : List Ev} {w : Nat} (uid : Nat) (hch : ChanInv p cl) (hg : Good p)
    (hst : Streams p evs) (hb : Bound p evs) : ∃ p' new, step p (.join w uid) = some (p', new) ∧ StepOK p' evs new := by
  obtain ⟨ei', ms, hm, hok, hgd⟩ := join_burst (w := w) uid hg
  obtain ⟨hout, hep, _⟩ := maybeSync_sameClient hm
  have hempty : viewOf evs p.nextCh = View.empty := by
    unfold viewOf; rw [msgsOf_nil_of_notin fun e he => Nat.ne_of_lt (hb e he)]; rfl
  have hmsgs : ∀ c all, msgsOf (closeEv (joinOld p w).output ++ tag p.nextCh all) c = if p.nextCh = c then all else [] :=
    fun c all => by
      rw [msgsOf_append, msgsOf_closeEv, List.nil_append]
      split
      · next h => subst h; exact msgsOf_tag _ _
      · next h => exact msgsOf_tag_ne h _
  have hst' : SameStores p { p with eps := p.eps.set w ei', nextCh := p.nextCh + 1 } := sameStores_refl p
  refine ⟨_, _, step_join.2 ⟨ei', ms, hm, rfl, rfl⟩,
    streams_entries hst (hg.of_eps hst' fun kv' hkv' e he => ?_) hst' (fun kv' hkv' c hc => ?_) fun c => ?_⟩
  · rcases AMap.mem_set hkv' with rfl | ⟨hkv, _⟩
    · have he' : (joinOld p w).ep = some e := hep.symm.trans he
      exact ⟨_, AMap.mem_of_get (joinOld_entry (Or.inr (by rw [he']; nofun))), he'⟩
    · exact ⟨kv', hkv, he⟩
  · rcases AMap.mem_set hkv' with rfl | ⟨hkv, _⟩
    · cases hout.symm.trans hc
      refine Or.inr ?_
      rw [viewOf_append, hmsgs, if_pos rfl, hempty]
      exact hok.congr hst'
    · exact Or.inl ⟨hkv, by rw [hmsgs, if_neg fun h => Nat.lt_irrefl _ (h ▸ (hch.live c (mem_chans.2 ⟨kv', hkv, hc⟩)).1)]⟩
  · rw [hmsgs]; split
    · next h => subst h; rw [hempty]; exact hgd
    · trivial

theorem deltaStore_eq {p : Proc} {id : Nat} {cur : List Nat} (a d : List Nat) (h : p.ipsets.get id = some cur) :
    deltaStore p id a d = some { p with ipsets := p.ipsets.set id (applyDelta cur a d) } := by
  unfold deltaStore; rw [h]

theorem step_ok {p : Proc} {cl : List Nat} {evs : List Ev} {op : Op} (hch : ChanInv p cl) (hg : Good p)
    (hst : Streams p evs) (hb : Bound p evs) (hu : NoStaleUID p) (hpre : Pre p op) :
    ∃ p' new, step p op = some (p', new) ∧ StepOK p' evs new := by
  cases op with
  | inSync =>
    cases hs : p.inSync with
    | true => exact ⟨_, _, step_inSync.2 (Or.inl ⟨hs, rfl, rfl⟩), streams_quiet hst hg rfl fun _ _ _ h => h⟩
    | false =>
      exact ⟨_, _, step_inSync.2 (Or.inr ⟨hs, rfl, rfl⟩), streams_broadcast (p' := { p with inSync := true }) (m := Msg.inSync)
        hch hst ⟨hg.epRefs, hg.polRefs, hg.profRefs, hg.sasK, hg.nssK⟩ (fun _ => trivial) rfl fun _ _ _ h => inSync_ok h⟩
  | sa id x =>
    exact ⟨_, _, rfl, streams_broadcast (p' := { p with sas := p.sas.set id x }) (m := Msg.saUpd id x) hch hst
      ⟨hg.epRefs, hg.polRefs, hg.profRefs, AMap.nodupKeys_set hg.sasK _ _, hg.nssK⟩ (fun _ => trivial) rfl
      fun _ _ _ h => saUpd_ok h id x⟩
  | saRm id =>
    exact ⟨_, _, rfl, streams_broadcast (p' := { p with sas := p.sas.del id }) (m := Msg.saRm id) hch hst
      ⟨hg.epRefs, hg.polRefs, hg.profRefs, AMap.nodupKeys_del hg.sasK _, hg.nssK⟩ (fun _ => trivial) rfl
      fun _ _ _ h => saRm_ok h id⟩
  | ns id x =>
    exact ⟨_, _, rfl, streams_broadcast (p' := { p with nss := p.nss.set id x }) (m := Msg.nsUpd id x) hch hst
      ⟨hg.epRefs, hg.polRefs, hg.profRefs, hg.sasK, AMap.nodupKeys_set hg.nssK _ _⟩ (fun _ => trivial) rfl
      fun _ _ _ h => nsUpd_ok h id x⟩
  | nsRm id =>
    exact ⟨_, _, rfl, streams_broadcast (p' := { p with nss := p.nss.del id }) (m := Msg.nsRm id) hch hst
      ⟨hg.epRefs, hg.polRefs, hg.profRefs, hg.sasK, AMap.nodupKeys_del hg.nssK _⟩ (fun _ => trivial) rfl
      fun _ _ _ h => nsRm_ok h id⟩
  | polRm id =>
    have hpre' : ∀ kv ∈ p.eps, id ∉ epPols kv.2.ep := hpre
    exact ⟨_, _, rfl, streams_quiet hst (hg.polDel hpre') rfl fun kv hkv v h =>
      h.of_stores (fun k hk => AMap.get_del_ne _ fun (e : k = id) => hpre' kv hkv (e ▸ hk)) (fun _ _ => rfl) (fun _ _ => rfl) rfl rfl rfl⟩
  | profRm id =>
    have hpre' : ∀ kv ∈ p.eps, id ∉ epProfs kv.2.ep := hpre
    exact ⟨_, _, rfl, streams_quiet hst (hg.profDel hpre') rfl fun kv hkv v h =>
      h.of_stores (fun _ _ => rfl) (fun k hk => AMap.get_del_ne _ fun (e : k = id) => hpre' kv hkv (e ▸ hk)) (fun _ _ => rfl) rfl rfl rfl⟩
  | ipRm id =>
    have hpre' : (∀ kv ∈ p.pols, id ∉ kv.2.refs) ∧ (∀ kv ∈ p.profs, id ∉ kv.2.refs) := hpre
    refine ⟨_, _, rfl, streams_quiet hst (hg.ipDel hpre'.1 hpre'.2) rfl fun kv hkv v h =>
      h.of_stores (fun _ _ => rfl) (fun _ _ => rfl) (fun x hx => AMap.get_del_ne _ fun (e : x = id) => ?_) rfl rfl rfl⟩
    -- a synced IP set is needed, so some stored policy or profile names it
    rcases (h.exact.ipsets x).1 hx with ⟨k, _, r, hr, hxr⟩ | ⟨k, _, r, hr, hxr⟩
    · exact hpre'.2 _ (AMap.mem_of_get hr) (e ▸ hxr)
    · exact hpre'.1 _ (AMap.mem_of_get hr) (e ▸ hxr)
  | pol id r =>
    have hg1 := hg.polSet (id := id) (r := r) hpre
    obtain ⟨eps', new, he, hok⟩ := streams_each hch hst hg1 rfl (refreshOne_keepsAll _ true id (Msg.polUpd id r))
      fun kv hkv v hok => refreshPol_ok hok (hg1.refsKnown hkv)
    exact ⟨_, _, step_pol.2 ⟨eps', he, rfl⟩, hok⟩
  | prof id r =>
    have hg1 := hg.profSet (id := id) (r := r) hpre
    obtain ⟨eps', new, he, hok⟩ := streams_each hch hst hg1 rfl (refreshOne_keepsAll _ false id (Msg.profUpd id r))
      fun kv hkv v hok => refreshProf_ok hok (hg1.refsKnown hkv)
    exact ⟨_, _, step_prof.2 ⟨eps', he, rfl⟩, hok⟩
  | ipset id ms =>
    cases hget : p.ipsets.get id with
    | none =>
      refine ⟨_, _, step_ipset.2 (Or.inl ⟨hget, rfl, rfl⟩), streams_quiet hst (hg.ipSet _ _) rfl fun kv hkv v h =>
        h.of_stores (fun _ _ => rfl) (fun _ _ => rfl) (fun x hx => AMap.get_set_ne _ _ fun (e : x = id) => ?_) rfl rfl rfl⟩
      -- a synced IP set is known to the Processor, this one is not
      have := hg.needed ((h.exact.ipsets x).1 hx)
      rw [e, hget] at this; cases this
    | some cur =>
      have hg1 := hg.ipSet id (dedup ms)
      obtain ⟨eps', new, he, hok⟩ := streams_each hch hst hg1 rfl (ipUpdOne_keepsAll _ id ms)
        fun kv hkv v hok => ipUpdOne_ok hok (hg1.refsKnown hkv)
      exact ⟨_, _, step_ipset.2 (Or.inr ⟨by rw [hget]; rfl, eps', he, rfl⟩), hok⟩
  | ipDelta id a d =>
    obtain ⟨cur, hcur⟩ := Option.isSome_iff_exists.1 (show (p.ipsets.get id).isSome from hpre)
    have hg1 := hg.ipSet id (applyDelta cur a d)
    obtain ⟨eps', new, he, hok⟩ := streams_each hch hst hg1 rfl (ipDeltaOne_keepsAll _ id a d)
      fun kv hkv v hok => ipDeltaOne_ok hcur hok (hg1.refsKnown hkv)
    exact ⟨_, _, step_ipDelta.2 ⟨_, eps', deltaStore_eq a d hcur, he, rfl⟩, hok⟩
  | ep w e => exact step_ok_ep hch hg hst hpre
  | epRm w => exact step_ok_epRm hch hg hst hpre
  | join w uid => exact step_ok_join uid hch hg hst hb
  | leave w uid =>
    obtain ⟨⟨p', new⟩, hs⟩ := leave_total (w := w) hu (show uid ≠ 0 from hpre)
    exact ⟨p', new, hs, step_ok_leave hg hst hs⟩

theorem chanInv_init : ChanInv Proc.init [] := ⟨List.nodup_nil, List.nodup_nil, nofun, nofun⟩

theorem inv_init : Inv Proc.init [] :=
  ⟨⟨[], chanInv_init⟩, ⟨nofun, nofun, nofun, List.nodup_nil, List.nodup_nil⟩, nofun, nofun⟩

def ClosedAll (evs : List Ev) : Prop := ∀ c, ClosedAlong View.empty (msgsOf evs c)

structure RunInv (p : Proc) (evs : List Ev) : Prop where
  inv : Inv p evs
  uid : NoStaleUID p
  closed : ClosedAll evs

theorem runInv_init : RunInv Proc.init [] := ⟨inv_init, nofun, fun _ => ⟨nofun, nofun, nofun, nofun⟩⟩

theorem step_inv {p : Proc} {evs : List Ev} {op : Op} (h : RunInv p evs) (hpre : Pre p op) :
    ∃ p' new, step p op = some (p', new) ∧ RunInv p' (evs ++ new) := by
  obtain ⟨⟨⟨cl, hch⟩, hg, hst, hb⟩, hu, hca⟩ := h
  obtain ⟨p', new, hs, hok⟩ := step_ok hch hg hst hb hu hpre
  have hc := step_chan hch hs
  obtain ⟨cl', _, hch'⟩ := hc.chan
  exact ⟨p', new, hs, ⟨⟨cl', hch'⟩, hok.good, hok.streams, fun e he =>
    (List.mem_append.1 he).elim (fun h => Nat.lt_of_lt_of_le (hb e h) hc.mono) (hc.bound e)⟩, hc.uid hu, fun c => by
      rw [msgsOf_append]
      exact closedAlong_append (hca c) (closedAlong_of_guarded (closedAlong_last (hca c)) (hok.guarded c))⟩

theorem respects_run {p : Proc} {ops : List Op} {pre : List Ev} (h : RunInv p pre) (hr : Respects p ops) :
    ∃ p' evs, Valid p ops p' evs ∧ RunInv p' (pre ++ evs) := by
  induction ops generalizing p pre with
  | nil => exact ⟨p, [], Valid.nil p, by rw [List.append_nil]; exact h⟩
  | cons op ops ih =>
    cases hr with
    | cons hpre hnext =>
      obtain ⟨p1, new, hs, h1⟩ := step_inv h hpre
      obtain ⟨p2, evs2, hv, r⟩ := ih h1 (hnext p1 new hs)
      exact ⟨p2, new ++ evs2, Valid.cons hpre hs hv, by rw [← List.append_assoc]; exact r⟩

theorem valid_run {p p' : Proc} {ops : List Op} {evs : List Ev} (hv : Valid p ops p' evs) : run p ops = some (p', evs) := by
  induction hv with
  | nil p => rfl
  | cons _ hs _ ih => exact run_cons.2 ⟨_, _, _, hs, ih, rfl⟩

theorem Valid.respects {p p' : Proc} {ops : List Op} {evs : List Ev} (hv : Valid p ops p' evs) : Respects p ops := by
  induction hv with
  | nil p => exact Respects.nil p
  | cons hpre hs _ ih => exact Respects.cons hpre fun p1 e1 hs1 => by cases hs.symm.trans hs1; exact ih

theorem valid_inv {p p' : Proc} {ops : List Op} {pre evs : List Ev} (h : RunInv p pre) (hv : Valid p ops p' evs) :
    RunInv p' (pre ++ evs) := by
  obtain ⟨p2, evs2, hv2, r⟩ := respects_run h hv.respects
  cases (valid_run hv).symm.trans (valid_run hv2)
  exact r

end CalicoVerif.C31
