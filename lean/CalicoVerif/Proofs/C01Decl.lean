import CalicoVerif.Proofs.C01Graph
import CalicoVerif.Proofs.C02Main
import CalicoVerif.Proofs.C01Rs
/-! The DECLARED state — what the calls made on the EventSequencer add up to.  Everything the graph
does to the sequencer goes through `Graph.emit`, so after a final flush the state accumulated from all emitted
messages is the declared one, provided the calls respect the IP-set protocol (`validAll` = `setValidAll`, proved
here from the rule scanner's bookkeeping, + `memberValidAll`, the member index's obligation).  Pass-through nodes
declare "last write per key": the last part of the file (`lastWrite`, `mget_foldl_setOrDel`; `GenInv`, carried per update by
`genInv_step`; `genWrites` and `dsRun_gen`, the datastore's pass-through table as a fold of the history's writes). -/
namespace CalicoVerif.C01
open CalicoVerif C02

def upAll (u : DP) (cs : List Call) : DP := cs.foldl upApply u

def decl (g : Graph) : DP := upAll {} g.calls

def validAll : DP → List Call → Prop
  | _, [] => True
  | u, c :: cs => upValid u c ∧ validAll (upApply u c) cs

theorem upAll_append (u : DP) (a b : List Call) : upAll u (a ++ b) = upAll (upAll u a) b := by
  simp [upAll, List.foldl_append]

theorem validAll_append {u : DP} {a b : List Call} :
    validAll u (a ++ b) ↔ validAll u a ∧ validAll (upAll u a) b := by
  induction a generalizing u with
  | nil => simp [validAll, upAll]
  | cons c cs ih => simp [validAll, upAll, ih, and_assoc]

theorem inv_calls {s : State} {u d : DP} (hi : Inv s u d) : ∀ (cs : List Call), validAll u cs →
    ∃ s', applyCalls s cs = some s' ∧ Inv s' (upAll u cs) d := by
  intro cs
  induction cs generalizing s u with
  | nil => intro _; exact ⟨s, rfl, hi⟩
  | cons c cs ih =>
    intro hv
    obtain ⟨s1, hc, hi1⟩ := hi.call c hv.1
    obtain ⟨s', h2, hi'⟩ := ih hi1 hv.2
    exact ⟨s', by simp [applyCalls, hc, h2], hi'⟩

/-- `Sends (fun _ => True) g g'` without the trivial conjunct; the proofs use `Sends` -/
def SeqRel (g g' : Graph) : Prop :=
  ∃ cs, g'.calls = g.calls ++ cs ∧ ∀ s, applyCalls g.seq cs = some s → g'.seq = s

theorem seqRel_inSync (g : Graph) : SeqRel g g.inSync :=
  let ⟨cs, sb⟩ := (Sends.of_eq rfl rfl : Sends (fun _ => True) g g.inSync); ⟨cs, sb.calls, sb.seq⟩

def SeqInv (g : Graph) (ms : List Msg) : Prop :=
  validAll {} g.calls → Inv g.seq (upAll {} g.calls) (({} : DP).applyAll ms)

theorem seqInv_rel {Q : Call → Prop} {g g' : Graph} {ms : List Msg} (hr : Sends Q g g') (hi : SeqInv g ms) :
    SeqInv g' ms := by
  obtain ⟨cs, sb⟩ := hr
  intro hv
  rw [sb.calls] at hv ⊢
  obtain ⟨hv1, hv2⟩ := validAll_append.mp hv
  obtain ⟨s', hs, hi'⟩ := inv_calls (hi hv1) cs hv2
  rw [sb.seq s' hs, upAll_append]
  exact hi'

theorem run_inv (H : IdFn) : ∀ (h : List HStep) (g : Graph) (ms0 : List Msg),
    SeqInv g ms0 → SeqInv (run H g h).1 (ms0 ++ (run H g h).2)
  | [], g, ms0, hi => by simpa [run] using hi
  | .upd u :: t, g, ms0, hi =>
    run_inv H t _ ms0 (seqInv_rel (Q := fun _ => True) (sends_step (fun _ _ => trivial) (fun _ _ => trivial)
      (fun _ _ => trivial) (fun _ => trivial) (fun _ _ => trivial) g u (fun _ _ => trivial)) hi)
  | .inSync :: t, g, ms0, hi => run_inv H t _ ms0 (seqInv_rel (Q := fun _ => True) (g' := g.inSync) (Sends.of_eq rfl rfl) hi)
  | .flush :: t, g, ms0, hi => by
    have h1 : SeqInv g.flush.1 (ms0 ++ g.flush.2) := by
      rw [flush_eq]
      intro hv
      have := (flush_ok _ _ _ (seqInv_rel (sends_flushResolver (Q := fun _ => True) (fun _ _ => trivial) g) hi hv)).2
      rwa [← applyAll_append] at this
    have := run_inv H t g.flush.1 (ms0 ++ g.flush.2) h1
    rw [List.append_assoc] at this
    exact this

theorem accumulate_eq_declared (H : IdFn) (s : Bool) (h : List HStep)
    (hv : validAll {} (run H (Graph.new s) (h ++ [.flush])).1.calls) :
    ({} : DP).applyAll (run H (Graph.new s) (h ++ [.flush])).2 = decl (run H (Graph.new s) (h ++ [.flush])).1 := by
  unfold decl
  have hi := run_inv H h (Graph.new s) [] (fun _ => Inv.init)
  rw [run_snoc_flush] at hv ⊢
  generalize (run H (Graph.new s) h).1 = g1 at hv hi ⊢
  generalize (run H (Graph.new s) h).2 = m1 at hi ⊢
  rw [flush_eq] at hv ⊢
  rw [applyAll_append]
  exact flush_synced (seqInv_rel (sends_flushResolver (Q := fun _ => True) (fun _ _ => trivial) g1) hi hv)

/-- the calls the modelled nodes make besides IP-set add/remove -/
def mainCall : Call → Bool
  | .memberAdded _ _ => true
  | .memberRemoved _ _ => true
  | .endpointUpdate _ _ => true
  | .policyActive _ _ => true
  | .policyInactive _ => true
  | .profileActive _ _ => true
  | .profileInactive _ => true
  | .genUpdate _ _ _ => true
  | .genRemove _ _ => true
  | _ => false

/-- the IP-set add/remove half of `validAll`, together with "no other kind of call is made" -/
def setValidAll : DP → List Call → Prop
  | _, [] => True
  | u, c :: cs =>
    (match c with
     | .ipsetAdded _ _ => upValid u c
     | .ipsetRemoved _ => upValid u c
     | c => mainCall c = true) ∧ setValidAll (upApply u c) cs

theorem setValidAll_append {u : DP} {a b : List Call} :
    setValidAll u (a ++ b) ↔ setValidAll u a ∧ setValidAll (upAll u a) b := by
  induction a generalizing u with
  | nil => simp [setValidAll, upAll]
  | cons c cs ih => simp [setValidAll, upAll, ih, and_assoc]

theorem decl_calls {g g' : Graph} {cs : List Call} (h : g'.calls = g.calls ++ cs) : decl g' = upAll (decl g) cs := by
  unfold decl; rw [h, upAll_append]

theorem decl_emit (g : Graph) (cs : List Call) : decl (g.emit cs) = upAll (decl g) cs := decl_calls (emit_calls g cs)

/-- calls that declare neither IP sets nor policies nor profiles -/
def quietCall : Call → Bool
  | .memberAdded _ _ => true
  | .memberRemoved _ _ => true
  | .endpointUpdate _ _ => true
  | .genUpdate _ _ _ => true
  | .genRemove _ _ => true
  | _ => false

structure SameMain (u u' : DP) : Prop where
  dom : ∀ id, (u'.ipsets id).isSome = (u.ipsets id).isSome
  pol : u'.pol = u.pol
  prof : u'.prof = u.prof

theorem SameMain.rfl' (u : DP) : SameMain u u := ⟨fun _ => rfl, rfl, rfl⟩
theorem SameMain.trans {a b c : DP} (h1 : SameMain a b) (h2 : SameMain b c) : SameMain a c :=
  ⟨fun id => (h2.dom id).trans (h1.dom id), h2.pol.trans h1.pol, h2.prof.trans h1.prof⟩

theorem sameMain_fupd (u : DP) {id : String} {f : String → Bool} (f' : String → Bool) (hu : u.ipsets id = some f) :
    SameMain u { u with ipsets := fupd u.ipsets id (some f') } := by
  refine ⟨fun id' => ?_, rfl, rfl⟩
  by_cases hid : id' = id
  · subst hid; simp [fupd, hu]
  · simp [fupd, hid]

theorem quiet_upApply (u : DP) {c : Call} (h : quietCall c = true) : SameMain u (upApply u c) := by
  cases c with
  | memberAdded id m | memberRemoved id m =>
    simp only [upApply]
    split
    · rename_i f hf; exact sameMain_fupd u _ hf
    · exact SameMain.rfl' u
  | endpointUpdate k v => cases v <;> exact ⟨fun _ => rfl, rfl, rfl⟩
  | genUpdate _ _ _ | genRemove _ _ => exact ⟨fun _ => rfl, rfl, rfl⟩
  | _ => cases h

theorem quiet_upAll : ∀ (cs : List Call) (u : DP), (∀ c ∈ cs, quietCall c = true) →
    SameMain u (upAll u cs) ∧ setValidAll u cs
  | [], u, _ => ⟨SameMain.rfl' u, trivial⟩
  | c :: cs, u, h => by
    have hc := h c (List.mem_cons_self ..)
    have h2 := quiet_upAll cs (upApply u c) (fun x hx => h x (List.mem_cons_of_mem _ hx))
    refine ⟨(quiet_upApply u hc).trans h2.1, ?_, h2.2⟩
    cases c <;> first | rfl | cases hc

structure QuietRel (g g' : Graph) : Prop where
  rs : g'.rs = g.rs
  active : g'.active = g.active
  calls : ∃ cs, g'.calls = g.calls ++ cs ∧ ∀ c ∈ cs, quietCall c = true

theorem QuietRel.rfl' (g : Graph) : QuietRel g g := ⟨rfl, rfl, [], by simp, by simp⟩

theorem quietRel_emit (g : Graph) (cs : List Call) (h : ∀ c ∈ cs, quietCall c = true) : QuietRel g (g.emit cs) :=
  ⟨emit_rs g cs, emit_active g cs, cs, emit_calls g cs, h⟩

theorem quietRel_idxOp (g : Graph) (op : C04.Op Str) : QuietRel g (g.idxOp op) := by
  refine ⟨idxOp_rs g op, idxOp_active g op, _, idxOp_calls g op, ?_⟩
  intro c hc
  obtain ⟨s, m, rfl | rfl⟩ := mem_idxCalls hc <;> rfl

theorem decl_quietRel {g g' : Graph} (h : QuietRel g g') :
    SameMain (decl g) (decl g') ∧ (setValidAll {} g.calls → setValidAll {} g'.calls) := by
  obtain ⟨cs, e, q⟩ := h.calls
  have := quiet_upAll cs (decl g) q
  rw [decl_calls e, e]
  exact ⟨this.1, fun hv => setValidAll_append.mpr ⟨hv, this.2⟩⟩

def rulesOf (H : IdFn) (r : RulesIn) : Rules := ⟨r.tag, refsOf H r⟩

structure RsInv (H : IdFn) (g : Graph) : Prop where
  nodup : g.rs.refs.Nodup
  refs : ∀ key uid, (key, uid) ∈ g.rs.refs ↔
    ∃ r, mget g.active key = some r ∧ (mget (currentSets H r) uid).isSome = true
  dom : ∀ uid, ((decl g).ipsets uid).isSome = g.rs.inUse uid
  pol : ∀ k, (decl g).pol k = (mget g.active (.pol k)).map (rulesOf H)
  prof : ∀ p, (decl g).prof p = (mget g.active (.prof p)).map (rulesOf H)
  setValid : setValidAll {} g.calls

theorem rsInv_quietRel {H : IdFn} {g g' : Graph} (h : QuietRel g g') (hi : RsInv H g) : RsInv H g' := by
  obtain ⟨hm, hv⟩ := decl_quietRel h
  refine ⟨h.rs ▸ hi.nodup, ?_, ?_, ?_, ?_, hv hi.setValid⟩
  · intro key uid; rw [h.rs, h.active]; exact hi.refs key uid
  · intro uid; rw [hm.dom, h.rs]; exact hi.dom uid
  · intro k; rw [hm.pol, h.active]; exact hi.pol k
  · intro p; rw [hm.prof, h.active]; exact hi.prof p

theorem rsInv_frame {H : IdFn} {g g' : Graph} (hi : RsInv H g) (h1 : g'.rs = g.rs) (h2 : g'.active = g.active)
    (h3 : g'.calls = g.calls) : RsInv H g' := rsInv_quietRel ⟨h1, h2, [], by simp [h3], by simp⟩ hi

theorem rsInv_new (H : IdFn) (s : Bool) : RsInv H (Graph.new s) := by
  refine ⟨by simp [Graph.new], ?_, ?_, ?_, ?_, trivial⟩
  · intro key uid; simp [Graph.new]
  · intro uid; simp [decl, upAll, Graph.new, RuleScanner.inUse, RuleScanner.uidInUse]
  · intro k; simp [decl, upAll, Graph.new]
  · intro p; simp [decl, upAll, Graph.new]

def RsEvent.uid : RsEvent → String
  | .ipsetActive uid _ => uid
  | .ipsetInactive uid => uid

def RsEvent.on : RsEvent → Bool
  | .ipsetActive .. => true
  | .ipsetInactive _ => false

structure OnRsDecl (g : Graph) (e : RsEvent) : Prop where
  pol : (decl (g.onRsEvent e)).pol = (decl g).pol
  prof : (decl (g.onRsEvent e)).prof = (decl g).prof
  dom : ∀ u, ((decl (g.onRsEvent e)).ipsets u).isSome = if u = e.uid then e.on else ((decl g).ipsets u).isSome
  valid : ((decl g).ipsets e.uid).isSome = !e.on → setValidAll {} g.calls → setValidAll {} (g.onRsEvent e).calls

theorem onRsEvent_decl (g : Graph) (e : RsEvent) : OnRsDecl g e := by
  cases e with
  | ipsetActive uid d =>
    obtain ⟨t, et⟩ : ∃ t, g.onRsEvent (.ipsetActive uid d) =
        (g.emit [.ipsetAdded uid t]).idxOp (.updateIPSet uid d.sel d.proto d.port) := ⟨_, rfl⟩
    obtain ⟨hm, hv⟩ := decl_quietRel (quietRel_idxOp (g.emit [.ipsetAdded uid t]) (.updateIPSet uid d.sel d.proto d.port))
    have hd : decl (g.emit [.ipsetAdded uid t]) = upApply (decl g) (.ipsetAdded uid t) := decl_emit g _
    refine ⟨?_, ?_, fun u => ?_, fun hnone hsv => ?_⟩ <;> rw [et]
    · rw [hm.pol, hd]; rfl
    · rw [hm.prof, hd]; rfl
    · rw [hm.dom, hd]
      by_cases hu : u = uid <;> simp [upApply, fupd, hu, RsEvent.uid, RsEvent.on]
    · apply hv
      rw [emit_calls]
      exact setValidAll_append.mpr ⟨hsv, by simpa [RsEvent.uid, RsEvent.on, decl, upValid] using hnone, trivial⟩
  | ipsetInactive uid =>
    have et : g.onRsEvent (.ipsetInactive uid) = (g.idxOp (.deleteIPSet uid)).emit [.ipsetRemoved uid] := rfl
    obtain ⟨hm, hv⟩ := decl_quietRel (quietRel_idxOp g (.deleteIPSet uid))
    have hd : decl ((g.idxOp (.deleteIPSet uid)).emit [.ipsetRemoved uid]) =
        upApply (decl (g.idxOp (.deleteIPSet uid))) (.ipsetRemoved uid) := decl_emit _ _
    refine ⟨?_, ?_, fun u => ?_, fun hsome hsv => ?_⟩ <;> rw [et]
    · rw [hd]; exact hm.pol
    · rw [hd]; exact hm.prof
    · rw [hd]
      by_cases hu : u = uid
      · simp [upApply, fupd, hu, RsEvent.uid, RsEvent.on]
      · simp only [upApply, fupd, hu, RsEvent.uid, if_false]; exact hm.dom u
    · rw [emit_calls]
      refine setValidAll_append.mpr ⟨hv hsv, ?_, trivial⟩
      show ((decl (g.idxOp (.deleteIPSet uid))).ipsets uid).isSome = true
      rw [hm.dom]; exact hsome

theorem evReplay_fold {P : Graph → Prop}
    (hact : ∀ g uid d, (decl g).ipsets uid = none → P g → P (g.onRsEvent (.ipsetActive uid d)))
    (hinact : ∀ g uid, ((decl g).ipsets uid).isSome = true → P g → P (g.onRsEvent (.ipsetInactive uid)))
    {f f' : InUse} {evs : List RsEvent} (hr : EvReplay f evs f') :
    ∀ g : Graph, (∀ u, ((decl g).ipsets u).isSome = f u) → P g →
      (∀ u, ((decl (evs.foldl Graph.onRsEvent g)).ipsets u).isSome = f' u) ∧ P (evs.foldl Graph.onRsEvent g) := by
  induction hr with
  | nil f => intro g hd hp; exact ⟨hd, hp⟩
  | @active f uid d evs f' hn _ ih =>
    intro g hd hp
    have hnone : (decl g).ipsets uid = none :=
      Option.not_isSome_iff_eq_none.mp (by rw [hd uid, hn]; simp)
    exact ih _ (fun u => by rw [(onRsEvent_decl g (.ipsetActive uid d)).dom u, hd u]; rfl) (hact g uid d hnone hp)
  | @inactive f uid evs f' hm _ ih =>
    intro g hd hp
    exact ih _ (fun u => by rw [(onRsEvent_decl g (.ipsetInactive uid)).dom u, hd u]; rfl)
      (hinact g uid (by rw [hd uid]; exact hm) hp)

structure RsDecl (f : InUse) (g g' : Graph) : Prop where
  pol : (decl g').pol = (decl g).pol
  prof : (decl g').prof = (decl g).prof
  dom : ∀ u, ((decl g').ipsets u).isSome = f u
  valid : setValidAll {} g'.calls

theorem foldl_onRsEvent_decl {f f' : InUse} {evs : List RsEvent} (hr : EvReplay f evs f') (g : Graph)
    (hd : ∀ u, ((decl g).ipsets u).isSome = f u) (hv : setValidAll {} g.calls) :
    RsDecl f' g (evs.foldl Graph.onRsEvent g) :=
  have ⟨hdom, h⟩ := evReplay_fold
    (P := fun g' => (decl g').pol = (decl g).pol ∧ (decl g').prof = (decl g).prof ∧ setValidAll {} g'.calls)
    (fun g' uid d hn h =>
      let k := onRsEvent_decl g' (.ipsetActive uid d)
      ⟨k.pol.trans h.1, k.prof.trans h.2.1, k.valid (by show ((decl g').ipsets uid).isSome = _; rw [hn]; rfl) h.2.2⟩)
    (fun g' uid hs h =>
      let k := onRsEvent_decl g' (.ipsetInactive uid)
      ⟨k.pol.trans h.1, k.prof.trans h.2.1, k.valid hs h.2.2⟩) hr g hd ⟨rfl, rfl, hv⟩
  ⟨h.1, h.2.1, hdom, h.2.2⟩

theorem mkeys_currentSets_nodup (H : IdFn) (r : RulesIn) : (mkeys (currentSets H r)).Nodup := by
  unfold currentSets
  exact List.foldlRecOn _ _ (motive := fun m => (mkeys m).Nodup) (by simp [mkeys]) (fun _ h _ _ => mkeys_mset_nodup h)

theorem mkeys_curOf_nodup (H : IdFn) (rules : Option RulesIn) : (mkeys (curOf H rules)).Nodup := by
  cases rules with
  | none => simp [mkeys, curOf]
  | some r => exact mkeys_currentSets_nodup H r

theorem upApply_rulesCall (H : IdFn) (u : DP) (key : RulesId) (rules : Option RulesIn) :
    (upApply u (rulesCall H key rules)).ipsets = u.ipsets ∧
    (∀ k, (upApply u (rulesCall H key rules)).pol k = if RulesId.pol k = key then rules.map (rulesOf H) else u.pol k) ∧
    (∀ p, (upApply u (rulesCall H key rules)).prof p = if RulesId.prof p = key then rules.map (rulesOf H) else u.prof p) := by
  cases key with
  | pol k0 =>
    refine ⟨by cases rules <;> rfl, fun k => ?_, fun p => by cases rules <;> simp [rulesCall, upApply]⟩
    by_cases hk : k = k0 <;> cases rules <;> simp [rulesCall, upApply, fupd, rulesOf, hk]
  | prof p0 =>
    refine ⟨by cases rules <;> rfl, fun k => by cases rules <;> simp [rulesCall, upApply], fun p => ?_⟩
    by_cases hp : p = p0 <;> cases rules <;> simp [rulesCall, upApply, fupd, rulesOf, hp]

theorem rsInv_scanRules {H : IdFn} {g : Graph} (hi : RsInv H g) (key : RulesId) (rules : Option RulesIn) :
    RsInv H (g.scanRules H key rules) := by
  have hspec := updateRules_spec g.rs key (curOf H rules) hi.nodup
  -- the reference-count update and its events, then the final RulesUpdateCallbacks call
  have fd := foldl_onRsEvent_decl hspec.2
    { g with rs := (g.rs.updateRules key (curOf H rules)).1, active := setOrDel key rules g.active } hi.dom hi.setValid
  rw [← rsUpdate_eq] at fd
  obtain ⟨cips, cpol, cprof⟩ := upApply_rulesCall H (decl (g.rsUpdate H key rules)) key rules
  have hd : decl (g.scanRules H key rules) = upApply (decl (g.rsUpdate H key rules)) (rulesCall H key rules) :=
    decl_emit _ _
  refine ⟨?_, ?_, ?_, ?_, ?_, ?_⟩
  · rw [scanRules_rs]; exact updateRules_nodup g.rs key (curOf H rules) hi.nodup (mkeys_curOf_nodup H rules)
  · intro key' uid
    rw [scanRules_rs, scanRules_active, hspec.1 key' uid, mget_setOrDel]
    by_cases hk : key' = key
    · subst hk
      cases rules <;> simp [curOf]
    · simp only [hk, if_false]; exact hi.refs key' uid
  · intro uid
    rw [hd, cips, scanRules_rs]
    exact fd.dom uid
  · intro k
    rw [hd, cpol, scanRules_active, mget_setOrDel, fd.pol]
    split
    · rfl
    · exact hi.pol k
  · intro p
    rw [hd, cprof, scanRules_active, mget_setOrDel, fd.prof]
    split
    · rfl
    · exact hi.prof p
  · show setValidAll {} ((g.rsUpdate H key rules).emit [rulesCall H key rules]).calls
    rw [emit_calls]
    refine setValidAll_append.mpr ⟨fd.valid, ?_, trivial⟩
    cases key <;> cases rules <;> rfl

theorem rsInv_tower (H : IdFn) : Tower H (fun _ => True) (fun c => quietCall c = true) (RsInv H) :=
  Tower.of_scan (fun hi h1 h2 _ _ h3 => rsInv_frame hi h1 h2 h3)
    (fun key rules hi => rsInv_scanRules hi key rules)
    (fun op _ hi => rsInv_quietRel (quietRel_idxOp _ op) hi)
    (fun cs hcs hi => rsInv_quietRel (quietRel_emit _ cs hcs) hi)

theorem passthruCall_quiet (c : GenCat) (key : String) (v : Option String) : quietCall (passthruCall c key v) = true := by
  cases v <;> rfl

theorem rsInv_run {H : IdFn} (h : List HStep) {g : Graph} (hi : RsInv H g) : RsInv H (run H g h).1 :=
  (rsInv_tower H).run (fun hi => rsInv_frame hi rfl rfl rfl) passthruCall_quiet (fun _ _ => rfl)
    h (fun st _ => okStep_true st) hi

/-- the member add/remove half of `validAll` -/
def memberValidAll : DP → List Call → Prop
  | _, [] => True
  | u, c :: cs =>
    (match c with
     | .memberAdded _ _ => upValid u c
     | .memberRemoved _ _ => upValid u c
     | _ => True) ∧ memberValidAll (upApply u c) cs

theorem validAll_of (u : DP) (cs : List Call) (h1 : setValidAll u cs) (h2 : memberValidAll u cs) : validAll u cs := by
  induction cs generalizing u with
  | nil => trivial
  | cons c cs ih =>
    refine ⟨?_, ih _ h1.2 h2.2⟩
    have a := h1.1
    have b := h2.1
    cases c <;> first | exact a | exact b | trivial

theorem upAll_vtep_route : ∀ (cs : List Call) (u : DP), setValidAll u cs →
    (upAll u cs).vtep = u.vtep ∧ (upAll u cs).route = u.route
  | [], u, _ => ⟨rfl, rfl⟩
  | c :: cs, u, h => by
    have ih := upAll_vtep_route cs (upApply u c) h.2
    have hc : (upApply u c).vtep = u.vtep ∧ (upApply u c).route = u.route := by
      have a := h.1
      cases c with
      | memberAdded id m | memberRemoved id m => simp only [upApply]; split <;> exact ⟨rfl, rfl⟩
      | endpointUpdate k v => cases v <;> exact ⟨rfl, rfl⟩
      | vtepUpdate _ _ | vtepRemove _ | routeUpdate _ _ | routeRemove _ => exact absurd a (by simp [mainCall])
      | _ => exact ⟨rfl, rfl⟩
    exact ⟨ih.1.trans hc.1, ih.2.trans hc.2⟩

/-- the last update written for key `k` (`none` = never written; `some none` = last write was a delete) -/
def lastWrite {κ β : Type} [DecidableEq κ] : List (κ × Option β) → κ → Option (Option β)
  | [], _ => none
  | (k', v) :: t, k => match lastWrite t k with
    | some w => some w
    | none => if k' = k then some v else none

theorem mget_foldl_setOrDel {κ β : Type} [DecidableEq κ] (k : κ) : ∀ (h : List (κ × Option β)) (m : List (κ × β)),
    mget (h.foldl (fun m u => setOrDel u.1 u.2 m) m) k = match lastWrite h k with
      | some w => w
      | none => mget m k
  | [], m => rfl
  | (k', v) :: t, m => by
    simp only [List.foldl_cons, lastWrite]
    rw [mget_foldl_setOrDel k t]
    cases lastWrite t k with
    | some w => rfl
    | none =>
      simp only []
      rw [mget_setOrDel]
      by_cases hk : k' = k
      · have : k = k' := hk.symm
        simp [hk]
      · have : ¬ k = k' := fun e => hk e.symm
        simp [hk, this]

theorem passthru_node_history_independent {κ β : Type} [DecidableEq κ] (h : List (κ × Option β)) (k : κ) :
    mget (h.foldl (fun m u => setOrDel u.1 u.2 m) []) k = (lastWrite h k).getD none := by
  rw [mget_foldl_setOrDel]
  cases lastWrite h k <;> rfl

theorem passthru_node_same_last_write {κ β : Type} [DecidableEq κ] (h h' : List (κ × Option β))
    (hl : ∀ k, lastWrite h k = lastWrite h' k) (k : κ) :
    mget (h.foldl (fun m u => setOrDel u.1 u.2 m) []) k = mget (h'.foldl (fun m u => setOrDel u.1 u.2 m) []) k := by
  rw [passthru_node_history_independent, passthru_node_history_independent, hl k]

def isGen : Call → Bool
  | .genUpdate _ _ _ => true
  | .genRemove _ _ => true
  | _ => false

theorem upAll_nogen : ∀ (cs : List Call) (u : DP), (∀ c ∈ cs, isGen c = false) → (upAll u cs).gen = u.gen
  | [], _, _ => rfl
  | c :: cs, u, h => by
    have hc := h c (List.mem_cons_self ..)
    have ih := upAll_nogen cs (upApply u c) (fun x hx => h x (List.mem_cons_of_mem _ hx))
    have h1 : (upApply u c).gen = u.gen := by
      cases c with
      | genUpdate _ _ _ => simp [isGen] at hc
      | genRemove _ _ => simp [isGen] at hc
      | memberAdded id m => simp only [upApply]; split <;> rfl
      | memberRemoved id m => simp only [upApply]; split <;> rfl
      | endpointUpdate k v => cases v <;> rfl
      | _ => rfl
    show (upAll (upApply u c) cs).gen = _
    rw [ih, h1]

theorem noGen_decl {g g' : Graph} (h : Sends (fun c => isGen c = false) g g') : (decl g').gen = (decl g).gen := by
  obtain ⟨cs, sb⟩ := h
  rw [decl_calls sb.calls]
  exact upAll_nogen cs _ sb.all

def GenInv (g : Graph) (ds : DS) : Prop := ∀ c k, (decl g).gen c k = mget ds.gen (c, k)

theorem genInv_noGen {g g' : Graph} {ds ds' : DS} (hi : GenInv g ds) (h : Sends (fun c => isGen c = false) g g')
    (hd : ds'.gen = ds.gen) : GenInv g' ds' := by
  intro c k; rw [noGen_decl h, hd]; exact hi c k

theorem genInv_step (H : IdFn) {g : Graph} {ds : DS} (hi : GenInv g ds) (u : Upd) : GenInv (g.step H u) (ds.apply u) := by
  have other : dirCalls u = [] → (ds.apply u).gen = ds.gen → GenInv (g.step H u) (ds.apply u) := fun h1 h2 =>
    genInv_noGen hi (sends_step (fun _ _ => rfl) (fun _ _ => rfl) (fun _ _ => rfl) (fun _ => rfl)
      (fun key r => by cases key <;> cases r <;> rfl) g u (by rw [h1]; exact fun _ h => nomatch h)) h2
  cases u with
  | passthru c key v =>
    intro c' k'
    rw [show g.step H (.passthru c key v) = g.emit [passthruCall c key v] from step_eq H g _]
    simp only [DS.apply]
    rw [decl_emit, mget_setOrDel]
    by_cases h : (c', k') = (c, key)
    · cases h
      cases v <;> simp [passthruCall, upAll, upApply, fupd]
    · rw [if_neg h, ← hi c' k']
      have hne : ¬ (c' = c ∧ k' = key) := fun e => h (by rw [e.1, e.2])
      cases v <;> simp only [passthruCall, upAll, List.foldl_cons, List.foldl_nil, upApply] <;>
        by_cases hc : c' = c <;> simp_all [fupd]
  | _ => exact other rfl rfl

theorem genInv_flush {g : Graph} {ds : DS} (hi : GenInv g ds) : GenInv g.flush.1 ds := by
  rw [flush_eq]
  exact genInv_noGen (g' := g.flushResolver) hi (sends_flushResolver (fun _ _ => rfl) g) rfl

theorem genInv_run (H : IdFn) (h : List HStep) {g : Graph} {ds : DS} (hi : GenInv g ds) :
    GenInv (run H g h).1 (dsRun ds h) :=
  run_induction (P := fun ds g => GenInv g ds) (S := fun _ => True) (fun u _ hi => genInv_step H hi u)
    (fun hi => genInv_noGen hi (Sends.of_eq rfl rfl) rfl) genInv_flush h (fun _ _ => trivial) hi

theorem genInv_new (s : Bool) : GenInv (Graph.new s) {} := by
  intro c k; simp [decl, upAll, Graph.new, mget]

def genWrites : List HStep → List ((GenCat × String) × Option String)
  | [] => []
  | .upd (.passthru c k v) :: t => ((c, k), v) :: genWrites t
  | _ :: t => genWrites t

theorem dsRun_gen (h : List HStep) : ∀ ds : DS,
    (dsRun ds h).gen = (genWrites h).foldl (fun m u => setOrDel u.1 u.2 m) ds.gen := by
  induction h with
  | nil => intro ds; rfl
  | cons st t ih =>
    intro ds
    simp only [dsRun, List.foldl_cons] at ih ⊢
    rw [ih]
    cases st with
    | upd u => cases u <;> rfl
    | inSync => rfl
    | flush => rfl

end CalicoVerif.C01
