import CalicoVerif.Proofs.C01Mem
import CalicoVerif.Proofs.C01MemTab
/-! C01 helper: C04's `memberSpec` for the member index's tables IS the specification's `DS.members`, and the
declared IP sets are exactly the specification's `DS.activeSets`. -/
namespace CalicoVerif.C01
open CalicoVerif C02 C04.C01Ext

theorem findSome_dedup {α β : Type} [DecidableEq α] (f : α → Option β) : ∀ (ps acc : List α),
    (ps.foldl (fun acc p => if p ∈ acc then acc else acc ++ [p]) acc).findSome? f = (acc ++ ps).findSome? f
  | [], acc => by simp
  | p :: t, acc => by
    simp only [List.foldl_cons]
    by_cases hp : p ∈ acc
    · simp only [hp, if_true]
      rw [findSome_dedup f t acc, List.findSome?_append, List.findSome?_append]
      cases ha : acc.findSome? f with
      | some b => rfl
      | none =>
        have := (List.findSome?_eq_none_iff.mp ha) p hp
        simp only [Option.none_or, List.findSome?_cons, this]
    · simp only [hp, if_false]
      rw [findSome_dedup f t (acc ++ [p])]
      simp

theorem labelsFn_dedup (a : C04.Labels) (F : String → C04.Labels) (ps : List String) :
    labelsFn (a ++ (C04.dedupParents ps).flatMap F) = labelsFn (a ++ ps.flatMap F) := by
  funext k
  unfold labelsFn
  rw [List.find?_append, List.find?_append, List.find?_flatMap, List.find?_flatMap]
  unfold C04.dedupParents
  rw [findSome_dedup]
  simp

theorem matchSel_dedup (sel : Str) (a : C04.Labels) (F : String → C04.Labels) (ps : List String) :
    matchSel sel (a ++ (C04.dedupParents ps).flatMap F) = matchSel sel (a ++ ps.flatMap F) := by
  unfold matchSel
  rw [labelsFn_dedup]

def ctrEp (v : EpVal) : C04.EpData :=
  { labels := v.labels, nets := C04.extractIPs v.nets, ports := v.ports, parents := v.profiles, cached := [] }
def ctrNs (n : NetSetVal) : C04.EpData :=
  { labels := n.labels, nets := C04.extractNetSet n.nets, ports := [], parents := n.profiles, cached := [] }

theorem contributors_eq (ds : DS) :
    ds.contributors = ds.eps.map (fun p => ctrEp p.2.2.2) ++ ds.netsets.map (fun p => ctrNs p.2) := rfl

/-- An index entry `e'` and a contributor `e` of the specification that stand for the same endpoint / network set
(the index stores the parents de-duplicated). -/
structure Corr (e' e : C04.EpData) : Prop where
  labels : e'.labels = e.labels
  parents : e'.parents = C04.dedupParents e.parents
  nets : e'.nets = e.nets
  ports : e'.ports = e.ports

theorem Corr.transfer {N : Numbering} {H : IdFn} {s : Bool} {g : Graph} {ds : DS} (hx : XInv N H s g ds)
    {e' e : C04.EpData} (hc : Corr e' e) (sel : Str) {d d2 : C04.IpSetData Str} (h3 : d.proto = d2.proto)
    (h4 : d.port = d2.port) :
    matchSel sel (C04.effLabels g.idx e') = matchSel sel (ds.effLabels e.labels e.parents) ∧
      C04.contrib e' d = C04.contrib e d2 := by
  constructor
  · unfold C04.effLabels DS.effLabels
    rw [hc.labels, hc.parents, show C04.parentLabels g.idx = fun q => (mget ds.profLabels q).getD [] from funext hx.parents]
    exact matchSel_dedup sel e.labels _ e.parents
  · unfold C04.contrib C04.lookupNamedPorts
    rw [hc.nets, hc.ports, h3, h4]

/-- The one place where endpoints and network sets are told apart. -/
theorem entries_corr {N : Numbering} {H : IdFn} {s : Bool} {g : Graph} {ds : DS} (hx : XInv N H s g ds)
    (hinv : C04.Inv matchSel g.idx) (hn : DSOk N ds) :
    (∀ p ∈ g.idx.eps, ∃ e ∈ ds.contributors, Corr p.2 e) ∧ ∀ e ∈ ds.contributors, ∃ p ∈ g.idx.eps, Corr p.2 e := by
  -- a cell of `XInv`: the entry under `k` is the image `F x` of the datastore's value, whose contributor is `G x`
  have cell : ∀ {α : Type} {k : String} {o : Option α} {F G : α → C04.EpData},
      epsView g.idx k = o.map F → (∀ x, Corr (F x) (G x)) →
      (C04.alGet k g.idx.eps).isSome = o.isSome ∧
      ∀ e' x, C04.alGet k g.idx.eps = some e' → o = some x → Corr e' (G x) := by
    intro α k o F G h hFG
    unfold epsView at h
    refine ⟨by simpa using congrArg Option.isSome h, fun e' x h1 h2 => ?_⟩
    rw [h1, h2] at h
    have e : stripE e' = F x := Option.some.inj h
    exact ⟨(congrArg (·.labels) e).trans (hFG x).labels, (congrArg (·.parents) e).trans (hFG x).parents,
      (congrArg (·.nets) e).trans (hFG x).nets, (congrArg (·.ports) e).trans (hFG x).ports⟩
  have hE : ∀ x : EpKey × Bool × EpVal, Corr (epOf x.2.2) (ctrEp x.2.2) := fun _ => ⟨rfl, rfl, rfl, rfl⟩
  have hS : ∀ x : NetSetVal, Corr (nsOf x) (ctrNs x) := fun _ => ⟨rfl, rfl, rfl, rfl⟩
  rw [contributors_eq]
  constructor
  · intro p hp
    have hget := C04.alGet_of_mem hinv.core.epsNodup hp
    rcases hx.range p.1 (by unfold epsView; rw [hget]; rfl) with ⟨nid, hk⟩ | ⟨name, hk⟩
    · obtain ⟨c1, c2⟩ := cell (hx.eps nid) hE
      obtain ⟨x, hxe⟩ := Option.isSome_iff_exists.1 (c1 ▸ hk ▸ hget ▸ rfl : (mget ds.eps nid).isSome = true)
      exact ⟨_, List.mem_append.mpr (.inl (List.mem_map.mpr ⟨(nid, x), mem_of_mget hxe, rfl⟩)), c2 _ x (hk ▸ hget) hxe⟩
    · obtain ⟨c1, c2⟩ := cell (hx.nets name) hS
      obtain ⟨x, hxe⟩ := Option.isSome_iff_exists.1 (c1 ▸ hk ▸ hget ▸ rfl : (mget ds.netsets name).isSome = true)
      exact ⟨_, List.mem_append.mpr (.inr (List.mem_map.mpr ⟨(name, x), mem_of_mget hxe, rfl⟩)), c2 _ x (hk ▸ hget) hxe⟩
  · intro e he
    rcases List.mem_append.mp he with he | he
    · obtain ⟨⟨nid, x⟩, hmem, rfl⟩ := List.mem_map.mp he
      obtain ⟨c1, c2⟩ := cell (hx.eps nid) hE
      have hxe := mget_of_mem hn.eps hmem
      obtain ⟨e', hget⟩ := Option.isSome_iff_exists.1 (c1.trans (hxe ▸ rfl))
      exact ⟨_, C04.alGet_some_mem hget, c2 e' x hget hxe⟩
    · obtain ⟨⟨name, x⟩, hmem, rfl⟩ := List.mem_map.mp he
      obtain ⟨c1, c2⟩ := cell (hx.nets name) hS
      have hxe := mget_of_mem hn.netsets hmem
      obtain ⟨e', hget⟩ := Option.isSome_iff_exists.1 (c1.trans (hxe ▸ rfl))
      exact ⟨_, C04.alGet_some_mem hget, c2 e' x hget hxe⟩

theorem contributed_iff {N : Numbering} {H : IdFn} {s : Bool} {g : Graph} {ds : DS} (hx : XInv N H s g ds)
    (hinv : C04.Inv matchSel g.idx) (hn : DSOk N ds) {id : String} {d : IpSetDef}
    (hset : setView g.idx id = some (trD d)) (m : C04.Member) :
    C04.contributed matchSel g.idx id m ↔
      ∃ e ∈ ds.contributors, matchSel d.sel (ds.effLabels e.labels e.parents) = true ∧
        m ∈ C04.contrib e { sel := d.sel, proto := d.proto, port := d.port, refc := [] } := by
  -- the index's definition of `id` is `d`'s
  obtain ⟨d', hd', h1, h2, h3⟩ : ∃ d', C04.alGet id g.idx.ipsets = some d' ∧ d'.sel = d.sel ∧ d'.proto = d.proto ∧
      d'.port = d.port := by
    unfold setView at hset
    cases hd' : C04.alGet id g.idx.ipsets with
    | none => rw [hd'] at hset; cases hset
    | some d' =>
      rw [hd'] at hset
      simp only [Option.map_some, Option.some.injEq, triple, trD, Prod.mk.injEq] at hset
      exact ⟨d', rfl, hset⟩
  obtain ⟨hfw, hbw⟩ := entries_corr hx hinv hn
  unfold C04.contributed
  simp only [hd', Option.some.injEq, exists_eq_left']
  constructor
  · rintro ⟨p, hp, hm, hc⟩
    obtain ⟨e, he, hcor⟩ := hfw p hp
    obtain ⟨t1, t2⟩ := hcor.transfer hx d'.sel (d2 := { sel := d.sel, proto := d.proto, port := d.port, refc := [] }) h2 h3
    exact ⟨e, he, by rw [← h1, ← t1]; exact hm, t2 ▸ hc⟩
  · rintro ⟨e, he, hm, hc⟩
    obtain ⟨p, hp, hcor⟩ := hbw e he
    obtain ⟨t1, t2⟩ := hcor.transfer hx d'.sel (d2 := { sel := d.sel, proto := d.proto, port := d.port, refc := [] }) h2 h3
    exact ⟨p, hp, by rw [t1, h1]; exact hm, t2 ▸ hc⟩

theorem memberSpec_iff {N : Numbering} {H : IdFn} {s : Bool} {g : Graph} {ds : DS} (hx : XInv N H s g ds)
    (hinv : C04.Inv matchSel g.idx) (hn : DSOk N ds) {id : String} {d : IpSetDef}
    (hset : setView g.idx id = some (trD d)) (m : C04.Member) :
    C04.memberSpec matchSel g.idx id m ↔ m ∈ ds.members s d := by
  have hall : ∀ m', m' ∈ (ds.contributors.flatMap (fun e =>
      if matchSel d.sel (ds.effLabels e.labels e.parents) then
        C04.contrib e { sel := d.sel, proto := d.proto, port := d.port, refc := [] } else [])).eraseDups ↔
      C04.contributed matchSel g.idx id m' := by
    intro m'
    rw [contributed_iff hx hinv hn hset m', List.mem_eraseDups, List.mem_flatMap]
    constructor
    · rintro ⟨e, he, hm⟩
      split at hm
      · rename_i hmatch; exact ⟨e, he, hmatch, hm⟩
      · cases hm
    · rintro ⟨e, he, hmatch, hm⟩
      exact ⟨e, he, by simp only [hmatch, if_true]; exact hm⟩
  unfold C04.memberSpec DS.members
  simp only []
  rw [hx.sup]
  cases s with
  | false =>
    simp only [Bool.false_eq_true, if_false, false_implies, and_true]
    exact (hall m).symm
  | true =>
    simp only [if_true, true_implies, List.mem_filter]
    rw [hall m]
    constructor
    · rintro ⟨h1, h2⟩
      refine ⟨h1, ?_⟩
      cases m with
      | cidr c =>
        simp only [Bool.not_eq_true', List.any_eq_false]
        intro m' hm'
        cases m' with
        | cidr c' =>
          have := h2 c rfl c' ((hall _).mp hm')
          simp [this]
        | ipp _ _ _ _ => simp
      | ipp _ _ _ _ => rfl
    · rintro ⟨h1, h2⟩
      refine ⟨h1, ?_⟩
      intro c hc c' hc'
      subst hc
      simp only [Bool.not_eq_true', List.any_eq_false] at h2
      have := h2 (.cidr c') ((hall _).mpr hc')
      simpa using this

theorem mget_dedupFirst_aux {β : Type} (u : String) : ∀ (l acc : List (String × β)),
    mget (l.foldl (fun m p => if (mget m p.1).isSome then m else m ++ [p]) acc) u = (mget acc u).or (mget l u)
  | [], acc => by simp [mget]
  | p :: t, acc => by
    simp only [List.foldl_cons]
    rw [mget_dedupFirst_aux u t]
    obtain ⟨k, v⟩ := p
    by_cases hs : (mget acc k).isSome = true
    · simp only [hs, if_true, mget]
      by_cases hk : k = u
      · subst hk
        cases ha : mget acc k with
        | none => rw [ha] at hs; cases hs
        | some x => simp
      · simp only [hk, if_false]
    · have hs' : (mget acc k).isSome = false := by simpa using hs
      simp only [hs', Bool.false_eq_true, if_false]
      rw [mget_append]
      simp only [mget]
      by_cases hk : k = u
      · subst hk
        have : mget acc k = none := by
          cases ha : mget acc k with
          | none => rfl
          | some x => rw [ha] at hs; simp at hs
        simp [this]
      · simp only [hk, if_false]
        cases mget acc u <;> simp

theorem mget_activeSets (H : IdFn) (ds : DS) (u : String) :
    mget (ds.activeSets H) u =
      mget ((ds.activePols.map (·.2.rules) ++ ds.activeProfs.map (·.2)).flatMap (currentSets H)) u := by
  unfold DS.activeSets
  rw [mget_dedupFirst_aux]
  simp [mget]

theorem mget_flatMap {α β : Type} (F : α → List (String × β)) (u : String) : ∀ (A : List α),
    mget (A.flatMap F) u = A.findSome? (fun r => mget (F r) u)
  | [] => rfl
  | a :: t => by
    rw [List.flatMap_cons, mget_append, mget_flatMap F u t, List.findSome?_cons]
    cases mget (F a) u <;> rfl

theorem find_map_mget {β γ : Type} (X : β → γ) (id : String) : ∀ (l : List (String × β)),
    (l.map (fun p => (p.1, X p.2))).find? (fun q => decide (q.1 = id)) = (mget l id).map (fun d => (id, X d))
  | [] => rfl
  | (k, v) :: t => by
    simp only [List.map_cons, List.find?_cons, mget]
    by_cases hk : k = id
    · subst hk; simp
    · simp only [hk, decide_false, if_false]
      exact find_map_mget X id t

theorem ipsets_eq_fresh {N : Numbering} {H : IdFn} {s : Bool} {g : Graph} {ds : DS} (hx : XInv N H s g ds)
    (hr : RsInv H g) (hi : IInv g) (hn : DSOk N ds)
    (hinj : ∀ d d' : IpSetDef, H d = H d' → (∃ u, mget g.rs.sets u = some d) →
      (∃ u, mget (ds.activeSets H) u = some d') → d = d')
    (hpol : ∀ k, mget g.active (.pol k) = (mget ds.activePols k).map (·.rules)) (hpk : (mkeys ds.activePols).Nodup)
    (hprof : ∀ p, mget g.active (.prof p) = mget ds.activeProfs p) (id : String) :
    (decl g).ipsets id =
      ((fresh H s ds).ipsets.find? (fun p => p.1 = id)).map (fun p m => decide (m ∈ p.2.2)) := by
  have hrhs : ((fresh H s ds).ipsets.find? (fun p => p.1 = id)).map (fun p m => decide (m ∈ p.2.2)) =
      (mget (ds.activeSets H) id).map (fun d => fun m => decide (m ∈ (ds.members s d).map showMember)) := by
    show (((ds.activeSets H).map (fun p => (p.1, ((if p.2.proto ≠ C04.protoNone then 1 else 0 : Nat),
      (ds.members s p.2).map showMember)))).find? (fun p => decide (p.1 = id))).map _ = _
    rw [find_map_mget (fun d : IpSetDef => ((if d.proto ≠ C04.protoNone then 1 else 0 : Nat), (ds.members s d).map showMember))]
    cases mget (ds.activeSets H) id <;> rfl
  rw [hrhs]
  have huse : g.rs.inUse id = true ↔ (mget (ds.activeSets H) id).isSome = true := by
    rw [mget_activeSets, mget_flatMap, List.findSome?_isSome_iff, inUse_iff]
    constructor
    · rintro ⟨key, hk⟩
      obtain ⟨r, h1, h2⟩ := (hr.refs key id).mp hk
      refine ⟨r, ?_, h2⟩
      cases key with
      | pol k =>
        rw [hpol k] at h1
        cases hp : mget ds.activePols k with
        | none => rw [hp] at h1; cases h1
        | some pv =>
          rw [hp] at h1
          simp only [Option.map_some, Option.some.injEq] at h1
          exact List.mem_append.mpr (Or.inl (List.mem_map.mpr ⟨(k, pv), mem_of_mget hp, h1⟩))
      | prof p =>
        rw [hprof p] at h1
        exact List.mem_append.mpr (Or.inr (List.mem_map.mpr ⟨(p, r), mem_of_mget h1, rfl⟩))
    · rintro ⟨r, hr', h2⟩
      rcases List.mem_append.mp hr' with h | h
      · obtain ⟨⟨k, pv⟩, hmem, rfl⟩ := List.mem_map.mp h
        have := mget_of_mem hpk hmem
        exact ⟨.pol k, (hr.refs _ id).mpr ⟨pv.rules, by rw [hpol k, this]; rfl, h2⟩⟩
      · obtain ⟨⟨p, r'⟩, hmem, rfl⟩ := List.mem_map.mp h
        have hget : mget ds.activeProfs p = some r' := by
          unfold DS.activeProfs at hmem ⊢
          obtain ⟨q, hq, hqe⟩ := List.mem_map.mp hmem
          simp only [Prod.mk.injEq] at hqe
          obtain ⟨rfl, rfl⟩ := hqe
          rw [mget_map_self (fun p => (mget ds.profRules p).getD dummyDropRules)]
          simp [hq]
        exact ⟨.prof p, (hr.refs _ id).mpr ⟨r', by rw [hprof p, hget], h2⟩⟩
  cases hL : mget (ds.activeSets H) id with
  | none =>
    have hnot : g.rs.inUse id = false := by
      cases h : g.rs.inUse id with
      | false => rfl
      | true => have := huse.mp h; rw [hL] at this; cases this
    have := hr.dom id
    rw [hnot] at this
    cases hd : (decl g).ipsets id with
    | none => rfl
    | some f => rw [hd] at this; cases this
  | some d0 =>
    have hin : g.rs.inUse id = true := huse.mpr (by rw [hL]; rfl)
    have hdecl := hr.dom id
    rw [hin] at hdecl
    cases hd : (decl g).ipsets id with
    | none => rw [hd] at hdecl; cases hdecl
    | some f =>
      simp only [Option.map_some, Option.some.injEq]
      -- the index's definition of `id` is `d0`
      have hdom := hx.setsDom id
      rw [hin] at hdom
      cases hs1 : mget g.rs.sets id with
      | none => rw [hs1] at hdom; cases hdom
      | some d1 =>
        obtain ⟨r, _, hr0⟩ := List.exists_of_findSome?_eq_some ((mget_flatMap ..).symm.trans (mget_activeSets H ds id ▸ hL))
        have e : d1 = d0 := hinj d1 d0 ((hx.setsH id d1 hs1).trans (mget_currentSets hr0).symm) ⟨id, hs1⟩ ⟨id, hL⟩
        subst e
        have hset : setView g.idx id = some (trD d1) := by rw [hx.sets id, hs1]; rfl
        funext str
        apply Bool.eq_iff_iff.mpr
        rw [iInv_content hi id f hd str]
        simp only [decide_eq_true_eq, List.mem_map]
        constructor
        · rintro ⟨m, h1, h2⟩
          exact ⟨m, (memberSpec_iff hx hi.inv hn hset m).mp h1, h2⟩
        · rintro ⟨m, h1, h2⟩
          exact ⟨m, (memberSpec_iff hx hi.inv hn hset m).mpr h1, h2⟩

end CalicoVerif.C01
