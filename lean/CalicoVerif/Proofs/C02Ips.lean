import CalicoVerif.Proofs.C02Spec
/-!
IP-set part of the C02 invariant: upstream calls and the three IP-set flush phases.  `IpsInv` says the
same seven things of every IP set; `KeyInv` says them of one set, the buffers read as predicates.  A call
touches one set and a flush phase treats every set alike, so each is a lemma about `KeyInv`.
-/
namespace CalicoVerif.C02

@[simp] theorem mem_discardKey {md : MD} {k id m : String} :
    (k, m) ∈ MD.discardKey md id ↔ (k, m) ∈ md ∧ k ≠ id := by
  simp [MD.discardKey]

@[simp] theorem mem_put {md : MD} {k k' m m' : String} :
    (k', m') ∈ MD.put md k m ↔ (k' = k ∧ m' = m) ∨ (k', m') ∈ md := by
  simp [MD.put]

@[simp] theorem mem_discard {md : MD} {k k' m m' : String} :
    (k', m') ∈ MD.discard md k m ↔ (k', m') ∈ md ∧ ¬ (k' = k ∧ m' = m) := by
  simp [MD.discard]

theorem has_iff {md : MD} {k m : String} : MD.has md k m = true ↔ (k, m) ∈ md := by simp [MD.has]

theorem mem_iter {md : MD} {k m : String} : m ∈ MD.iter md k ↔ (k, m) ∈ md := by
  simp only [MD.iter, List.mem_map, List.mem_filter, decide_eq_true_eq]
  constructor
  · rintro ⟨⟨k', m'⟩, ⟨h1, h2⟩, h3⟩; simp only at h2 h3; subst h2; subst h3; exact h1
  · intro h; exact ⟨(k, m), ⟨h, rfl⟩, rfl⟩

theorem mem_foldl_discardKey {l : List String} {md : MD} {k m : String} :
    (k, m) ∈ l.foldl (fun md id => MD.discardKey md id) md ↔ (k, m) ∈ md ∧ k ∉ l := by
  induction l generalizing md with
  | nil => simp
  | cons h t ih => simp only [List.foldl_cons, ih, mem_discardKey, List.mem_cons, not_or, ne_eq, and_assoc]

theorem mem_MDkeys {md : MD} {k : String} : k ∈ MD.keys md ↔ ∃ m, (k, m) ∈ md := by
  simp only [MD.keys, mem_foldl_sadd, List.mem_map, List.not_mem_nil, or_false]
  constructor
  · rintro ⟨⟨k', m⟩, h1, h2⟩; simp only at h2; subst h2; exact ⟨m, h1⟩
  · rintro ⟨m, h⟩; exact ⟨(k, m), h, rfl⟩

theorem nodup_MDkeys (md : MD) : (MD.keys md).Nodup := nodup_foldl_sadd (by simp)

/-- `IpsInv` for one IP set: `a` an add is pending, `r` a removal is pending, `st` it was sent, `A` / `R` its
pending member adds / removes, `U` / `D` its declared and its downstream members. -/
structure KeyInv (a : Bool) (r st : Prop) (A R : String → Prop) (U D : Option (String → Bool)) : Prop where
  sent : st ↔ D.isSome
  decl : U.isSome ↔ (a = true ∨ (st ∧ ¬ r))
  remSent : r → st
  remNotAdded : r → a = false
  memNew : ∀ fu, U = some fu → a = true → (∀ m, fu m = true ↔ A m) ∧ ∀ m, ¬ R m
  memOld : ∀ fu, U = some fu → a = false →
    ∃ fd, D = some fd ∧ (∀ m, fu m = true ↔ ((fd m = true ∧ ¬ R m) ∨ A m)) ∧
      (∀ m, A m → fd m = false) ∧ (∀ m, R m → fd m = true)
  memDecl : ∀ m, (A m ∨ R m) → U.isSome

theorem ipsInv_iff {s : IpsSt} {U D : String → Option (String → Bool)} :
    IpsInv s U D ↔ s.removedSets.Nodup ∧ (mkeys s.addedSets).Nodup ∧
      ∀ k, KeyInv (mget s.addedSets k).isSome (k ∈ s.removedSets) (k ∈ s.sentSets) (fun m => (k, m) ∈ s.addedMem)
        (fun m => (k, m) ∈ s.removedMem) (U k) (D k) := by
  constructor
  · intro h
    exact ⟨h.remNodup, h.addNodup, fun k => ⟨h.sent k, h.decl k, h.remSent k, fun hr => by simp [h.remNotAdded k hr],
      h.memNew k, fun fu hu ha => h.memOld k fu hu (by simpa using ha), h.memDecl k⟩⟩
  · rintro ⟨h1, h2, h⟩
    exact ⟨fun k => (h k).sent, fun k => (h k).decl, fun k => (h k).remSent, h1,
      fun k hr => by simpa using (h k).remNotAdded hr, h2, fun k => (h k).memNew,
      fun k fu hu ha => (h k).memOld fu hu (by simp [ha]), fun k => (h k).memDecl⟩

namespace KeyInv
variable {a : Bool} {r st : Prop} {A R : String → Prop} {U D : Option (String → Bool)} {f : String → Bool} {m : String}

/-- A declared set is known to the sequencer (the member calls and `OnIPSetRemoved` do not panic). -/
theorem known (h : KeyInv a r st A R U D) (hu : U.isSome) : st ∨ a = true :=
  (h.decl.1 hu).elim Or.inr fun x => Or.inl x.1

/-- `OnIPSetAdded` on a set that upstream had not declared. -/
theorem added (h : KeyInv a r st A R none D) :
    ¬ (st ∧ ¬ r) ∧ KeyInv true False st (fun _ => False) (fun _ => False) (some fun _ => false) D := by
  have hd := h.decl
  simp only [Option.isSome_none, Bool.false_eq_true, false_iff, not_or] at hd
  exact ⟨hd.2, h.sent, by simp, False.elim, False.elim, fun fu hu _ => by cases hu; simp, fun _ _ ha => (nomatch ha),
    fun _ hm => hm.elim False.elim False.elim⟩

/-- `OnIPSetRemoved`: the removal is pending exactly if the set was sent. -/
theorem removed (h : KeyInv a r st A R U D) : KeyInv false st st (fun _ => False) (fun _ => False) none D :=
  ⟨h.sent, by simp, id, fun _ => rfl, fun _ hu => (nomatch hu), fun _ hu => (nomatch hu),
    fun _ hm => hm.elim False.elim False.elim⟩

/-- `OnIPSetMemberAdded`, no removal of `m` pending: `m` becomes a pending add. -/
theorem addMember (h : KeyInv a r st A R (some f) D) (hm : f m = false) (hR : ¬ R m) :
    KeyInv a r st (fun m' => m' = m ∨ A m') R (some fun m' => f m' || decide (m' = m)) D := by
  refine ⟨h.sent, h.decl, h.remSent, h.remNotAdded, ?_, ?_, fun _ _ => rfl⟩
  · intro fu hu ha
    cases hu
    obtain ⟨h1, h2⟩ := h.memNew f rfl ha
    refine ⟨fun m' => ?_, h2⟩
    simp only [Bool.or_eq_true, decide_eq_true_eq, h1 m']
    exact or_comm
  · intro fu hu ha
    cases hu
    -- declared = (downstream ∧ ¬ pending-removed) ∨ pending-added: `m` enters as a pending add;
    -- it is not downstream (`hfdm`), as `memOld` asks of a pending add
    obtain ⟨fd, hD, h1, h2, h3⟩ := h.memOld f rfl ha
    have hfdm : fd m = false := by
      have := (not_congr (h1 m)).1 (by simp [hm])
      simp only [not_or, not_and, Classical.not_not] at this
      cases hfd : fd m
      · rfl
      · exact absurd (this.1 hfd) hR
    refine ⟨fd, hD, fun m' => ?_, ?_, h3⟩
    · simp only [Bool.or_eq_true, decide_eq_true_eq, h1 m']
      exact or_assoc.trans (or_congr_right or_comm)
    · rintro m' (rfl | x)
      · exact hfdm
      · exact h2 m' x

/-- `OnIPSetMemberAdded`, a removal of `m` pending: the removal is cancelled. -/
theorem cancelRemove (h : KeyInv a r st A R (some f) D) (hR : R m) :
    KeyInv a r st A (fun m' => R m' ∧ ¬ m' = m) (some fun m' => f m' || decide (m' = m)) D := by
  refine ⟨h.sent, h.decl, h.remSent, h.remNotAdded, ?_, ?_, fun _ _ => rfl⟩
  · intro fu hu ha
    exact absurd hR ((h.memNew f rfl ha).2 m)
  · intro fu hu ha
    cases hu
    -- `m` is downstream (`h3`): dropping its pending removal declares it again through the first disjunct
    obtain ⟨fd, hD, h1, h2, h3⟩ := h.memOld f rfl ha
    refine ⟨fd, hD, fun m' => ?_, h2, fun m' hm' => h3 m' hm'.1⟩
    simp only [Bool.or_eq_true, decide_eq_true_eq, h1 m', not_and, Classical.not_not]
    by_cases hmm : m' = m
    · subst hmm; simp [h3 m' hR]
    · simp [hmm]

/-- `OnIPSetMemberRemoved`, no add of `m` pending: the removal is queued. -/
theorem removeMember (h : KeyInv a r st A R (some f) D) (hm : f m = true) (hA : ¬ A m) :
    KeyInv a r st A (fun m' => m' = m ∨ R m') (some fun m' => f m' && !decide (m' = m)) D := by
  refine ⟨h.sent, h.decl, h.remSent, h.remNotAdded, ?_, ?_, fun _ _ => rfl⟩
  · intro fu hu ha
    exact absurd (((h.memNew f rfl ha).1 m).1 hm) hA
  · intro fu hu ha
    cases hu
    -- `m` is declared and not a pending add, so it is downstream and not pending-removed (`hfdm`):
    -- queueing the removal takes it out of the first disjunct
    obtain ⟨fd, hD, h1, h2, h3⟩ := h.memOld f rfl ha
    have hfdm : fd m = true ∧ ¬ R m := ((h1 m).1 hm).resolve_right hA
    refine ⟨fd, hD, fun m' => ?_, h2, ?_⟩
    · simp only [Bool.and_eq_true, Bool.not_eq_true', decide_eq_false_iff_not, h1 m', not_or]
      by_cases hmm : m' = m
      · subst hmm; simp [hA]
      · simp [hmm]
    · rintro m' (rfl | x)
      · exact hfdm.1
      · exact h3 m' x

/-- `OnIPSetMemberRemoved`, an add of `m` pending: the add is cancelled. -/
theorem cancelAdd (h : KeyInv a r st A R (some f) D) (hA : A m) :
    KeyInv a r st (fun m' => A m' ∧ ¬ m' = m) R (some fun m' => f m' && !decide (m' = m)) D := by
  refine ⟨h.sent, h.decl, h.remSent, h.remNotAdded, ?_, ?_, fun _ _ => rfl⟩
  · intro fu hu ha
    cases hu
    obtain ⟨h1, h2⟩ := h.memNew f rfl ha
    refine ⟨fun m' => ?_, h2⟩
    simp only [Bool.and_eq_true, Bool.not_eq_true', decide_eq_false_iff_not, h1 m']
  · intro fu hu ha
    cases hu
    -- `m` is declared only as a pending add (`h2`: not downstream): dropping the add undeclares it
    obtain ⟨fd, hD, h1, h2, h3⟩ := h.memOld f rfl ha
    refine ⟨fd, hD, fun m' => ?_, fun m' hm' => h2 m' hm'.1, h3⟩
    simp only [Bool.and_eq_true, Bool.not_eq_true', decide_eq_false_iff_not, h1 m']
    by_cases hmm : m' = m
    · subst hmm; simp [h2 m' hA]
    · simp [hmm]

/-- `flushAddedIPSets` on a set with a pending add: it is sent in full, with the pending member adds. -/
theorem flushAdded (h : KeyInv a r st A R U D) (ha : a = true) {fd : String → Bool} (hfd : ∀ m, fd m = true ↔ A m) :
    KeyInv false r True (fun _ => False) R U (some fd) := by
  subst ha
  have hnr : ¬ r := fun x => nomatch h.remNotAdded x
  refine ⟨by simp, ⟨fun _ => Or.inr ⟨trivial, hnr⟩, fun _ => h.decl.2 (Or.inl rfl)⟩, fun _ => trivial, fun _ => rfl,
    fun _ _ x => (nomatch x), fun fu hu _ => ?_, fun m hm => hm.elim False.elim fun x => h.memDecl m (Or.inr x)⟩
  obtain ⟨h1, h2⟩ := h.memNew fu hu rfl
  exact ⟨fd, rfl, fun m => by simp [h1 m, hfd m, h2 m], fun _ x => x.elim, fun m x => absurd x (h2 m)⟩

/-- What `flushIPSetDeltas` needs of a declared set for which no add of the set itself is pending. -/
theorem down (h : KeyInv a r st A R U D) (ha : a = false) (hu : U.isSome) :
    ∃ fd, D = some fd ∧ (∀ m, A m → fd m = false) ∧ (∀ m, R m → fd m = true) := by
  obtain ⟨fu, hfu⟩ := Option.isSome_iff_exists.1 hu
  obtain ⟨fd, hD, -, h2, h3⟩ := h.memOld fu hfu ha
  exact ⟨fd, hD, h2, h3⟩

/-- `flushIPSetDeltas`: the downstream members become the declared ones. -/
theorem flushDeltas (h : KeyInv a r st A R U D) (ha : a = false) {g : (String → Bool) → String → Bool}
    (hg : ∀ fd m, g fd m = true ↔ (fd m = true ∨ A m) ∧ ¬ R m) :
    KeyInv false r st (fun _ => False) (fun _ => False) U (D.map g) := by
  subst ha
  refine ⟨by simpa using h.sent, h.decl, h.remSent, h.remNotAdded, fun _ _ x => (nomatch x), fun fu hu _ => ?_,
    fun _ hm => hm.elim False.elim False.elim⟩
  obtain ⟨fd, hD, h1, h2, h3⟩ := h.memOld fu hu rfl
  refine ⟨g fd, by simp [hD], fun m => ?_, fun _ x => x.elim, fun _ x => x.elim⟩
  rw [h1 m, hg]
  constructor
  · rintro (⟨x, y⟩ | x)
    · exact Or.inl ⟨⟨Or.inl x, y⟩, not_false⟩
    · refine Or.inl ⟨⟨Or.inr x, fun hr => ?_⟩, not_false⟩
      have := h2 m x; rw [h3 m hr] at this; cases this
  · rintro (⟨⟨x | x, y⟩, -⟩ | x)
    · exact Or.inl ⟨x, y⟩
    · exact Or.inr x
    · exact x.elim

/-- `flushRemovedIPSets` on a set with a pending removal. -/
theorem flushRemoved (h : KeyInv a r st A R U D) (hr : r) :
    KeyInv a False False (fun _ => False) (fun _ => False) U none := by
  have ha := h.remNotAdded hr
  subst ha
  have hu : ¬ U.isSome := fun x => (h.decl.1 x).elim (fun y => nomatch y) fun y => y.2 hr
  exact ⟨by simp, by simpa using hu, False.elim, False.elim, fun _ _ x => (nomatch x),
    fun fu hfu _ => absurd (by simp [hfu]) hu, fun _ hm => hm.elim False.elim False.elim⟩

theorem synced (h : KeyInv a r st A R U D) (ha : a = false) (hr : ¬ r) (hA : ∀ m, ¬ A m) (hR : ∀ m, ¬ R m) : U = D := by
  subst ha
  cases hu : U with
  | none =>
    have : ¬ D.isSome := fun x => by
      have := h.decl.2 (Or.inr ⟨h.sent.2 x, hr⟩)
      simp [hu] at this
    cases hD : D with
    | none => rfl
    | some _ => simp [hD] at this
  | some fu =>
    obtain ⟨fd, hD, h1, -, -⟩ := h.memOld fu hu rfl
    rw [hD]
    congr 1
    funext m
    exact Bool.eq_iff_iff.2 (by simpa [hA m, hR m] using h1 m)

end KeyInv

theorem IpsInv.key {s : IpsSt} {U D} (h : IpsInv s U D) (k : String) :
    KeyInv (mget s.addedSets k).isSome (k ∈ s.removedSets) (k ∈ s.sentSets) (fun m => (k, m) ∈ s.addedMem)
      (fun m => (k, m) ∈ s.removedMem) (U k) (D k) :=
  (ipsInv_iff.1 h).2.2 k

section
variable {a : List (String × Nat)} {r : List String} {am rm : MD} {st : List String}
  {U D : String → Option (String → Bool)}

/-- `OnIPSetAdded` on a set that upstream had not declared: no panic, invariant kept. -/
theorem IpsInv.ipsetAdded (h : IpsInv ⟨a, r, am, rm, st⟩ U D) (id : String) (typ : Nat) (hv : U id = none) :
    ¬ (id ∈ st ∧ id ∉ r) ∧
    IpsInv ⟨mset id typ a, sdel id r, am.discardKey id, rm.discardKey id, st⟩ (fupd U id (some (fun _ => false))) D := by
  have hid := hv ▸ h.key id
  refine ⟨hid.added.1, ipsInv_iff.2 ⟨nodup_sdel h.remNodup, mkeys_mset_nodup h.addNodup, fun k => ?_⟩⟩
  by_cases e : k = id
  · subst e; simpa [mget_mset, fupd] using hid.added.2
  · simpa [mget_mset, fupd, e] using h.key k

/-- `OnIPSetRemoved` on a declared set: known to the sequencer (no panic), invariant kept. -/
theorem IpsInv.ipsetRemoved (h : IpsInv ⟨a, r, am, rm, st⟩ U D) (id : String) (hv : (U id).isSome) :
    (id ∈ st ∨ (mget a id).isSome) ∧
    IpsInv ⟨mdel id a, if id ∈ st then sadd id r else r, am.discardKey id, rm.discardKey id, st⟩ (fupd U id none) D := by
  refine ⟨(h.key id).known hv, ipsInv_iff.2 ⟨?_, mkeys_mdel_nodup h.addNodup, fun k => ?_⟩⟩
  · dsimp only; split
    · exact nodup_sadd h.remNodup
    · exact h.remNodup
  by_cases e : k = id
  · subst e
    have hr : k ∈ r → k ∈ st := h.remSent k
    by_cases hs : k ∈ st
    · simpa [mget_mdel, fupd, hs] using (h.key k).removed
    · simpa [mget_mdel, fupd, hs, mt hr hs] using (h.key k).removed
  · by_cases hs : id ∈ st <;> simpa [mget_mdel, fupd, e, hs] using h.key k

/-- `OnIPSetMemberAdded` of an absent member of a declared set. -/
theorem IpsInv.memberAdded (h : IpsInv ⟨a, r, am, rm, st⟩ U D) (id m : String) (f : String → Bool) (hv : U id = some f)
    (hm : f m = false) :
    (id ∈ st ∨ (mget a id).isSome) ∧
    IpsInv ⟨a, r, if rm.has id m then am else am.put id m, if rm.has id m then rm.discard id m else rm, st⟩
      (fupd U id (some (fun m' => f m' || decide (m' = m)))) D := by
  have hid := hv ▸ h.key id
  refine ⟨hid.known rfl, ipsInv_iff.2 ⟨h.remNodup, h.addNodup, fun k => ?_⟩⟩
  by_cases e : k = id
  · subst e
    by_cases hh : (k, m) ∈ rm
    · simpa [fupd, has_iff.2 hh] using hid.cancelRemove hh
    · simpa [fupd, mt has_iff.1 hh] using hid.addMember hm hh
  · by_cases hh : rm.has id m <;> simpa [fupd, e, hh] using h.key k

/-- `OnIPSetMemberRemoved` of a present member of a declared set. -/
theorem IpsInv.memberRemoved (h : IpsInv ⟨a, r, am, rm, st⟩ U D) (id m : String) (f : String → Bool) (hv : U id = some f)
    (hm : f m = true) :
    (id ∈ st ∨ (mget a id).isSome) ∧
    IpsInv ⟨a, r, if am.has id m then am.discard id m else am, if am.has id m then rm else rm.put id m, st⟩
      (fupd U id (some (fun m' => f m' && !decide (m' = m)))) D := by
  have hid := hv ▸ h.key id
  refine ⟨hid.known rfl, ipsInv_iff.2 ⟨h.remNodup, h.addNodup, fun k => ?_⟩⟩
  by_cases e : k = id
  · subst e
    by_cases hh : (k, m) ∈ am
    · simpa [fupd, has_iff.2 hh] using hid.cancelAdd hh
    · simpa [fupd, mt has_iff.1 hh] using hid.removeMember hm hh
  · by_cases hh : am.has id m <;> simpa [fupd, e, hh] using h.key k

theorem IpsInv.flushAdded (h : IpsInv ⟨a, r, am, rm, st⟩ U D) :
    IpsInv ⟨[], r, (mkeys a).foldl (fun md id => md.discardKey id) am, rm, (mkeys a).foldl (fun ss id => sadd id ss) st⟩ U
      (fun k => if (mget a k).isSome then some (fun m => decide (m ∈ am.iter k)) else D k) := by
  refine ipsInv_iff.2 ⟨h.remNodup, by simp [mkeys], fun k => ?_⟩
  have hk := h.key k
  cases e : (mget a k).isSome
  · rw [e] at hk
    simpa [e, mem_foldl_sadd, mem_foldl_discardKey, mem_mkeys_iff] using hk
  · simpa [e, mem_foldl_sadd, mem_foldl_discardKey, mem_mkeys_iff] using
      hk.flushAdded e (fd := fun m => decide (m ∈ am.iter k)) (by simp [mem_iter])

/-- The members of set `k` after the delta message `flushIPSetDeltas` sends for it (`f`: those it had). -/
def deltaFn (A R : String → List String) (k : String) (f : String → Bool) : String → Bool :=
  fun m => (f m || decide (m ∈ A k)) && !decide (m ∈ R k)

theorem IpsInv.flushDeltas (h : IpsInv ⟨a, r, am, rm, st⟩ U D) (ha : a = []) :
    let K := rm.keys ++ (am.keys).filter (fun k => decide (k ∉ rm.keys))
    K.Nodup ∧
    (∀ id ∈ K, ∃ f, D id = some f ∧ (∀ m ∈ am.iter id, f m = false) ∧ (∀ m ∈ rm.iter id, f m = true)) ∧
    IpsInv ⟨a, r, [], [], st⟩ U
      (fun k => if k ∈ K then (D k).map (deltaFn am.iter rm.iter k) else D k) := by
  subst ha
  intro K
  have hK : ∀ k, k ∈ K ↔ (∃ m, (k, m) ∈ am) ∨ (∃ m, (k, m) ∈ rm) := by
    intro k
    simp only [K, List.mem_append, List.mem_filter, decide_eq_true_eq, mem_MDkeys]
    constructor
    · rintro (x | x)
      · exact Or.inr x
      · exact Or.inl x.1
    · rintro (x | x)
      · by_cases hx : ∃ m, (k, m) ∈ rm
        · exact Or.inl hx
        · exact Or.inr ⟨x, hx⟩
      · exact Or.inl x
  refine ⟨?_, fun id hid => ?_, ipsInv_iff.2 ⟨h.remNodup, by simp [mkeys], fun k => ?_⟩⟩
  · rw [List.nodup_append]
    refine ⟨nodup_MDkeys _, (nodup_MDkeys _).filter _, ?_⟩
    intro x hx y hy hxy
    simp only [List.mem_filter, decide_eq_true_eq] at hy
    exact hy.2 (hxy ▸ hx)
  · have hU : (U id).isSome := by
      rcases (hK id).1 hid with ⟨m, x⟩ | ⟨m, x⟩
      · exact h.memDecl id m (Or.inl x)
      · exact h.memDecl id m (Or.inr x)
    obtain ⟨fd, hD, h2, h3⟩ := (h.key id).down rfl hU
    exact ⟨fd, hD, fun m hm => h2 m (mem_iter.1 hm), fun m hm => h3 m (mem_iter.1 hm)⟩
  · by_cases hk : k ∈ K
    · simpa [hk] using (h.key k).flushDeltas rfl (g := deltaFn am.iter rm.iter k) (by simp [deltaFn, mem_iter])
    · have ha : ∀ m, (k, m) ∉ am := fun m x => hk ((hK k).2 (Or.inl ⟨m, x⟩))
      have hr : ∀ m, (k, m) ∉ rm := fun m x => hk ((hK k).2 (Or.inr ⟨m, x⟩))
      simpa [hk, ha, hr] using h.key k

theorem IpsInv.flushRemoved (h : IpsInv ⟨a, r, am, rm, st⟩ U D) :
    r.Nodup ∧ (∀ k ∈ r, (D k).isSome) ∧
    IpsInv ⟨a, [], r.foldl (fun md id => md.discardKey id) am, r.foldl (fun md id => md.discardKey id) rm,
            r.foldl (fun ss id => sdel id ss) st⟩ U (applyDels D r) := by
  refine ⟨h.remNodup, fun k hk => (h.sent k).1 (h.remSent k hk), ipsInv_iff.2 ⟨by simp, h.addNodup, fun k => ?_⟩⟩
  by_cases hk : k ∈ r
  · simpa [hk, mem_foldl_sdel, mem_foldl_discardKey, applyDels_get] using (h.key k).flushRemoved hk
  · simpa [hk, mem_foldl_sdel, mem_foldl_discardKey, applyDels_get] using h.key k

theorem IpsInv.synced (h : IpsInv ⟨a, r, am, rm, st⟩ U D) (ha : a = []) (hr : r = []) (ham : am = []) (hrm : rm = []) :
    U = D :=
  funext fun k => (h.key k).synced (by simp [ha]) (by simp [hr]) (by simp [ham]) (by simp [hrm])

theorem IpsInv.present (h : IpsInv ⟨a, r, am, rm, st⟩ U D) (ha : a = []) {x : String} (hx : (U x).isSome) :
    (D x).isSome :=
  (h.sent x).1 (((h.decl x).1 hx).resolve_left (by simp [ha])).1

theorem IpsInv.removed_absent (h : IpsInv ⟨a, r, am, rm, st⟩ U D) {id : String} (hid : id ∈ r) : U id = none := by
  have := (not_congr (h.decl id)).2 (by simp [h.remNotAdded id hid, hid])
  simpa using this

end
end CalicoVerif.C02
