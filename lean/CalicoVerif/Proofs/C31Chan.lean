import CalicoVerif.Proofs.C31Base
import CalicoVerif.Proofs.C31Spec
/-! C31 — channels: what each handler returns, which messages a step puts on which channel, and the
channel discipline (live channels are distinct, never closed, and nothing is sent on or done to a closed
channel). -/
namespace CalicoVerif.C31

def chans (eps : AMap EpInfo) : List Nat := eps.filterMap (fun kv => kv.2.output)

theorem mem_chans {eps : AMap EpInfo} {c : Nat} : c ∈ chans eps ↔ ∃ kv ∈ eps, kv.2.output = some c :=
  List.mem_filterMap

theorem mem_chans_of_get {eps : AMap EpInfo} {w c : Nat} {ei : EpInfo} (hg : eps.get w = some ei) (ho : ei.output = some c) :
    c ∈ chans eps := mem_chans.2 ⟨(w, ei), AMap.mem_of_get hg, ho⟩

theorem chans_cons_none {kv : Nat × EpInfo} (r : AMap EpInfo) (h : kv.2.output = none) : chans (kv :: r) = chans r :=
  List.filterMap_cons_none h

theorem chans_cons_some {kv : Nat × EpInfo} {c : Nat} (r : AMap EpInfo) (h : kv.2.output = some c) :
    chans (kv :: r) = c :: chans r :=
  List.filterMap_cons_some h

theorem chans_nodup_tail {kv : Nat × EpInfo} {r : AMap EpInfo} (h : (chans (kv :: r)).Nodup) : (chans r).Nodup :=
  List.Nodup.sublist (List.Sublist.filterMap _ (List.sublist_cons_self kv r)) h

theorem chans_del_nodup {eps : AMap EpInfo} (h : (chans eps).Nodup) (w : Nat) : (chans (eps.del w)).Nodup :=
  List.Nodup.sublist (List.Sublist.filterMap _ (AMap.del_sublist eps w)) h

theorem chans_set (eps : AMap EpInfo) (w : Nat) (ei : EpInfo) :
    chans (eps.set w ei) = ei.output.toList ++ chans (eps.del w) := by
  cases h : ei.output with
  | none => exact chans_cons_none (kv := (w, ei)) _ h
  | some c => exact chans_cons_some (kv := (w, ei)) _ h

theorem chans_inj {eps : AMap EpInfo} (hc : (chans eps).Nodup) {kv1 kv2 : Nat × EpInfo} {c : Nat}
    (h1 : kv1 ∈ eps) (h2 : kv2 ∈ eps) (o1 : kv1.2.output = some c) (o2 : kv2.2.output = some c) : kv1 = kv2 := by
  induction eps with
  | nil => cases h1
  | cons kv r ih =>
    have hr := chans_nodup_tail hc
    have hd : ∀ kv' ∈ r, kv.2.output = some c → kv'.2.output ≠ some c := fun kv' m o o' => by
      rw [chans_cons_some r o] at hc
      exact (List.nodup_cons.1 hc).1 (mem_chans.2 ⟨kv', m, o'⟩)
    rcases List.mem_cons.1 h1 with rfl | m1 <;> rcases List.mem_cons.1 h2 with rfl | m2
    · rfl
    · exact absurd o2 (hd _ m2 o1)
    · exact absurd o1 (hd _ m1 o2)
    · exact ih hr m1 m2

/-- the `EndpointInfo` that `handleJoin` syncs -/
def joinNew (p : Proc) (w uid : Nat) : EpInfo :=
  { joinOld p w with joinUID := uid, output := some p.nextCh, syncedPol := [], syncedProf := [], syncedIP := [] }

theorem joinOld_entry {p : Proc} {w : Nat} (h : (joinOld p w).output ≠ none ∨ (joinOld p w).ep ≠ none) :
    p.eps.get w = some (joinOld p w) := by
  cases hg : p.eps.get w with
  | none => simp only [joinOld, hg] at h; exact (h.elim (· rfl) (· rfl)).elim
  | some ei => simp only [joinOld, hg]

theorem epForUpdate_ep (p : Proc) (w : Nat) (e : Endpoint) : (epForUpdate p w e).ep = some e := by
  unfold epForUpdate; split <;> rfl

theorem epForUpdate_cases (p : Proc) (w : Nat) (e : Endpoint) :
    (p.eps.get w = none ∧ (epForUpdate p w e).output = none ∧ (epForUpdate p w e).joinUID = 0) ∨
    ∃ ei, p.eps.get w = some ei ∧ epForUpdate p w e = { ei with ep := some e } := by
  unfold epForUpdate
  cases p.eps.get w with
  | none => exact Or.inl ⟨rfl, rfl, rfl⟩
  | some ei => exact Or.inr ⟨ei, rfl, rfl⟩

theorem step_inSync {p p' : Proc} {evs : List Ev} :
    step p .inSync = some (p', evs) ↔ (p.inSync = true ∧ p' = p ∧ evs = []) ∨
      (p.inSync = false ∧ p' = { p with inSync := true } ∧ evs = broadcast Msg.inSync p.eps) := by
  simp only [step, handleInSync, Option.some.injEq]
  constructor
  · intro h
    split at h <;> cases h
    · next hs => exact Or.inl ⟨hs, rfl, rfl⟩
    · next hs => exact Or.inr ⟨Bool.eq_false_iff.2 hs, rfl, rfl⟩
  · rintro (⟨hs, rfl, rfl⟩ | ⟨hs, rfl, rfl⟩)
    · rw [if_pos hs]
    · rw [if_neg (Bool.eq_false_iff.1 hs)]

theorem step_ep {p p' : Proc} {w : Nat} {e : Endpoint} {evs : List Ev} :
    step p (.ep w e) = some (p', evs) ↔ ∃ ei' ms, maybeSync p w (epForUpdate p w e) = some (ei', ms) ∧
      p' = { p with eps := p.eps.set w ei' } ∧ evs = evsFor ei'.output ms := by
  simp only [step, handleEpUpdate]
  constructor
  · intro h
    split at h
    · cases h
    · next hm => cases h; exact ⟨_, _, hm, rfl, rfl⟩
  · rintro ⟨ei', ms, hm, rfl, rfl⟩
    simp only [hm]

theorem step_epRm {p p' : Proc} {w : Nat} {evs : List Ev} :
    step p (.epRm w) = some (p', evs) ↔ ∃ ei, p.eps.get w = some ei ∧
      p' = { p with eps := p.eps.del w } ∧ evs = evsFor ei.output [Msg.epRm w] ++ closeEv ei.output := by
  simp only [step, handleEpRemove]
  constructor
  · intro h
    split at h
    · cases h
    · next hg => cases h; exact ⟨_, hg, rfl, rfl⟩
  · rintro ⟨ei, hg, rfl, rfl⟩
    simp only [hg]

theorem step_join {p p' : Proc} {w uid : Nat} {evs : List Ev} :
    step p (.join w uid) = some (p', evs) ↔ ∃ ei' ms, maybeSync p w (joinNew p w uid) = some (ei', ms) ∧
      p' = { p with eps := p.eps.set w ei', nextCh := p.nextCh + 1 } ∧
      evs = closeEv (joinOld p w).output ++
        tag p.nextCh (ms ++ p.sas.map (fun kv => Msg.saUpd kv.1 kv.2) ++ p.nss.map (fun kv => Msg.nsUpd kv.1 kv.2) ++
          (if p.inSync then [Msg.inSync] else [])) := by
  simp only [step, handleJoin, joinNew]
  constructor
  · intro h
    split at h
    · cases h
    · next hm => cases h; exact ⟨_, _, hm, rfl, rfl⟩
  · rintro ⟨ei', ms, hm, rfl, rfl⟩
    simp only [hm]

theorem step_pol {p p' : Proc} {id : Nat} {r : Rules} {evs : List Ev} :
    step p (.pol id r) = some (p', evs) ↔ ∃ eps',
      eachUpdateable (refreshOne { p with pols := p.pols.set id r } true id (Msg.polUpd id r)) p.eps = some (eps', evs) ∧
      p' = { p with pols := p.pols.set id r, eps := eps' } := by
  simp only [step, handlePolUpdate]
  constructor
  · intro h
    split at h
    · cases h
    · next he => cases h; exact ⟨_, he, rfl⟩
  · rintro ⟨eps', he, rfl⟩
    simp only [he]

theorem step_prof {p p' : Proc} {id : Nat} {r : Rules} {evs : List Ev} :
    step p (.prof id r) = some (p', evs) ↔ ∃ eps',
      eachUpdateable (refreshOne { p with profs := p.profs.set id r } false id (Msg.profUpd id r)) p.eps = some (eps', evs) ∧
      p' = { p with profs := p.profs.set id r, eps := eps' } := by
  simp only [step, handleProfUpdate]
  constructor
  · intro h
    split at h
    · cases h
    · next he => cases h; exact ⟨_, he, rfl⟩
  · rintro ⟨eps', he, rfl⟩
    simp only [he]

theorem step_ipset {p p' : Proc} {id : Nat} {ms : List Nat} {evs : List Ev} :
    step p (.ipset id ms) = some (p', evs) ↔
      (p.ipsets.get id = none ∧ p' = { p with ipsets := p.ipsets.set id (dedup ms) } ∧ evs = []) ∨
      ((p.ipsets.get id).isSome ∧ ∃ eps',
        eachUpdateable (ipUpdOne { p with ipsets := p.ipsets.set id (dedup ms) } id ms) p.eps = some (eps', evs) ∧
        p' = { p with ipsets := p.ipsets.set id (dedup ms), eps := eps' }) := by
  simp only [step, handleIPUpdate]
  constructor
  · intro h
    split at h
    · next hg => cases h; exact Or.inl ⟨hg, rfl, rfl⟩
    · next hg =>
      split at h
      · cases h
      · next he => cases h; exact Or.inr ⟨by rw [hg]; rfl, _, he, rfl⟩
  · rintro (⟨hg, rfl, rfl⟩ | ⟨hg, eps', he, rfl⟩)
    · simp only [hg]
    · cases hc : p.ipsets.get id with
      | none => rw [hc] at hg; cases hg
      | some cur => simp only [he]

theorem step_ipDelta {p p' : Proc} {id : Nat} {a d : List Nat} {evs : List Ev} :
    step p (.ipDelta id a d) = some (p', evs) ↔ ∃ p1 eps', deltaStore p id a d = some p1 ∧
      eachUpdateable (ipDeltaOne p1 id a d) p1.eps = some (eps', evs) ∧ p' = { p1 with eps := eps' } := by
  simp only [step, handleIPDelta]
  constructor
  · intro h
    split at h
    · cases h
    · next hd =>
      split at h
      · cases h
      · next he => cases h; exact ⟨_, _, hd, he, rfl⟩
  · rintro ⟨p1, eps', hd, he, rfl⟩
    simp only [hd, he]

theorem deltaStore_some {p p1 : Proc} {id : Nat} {a d : List Nat} (h : deltaStore p id a d = some p1) :
    ∃ ips, p1 = { p with ipsets := ips } := by
  unfold deltaStore at h
  split at h
  · split at h <;> cases h; exact ⟨_, rfl⟩
  · cases h; exact ⟨_, rfl⟩

theorem step_leave {p p' : Proc} {w uid : Nat} {evs : List Ev} :
    step p (.leave w uid) = some (p', evs) ↔ (p.eps.get w = none ∧ p' = p ∧ evs = []) ∨ ∃ ei, p.eps.get w = some ei ∧
      ((ei.joinUID ≠ uid ∧ p' = (if cleanupCond ei then { p with eps := p.eps.del w } else p) ∧ evs = []) ∨
       ∃ c, ei.joinUID = uid ∧ ei.output = some c ∧ evs = [(c, none)] ∧
        p' = if cleanupCond { ei with output := none, joinUID := 0 } then { p with eps := p.eps.del w }
          else { p with eps := p.eps.set w { ei with output := none, joinUID := 0 } }) := by
  simp only [step, handleLeave]
  constructor
  · intro h
    split at h
    · next hg => cases h; exact Or.inl ⟨hg, rfl, rfl⟩
    · next ei hg =>
      split at h
      · next hu => cases h; exact Or.inr ⟨ei, hg, Or.inl ⟨by simpa using hu, rfl, rfl⟩⟩
      · next hu =>
        split at h
        · cases h
        · next c ho => cases h; exact Or.inr ⟨ei, hg, Or.inr ⟨c, by simpa using hu, ho, rfl, rfl⟩⟩
  · rintro (⟨hg, rfl, rfl⟩ | ⟨ei, hg, ⟨hu, rfl, rfl⟩ | ⟨c, hu, ho, rfl, rfl⟩⟩)
    · simp only [hg]
    · have : (ei.joinUID != uid) = true := by simpa using hu
      simp only [hg, this, if_true]
    · have : (ei.joinUID != uid) = false := by simpa using hu
      simp only [hg, this, ho, Bool.false_eq_true, if_false]

theorem msgsOf_append (a b : List Ev) (c : Nat) : msgsOf (a ++ b) c = msgsOf a c ++ msgsOf b c :=
  List.filterMap_append

theorem msgsOf_eq_nil {evs : List Ev} {c : Nat} (h : ∀ e ∈ evs, e.1 = c → e.2 = none) : msgsOf evs c = [] :=
  List.filterMap_eq_nil_iff.2 fun e he => by
    split
    · next hc => exact h e he hc
    · rfl

theorem msgsOf_nil_of_notin {evs : List Ev} {c : Nat} (h : ∀ e ∈ evs, e.1 ≠ c) : msgsOf evs c = [] :=
  msgsOf_eq_nil fun e he hc => absurd hc (h e he)

theorem mem_tag {c : Nat} {ms : List Msg} {e : Ev} (h : e ∈ tag c ms) : e.1 = c ∧ e.2.isSome := by
  obtain ⟨m, _, rfl⟩ := List.mem_map.1 h
  exact ⟨rfl, rfl⟩

theorem msgsOf_tag (c : Nat) (ms : List Msg) : msgsOf (tag c ms) c = ms := by
  induction ms with
  | nil => rfl
  | cons m ms ih => simp only [tag, List.map_cons, msgsOf, List.filterMap_cons, if_true] at ih ⊢; rw [ih]

theorem msgsOf_tag_ne {c c' : Nat} (h : c' ≠ c) (ms : List Msg) : msgsOf (tag c' ms) c = [] :=
  msgsOf_nil_of_notin fun _ he => (mem_tag he).1 ▸ h

theorem mem_closeEv {o : Option Nat} {e : Ev} (h : e ∈ closeEv o) : o = some e.1 ∧ e.2 = none := by
  cases o with
  | none => cases h
  | some c => cases List.mem_singleton.1 h; exact ⟨rfl, rfl⟩

theorem msgsOf_closeEv (o : Option Nat) (c : Nat) : msgsOf (closeEv o) c = [] :=
  msgsOf_eq_nil fun _ he _ => (mem_closeEv he).2

theorem mem_evsFor {o : Option Nat} {ms : List Msg} {e : Ev} (h : e ∈ evsFor o ms) : o = some e.1 ∧ e.2.isSome := by
  cases o with
  | none => cases h
  | some c => exact ⟨congrArg some (mem_tag h).1.symm, (mem_tag h).2⟩

theorem msgsOf_evsFor (o : Option Nat) (ms : List Msg) (c : Nat) : msgsOf (evsFor o ms) c = if o = some c then ms else [] := by
  split
  · next h => subst h; exact msgsOf_tag c ms
  · next h => exact msgsOf_nil_of_notin fun e he hc => h (hc ▸ (mem_evsFor he).1)

theorem monitor_sends {closed : List Nat} {evs : List Ev} (h : ∀ e ∈ evs, e.2.isSome ∧ e.1 ∉ closed) :
    monitor closed evs = some closed := by
  induction evs with
  | nil => rfl
  | cons e evs ih =>
    obtain ⟨c, m⟩ := e
    obtain ⟨h0, h1⟩ := List.forall_mem_cons.1 h
    have hc : closed.contains c = false := by simpa using h0.2
    cases m with
    | none => cases h0.1
    | some m => simp only [monitor, hc]; exact ih h1

theorem monitor_append (closed : List Nat) (a b : List Ev) :
    monitor closed (a ++ b) = (monitor closed a).bind (fun c => monitor c b) := by
  induction a generalizing closed with
  | nil => rfl
  | cons e a ih =>
    obtain ⟨c, m⟩ := e
    simp only [List.cons_append, monitor]
    split
    · rfl
    · cases m <;> exact ih _

theorem monitor_tag {cl : List Nat} {c : Nat} (ms : List Msg) (hc : c ∉ cl) : monitor cl (tag c ms) = some cl :=
  monitor_sends fun _ he => ⟨(mem_tag he).2, (mem_tag he).1 ▸ hc⟩

theorem monitor_evsFor {cl : List Nat} {o : Option Nat} (ms : List Msg) (h : ∀ c, o = some c → c ∉ cl) :
    monitor cl (evsFor o ms) = some cl := by
  cases o with
  | none => rfl
  | some c => exact monitor_tag ms (h c rfl)

theorem monitor_close {cl : List Nat} {c : Nat} (hc : c ∉ cl) (evs : List Ev) :
    monitor cl ((c, none) :: evs) = monitor (c :: cl) evs := by
  have : cl.contains c = false := by simpa using hc
  simp only [monitor, this]; rfl

theorem monitor_closeEv {cl : List Nat} {o : Option Nat} (h : ∀ c, o = some c → c ∉ cl) (evs : List Ev) :
    monitor cl (closeEv o ++ evs) = monitor (o.toList ++ cl) evs := by
  cases o with
  | none => rfl
  | some c => exact monitor_close (h c rfl) evs

theorem monitor_spec {cl cl' : List Nat} {evs : List Ev} (h : monitor cl evs = some cl') : ∀ e ∈ evs, e.1 ∉ cl := by
  induction evs generalizing cl with
  | nil => nofun
  | cons e evs ih =>
    obtain ⟨c, m⟩ := e
    simp only [monitor, List.contains_iff_mem] at h
    by_cases hc : c ∈ cl
    · simp only [hc, if_true] at h; cases h
    · simp only [hc, if_false] at h
      intro e he
      rcases List.mem_cons.1 he with rfl | ht
      · exact hc
      · cases m with
        | some m => exact ih h e ht
        | none => exact fun h' => ih h e ht (List.mem_cons_of_mem _ h')

theorem evsFor_nil (o : Option Nat) : evsFor o [] = [] := by cases o <;> rfl

structure SameClient (ei ei' : EpInfo) : Prop where
  output : ei'.output = ei.output
  ep : ei'.ep = ei.ep
  joinUID : ei'.joinUID = ei.joinUID

def KeepsAll (f : EpInfo → Option (EpInfo × List Msg)) : Prop := ∀ ei ei' ms, f ei = some (ei', ms) → SameClient ei ei'

theorem refreshOne_keepsAll (p : Proc) (b : Bool) (id : Nat) (m : Msg) : KeepsAll (refreshOne p b id m) := by
  intro ei ei' ms h
  unfold refreshOne at h
  split at h
  · split at h
    · cases h
    · next ei1 adds dels h1 =>
      cases h
      obtain ⟨_, _, _, rfl, _⟩ := ipSync_some.1 h1
      cases b <;> exact ⟨rfl, rfl, rfl⟩
  · cases h; exact ⟨rfl, rfl, rfl⟩

theorem ipUpdOne_keepsAll (p : Proc) (id : Nat) (ms : List Nat) : KeepsAll (ipUpdOne p id ms) := by
  intro ei ei' ms' h
  unfold ipUpdOne at h
  split at h <;> cases h <;> exact ⟨rfl, rfl, rfl⟩

theorem ipDeltaOne_keepsAll (p : Proc) (id : Nat) (a d : List Nat) : KeepsAll (ipDeltaOne p id a d) := by
  intro ei ei' ms' h
  unfold ipDeltaOne at h
  split at h <;> cases h <;> exact ⟨rfl, rfl, rfl⟩

theorem maybeSync_sameClient {p : Proc} {w : Nat} {ei ei' : EpInfo} {ms : List Msg} (h : maybeSync p w ei = some (ei', ms)) :
    SameClient ei ei' := by
  cases he : ei.ep with
  | none => simp only [maybeSync, he] at h; cases h; exact ⟨rfl, rfl, rfl⟩
  | some e =>
    cases ho : ei.output with
    | none => simp only [maybeSync, he, ho] at h; cases h; exact ⟨rfl, rfl, rfl⟩
    | some c =>
      obtain ⟨_, _, _, _, _, _, _, _, _, _, _, h1, _, _, _, _, rfl, _⟩ := (maybeSync_some he ho).1 h
      obtain ⟨_, _, _, rfl, _⟩ := ipSync_some.1 h1
      exact ⟨rfl, rfl, rfl⟩

theorem each_chan {f : EpInfo → Option (EpInfo × List Msg)} (hf : KeepsAll f) {eps eps' : AMap EpInfo} {evs : List Ev}
    (h : eachUpdateable f eps = some (eps', evs)) :
    eps'.map (·.1) = eps.map (·.1) ∧ chans eps' = chans eps ∧ ∀ e ∈ evs, e.2.isSome ∧ e.1 ∈ chans eps := by
  induction eps generalizing eps' evs with
  | nil => cases h; exact ⟨rfl, rfl, nofun⟩
  | cons kv r ih =>
    obtain ⟨w, ei⟩ := kv
    obtain ⟨r', evs', hr, ⟨ho, rfl, rfl⟩ | ⟨c, ei', ms, ho, hfe, rfl, rfl⟩⟩ := eachUpdateable_cons.1 h
    · obtain ⟨a, b, d⟩ := ih hr
      rw [chans_cons_none (kv := (w, ei)) _ ho, chans_cons_none (kv := (w, ei)) _ ho]
      exact ⟨congrArg (w :: ·) a, b, d⟩
    · obtain ⟨a, b, d⟩ := ih hr
      rw [chans_cons_some (kv := (w, ei')) _ ((hf _ _ _ hfe).output.trans ho), chans_cons_some (kv := (w, ei)) _ ho]
      refine ⟨congrArg (w :: ·) a, congrArg (c :: ·) b, fun e he => ?_⟩
      rcases List.mem_append.1 he with he | he
      · exact ⟨(mem_tag he).2, (mem_tag he).1 ▸ List.mem_cons_self⟩
      · exact ⟨(d e he).1, List.mem_cons_of_mem _ (d e he).2⟩

theorem each_lift {f : EpInfo → Option (EpInfo × List Msg)} (hf : KeepsAll f) {eps eps' : AMap EpInfo} {evs : List Ev}
    (hn : (chans eps).Nodup) (h : eachUpdateable f eps = some (eps', evs)) :
    ∀ kv' ∈ eps', ∃ ei, (kv'.1, ei) ∈ eps ∧ SameClient ei kv'.2 ∧
      ∀ c, ei.output = some c → ∃ ms, f ei = some (kv'.2, ms) ∧ msgsOf evs c = ms := by
  induction eps generalizing eps' evs with
  | nil => cases h; nofun
  | cons kv r ih =>
    obtain ⟨w, ei⟩ := kv
    have hnr := chans_nodup_tail hn
    obtain ⟨r', evs', hr, ⟨ho, rfl, rfl⟩ | ⟨c, ei', ms, ho, hfe, rfl, rfl⟩⟩ := eachUpdateable_cons.1 h
    · intro kv' hkv'
      rcases List.mem_cons.1 hkv' with rfl | hkv'
      · exact ⟨ei, List.mem_cons_self, ⟨rfl, rfl, rfl⟩, fun c hc => by rw [ho] at hc; cases hc⟩
      · obtain ⟨ei0, a, b⟩ := ih hnr hr kv' hkv'
        exact ⟨ei0, List.mem_cons_of_mem _ a, b⟩
    · have hcn : c ∉ chans r := by
        rw [chans_cons_some (kv := (w, ei)) _ ho] at hn; exact (List.nodup_cons.1 hn).1
      have hk := hf ei ei' ms hfe
      intro kv' hkv'
      rcases List.mem_cons.1 hkv' with rfl | hkv'
      · refine ⟨ei, List.mem_cons_self, hk, fun c' hc' => ⟨ms, hfe, ?_⟩⟩
        -- the rest of the loop sends on the channels of `r`, which are not `c`
        cases ho.symm.trans hc'
        rw [msgsOf_append, msgsOf_tag, msgsOf_nil_of_notin, List.append_nil]
        exact fun e he hec => hcn (hec ▸ ((each_chan hf hr).2.2 e he).2)
      · obtain ⟨ei0, a, b, b4⟩ := ih hnr hr kv' hkv'
        refine ⟨ei0, List.mem_cons_of_mem _ a, b, fun c' hc' => ?_⟩
        obtain ⟨ms', f1, f2⟩ := b4 c' hc'
        have hne : c ≠ c' := fun e => hcn (e ▸ mem_chans.2 ⟨_, a, hc'⟩)
        exact ⟨ms', f1, by rw [msgsOf_append, msgsOf_tag_ne hne, List.nil_append]; exact f2⟩

/-- the loop calls its body on joined endpoints only -/
theorem each_total {f : EpInfo → Option (EpInfo × List Msg)} {eps : AMap EpInfo}
    (h : ∀ kv ∈ eps, ∀ c, kv.2.output = some c → ∃ r, f kv.2 = some r) : ∃ r, eachUpdateable f eps = some r := by
  induction eps with
  | nil => exact ⟨_, rfl⟩
  | cons kv r ih =>
    obtain ⟨w, ei⟩ := kv
    obtain ⟨hi, hr⟩ := List.forall_mem_cons.1 h
    obtain ⟨⟨r', evs'⟩, hr'⟩ := ih hr
    cases ho : ei.output with
    | none => exact ⟨_, eachUpdateable_cons.2 ⟨r', evs', hr', Or.inl ⟨ho, rfl, rfl⟩⟩⟩
    | some c =>
      obtain ⟨⟨ei', ms⟩, hf⟩ := hi c ho
      exact ⟨_, eachUpdateable_cons.2 ⟨r', evs', hr', Or.inr ⟨c, ei', ms, ho, hf, rfl, rfl⟩⟩⟩

theorem each_bcast (m : Msg) (eps : AMap EpInfo) :
    eachUpdateable (fun ei => some (ei, [m])) eps = some (eps, broadcast m eps) := by
  induction eps with
  | nil => rfl
  | cons kv r ih =>
    obtain ⟨w, ei⟩ := kv
    cases ho : ei.output with
    | none =>
      exact eachUpdateable_cons.2 ⟨r, _, ih, Or.inl ⟨ho, rfl, List.filterMap_cons_none (by rw [ho]; rfl)⟩⟩
    | some c =>
      exact eachUpdateable_cons.2 ⟨r, _, ih, Or.inr ⟨c, ei, [m], ho, rfl, rfl, List.filterMap_cons_some (by rw [ho]; rfl)⟩⟩

theorem keepsAll_const (ms : List Msg) : KeepsAll fun ei => some (ei, ms) :=
  fun _ _ _ h => by cases h; exact ⟨rfl, rfl, rfl⟩

/-- the channel discipline, `closed` being the channels closed so far -/
structure ChanInv (p : Proc) (closed : List Nat) : Prop where
  keys : p.eps.NodupKeys
  nodup : (chans p.eps).Nodup
  live : ∀ c ∈ chans p.eps, c < p.nextCh ∧ c ∉ closed
  closedLt : ∀ c ∈ closed, c < p.nextCh

/-- an endpoint without a client has no join UID (so a leave with a non-zero UID never closes a nil channel) -/
def NoStaleUID (p : Proc) : Prop := ∀ kv ∈ p.eps, kv.2.output = none → kv.2.joinUID = 0

structure ChanStep (p : Proc) (cl : List Nat) (p' : Proc) (evs : List Ev) : Prop where
  chan : ∃ cl', monitor cl evs = some cl' ∧ ChanInv p' cl'
  bound : ∀ e ∈ evs, e.1 < p'.nextCh
  mono : p.nextCh ≤ p'.nextCh
  uid : NoStaleUID p → NoStaleUID p'

/-- the only panic of `handleLeave` is closing the nil channel of an endpoint that has the leave's join UID but no client -/
theorem leave_total {p : Proc} {w uid : Nat} (hu : NoStaleUID p) (hpre : uid ≠ 0) : ∃ r, step p (.leave w uid) = some r := by
  cases hg : p.eps.get w with
  | none => exact ⟨_, step_leave.2 (Or.inl ⟨hg, rfl, rfl⟩)⟩
  | some ei =>
    by_cases hj : ei.joinUID = uid
    · cases ho : ei.output with
      | none => exact absurd (hj ▸ hu (w, ei) (AMap.mem_of_get hg) ho) hpre
      | some c => exact ⟨_, step_leave.2 (Or.inr ⟨ei, hg, Or.inr ⟨c, hj, ho, rfl, rfl⟩⟩)⟩
    · exact ⟨_, step_leave.2 (Or.inr ⟨ei, hg, Or.inl ⟨hj, rfl, rfl⟩⟩)⟩

theorem mem_chans_del {eps : AMap EpInfo} (hn : (chans eps).Nodup) {w c : Nat}
    (h : c ∈ chans (eps.del w)) : c ∈ chans eps ∧ ∀ ei, eps.get w = some ei → ei.output ≠ some c := by
  obtain ⟨kv, hkv, ho⟩ := mem_chans.1 h
  have hm := AMap.mem_del hkv
  refine ⟨mem_chans.2 ⟨kv, hm.1, ho⟩, fun ei hg ho' => hm.2 ?_⟩
  rw [chans_inj hn hm.1 (AMap.mem_of_get hg) ho ho']

theorem ChanInv.sends {p p' : Proc} {cl : List Nat} {evs : List Ev} (h : ChanInv p cl)
    (hk : p'.eps.map (·.1) = p.eps.map (·.1)) (hc : chans p'.eps = chans p.eps) (hn : p'.nextCh = p.nextCh)
    (he : ∀ e ∈ evs, e.2.isSome ∧ e.1 ∈ chans p.eps) (hu : NoStaleUID p → NoStaleUID p') : ChanStep p cl p' evs :=
  ⟨⟨cl, monitor_sends fun e h' => ⟨(he e h').1, (h.live _ (he e h').2).2⟩,
    ⟨by unfold AMap.NodupKeys; rw [hk]; exact h.keys, by rw [hc]; exact h.nodup, by rw [hc, hn]; exact h.live,
      by rw [hn]; exact h.closedLt⟩⟩,
    fun e h' => hn ▸ (h.live _ (he e h').2).1, Nat.le_of_eq hn.symm, hu⟩

theorem ChanInv.same {p p' : Proc} {cl : List Nat} {evs : List Ev} (h : ChanInv p cl) (heps : p'.eps = p.eps)
    (hn : p'.nextCh = p.nextCh) (he : ∀ e ∈ evs, e.2.isSome ∧ e.1 ∈ chans p.eps) : ChanStep p cl p' evs :=
  h.sends (by rw [heps]) (by rw [heps]) hn he (fun hu => by unfold NoStaleUID; rw [heps]; exact hu)

theorem ChanInv.each {p p' : Proc} {cl : List Nat} {evs : List Ev} {f : EpInfo → Option (EpInfo × List Msg)}
    (h : ChanInv p cl) (hf : KeepsAll f) (he : eachUpdateable f p.eps = some (p'.eps, evs)) (hn : p'.nextCh = p.nextCh) :
    ChanStep p cl p' evs := by
  obtain ⟨a, b, c⟩ := each_chan hf he
  refine h.sends a b hn c fun hu kv' hkv' ho => ?_
  obtain ⟨ei, hm, hsc, _⟩ := each_lift hf h.nodup he kv' hkv'
  exact hsc.joinUID.trans (hu _ hm (hsc.output.symm.trans ho))

/-- The entry of workload `w`, whose channel was `o`, is removed or replaced by one whose channel is `o'`; messages go
to `o`, then `oc` is closed, then messages go to `o'`. -/
theorem ChanInv.entry {p p' : Proc} {cl : List Nat} (h : ChanInv p cl) {w : Nat} {o oc o' : Option Nat}
    (ho : ∀ c, o = some c → ∃ ei, p.eps.get w = some ei ∧ ei.output = some c)
    (hkeys : p'.eps.NodupKeys) (hchans : chans p'.eps = o'.toList ++ chans (p.eps.del w)) (hn : p.nextCh ≤ p'.nextCh)
    (hcase : (oc = none ∧ o' = o) ∨ (oc = o ∧ (o' = none ∨ (o' = some p.nextCh ∧ p.nextCh < p'.nextCh))))
    (hu : NoStaleUID p → NoStaleUID p') (ms₁ ms₂ : List Msg) :
    ChanStep p cl p' (evsFor o ms₁ ++ closeEv oc ++ evsFor o' ms₂) := by
  -- the old channel, if any, is live, and no other entry has it
  have hold : ∀ c, o = some c → c < p.nextCh ∧ c ∉ cl ∧ c ∉ chans (p.eps.del w) := fun c hc => by
    obtain ⟨ei, hg, hoe⟩ := ho c hc
    have hl := h.live c (mem_chans_of_get hg hoe)
    exact ⟨hl.1, hl.2, fun hd => (mem_chans_del h.nodup hd).2 ei hg hoe⟩
  have hdel : ∀ c ∈ chans (p.eps.del w), c < p.nextCh ∧ c ∉ cl := fun c hc => h.live c (mem_chans_del h.nodup hc).1
  have hclosed : ∀ c, c ∈ oc.toList → o = some c := fun c hc => by
    rcases hcase with ⟨e, _⟩ | ⟨e, _⟩
    · rw [e] at hc; cases hc
    · exact e ▸ Option.mem_toList.1 hc
  -- the new channel, if any, is no other entry's, has been handed out, and is not closed
  have hnew : ∀ c, o' = some c → c ∉ chans (p.eps.del w) ∧ c < p'.nextCh ∧ c ∉ oc.toList ++ cl := fun c hc => by
    rcases hcase with ⟨e1, e2⟩ | ⟨_, e | ⟨e, hlt⟩⟩
    · have := hold c (e2 ▸ hc)
      exact ⟨this.2.2, Nat.lt_of_lt_of_le this.1 hn, by rw [e1]; exact this.2.1⟩
    · rw [e] at hc; cases hc
    · cases e.symm.trans hc
      refine ⟨fun hd => Nat.lt_irrefl _ (hdel _ hd).1, hlt, fun hm => ?_⟩
      rcases List.mem_append.1 hm with hm | hm
      · exact Nat.lt_irrefl _ (hold _ (hclosed _ hm)).1
      · exact Nat.lt_irrefl _ (h.closedLt _ hm)
  refine ⟨⟨oc.toList ++ cl, ?_, ⟨hkeys, ?_, fun c hc => ?_, fun c hc => ?_⟩⟩, fun e he => ?_, hn, hu⟩
  · rw [List.append_assoc, monitor_append, monitor_evsFor ms₁ fun c hc => (hold c hc).2.1, Option.bind_some,
      monitor_closeEv fun c hc => (hold c (hclosed c (Option.mem_toList.2 hc))).2.1]
    exact monitor_evsFor ms₂ fun c hc => (hnew c hc).2.2
  · rw [hchans]
    cases ho' : o' with
    | none => exact chans_del_nodup h.nodup w
    | some c => exact List.nodup_cons.2 ⟨(hnew c ho').1, chans_del_nodup h.nodup w⟩
  · rw [hchans] at hc
    rcases List.mem_append.1 hc with hc | hc
    · exact (hnew c (Option.mem_toList.1 hc)).2
    · refine ⟨Nat.lt_of_lt_of_le (hdel c hc).1 hn, fun hm => ?_⟩
      rcases List.mem_append.1 hm with hm | hm
      · exact (hold c (hclosed c hm)).2.2 hc
      · exact (hdel c hc).2 hm
  · rcases List.mem_append.1 hc with hc | hc
    · exact Nat.lt_of_lt_of_le (hold c (hclosed c hc)).1 hn
    · exact Nat.lt_of_lt_of_le (h.closedLt c hc) hn
  · rcases List.mem_append.1 he with he | he
    · rcases List.mem_append.1 he with he | he
      · exact Nat.lt_of_lt_of_le (hold _ (mem_evsFor he).1).1 hn
      · exact Nat.lt_of_lt_of_le (hold _ (hclosed _ (Option.mem_toList.2 (mem_closeEv he).1))).1 hn
    · exact (hnew _ (mem_evsFor he).1).2.1

theorem NoStaleUID.set {p : Proc} (hu : NoStaleUID p) {w n : Nat} {ei' : EpInfo} (h : ei'.output = none → ei'.joinUID = 0) :
    NoStaleUID { p with eps := p.eps.set w ei', nextCh := n } := fun kv' hkv' ho => by
  rcases AMap.mem_set hkv' with rfl | ⟨hkv, _⟩
  · exact h ho
  · exact hu kv' hkv ho

theorem step_chan {p p' : Proc} {cl : List Nat} {op : Op} {evs : List Ev} (h : ChanInv p cl)
    (hs : step p op = some (p', evs)) : ChanStep p cl p' evs := by
  cases op with
  | inSync =>
    rcases step_inSync.1 hs with ⟨_, rfl, rfl⟩ | ⟨_, rfl, rfl⟩
    · exact h.same rfl rfl nofun
    · exact h.each (keepsAll_const _) (each_bcast _ _) rfl
  | polRm id => cases hs; exact h.same rfl rfl nofun
  | profRm id => cases hs; exact h.same rfl rfl nofun
  | ipRm id => cases hs; exact h.same rfl rfl nofun
  | sa id v => cases hs; exact h.each (keepsAll_const _) (each_bcast _ _) rfl
  | saRm id => cases hs; exact h.each (keepsAll_const _) (each_bcast _ _) rfl
  | ns id v => cases hs; exact h.each (keepsAll_const _) (each_bcast _ _) rfl
  | nsRm id => cases hs; exact h.each (keepsAll_const _) (each_bcast _ _) rfl
  | pol id r =>
    obtain ⟨eps', he, rfl⟩ := step_pol.1 hs
    exact h.each (refreshOne_keepsAll _ _ _ _) he rfl
  | prof id r =>
    obtain ⟨eps', he, rfl⟩ := step_prof.1 hs
    exact h.each (refreshOne_keepsAll _ _ _ _) he rfl
  | ipset id ms =>
    rcases step_ipset.1 hs with ⟨_, rfl, rfl⟩ | ⟨_, eps', he, rfl⟩
    · exact h.same rfl rfl nofun
    · exact h.each (ipUpdOne_keepsAll _ _ _) he rfl
  | ipDelta id a d =>
    obtain ⟨p1, eps', hd, he, rfl⟩ := step_ipDelta.1 hs
    obtain ⟨ips, rfl⟩ := deltaStore_some hd
    exact h.each (ipDeltaOne_keepsAll _ _ _ _) he rfl
  | epRm w =>
    obtain ⟨ei, hg, rfl, rfl⟩ := step_epRm.1 hs
    have := h.entry (p' := { p with eps := p.eps.del w }) (o := ei.output) (oc := ei.output) (o' := none)
      (fun c hc => ⟨ei, hg, hc⟩) (AMap.nodupKeys_del h.keys w) rfl (Nat.le_refl _) (Or.inr ⟨rfl, Or.inl rfl⟩)
      (fun hu kv hkv => hu kv (AMap.mem_del hkv).1) [Msg.epRm w] []
    rwa [show evsFor none [] = ([] : List Ev) from rfl, List.append_nil] at this
  | ep w e =>
    obtain ⟨ei', ms, hm, rfl, rfl⟩ := step_ep.1 hs
    obtain ⟨hout, _, huid⟩ := maybeSync_sameClient hm
    have hold : (ei'.output = none ∧ ei'.joinUID = 0) ∨
        ∃ ei, p.eps.get w = some ei ∧ ei.output = ei'.output ∧ ei.joinUID = ei'.joinUID := by
      rcases epForUpdate_cases p w e with ⟨_, ho, hj⟩ | ⟨ei, hg, heq⟩
      · exact Or.inl ⟨hout.trans ho, huid.trans hj⟩
      · exact Or.inr ⟨ei, hg, by rw [hout, heq], by rw [huid, heq]⟩
    have := h.entry (p' := { p with eps := p.eps.set w ei' }) (o := ei'.output) (oc := none) (o' := ei'.output)
      (fun c hc => by
        rcases hold with ⟨ho, _⟩ | ⟨ei, hg, ho, _⟩
        · exact nomatch ho.symm.trans hc
        · exact ⟨ei, hg, ho.trans hc⟩)
      (AMap.nodupKeys_set h.keys w ei') (chans_set _ _ _) (Nat.le_refl _) (Or.inl ⟨rfl, rfl⟩)
      (fun hu => hu.set fun hn => by
        rcases hold with ⟨_, hj⟩ | ⟨ei, hg, ho, hj⟩
        · exact hj
        · exact hj.symm.trans (hu _ (AMap.mem_of_get hg) (ho.trans hn))) ms []
    rwa [evsFor_nil, List.append_nil, show closeEv none = [] from rfl, List.append_nil] at this
  | join w uid =>
    obtain ⟨ei', ms, hm, rfl, rfl⟩ := step_join.1 hs
    have hout : ei'.output = some p.nextCh := (maybeSync_sameClient hm).output
    have := h.entry (p' := { p with eps := p.eps.set w ei', nextCh := p.nextCh + 1 }) (o := (joinOld p w).output)
      (oc := (joinOld p w).output) (o' := some p.nextCh)
      (fun c hc => ⟨_, joinOld_entry (Or.inl (by rw [hc]; nofun)), hc⟩) (AMap.nodupKeys_set h.keys w ei')
      (hout ▸ chans_set _ _ _) (Nat.le_succ _) (Or.inr ⟨rfl, Or.inr ⟨rfl, Nat.lt_succ_self _⟩⟩)
      (fun hu => hu.set fun hn => nomatch hout.symm.trans hn) []
    rw [evsFor_nil, List.nil_append] at this
    exact this _
  | leave w uid =>
    have hdel : NoStaleUID p → NoStaleUID { p with eps := p.eps.del w } := fun hu kv hkv => hu kv (AMap.mem_del hkv).1
    have hgone : ChanStep p cl { p with eps := p.eps.del w } [] :=
      h.entry (p' := { p with eps := p.eps.del w }) (w := w) (o := none) (oc := none) (o' := none) nofun
        (AMap.nodupKeys_del h.keys w) rfl (Nat.le_refl _) (Or.inl ⟨rfl, rfl⟩) hdel [] []
    rcases step_leave.1 hs with ⟨_, rfl, rfl⟩ | ⟨ei, hg, ⟨_, rfl, rfl⟩ | ⟨c, _, ho, rfl, rfl⟩⟩
    · exact h.same rfl rfl nofun
    · split
      · exact hgone
      · exact h.same rfl rfl nofun
    · split
      · exact h.entry (p' := { p with eps := p.eps.del w }) (o := some c) (oc := some c) (o' := none)
          (fun c' hc' => ⟨ei, hg, ho.trans hc'⟩) (AMap.nodupKeys_del h.keys w) rfl (Nat.le_refl _)
          (Or.inr ⟨rfl, Or.inl rfl⟩) hdel [] []
      · exact h.entry (p' := { p with eps := p.eps.set w { ei with output := none, joinUID := 0 } }) (o := some c)
          (oc := some c) (o' := none) (fun c' hc' => ⟨ei, hg, ho.trans hc'⟩) (AMap.nodupKeys_set h.keys w _)
          (chans_set _ _ _) (Nat.le_refl _) (Or.inr ⟨rfl, Or.inl rfl⟩) (fun hu => hu.set fun _ => rfl) [] []

theorem run_cons {p p' : Proc} {op : Op} {ops : List Op} {evs : List Ev} :
    run p (op :: ops) = some (p', evs) ↔
      ∃ p1 e1 e2, step p op = some (p1, e1) ∧ run p1 ops = some (p', e2) ∧ evs = e1 ++ e2 := by
  simp only [run]
  constructor
  · intro h
    split at h
    · cases h
    · next p1 e1 hs =>
      split at h
      · cases h
      · next e2 hr => cases h; exact ⟨p1, e1, e2, hs, hr, rfl⟩
  · rintro ⟨p1, e1, e2, hs, hr, rfl⟩
    simp only [hs, hr]

theorem run_chan {p p' : Proc} {cl : List Nat} {ops : List Op} {evs : List Ev} (h : ChanInv p cl)
    (hr : run p ops = some (p', evs)) : ∃ cl', monitor cl evs = some cl' ∧ ChanInv p' cl' := by
  induction ops generalizing p cl evs with
  | nil => simp only [run, Option.some.injEq, Prod.mk.injEq] at hr; obtain ⟨rfl, rfl⟩ := hr; exact ⟨cl, rfl, h⟩
  | cons op ops ih =>
    obtain ⟨p1, e1, e2, hs, hr2, rfl⟩ := run_cons.1 hr
    obtain ⟨cl1, m1, i1⟩ := (step_chan h hs).chan
    obtain ⟨cl2, m2, i2⟩ := ih i1 hr2
    exact ⟨cl2, by rw [monitor_append, m1]; exact m2, i2⟩

end CalicoVerif.C31
