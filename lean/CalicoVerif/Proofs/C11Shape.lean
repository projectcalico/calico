import CalicoVerif.Model.C11Sem
/-!
C11 — what the builder emits, as equations between event lists, with the labels each piece defines.
Nothing here speaks of running the events: the semantic proof (`C11Comp` … `C11Whole`) and the proof
that the output assembles (`C11Total`) both rest on these shapes and on nothing of each other.
-/
namespace CalicoVerif.C11

def labelsOf : List Ev → List Label
  | [] => []
  | .label l :: r => l :: labelsOf r
  | .ins _ :: r => labelsOf r
  | .jmp _ _ :: r => labelsOf r

theorem labelsOf_append (a b : List Ev) : labelsOf (a ++ b) = labelsOf a ++ labelsOf b := by
  induction a with
  | nil => rfl
  | cons e es ih => cases e <;> simp [labelsOf, ih]

theorem mem_labelsOf_append {l : Label} {a b : List Ev} :
    l ∈ labelsOf (a ++ b) ↔ l ∈ labelsOf a ∨ l ∈ labelsOf b := by
  rw [labelsOf_append, List.mem_append]

theorem mem_labelsOf_cons {l : Label} {e : Ev} {es : List Ev} :
    l ∈ labelsOf (e :: es) ↔ e = .label l ∨ l ∈ labelsOf es := by
  cases e <;> simp [labelsOf, eq_comm]

theorem flat_append (a b : List BEv) : flat (a ++ b) = flat a ++ flat b := by
  induction a with
  | nil => rfl
  | cons e es ih => cases e <;> simp [flat, ih]

theorem flat_map_ev (es : List Ev) : flat (es.map BEv.ev) = es := by
  induction es with
  | nil => rfl
  | cons e es ih => simp [flat, ih]

/-- Labels private to one rule's match part. -/
def Label.isPart : Label → Bool
  | .rulePart _ _ => true
  | .cidrEnd _ _ => true
  | _ => false

/-- Labels that only rules define. -/
def Label.isRule : Label → Bool
  | .rulePart _ _ => true
  | .cidrEnd _ _ => true
  | .ruleNoMatch _ => true
  | _ => false

def Label.isTierEnd : Label → Bool
  | .endOfTier _ => true
  | _ => false

/-- Labels a policy block may define. -/
def Label.isBody (l : Label) : Bool := l.isRule || l.isTierEnd

theorem Label.isBody_of_isRule (l : Label) (h : l.isRule = true) : l.isBody = true := by
  rw [Label.isBody, h]; rfl

/-- End of the host-policy part: host policy allowed the packet. -/
abbrev AHP : Label := .allowedByHostPolicy

/-- Start of the normal host policy (packets to or from the host). -/
abbrev TOFH : Label := .toOrFromHost

/-- Labels of the policy body (never a footer label, `exit` or `next-program`). -/
def Label.bodyish (l : Label) : Bool := l.isBody || l == TOFH || l == AHP

def seqIdx {α : Type} (f : Nat → α → List Ev) : List α → Nat → List Ev
  | [], _ => []
  | x :: xs, i => f i x ++ seqIdx f xs (i + 1)

theorem seqIdx_const {α : Type} (g : α → List Ev) : ∀ (xs : List α) (i : Nat), seqIdx (fun _ => g) xs i = xs.flatMap g
  | [], _ => rfl
  | x :: xs, i => by rw [seqIdx, seqIdx_const g xs, List.flatMap_cons]

/-! The builder's per-leg offsets as numbers: `kk` = stack index of the IP-set key, `ipo` / `pto` = state
offsets of the leg's address / port. -/

def Leg.kk : Leg → Nat
  | .source => 476
  | _ => 444

def Leg.ipo : Leg → Nat
  | .source => 8
  | .destPreNAT => 40
  | .dest => 56

def Leg.pto : Leg → Nat
  | .source => 96
  | .destPreNAT => 100
  | .dest => 102

theorem Leg.kk_cases (leg : Leg) : leg.kk = 476 ∨ leg.kk = 444 := by cases leg <;> simp [Leg.kk]

theorem Leg.ipOff_eq (leg : Leg) : leg.ipOff = ((leg.ipo : Nat) : Int) := by cases leg <;> rfl

theorem Leg.portOff_eq (leg : Leg) : leg.portOff = ((leg.pto : Nat) : Int) := by cases leg <;> rfl

theorem Leg.ipo_window (leg : Leg) : 8 ≤ leg.ipo ∧ leg.ipo + 16 ≤ 72 := by cases leg <;> simp [Leg.ipo]

theorem Leg.pto_window (leg : Leg) : 96 ≤ leg.pto ∧ leg.pto + 2 ≤ 104 := by cases leg <;> simp [Leg.pto]

theorem Leg.ipo_le (leg : Leg) : leg.ipo + 4 ≤ 512 := by have := leg.ipo_window; omega

theorem Leg.pto_le (leg : Leg) : leg.pto + 2 ≤ 512 := by have := leg.pto_window; omega

/-- The 14 instructions of `setUpIPSetKey`: the key is on the stack. -/
def keyEvs (lo hi : Int) (kk ipo pto : Nat) : List Ev :=
  [movImm64 R1 0, .ins ⟨opStoreReg8, 10, 1, ((kk + 19 : Nat) : Int) - 512, 0⟩,
   movImm64 R1 128, .ins ⟨opStoreReg32, 10, 1, ((kk : Nat) : Int) - 512, 0⟩,
   .ins ⟨opLoadReg32, 1, 9, (ipo : Int), 0⟩, .ins ⟨opStoreReg32, 10, 1, ((kk + 12 : Nat) : Int) - 512, 0⟩,
   .ins ⟨opLoadReg16, 1, 9, (pto : Int), 0⟩, .ins ⟨opStoreReg16, 10, 1, ((kk + 16 : Nat) : Int) - 512, 0⟩,
   .ins ⟨opLoadReg8, 1, 9, ((104 : Nat) : Int), 0⟩, .ins ⟨opStoreReg8, 10, 1, ((kk + 18 : Nat) : Int) - 512, 0⟩,
   movImm32 R1 lo, .ins ⟨opStoreReg32, 10, 1, ((kk + 4 : Nat) : Int) - 512, 0⟩,
   movImm32 R1 hi, .ins ⟨opStoreReg32, 10, 1, ((kk + 8 : Nat) : Int) - 512, 0⟩]

/-- The 16 instructions of `setUpIPSetKey` for IPv6. -/
def keyEvs6 (lo hi : Int) (kk ipo pto : Nat) : List Ev :=
  [movImm64 R1 0, .ins ⟨opStoreReg8, 10, 1, ((kk + 31 : Nat) : Int) - 512, 0⟩,
   movImm64 R1 224, .ins ⟨opStoreReg32, 10, 1, ((kk : Nat) : Int) - 512, 0⟩,
   .ins ⟨opLoadReg64, 1, 9, ((ipo : Nat) : Int), 0⟩, .ins ⟨opStoreReg64, 10, 1, ((kk + 12 : Nat) : Int) - 512, 0⟩,
   .ins ⟨opLoadReg64, 1, 9, ((ipo + 8 : Nat) : Int), 0⟩, .ins ⟨opStoreReg64, 10, 1, ((kk + 20 : Nat) : Int) - 512, 0⟩,
   .ins ⟨opLoadReg16, 1, 9, ((pto : Nat) : Int), 0⟩, .ins ⟨opStoreReg16, 10, 1, ((kk + 28 : Nat) : Int) - 512, 0⟩,
   .ins ⟨opLoadReg8, 1, 9, ((104 : Nat) : Int), 0⟩, .ins ⟨opStoreReg8, 10, 1, ((kk + 30 : Nat) : Int) - 512, 0⟩,
   movImm32 R1 lo, .ins ⟨opStoreReg32, 10, 1, ((kk + 4 : Nat) : Int) - 512, 0⟩,
   movImm32 R1 hi, .ins ⟨opStoreReg32, 10, 1, ((kk + 8 : Nat) : Int) - 512, 0⟩]

def lookupEvs (c : Cfg) (lo hi : Int) (kk ipo pto : Nat) : List Ev :=
  keyEvs lo hi kk ipo pto ++ loadMapFD R1 c.ipSetMapFD ++
  [mov64 R2 R10, .ins ⟨opAddImm64, 2, 0, 0, ((kk : Nat) : Int) - 512⟩, call helperMapLookupElem]

def lookupEvs6 (c : Cfg) (lo hi : Int) (kk ipo pto : Nat) : List Ev :=
  keyEvs6 lo hi kk ipo pto ++ loadMapFD R1 c.ipSetMapFD ++
  [mov64 R2 R10, .ins ⟨opAddImm64, 2, 0, 0, ((kk : Nat) : Int) - 512⟩, call helperMapLookupElem]

theorem ipSetLookup_eq (c : Cfg) (id : Nat) (leg : Leg) (hv6 : c.v6 = false) :
    ipSetLookup c id leg =
      lookupEvs c (toInt32 (rev64 id)) (toInt32 (rev64 id / 4294967296)) leg.kk leg.ipo leg.pto := by
  unfold ipSetLookup lookupEvs keyEvs
  simp only [hv6, Bool.false_eq_true, if_false, Bool.not_false, if_true]
  cases leg <;> rfl

theorem ipSetLookup_eq6 (c : Cfg) (id : Nat) (leg : Leg) (hv6 : c.v6 = true) :
    ipSetLookup c id leg =
      lookupEvs6 c (toInt32 (rev64 id)) (toInt32 (rev64 id / 4294967296)) leg.kk leg.ipo leg.pto := by
  unfold ipSetLookup lookupEvs6 keyEvs6
  simp only [hv6, if_true, Bool.not_true, Bool.false_eq_true, if_false]
  cases leg <;> rfl

theorem labelsOf_lookup' (c : Cfg) (id : Nat) (leg : Leg) : labelsOf (ipSetLookup c id leg) = [] := by
  cases hv : c.v6
  · rw [ipSetLookup_eq c id leg hv]
    simp [lookupEvs, keyEvs, loadMapFD, labelsOf, movImm64, movImm32, mov64, call, mk]
  · rw [ipSetLookup_eq6 c id leg hv]
    simp [lookupEvs6, keyEvs6, loadMapFD, labelsOf, movImm64, movImm32, mov64, call, mk]

theorem labelsOf_lookup (c : Cfg) (id : Nat) (leg : Leg) (hv6 : c.v6 = false) : labelsOf (ipSetLookup c id leg) = [] :=
  labelsOf_lookup' c id leg

/-- The three instructions that leave `mask & word` (memory order) in R2. -/
def sec3 (off : Nat) (M : BitVec 32) : List Ev :=
  [load32 R1 R9 (off : Int), movImm32 R2 (rev32bv M).toInt, and32 R2 R1]

def secM (n : Net) (s : Nat) : BitVec 32 := BitVec.ofNat 32 (mask128Word n.pfx s)

def secA (n : Net) (s : Nat) : BitVec 32 := BitVec.ofNat 32 (word128 n.addr s)

def secImm (n : Net) (s : Nat) : Int := (rev32bv (secA n s &&& secM n s)).toInt

theorem toInt32_rev32 (x : Nat) : toInt32 (rev32 x) = (rev32bv (BitVec.ofNat 32 x)).toInt := by
  unfold toInt32 rev32
  rw [BitVec.ofNat_toNat, BitVec.setWidth_eq]

theorem toInt32_secImm (n : Net) (s : Nat) :
    toInt32 (rev32 (word128 n.addr s &&& mask128Word n.pfx s)) = secImm n s := by
  rw [toInt32_rev32, BitVec.ofNat_and]
  rfl

theorem toInt32_secM (n : Net) (s : Nat) :
    toInt32 (rev32 (mask128Word n.pfx s)) = (rev32bv (secM n s)).toInt := toInt32_rev32 _

theorem Leg.off6 (leg : Leg) (s : Nat) : leg.ipOff + 4 * (s : Int) = ((leg.ipo + 4 * s : Nat) : Int) := by
  rw [Leg.ipOff_eq]; push_cast; rfl

def secNE (leg : Leg) (rid idx : Nat) (n : Net) (s : Nat) : List Ev :=
  sec3 (leg.ipo + 4 * s) (secM n s) ++ [jumpNEImm32 R2 (secImm n s) (.cidrEnd rid idx)]

def secFin (leg : Leg) (rid idx : Nat) (P : Label) (n : Net) (k : Nat) : List Ev :=
  sec3 (leg.ipo + 4 * k) (secM n k) ++
    ((if k = 3 then [] else [jumpNEImm32 R2 (secImm n k) (.cidrEnd rid idx)]) ++
      [jumpEqImm32 R2 (secImm n k) P, .label (.cidrEnd rid idx)])

/-- The last emitted section of an IPv6 CIDR test without the end label. -/
def finB (leg : Leg) (rid idx : Nat) (P : Label) (n : Net) (k : Nat) : List Ev :=
  sec3 (leg.ipo + 4 * k) (secM n k) ++
    ((if k = 3 then [] else [jumpNEImm32 R2 (secImm n k) (.cidrEnd rid idx)]) ++ [jumpEqImm32 R2 (secImm n k) P])

theorem secFin_eq (leg : Leg) (rid idx : Nat) (P : Label) (n : Net) (k : Nat) :
    secFin leg rid idx P n k = finB leg rid idx P n k ++ [.label (.cidrEnd rid idx)] := by
  simp [secFin, finB]

theorem cidrV6_eq (leg : Leg) (rid idx : Nat) (P : Label) (n : Net) :
    cidrV6 leg rid idx P n =
      if mask128Word n.pfx 1 = 0 then secFin leg rid idx P n 0
      else secNE leg rid idx n 0 ++
        (if mask128Word n.pfx 2 = 0 then secFin leg rid idx P n 1
         else secNE leg rid idx n 1 ++
          (if mask128Word n.pfx 3 = 0 then secFin leg rid idx P n 2
           else secNE leg rid idx n 2 ++ secFin leg rid idx P n 3)) := by
  by_cases h1 : mask128Word n.pfx 1 = 0 <;> by_cases h2 : mask128Word n.pfx 2 = 0 <;>
    by_cases h3 : mask128Word n.pfx 3 = 0 <;>
    simp [cidrV6, cidrV6Sections, secFin, secNE, sec3, h1, h2, h3, toInt32_secImm, toInt32_secM, Leg.ipOff_eq]

theorem labelsOf_cidrV4 (leg : Leg) (P : Label) (n : Net) : labelsOf (cidrV4 leg P n) = [] := by
  simp [cidrV4, labelsOf, load32, movImm32, and32, jumpEqImm32, mk, mkJ]

theorem cidrLoop_flat (v6 : Bool) (leg : Leg) (rid : Nat) (P : Label) :
    ∀ (nets : List Net) (idx : Nat), flat (cidrLoop v6 leg rid P nets idx) =
      seqIdx (fun i n => if v6 then cidrV6 leg rid i P n else cidrV4 leg P n) nets idx
  | [], _ => rfl
  | n :: ns, idx => by
    simp only [cidrLoop, flat, flat_append, flat_map_ev, seqIdx, cidrLoop_flat v6 leg rid P ns]

theorem labelsOf_sec3 (off : Nat) (M : BitVec 32) : labelsOf (sec3 off M) = [] := by
  simp [sec3, labelsOf, load32, movImm32, and32, mk]

theorem labelsOf_secNE (leg : Leg) (rid idx : Nat) (n : Net) (s : Nat) : labelsOf (secNE leg rid idx n s) = [] := by
  simp [secNE, labelsOf_append, labelsOf_sec3, labelsOf, jumpNEImm32, mkJ]

theorem labelsOf_finB (leg : Leg) (rid idx : Nat) (P : Label) (n : Net) (k : Nat) :
    labelsOf (finB leg rid idx P n k) = [] := by
  by_cases hk : k = 3 <;> simp [finB, hk, labelsOf_append, labelsOf_sec3, labelsOf, jumpNEImm32, jumpEqImm32, mkJ]

/-- The instructions of one port range and the next free part id. -/
def portHere (rid : Nat) (onMatch : Label) (pr : PortRange) (part : Nat) : List Ev × Nat :=
  if pr.first = pr.last then ([jumpEqImm64 R1 pr.first onMatch], part)
  else if pr.first > 0 then
    ([jumpLTImm64 R1 pr.first (.rulePart rid part), jumpLEImm64 R1 pr.last onMatch,
      .label (.rulePart rid part)], part + 1)
  else ([jumpLEImm64 R1 pr.last onMatch], part)

theorem portHere_snd_le (rid : Nat) (onMatch : Label) (pr : PortRange) (part : Nat) :
    part ≤ (portHere rid onMatch pr part).2 := by
  unfold portHere; split; exact Nat.le_refl _; split; exact Nat.le_succ _; exact Nat.le_refl _

theorem labelsOf_portHere (rid : Nat) (onMatch : Label) (pr : PortRange) (part : Nat) :
    ∀ l ∈ labelsOf (portHere rid onMatch pr part).1, l = .rulePart rid part := by
  unfold portHere
  split
  · intro l hl; simp [labelsOf, jumpEqImm64, mkJ] at hl
  · split
    · intro l hl; simpa [labelsOf, jumpLTImm64, jumpLEImm64, mkJ] using hl
    · intro l hl; simp [labelsOf, jumpLEImm64, mkJ] at hl

theorem portLoop_cons (rid : Nat) (leg : Leg) (onMatch : Label) (pr : PortRange) (rs : List PortRange) (part : Nat) :
    (portLoop rid leg onMatch (pr :: rs) part).1 =
      (portHere rid onMatch pr part).1.map BEv.ev ++ ([BEv.maybeSplit [load16 R1 R9 leg.portOff]] ++
        (portLoop rid leg onMatch rs (portHere rid onMatch pr part).2).1) ∧
    (portLoop rid leg onMatch (pr :: rs) part).2 = (portLoop rid leg onMatch rs (portHere rid onMatch pr part).2).2 := by
  unfold portHere
  rw [portLoop]
  by_cases c1 : pr.first = pr.last
  · simp only [c1, if_true]
    cases portLoop rid leg onMatch rs part with
    | mk more p2 => simp
  · by_cases c2 : pr.first > 0
    · simp only [c1, c2, if_false, if_true]
      cases portLoop rid leg onMatch rs (part + 1) with
      | mk more p2 => simp
    · simp only [c1, c2, if_false]
      cases portLoop rid leg onMatch rs part with
      | mk more p2 => simp

theorem portLoop_cons_flat (rid : Nat) (leg : Leg) (onMatch : Label) (pr : PortRange) (rs : List PortRange) (part : Nat) :
    flat (portLoop rid leg onMatch (pr :: rs) part).1 =
      (portHere rid onMatch pr part).1 ++ flat (portLoop rid leg onMatch rs (portHere rid onMatch pr part).2).1 ∧
    (portLoop rid leg onMatch (pr :: rs) part).2 = (portLoop rid leg onMatch rs (portHere rid onMatch pr part).2).2 :=
  ⟨by rw [(portLoop_cons rid leg onMatch pr rs part).1]; simp [flat_append, flat_map_ev, flat],
    (portLoop_cons rid leg onMatch pr rs part).2⟩

theorem labelsOf_portLoop (rid : Nat) (leg : Leg) (onMatch : Label) :
    ∀ (rs : List PortRange) (part : Nat),
      (∀ l ∈ labelsOf (flat (portLoop rid leg onMatch rs part).1), ∃ k, part ≤ k ∧ l = .rulePart rid k) ∧
      part ≤ (portLoop rid leg onMatch rs part).2 := by
  intro rs
  induction rs with
  | nil => intro part; exact ⟨by intro l hl; simp [portLoop, flat, labelsOf] at hl, Nat.le_refl _⟩
  | cons pr rs ih =>
    intro part
    obtain ⟨e1, e2⟩ := portLoop_cons_flat rid leg onMatch pr rs part
    rw [e1, e2]
    obtain ⟨a, b⟩ := ih (portHere rid onMatch pr part).2
    have hle := portHere_snd_le rid onMatch pr part
    refine ⟨fun l hl => ?_, Nat.le_trans hle b⟩
    rw [labelsOf_append, List.mem_append] at hl
    rcases hl with hl | hl
    · exact ⟨part, Nat.le_refl _, labelsOf_portHere rid onMatch pr part l hl⟩
    · obtain ⟨k, hk, e⟩ := a l hl
      exact ⟨k, Nat.le_trans hle hk, e⟩

theorem flat_named (c : Cfg) (leg : Leg) (onMatch : Label) (named : List Nat) :
    flat (named.flatMap (fun id =>
      BEv.maybeSplit [] :: (ipSetLookup c id leg ++ [jumpNEImm64 R0 0 onMatch]).map BEv.ev)) =
    named.flatMap (fun id => ipSetLookup c id leg ++ [jumpNEImm64 R0 0 onMatch]) := by
  induction named with
  | nil => rfl
  | cons id ids ih => simp only [List.flatMap_cons, List.cons_append, flat, flat_append, flat_map_ev, ih]

theorem flat_named' (c : Cfg) (leg : Leg) (onMatch : Label) (named : List Nat) :
    flat (named.flatMap (fun id =>
      BEv.maybeSplit [] :: ((ipSetLookup c id leg).map BEv.ev ++ [BEv.ev (jumpNEImm64 R0 0 onMatch)]))) =
    named.flatMap (fun id => ipSetLookup c id leg ++ [jumpNEImm64 R0 0 onMatch]) := by
  simpa only [List.map_append, List.map_cons, List.map_nil] using flat_named c leg onMatch named

/-- `writePortsMatch`: the port load, the numeric ranges, the named-port sets; a positive match ends with
the "no hit ⇒ no match" jump and the match label. -/
theorem portsMatch_flat (c : Cfg) (rid part : Nat) (neg : Bool) (leg : Leg) (ports : List PortRange) (named : List Nat) :
    flat (portsMatch c rid part neg leg ports named).1 =
      (load16 R1 R9 leg.portOff ::
        flat (portLoop rid leg (if neg then .ruleNoMatch rid else .rulePart rid part) ports (if neg then part else part + 1)).1 ++
        named.flatMap (fun id => ipSetLookup c id leg ++
          [jumpNEImm64 R0 0 (if neg then .ruleNoMatch rid else .rulePart rid part)])) ++
      (if neg then [] else [jump (.ruleNoMatch rid), .label (.rulePart rid part)]) := by
  cases neg
  · simp only [portsMatch, Bool.false_eq_true, if_false]
    cases portLoop rid leg (.rulePart rid part) ports (part + 1) with
    | mk nums p2 => simp [flat, flat_append, flat_named']
  · simp only [portsMatch, if_true]
    cases portLoop rid leg (.ruleNoMatch rid) ports part with
    | mk nums p2 => simp [flat, flat_append, flat_named']

/-! The pieces of `ruleMatches`, numbered as its bindings `let (e_k, p) := …` are (`Model/C11Builder`); each
takes the part counter left by the piece before it. -/

def rmP2 (c : Cfg) (rid : Nat) (r : Rule) : List BEv × Nat :=
  if r.srcNet.isEmpty then ([], 0) else cidrsMatch c.v6 rid 0 false .source r.srcNet

def rmP3 (c : Cfg) (rid : Nat) (r : Rule) : List BEv × Nat :=
  if r.notSrcNet.isEmpty then ([], (rmP2 c rid r).2) else cidrsMatch c.v6 rid (rmP2 c rid r).2 true .source r.notSrcNet

def rmP4 (c : Cfg) (rid : Nat) (r : Rule) (destLeg : Leg) : List BEv × Nat :=
  if r.dstNet.isEmpty then ([], (rmP3 c rid r).2) else cidrsMatch c.v6 rid (rmP3 c rid r).2 false destLeg r.dstNet

def rmP5 (c : Cfg) (rid : Nat) (r : Rule) (destLeg : Leg) : List BEv × Nat :=
  if r.notDstNet.isEmpty then ([], (rmP4 c rid r destLeg).2)
  else cidrsMatch c.v6 rid (rmP4 c rid r destLeg).2 true destLeg r.notDstNet

def rmP7 (c : Cfg) (rid : Nat) (r : Rule) (destLeg : Leg) : List Ev × Nat :=
  if r.dstIpSetIds.isEmpty then ([], (rmP5 c rid r destLeg).2)
  else ipSetOrMatch c rid (rmP5 c rid r destLeg).2 destLeg r.dstIpSetIds

def rmP9 (c : Cfg) (rid : Nat) (r : Rule) (destLeg : Leg) : List BEv × Nat :=
  if r.srcPorts.isEmpty && r.srcNamedPortIpSetIds.isEmpty then ([], (rmP7 c rid r destLeg).2)
  else portsMatch c rid (rmP7 c rid r destLeg).2 false .source r.srcPorts r.srcNamedPortIpSetIds

def rmP10 (c : Cfg) (rid : Nat) (r : Rule) (destLeg : Leg) : List BEv × Nat :=
  if r.notSrcPorts.isEmpty && r.notSrcNamedPortIpSetIds.isEmpty then ([], (rmP9 c rid r destLeg).2)
  else portsMatch c rid (rmP9 c rid r destLeg).2 true .source r.notSrcPorts r.notSrcNamedPortIpSetIds

def rmP11 (c : Cfg) (rid : Nat) (r : Rule) (destLeg : Leg) : List BEv × Nat :=
  if r.dstPorts.isEmpty && r.dstNamedPortIpSetIds.isEmpty then ([], (rmP10 c rid r destLeg).2)
  else portsMatch c rid (rmP10 c rid r destLeg).2 false destLeg r.dstPorts r.dstNamedPortIpSetIds

def rmP12 (c : Cfg) (rid : Nat) (r : Rule) (destLeg : Leg) : List BEv × Nat :=
  if r.notDstPorts.isEmpty && r.notDstNamedPortIpSetIds.isEmpty then ([], (rmP11 c rid r destLeg).2)
  else portsMatch c rid (rmP11 c rid r destLeg).2 true destLeg r.notDstPorts r.notDstNamedPortIpSetIds

theorem ruleMatches_eq (c : Cfg) (rid : Nat) (r : Rule) (destLeg : Leg) :
    ruleMatches c rid r destLeg =
      (optList r.protocol (protoMatch rid false) ++ optList r.notProtocol (protoMatch rid true)).map BEv.ev ++
      (rmP2 c rid r).1 ++ (rmP3 c rid r).1 ++ (rmP4 c rid r destLeg).1 ++ (rmP5 c rid r destLeg).1 ++
      (ipSetMatch c rid false .source r.srcIpSetIds ++ ipSetMatch c rid true .source r.notSrcIpSetIds).map BEv.ev ++
      (rmP7 c rid r destLeg).1.map .ev ++
      (ipSetMatch c rid true destLeg r.notDstIpSetIds ++ ipSetMatch c rid false destLeg r.dstIpPortSetIds).map BEv.ev ++
      (rmP9 c rid r destLeg).1 ++ (rmP10 c rid r destLeg).1 ++ (rmP11 c rid r destLeg).1 ++ (rmP12 c rid r destLeg).1 ++
      (icmpMatch rid false r.icmp ++ icmpMatch rid true r.notIcmp).map BEv.ev := by
  rfl

theorem filterRule_some {r fr : Rule} {v6 : Bool} (h : filterRule v6 r = some fr) :
    ∃ s ns d nd, fr = { r with srcNet := s, notSrcNet := ns, dstNet := d, notDstNet := nd } := by
  unfold filterRule at h
  by_cases hv : (r.ipVersion != 0 && r.ipVersion != if v6 = true then 6 else 4) = true
  · rw [if_pos hv] at h; cases h
  rw [if_neg hv] at h
  generalize filterNets r.srcNet v6 false = x1 at h
  generalize filterNets r.notSrcNet v6 true = x2 at h
  generalize filterNets r.dstNet v6 false = x3 at h
  generalize filterNets r.notDstNet v6 true = x4 at h
  obtain ⟨s, a1⟩ := x1
  obtain ⟨ns, a2⟩ := x2
  obtain ⟨d, a3⟩ := x3
  obtain ⟨nd, a4⟩ := x4
  cases a1 with
  | true => cases h
  | false =>
  cases a2 with
  | true => cases h
  | false =>
  cases a3 with
  | true => cases h
  | false =>
  cases a4 with
  | true => cases h
  | false =>
  exact ⟨s, ns, d, nd, (Option.some.inj h).symm⟩

def logEvs : List Ev :=
  [load64 R1 R9 stateOffFlags, orImm64 R1 flagLogPacket, store64 R9 R1 stateOffFlags]

theorem labelsOf_record (id : Nat) (skip : Label) : labelsOf (recordRuleID id skip) = [] := by
  simp [recordRuleID, loadImm64, labelsOf, load8, jumpGEImm64, mov64, addImm64, store8, shiftLImm64, add64, store64, mk, mkJ]

theorem writeRule_flat (c : Cfg) (rid : Nat) (r : Rule) (a : Label) (leg : Leg) :
    flat (writeRule c rid r a leg).1 =
      match filterRule c.v6 r with
      | none => []
      | some fr => flat (ruleMatches c rid fr leg) ++ endOfRule c rid r.matchID a := by
  unfold writeRule
  cases filterRule c.v6 r with
  | none => simp [flat]
  | some fr => simp only [flat, flat_append, flat_map_ev]

theorem writeRule_rid (c : Cfg) (rid : Nat) (r : Rule) (a : Label) (leg : Leg) :
    (writeRule c rid r a leg).2 = match filterRule c.v6 r with | none => rid | some _ => rid + 1 := by
  unfold writeRule
  cases filterRule c.v6 r <;> rfl

def ruleEndEvs (c : Cfg) (id : Nat) (a : Label) : List Ev :=
  if a = .log then logEvs else (if c.record then recordRuleID id a else []) ++ [jump a]

theorem endOfRule_split (c : Cfg) (rid id : Nat) (a : Label) :
    endOfRule c rid id a = ruleEndEvs c id a ++ [.label (.ruleNoMatch rid)] := rfl

theorem labelsOf_ruleEndEvs (c : Cfg) (id : Nat) (a : Label) : labelsOf (ruleEndEvs c id a) = [] := by
  unfold ruleEndEvs
  split
  · rfl
  · split
    · rw [labelsOf_append, labelsOf_record]; rfl
    · rfl

theorem labelsOf_endOfRule (c : Cfg) (rid id : Nat) (a : Label) : labelsOf (endOfRule c rid id a) = [.ruleNoMatch rid] := by
  rw [endOfRule_split, labelsOf_append, labelsOf_ruleEndEvs]; rfl

/-- allow / deny / pass / log: the actions a rule of a policy or of a profile may have (`actOf r.action ≠ .invalid`). -/
def Rule.tierAction (r : Rule) : Bool :=
  match actOf r.action with
  | .invalid => false
  | _ => true

theorem tierActionLabel_actOf (al : Label) (tid : Nat) (a : String) :
    tierActionLabel al tid a = (match actOf a with
      | .allow => al | .deny => .deny | .log => .log | .pass => .endOfTier tid | .invalid => .none) := by
  -- both sides test the same conditions in the same order
  unfold tierActionLabel actOf
  dsimp only
  generalize asciiLower a = s
  split; · rfl
  split; · rfl
  split; · rfl
  split <;> rfl

theorem profileActionLabel_actOf (al : Label) (a : String) :
    profileActionLabel al a = (match actOf a with
      | .allow => al | .deny => .deny | .log => .log | .pass => .deny | .invalid => .none) := by
  unfold profileActionLabel actOf
  simp only
  generalize asciiLower a = s at *
  by_cases h1 : s = "allow" <;> by_cases h2 : s = "deny" <;> by_cases h3 : s = "log" <;>
    by_cases h4 : s = "pass" <;> by_cases h5 : s = "next-tier" <;> simp_all

theorem ite_nil_ind {β : Type} {P : List β → Prop} (h0 : P []) {b : Prop} [Decidable b] {n : Nat} {X : List β × Nat}
    (h : P X.1) : P (if b then ([], n) else X).1 := by
  split
  · exact h0
  · exact h

theorem writePolicies_ind {P : List BEv → Prop} (h0 : P []) (happ : ∀ {a b}, P a → P b → P (a ++ b))
    (c : Cfg) (lab : String → Label) (leg : Leg) :
    ∀ (ps : List Policy) (rid : Nat), (∀ pol ∈ ps, ∀ r ∈ pol.rules, ∀ rid, P (writeRule c rid r (lab r.action) leg).1) →
      P (writePolicies c lab leg ps rid).1 := by
  have rules : ∀ (rs : List Rule) (rid : Nat), (∀ r ∈ rs, ∀ rid, P (writeRule c rid r (lab r.action) leg).1) →
      P (writePolicyRules c lab leg rs rid).1 := by
    intro rs
    induction rs with
    | nil => exact fun _ _ => h0
    | cons r rs ih =>
      exact fun rid h => happ (h r List.mem_cons_self rid) (ih _ fun r' hr' => h r' (List.mem_cons_of_mem _ hr'))
  intro ps
  induction ps with
  | nil => exact fun _ _ => h0
  | cons pol ps ih =>
    exact fun rid h => happ (rules pol.rules rid (h pol List.mem_cons_self))
      (ih _ fun p' hp' => h p' (List.mem_cons_of_mem _ hp'))

theorem cidrLoop_ind {P : List BEv → Prop} (h0 : P []) (happ : ∀ {a b}, P a → P b → P (a ++ b))
    (v6 : Bool) (leg : Leg) (rid : Nat) (onMatch : Label) (hm : P [.maybeSplit []])
    (ht : ∀ n idx, P ((if v6 then cidrV6 leg rid idx onMatch n else cidrV4 leg onMatch n).map BEv.ev)) :
    ∀ (nets : List Net) (idx : Nat), P (cidrLoop v6 leg rid onMatch nets idx)
  | [], _ => h0
  | n :: ns, idx => happ (a := [.maybeSplit []]) hm (happ (ht n idx) (cidrLoop_ind h0 happ v6 leg rid onMatch hm ht ns (idx + 1)))

/-- Where the implicit end-of-tier rule jumps: on to the next tier for an end action `pass`, else to `deny`. -/
def tierEndLabel (t : Tier) (tid : Nat) : Label :=
  match t.endAction with
  | .pass => .endOfTier tid
  | _ => .deny

theorem tierEndLabel_mem {E : List Label} (t : Tier) (tid : Nat) (hd : Label.deny ∈ E) (he : Label.endOfTier tid ∈ E) :
    tierEndLabel t tid ∈ E := by
  unfold tierEndLabel; cases t.endAction <;> first | exact he | exact hd

theorem writeTiers_cons (c : Cfg) (leg : Leg) (al : Label) (t : Tier) (ts : List Tier) (rid tid : Nat) :
    (writeTiers c leg al (t :: ts) rid tid).1 =
      ((writePolicies c (tierActionLabel al tid) leg t.policies rid).1 ++
        (writeRule c (writePolicies c (tierActionLabel al tid) leg t.policies rid).2
          { action := "", matchID := t.endRuleID } (tierEndLabel t tid) leg).1) ++ BEv.ev (.label (.endOfTier tid)) ::
      (writeTiers c leg al ts
        (writeRule c (writePolicies c (tierActionLabel al tid) leg t.policies rid).2
          { action := "", matchID := t.endRuleID } (tierEndLabel t tid) leg).2 (tid + 1)).1 := by
  simp only [writeTiers, tierEndLabel]
  cases t.endAction <;> simp

theorem writeTiers_cons_flat (c : Cfg) (leg : Leg) (al : Label) (t : Tier) (ts : List Tier) (rid tid : Nat) :
    flat (writeTiers c leg al (t :: ts) rid tid).1 =
      ((flat (writePolicies c (tierActionLabel al tid) leg t.policies rid).1 ++
        flat (writeRule c (writePolicies c (tierActionLabel al tid) leg t.policies rid).2
          { action := "", matchID := t.endRuleID } (tierEndLabel t tid) leg).1) ++ [.label (.endOfTier tid)]) ++
      flat (writeTiers c leg al ts
        (writeRule c (writePolicies c (tierActionLabel al tid) leg t.policies rid).2
          { action := "", matchID := t.endRuleID } (tierEndLabel t tid) leg).2 (tid + 1)).1 := by
  rw [writeTiers_cons]; simp [flat_append, flat]

theorem workloadPart_eq (c : Cfg) (r : Rules) (rid tid : Nat) (h : r.forHostInterface = false) :
    workloadPart c r rid tid =
      (writeTiers c .dest .allow r.tiers rid tid).1 ++
      (writeProfiles c .allow r.profiles r.noProfileMatchID (writeTiers c .dest .allow r.tiers rid tid).2.1).1 := by
  simp only [workloadPart, h, Bool.false_eq_true, if_false]

theorem workloadPart_flat (c : Cfg) (r : Rules) (rid tid : Nat) (h : r.forHostInterface = false) :
    flat (workloadPart c r rid tid) =
      flat (writeTiers c .dest .allow r.tiers rid tid).1 ++
      flat (writeProfiles c .allow r.profiles r.noProfileMatchID (writeTiers c .dest .allow r.tiers rid tid).2.1).1 := by
  rw [workloadPart_eq c r rid tid h, flat_append]

/-! Names in this file: an equation on the builder's `BEv` list has the bare name (`x_eq`, `x_cons`), the same after
`flat` the suffix `_flat`; the labels a piece defines are `labelsOf_x`.  The counters that the later `writeTiers`
calls of the host part start from are named by the caller, in both forms (`rfl` for the plain form). -/

theorem hostPart_xdp_sup (c : Cfg) (r : Rules) (h1 : r.forXDP = true) (h2 : r.suppressNormalHostPolicy = true) :
    (hostPart c r).1 = [.ev (.label AHP)] := by
  unfold hostPart; simp [h1, h2]

theorem hostPart_xdp (c : Cfg) (r : Rules) (h1 : r.forXDP = true) (h2 : r.suppressNormalHostPolicy = false) :
    (hostPart c r).1 =
      (.ev (.label TOFH) :: ((writeTiers c .destPreNAT AHP r.hostNormalTiers 0 0).1 ++ [.ev (jump .xdpPass)])) ++
        [.ev (.label AHP)] := by
  unfold hostPart; simp [h1, h2]

theorem hostPart_sup (c : Cfg) (r : Rules) (h1 : r.forXDP = false) (h2 : r.suppressNormalHostPolicy = true)
    {w1 : List BEv × Nat × Nat} (e1 : writeTiers c .destPreNAT AHP r.hostPreDnatTiers 0 0 = w1) :
    (hostPart c r).1 =
      (w1.1 ++ ((jumpIfToOrFromHost AHP).map BEv.ev ++
        ((writeTiers c .dest AHP r.hostForwardTiers w1.2.1 w1.2.2).1 ++ [.ev (jump AHP)]))) ++ [.ev (.label AHP)] := by
  subst e1; unfold hostPart; simp [h1, h2]

theorem hostPart_nosup (c : Cfg) (r : Rules) (h1 : r.forXDP = false) (h2 : r.suppressNormalHostPolicy = false)
    {w1 w3 w5 : List BEv × Nat × Nat} (e1 : writeTiers c .destPreNAT AHP r.hostPreDnatTiers 0 0 = w1)
    (e3 : writeTiers c .dest AHP r.hostForwardTiers w1.2.1 w1.2.2 = w3)
    (e5 : writeTiers c .dest AHP r.hostNormalTiers w3.2.1 w3.2.2 = w5) :
    (hostPart c r).1 =
      (w1.1 ++ ((jumpIfToOrFromHost TOFH).map BEv.ev ++ (w3.1 ++ [.ev (jump AHP)])) ++ .ev (.label TOFH) ::
        (w5.1 ++ (writeProfiles c AHP r.hostProfiles r.noProfileMatchID w5.2.1).1)) ++ [.ev (.label AHP)] := by
  subst e1 e3 e5; unfold hostPart; simp [h1, h2]

theorem hostPart_xdp_sup_flat (c : Cfg) (r : Rules) (h1 : r.forXDP = true) (h2 : r.suppressNormalHostPolicy = true) :
    flat (hostPart c r).1 = [.label AHP] := by
  rw [hostPart_xdp_sup c r h1 h2]; rfl

theorem hostPart_xdp_flat (c : Cfg) (r : Rules) (h1 : r.forXDP = true) (h2 : r.suppressNormalHostPolicy = false) :
    flat (hostPart c r).1 =
      (.label TOFH :: (flat (writeTiers c .destPreNAT AHP r.hostNormalTiers 0 0).1 ++ [jump .xdpPass])) ++ [.label AHP] := by
  rw [hostPart_xdp c r h1 h2]; simp [flat, flat_append]

theorem hostPart_sup_flat (c : Cfg) (r : Rules) (h1 : r.forXDP = false) (h2 : r.suppressNormalHostPolicy = true)
    {w1 : List BEv × Nat × Nat} (e1 : writeTiers c .destPreNAT AHP r.hostPreDnatTiers 0 0 = w1) :
    flat (hostPart c r).1 =
      (flat w1.1 ++ (jumpIfToOrFromHost AHP ++
        (flat (writeTiers c .dest AHP r.hostForwardTiers w1.2.1 w1.2.2).1 ++ [jump AHP]))) ++ [.label AHP] := by
  rw [hostPart_sup c r h1 h2 e1]; simp [flat, flat_append, flat_map_ev]

theorem hostPart_nosup_flat (c : Cfg) (r : Rules) (h1 : r.forXDP = false) (h2 : r.suppressNormalHostPolicy = false)
    {w1 w3 w5 : List BEv × Nat × Nat} (e1 : writeTiers c .destPreNAT AHP r.hostPreDnatTiers 0 0 = w1)
    (e3 : writeTiers c .dest AHP r.hostForwardTiers w1.2.1 w1.2.2 = w3)
    (e5 : writeTiers c .dest AHP r.hostNormalTiers w3.2.1 w3.2.2 = w5) :
    flat (hostPart c r).1 =
      (flat w1.1 ++ (jumpIfToOrFromHost TOFH ++ (flat w3.1 ++ [jump AHP]) ++ [.label TOFH] ++
        (flat w5.1 ++ flat (writeProfiles c AHP r.hostProfiles r.noProfileMatchID w5.2.1).1))) ++ [.label AHP] := by
  rw [hostPart_nosup c r h1 h2 e1 e3 e5]
  simp only [flat, flat_append, flat_map_ev, List.append_assoc, List.cons_append, List.nil_append]

/-- "Store the verdict, tail-call through the static jump map" (both footer blocks). -/
def verdictBlock (c : Cfg) (v : Int) (jmp : Int) (cb : Int) : List Ev :=
  [movImm32 R1 v, store32 R9 R1 stateOffPolResult, mov64 R1 R6] ++ loadMapFD R2 c.staticJumpMapFD ++
  [if c.useJmps then movImm32 R3 jmp else load32 R3 R6 cb, call helperTailCall]

theorem footerEvs_eq (c : Cfg) (xdp : Bool) :
    footerEvs c xdp = .label .deny :: (verdictBlock c policyDeny c.denyJmp skbCb1 ++
      (exitTargetEvs xdp ++ ((if xdp then [.label .xdpPass, movImm64 R0 2, exitI] else []) ++
        (.label .allow :: (verdictBlock c policyAllow c.allowJmp skbCb0 ++
          [movImm32 R1 policyTailCallFailed, store32 R9 R1 stateOffPolResult, movImm64 R0 (if xdp then 1 else 2), exitI]))))) := by
  simp [footerEvs, verdictBlock]

theorem labelsOf_verdictBlock (c : Cfg) (v jmp cb : Int) : labelsOf (verdictBlock c v jmp cb) = [] := by
  unfold verdictBlock
  by_cases hu : c.useJmps = true <;>
    simp [hu, labelsOf, loadMapFD, movImm32, store32, mov64, load32, call, mk]

def footerLabels (xdp : Bool) : List Label := [.deny, .exit] ++ ((if xdp then [.xdpPass] else []) ++ [.allow])

theorem labelsOf_headerEvs (c : Cfg) : labelsOf (headerEvs c) = [.start, .policy] := rfl

theorem labelsOf_footer (c : Cfg) (xdp : Bool) : labelsOf (footerEvs c xdp) = footerLabels xdp := by
  rw [footerEvs_eq]
  cases xdp <;>
    simp [footerLabels, labelsOf, labelsOf_append, labelsOf_verdictBlock, exitTargetEvs, movImm64, movImm32, store32, exitI, mk]

/-! The program behind the header: `bodyB` on the builder's events, `policyEvs` (host part, workload part) its plain
events up to the footer. -/

def bodyB (c : Cfg) (r : Rules) : List BEv :=
  (hostPart c r).1 ++ (workloadPart c r (hostPart c r).2.1 (hostPart c r).2.2 ++ (footerEvs c r.forXDP).map BEv.ev)

def policyEvs (c : Cfg) (r : Rules) : List Ev :=
  flat (hostPart c r).1 ++ flat (workloadPart c r (hostPart c r).2.1 (hostPart c r).2.2)

theorem compile_bodyB (c : Cfg) (r : Rules) : compile c r = (headerEvs c).map BEv.ev ++ bodyB c r := by
  unfold compile bodyB
  cases hostPart c r with
  | mk h rt => cases rt with
    | mk a b => simp

theorem bodyB_flat (c : Cfg) (r : Rules) : flat (bodyB c r) = policyEvs c r ++ footerEvs c r.forXDP := by
  simp [bodyB, policyEvs, flat_append, flat_map_ev]

theorem compile_flat (c : Cfg) (r : Rules) : flat (compile c r) = headerEvs c ++ flat (bodyB c r) := by
  rw [compile_bodyB, flat_append, flat_map_ev]

end CalicoVerif.C11
