import CalicoVerif.Model.C13
import CalicoVerif.Proofs.CoreFacts
/-! C13: the layout algorithm.  `layoutStruct` places members in order, disjoint, aligned and inside the bits it
reports; `layoutUnion` places them at 0; `Rec.layout` is one or the other. -/
namespace CalicoVerif.C13

theorem roundUp_mod (n a : Nat) : roundUp n a % a = 0 := by
  unfold roundUp; exact Nat.mul_mod_left _ _

theorem roundUp_ge (n a : Nat) (ha : 0 < a) : n ≤ roundUp n a := by
  unfold roundUp
  have h1 := Nat.div_add_mod (n + a - 1) a
  have h2 := Nat.mod_lt (n + a - 1) ha
  have h3 : (n + a - 1) / a * a = a * ((n + a - 1) / a) := Nat.mul_comm _ _
  omega

/-- Every C object type has a positive alignment. -/
def Field.wf (f : Field) : Prop := 0 < f.ty.align

theorem effAlign_pos (packed : Bool) (f : Field) (h : f.wf) : 0 < f.effAlign packed := by
  unfold Field.effAlign; cases packed <;> simp <;> exact h

theorem placeField_ge (packed : Bool) (pos : Nat) (f : Field) (h : f.wf) :
    pos ≤ placeField packed pos f := by
  unfold placeField
  cases f.bits with
  | none =>
    simp only []
    exact roundUp_ge _ _ (by have := effAlign_pos packed f h; omega)
  | some w =>
    simp only []
    split
    · exact Nat.le_refl _
    · split
      · exact roundUp_ge _ _ (by unfold Field.wf at h; omega)
      · exact Nat.le_refl _

theorem layoutStruct_bounds (packed : Bool) (fs : List Field) (pos : Nat) (hwf : ∀ f ∈ fs, f.wf) :
    pos ≤ (layoutStruct packed fs pos).2 ∧
    ∀ s ∈ (layoutStruct packed fs pos).1, pos ≤ s.off ∧ s.off + s.size ≤ (layoutStruct packed fs pos).2 := by
  induction fs generalizing pos with
  | nil => simp [layoutStruct]
  | cons f fs ih =>
    have hf : f.wf := hwf f (by simp)
    have hge := placeField_ge packed pos f hf
    have ih' := ih (placeField packed pos f + f.bitSize) (fun g hg => hwf g (by simp [hg]))
    simp only [layoutStruct]
    refine ⟨by omega, ?_⟩
    intro s hs
    rcases List.mem_cons.1 hs with rfl | hs'
    · simp only; omega
    · have := ih'.2 s hs'; omega

theorem layoutStruct_pairwise (packed : Bool) (fs : List Field) (pos : Nat) (hwf : ∀ f ∈ fs, f.wf) :
    (layoutStruct packed fs pos).1.Pairwise (fun a b => a.off + a.size ≤ b.off) := by
  induction fs generalizing pos with
  | nil => simp [layoutStruct]
  | cons f fs ih =>
    simp only [layoutStruct, List.pairwise_cons]
    refine ⟨?_, ih _ (fun g hg => hwf g (by simp [hg]))⟩
    intro s hs
    have := (layoutStruct_bounds packed fs (placeField packed pos f + f.bitSize)
      (fun g hg => hwf g (by simp [hg]))).2 s hs
    show placeField packed pos f + f.bitSize ≤ s.off
    omega

theorem layoutStruct_aligned (packed : Bool) (fs : List Field) (pos : Nat) :
    ∀ p ∈ fs.zip (layoutStruct packed fs pos).1, p.1.bits = none →
      p.2.off % (8 * p.1.effAlign packed) = 0 := by
  induction fs generalizing pos with
  | nil => simp [layoutStruct]
  | cons f fs ih =>
    intro p hp hb
    simp only [layoutStruct, List.zip_cons_cons, List.mem_cons] at hp
    rcases hp with rfl | hp
    · simp only at hb ⊢
      simp only [placeField, hb]
      exact roundUp_mod _ _
    · exact ih _ p hp hb

theorem layoutStruct_names (packed : Bool) (fs : List Field) (pos : Nat) :
    (layoutStruct packed fs pos).1.map (·.name) = fs.map (·.name) := by
  induction fs generalizing pos with
  | nil => rfl
  | cons f fs ih => simp [layoutStruct, ih]

theorem layoutUnion_zero (fs : List Field) :
    ∀ s ∈ (layoutUnion fs).1, s.off = 0 ∧ s.size ≤ (layoutUnion fs).2 := by
  induction fs with
  | nil => simp [layoutUnion]
  | cons f fs ih =>
    intro s hs
    simp only [layoutUnion, List.mem_cons] at hs ⊢
    rcases hs with rfl | hs
    · exact ⟨rfl, Nat.le_max_left _ _⟩
    · have := ih s hs
      exact ⟨this.1, Nat.le_trans this.2 (Nat.le_max_right _ _)⟩

theorem Rec.align_pos (r : Rec) : 0 < r.align := by
  unfold Rec.align
  exact Nat.lt_of_lt_of_le (by decide : 0 < 1) (le_foldl (μ := id) (fun _ _ => Nat.le_max_left _ _) _ _)

def Rec.wf (r : Rec) : Prop := ∀ f ∈ r.fields, f.wf

theorem Rec.layout_struct {r : Rec} (hs : r.isUnion = false) :
    r.layout = (layoutStruct r.packed r.fields 0).1 ∧ r.dataBits = (layoutStruct r.packed r.fields 0).2 := by
  simp only [Rec.layout, Rec.dataBits, hs, Bool.false_eq_true, if_false, and_self]

theorem Rec.layout_union {r : Rec} (hu : r.isUnion = true) :
    r.layout = (layoutUnion r.fields).1 ∧ r.dataBits = (layoutUnion r.fields).2 := by
  simp only [Rec.layout, Rec.dataBits, hu, if_true, and_self]

end CalicoVerif.C13
