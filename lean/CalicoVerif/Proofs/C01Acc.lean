import CalicoVerif.Proofs.C02Main
/-! C01: a list-based, printable accumulation of emitted messages (`Acc`) and the proof that it is
exactly C02's function-based dataplane state `DP.applyAll` — so the driver prints the very object the
C01 theorems speak about.  Core Lean only (imported by the driver). -/
namespace CalicoVerif.C01
open CalicoVerif C02

structure Acc where
  ipsets : List (String × (Nat × List String)) := []
  pols : List (PolicyKey × Rules) := []
  profs : List (String × Rules) := []
  eps : List (EpKey × EpDown) := []
  vteps : List (String × String) := []
  routes : List (String × RouteData) := []
  gens : List ((GenCat × String) × String) := []

/-- mirrors `DP.apply` -/
def Acc.apply (a : Acc) : Msg → Acc
  | .ipsetUpdate id typ ms => { a with ipsets := mset id (typ, ms) a.ipsets }
  | .ipsetDelta id ad rm =>
    match mget a.ipsets id with
    | some (t, ms) => { a with ipsets := mset id (t, (ms ++ ad).filter (fun m => decide (m ∉ rm))) a.ipsets }
    | none => a
  | .ipsetRemove id => { a with ipsets := mdel id a.ipsets }
  | .policyUpdate k r => { a with pols := mset k r a.pols }
  | .policyRemove k => { a with pols := mdel k a.pols }
  | .profileUpdate k r => { a with profs := mset k r a.profs }
  | .profileRemove k => { a with profs := mdel k a.profs }
  | .wepUpdate id dt t => { a with eps := mset (.wep id) ⟨dt, { normal := t }⟩ a.eps }
  | .hepUpdate id dt t u p f => { a with eps := mset (.hep id) ⟨dt, ⟨t, u, p, f⟩⟩ a.eps }
  | .wepRemove id => { a with eps := mdel (.wep id) a.eps }
  | .hepRemove id => { a with eps := mdel (.hep id) a.eps }
  | .vtepUpdate n t => { a with vteps := mset n t a.vteps }
  | .vtepRemove n => { a with vteps := mdel n a.vteps }
  | .routeUpdate dst r => { a with routes := mset dst r a.routes }
  | .routeRemove dst => { a with routes := mdel dst a.routes }
  | .genUpdate c k t => { a with gens := mset (c, k) t a.gens }
  | .genRemove c k => { a with gens := mdel (c, k) a.gens }
  | _ => a

def Acc.applyAll (a : Acc) (ms : List Msg) : Acc := ms.foldl Acc.apply a

def Acc.toDP (a : Acc) : DP :=
  { ipsets := fun id => (mget a.ipsets id).map (fun p m => decide (m ∈ p.2))
    pol := mget a.pols
    prof := mget a.profs
    ep := mget a.eps
    vtep := mget a.vteps
    route := mget a.routes
    gen := fun c k => mget a.gens (c, k) }

theorem mget_mset_fn {κ β : Type} [DecidableEq κ] (m : List (κ × β)) (k : κ) (v : β) :
    mget (mset k v m) = fupd (mget m) k (some v) := by
  funext k'; simp [mget_mset, fupd]

theorem mget_mdel_fn {κ β : Type} [DecidableEq κ] (m : List (κ × β)) (k : κ) :
    mget (mdel k m) = fupd (mget m) k none := by
  funext k'; simp [mget_mdel, fupd]

theorem Acc.toDP_apply (a : Acc) (m : Msg) : (a.apply m).toDP = a.toDP.apply m := by
  cases m with
  | ipsetUpdate id typ ms =>
    refine DP.ext' ?_ rfl rfl rfl rfl rfl rfl
    funext id'
    simp only [Acc.apply, Acc.toDP, DP.apply, fupd, mget_mset]
    by_cases h : id' = id <;> simp [h]
  | ipsetDelta id ad rm =>
    simp only [Acc.apply, DP.apply]
    cases hg : mget a.ipsets id with
    | none => simp [Acc.toDP, hg]
    | some p =>
      obtain ⟨t, ms⟩ := p
      simp only [Acc.toDP, hg, Option.map_some]
      refine DP.ext' ?_ rfl rfl rfl rfl rfl rfl
      funext id'
      simp only [fupd, mget_mset]
      by_cases h : id' = id
      · subst h
        simp only [if_true, Option.map_some, Option.some.injEq]
        funext m
        simp only [List.mem_filter, List.mem_append, decide_eq_true_eq]
        by_cases h1 : m ∈ ms <;> by_cases h2 : m ∈ ad <;> by_cases h3 : m ∈ rm <;> simp [h1, h2, h3]
      · simp [h]
  | ipsetRemove id =>
    refine DP.ext' ?_ rfl rfl rfl rfl rfl rfl
    funext id'
    simp only [Acc.apply, Acc.toDP, DP.apply, fupd, mget_mdel]
    by_cases h : id' = id <;> simp [h]
  | genUpdate c k t =>
    refine DP.ext' rfl rfl rfl rfl rfl rfl ?_
    funext c' k'
    simp only [Acc.apply, Acc.toDP, DP.apply, mget_mset, Prod.mk.injEq]
    by_cases hc : c' = c
    · subst hc; by_cases hk : k' = k <;> simp [hk, fupd]
    · simp [hc]
  | genRemove c k =>
    refine DP.ext' rfl rfl rfl rfl rfl rfl ?_
    funext c' k'
    simp only [Acc.apply, Acc.toDP, DP.apply, mget_mdel, Prod.mk.injEq]
    by_cases hc : c' = c
    · subst hc; by_cases hk : k' = k <;> simp [hk, fupd]
    · simp [hc]
  | _ => simp only [Acc.apply, Acc.toDP, DP.apply, mget_mset_fn, mget_mdel_fn]

theorem Acc.toDP_applyAll (ms : List Msg) (a : Acc) : (a.applyAll ms).toDP = a.toDP.applyAll ms := by
  induction ms generalizing a with
  | nil => rfl
  | cons m ms ih =>
    simp only [Acc.applyAll, DP.applyAll, List.foldl_cons] at ih ⊢
    rw [ih, Acc.toDP_apply]

theorem Acc.toDP_empty : ({} : Acc).toDP = ({} : DP) := rfl

end CalicoVerif.C01
