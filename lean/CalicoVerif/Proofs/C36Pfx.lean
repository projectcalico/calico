import CalicoVerif.Model.C36
/-!
C36: the CIDR arithmetic of felix/ip (leading zeros, masks, `NthBit`, `Contains`, `CommonPrefix`)
characterised bit by bit; the order of masked prefixes (`covers`) and how the Go tests
(`Contains`, `CommonPrefix(..) == ..`, `.Prefix() == ..`) relate to it; `Under`, the trie invariant's
"below `c` on side `i`".
-/
namespace CalicoVerif.C36

/-- The first `k` bits of the `W`-bit number `x`. -/
def top (W x k : Nat) : Nat := x / 2 ^ (W - k)

theorem bitLen_le_iff (x k : Nat) : bitLen x ≤ k ↔ x < 2 ^ k := by
  unfold bitLen
  by_cases h : x = 0
  · subst h; simp [Nat.two_pow_pos]
  · simp only [h, if_false]
    rw [← Nat.log2_lt h]; omega

theorem bitLen_le_of_lt {W x : Nat} (h : x < 2 ^ W) : bitLen x ≤ W := (bitLen_le_iff x W).2 h

theorem clz_lt {W x : Nat} (hW : 0 < W) (hx : x ≠ 0) : clz W x < W := by
  unfold clz bitLen; rw [if_neg hx]; omega

theorem xor_eq_zero {a b : Nat} (h : a ^^^ b = 0) : a = b := by
  apply Nat.eq_of_testBit_eq
  intro i
  have := congrArg (fun n => Nat.testBit n i) h
  simp only [Nat.testBit_xor, Nat.zero_testBit] at this
  revert this
  cases a.testBit i <;> cases b.testBit i <;> simp

theorem le_clz_xor_iff {W x y k : Nat} (hx : x < 2 ^ W) (hy : y < 2 ^ W) (hk : k ≤ W) :
    k ≤ clz W (x ^^^ y) ↔ top W x k = top W y k := by
  have hz := Nat.xor_lt_two_pow hx hy
  have hb := bitLen_le_of_lt hz
  unfold clz top
  rw [Nat.le_sub_iff_add_le hb, Nat.add_comm, ← Nat.le_sub_iff_add_le hk, bitLen_le_iff]
  constructor
  · intro h
    have h0 : (x ^^^ y) >>> (W - k) = 0 := by
      rw [Nat.shiftRight_eq_div_pow]; exact Nat.div_eq_of_lt h
    rw [Nat.shiftRight_xor_distrib] at h0
    have := xor_eq_zero h0
    simpa [Nat.shiftRight_eq_div_pow] using this
  · intro h
    have h0 : (x ^^^ y) >>> (W - k) = 0 := by
      rw [Nat.shiftRight_xor_distrib, Nat.shiftRight_eq_div_pow, Nat.shiftRight_eq_div_pow, h, Nat.xor_self]
    rw [Nat.shiftRight_eq_div_pow] at h0
    rcases Nat.div_eq_zero_iff.1 h0 with h2 | h2
    · exact absurd h2 (Nat.ne_of_gt (Nat.two_pow_pos _))
    · exact h2

theorem top_succ (W x k : Nat) (hk : k < W) : top W x (k + 1) = 2 * top W x k + nthBit W x (k + 1) := by
  unfold top nthBit
  have h1 : W - k = (W - (k + 1)) + 1 := (Nat.succ_pred_eq_of_pos (Nat.sub_pos_of_lt hk)).symm
  simp only [show k + 1 ≤ W from hk, if_true, Nat.shiftRight_eq_div_pow]
  rw [h1, Nat.pow_succ, ← Nat.div_div_eq_div_mul]
  omega

theorem nthBit_lt_two (W x n : Nat) : nthBit W x n < 2 := by
  unfold nthBit; split <;> omega

theorem nthBit_eq_zero_or_one (W x n : Nat) : nthBit W x n = 0 ∨ nthBit W x n = 1 := by
  have := nthBit_lt_two W x n; omega

theorem top_zero_eq (W x y : Nat) (hx : x < 2 ^ W) (hy : y < 2 ^ W) : top W x 0 = top W y 0 := by
  unfold top; simp [Nat.div_eq_of_lt hx, Nat.div_eq_of_lt hy]

theorem top_eq_iff_bits (W x y : Nat) (hx : x < 2 ^ W) (hy : y < 2 ^ W) : ∀ k, k ≤ W →
    (top W x k = top W y k ↔ ∀ j, j < k → nthBit W x (j + 1) = nthBit W y (j + 1)) := by
  intro k
  induction k with
  | zero =>
    intro _
    simp [top_zero_eq W x y hx hy]
  | succ k ih =>
    intro hk
    have ih := ih (by omega)
    rw [top_succ W x k (by omega), top_succ W y k (by omega)]
    have bx := nthBit_lt_two W x (k + 1)
    have bY := nthBit_lt_two W y (k + 1)
    constructor
    · intro h j hj
      have h1 : top W x k = top W y k := by omega
      have h2 : nthBit W x (k + 1) = nthBit W y (k + 1) := by omega
      by_cases hjk : j = k
      · subst hjk; exact h2
      · exact ih.1 h1 j (by omega)
    · intro h
      have h1 := ih.2 (fun j hj => h j (by omega))
      have h2 := h k (by omega)
      omega

theorem mask_and (W l a : Nat) (ha : a < 2 ^ W) : mask W l &&& a = top W a l * 2 ^ (W - l) := by
  apply Nat.eq_of_testBit_eq
  intro i
  unfold mask top
  simp only [Nat.testBit_and, Nat.testBit_mod_two_pow, Nat.testBit_shiftLeft, Nat.testBit_two_pow_sub_one,
    Nat.testBit_mul_two_pow, Nat.testBit_div_two_pow]
  by_cases h1 : i < W
  · by_cases h2 : W - l ≤ i
    · have : i - (W - l) < W := by omega
      have h3 : i - (W - l) + (W - l) = i := by omega
      simp [h1, h2, this, h3]
    · simp [h2]
  · have : a.testBit i = false := Nat.testBit_lt_two_pow (Nat.lt_of_lt_of_le ha (Nat.pow_le_pow_right (by decide) (by omega)))
    simp [h1, this]
    intro _
    have h3 : i - (W - l) + (W - l) = i := by omega
    rw [h3]; exact this

theorem testBit_mask_and (W n x i : Nat) (hx : x < 2 ^ W) :
    (mask W n &&& x).testBit i = (decide (W - n ≤ i) && x.testBit i) := by
  rw [mask_and W n x hx, top, Nat.testBit_mul_two_pow, Nat.testBit_div_two_pow]
  by_cases h : W - n ≤ i
  · rw [Nat.sub_add_cancel h]
  · simp [h]

theorem mask_zero (W : Nat) : mask W 0 = 0 := by
  rw [mask, Nat.sub_zero, Nat.shiftLeft_eq, Nat.mul_mod_left]

theorem mask_and_self {W n x : Nat} (hx : x < 2 ^ W) (h : x % 2 ^ (W - n) = 0) : mask W n &&& x = x := by
  rw [mask_and W n x hx, top, Nat.div_mul_cancel (Nat.dvd_of_mod_eq_zero h)]

theorem Pfx.WF.len_le {W : Nat} {p : Pfx} (h : p.WF W) : p.len ≤ W := h.1
theorem Pfx.WF.addr_lt {W : Nat} {p : Pfx} (h : p.WF W) : p.addr < 2 ^ W := h.2.1
theorem Pfx.WF.masked {W : Nat} {p : Pfx} (h : p.WF W) : p.addr % 2 ^ (W - p.len) = 0 := h.2.2

theorem Pfx.WF.addr_eq {W : Nat} {p : Pfx} (h : p.WF W) : p.addr = top W p.addr p.len * 2 ^ (W - p.len) := by
  unfold top
  have := h.masked
  have h2 := Nat.div_add_mod p.addr (2 ^ (W - p.len))
  rw [this] at h2
  rw [Nat.mul_comm]; omega

/-- Bit `j` (0-based from the most significant) of a prefix's address. -/
abbrev Pfx.bit (W : Nat) (p : Pfx) (j : Nat) : Nat := nthBit W p.addr (j + 1)

theorem covers_iff {W : Nat} {p q : Pfx} (hp : p.WF W) (hq : q.WF W) :
    p.covers W q = true ↔ p.len ≤ q.len ∧ ∀ j, j < p.len → q.bit W j = p.bit W j := by
  unfold Pfx.covers
  simp only [Bool.and_eq_true, decide_eq_true_eq]
  have := top_eq_iff_bits W q.addr p.addr hq.addr_lt hp.addr_lt p.len hp.len_le
  unfold top at this
  rw [this]

theorem eq_of_bits {W : Nat} {p q : Pfx} (hp : p.WF W) (hq : q.WF W) (hl : p.len = q.len)
    (hb : ∀ j, j < p.len → p.bit W j = q.bit W j) : p = q := by
  have h1 := (top_eq_iff_bits W p.addr q.addr hp.addr_lt hq.addr_lt p.len hp.len_le).2 hb
  have h2 := hp.addr_eq
  have h3 := hq.addr_eq
  rw [← hl] at h3
  rw [h1, ← h3] at h2
  cases p with
  | mk pa pl =>
    cases q with
    | mk qa ql =>
      simp only at h2 hl
      subst h2; subst hl; rfl

theorem contains_iff {W : Nat} {c : Pfx} {a : Nat} (hc : c.WF W) (ha : a < 2 ^ W) :
    c.contains W a = true ↔ ∀ j, j < c.len → nthBit W a (j + 1) = c.bit W j := by
  unfold Pfx.contains
  simp only [decide_eq_true_eq]
  rw [le_clz_xor_iff hc.addr_lt ha hc.len_le, top_eq_iff_bits W _ _ hc.addr_lt ha _ hc.len_le]
  constructor <;> intro h j hj <;> exact (h j hj).symm

theorem commonPrefix_len_le {W : Nat} (a b : Pfx) :
    (commonPrefix W a b).len ≤ a.len ∧ (commonPrefix W a b).len ≤ b.len := by
  exact ⟨Nat.le_trans (Nat.min_le_right ..) (Nat.min_le_right ..),
    Nat.le_trans (Nat.min_le_right ..) (Nat.min_le_left ..)⟩

theorem commonPrefix_spec {W : Nat} {a b : Pfx} (ha : a.WF W) (hb : b.WF W) :
    (commonPrefix W a b).WF W ∧
    (∀ j, j < (commonPrefix W a b).len → (commonPrefix W a b).bit W j = a.bit W j ∧ a.bit W j = b.bit W j) ∧
    ((commonPrefix W a b).len < a.len → (commonPrefix W a b).len < b.len →
      a.bit W (commonPrefix W a b).len ≠ b.bit W (commonPrefix W a b).len) := by
  have hlen : (commonPrefix W a b).len = min (clz W (a.addr ^^^ b.addr)) (min b.len a.len) := rfl
  have haddr : (commonPrefix W a b).addr = mask W (commonPrefix W a b).len &&& a.addr := rfl
  generalize hl : (commonPrefix W a b).len = l at *
  have hlW : l ≤ W := by have := ha.len_le; omega
  rw [mask_and W l a.addr ha.addr_lt] at haddr
  have hpow : 0 < 2 ^ (W - l) := Nat.two_pow_pos _
  have htop_c : top W (commonPrefix W a b).addr l = top W a.addr l := by
    rw [haddr]; unfold top; rw [Nat.mul_div_cancel _ hpow]
  have hlclz : l ≤ clz W (a.addr ^^^ b.addr) := by omega
  have hab : top W a.addr l = top W b.addr l := (le_clz_xor_iff ha.addr_lt hb.addr_lt hlW).1 hlclz
  have hclt : (commonPrefix W a b).addr < 2 ^ W := by
    rw [haddr]; unfold top
    calc a.addr / 2 ^ (W - l) * 2 ^ (W - l) ≤ a.addr := Nat.div_mul_le_self _ _
      _ < 2 ^ W := ha.addr_lt
  refine ⟨⟨by omega, hclt, ?_⟩, ?_, ?_⟩
  · rw [hl, haddr]; exact Nat.mul_mod_left _ _
  · intro j hj
    have h1 := (top_eq_iff_bits W _ _ hclt ha.addr_lt l hlW).1 htop_c j hj
    have h2 := (top_eq_iff_bits W _ _ ha.addr_lt hb.addr_lt l hlW).1 hab j hj
    exact ⟨h1, h2⟩
  · intro h1 h2
    have h3 : l = clz W (a.addr ^^^ b.addr) := by omega
    have hl1 : l + 1 ≤ W := by have := ha.len_le; omega
    have h4 : ¬ (l + 1 ≤ clz W (a.addr ^^^ b.addr)) := by omega
    rw [le_clz_xor_iff ha.addr_lt hb.addr_lt hl1, top_succ W _ l (by omega), top_succ W _ l (by omega), hab] at h4
    intro h5
    apply h4
    show 2 * top W b.addr l + nthBit W a.addr (l + 1) = 2 * top W b.addr l + nthBit W b.addr (l + 1)
    unfold Pfx.bit at h5
    omega

variable {W : Nat}

theorem Pfx.overlaps_comm (p q : Pfx) : p.overlaps W q = q.overlaps W p := Bool.or_comm ..

theorem covers_refl {p : Pfx} (hp : p.WF W) : p.covers W p = true :=
  (covers_iff hp hp).2 ⟨Nat.le_refl _, fun _ _ => rfl⟩

theorem covers_len {p q : Pfx} (hp : p.WF W) (hq : q.WF W) (h : p.covers W q = true) : p.len ≤ q.len :=
  ((covers_iff hp hq).1 h).1

theorem covers_bit {p q : Pfx} (hp : p.WF W) (hq : q.WF W) (h : p.covers W q = true) {j : Nat} (hj : j < p.len) :
    q.bit W j = p.bit W j := ((covers_iff hp hq).1 h).2 j hj

theorem covers_trans {p q r : Pfx} (hp : p.WF W) (hq : q.WF W) (hr : r.WF W)
    (h1 : p.covers W q = true) (h2 : q.covers W r = true) : p.covers W r = true := by
  have a := (covers_iff hp hq).1 h1
  have b := (covers_iff hq hr).1 h2
  refine (covers_iff hp hr).2 ⟨by omega, fun j hj => ?_⟩
  rw [b.2 j (by omega), a.2 j hj]

theorem covers_antisymm {p q : Pfx} (hp : p.WF W) (hq : q.WF W)
    (h1 : p.covers W q = true) (h2 : q.covers W p = true) : p = q := by
  have a := (covers_iff hp hq).1 h1
  have b := (covers_iff hq hp).1 h2
  exact eq_of_bits hp hq (by omega) (fun j hj => b.2 j (by omega))

theorem covers_linear {p q r : Pfx} (hp : p.WF W) (hq : q.WF W) (hr : r.WF W)
    (h1 : p.covers W r = true) (h2 : q.covers W r = true) (hl : p.len ≤ q.len) : p.covers W q = true := by
  have a := (covers_iff hp hr).1 h1
  have b := (covers_iff hq hr).1 h2
  refine (covers_iff hp hq).2 ⟨hl, fun j hj => ?_⟩
  rw [← b.2 j (by omega), a.2 j hj]

theorem covers_eq_of_len {p q : Pfx} (hp : p.WF W) (hq : q.WF W)
    (h1 : p.covers W q = true) (hl : q.len ≤ p.len) : p = q := by
  have a := (covers_iff hp hq).1 h1
  exact eq_of_bits hp hq (by omega) (fun j hj => (a.2 j hj).symm)

/-- `c.Contains(q.Addr())` is `covers` when `c` is not longer than `q`. -/
theorem contains_iff_covers {c q : Pfx} (hc : c.WF W) (hq : q.WF W) (h : c.len ≤ q.len) :
    c.contains W q.addr = true ↔ c.covers W q = true := by
  rw [contains_iff hc hq.addr_lt, covers_iff hc hq]
  exact ⟨fun h1 => ⟨h, h1⟩, fun h1 => h1.2⟩

theorem contains_of_covers {c q : Pfx} (hc : c.WF W) (hq : q.WF W) (h : c.covers W q = true) :
    c.contains W q.addr = true :=
  (contains_iff_covers hc hq (covers_len hc hq h)).2 h

theorem commonPrefix_wf {a b : Pfx} (ha : a.WF W) (hb : b.WF W) : (commonPrefix W a b).WF W :=
  (commonPrefix_spec ha hb).1

theorem commonPrefix_bit {a b : Pfx} (ha : a.WF W) (hb : b.WF W) {j : Nat} (hj : j < (commonPrefix W a b).len) :
    (commonPrefix W a b).bit W j = a.bit W j ∧ a.bit W j = b.bit W j := (commonPrefix_spec ha hb).2.1 j hj

theorem commonPrefix_diverge {a b : Pfx} (ha : a.WF W) (hb : b.WF W) (h1 : (commonPrefix W a b).len < a.len)
    (h2 : (commonPrefix W a b).len < b.len) :
    a.bit W (commonPrefix W a b).len ≠ b.bit W (commonPrefix W a b).len := (commonPrefix_spec ha hb).2.2 h1 h2

theorem commonPrefix_covers_left {a b : Pfx} (ha : a.WF W) (hb : b.WF W) :
    (commonPrefix W a b).covers W a = true :=
  (covers_iff (commonPrefix_wf ha hb) ha).2
    ⟨(commonPrefix_len_le a b).1, fun _ hj => (commonPrefix_bit ha hb hj).1.symm⟩

/-- `CommonPrefix(a, b).Prefix() == a.Prefix()` iff `a` covers `b`. -/
theorem commonPrefix_len_eq_left_iff {a b : Pfx} (ha : a.WF W) (hb : b.WF W) :
    (commonPrefix W a b).len = a.len ↔ a.covers W b = true := by
  have hl := commonPrefix_len_le (W := W) a b
  constructor
  · intro h
    refine (covers_iff ha hb).2 ⟨by omega, fun j hj => ?_⟩
    exact (commonPrefix_bit ha hb (by omega)).2.symm
  · intro h
    have c := (covers_iff ha hb).1 h
    by_cases hlt : (commonPrefix W a b).len < a.len
    · exact absurd (c.2 _ hlt).symm (commonPrefix_diverge ha hb hlt (by omega))
    · omega

/-- `CommonPrefix(a, b) == a` iff `a` covers `b`. -/
theorem commonPrefix_eq_left_iff {a b : Pfx} (ha : a.WF W) (hb : b.WF W) :
    commonPrefix W a b = a ↔ a.covers W b = true := by
  constructor
  · intro h; exact (commonPrefix_len_eq_left_iff ha hb).1 (by rw [h])
  · intro h
    have hl := (commonPrefix_len_eq_left_iff ha hb).2 h
    exact covers_eq_of_len (commonPrefix_wf ha hb) ha (commonPrefix_covers_left ha hb) (by omega)

/-- On masked CIDRs `CommonPrefix` is symmetric (the Go code masks the first argument's address). -/
theorem commonPrefix_comm {a b : Pfx} (ha : a.WF W) (hb : b.WF W) : commonPrefix W a b = commonPrefix W b a := by
  have hl : (commonPrefix W a b).len = (commonPrefix W b a).len := by
    show min _ (min b.len a.len) = min _ (min a.len b.len)
    rw [Nat.xor_comm, Nat.min_comm b.len]
  refine eq_of_bits (commonPrefix_wf ha hb) (commonPrefix_wf hb ha) hl fun j hj => ?_
  rw [(commonPrefix_bit ha hb hj).1, (commonPrefix_bit ha hb hj).2, (commonPrefix_bit hb ha (hl ▸ hj)).1]

theorem commonPrefix_covers_right {a b : Pfx} (ha : a.WF W) (hb : b.WF W) :
    (commonPrefix W a b).covers W b = true := commonPrefix_comm ha hb ▸ commonPrefix_covers_left hb ha

theorem commonPrefix_len_eq_right_iff {a b : Pfx} (ha : a.WF W) (hb : b.WF W) :
    (commonPrefix W a b).len = b.len ↔ b.covers W a = true := by
  rw [commonPrefix_comm ha hb]; exact commonPrefix_len_eq_left_iff hb ha

theorem commonPrefix_eq_right_iff {a b : Pfx} (ha : a.WF W) (hb : b.WF W) :
    commonPrefix W a b = b ↔ b.covers W a = true := by
  rw [commonPrefix_comm ha hb]; exact commonPrefix_eq_left_iff hb ha

theorem covers_commonPrefix {a b d : Pfx} (ha : a.WF W) (hb : b.WF W) (hd : d.WF W)
    (h1 : d.covers W a = true) (h2 : d.covers W b = true) : d.covers W (commonPrefix W a b) = true := by
  have c1 := (covers_iff hd ha).1 h1
  have c2 := (covers_iff hd hb).1 h2
  have hl := commonPrefix_len_le (W := W) a b
  have hlen : d.len ≤ (commonPrefix W a b).len := by
    by_cases h : d.len ≤ (commonPrefix W a b).len
    · exact h
    · exfalso
      have hlt : (commonPrefix W a b).len < d.len := by omega
      exact commonPrefix_diverge ha hb (by omega) (by omega) (by rw [c1.2 _ hlt, c2.2 _ hlt])
  exact covers_linear hd (commonPrefix_wf ha hb) ha h1 (commonPrefix_covers_left ha hb) hlen

theorem Under.covers {c x : Pfx} {i : Nat} (h : Under W c i x) : c.covers W x = true := h.1

theorem Under.len_lt {c x : Pfx} {i : Nat} (h : Under W c i x) : c.len < x.len := h.2.1

theorem Under.bit_eq {c x : Pfx} {i : Nat} (h : Under W c i x) : x.bit W c.len = i := h.2.2

theorem under_of_covers {c q : Pfx} (h : c.covers W q = true) (hl : c.len < q.len) :
    Under W c (q.bit W c.len) q := ⟨h, hl, rfl⟩

theorem Under.mono {c x y : Pfx} {i : Nat} (hc : c.WF W) (hx : x.WF W) (hy : y.WF W)
    (h : Under W c i x) (hxy : x.covers W y = true) : Under W c i y := by
  refine ⟨covers_trans hc hx hy h.covers hxy, ?_, ?_⟩
  · have := covers_len hx hy hxy; have := h.len_lt; omega
  · exact (covers_bit hx hy hxy (j := c.len) h.len_lt).trans h.bit_eq

theorem Under.ne_of_bit_ne {c q x : Pfx} {i : Nat} (hu : Under W c i x) (hb : q.bit W c.len ≠ i) : x ≠ q := by
  intro e; rw [e] at hu; exact hb hu.bit_eq

theorem Under.ne_self {c x : Pfx} {i : Nat} (h : Under W c i x) : x ≠ c := by
  intro e; have := h.len_lt; rw [e] at this; omega

theorem Under.not_covers_cross {c x y : Pfx} {i j : Nat} (hx : x.WF W) (hy : y.WF W)
    (h1 : Under W c i x) (h2 : Under W c j y) (hij : i ≠ j) : x.covers W y = false := by
  cases h : x.covers W y with
  | false => rfl
  | true =>
    exfalso
    have := covers_bit hx hy h (j := c.len) h1.len_lt
    rw [h1.bit_eq, h2.bit_eq] at this
    exact hij this.symm

end CalicoVerif.C36
