import CalicoVerif.Proofs.C36Trie
/-!
C36: the read-only queries (`Covers`, `Intersects`, `LPM`, `getNode`, `ClosestDescendants`,
`LookupPath`) against the stored prefixes, by induction along the walk (`Inv.walk_rec`) wherever the invariant is
needed at each step.
-/
namespace CalicoVerif.C36
variable {W : Nat} {α : Type}
open Node

theorem side_of_covers {c x q : Pfx} {j : Nat} (hc : c.WF W) (hq : q.WF W)
    (hu : x.WF W ∧ Under W c j x) (h : x.covers W q = true) : nthBit W q.addr (c.len + 1) = j :=
  (hu.2.mono hc hu.1 hq h).bit_eq

theorem side_of_covered {c x q : Pfx} {j : Nat} (hq : q.WF W)
    (hu : x.WF W ∧ Under W c j x) (h : q.covers W x = true) (hl : c.len < q.len) :
    nthBit W q.addr (c.len + 1) = j :=
  (covers_bit hq hu.1 h (j := c.len) hl).symm.trans hu.2.bit_eq

theorem tcovers_iff {t : Node α} (hi : t.Inv W) {q : Pfx} (hq : q.WF W) :
    t.covers W q = true ↔ ∃ p v, (p, v) ∈ t.toList ∧ p.covers W q = true := by
  apply Inv.walk_rec q ?_ ?_ hi
  · simp [Node.covers, toList]
  · intro c d l r ch oc j hi s ih
    have hc := hi.wf
    rw [Node.covers, s.walk (fun t => t.covers W q)]
    by_cases hcq : c.covers W q = true
    · rw [if_neg (fun h => h ((commonPrefix_eq_left_iff hc hq).2 hcq))]
      cases d with
      | some v => exact iff_of_true rfl ⟨c, v, (s.mem c v).2 (Or.inl ⟨rfl, rfl⟩), hcq⟩
      | none =>
        rw [if_neg (by simp), ih]
        constructor
        · rintro ⟨x, v, hm, hx⟩; exact ⟨x, v, (s.mem x v).2 (Or.inr (Or.inl hm)), hx⟩
        · rintro ⟨x, v, hm, hx⟩
          rcases (s.mem x v).1 hm with ⟨_, h2⟩ | h2 | h2
          · cases h2
          · exact ⟨x, v, h2, hx⟩
          · exact absurd (side_of_covers hc hq (All.mem s.other h2) hx).symm s.side
    · rw [if_pos (fun e => hcq ((commonPrefix_eq_left_iff hc hq).1 e))]
      refine iff_of_false Bool.false_ne_true ?_
      rintro ⟨x, v, hm, hx⟩
      have := Inv.mem_root hi hm
      exact hcq (covers_trans hc this.1 hq this.2 hx)

theorem tintersects_iff {t : Node α} (hi : t.Inv W) {q : Pfx} (hq : q.WF W) :
    t.intersects W q = true ↔ ∃ p v, (p, v) ∈ t.toList ∧ q.covers W p = true := by
  apply Inv.walk_rec q ?_ ?_ hi
  · simp [Node.intersects, toList]
  · intro c d l r ch oc j hi s ih
    have hc := hi.wf
    rw [Node.intersects, s.walk (fun t => t.intersects W q)]
    by_cases hqc : q.covers W c = true
    · -- the whole subtree lies inside `q`, and it stores something
      rw [if_pos ((commonPrefix_eq_right_iff hc hq).2 hqc)]
      obtain ⟨x, v, hm⟩ := Inv.exists_mem hi rfl
      have := Inv.mem_root hi hm
      exact iff_of_true rfl ⟨x, v, hm, covers_trans hq hc this.1 hqc this.2⟩
    rw [if_neg (fun e => hqc ((commonPrefix_eq_right_iff hc hq).1 e))]
    by_cases hcq : c.covers W q = true
    · have hlt : c.len < q.len :=
        Nat.lt_of_le_of_ne (covers_len hc hq hcq) fun h =>
          hqc (by rw [covers_eq_of_len hc hq hcq (Nat.le_of_eq h.symm)]; exact covers_refl hq)
      rw [if_neg (fun h => h ((commonPrefix_eq_left_iff hc hq).2 hcq)), ih]
      constructor
      · rintro ⟨x, v, hm, hx⟩; exact ⟨x, v, (s.mem x v).2 (Or.inr (Or.inl hm)), hx⟩
      · rintro ⟨x, v, hm, hx⟩
        rcases (s.mem x v).1 hm with ⟨h1, _⟩ | h2 | h2
        · rw [h1] at hx; exact absurd hx hqc
        · exact ⟨x, v, h2, hx⟩
        · exact absurd (side_of_covered hq (All.mem s.other h2) hx hlt).symm s.side
    · -- `q` and `c` are incomparable, and everything stored is below `c`
      rw [if_pos (fun e => hcq ((commonPrefix_eq_left_iff hc hq).1 e))]
      refine iff_of_false Bool.false_ne_true ?_
      rintro ⟨x, v, hm, hx⟩
      have hr := Inv.mem_root hi hm
      by_cases hl : q.len ≤ c.len
      · exact hqc (covers_linear hq hc hr.1 hx hr.2 hl)
      · exact hcq (covers_linear hc hq hr.1 hr.2 hx (by omega))

/-- The overlap test of the IP-pool controller, `Get != nil || Intersects || Covers`. -/
theorem overlap_eq {t : Node α} (hi : t.Inv W) {q : Pfx} (hq : q.WF W) :
    ((t.get W q).isSome || t.intersects W q || t.covers W q) = SMap.overlaps W t.toList q := by
  rw [Bool.eq_iff_iff]
  simp only [Bool.or_eq_true, tintersects_iff hi hq, tcovers_iff hi hq, SMap.overlaps, List.any_eq_true,
    Pfx.overlaps, Option.isSome_iff_exists, get_iff hi hq]
  constructor
  · rintro ((⟨v, h⟩ | ⟨p, v, h1, h2⟩) | ⟨p, v, h1, h2⟩)
    · exact ⟨(q, v), h, Or.inl (covers_refl hq)⟩
    · exact ⟨(p, v), h1, Or.inr h2⟩
    · exact ⟨(p, v), h1, Or.inl h2⟩
  · rintro ⟨⟨p, v⟩, h1, h2 | h2⟩
    · exact Or.inr ⟨p, v, h1, h2⟩
    · exact Or.inl (Or.inr ⟨p, v, h1, h2⟩)

/-- `IsLpm es q p v`: `p ↦ v` is the longest stored prefix covering `q`. -/
def IsLpm (W : Nat) (es : List (Pfx × α)) (q : Pfx) (p : Pfx) (v : α) : Prop :=
  (p, v) ∈ es ∧ p.covers W q = true ∧ ∀ p' v', (p', v') ∈ es → p'.covers W q = true → p'.len ≤ p.len

section
variable {es : List (Pfx × α)} {q p : Pfx} {v : α}
theorem IsLpm.mem (h : IsLpm W es q p v) : (p, v) ∈ es := h.1
theorem IsLpm.covers (h : IsLpm W es q p v) : p.covers W q = true := h.2.1
theorem IsLpm.longest (h : IsLpm W es q p v) {p' : Pfx} {v' : α} (hm : (p', v') ∈ es) (hx : p'.covers W q = true) :
    p'.len ≤ p.len := h.2.2 p' v' hm hx
end

theorem IsLpm.unique {t : Node α} (hi : t.Inv W) {q : Pfx} (hq : q.WF W) {p p' : Pfx} {v v' : α}
    (h1 : IsLpm W t.toList q p v) (h2 : IsLpm W t.toList q p' v') : (p, v) = (p', v') := by
  have hp := Inv.mem_wf hi h1.mem
  have hp' := Inv.mem_wf hi h2.mem
  have e : p = p' := covers_antisymm hp hp'
    (covers_linear hp hp' hq h1.covers h2.covers (h2.longest h1.mem h1.covers))
    (covers_linear hp' hp hq h2.covers h1.covers (h1.longest h2.mem h2.covers))
  subst e
  rw [toList_functional hi h1.mem h2.mem]

/-- No node of the trie that contains `q`'s base address is longer than `q`. -/
def LpmSafe (W : Nat) (t : Node α) (q : Pfx) : Prop :=
  t.All (fun x => x.contains W q.addr = true → x.len ≤ q.len)

/-- The walk of `LPM(q)` only meets nodes that are not longer than `q` (weaker than `LpmSafe`:
only the nodes actually visited matter; the walk stops at `q` itself). -/
def WalkOk (W : Nat) : Node α → Pfx → Prop
  | .nil, _ => True
  | .node c _ l r, q => c.contains W q.addr = true →
      c.len ≤ q.len ∧ (q ≠ c → (nthBit W q.addr (c.len + 1) = 0 → WalkOk W l q) ∧
        (¬ nthBit W q.addr (c.len + 1) = 0 → WalkOk W r q))

theorem ite_iff_and {b : Prop} [Decidable b] {P Q : Prop} : (if b then P else Q) ↔ (b → P) ∧ (¬ b → Q) := by
  split <;> simp [*]

theorem lpmGo_spec {t : Node α} (hi : t.Inv W) {q : Pfx} (hq : q.WF W) : WalkOk W t q → ∀ m,
    (∃ p v, t.lpmGo W q m = some (p, v) ∧ IsLpm W t.toList q p v) ∨
    (t.lpmGo W q m = m ∧ ∀ p v, (p, v) ∈ t.toList → ¬ p.covers W q = true) := by
  apply Inv.walk_rec q ?_ ?_ hi
  · exact fun _ m => Or.inr ⟨rfl, fun p v h => absurd h not_mem_nil⟩
  · intro c d l r ch oc j hi s ih hs m
    have hc := hi.wf
    simp only [lpmGo]
    by_cases hcont : c.contains W q.addr = true
    · have hcq : c.covers W q = true := (contains_iff_covers hc hq (hs hcont).1).1 hcont
      -- what hangs below `c` is longer than `c`; what hangs on the other side does not cover `q`
      have below : ∀ {p v}, (p, v) ∈ ch.toList ∨ (p, v) ∈ oc.toList → c.len < p.len := by
        rintro p v (h | h)
        · exact (All.mem s.under h).2.len_lt
        · exact (All.mem s.other h).2.len_lt
      have hoc : ∀ {p v}, (p, v) ∈ oc.toList → ¬ p.covers W q = true := fun h hx =>
        s.side (side_of_covers hc hq (All.mem s.other h) hx).symm
      rw [hcont, Bool.not_true, if_neg Bool.false_ne_true]
      by_cases he : q = c
      · subst he
        rw [if_pos rfl]
        cases d with
        | some v =>
          exact Or.inl ⟨q, v, rfl, (s.mem q v).2 (Or.inl ⟨rfl, rfl⟩), hcq,
            fun p' v' hm hx => covers_len (Inv.mem_wf hi hm) hq hx⟩
        | none =>
          refine Or.inr ⟨rfl, fun p v hm hx => ?_⟩
          rcases (s.mem p v).1 hm with ⟨_, h2⟩ | h2
          · cases h2
          · exact absurd (covers_len (Inv.mem_wf hi hm) hq hx) (Nat.not_le_of_gt (below h2))
      · have hsc : WalkOk W ch q := by
          rw [← s.walk (fun t => WalkOk W t q)]
          exact ite_iff_and.2 ((hs hcont).2 he)
        rw [if_neg he, s.walk (fun t => t.lpmGo W q _)]
        rcases ih hsc _ with ⟨p, v, h1, h2, h3, h4⟩ | ⟨h1, h2⟩
        · refine Or.inl ⟨p, v, h1, (s.mem p v).2 (Or.inr (Or.inl h2)), h3, fun p' v' hm hx => ?_⟩
          rcases (s.mem p' v').1 hm with ⟨e, _⟩ | hm | hm
          · rw [e]; exact Nat.le_of_lt (below (Or.inl h2))
          · exact h4 p' v' hm hx
          · exact absurd hx (hoc hm)
        · cases d with
          | some v =>
            refine Or.inl ⟨c, v, h1, (s.mem c v).2 (Or.inl ⟨rfl, rfl⟩), hcq, fun p' v' hm hx => ?_⟩
            rcases (s.mem p' v').1 hm with ⟨e, _⟩ | hm | hm
            · rw [e]; exact Nat.le_refl _
            · exact absurd hx (h2 p' v' hm)
            · exact absurd hx (hoc hm)
          | none =>
            refine Or.inr ⟨h1, fun p v hm hx => ?_⟩
            rcases (s.mem p v).1 hm with ⟨_, e⟩ | hm | hm
            · cases e
            · exact h2 p v hm hx
            · exact hoc hm hx
    · rw [Bool.not_eq_true] at hcont
      rw [hcont, Bool.not_false, if_pos rfl]
      exact Or.inr ⟨rfl, fun p v hm => not_covers_of_not_contains hi hq (by simp [hcont]) hm⟩

theorem walkOk_of_lpmSafe : ∀ {t : Node α} {q : Pfx}, LpmSafe W t q → WalkOk W t q
  | .nil, _, _ => trivial
  | .node _ _ _ _, _, hs => fun hc =>
    ⟨hs.1 hc, fun _ => ⟨fun _ => walkOk_of_lpmSafe hs.2.1, fun _ => walkOk_of_lpmSafe hs.2.2⟩⟩

theorem lpmSafe_of_host {t : Node α} (hi : t.Inv W) {q : Pfx} (hq : q.len = W) : LpmSafe W t q := by
  have : t.All (fun x => x.WF W) := by
    cases t with
    | nil => trivial
    | node c d l r => exact ⟨hi.wf, All.imp (fun _ h => h.1) hi.allL, All.imp (fun _ h => h.1) hi.allR⟩
  exact All.imp (fun x hx _ => by rw [hq]; exact hx.1) this

theorem root_covered_iff {c : Pfx} {d : Option α} {l r : Node α} (hi : (node c d l r).Inv W) {q : Pfx} (hq : q.WF W) :
    q.covers W c = true ↔ ∀ p v, (p, v) ∈ (node c d l r).toList → q.covers W p = true := by
  have hc := hi.wf
  constructor
  · intro h p v hm
    have := Inv.mem_root hi hm
    exact covers_trans hq hc this.1 h this.2
  · intro h
    cases d with
    | some v => exact h c v (mem_toList_node.2 (Or.inl ⟨rfl, rfl⟩))
    | none =>
      have hn := hi.two_children rfl
      obtain ⟨x, v, hx⟩ := Inv.exists_mem hi.left hn.1
      obtain ⟨y, w, hy⟩ := Inv.exists_mem hi.right hn.2
      have ux := All.mem hi.allL hx
      have uy := All.mem hi.allR hy
      have cx := h x v (mem_toList_node.2 (Or.inr (Or.inl hx)))
      have cy := h y w (mem_toList_node.2 (Or.inr (Or.inr hy)))
      by_cases hl : q.len ≤ c.len
      · exact covers_linear hq hc ux.1 cx ux.2.covers hl
      · exfalso
        have h0 := side_of_covered hq ux cx (by omega)
        have h1 := side_of_covered hq uy cy (by omega)
        omega

theorem closest_pair {c : Pfx} {l r : Node α} (hl : l.All (fun x => x.WF W ∧ Under W c 0 x))
    (hr : r.All (fun x => x.WF W ∧ Under W c 1 x)) {p : Pfx}
    (ihl : p ∈ l.closestOf ↔ ∃ v, (p, v) ∈ l.toList ∧ ∀ x w, (x, w) ∈ l.toList → x.covers W p = true → x = p)
    (ihr : p ∈ r.closestOf ↔ ∃ v, (p, v) ∈ r.toList ∧ ∀ x w, (x, w) ∈ r.toList → x.covers W p = true → x = p) :
    p ∈ l.closestOf ++ r.closestOf ↔ ∃ v, ((p, v) ∈ l.toList ∨ (p, v) ∈ r.toList) ∧
      ∀ x w, (x, w) ∈ l.toList ∨ (x, w) ∈ r.toList → x.covers W p = true → x = p := by
  have cross : ∀ {i j : Nat} {a b : Node α}, i ≠ j → a.All (fun x => x.WF W ∧ Under W c i x) →
      b.All (fun x => x.WF W ∧ Under W c j x) → ∀ {x w v}, (x, w) ∈ a.toList → (p, v) ∈ b.toList →
      ¬ x.covers W p = true := fun hij ha hb _ _ _ hx hp hc => by
    have ux := All.mem ha hx
    have up := All.mem hb hp
    rw [Under.not_covers_cross ux.1 up.1 ux.2 up.2 hij] at hc
    cases hc
  rw [List.mem_append, ihl, ihr]
  constructor
  · rintro (⟨v, hm, hmin⟩ | ⟨v, hm, hmin⟩)
    · exact ⟨v, Or.inl hm, fun x w h hx => h.elim (hmin x w · hx) (absurd hx <| cross (by decide) hr hl · hm)⟩
    · exact ⟨v, Or.inr hm, fun x w h hx => h.elim (absurd hx <| cross (by decide) hl hr · hm) (hmin x w · hx)⟩
  · rintro ⟨v, hm | hm, hmin⟩
    · exact Or.inl ⟨v, hm, fun x w h => hmin x w (Or.inl h)⟩
    · exact Or.inr ⟨v, hm, fun x w h => hmin x w (Or.inr h)⟩

theorem closestOf_iff : ∀ {ch : Node α}, ch.Inv W → ∀ {p : Pfx},
    (p ∈ ch.closestOf ↔ ∃ v, (p, v) ∈ ch.toList ∧ ∀ r w, (r, w) ∈ ch.toList → r.covers W p = true → r = p)
  | .nil, _, p => by simp [closestOf, toList]
  | .node c (some v) l r, hi, p => by
    simp only [closestOf, List.mem_singleton]
    constructor
    · intro e
      subst e
      refine ⟨v, mem_toList_node.2 (Or.inl ⟨rfl, rfl⟩), fun r' w hm hx => ?_⟩
      have := Inv.mem_root hi hm
      exact covers_antisymm this.1 hi.wf hx this.2
    · rintro ⟨w, hm, hmin⟩
      exact (hmin c v (mem_toList_node.2 (Or.inl ⟨rfl, rfl⟩)) (Inv.mem_root hi hm).2).symm
  | .node c none l r, hi, p => by
    rw [closestOf, closest_pair hi.allL hi.allR (closestOf_iff hi.left) (closestOf_iff hi.right)]
    simp [mem_toList_node]

theorem getNode_found : ∀ {t : Node α} {q c' : Pfx} {d' l' r'}, t.getNode W q = node c' d' l' r' →
    c' = q ∧ ∀ {P : Pfx → Prop}, t.All P → P q
  | .nil, _, _, _, _, _, h => by simp [getNode] at h
  | .node c d l r, q, c', d', l', r', h => by
    simp only [getNode] at h
    by_cases hc : (!c.contains W q.addr) = true
    · rw [if_pos hc] at h; cases h
    · rw [if_neg hc] at h
      by_cases he : q = c
      · rw [if_pos he] at h
        cases h
        exact ⟨he.symm, fun a => he ▸ a.1⟩
      · rw [if_neg he] at h
        by_cases hb : nthBit W q.addr (c.len + 1) = 0
        · rw [if_pos hb] at h
          exact ⟨(getNode_found h).1, fun a => (getNode_found h).2 a.2.1⟩
        · rw [if_neg hb] at h
          exact ⟨(getNode_found h).1, fun a => (getNode_found h).2 a.2.2⟩

theorem walkOk_of_getNode {t : Node α} (hi : t.Inv W) {q : Pfx} : ∀ {c' d' l' r'},
    t.getNode W q = node c' d' l' r' → WalkOk W t q := by
  apply Inv.walk_rec q ?_ ?_ hi
  · exact fun _ => trivial
  · intro c d l r ch oc j hi s ih c' d' l' r' h hcont
    simp only [getNode, hcont, Bool.not_true, Bool.false_eq_true, if_false] at h
    by_cases he : q = c
    · subst he; exact ⟨Nat.le_refl _, fun hne => absurd rfl hne⟩
    · rw [if_neg he, s.walk (fun t => t.getNode W q)] at h
      refine ⟨Nat.le_of_lt ((getNode_found h).2 s.under).2.len_lt, fun _ => ite_iff_and.1 ?_⟩
      rw [s.walk (fun t => WalkOk W t q)]
      exact ih h

theorem getNode_spec {t : Node α} (hi : t.Inv W) {q : Pfx} (hq : q.WF W) : ∀ {c' d' l' r'},
    t.getNode W q = node c' d' l' r' →
    (node q d' l' r').Inv W ∧
      ∀ x w, ((x, w) ∈ l'.toList ∨ (x, w) ∈ r'.toList) ↔ ((x, w) ∈ t.toList ∧ q.covers W x = true ∧ x ≠ q) := by
  apply Inv.walk_rec q ?_ ?_ hi
  · intro _ _ _ _ h; simp [getNode] at h
  · intro c d l r ch oc j hi s ih c' d' l' r' h
    simp only [getNode] at h
    by_cases hc : (!c.contains W q.addr) = true
    · rw [if_pos hc] at h; cases h
    rw [if_neg hc] at h
    by_cases he : q = c
    · rw [if_pos he] at h
      cases h
      subst he
      refine ⟨hi, fun x w => ?_⟩
      rw [mem_toList_node]
      constructor
      · rintro (hm | hm)
        · have := All.mem hi.allL hm
          exact ⟨Or.inr (Or.inl hm), this.2.covers, this.2.ne_self⟩
        · have := All.mem hi.allR hm
          exact ⟨Or.inr (Or.inr hm), this.2.covers, this.2.ne_self⟩
      · rintro ⟨⟨e, _⟩ | hm | hm, _, hne⟩
        · exact absurd e hne
        · exact Or.inl hm
        · exact Or.inr hm
    · rw [if_neg he, s.walk (fun t => t.getNode W q)] at h
      obtain ⟨hiq, hm⟩ := ih h
      have hlt : c.len < q.len := ((getNode_found h).2 s.under).2.len_lt
      refine ⟨hiq, fun x w => ?_⟩
      rw [hm x w, s.mem x w]
      constructor
      · rintro ⟨h1, h2, h3⟩; exact ⟨Or.inr (Or.inl h1), h2, h3⟩
      · rintro ⟨⟨e, _⟩ | h1 | h1, h2, h3⟩
        · rw [e] at h2
          exact absurd (covers_len hq hi.wf h2) (Nat.not_le_of_gt hlt)
        · exact ⟨h1, h2, h3⟩
        · exact absurd (side_of_covered hq (All.mem s.other h1) h2 hlt).symm s.side

theorem getNode_of_mem {t : Node α} (hi : t.Inv W) {q : Pfx} (hq : q.WF W) {v : α} (hm : (q, v) ∈ t.toList) :
    ∃ c' d' l' r', t.getNode W q = node c' d' l' r' := by
  have := (get_iff hi hq).2 hm
  unfold Node.get at this
  cases h : t.getNode W q with
  | nil => rw [h] at this; cases this
  | node c' d' l' r' => exact ⟨c', d', l', r', rfl⟩

theorem closestDescendants_iff {t : Node α} (hi : t.Inv W) {q : Pfx} (hq : q.WF W) {c' d' l' r'}
    (hg : t.getNode W q = node c' d' l' r') (p : Pfx) :
    p ∈ t.closestDescendants W q ↔
      ∃ v, (p, v) ∈ t.toList ∧ q.covers W p = true ∧ p ≠ q ∧
        ∀ r w, (r, w) ∈ t.toList → q.covers W r = true → r ≠ q → r.covers W p = true → r = p := by
  obtain ⟨hiq, hm⟩ := getNode_spec hi hq hg
  unfold closestDescendants
  rw [hg]
  simp only
  rw [closest_pair hiq.allL hiq.allR (closestOf_iff hiq.left) (closestOf_iff hiq.right)]
  simp only [hm, and_imp, and_assoc]

/-- `s` is a sub-tree (a `*CIDRNode` reachable from the root) of `t`. -/
inductive Subtree : Node α → Node α → Prop
  | refl (t : Node α) : Subtree t t
  | left {s l : Node α} (c : Pfx) (d : Option α) (r : Node α) : Subtree s l → Subtree s (node c d l r)
  | right {s r : Node α} (c : Pfx) (d : Option α) (l : Node α) : Subtree s r → Subtree s (node c d l r)

theorem Subtree.all {P : Pfx → Prop} : ∀ {s t : Node α}, Subtree s t → t.All P → s.All P := by
  intro s t h
  induction h with
  | refl => exact id
  | left c d r _ ih => intro ha; exact ih ha.2.1
  | right c d l _ ih => intro ha; exact ih ha.2.2

/-- Walking from the root to the CIDR of any node of the trie finds that node.  This is
what makes Go's `t.ClosestDescendants(buf, child.cidr)` (a fresh walk from the root) equal
to recursing into `child` directly, as the model's `closestOf` does. -/
theorem getNode_subtree : ∀ {s t : Node α}, Subtree s t → t.Inv W → ∀ {c' d' l' r'},
    s = node c' d' l' r' → t.getNode W c' = s := by
  intro s t h
  induction h with
  | refl =>
    intro hi c' d' l' r' hs
    subst hs
    unfold getNode
    have := contains_of_covers hi.wf hi.wf (covers_refl hi.wf)
    simp [this]
  | left c d r hsub ih =>
    intro hi c' d' l' r' hs
    have hu := (Subtree.all hsub hi.allL)
    rw [hs] at hu
    have hu := hu.1
    have hcont := contains_of_covers hi.wf hu.1 hu.2.covers
    have hb : nthBit W c'.addr (c.len + 1) = 0 := hu.2.bit_eq
    unfold getNode
    simp only [hcont, Bool.not_true, Bool.false_eq_true, if_false, hu.2.ne_self, hb, if_true]
    exact ih hi.left hs
  | right c d l hsub ih =>
    intro hi c' d' l' r' hs
    have hu := (Subtree.all hsub hi.allR)
    rw [hs] at hu
    have hu := hu.1
    have hcont := contains_of_covers hi.wf hu.1 hu.2.covers
    have hb : nthBit W c'.addr (c.len + 1) = 1 := hu.2.bit_eq
    unfold getNode
    simp only [hcont, Bool.not_true, Bool.false_eq_true, if_false, hu.2.ne_self, hb]
    exact ih hi.right hs

theorem lookupPathGo_spec {t : Node α} (hi : t.Inv W) {q : Pfx} (hq : q.WF W) : ∀ buf,
    t.lookupPathGo W q buf =
      if (t.get W q).isSome then buf ++ t.toList.filter (fun e => e.1.covers W q) else [] := by
  apply Inv.walk_rec q ?_ ?_ hi
  · intro buf; simp [lookupPathGo, Node.get, getNode]
  · intro c d l r ch oc j hi s ih buf
    have hc := hi.wf
    simp only [lookupPathGo]
    rw [get_node_eq, s.walk (fun t => t.get W q), s.walk (fun t => t.lookupPathGo W q _)]
    by_cases hcont : (!c.contains W q.addr) = true
    · rw [if_pos hcont, if_pos hcont]; rfl
    rw [if_neg hcont, if_neg hcont]
    by_cases he : q = c
    · -- at `q` itself: everything below is longer than `q` and does not cover it
      subst he
      have hlong : (l.toList ++ r.toList).filter (fun e => e.1.covers W q) = [] := by
        rw [List.filter_eq_nil_iff]
        intro e he hx
        have : q.len < e.1.len := by
          rcases List.mem_append.1 he with h | h
          · exact (All.mem (p := e.1) (v := e.2) hi.allL h).2.len_lt
          · exact (All.mem (p := e.1) (v := e.2) hi.allR h).2.len_lt
        exact absurd (covers_len (Inv.mem_wf (v := e.2) hi (mem_toList_node.2 (Or.inr (List.mem_append.1 he)))) hq hx)
          (Nat.not_le_of_gt this)
      rw [if_pos rfl, if_pos rfl]
      cases d with
      | none => rfl
      | some v => simp [toList, hlong, covers_refl hq]
    · rw [if_neg he, if_neg he, ih]
      by_cases hs : (ch.get W q).isSome = true
      · -- `q` is stored below `c` on the side of the walk: `c` covers it, nothing on the other side does
        obtain ⟨v, hv⟩ := Option.isSome_iff_exists.1 hs
        have hcq : c.covers W q = true := (All.mem s.under ((get_iff s.inv hq).1 hv)).2.covers
        have hoc : oc.toList.filter (fun e => e.1.covers W q) = [] := by
          rw [List.filter_eq_nil_iff]
          intro e he hx
          exact s.side (side_of_covers hc hq (All.mem (p := e.1) (v := e.2) s.other he) hx).symm
        have hlr : (l.toList ++ r.toList).filter (fun e => e.1.covers W q) =
            ch.toList.filter (fun e => e.1.covers W q) := by
          rcases s.split with ⟨rfl, rfl⟩ | ⟨rfl, rfl⟩ <;> simp [List.filter_append, hoc]
        rw [if_pos hs, if_pos hs]
        cases d <;> simp [toList, List.append_assoc, hlr, hcq]
      · rw [if_neg hs, if_neg hs]

end CalicoVerif.C36
