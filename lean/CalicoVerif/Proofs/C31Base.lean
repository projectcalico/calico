import CalicoVerif.Model.C31
import CalicoVerif.Proofs.Assoc
/-! C31 — association lists, list sets, and the equations of the model's recursive functions
(what it takes for each of them to return `some`). -/
namespace CalicoVerif.C31

theorem AMap.get_eq {α : Type} (m : AMap α) (k : Nat) : m.get k = Assoc.get m k := by
  induction m with
  | nil => rfl
  | cons kv r ih => simp only [AMap.get, Assoc.get, ih]

theorem AMap.del_eq_filter {α : Type} (m : AMap α) (k : Nat) : m.del k = m.filter fun kv => decide (kv.1 ≠ k) := by
  induction m with
  | nil => rfl
  | cons kv r ih => by_cases h : kv.1 = k <;> simp [AMap.del, h, ih]

theorem AMap.get_del {α : Type} (m : AMap α) (k k' : Nat) :
    (m.del k).get k' = if k' = k then none else m.get k' := by
  rw [del_eq_filter, get_eq, get_eq]; exact Assoc.get_del m k k'

theorem AMap.get_del_eq {α : Type} (m : AMap α) (k : Nat) : (m.del k).get k = none := by
  rw [AMap.get_del, if_pos rfl]

theorem AMap.get_del_ne {α : Type} (m : AMap α) {k k' : Nat} (h : k' ≠ k) : (m.del k).get k' = m.get k' := by
  rw [AMap.get_del, if_neg h]

theorem AMap.get_set {α : Type} (m : AMap α) (k k' : Nat) (v : α) :
    (m.set k v).get k' = if k' = k then some v else m.get k' := by
  rw [AMap.set, del_eq_filter, get_eq, get_eq]; exact Assoc.get_set m k k' v

theorem AMap.get_set_eq {α : Type} (m : AMap α) (k : Nat) (v : α) : (m.set k v).get k = some v := by
  rw [AMap.get_set, if_pos rfl]

theorem AMap.get_set_ne {α : Type} (m : AMap α) {k k' : Nat} (v : α) (h : k' ≠ k) :
    (m.set k v).get k' = m.get k' := by
  rw [AMap.get_set, if_neg h]

theorem AMap.isSome_get_set {α : Type} (m : AMap α) (k k' : Nat) (v : α) (h : (m.get k').isSome) :
    ((m.set k v).get k').isSome := by
  rw [AMap.get_set]; split
  · rfl
  · exact h

theorem AMap.of_get_set {α : Type} {m : AMap α} {k k' : Nat} {v a : α} (h : (m.set k v).get k' = some a) :
    a = v ∨ (k' ≠ k ∧ m.get k' = some a) := by
  rw [AMap.get_set] at h
  split at h
  · exact Or.inl (Option.some.inj h).symm
  · next hk => exact Or.inr ⟨hk, h⟩

theorem AMap.of_get_del {α : Type} {m : AMap α} {k k' : Nat} {a : α} (h : (m.del k).get k' = some a) :
    k' ≠ k ∧ m.get k' = some a := by
  rw [AMap.get_del] at h
  split at h
  · cases h
  · next hk => exact ⟨hk, h⟩

theorem AMap.mem_of_get {α : Type} {m : AMap α} {k : Nat} {v : α} (h : m.get k = some v) : (k, v) ∈ m :=
  Assoc.mem_of_get (get_eq m k ▸ h)

theorem AMap.del_sublist {α : Type} (m : AMap α) (k : Nat) : (m.del k).Sublist m :=
  del_eq_filter m k ▸ List.filter_sublist

theorem AMap.mem_del_iff {α : Type} {m : AMap α} {k : Nat} {kv : Nat × α} : kv ∈ m.del k ↔ kv ∈ m ∧ kv.1 ≠ k := by
  rw [del_eq_filter]; exact Assoc.mem_del

theorem AMap.mem_del {α : Type} {m : AMap α} {k : Nat} {kv : Nat × α} (h : kv ∈ m.del k) : kv ∈ m ∧ kv.1 ≠ k :=
  mem_del_iff.1 h

theorem AMap.mem_del_of {α : Type} {m : AMap α} {k : Nat} {kv : Nat × α} (h : kv ∈ m) (hk : kv.1 ≠ k) : kv ∈ m.del k :=
  mem_del_iff.2 ⟨h, hk⟩

theorem AMap.mem_set {α : Type} {m : AMap α} {k : Nat} {v : α} {kv : Nat × α} (h : kv ∈ m.set k v) :
    kv = (k, v) ∨ (kv ∈ m ∧ kv.1 ≠ k) :=
  Assoc.mem_set (by rwa [AMap.set, del_eq_filter] at h)

def AMap.NodupKeys {α : Type} (m : AMap α) : Prop := (m.map (·.1)).Nodup

theorem AMap.nodupKeys_cons {α : Type} {k : Nat} {v : α} {r : AMap α} :
    AMap.NodupKeys ((k, v) :: r) ↔ (∀ kv ∈ r, kv.1 ≠ k) ∧ AMap.NodupKeys r := by
  simp only [AMap.NodupKeys, List.map_cons, List.nodup_cons, List.mem_map, not_exists, not_and]

theorem AMap.get_of_mem {α : Type} {m : AMap α} (hn : m.NodupKeys) {k : Nat} {v : α} (h : (k, v) ∈ m) :
    m.get k = some v :=
  (get_eq m k).trans (Assoc.get_of_mem hn h)

theorem AMap.nodupKeys_del {α : Type} {m : AMap α} (hn : m.NodupKeys) (k : Nat) : (m.del k).NodupKeys :=
  del_eq_filter m k ▸ Assoc.nodup_del k hn

theorem AMap.nodupKeys_set {α : Type} {m : AMap α} (hn : m.NodupKeys) (k : Nat) (v : α) : (m.set k v).NodupKeys := by
  rw [AMap.set, del_eq_filter]; exact Assoc.nodup_set k v hn

theorem mem_dedup (xs : List Nat) (x : Nat) : x ∈ dedup xs ↔ x ∈ xs := by
  induction xs with
  | nil => rfl
  | cons y ys ih =>
    simp only [dedup, List.contains_iff_mem]
    split
    · next h => rw [ih, List.mem_cons, or_iff_right_of_imp (fun e => e ▸ h)]
    · simp only [List.mem_cons, ih]

theorem nodup_dedup (xs : List Nat) : (dedup xs).Nodup := by
  induction xs with
  | nil => exact List.nodup_nil
  | cons y ys ih =>
    simp only [dedup, List.contains_iff_mem]
    split
    · exact ih
    · next h => exact List.nodup_cons.2 ⟨mt (mem_dedup ys y).1 h, ih⟩

theorem mem_sins (s : List Nat) (x y : Nat) : y ∈ sins s x ↔ y = x ∨ y ∈ s := by
  simp only [sins, List.contains_iff_mem]
  split
  · next h => rw [or_iff_right_of_imp (fun e => e ▸ h)]
  · exact List.mem_cons

theorem refsOf_cons {m : AMap Rules} {id : Nat} {ids l : List Nat} :
    refsOf m (id :: ids) = some l ↔ ∃ r rest, m.get id = some r ∧ refsOf m ids = some rest ∧ r.refs ++ rest = l := by
  simp only [refsOf]
  split
  · next r rest h1 h2 => simp only [h1, h2, Option.some.injEq, exists_and_left, exists_eq_left']
  · next hn => exact ⟨nofun, fun ⟨r, rest, h1, h2, _⟩ => (hn r rest h1 h2).elim⟩

theorem ipAddMsgs_cons {p : Proc} {id : Nat} {ids : List Nat} {ms : List Msg} :
    ipAddMsgs p (id :: ids) = some ms ↔
      ∃ mem rest, p.ipsets.get id = some mem ∧ ipAddMsgs p ids = some rest ∧ Msg.ipUpd id mem :: rest = ms := by
  simp only [ipAddMsgs]
  split
  · next r rest h1 h2 => simp only [h1, h2, Option.some.injEq, exists_and_left, exists_eq_left']
  · next hn => exact ⟨nofun, fun ⟨r, rest, h1, h2, _⟩ => (hn r rest h1 h2).elim⟩

theorem syncAdded_cons {m : AMap Rules} {mk : Nat → Rules → Msg} {id : Nat} {ids synced s' : List Nat} {ms : List Msg} :
    syncAdded m mk (id :: ids) synced = some (s', ms) ↔
      (id ∈ synced ∧ syncAdded m mk ids synced = some (s', ms)) ∨
      (id ∉ synced ∧ ∃ r ms', m.get id = some r ∧ syncAdded m mk ids (id :: synced) = some (s', ms') ∧ ms = mk id r :: ms') := by
  simp only [syncAdded, List.contains_iff_mem]
  by_cases h : id ∈ synced
  · simp only [h, if_true, true_and, not_true_eq_false, false_and, or_false]
  · simp only [h, if_false, false_and, false_or, not_false_eq_true, true_and]
    constructor
    · intro h'
      split at h'
      · cases h'
      · next r hr =>
        split at h'
        · cases h'
        · next s2 ms2 h2 => cases h'; exact ⟨r, ms2, hr, h2, rfl⟩
    · rintro ⟨r, ms', hr, h2, rfl⟩
      simp only [hr, h2]

theorem syncRemovedLoop_cons {id : Nat} {ids old new : List Nat} {r : List Nat × List Nat} :
    syncRemovedLoop (id :: ids) old new = some r ↔
      id ∈ old ∧ syncRemovedLoop ids (old.filter (· != id)) (id :: new) = some r := by
  simp only [syncRemovedLoop, List.contains_iff_mem]
  split
  · next h => simp only [h, true_and]
  · next h => simp only [h, false_and, reduceCtorEq]

theorem scanRefs_cons {m : AMap Rules} {x id : Nat} {ids : List Nat} {b : Bool} :
    scanRefs m x (id :: ids) = some b ↔
      ∃ r, m.get id = some r ∧ if x ∈ r.refs then b = true else scanRefs m x ids = some b := by
  simp only [scanRefs, List.contains_iff_mem]
  split
  · next h => simp only [h, reduceCtorEq, false_and, exists_false]
  · next r h =>
    simp only [h, Option.some.injEq, exists_eq_left']
    split
    · exact ⟨fun e => (Option.some.inj e).symm, fun e => e ▸ rfl⟩
    · rfl

theorem eachUpdateable_cons {f : EpInfo → Option (EpInfo × List Msg)} {w : Nat} {ei : EpInfo} {r eps' : AMap EpInfo} {evs : List Ev} :
    eachUpdateable f ((w, ei) :: r) = some (eps', evs) ↔ ∃ r' evs', eachUpdateable f r = some (r', evs') ∧
      ((ei.output = none ∧ eps' = (w, ei) :: r' ∧ evs = evs') ∨
       ∃ c ei' ms, ei.output = some c ∧ f ei = some (ei', ms) ∧ eps' = (w, ei') :: r' ∧ evs = tag c ms ++ evs') := by
  constructor
  · intro h
    simp only [eachUpdateable] at h
    split at h
    · next ho =>
      split at h
      · cases h
      · next hr => cases h; exact ⟨_, _, hr, Or.inl ⟨ho, rfl, rfl⟩⟩
    · next c ho =>
      split at h
      · next hf hr => cases h; exact ⟨_, _, hr, Or.inr ⟨c, _, _, ho, hf, rfl, rfl⟩⟩
      · cases h
  · rintro ⟨r', evs', hr, ⟨ho, rfl, rfl⟩ | ⟨c, ei', ms, ho, hf, rfl, rfl⟩⟩
    · simp only [eachUpdateable, ho, hr]
    · simp only [eachUpdateable, ho, hf, hr]

theorem wantedIP_some {p : Proc} {e : Option Endpoint} {l : List Nat} :
    wantedIP p e = some l ↔ ∃ a b, refsOf p.profs (epProfs e) = some a ∧ refsOf p.pols (epPols e) = some b ∧ dedup (a ++ b) = l := by
  simp only [wantedIP]
  split
  · next r rest h1 h2 => simp only [h1, h2, Option.some.injEq, exists_and_left, exists_eq_left']
  · next hn => exact ⟨nofun, fun ⟨r, rest, h1, h2, _⟩ => (hn r rest h1 h2).elim⟩

theorem ipSync_some {p : Proc} {ei ei1 : EpInfo} {adds dels : List Msg} :
    ipSync p ei = some (ei1, adds, dels) ↔ ∃ newS, wantedIP p ei.ep = some newS ∧
      ipAddMsgs p (newS.filter (fun x => !ei.syncedIP.contains x)) = some adds ∧
      ei1 = { ei with syncedIP := newS } ∧ dels = (ei.syncedIP.filter (fun x => !newS.contains x)).map Msg.ipRm := by
  constructor
  · intro h
    simp only [ipSync] at h
    split at h
    · cases h
    · next newS hw =>
      split at h
      · cases h
      · next adds' ha => cases h; exact ⟨newS, hw, ha, rfl, rfl⟩
  · rintro ⟨newS, hw, ha, rfl, rfl⟩
    simp only [ipSync, hw, ha]

theorem maybeSync_some {p : Proc} {w : Nat} {ei ei' : EpInfo} {ms : List Msg} {e : Endpoint} {c : Nat}
    (he : ei.ep = some e) (ho : ei.output = some c) :
    maybeSync p w ei = some (ei', ms) ↔ ∃ ei1 adds dels sp polMsgs sf profMsgs oldP newP oldF newF,
      ipSync p ei = some (ei1, adds, dels) ∧
      syncAdded p.pols Msg.polUpd e.pols ei1.syncedPol = some (sp, polMsgs) ∧
      syncAdded p.profs Msg.profUpd e.profs ei1.syncedProf = some (sf, profMsgs) ∧
      syncRemovedLoop e.pols sp [] = some (oldP, newP) ∧ syncRemovedLoop e.profs sf [] = some (oldF, newF) ∧
      ei' = { ei1 with syncedPol := newP, syncedProf := newF } ∧
      ms = adds ++ polMsgs ++ profMsgs ++ [Msg.epUpd w e] ++ oldP.map Msg.polRm ++ oldF.map Msg.profRm ++ dels := by
  constructor
  · intro h
    simp only [maybeSync, he, ho] at h
    split at h
    · cases h
    · next ei1 adds dels h1 =>
      split at h
      · cases h
      · next sp polMsgs h2 =>
        split at h
        · cases h
        · next sf profMsgs h3 =>
          split at h
          · next oldP newP oldF newF h4 h5 =>
            cases h
            exact ⟨ei1, adds, dels, sp, polMsgs, sf, profMsgs, oldP, newP, oldF, newF, h1, h2, h3, h4, h5, rfl, rfl⟩
          · cases h
  · rintro ⟨ei1, adds, dels, sp, polMsgs, sf, profMsgs, oldP, newP, oldF, newF, h1, h2, h3, h4, h5, rfl, rfl⟩
    simp only [maybeSync, he, ho, h1, h2, h3, h4, h5]
end CalicoVerif.C31
