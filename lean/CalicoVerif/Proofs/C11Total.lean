import CalicoVerif.Proofs.C11Split
/-!
C11 — `Assemble` succeeds: an event list in which every jump targets a label
defined LATER in the list (`closedIn []`, written `CL []`), and that is shorter than 32768,
assembles (`assemble_total`); and the builder's output for a configuration whose rules have valid actions (`RulesAct`;
IPv4 or IPv6) is such a list (the `cl_*` lemmas, one per builder function, up to `compile_closed`).
Then: the builder does not panic on a `Buildable` configuration (`RuleIds`, `ruleOK_of` … `noPanic_of`), so
`Builder.Instructions` is the blocks of `expand` assembled one by one (`instructions_of_buildable`,
`instructions_blocks`), and for one unsplit block below the stride it yields a program (`instructions_total`).
-/
namespace CalicoVerif.C11

/-- Every jump targets a label defined later in the list or in `ext` (labels the context defines
after this fragment). -/
def closedIn (ext : List Label) : List Ev → Bool
  | [] => true
  | .jmp _ l :: r => ((labelsOf r).contains l || ext.contains l) && closedIn ext r
  | .ins _ :: r => closedIn ext r
  | .label _ :: r => closedIn ext r

abbrev CL (ext : List Label) (F : List Ev) : Prop := closedIn ext F = true

theorem closedIn_append (ext : List Label) (a b : List Ev) :
    closedIn ext (a ++ b) = (closedIn (labelsOf b ++ ext) a && closedIn ext b) := by
  induction a with
  | nil => simp [closedIn]
  | cons e es ih =>
    cases e with
    | jmp i l =>
      simp only [List.cons_append, closedIn, ih, labelsOf_append, List.contains_append, Bool.and_assoc, Bool.or_assoc]
    | ins i => simp only [List.cons_append, closedIn, ih]
    | label l => simp only [List.cons_append, closedIn, ih]

theorem closedIn_mono {ext ext' : List Label} (h : ∀ l, ext.contains l = true → ext'.contains l = true) :
    ∀ evs, CL ext evs → CL ext' evs := by
  intro evs
  induction evs with
  | nil => intro _; rfl
  | cons e es ih =>
    cases e with
    | jmp i l =>
      simp only [CL, closedIn, Bool.and_eq_true, Bool.or_eq_true]
      rintro ⟨h1 | h1, h2⟩
      · exact ⟨Or.inl h1, ih h2⟩
      · exact ⟨Or.inr (h l h1), ih h2⟩
    | ins i => simpa only [CL, closedIn] using ih
    | label l => simpa only [CL, closedIn] using ih

theorem dist_some {l : Label} :
    ∀ (r : List Ev) (last : Option Insn) (pend use : List Label), (labelsOf r).contains l = true →
      ∃ d, dist l r last pend use = some d ∧ d ≤ r.length := by
  intro r
  induction r with
  | nil => intro _ _ _ h; simp [labelsOf] at h
  | cons e es ih =>
    intro last pend use h
    cases e with
    | label l' =>
      simp only [dist]
      by_cases hll : l' = l
      · exact ⟨0, by simp [hll], by simp⟩
      · simp only [if_neg hll]
        have h' : (labelsOf es).contains l = true := by
          simp only [labelsOf, List.contains_cons, Bool.or_eq_true, beq_iff_eq] at h
          rcases h with h | h
          · exact absurd h.symm hll
          · exact h
        obtain ⟨d, hd, hle⟩ := ih last (l' :: pend) use h'
        exact ⟨d, hd, by simp only [List.length_cons]; omega⟩
    | ins j =>
      simp only [labelsOf] at h
      simp only [dist]
      by_cases hr : reachable last pend use = true
      · obtain ⟨d, hd, hle⟩ := ih (some j) [] use h
        exact ⟨d + 1, by simp [hr, hd], by simp only [List.length_cons]; omega⟩
      · obtain ⟨d, hd, hle⟩ := ih last [] use h
        exact ⟨d, by simp [hr, hd], by simp only [List.length_cons]; omega⟩
    | jmp j l2 =>
      simp only [labelsOf] at h
      simp only [dist]
      by_cases hr : reachable last pend use = true
      · obtain ⟨d, hd, hle⟩ := ih (some j) [] (l2 :: use) h
        exact ⟨d + 1, by simp [hr, hd], by simp only [List.length_cons]; omega⟩
      · obtain ⟨d, hd, hle⟩ := ih last [] use h
        exact ⟨d, by simp [hr, hd], by simp only [List.length_cons]; omega⟩

theorem closedIn_tail {ext : List Label} {e : Ev} {es : List Ev} (h : CL ext (e :: es)) : CL ext es := by
  cases e
  · exact h
  · exact (Bool.and_eq_true_iff.1 h).2
  · exact h

theorem closed_jump_mem : ∀ (evs : List Ev) (ext : List Label), CL ext evs →
    ∀ i l, Ev.jmp i l ∈ evs → l ∈ labelsOf evs ∨ l ∈ ext
  | [], _, _, _, _, h => nomatch h
  | e :: es, ext, hc, i, l, hm => by
    rcases List.mem_cons.1 hm with rfl | h
    · simp only [CL, closedIn, Bool.and_eq_true, Bool.or_eq_true, List.contains_iff_mem] at hc
      exact hc.1
    · exact (closed_jump_mem es ext (closedIn_tail hc) i l h).imp_left fun h' => by cases e <;> simp [labelsOf, h']

/-- What is unresolved after a CLOSED fragment was unresolved before it and is not labelled in it
(or is one of the labels the context promises: `ext`). -/
theorem fix_closed : ∀ (evs : List Ev) (b : BlockSt) (ext : List Label), CL ext evs →
    ∀ l ∈ (rawAll b evs).fix, (l ∈ b.fix ∧ l ∉ labelsOf evs) ∨ l ∈ ext
  | [], _, _, _, _, h => Or.inl ⟨h, by simp [labelsOf]⟩
  | e :: es, b, ext, hc, l, h => by
    rcases fix_closed es (b.raw e) ext (closedIn_tail hc) l h with ⟨h1, h2⟩ | h1
    · rcases mem_raw_fix.1 h1 with ⟨h3, he⟩ | ⟨_, i, rfl⟩
      · exact Or.inl ⟨h3, fun hm => (mem_labelsOf_cons.1 hm).elim he h2⟩
      · simp only [CL, closedIn, Bool.and_eq_true, Bool.or_eq_true, List.contains_iff_mem] at hc
        exact hc.1.elim (fun h4 => absurd h4 h2) Or.inr
    · exact Or.inr h1

theorem asm_of_fix : ∀ (evs : List Ev) (b : BlockSt), (rawAll b evs).fix = [] → evs.length ≤ 32767 →
    (asmGo evs b.last b.pend b.use).isSome = true := by
  intro evs
  induction evs with
  | nil => intro _ _ _; rfl
  | cons e es ih =>
    intro b hf hlen
    have hstep : rawAll b (e :: es) = rawAll (b.raw e) es := rfl
    rw [hstep] at hf
    have hlen' : es.length ≤ 32767 := by simp only [List.length_cons] at hlen; omega
    cases e with
    | label l =>
      simp only [asmGo]
      exact ih _ hf hlen'
    | ins j =>
      simp only [asmGo]
      have := ih _ hf hlen'
      by_cases hr : reachable b.last b.pend b.use = true
      · simp only [BlockSt.raw, hr, if_true] at this
        simp only [hr, if_true]
        cases h : asmGo es (some j) [] b.use with
        | none => rw [h] at this; cases this
        | some p => rfl
      · simp only [BlockSt.raw, hr, Bool.false_eq_true, if_false] at this
        simp only [hr, Bool.false_eq_true, if_false]
        exact this
    | jmp j l =>
      simp only [asmGo]
      have := ih _ hf hlen'
      by_cases hr : reachable b.last b.pend b.use = true
      · have hl : l ∈ labelsOf es := by
          rcases fix_persist es _ l (raw_jmp_fix b j l hr).1 with h | h
          · exact h
          · rw [hf] at h; cases h
        simp only [BlockSt.raw, hr, if_true] at this
        simp only [hr, if_true]
        obtain ⟨d, hd, hle⟩ := dist_some es (some j) [] (l :: b.use) (by simpa using hl)
        rw [hd]
        have hnb : ¬ d > maxInt16 := by simp only [maxInt16, List.length_cons] at *; omega
        simp only [if_neg hnb]
        cases h : asmGo es (some j) [] (l :: b.use) with
        | none => rw [h] at this; cases this
        | some p => rfl
      · simp only [BlockSt.raw, hr, Bool.false_eq_true, if_false] at this
        simp only [hr, Bool.false_eq_true, if_false]
        exact this

theorem assemble_of_fix (evs : List Ev) (hf : (rawAll {} evs).fix = []) (hlen : evs.length ≤ 32767) :
    ∃ p, assemble evs = some p :=
  Option.isSome_iff_exists.1 (asm_of_fix evs {} hf hlen)

/-- **`Assemble` succeeds** on closed event lists of at most 32767 events: their fix-up table ends empty. -/
theorem assemble_total (evs : List Ev) (hc : CL [] evs) (hlen : evs.length ≤ 32767) :
    ∃ p, assemble evs = some p :=
  assemble_of_fix evs (List.eq_nil_iff_forall_not_mem.2 fun l hl =>
    (fix_closed evs _ [] hc l hl).elim (fun h => nomatch h.1) (fun h => nomatch h)) hlen

theorem CL.nil (ext : List Label) : CL ext [] := rfl

theorem CL.mono {ext ext' : List Label} {F : List Ev} (h : CL ext F)
    (hsub : ∀ l ∈ ext, l ∈ ext') : CL ext' F :=
  closedIn_mono (fun l hl => List.contains_iff_mem.2 (hsub l (List.contains_iff_mem.1 hl))) F h

theorem CL.append {ext : List Label} {a b : List Ev} (ha : CL ext a) (hb : CL ext b) : CL ext (a ++ b) := by
  unfold CL
  rw [closedIn_append, Bool.and_eq_true]
  exact ⟨closedIn_mono (fun l h => by simp at h; simp [h]) a ha, hb⟩

theorem CL.append' {ext : List Label} {a b : List Ev} (ha : CL (labelsOf b ++ ext) a) (hb : CL ext b) :
    CL ext (a ++ b) := by
  unfold CL
  rw [closedIn_append, Bool.and_eq_true]
  exact ⟨ha, hb⟩

theorem CL.flatMap {α : Type} {ext : List Label} (f : α → List Ev) (l : List α) (h : ∀ x ∈ l, CL ext (f x)) :
    CL ext (l.flatMap f) := by
  induction l with
  | nil => rfl
  | cons x xs ih =>
    rw [List.flatMap_cons]
    exact (h x (by simp)).append (ih (fun y hy => h y (by simp [hy])))

theorem cl_lookup (ext : List Label) (c : Cfg) (id : Nat) (leg : Leg) :
    CL ext (ipSetLookup c id leg) := by
  cases hv6 : c.v6
  · rw [ipSetLookup_eq c id leg hv6]
    simp [CL, closedIn, lookupEvs, keyEvs, loadMapFD, movImm64, movImm32, mov64, call, mk]
  · rw [ipSetLookup_eq6 c id leg hv6]
    simp [CL, closedIn, lookupEvs6, keyEvs6, loadMapFD, movImm64, movImm32, mov64, call, mk]

theorem cl_jump1 (ext : List Label) (op dst : Nat) (imm : Int) (l : Label) (h : l ∈ ext) :
    CL ext [mkJ op dst imm l] := by
  simp [CL, closedIn, labelsOf, mkJ, h]

theorem cl_proto (ext : List Label) (rid : Nat) (neg : Bool) (o : Option Proto)
    (h : .ruleNoMatch rid ∈ ext) : CL ext (optList o (protoMatch rid neg)) := by
  cases o with
  | none => rfl
  | some p => cases neg <;> simp [CL, optList, protoMatch, closedIn, labelsOf, load8, mk, jumpEqImm64, jumpNEImm64, mkJ, h]

theorem cl_icmp (ext : List Label) (rid : Nat) (neg : Bool) (ic : Icmp)
    (h : .ruleNoMatch rid ∈ ext) : CL ext (icmpMatch rid neg ic) := by
  cases ic <;> cases neg <;>
    simp [CL, icmpMatch, icmpTypeMatch, icmpTypeCodeMatch, closedIn, labelsOf, load8, load16, mk, jumpEqImm64, jumpNEImm64, mkJ, h]

theorem cl_cidrV4 (ext : List Label) (leg : Leg) (P : Label) (n : Net) (h : P ∈ ext) :
    CL ext (cidrV4 leg P n) := by
  simp [CL, cidrV4, closedIn, labelsOf, load32, movImm32, and32, jumpEqImm32, mk, mkJ, h]

theorem cl_cidrV6 (ext : List Label) (leg : Leg) (rid idx : Nat) (P : Label) (n : Net) (h : P ∈ ext) :
    CL ext (cidrV6 leg rid idx P n) := by
  rw [cidrV6_eq]
  by_cases h1 : mask128Word n.pfx 1 = 0 <;> by_cases h2 : mask128Word n.pfx 2 = 0 <;>
    by_cases h3 : mask128Word n.pfx 3 = 0 <;>
    simp [h1, h2, h3, CL, closedIn, labelsOf, secFin, secNE, sec3, load32, movImm32, and32, jumpNEImm32,
      jumpEqImm32, mk, mkJ, h]

theorem CL.seqIdx {α : Type} {ext : List Label} (f : Nat → α → List Ev) (h : ∀ i x, CL ext (f i x)) :
    ∀ (xs : List α) (i : Nat), CL ext (seqIdx f xs i)
  | [], _ => rfl
  | x :: xs, i => (h i x).append (CL.seqIdx f h xs (i + 1))

theorem cl_cidrs (ext : List Label) (v6 : Bool) (rid part : Nat) (neg : Bool) (leg : Leg) (nets : List Net)
    (h : .ruleNoMatch rid ∈ ext) : CL ext (flat (cidrsMatch v6 rid part neg leg nets).1) := by
  have hl : ∀ (ext : List Label) (P : Label), P ∈ ext →
      CL ext (seqIdx (fun i n => if v6 then cidrV6 leg rid i P n else cidrV4 leg P n) nets 0) := fun ext P hP =>
    CL.seqIdx _ (fun i n => by cases v6; exact cl_cidrV4 ext leg P n hP; exact cl_cidrV6 ext leg rid i P n hP) nets 0
  cases neg
  · simp only [cidrsMatch, Bool.false_eq_true, if_false, flat_append, cidrLoop_flat]
    exact CL.append' (hl _ _ (by simp [flat, labelsOf, jump, mkJ])) (by simp [CL, flat, closedIn, labelsOf, jump, mkJ, h])
  · simp only [cidrsMatch, if_true, cidrLoop_flat]
    exact hl ext _ h

theorem cl_ipSetMatch (ext : List Label) (c : Cfg) (rid : Nat) (neg : Bool) (leg : Leg)
    (ids : List Nat) (h : .ruleNoMatch rid ∈ ext) : CL ext (ipSetMatch c rid neg leg ids) := by
  unfold ipSetMatch
  refine CL.flatMap _ _ (fun id _ => (cl_lookup ext c id leg).append ?_)
  cases neg
  · exact cl_jump1 ext _ _ _ _ h
  · exact cl_jump1 ext _ _ _ _ h

theorem cl_named (ext : List Label) (c : Cfg) (leg : Leg) (P : Label) (named : List Nat)
    (h : P ∈ ext) :
    CL ext (named.flatMap (fun id => ipSetLookup c id leg ++ [jumpNEImm64 R0 0 P])) :=
  CL.flatMap _ _ (fun id _ => (cl_lookup ext c id leg).append (cl_jump1 ext _ _ _ _ h))

theorem cl_ipSetOr (ext : List Label) (c : Cfg) (rid part : Nat) (leg : Leg)
    (ids : List Nat) (h : .ruleNoMatch rid ∈ ext) : CL ext (ipSetOrMatch c rid part leg ids).1 := by
  unfold ipSetOrMatch
  exact CL.append' (cl_named _ c leg _ ids (by simp [labelsOf, jump, mkJ])) (by simp [CL, closedIn, labelsOf, jump, mkJ, h])

theorem cl_portHere (ext : List Label) (rid : Nat) (P : Label) (pr : PortRange) (part : Nat)
    (h : P ∈ ext) : CL ext (portHere rid P pr part).1 := by
  unfold portHere
  by_cases c1 : pr.first = pr.last
  · simp [c1, CL, closedIn, labelsOf, jumpEqImm64, mkJ, h]
  · by_cases c2 : pr.first > 0
    · simp [c1, c2, CL, closedIn, labelsOf, jumpLTImm64, jumpLEImm64, mkJ, h]
    · simp [c1, c2, CL, closedIn, labelsOf, jumpLEImm64, mkJ, h]

theorem cl_portLoop (ext : List Label) (rid : Nat) (leg : Leg) (P : Label) (h : P ∈ ext) :
    ∀ (ports : List PortRange) (part : Nat), CL ext (flat (portLoop rid leg P ports part).1) := by
  intro ports
  induction ports with
  | nil => intro _; rfl
  | cons pr rs ih =>
    intro part
    rw [(portLoop_cons_flat rid leg P pr rs part).1]
    exact (cl_portHere ext rid P pr part h).append (ih _)

theorem cl_ports (ext : List Label) (c : Cfg) (rid part : Nat) (neg : Bool) (leg : Leg)
    (ports : List PortRange) (named : List Nat) (h : .ruleNoMatch rid ∈ ext) :
    CL ext (flat (portsMatch c rid part neg leg ports named).1) := by
  rw [portsMatch_flat]
  have hld : CL ext [load16 R1 R9 leg.portOff] := by simp [CL, closedIn, load16, mk]
  cases neg with
  | true =>
    simp only [if_true, List.append_nil]
    exact hld.append ((cl_portLoop ext rid leg _ h ports part).append (cl_named ext c leg _ named h))
  | false =>
    simp only [Bool.false_eq_true, if_false]
    have hp : Label.rulePart rid part ∈ labelsOf [jump (.ruleNoMatch rid), Ev.label (.rulePart rid part)] ++ ext := by
      simp [labelsOf, jump, mkJ]
    refine CL.append' ?_ (by simp [CL, closedIn, labelsOf, jump, mkJ, h])
    exact (CL.mono hld fun _ hl => List.mem_append_right _ hl).append
      ((cl_portLoop _ rid leg _ hp ports (part + 1)).append (cl_named _ c leg _ named hp))

theorem cl_ruleMatches (ext : List Label) (c : Cfg) (rid : Nat) (r : Rule) (leg : Leg)
    (h : .ruleNoMatch rid ∈ ext) : CL ext (flat (ruleMatches c rid r leg)) := by
  -- an absent criterion emits nothing
  have cid := fun part neg leg nets => ite_nil_ind (P := fun F => CL ext (flat F)) (CL.nil _) (b := nets.isEmpty)
    (n := part) (cl_cidrs ext c.v6 rid part neg leg nets h)
  have prt := fun (b : Prop) [Decidable b] part neg leg ports named =>
    ite_nil_ind (P := fun F => CL ext (flat F)) (CL.nil _) (b := b) (n := part)
      (cl_ports ext c rid part neg leg ports named h)
  have h7 : CL ext (rmP7 c rid r leg).1 := ite_nil_ind (P := CL ext) (CL.nil _) (cl_ipSetOr ext c rid _ _ _ h)
  rw [ruleMatches_eq]
  simp only [flat_append, flat_map_ev]
  exact ((((((((((((((cl_proto ext rid false _ h).append (cl_proto ext rid true _ h)).append (cid _ _ _ _)).append
    (cid _ _ _ _)).append (cid _ _ _ _)).append (cid _ _ _ _)).append ((cl_ipSetMatch ext c rid false _ _ h).append
      (cl_ipSetMatch ext c rid true _ _ h))).append h7).append
    ((cl_ipSetMatch ext c rid true _ _ h).append (cl_ipSetMatch ext c rid false _ _ h))).append
    (prt _ _ _ _ _ _)).append (prt _ _ _ _ _ _)).append (prt _ _ _ _ _ _)).append (prt _ _ _ _ _ _)).append
    ((cl_icmp ext rid false _ h).append (cl_icmp ext rid true _ h)))

theorem cl_endOfRule (ext : List Label) (c : Cfg) (rid id : Nat) (a : Label) (ha : a = .log ∨ a ∈ ext) :
    CL ext (endOfRule c rid id a) := by
  rw [endOfRule_split]
  refine CL.append ?_ rfl
  unfold ruleEndEvs
  split
  · simp [CL, closedIn, logEvs, load64, orImm64, store64, mk]
  · rename_i hl
    have ha' : a ∈ ext := ha.resolve_left hl
    split
    · simp [CL, closedIn, labelsOf, recordRuleID, loadImm64, load8, jumpGEImm64, mov64, addImm64, store8, shiftLImm64,
        add64, store64, mk, mkJ, jump, ha']
    · simp [CL, closedIn, labelsOf, jump, mkJ, ha']

theorem cl_writeRule (ext : List Label) (c : Cfg) (rid : Nat) (r : Rule) (a : Label) (leg : Leg)
    (ha : a = .log ∨ a ∈ ext) : CL ext (flat (writeRule c rid r a leg).1) := by
  rw [writeRule_flat]
  split
  · exact CL.nil _
  · refine CL.append' ?_ (cl_endOfRule ext c rid _ a ha)
    exact cl_ruleMatches _ c rid _ leg (by rw [labelsOf_endOfRule]; simp)

theorem cl_policies (ext : List Label) (c : Cfg) (lab : String → Label) (leg : Leg) (ps : List Policy) (rid : Nat)
    (h : ∀ pol ∈ ps, ∀ r ∈ pol.rules, lab r.action = .log ∨ lab r.action ∈ ext) :
    CL ext (flat (writePolicies c lab leg ps rid).1) :=
  writePolicies_ind (P := fun F => CL ext (flat F)) (CL.nil _) (fun ha hb => by rw [flat_append]; exact ha.append hb)
    c lab leg ps rid fun pol hp r hr rid => cl_writeRule ext c rid r _ leg (h pol hp r hr)

def TiersAct (ts : List Tier) : Prop := ∀ t ∈ ts, ∀ pol ∈ t.policies, ∀ r ∈ pol.rules, r.tierAction = true
def ProfsAct (ps : List Policy) : Prop := ∀ pol ∈ ps, ∀ r ∈ pol.rules, r.tierAction = true

/-- All that closedness of the program needs of the rules (`Buildable` and `ProgOK` both give it). -/
structure RulesAct (r : Rules) : Prop where
  gT : TiersAct r.tiers
  gHP : TiersAct r.hostPreDnatTiers
  gHF : TiersAct r.hostForwardTiers
  gHN : TiersAct r.hostNormalTiers
  gP : ProfsAct r.profiles
  gHPR : ProfsAct r.hostProfiles

theorem tierLabel_mem (al : Label) (tid : Nat) (r : Rule) (h : r.tierAction = true) :
    tierActionLabel al tid r.action = .log ∨ tierActionLabel al tid r.action = al ∨
      tierActionLabel al tid r.action = .deny ∨ tierActionLabel al tid r.action = .endOfTier tid := by
  rw [tierActionLabel_actOf]
  unfold Rule.tierAction at h
  cases ha : actOf r.action <;> simp [ha] at h ⊢

theorem profileLabel_mem (al : Label) (r : Rule) (h : r.tierAction = true) :
    profileActionLabel al r.action = .log ∨ profileActionLabel al r.action = al ∨ profileActionLabel al r.action = .deny := by
  unfold Rule.tierAction at h
  rw [profileActionLabel_actOf al r.action]
  cases ha : actOf r.action <;> simp [ha] at h ⊢

theorem tierLabel_in {E : List Label} (al : Label) (tid : Nat) (r : Rule) (h : r.tierAction = true)
    (hal : al ∈ E) (hd : Label.deny ∈ E) (he : Label.endOfTier tid ∈ E) :
    tierActionLabel al tid r.action = .log ∨ tierActionLabel al tid r.action ∈ E := by
  rcases tierLabel_mem al tid r h with e | e | e | e <;> rw [e] <;>
    first | exact Or.inl rfl | exact Or.inr hal | exact Or.inr hd | exact Or.inr he

theorem profileLabel_in {E : List Label} (al : Label) (r : Rule) (h : r.tierAction = true)
    (hal : al ∈ E) (hd : Label.deny ∈ E) :
    profileActionLabel al r.action = .log ∨ profileActionLabel al r.action ∈ E := by
  rcases profileLabel_mem al r h with e | e | e <;> rw [e] <;>
    first | exact Or.inl rfl | exact Or.inr hal | exact Or.inr hd

theorem cl_tier_body (E : List Label) (c : Cfg) (leg : Leg) (al : Label) (tid : Nat) (t : Tier)
    (rid : Nat) (hal : al ∈ E) (hd : Label.deny ∈ E) (he : Label.endOfTier tid ∈ E)
    (h : ∀ pol ∈ t.policies, ∀ r ∈ pol.rules, r.tierAction = true) :
    CL E (flat (writePolicies c (tierActionLabel al tid) leg t.policies rid).1 ++
      flat (writeRule c (writePolicies c (tierActionLabel al tid) leg t.policies rid).2
        { action := "", matchID := t.endRuleID } (tierEndLabel t tid) leg).1) := by
  refine CL.append ?_ ?_
  · exact cl_policies _ c _ leg t.policies rid fun pol hp r hr => tierLabel_in al tid r (h pol hp r hr) hal hd he
  · exact cl_writeRule _ c _ _ _ leg (Or.inr (tierEndLabel_mem t tid hd he))

theorem cl_tiers (ext : List Label) (c : Cfg) (leg : Leg) (al : Label)
    (hal : al ∈ ext) (hd : Label.deny ∈ ext) :
    ∀ (ts : List Tier) (rid tid : Nat), TiersAct ts → CL ext (flat (writeTiers c leg al ts rid tid).1) := by
  intro ts
  induction ts with
  | nil => intro _ _ _; exact CL.nil _
  | cons t ts ih =>
    intro rid tid h
    rw [writeTiers_cons_flat]
    refine CL.append' (CL.append' ?_ rfl) (ih _ _ (fun t' ht' => h t' (List.mem_cons_of_mem _ ht')))
    exact cl_tier_body _ c leg al tid t rid (by simp [hal]) (by simp [hd]) (by simp [labelsOf])
      (h t List.mem_cons_self)

theorem cl_profiles (ext : List Label) (c : Cfg) (al : Label) (hal : al ∈ ext)
    (hd : Label.deny ∈ ext) (ps : List Policy) (noMatchID rid : Nat) (h : ProfsAct ps) :
    CL ext (flat (writeProfiles c al ps noMatchID rid).1) := by
  simp only [writeProfiles, flat_append]
  refine CL.append ?_ (cl_writeRule ext c _ _ _ _ (Or.inr hd))
  exact cl_policies ext c _ _ ps rid fun pol hp r hr => profileLabel_in al r (h pol hp r hr) hal hd

theorem cl_verdictBlock (ext : List Label) (c : Cfg) (v jmp cb : Int) : CL ext (verdictBlock c v jmp cb) := by
  unfold verdictBlock
  cases c.useJmps <;>
    simp [CL, closedIn, loadMapFD, movImm32, store32, mov64, load32, call, mk]

theorem cl_footer (c : Cfg) (xdp : Bool) : CL [] (footerEvs c xdp) := by
  rw [footerEvs_eq]
  have e1 : CL [] (exitTargetEvs xdp) := by simp [CL, closedIn, exitTargetEvs, movImm64, exitI, mk]
  have e2 : CL [] (if xdp then [Ev.label Label.xdpPass, movImm64 R0 2, exitI] else []) := by
    cases xdp <;> simp [CL, closedIn, movImm64, exitI, mk]
  have e3 : CL [] [movImm32 R1 policyTailCallFailed, store32 R9 R1 stateOffPolResult,
      movImm64 R0 (if xdp then 1 else 2), exitI] := by simp [CL, closedIn, movImm32, store32, movImm64, exitI, mk]
  have := ((cl_verdictBlock [] c policyDeny c.denyJmp skbCb1).append (e1.append (e2.append
    (show CL [] (Ev.label Label.allow :: (verdictBlock c policyAllow c.allowJmp skbCb0 ++ _)) from
      ((cl_verdictBlock [] c policyAllow c.allowJmp skbCb0).append e3)))))
  exact this

theorem cl_header (ext : List Label) (c : Cfg) (hx : Label.exit ∈ ext) : CL ext (headerEvs c) := by
  simp [CL, closedIn, labelsOf, headerEvs, loadMapFD, mov64, movImm64, storeStack32, addImm64, call, jumpEqImm64, mk, mkJ]
  exact hx

theorem cl_workload (ext : List Label) (c : Cfg) (r : Rules) (rid tid : Nat)
    (ha : Label.allow ∈ ext) (hd : Label.deny ∈ ext) (hb : RulesAct r) :
    CL ext (flat (workloadPart c r rid tid)) := by
  by_cases hh : r.forHostInterface = true
  · simp only [workloadPart, hh, if_true, flat]
    exact cl_jump1 ext _ _ _ _ ha
  · have hh' : r.forHostInterface = false := by simpa using hh
    rw [workloadPart_flat c r rid tid hh']
    exact (cl_tiers ext c .dest .allow ha hd r.tiers rid tid hb.gT).append
      (cl_profiles ext c .allow ha hd r.profiles _ _ hb.gP)

theorem cl_tofh (ext : List Label) (l : Label) (h : l ∈ ext) : CL ext (jumpIfToOrFromHost l) := by
  simp [CL, closedIn, jumpIfToOrFromHost, load64, andImm64, jumpNEImm64, mk, mkJ, h]

theorem cl_host (ext : List Label) (c : Cfg) (r : Rules)
    (hd : Label.deny ∈ ext) (hx : r.forXDP = true → Label.xdpPass ∈ ext) (hb : RulesAct r) :
    CL ext (flat (hostPart c r).1) := by
  have hA : AHP ∈ labelsOf [Ev.label AHP] ++ ext := by simp [labelsOf]
  have hD : Label.deny ∈ labelsOf [Ev.label AHP] ++ ext := by simp [hd]
  cases h1 : r.forXDP <;> cases h2 : r.suppressNormalHostPolicy
  · rw [hostPart_nosup_flat c r h1 h2 rfl rfl rfl]
    refine CL.append' ?_ rfl
    refine (cl_tiers _ c _ AHP hA hD _ _ _ hb.gHP).append ?_
    refine CL.append' (CL.append' ?_ rfl) ?_
    · refine (cl_tofh _ TOFH (by simp [labelsOf])).append ((cl_tiers _ c _ AHP ?_ ?_ _ _ _ hb.gHF).append
        (cl_jump1 _ _ _ _ _ ?_))
      · simp [labelsOf]
      · simp [hd]
      · simp [labelsOf]
    · exact (cl_tiers _ c _ AHP hA hD _ _ _ hb.gHN).append (cl_profiles _ c AHP hA hD _ _ _ hb.gHPR)
  · rw [hostPart_sup_flat c r h1 h2 rfl]
    refine CL.append' ?_ rfl
    exact (cl_tiers _ c _ AHP hA hD _ _ _ hb.gHP).append ((cl_tofh _ AHP hA).append
      ((cl_tiers _ c _ AHP hA hD _ _ _ hb.gHF).append (cl_jump1 _ _ _ _ _ hA)))
  · rw [hostPart_xdp_flat c r h1 h2]
    refine CL.append' ?_ rfl
    exact (show CL _ ([Ev.label TOFH] ++ _) from CL.append rfl ((cl_tiers _ c _ AHP hA hD _ _ _ hb.gHN).append
      (cl_jump1 _ _ _ _ _ (by simp [hx h1]))))
  · rw [hostPart_xdp_sup_flat c r h1 h2]
    rfl

/-- The IP-set ids of a rule that `writeRule` does not panic on. -/
def RuleIds (r : Rule) : Prop := r.dstIpSetIds.length ≤ 1 ∧ ∀ id ∈ r.ipSetIDs, id ≠ 0
def TiersBuild (ts : List Tier) : Prop :=
  ∀ t ∈ ts, ∀ pol ∈ t.policies, ∀ r ∈ pol.rules, r.tierAction = true ∧ RuleIds r
def ProfsBuild (ps : List Policy) : Prop := ∀ pol ∈ ps, ∀ r ∈ pol.rules, r.tierAction = true ∧ RuleIds r

/-- What `Builder.Instructions` needs from its input not to panic and to assemble. -/
structure Buildable (r : Rules) : Prop where
  gT : TiersBuild r.tiers
  gHP : TiersBuild r.hostPreDnatTiers
  gHF : TiersBuild r.hostForwardTiers
  gHN : TiersBuild r.hostNormalTiers
  gP : ProfsBuild r.profiles
  gHPR : ProfsBuild r.hostProfiles

theorem TiersBuild.act {ts : List Tier} (h : TiersBuild ts) : TiersAct ts :=
  fun t ht pol hp r hr => (h t ht pol hp r hr).1
theorem ProfsBuild.act {ps : List Policy} (h : ProfsBuild ps) : ProfsAct ps :=
  fun pol hp r hr => (h pol hp r hr).1

theorem Buildable.act {r : Rules} (hb : Buildable r) : RulesAct r :=
  ⟨hb.gT.act, hb.gHP.act, hb.gHF.act, hb.gHN.act, hb.gP.act, hb.gHPR.act⟩

theorem cl_bodyB (c : Cfg) (r : Rules) (hb : RulesAct r) : CL [] (flat (bodyB c r)) := by
  rw [bodyB_flat]
  refine CL.append' ?_ (cl_footer c r.forXDP)
  rw [labelsOf_footer, List.append_nil]
  exact (cl_host _ c r (by simp [footerLabels]) (fun h => by simp [footerLabels, h]) hb).append
    (cl_workload _ c r _ _ (by simp [footerLabels]) (by simp [footerLabels]) hb)

theorem compile_closed_act (c : Cfg) (r : Rules) (hb : RulesAct r) : CL [] (flat (compile c r)) := by
  rw [compile_flat]
  exact CL.append' (cl_header _ c (by rw [bodyB_flat, labelsOf_append, labelsOf_footer]; simp [footerLabels]))
    (cl_bodyB c r hb)

theorem compile_closed (c : Cfg) (r : Rules) (hb : Buildable r) : CL [] (flat (compile c r)) :=
  compile_closed_act c r hb.act

theorem filterRule_ids {r fr : Rule} {v6 : Bool} (h : filterRule v6 r = some fr) :
    fr.dstIpSetIds = r.dstIpSetIds ∧ fr.ipSetIDs = r.ipSetIDs := by
  obtain ⟨s, ns, d, nd, rfl⟩ := filterRule_some h
  exact ⟨rfl, rfl⟩

theorem ruleOK_of (c : Cfg) (lab : Label) (r : Rule) (hl : lab ≠ .none) (hr : RuleIds r) : ruleOK c lab r = true := by
  unfold ruleOK
  rw [Bool.and_eq_true]
  refine ⟨by simpa using hl, ?_⟩
  split
  · rfl
  · rename_i fr hf
    obtain ⟨e1, e2⟩ := filterRule_ids hf
    rw [e1, e2, Bool.and_eq_true]
    refine ⟨by simpa using hr.1, ?_⟩
    rw [List.all_eq_true]
    intro id hid
    simpa using hr.2 id hid

theorem tiersOK_of (c : Cfg) (al : Label) (hal : al ≠ .none) :
    ∀ (ts : List Tier) (tid : Nat), TiersBuild ts → tiersOK c al ts tid = true := by
  intro ts
  induction ts with
  | nil => intro _ _; rfl
  | cons t ts ih =>
    intro tid h
    unfold tiersOK
    rw [Bool.and_eq_true]
    refine ⟨?_, ih _ (fun t' ht' => h t' (List.mem_cons_of_mem _ ht'))⟩
    rw [List.all_eq_true]
    intro pol hp
    rw [List.all_eq_true]
    intro r hr
    obtain ⟨ha, hi⟩ := h t List.mem_cons_self pol hp r hr
    refine ruleOK_of c _ r ?_ hi
    rcases tierLabel_mem al tid r ha with e | e | e | e <;> rw [e]
    · simp
    · exact hal
    · simp
    · simp

theorem profilesOK_of (c : Cfg) (ps : List Policy) (h : ProfsBuild ps) : profilesOK c ps = true := by
  unfold profilesOK
  rw [List.all_eq_true]
  intro pol hp
  rw [List.all_eq_true]
  intro r hr
  obtain ⟨ha, hi⟩ := h pol hp r hr
  refine ruleOK_of c _ r ?_ hi
  rcases profileLabel_mem .allow r ha with e | e | e <;> rw [e] <;> simp

theorem noPanic_of (c : Cfg) (r : Rules) (hb : Buildable r) : noPanic c r = true := by
  have t := fun ts h => tiersOK_of c .allow (by simp) ts 0 h
  have p := profilesOK_of c
  unfold noPanic
  simp [t _ hb.gT, t _ hb.gHP, t _ hb.gHF, t _ hb.gHN, p _ hb.gP, p _ hb.gHPR]

theorem instructions_of_buildable (c : Cfg) (r : Rules) (hb : Buildable r) :
    instructions c r = some ((expand c r.forXDP (compile c r)).mapM assemble) := by
  unfold instructions
  rw [noPanic_of c r hb]; rfl

theorem instructions_blocks {c : Cfg} {r : Rules} {progs : List (List Insn)}
    (hi : instructions c r = some (some progs)) : (expand c r.forXDP (compile c r)).mapM assemble = some progs := by
  unfold instructions at hi
  split at hi
  · cases hi
  · simpa using hi

/-- **`Builder.Instructions` neither panics nor fails to assemble** on a buildable input (IPv4 or IPv6) whose
program fits one unsplit block. -/
theorem instructions_total (c : Cfg) (r : Rules) (hb : Buildable r)
    (hnosplit : NoSplit c (flat (compile c r))) (hshort : (flat (compile c r)).length < c.trampolineStride)
    (hstride : c.trampolineStride ≤ 32768) :
    ∃ prog, instructions c r = some (some [prog]) := by
  obtain ⟨prog, hp⟩ := assemble_total (flat (compile c r)) (compile_closed c r hb) (by omega)
  refine ⟨prog, ?_⟩
  rw [instructions_of_buildable c r hb, expand_one c r.forXDP (compile c r) hnosplit hshort]
  simp [hp]

end CalicoVerif.C11
