import CalicoVerif.Proofs.C18
/-! Helper lemmas for the C18 Len()/InSync theorems: `desiredLen` counts the desired keys (`JU`),
cardinality of the four views. -/
namespace CalicoVerif.C18
variable {K V : Type} [DecidableEq K]

def IsCard (n : Nat) (S : K → Prop) : Prop := ∃ L : List K, L.Nodup ∧ L.length = n ∧ ∀ k, k ∈ L ↔ S k

theorem filter_length_update (univ : List K) (hu : univ.Nodup) (k : K) (hk : k ∈ univ) (f g : K → Bool)
    (h : ∀ k', k' ≠ k → g k' = f k') :
    ((univ.filter g).length : Int) = (univ.filter f).length + (if g k then 1 else 0) - (if f k then 1 else 0) := by
  induction univ with
  | nil => cases hk
  | cons x xs ih =>
    have hx : x ∉ xs ∧ xs.Nodup := by simpa using hu
    by_cases hxk : x = k
    · subst hxk
      have : xs.filter g = xs.filter f := by
        apply List.filter_congr
        intro y hy
        exact h y (by rintro rfl; exact hx.1 hy)
      simp only [List.filter, this]
      cases g x <;> cases f x <;> simp <;> omega
    · have hk' : k ∈ xs := by
        rcases List.mem_cons.1 hk with e | e
        · exact absurd e.symm hxk
        · exact e
      have := ih hx.2 hk'
      simp only [List.filter, h x hxk]
      cases f x <;> simp <;> omega

def Op.keysIn (univ : List K) : Op K V → Prop
  | .dSet k _ => k ∈ univ
  | _ => True

/-- `desiredLen` counts the desired keys (over any duplicate-free universe containing them). -/
def JU (univ : List K) (t : Tracker K V) : Prop :=
  (∀ k, (desiredGet t k).isSome = true → k ∈ univ) ∧
  t.dlen = ((univ.filter (fun k => (desiredGet t k).isSome)).length : Int)

theorem ju_of_same (univ : List K) (t t' : Tracker K V) (h : JU univ t)
    (hd : ∀ k, (desiredGet t' k).isSome = (desiredGet t k).isSome) (hl : t'.dlen = t.dlen) : JU univ t' := by
  refine ⟨fun k hk => h.1 k (by rw [← hd]; exact hk), ?_⟩
  rw [hl, h.2]
  congr 2
  apply List.filter_congr
  intro k _; exact (hd k).symm

theorem ju_update (univ : List K) (hu : univ.Nodup) (t t' : Tracker K V) (k : K) (h : JU univ t)
    (hoff : ∀ k', k' ≠ k → (desiredGet t' k').isSome = (desiredGet t k').isSome)
    (hin : (desiredGet t' k).isSome = true → k ∈ univ)
    (hl : t'.dlen = t.dlen + (if (desiredGet t' k).isSome then 1 else 0) -
      (if (desiredGet t k).isSome then 1 else 0)) : JU univ t' := by
  by_cases hk : k ∈ univ
  · refine ⟨fun k' hk' => ?_, ?_⟩
    · by_cases e : k' = k
      · exact e ▸ hk
      · exact h.1 k' (by rw [← hoff k' e]; exact hk')
    · rw [hl, h.2, filter_length_update univ hu k hk _ (fun x => (desiredGet t' x).isSome) hoff]
  · -- `k` lies outside the universe: it is desired neither before nor after
    have h0 : (desiredGet t k).isSome = false := by
      cases e : (desiredGet t k).isSome
      · rfl
      · exact absurd (h.1 k e) hk
    have h1 : (desiredGet t' k).isSome = false := by
      cases e : (desiredGet t' k).isSome
      · rfl
      · exact absurd (hin e) hk
    refine ju_of_same univ t t' h (fun k' => ?_) (by rw [hl, h0, h1]; simp)
    by_cases e : k' = k
    · rw [e, h0, h1]
    · exact hoff k' e

theorem ju_dSet (eqv : V → V → Bool) (hs : Sym eqv) (hr : Refl eqv) (univ : List K) (hu : univ.Nodup)
    (t : Tracker K V) (hi : Inv eqv t) (hw : WF3 t) (k : K) (v : V) (hk : k ∈ univ) (h : JU univ t) :
    JU univ (dSet eqv t k v) := by
  have hd := desiredGet_step eqv hs hr t (.dSet k v) hi hw trivial
  have hk1 : (desiredGet (dSet eqv t k v) k).isSome = true := by
    rw [show dSet eqv t k v = step eqv t (.dSet k v) from rfl, hd k]
    simp only [specAt, if_true, sDSet]
    cases dataplaneGet t k with
    | none => rfl
    | some w => simp only; split <;> rfl
  refine ju_update univ hu t _ k h (fun k' hne => ?_) (fun _ => hk) ?_
  · rw [show dSet eqv t k v = step eqv t (.dSet k v) from rfl, hd k']; simp [specAt, Ne.symm hne]
  · rw [dlen_dSet eqv t hi k v, hk1]
    cases (desiredGet t k).isSome <;> simp

theorem ju_dDel (eqv : V → V → Bool) (hs : Sym eqv) (hr : Refl eqv) (univ : List K) (hu : univ.Nodup)
    (t : Tracker K V) (hi : Inv eqv t) (hw : WF3 t) (k : K) (h : JU univ t) :
    JU univ (dDel t k) := by
  have hd := desiredGet_step eqv hs hr t (.dDel k) hi hw trivial
  have hk1 : (desiredGet (dDel t k) k).isSome = false := by
    rw [show dDel t k = step eqv t (.dDel k) from rfl, hd k]; simp [specAt, sDDel]
  refine ju_update univ hu t _ k h (fun k' hne => ?_) (fun e => by rw [hk1] at e; cases e) ?_
  · rw [show dDel t k = step eqv t (.dDel k) from rfl, hd k']; simp [specAt, Ne.symm hne]
  · rw [dlen_dDel, hk1]; simp

theorem sUIter_des (eqv : V → V → Bool) (b : Bool) (x : S1 V) : (sUIter eqv b x).1 = x.1 := by
  unfold sUIter; split <;> rfl
theorem sXIter_des (b : Bool) (x : S1 V) : (sXIter b x).1 = x.1 := by
  unfold sXIter; split <;> rfl
theorem sPSet_des_isSome (eqv : V → V → Bool) (x : S1 V) (v : V) : (sPSet eqv x v).1.isSome = x.1.isSome := by
  obtain ⟨d, q⟩ := x
  unfold sPSet
  cases d with
  | none => rfl
  | some dv => simp only; split <;> rfl
theorem sRepl_des_isSome (eqv : V → V → Bool) (f : Bool) (x : S1 V) (i : Option V) :
    (sRepl eqv f x i).1.isSome = x.1.isSome := by
  obtain ⟨d, q⟩ := x
  unfold sRepl
  cases d <;> cases i <;> simp
  split <;> rfl

def G (eqv : V → V → Bool) (univ : List K) (t : Tracker K V) : Prop :=
  Inv eqv t ∧ WF3 t ∧ JU univ t

theorem g_dDel (eqv : V → V → Bool) (hs : Sym eqv) (hr : Refl eqv) (univ : List K) (hu : univ.Nodup)
    (t : Tracker K V) (k : K) (h : G eqv univ t) : G eqv univ (dDel t k) := by
  obtain ⟨hi, hw, hj⟩ := h
  exact ⟨fun k' => (step_at eqv hs hr t (.dDel k) hi hw trivial k').1, wf3_dDel t k hw,
    ju_dDel eqv hs hr univ hu t hi hw k hj⟩

theorem g_step (eqv : V → V → Bool) (hs : Sym eqv) (hr : Refl eqv) (univ : List K) (hu : univ.Nodup)
    (t : Tracker K V) (op : Op K V) (hop : op.WF) (hk : op.keysIn univ) (h : G eqv univ t) :
    G eqv univ (step eqv t op) := by
  obtain ⟨hi, hw, hj⟩ := h
  have hi' : Inv eqv (step eqv t op) := fun k' => (step_at eqv hs hr t op hi hw hop k').1
  have hw' := wf3_step eqv t op hw
  have hd := fun k => desiredGet_step eqv hs hr t op hi hw hop k
  refine ⟨hi', hw', ?_⟩
  cases op with
  | dSet k v => exact ju_dSet eqv hs hr univ hu t hi hw k v hk hj
  | dDel k => exact ju_dDel eqv hs hr univ hu t hi hw k hj
  | dDelAll =>
    exact (dDelAll_ind (g_dDel eqv hs hr univ hu) t ⟨hi, hw, hj⟩).2.2
  | pSet k v =>
    apply ju_of_same univ t _ hj
    · intro k'; rw [hd k']; simp only [specAt]; split
      · exact sPSet_des_isSome eqv _ v
      · rfl
    · exact dlen_pSet eqv t k v
  | pDel k =>
    apply ju_of_same univ t _ hj
    · intro k'; rw [hd k']; simp only [specAt]; split <;> rfl
    · exact dlen_pDel t k
  | repl items fail =>
    apply ju_of_same univ t _ hj
    · intro k'; rw [hd k']; exact sRepl_des_isSome eqv fail _ _
    · exact dlen_repl eqv t items fail
  | uIter act =>
    apply ju_of_same univ t _ hj
    · intro k'; rw [hd k']; simp only [specAt, sUIter_des]
    · exact dlen_uIter t t.du act
  | xIter act =>
    apply ju_of_same univ t _ hj
    · intro k'; rw [hd k']; simp only [specAt, sXIter_des]
    · exact dlen_xIter t (keys t.dn) act
  | uBatched F c =>
    apply ju_of_same univ t _ hj
    · intro k'; rw [hd k']; simp only [specAt, sUIter_des]
    · show (uBatched t batchSize F c t.du).dlen = t.dlen
      rw [uBatched_eq_uIter]; exact dlen_uIter t t.du _
  | xBatched F c =>
    apply ju_of_same univ t _ hj
    · intro k'; rw [hd k']; simp only [specAt, sXIter_des]
    · show (xBatched t batchSize F c (keys t.dn)).dlen = t.dlen
      rw [xBatched_eq_xIter]; exact dlen_xIter t (keys t.dn) _

theorem g_run (eqv : V → V → Bool) (hs : Sym eqv) (hr : Refl eqv) (univ : List K) (hu : univ.Nodup)
    (ops : List (Op K V)) (hw : ∀ op ∈ ops, op.WF) (hk : ∀ op ∈ ops, op.keysIn univ) :
    G eqv univ (run eqv ops) := by
  refine run_ind (J := fun _ t => JU univ t) eqv hs hr ops hw ⟨?_, ?_⟩
    fun _ t op hm hi hn hj => (g_step eqv hs hr univ hu t op (hw op hm) (hk op hm) ⟨hi, hn, hj⟩).2.2
  · intro k hk'; simp [desiredGet, Tracker.new] at hk'
  · have : univ.filter (fun _ : K => false) = [] := List.filter_eq_nil_iff.2 (by simp)
    simp [desiredGet, Tracker.new, this]

theorem pendU_isSome (eqv : V → V → Bool) (d q : Option V) (h : pendU eqv (d, q) = true) : d.isSome = true := by
  cases d <;> simp_all [pendU]
theorem pendX_isSome (d q : Option V) (h : pendX (d, q) = true) : q.isSome = true := by
  simp only [pendX, Bool.and_eq_true] at h; exact h.1

theorem eq_nil_iff_get (m : GoMap K V) : m = [] ↔ ∀ k, get m k = none := by
  cases m with
  | nil => exact ⟨fun _ _ => rfl, fun _ => rfl⟩
  | cons p r => exact ⟨fun h => absurd h (List.cons_ne_nil _ _), fun h => by have := h p.1; simp [get] at this⟩

theorem du_isSome_iff (eqv : V → V → Bool) (hr : Refl eqv) (t : Tracker K V) (hi : Inv eqv t) (k : K) :
    (get t.du k).isSome = true ↔ pendU eqv (desiredGet t k, dataplaneGet t k) = true := by
  rw [show get t.du k = _ from P.pendU_exact eqv hr (proj t k) (hi k)]
  split
  · next hp => exact ⟨fun _ => hp, fun _ => pendU_isSome eqv _ _ hp⟩
  · next hp => exact ⟨fun h => Bool.noConfusion h, fun h => absurd h hp⟩

theorem dn_isSome_iff (eqv : V → V → Bool) (t : Tracker K V) (hi : Inv eqv t) (k : K) :
    (get t.dn k).isSome = true ↔ pendX (desiredGet t k, dataplaneGet t k) = true := by
  rw [show get t.dn k = _ from P.pendX_exact eqv (proj t k) (hi k)]
  split
  · next hp => exact ⟨fun _ => hp, fun _ => pendX_isSome _ _ hp⟩
  · next hp => exact ⟨fun h => Bool.noConfusion h, fun h => absurd h hp⟩

theorem card_pendingUpdates (eqv : V → V → Bool) (hr : Refl eqv) (t : Tracker K V) (hi : Inv eqv t) (hw : WF3 t) :
    IsCard t.pendingUpdatesLen (fun k => pendU eqv (desiredGet t k, dataplaneGet t k) = true) :=
  ⟨keys t.du, hw.du, List.length_map _, fun k => (mem_keys_iff t.du k).trans (du_isSome_iff eqv hr t hi k)⟩

theorem card_pendingDeletions (eqv : V → V → Bool) (t : Tracker K V) (hi : Inv eqv t) (hw : WF3 t) :
    IsCard t.pendingDeletionsLen (fun k => pendX (desiredGet t k, dataplaneGet t k) = true) :=
  ⟨keys t.dn, hw.dn, List.length_map _, fun k => (mem_keys_iff t.dn k).trans (dn_isSome_iff eqv t hi k)⟩

theorem card_dataplane (eqv : V → V → Bool) (t : Tracker K V) (hi : Inv eqv t) (hw : WF3 t) :
    IsCard t.dataplaneLen (fun k => (dataplaneGet t k).isSome = true) := by
  refine ⟨keys t.dn ++ keys t.dd, ?_, by simp [Tracker.dataplaneLen, keys], fun k => ?_⟩
  · rw [List.nodup_append]
    refine ⟨hw.dn, hw.dd, ?_⟩
    intro a ha b hb hab
    subst hab
    have h1 := (mem_keys_iff t.dn a).1 ha
    have h2 := (mem_keys_iff t.dd a).1 hb
    have := (hi a).1
    simp only [proj] at this
    cases e : get t.dd a with
    | none => rw [e] at h2; cases h2
    | some w => rw [this (by simp [e])] at h1; cases h1
  · rw [List.mem_append, mem_keys_iff, mem_keys_iff]
    cases h1 : get t.dd k <;> cases h2 : get t.dn k <;> simp [dataplaneGet, h1, h2]

theorem card_desired (univ : List K) (hu : univ.Nodup) (t : Tracker K V) (hj : JU univ t) :
    0 ≤ t.desiredLen ∧ IsCard t.desiredLen.toNat (fun k => (desiredGet t k).isSome = true) := by
  unfold Tracker.desiredLen
  rw [hj.2]
  refine ⟨Int.natCast_nonneg _, univ.filter (fun k => (desiredGet t k).isSome), hu.filter _, by simp, fun k => ?_⟩
  simp only [List.mem_filter]
  exact ⟨fun h => h.2, fun h => ⟨hj.1 k h, h⟩⟩

theorem inSync_iff (eqv : V → V → Bool) (hr : Refl eqv) (t : Tracker K V) (hi : Inv eqv t) :
    t.inSync = true ↔ ∀ k, pendU eqv (desiredGet t k, dataplaneGet t k) = false ∧
      pendX (desiredGet t k, dataplaneGet t k) = false := by
  have none_iff : ∀ o : Option V, o = none ↔ ¬ o.isSome = true := fun o => by cases o <;> simp
  unfold Tracker.inSync Tracker.pendingDeletionsLen Tracker.pendingUpdatesLen
  simp only [Bool.and_eq_true, beq_iff_eq, List.length_eq_zero_iff, eq_nil_iff_get, none_iff,
    du_isSome_iff eqv hr t hi, dn_isSome_iff eqv t hi, Bool.not_eq_true]
  exact ⟨fun h k => ⟨h.2 k, h.1 k⟩, fun h => ⟨fun k => (h k).2, fun k => (h k).1⟩⟩
end CalicoVerif.C18
