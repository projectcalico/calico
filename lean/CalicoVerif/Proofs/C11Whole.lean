import CalicoVerif.Proofs.C11Prog
import CalicoVerif.Proofs.C11Ends
/-!
C11 — whole program on the label-level semantics (IPv4 or IPv6, not split): header, policy part,
footer.
-/
namespace CalicoVerif.C11

theorem hostTarget_verdict (env : Env) (r : Rules) (p : Pkt) :
    (hostTarget env r p).or (some (vlabel (workloadVerdict env r p))) = some (vlabel (verdict env r p)) := by
  unfold hostTarget verdict
  generalize workloadVerdict env r p = w
  -- each reference result is split only where the preceding ones leave the outcome open
  cases r.forXDP <;> cases r.suppressNormalHostPolicy <;> simp only [Bool.false_eq_true, if_false, if_true]
  · cases evalTiers env p .destPreNAT r.hostPreDnatTiers <;> try rfl
    all_goals cases toOrFromHost p
    all_goals first
      | (cases evalTiers env p .dest r.hostForwardTiers <;> rfl)
      | (cases evalTiers env p .dest r.hostNormalTiers <;> try rfl
         all_goals cases evalProfiles true env p r.hostProfiles <;> rfl)
  · cases evalTiers env p .destPreNAT r.hostPreDnatTiers <;> try rfl
    all_goals cases toOrFromHost p <;> try rfl
    all_goals cases evalTiers env p .dest r.hostForwardTiers <;> rfl
  · cases evalTiers env p .destPreNAT r.hostNormalTiers <;> rfl
  · rfl

theorem hostTarget_mem (env : Env) (r : Rules) (p : Pkt) (l : Label) (h : hostTarget env r p = some l) :
    l = .deny ∨ l = .xdpPass := by
  -- before its end label is resolved: `allowed_by_host_policy`, `deny` or `xdp_pass`
  let C : Label → Prop := fun l => l = AHP ∨ l = .deny ∨ l = .xdpPass
  have hT : ∀ d l, tiersDec AHP d = some l → C l := fun d l e => (tiersDec_mem e).imp_right Or.inl
  have hP : ∀ d l, profDec AHP d = some l → C l := fun d l e => (profDec_mem e).imp_right Or.inl
  have hor : ∀ {a b : Option Label}, (∀ l, a = some l → C l) → (∀ l, b = some l → C l) →
      ∀ l, a.or b = some l → C l := by
    intro a b ha hb l h
    cases a with
    | none => exact hb l h
    | some x => exact ha l h
  have hs : ∀ {x : Label}, C x → ∀ l, some x = some l → C l := fun hx l e => Option.some.inj e ▸ hx
  have strip : ∀ t : Option Label, (∀ l, t = some l → C l) →
      (if t = some AHP then none else t) = some l → l = .deny ∨ l = .xdpPass := by
    intro t ht h
    split at h
    · cases h
    · next hne => exact (ht l h).resolve_left fun e => hne (e ▸ h)
  refine strip _ (fun l h => ?_) h
  split at h
  · split at h
    · cases h
    · exact hor (hT _) (hs (Or.inr (Or.inr rfl))) l h
  · refine hor (hT _) (fun l h => ?_) l h
    split at h
    · split at h
      · exact hs (Or.inl rfl) l h
      · exact hor (hT _) (hP _) l h
    · exact hor (hT _) (hs (Or.inl rfl)) l h

theorem decides_body (env : Env) (st : List Byte) (r : Rules) (hok : ProgOK env st r) :
    DecidesIn env st Label.bodyish (policyEvs env.c r) (some (vlabel (verdict env r (pktOfD st)))) :=
  ((decides_host env st r hok).seq ((decides_workload env st r hok _ _).mono fun l h => by simp [Label.bodyish, h])
    fun l hl => by rcases hostTarget_mem env r _ l hl with rfl | rfl <;> rfl).congr
    (hostTarget_verdict env r (pktOfD st))

theorem verdict_xdpPass (env : Env) (r : Rules) (p : Pkt) (h : verdict env r p = .xdpPass) : r.forXDP = true := by
  by_cases hx : r.forXDP = true
  · exact hx
  · exfalso
    have hx' : r.forXDP = false := by simpa using hx
    have hw : workloadVerdict env r p ≠ .xdpPass := by
      unfold workloadVerdict
      repeat' split
      all_goals simp
    unfold verdict at h
    simp only [hx', Bool.false_eq_true, if_false] at h
    repeat' split at h
    all_goals first | exact hw h | cases h

/-- **Label-level whole-program theorem** (IPv4 or IPv6, unsplit, state lookup succeeds). -/
theorem lrun_program (env : Env) (st : List Byte) (r : Rules) (hok : ProgOK env st r) (hs : env.stateOK = true) :
    agreesV env r.forXDP (verdict env r (pktOfD st)) (lrun env (flat (compile env.c r)) (Mach.init st)) := by
  rw [compile_flat, bodyB_flat]
  obtain ⟨m0, hI0, e0⟩ := lrun_header env st hok.ctx.len hs (policyEvs env.c r ++ footerEvs env.c r.forXDP)
  rw [e0]
  obtain ⟨m1, hI1, e1⟩ := (decides_body env st r hok).1 (footerEvs env.c r.forXDP) m0 hI0
  rw [e1]
  refine (footer_out env st r.forXDP _ _ (vOf_vlabel _) (fun e => verdict_xdpPass env r (pktOfD st) ?_) m1 hI1).2
  cases hv : verdict env r (pktOfD st) <;> rw [hv] at e <;> first | rfl | cases e

end CalicoVerif.C11
