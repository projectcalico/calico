import CalicoVerif.Proofs.C15Plan
/-! `loadDataplaneState`: what its two scans may change (`ScanRel`) and what a chain they leave clean looks like in
the table just read.  The invariant of the table state is defined here (`CacheOK`, `TInv`) and shown to survive the
read (`TInv.load`); from that, one `Apply` iteration that re-reads the table (`apply_converges_owned`). -/
namespace CalicoVerif.C15

theorem mem_sAdd {s : List String} {x y : String} : y ∈ sAdd s x ↔ y ∈ s ∨ y = x := by
  unfold sAdd
  split
  · exact ⟨Or.inl, fun h => h.elim id fun e => e ▸ ‹x ∈ s›⟩
  · rw [List.mem_append, List.mem_singleton]

theorem sAdd_nodup {s : List String} (h : s.Nodup) (x : String) : (sAdd s x).Nodup := by
  unfold sAdd
  split
  · exact h
  · rename_i hx
    exact List.nodup_append.2 ⟨h, List.nodup_cons.2 ⟨List.not_mem_nil, List.nodup_nil⟩, fun a ha b hb => by
      rw [List.mem_singleton.1 hb]; rintro rfl; exact hx ha⟩

/-- What the two scans of `loadDataplaneState` may change: only the two dirty sets, and only by adding. -/
structure ScanRel (t t' : T) : Prop where
  prefixes : t'.prefixes = t.prefixes
  insertMode : t'.insertMode = t.insertMode
  ins : t'.ins = t.ins
  app : t'.app = t.app
  chains : t'.chains = t.chains
  refc : t'.refc = t.refc
  dpHashes : t'.dpHashes = t.dpHashes
  fullRules : t'.fullRules = t.fullRules
  mono : ∀ x, x ∈ t.dirty → x ∈ t'.dirty
  iaOurs : ∀ x, t.ours x = true → (x ∈ t'.dirtyIA ↔ x ∈ t.dirtyIA)
  nodup : t.dirty.Nodup → t'.dirty.Nodup
  nodupIA : t.dirtyIA.Nodup → t'.dirtyIA.Nodup
  dirtyNew : ∀ x, x ∈ t'.dirty → x ∈ t.dirty ∨ t.ours x = true

theorem ScanRel.refl (t : T) : ScanRel t t :=
  ⟨rfl, rfl, rfl, rfl, rfl, rfl, rfl, rfl, fun _ h => h, fun _ _ => Iff.rfl, fun h => h, fun h => h, fun _ h => Or.inl h⟩

theorem ScanRel.ours {t t' : T} (h : ScanRel t t') (x : String) : t'.ours x = t.ours x := by
  unfold T.ours; rw [h.prefixes]

theorem ScanRel.trans {a b c : T} (h1 : ScanRel a b) (h2 : ScanRel b c) : ScanRel a c :=
  ⟨h2.prefixes.trans h1.prefixes, h2.insertMode.trans h1.insertMode, h2.ins.trans h1.ins, h2.app.trans h1.app,
   h2.chains.trans h1.chains, h2.refc.trans h1.refc, h2.dpHashes.trans h1.dpHashes, h2.fullRules.trans h1.fullRules,
   fun x hx => h2.mono x (h1.mono x hx),
   fun x hx => (h2.iaOurs x (by rw [h1.ours]; exact hx)).trans (h1.iaOurs x hx),
   fun h => h2.nodup (h1.nodup h), fun h => h2.nodupIA (h1.nodupIA h),
   fun x hx => (h2.dirtyNew x hx).elim (h1.dirtyNew x) fun h => Or.inr (by rw [← h1.ours]; exact h)⟩

theorem ScanRel.addIA (t : T) {m : String} (hm : t.ours m = false) : ScanRel t { t with dirtyIA := sAdd t.dirtyIA m } := by
  refine ⟨rfl, rfl, rfl, rfl, rfl, rfl, rfl, rfl, fun _ h => h, fun x hx => ?_, fun h => h, fun h => sAdd_nodup h m,
    fun _ h => Or.inl h⟩
  refine mem_sAdd.trans ⟨fun h => h.elim id fun e => ?_, Or.inl⟩
  rw [e, hm] at hx; cases hx

theorem ScanRel.addDirty (t : T) {m : String} (hm : t.ours m = true) : ScanRel t { t with dirty := sAdd t.dirty m } :=
  ⟨rfl, rfl, rfl, rfl, rfl, rfl, rfl, rfl, fun _ h => mem_sAdd.2 (Or.inl h), fun _ _ => Iff.rfl,
    fun h => sAdd_nodup h m, fun h => h, fun x hx => (mem_sAdd.1 hx).imp_right fun (e : x = m) => e ▸ hm⟩

theorem ScanRel.ite {t a b : T} {p : Prop} [Decidable p] (ha : p → ScanRel t a) (hb : ¬p → ScanRel t b) :
    ScanRel t (if p then a else b) := by
  split
  · exact ha ‹_›
  · exact hb ‹_›

theorem knownStep_rel (dp : Map (List String)) (t : T) (m : String) : ScanRel t (t.knownStep dp m) := by
  unfold T.knownStep
  refine .ite (fun _ => .refl t) fun _ => .ite (fun ho => ?_) fun ho => ?_
  · have hadd := ScanRel.addIA t (m := m) (by simpa using ho)
    exact .ite (fun _ => .ite (fun _ => hadd) fun _ => .refl t) fun _ => .ite (fun _ => hadd) fun _ => .refl t
  · exact .ite (fun _ => .addDirty t (by simpa using ho)) fun _ => .refl t

theorem unknownStep_rel (dp : Map (List String)) (t : T) (m : String) : ScanRel t (t.unknownStep dp m) := by
  unfold T.unknownStep
  refine .ite (fun _ => .refl t) fun _ => .ite (fun _ => .refl t) fun _ => .ite (fun ho => ?_) fun ho => ?_
  · exact .ite (fun _ => .addIA t (by simpa using ho)) fun _ => .refl t
  · exact .addDirty t (by simpa using ho)

theorem fold_rel (step : T → String → T) (hstep : ∀ t m, ScanRel t (step t m)) (L : List String) (t : T) :
    ScanRel t (L.foldl step t) :=
  List.foldlRecOn L step (ScanRel.refl t) fun b hb m _ => hb.trans (hstep b m)

/-- A scan seen from an owned chain `c` that it visits and leaves clean: what the step at `c` learns about the
cache of programmed hashes (`G`) when it does not mark `c` dirty holds of the cache the scan started with. -/
theorem fold_clean (step : T → String → T) (hstep : ∀ t m, ScanRel t (step t m)) (c : String)
    (G : Map (List String) → Prop)
    (hc : ∀ t, t.ours c = true → c ∉ t.dirty → c ∉ t.dirtyIA → c ∉ (step t c).dirty → G t.dpHashes) :
    ∀ (L : List String) (t : T), t.ours c = true → c ∈ L → c ∉ (L.foldl step t).dirty → c ∉ t.dirtyIA →
      G t.dpHashes := by
  intro L
  induction L with
  | nil => intro t _ hc; cases hc
  | cons m L ih =>
    intro t ho hm hnd hnia
    have hrel := hstep t m
    have hrest := fold_rel step hstep L (step t m)
    by_cases hmc : m = c
    · subst hmc
      exact hc t ho (fun h => hnd (hrest.mono m (hrel.mono m h))) hnia (fun h => hnd (hrest.mono m h))
    · have := ih (step t m) (by rw [hrel.ours]; exact ho) ((List.mem_cons.1 hm).resolve_left (Ne.symm hmc)) hnd
        (fun h => hnia ((hrel.iaOurs c ho).1 h))
      rwa [hrel.dpHashes] at this

theorem mem_sortedKeys {α : Type} (m : Map α) (c : String) : c ∈ sortS m.keys.eraseDups ↔ m.has c = true := by
  rw [mem_sortS, List.mem_eraseDups, Map.has_iff_mem_keys]

theorem clean_cond {t : T} {c : String} (hd : c ∉ t.dirty) (hia : c ∉ t.dirtyIA) :
    (t.dirty.contains c || t.dirtyIA.contains c) = false := by
  rw [Bool.or_eq_false_iff, List.contains_eq_mem, List.contains_eq_mem]
  exact ⟨decide_eq_false hd, decide_eq_false hia⟩

theorem loadCheckKnown_clean (t : T) (dp : Map (List String)) (c : String) (ho : t.ours c = true)
    (hh : t.dpHashes.has c = true) (hnd : c ∉ (t.loadCheckKnown dp).dirty) (hnia : c ∉ t.dirtyIA) :
    dp.get c = some ((t.dpHashes.get c).getD []) := by
  refine fold_clean (T.knownStep dp) (knownStep_rel dp) c (fun m => dp.get c = some ((m.get c).getD [])) ?_
    _ t ho ((mem_sortedKeys _ c).2 hh) hnd hnia
  intro t ho hd hia h
  rw [T.knownStep, clean_cond hd hia, if_neg (by decide), ho, if_neg (by decide)] at h
  by_cases hq : (dp.get c != some ((t.dpHashes.get c).getD [])) = true
  · rw [if_pos hq] at h; exact absurd (mem_sAdd.2 (Or.inr rfl)) h
  · simpa using hq

theorem loadCheckUnknown_clean (t : T) (dp : Map (List String)) (c : String) (ho : t.ours c = true)
    (hh : dp.has c = true) (hnd : c ∉ (t.loadCheckUnknown dp).dirty) (hnia : c ∉ t.dirtyIA) :
    t.dpHashes.has c = true := by
  refine fold_clean (T.unknownStep dp) (unknownStep_rel dp) c (fun m => m.has c = true) ?_
    _ t ho ((mem_sortedKeys _ c).2 hh) hnd hnia
  intro t ho hd hia h
  rw [T.unknownStep, clean_cond hd hia, if_neg (by decide)] at h
  by_cases hq : t.dpHashes.has c = true
  · exact hq
  · rw [if_neg hq, ho, if_neg (by decide)] at h
    exact absurd (mem_sAdd.2 (Or.inr rfl)) h

theorem loadCheckKnown_rel (t : T) (dp : Map (List String)) : ScanRel t (t.loadCheckKnown dp) :=
  fold_rel _ (knownStep_rel dp) _ t

theorem loadCheckUnknown_rel (t : T) (dp : Map (List String)) : ScanRel t (t.loadCheckUnknown dp) :=
  fold_rel _ (unknownStep_rel dp) _ t

theorem load_rel (t : T) (K : Kernel) :
    ∃ t2, ScanRel t t2 ∧ t.load K = { t2 with dpHashes := readHashes K, fullRules := readFull t2 K, inSync := true } :=
  ⟨_, (loadCheckKnown_rel t _).trans (loadCheckUnknown_rel _ _), rfl⟩

theorem load_desired (t : T) (K : Kernel) (x : String) : (t.load K).desiredChain x = t.desiredChain x := by
  obtain ⟨t2, hrel, hload⟩ := load_rel t K
  rw [hload]
  show (if t2.refd x then t2.chains.get x else none) = _
  rw [T.refd, hrel.refc, hrel.chains]; rfl

theorem load_ours (t : T) (K : Kernel) (x : String) : (t.load K).ours x = t.ours x := by
  obtain ⟨t2, hrel, hload⟩ := load_rel t K
  rw [hload]; exact hrel.ours x

theorem load_prefixes (t : T) (K : Kernel) : (t.load K).prefixes = t.prefixes := by
  obtain ⟨t2, hrel, hload⟩ := load_rel t K
  rw [hload]; exact hrel.prefixes

theorem load_chains (t : T) (K : Kernel) : (t.load K).chains = t.chains := by
  obtain ⟨t2, hrel, hload⟩ := load_rel t K
  rw [hload]; exact hrel.chains

theorem load_FullOK (t : T) (K : Kernel) : FullOK (t.load K) := by
  intro c frs hget fr hfr c' r hfa
  obtain ⟨l₁, l₂, hl, _⟩ := List.lookup_eq_some_iff.1 (show List.lookup c (readFull _ K) = some frs from hget)
  have hmem : (c, frs) ∈ readFull (t.loadCheckKnown (readHashes K) |>.loadCheckUnknown (readHashes K)) K := by
    rw [hl]; exact List.mem_append_right _ List.mem_cons_self
  obtain ⟨p, _, hp⟩ := List.mem_map.1 hmem
  cases hp
  obtain ⟨r', _, hr'⟩ := List.mem_map.1 hfr
  subst hfa
  split at hr'
  · cases hr'
  · rename_i hnf
    cases hr'
    simpa using hnf

/-- Holds because the API marks a chain dirty whenever its desired content or its referenced-ness changes. -/
def CacheOK (t : T) : Prop :=
  ∀ c, t.ours c = true → c ∉ t.dirty →
    t.dpHashes.get c = (t.desiredChain c).map (fun ch => ch.rules.map (·.hash))

structure TInv (t : T) : Prop where
  cache : CacheOK t
  nodup : t.dirty.Nodup
  iaForeign : ∀ c, t.ours c = true → c ∉ t.dirtyIA

theorem TInv.load {t : T} (h : TInv t) (K : Kernel) : TInv (t.load K) := by
  obtain ⟨t1, ht1⟩ : ∃ t1, t1 = t.loadCheckKnown (readHashes K) := ⟨_, rfl⟩
  obtain ⟨t2, ht2⟩ : ∃ t2, t2 = t1.loadCheckUnknown (readHashes K) := ⟨_, rfl⟩
  have hrel1 : ScanRel t t1 := ht1 ▸ loadCheckKnown_rel t _
  have hrel12 : ScanRel t1 t2 := ht2 ▸ loadCheckUnknown_rel t1 _
  have hload : t.load K = { t2 with dpHashes := readHashes K, fullRules := readFull t2 K, inSync := true } := by
    rw [ht2, ht1]; rfl
  have hrel := hrel1.trans hrel12
  refine ⟨fun c hours hcd => ?_, by rw [hload]; exact hrel.nodup h.nodup, fun c hours hm => ?_⟩
  · rw [load_ours] at hours
    rw [load_desired, ← h.cache c hours (fun h' => hcd (by rw [hload]; exact hrel.mono c h'))]
    rw [hload] at hcd ⊢
    show (readHashes K).get c = _
    have hcd2 : c ∉ t2.dirty := hcd
    cases hg : t.dpHashes.get c with
    | some v =>
      -- a chain we programmed: the first scan found its hashes unchanged
      rw [loadCheckKnown_clean t _ c hours (by rw [Map.has, hg]; rfl) (ht1 ▸ fun h' => hcd2 (hrel12.mono c h'))
        (h.iaForeign c hours), hg]; rfl
    | none =>
      -- not a chain we programmed: the second scan would have marked it had it been in the table
      cases hk : (readHashes K).get c with
      | none => rfl
      | some rs =>
        have := loadCheckUnknown_clean t1 _ c (by rw [hrel1.ours]; exact hours) (by rw [Map.has, hk]; rfl)
          (ht2 ▸ hcd2) (fun h' => h.iaForeign c hours ((hrel1.iaOurs c hours).1 h'))
        rw [hrel1.dpHashes, Map.has, hg] at this
        cases this
  · rw [load_ours] at hours
    rw [hload] at hm
    exact h.iaForeign c hours ((hrel.iaOurs c hours).1 hm)

theorem apply_converges_owned (t : T) (K K' : Kernel) {lines newH newFull} (hinv : TInv t)
    (hsound : ∀ c ch rs, t.ours c = true → t.desiredChain c = some ch → K.get c = some rs → Sound rs ch.rules)
    (hplan : (t.load K).plan = some (lines, newH, newFull)) (hres : krestore K lines = some K')
    (c : String) (hours : t.ours c = true) :
    K'.get c = (t.desiredChain c).map (fun ch => ch.rules.map DRule.k) := by
  have hL := hinv.load K
  have hours' : (t.load K).ours c = true := by rw [load_ours]; exact hours
  have hview : (t.load K).dpHashes = readHashes K := by
    obtain ⟨t2, _, hload⟩ := load_rel t K
    rw [hload]
  have hoa := owned_after hplan hres hL.nodup hview c (hL.iaForeign c hours')
    (fun ch rs hd hk => hsound c ch rs hours (by rw [← load_desired t K]; exact hd) hk)
  rw [load_desired] at hoa
  by_cases hcd : c ∈ (t.load K).dirty
  · exact hoa.1 hcd
  · -- untouched: the table already held the desired hashes, hence (soundness) the desired rules
    have hc := hL.cache c hours' hcd
    rw [hview, readHashes_get, load_desired] at hc
    rw [hoa.2 hcd]
    cases hk : K.get c with
    | none => rw [hk] at hc; cases hd : t.desiredChain c with
      | none => rfl
      | some ch => rw [hd] at hc; cases hc
    | some rs =>
      rw [hk] at hc
      cases hd : t.desiredChain c with
      | none => rw [hd] at hc; cases hc
      | some ch =>
        rw [hd] at hc
        exact congrArg some (sound_eq rs ch.rules (hsound c ch rs hours hd hk) (Option.some.inj hc))

theorem load_dirty {t : T} {K : Kernel} {x : String} (h : x ∈ (t.load K).dirty) : x ∈ t.dirty ∨ t.ours x = true := by
  obtain ⟨t2, hrel, hload⟩ := load_rel t K
  rw [hload] at h
  exact hrel.dirtyNew x h

theorem load_nodupIA {t : T} (K : Kernel) (h : t.dirtyIA.Nodup) : (t.load K).dirtyIA.Nodup := by
  obtain ⟨t2, hrel, hload⟩ := load_rel t K
  rw [hload]
  exact hrel.nodupIA h

end CalicoVerif.C15
