import CalicoVerif.Proofs.C01Idx
import CalicoVerif.Proofs.C01Decl
import CalicoVerif.Proofs.C01Mirror
/-! C01 helper: the member index's TABLES inside the composed graph are the datastore's / the rule scanner's:
endpoint and network-set data (modulo the match cache), parent labels, and the IP-set definitions (= the
rule scanner's `ipSetsByUID`). -/
namespace CalicoVerif.C01
open CalicoVerif C02 C04.C01Ext

def setsStep (T : String → Option IpSetDef) : RsEvent → (String → Option IpSetDef)
  | .ipsetActive uid d => fun u => if u = uid then some d else T u
  | .ipsetInactive uid => fun u => if u = uid then none else T u

def setsAfter (T : String → Option IpSetDef) (evs : List RsEvent) : String → Option IpSetDef := evs.foldl setsStep T

theorem setsAfter_append (T : String → Option IpSetDef) (a b : List RsEvent) :
    setsAfter T (a ++ b) = setsAfter (setsAfter T a) b := List.foldl_append

/-- accumulator invariant of the two loops of `updateRules` -/
def SetsAcc (rs0 : RuleScanner) (cur : List (String × IpSetDef)) (acc : RuleScanner × List RsEvent) : Prop :=
  (fun u => mget acc.1.sets u) = setsAfter (fun u => mget rs0.sets u) acc.2 ∧
  ∀ uid d, RsEvent.ipsetActive uid d ∈ acc.2 → mget cur uid = some d

theorem setsAcc_addOne (rs0 : RuleScanner) (key : RulesId) (cur : List (String × IpSetDef))
    (acc : RuleScanner × List RsEvent) (uid : String) (h : SetsAcc rs0 cur acc) :
    SetsAcc rs0 cur (addOne key cur acc uid) := by
  unfold addOne
  cases hd : mget cur uid with
  | none => exact h
  | some d =>
    simp only []
    split
    · refine ⟨?_, ?_⟩
      · simp only []
        rw [setsAfter_append, ← h.1]
        funext u
        simp only [setsAfter, List.foldl, setsStep, mget_mset]
      · intro u' d' hm
        simp only [List.mem_append, List.mem_singleton] at hm
        rcases hm with hm | hm
        · exact h.2 u' d' hm
        · cases hm; exact hd
    · exact ⟨h.1, h.2⟩

theorem setsAcc_delOne (rs0 : RuleScanner) (key : RulesId) (cur : List (String × IpSetDef))
    (acc : RuleScanner × List RsEvent) (uid : String) (h : SetsAcc rs0 cur acc) :
    SetsAcc rs0 cur (delOne key acc uid) := by
  unfold delOne
  simp only []
  split
  · refine ⟨?_, ?_⟩
    · simp only []
      rw [setsAfter_append, ← h.1]
      funext u
      simp only [setsAfter, List.foldl, setsStep, mget_mdel]
    · intro u' d' hm
      simp only [List.mem_append, List.mem_singleton] at hm
      rcases hm with hm | hm
      · exact h.2 u' d' hm
      · cases hm
  · exact ⟨h.1, h.2⟩

theorem updateRules_sets (rs : RuleScanner) (key : RulesId) (cur : List (String × IpSetDef)) :
    (fun u => mget (rs.updateRules key cur).1.sets u) = setsAfter (fun u => mget rs.sets u) (rs.updateRules key cur).2 ∧
    ∀ uid d, RsEvent.ipsetActive uid d ∈ (rs.updateRules key cur).2 → mget cur uid = some d := by
  rw [updateRules_eq]
  have h0 : SetsAcc rs cur (rs, []) := ⟨rfl, by intro u d h; cases h⟩
  have h1 : SetsAcc rs cur ((addedOf rs key cur).foldl (addOne key cur) (rs, [])) :=
    List.foldlRecOn _ _ h0 fun acc h a _ => setsAcc_addOne rs key cur acc a h
  exact List.foldlRecOn _ _ h1 fun acc h a _ => setsAcc_delOne rs key cur acc a h

theorem setsAfter_dom {f f' : InUse} {evs : List RsEvent} (hr : EvReplay f evs f') :
    ∀ T : String → Option IpSetDef, (∀ u, (T u).isSome = f u) → ∀ u, (setsAfter T evs u).isSome = f' u := by
  induction hr with
  | nil f => intro T h; exact h
  | @active f uid d evs f' _ _ ih =>
    exact fun T h => ih _ (by intro u; by_cases hu : u = uid <;> simp [setsStep, hu, h u])
  | @inactive f uid evs f' _ _ ih =>
    exact fun T h => ih _ (by intro u; by_cases hu : u = uid <;> simp [setsStep, hu, h u])

theorem mget_currentSets {H : IdFn} {r : RulesIn} {uid : String} {d : IpSetDef}
    (h : mget (currentSets H r) uid = some d) : H d = uid := by
  unfold currentSets at h
  generalize (r.inbound ++ r.outbound).flatMap ruleSets = l at h
  suffices key : ∀ (l : List IpSetDef) (m : List (String × IpSetDef)),
      (∀ u x, mget m u = some x → H x = u) → ∀ u x, mget (l.foldl (fun m d => mset (H d) d m) m) u = some x → H x = u from
    key l [] (by intro u x hx; simp [mget] at hx) uid d h
  intro l
  induction l with
  | nil => intro m hm; exact hm
  | cons a t ih =>
    intro m hm
    simp only [List.foldl_cons]
    apply ih
    intro u x hx
    rw [mget_mset] at hx
    by_cases hu : u = H a
    · simp only [hu, if_true, Option.some.injEq] at hx; rw [← hx, hu]
    · simp only [hu, if_false] at hx; exact hm u x hx

def epOf (v : EpVal) : C04.EpData :=
  { labels := v.labels, nets := C04.extractIPs v.nets, ports := v.ports, parents := C04.dedupParents v.profiles, cached := [] }
def nsOf (n : NetSetVal) : C04.EpData :=
  { labels := n.labels, nets := C04.extractNetSet n.nets, ports := [], parents := C04.dedupParents n.profiles, cached := [] }
def trD (d : IpSetDef) : Str × Nat × String := (d.sel, d.proto, d.port)

structure XInv (N : Numbering) (H : IdFn) (s : Bool) (g : Graph) (ds : DS) : Prop where
  sup : g.idx.suppress = s
  eps : ∀ nid, C04.C01Ext.epsView g.idx (epKeyStr (N.ek nid)) = (mget ds.eps nid).map (fun x => epOf x.2.2)
  nets : ∀ name, C04.C01Ext.epsView g.idx ("n:" ++ name) = (mget ds.netsets name).map nsOf
  range : ∀ k, (C04.C01Ext.epsView g.idx k).isSome = true → (∃ nid, k = epKeyStr (N.ek nid)) ∨ ∃ name, k = "n:" ++ name
  parents : ∀ p, C04.parentLabels g.idx p = (mget ds.profLabels p).getD []
  sets : ∀ uid, C04.C01Ext.setView g.idx uid = (mget g.rs.sets uid).map trD
  setsH : ∀ uid d, mget g.rs.sets uid = some d → H d = uid
  setsDom : ∀ uid, (mget g.rs.sets uid).isSome = g.rs.inUse uid
  nodup : g.rs.refs.Nodup

theorem epKeyStr_ne_n (k : EpKey) (name : String) : epKeyStr k ≠ "n:" ++ name := by
  intro h
  have h2 := congrArg String.toList h
  have e0 : ("n:" : String).toList = ['n', ':'] := by decide
  have e1 : ("w:" : String).toList = ['w', ':'] := by decide
  have e2 : ("h:" : String).toList = ['h', ':'] := by decide
  cases k <;> simp only [epKeyStr, String.toList_append] at h2
  · rw [e0, e1] at h2; simp at h2
  · rw [e0, e2] at h2; simp at h2

theorem onRsEvent_idx (g : Graph) (e : RsEvent) : (g.onRsEvent e).idx = match e with
    | .ipsetActive uid d => C04.updateIPSet matchSel uid d.sel d.proto d.port g.idx
    | .ipsetInactive uid => C04.deleteIPSet uid g.idx := by
  cases e with
  | ipsetActive uid d => simp only [Graph.onRsEvent]; rw [idxOp_idx, emit_idx]; rfl
  | ipsetInactive uid => simp only [Graph.onRsEvent]; rw [emit_idx, idxOp_idx]; rfl

structure RsKept (g g' : Graph) : Prop where
  rs : g'.rs = g.rs
  suppress : g'.idx.suppress = g.idx.suppress
  eps : ∀ k, epsView g'.idx k = epsView g.idx k
  parents : ∀ p, C04.parentLabels g'.idx p = C04.parentLabels g.idx p

theorem RsKept.trans {a b c : Graph} (h1 : RsKept a b) (h2 : RsKept b c) : RsKept a c :=
  ⟨h2.rs.trans h1.rs, h2.suppress.trans h1.suppress, fun k => (h2.eps k).trans (h1.eps k),
    fun p => (h2.parents p).trans (h1.parents p)⟩

theorem onRsEvent_kept (g : Graph) (e : RsEvent) : RsKept g (g.onRsEvent e) := by
  have key : (g.onRsEvent e).idx.suppress = g.idx.suppress ∧
      (∀ id, C04.epData (g.onRsEvent e).idx id = C04.epData g.idx id) ∧ (g.onRsEvent e).idx.parents = g.idx.parents := by
    rw [onRsEvent_idx]
    cases e with
    | ipsetActive uid d =>
      have w := C04.updateIPSet_written matchSel uid d.sel d.proto d.port g.idx
      exact ⟨w.suppress, w.eps, w.parents⟩
    | ipsetInactive uid =>
      -- `deleteIPSet` is `deleteIPSetCore` followed by an `emit`, which writes the log only
      have w := (C04.deleteIPSetCore_written uid g.idx).1
      exact ⟨w.suppress, w.eps, w.parents⟩
  exact ⟨onRsEvent_rs g e, key.1, epsView_congr key.2.1, C04.parentLabels_congr key.2.2⟩

theorem onRsEvent_sets (g : Graph) (e : RsEvent) (T : String → Option IpSetDef)
    (h : ∀ u, setView g.idx u = (T u).map trD) (k : String) :
    setView (g.onRsEvent e).idx k = (setsStep T e k).map trD := by
  rw [onRsEvent_idx]
  cases e with
  | ipsetActive uid d =>
    refine ((C04.updateIPSet_written matchSel uid d.sel d.proto d.port g.idx).setView k).trans ?_
    by_cases hk : k = uid <;> simp [setsStep, hk, h k, trD]
  | ipsetInactive uid =>
    refine ((C04.deleteIPSetCore_written uid g.idx).1.setView k).trans ?_
    by_cases hk : k = uid <;> simp [setsStep, hk, h k]

theorem foldl_onRsEvent_kept (evs : List RsEvent) (g : Graph) : RsKept g (evs.foldl Graph.onRsEvent g) :=
  List.foldlRecOn evs _ ⟨rfl, rfl, fun _ => rfl, fun _ => rfl⟩ fun _ h e _ => h.trans (onRsEvent_kept _ e)

theorem foldl_onRsEvent_sets : ∀ (evs : List RsEvent) (g : Graph) (T : String → Option IpSetDef),
    (∀ u, setView g.idx u = (T u).map trD) →
    ∀ u, setView (evs.foldl Graph.onRsEvent g).idx u = (setsAfter T evs u).map trD
  | [], _, _, h => h
  | e :: t, g, T, h => foldl_onRsEvent_sets t (g.onRsEvent e) (setsStep T e) (onRsEvent_sets g e T h)

theorem setsAfter_some : ∀ (evs : List RsEvent) (T : String → Option IpSetDef) (u : String) (d : IpSetDef),
    setsAfter T evs u = some d → T u = some d ∨ RsEvent.ipsetActive u d ∈ evs
  | [], _, _, _, h => Or.inl h
  | e :: t, T, u, d, h => by
    rcases setsAfter_some t _ u d h with h1 | h1
    · cases e with
      | ipsetActive uid d0 =>
        simp only [setsStep] at h1
        split at h1
        · rename_i hu; cases h1; subst hu; exact Or.inr (List.mem_cons_self ..)
        · exact Or.inl h1
      | ipsetInactive uid =>
        simp only [setsStep] at h1
        split at h1
        · cases h1
        · exact Or.inl h1
    · exact Or.inr (List.mem_cons_of_mem _ h1)

theorem xInv_frame {N : Numbering} {H : IdFn} {s : Bool} {g g' : Graph} {ds : DS} (hi : XInv N H s g ds)
    (h1 : g'.idx = g.idx) (h2 : g'.rs = g.rs) : XInv N H s g' ds where
  sup := by rw [h1]; exact hi.sup
  eps := by rw [h1]; exact hi.eps
  nets := by rw [h1]; exact hi.nets
  range := by rw [h1]; exact hi.range
  parents := by rw [h1]; exact hi.parents
  sets := by rw [h1, h2]; exact hi.sets
  setsH := by rw [h2]; exact hi.setsH
  setsDom := by rw [h2]; exact hi.setsDom
  nodup := by rw [h2]; exact hi.nodup

theorem xInv_scanRules {N : Numbering} {H : IdFn} {s : Bool} {g : Graph} {ds : DS} (hi : XInv N H s g ds)
    (key : RulesId) (rules : Option RulesIn) : XInv N H s (g.scanRules H key rules) ds := by
  unfold Graph.scanRules
  refine xInv_frame (g := g.rsUpdate H key rules) ?_ (emit_idx _ _) (emit_rs _ _)
  rw [rsUpdate_eq]
  obtain ⟨hsets, hpay⟩ := updateRules_sets g.rs key (curOf H rules)
  have hspec := updateRules_spec g.rs key (curOf H rules) hi.nodup
  have k := foldl_onRsEvent_kept (g.rs.updateRules key (curOf H rules)).2
    { g with rs := (g.rs.updateRules key (curOf H rules)).1, active := setOrDel key rules g.active }
  have f5 := foldl_onRsEvent_sets (g.rs.updateRules key (curOf H rules)).2
    { g with rs := (g.rs.updateRules key (curOf H rules)).1, active := setOrDel key rules g.active }
    (fun u => mget g.rs.sets u) hi.sets
  have hT : ∀ u, mget (g.rs.updateRules key (curOf H rules)).1.sets u =
      setsAfter (fun u => mget g.rs.sets u) (g.rs.updateRules key (curOf H rules)).2 u := fun u => congrFun hsets u
  exact {
    sup := k.suppress.trans hi.sup
    eps := fun nid => (k.eps _).trans (hi.eps nid)
    nets := fun name => (k.eps _).trans (hi.nets name)
    range := fun k' hk => hi.range k' (by rw [← k.eps k']; exact hk)
    parents := fun p => (k.parents p).trans (hi.parents p)
    sets := fun uid => (f5 uid).trans (by rw [k.rs]; exact congrArg _ (hT uid).symm)
    setsH := fun uid d hd => by
      rw [k.rs] at hd
      simp only [] at hd
      rw [hT uid] at hd
      rcases setsAfter_some _ _ uid d hd with h1 | h1
      · exact hi.setsH uid d h1
      · have := hpay uid d h1
        cases rules with
        | none => simp [curOf] at this
        | some r => exact mget_currentSets this
    setsDom := fun uid => by
      rw [k.rs]
      simp only []
      rw [hT uid]
      exact setsAfter_dom hspec.2 _ hi.setsDom uid
    nodup := by rw [k.rs]; exact updateRules_nodup g.rs key (curOf H rules) hi.nodup (mkeys_curOf_nodup H rules) }

/-- `XInv` reads `idx` and `rs` only, and the rule scanner's step keeps it (each member-index operation of the
dispatcher moves it along with the datastore: `xInv_step`) -/
theorem xInv_tower (N : Numbering) (H : IdFn) (s : Bool) (ds : DS) :
    Tower H (fun _ => False) (fun _ => True) (fun g => XInv N H s g ds) :=
  Tower.of_scan (fun hi h1 _ h3 _ _ => xInv_frame hi h3 h1) (fun key rules hi => xInv_scanRules hi key rules)
    (fun _ h _ => h.elim) (fun cs _ hi => xInv_frame hi (emit_idx _ cs) (emit_rs _ cs))

theorem xInv_ds {N : Numbering} {H : IdFn} {s : Bool} {g : Graph} {ds ds' : DS} (hi : XInv N H s g ds)
    (h1 : ds'.eps = ds.eps) (h2 : ds'.netsets = ds.netsets) (h3 : ds'.profLabels = ds.profLabels) : XInv N H s g ds' :=
  { hi with eps := by rw [h1]; exact hi.eps, nets := by rw [h2]; exact hi.nets, parents := by rw [h3]; exact hi.parents }

theorem xInv_idxOps {N : Numbering} {H : IdFn} {s : Bool} {g : Graph} {ds : DS} (hi : XInv N H s g ds) (u : Upd)
    (hu : N.updOk u) : XInv N H s (((idxOps u).map Act.idx).foldl (Graph.act H) g) (ds.apply u) := by
  -- an endpoint / network-set write under the index's key `key`: the two endpoint tables are given, the rest stays
  have ep : ∀ (op : C04.Op Str) (key : String) (v : Option (C04.Labels × List C04.Cidr × List C04.Port × List String)),
      C04.EpWritten key v g.idx (C04.step matchSel g.idx op) →
      (∀ nid, epsView (g.idxOp op).idx (epKeyStr (N.ek nid)) = (mget (ds.apply u).eps nid).map (fun x => epOf x.2.2)) →
      (∀ name, epsView (g.idxOp op).idx ("n:" ++ name) = (mget (ds.apply u).netsets name).map nsOf) →
      ((∃ nid, key = epKeyStr (N.ek nid)) ∨ ∃ name, key = "n:" ++ name) → (ds.apply u).profLabels = ds.profLabels →
      XInv N H s (g.idxOp op) (ds.apply u) := by
    intro op key v hw h1 h2 hkey hpl
    have f1 := idxOp_idx g op
    have hrs := xInv_frame hi (g' := { g.idxOp op with idx := g.idx }) rfl (idxOp_rs g op)
    exact { hrs with
      sup := by rw [f1]; exact hw.suppress.trans hi.sup
      eps := h1
      nets := h2
      range := fun k hk => by
        rw [f1, hw.epsView] at hk
        by_cases hkk : k = key
        · rw [hkk]; exact hkey
        · rw [if_neg hkk] at hk; exact hi.range k hk
      parents := fun p => by rw [f1, hpl, C04.parentLabels_congr hw.parents]; exact hi.parents p
      sets := fun u' => by rw [f1, idxOp_rs, setView_congr hw.cfg]; exact hi.sets u' }
  cases u with
  | endpoint nid key isLocal v =>
    obtain ⟨hk, _⟩ := hu
    subst hk
    have cell : ∀ (op : C04.Op Str) (w : Option (C04.Labels × List C04.Cidr × List C04.Port × List String)),
        C04.EpWritten (epKeyStr (N.ek nid)) w g.idx (C04.step matchSel g.idx op) → w.map ofData = v.map epOf →
        XInv N H s (g.idxOp op) (ds.apply (.endpoint nid (N.ek nid) isLocal v)) := by
      intro op w hw hwv
      have f1 := idxOp_idx g op
      refine ep op _ w hw (fun n => ?_) (fun name => ?_) (Or.inl ⟨nid, rfl⟩) rfl
      · rw [f1, hw.epsView, hwv]
        simp only [DS.apply]
        rw [mget_setOrDel]
        by_cases hn : n = nid
        · subst hn; simp only [if_true]; cases v <;> rfl
        · rw [if_neg hn, if_neg (fun e => hn (N.ekInj _ _ (epKeyStr_inj e)))]; exact hi.eps n
      · rw [f1, hw.epsView, if_neg (fun e => epKeyStr_ne_n _ _ e.symm)]; exact hi.nets name
    cases v with
    | none => exact cell _ none (C04.deleteEndpoint_written _ g.idx) rfl
    | some e =>
      exact cell _ _ (C04.updateEndpoint_written matchSel _ e.labels (C04.extractIPs e.nets) e.ports e.profiles g.idx) rfl
  | netset name v =>
    have cell : ∀ (op : C04.Op Str) (w : Option (C04.Labels × List C04.Cidr × List C04.Port × List String)),
        C04.EpWritten ("n:" ++ name) w g.idx (C04.step matchSel g.idx op) → w.map ofData = v.map nsOf →
        XInv N H s (g.idxOp op) (ds.apply (.netset name v)) := by
      intro op w hw hwv
      have f1 := idxOp_idx g op
      refine ep op _ w hw (fun n => ?_) (fun nm => ?_) (Or.inr ⟨name, rfl⟩) rfl
      · rw [f1, hw.epsView, if_neg (epKeyStr_ne_n _ _)]; exact hi.eps n
      · rw [f1, hw.epsView, hwv]
        simp only [DS.apply]
        rw [mget_setOrDel]
        by_cases hn : nm = name
        · subst hn; simp only [if_true]
        · rw [if_neg hn, if_neg (fun e => hn ((String.append_right_inj "n:").mp e))]; exact hi.nets nm
    cases v with
    | none => exact cell _ none (C04.deleteEndpoint_written _ g.idx) rfl
    | some n =>
      exact cell _ _ (C04.updateEndpoint_written matchSel _ n.labels (C04.extractNetSet n.nets) [] n.profiles g.idx) rfl
  | profLabels pid v =>
    have cell : ∀ op, C04.step matchSel g.idx op = C04.updateParentLabels matchSel pid (v.getD []) g.idx →
        XInv N H s (g.idxOp op) (ds.apply (.profLabels pid v)) := by
      intro op hop
      have f1 := (idxOp_idx g op).trans hop
      have hw := C04.updateParentLabels_written matchSel pid (v.getD []) g.idx
      have hrs := xInv_frame hi (g' := { g.idxOp op with idx := g.idx }) rfl (idxOp_rs g op)
      exact { hrs with
        sup := by rw [f1, hw.suppress]; exact hi.sup
        eps := fun n => by rw [f1, epsView_congr hw.eps]; exact hi.eps n
        nets := fun nm => by rw [f1, epsView_congr hw.eps]; exact hi.nets nm
        range := fun k hk => hi.range k (by rw [f1, epsView_congr hw.eps] at hk; exact hk)
        parents := fun p => by
          rw [f1, hw.par p]
          simp only [DS.apply]
          rw [mget_setOrDel]
          by_cases hp : p = pid
          · simp only [hp, if_true]
          · simp only [hp, if_false]; exact hi.parents p
        sets := fun u => by rw [f1, idxOp_rs, setView_congr hw.cfg]; exact hi.sets u }
    cases v with
    | none => exact cell _ rfl
    | some ls => exact cell _ rfl
  | _ => exact xInv_ds hi rfl rfl rfl

theorem xInv_step {N : Numbering} {H : IdFn} {s : Bool} {g : Graph} {ds : DS} (hi : XInv N H s g ds) (u : Upd)
    (hu : N.updOk u) : XInv N H s (g.step H u) (ds.apply u) := by
  rw [step_eq, prog, List.foldl_append, List.foldl_append]
  -- above the member index nothing moves; then its operation; then the pass-through call
  have h1 := acts_keep (P := fun g => XInv N H s g ds) (upper g u)
    (fun a ha g' h => (xInv_tower N H s ds).act h a (upper_isUpper g u a ha).ok) hi
  exact acts_keep (P := fun g => XInv N H s g (ds.apply u)) _ (fun a ha g' h => (xInv_tower N H s (ds.apply u)).act h a (by
    obtain ⟨c, _, rfl⟩ := List.mem_map.mp ha
    exact fun _ _ => trivial)) (xInv_idxOps h1 u hu)

theorem xInv_flush {N : Numbering} {H : IdFn} {s : Bool} {g : Graph} {ds : DS} (hi : XInv N H s g ds) :
    XInv N H s g.flush.1 ds := by
  rw [flush_eq]
  exact xInv_frame ((xInv_tower N H s ds).flushResolver (fun _ _ => trivial) hi) rfl rfl

theorem xInv_run {N : Numbering} {H : IdFn} {s : Bool} (h : List HStep) {g : Graph} {ds : DS}
    (hi : XInv N H s g ds) (hN : ∀ st ∈ h, N.stepOk st) : XInv N H s (run H g h).1 (dsRun ds h) :=
  run_induction (P := fun ds g => XInv N H s g ds) (fun u hu hi => xInv_step hi u hu) (fun hi => xInv_frame hi rfl rfl)
    xInv_flush h hN hi

theorem xInv_new (N : Numbering) (H : IdFn) (s : Bool) : XInv N H s (Graph.new s) {} where
  sup := rfl
  eps n := by simp [epsView, Graph.new, C04.Idx.new]
  nets n := by simp [epsView, Graph.new, C04.Idx.new]
  range k hk := by simp [epsView, Graph.new, C04.Idx.new] at hk
  parents p := by simp [C04.parentLabels, Graph.new, C04.Idx.new]
  sets u := by simp [setView, Graph.new, C04.Idx.new]
  setsH u d hd := by simp [Graph.new] at hd
  setsDom u := by simp [Graph.new, RuleScanner.inUse, RuleScanner.uidInUse]
  nodup := by simp [Graph.new]

end CalicoVerif.C01
