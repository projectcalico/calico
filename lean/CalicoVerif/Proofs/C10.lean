import CalicoVerif.Model.C10
import CalicoVerif.Proofs.NetfilterLemmas
/-! C10 proofs: what `sortAndDivide` builds (`Divided`: read off its definition; `TreeOK`: the form the dispatch
theorems are stated over, derived from it), dispatch through a prefix tree (`tree_dispatch`), that the
rendered chain names never collide (`escByte_inj`: byte escaping is injective; `pfx7` tells the name families apart),
and the tracking of a verdict map by `MapState` (`mapState_apply_mem`, `find_val_of_set_eq`). -/
namespace CalicoVerif.C10
open CalicoVerif.Netfilter

theorem bytesLe_iff (a b : Bytes) : bytesLe a b = true ↔ a ≤ b := by
  induction a generalizing b with
  | nil => simp [bytesLe]
  | cons x xs ih =>
    cases b with
    | nil => simp [bytesLe]
    | cons y ys => simp [bytesLe, List.cons_le_cons_iff, ih]

theorem bytesLe_total (a b : Bytes) : (bytesLe a b || bytesLe b a) = true := by
  rw [Bool.or_eq_true, bytesLe_iff, bytesLe_iff]; exact List.le_total a b

theorem bytesLe_trans (a b c : Bytes) : bytesLe a b = true → bytesLe b c = true → bytesLe a c = true := by
  simp only [bytesLe_iff]; exact List.le_trans

theorem bytesLe_antisymm (a b : Bytes) : bytesLe a b = true → bytesLe b a = true → a = b := by
  simp only [bytesLe_iff]; exact List.le_antisymm

theorem mem_dedupAdj_of_mem (last : Option Bytes) (l : List Bytes) (x : Bytes) :
    x ∈ dedupAdj last l → x ∈ l := by
  induction l generalizing last with
  | nil => simp [dedupAdj]
  | cons n ns ih =>
    simp only [dedupAdj]
    split
    · intro h; exact List.mem_cons_of_mem _ (ih _ h)
    · intro h
      rcases List.mem_cons.1 h with h | h
      · exact h ▸ List.mem_cons_self
      · exact List.mem_cons_of_mem _ (ih _ h)

theorem mem_of_mem_dedupAdj (last : Option Bytes) (l : List Bytes) (x : Bytes) :
    x ∈ l → some x ≠ last → x ∈ dedupAdj last l := by
  induction l generalizing last with
  | nil => simp
  | cons n ns ih =>
    intro h hl
    simp only [dedupAdj]
    split
    · rename_i hn
      rcases List.mem_cons.1 h with h | h
      · subst h; exact absurd hn hl
      · exact ih _ h hl
    · rcases List.mem_cons.1 h with h | h
      · subst h; exact List.mem_cons_self
      · by_cases hx : x = n
        · subst hx; exact List.mem_cons_self
        · exact List.mem_cons_of_mem _ (ih _ h (by simpa using hx))

theorem dedupAdj_nodup (l : List Bytes) (last : Option Bytes)
    (hs : List.Pairwise (fun a b => bytesLe a b = true) l)
    (hl : ∀ y, last = some y → ∀ a ∈ l, bytesLe y a = true) :
    (dedupAdj last l).Nodup ∧ ∀ y, last = some y → y ∉ dedupAdj last l := by
  induction l generalizing last with
  | nil => simp [dedupAdj]
  | cons n ns ih =>
    rw [List.pairwise_cons] at hs
    simp only [dedupAdj]
    split
    · rename_i hn
      exact ih last hs.2 (fun y hy a ha => hl y hy a (List.mem_cons_of_mem _ ha))
    · rename_i hn
      have h := ih (some n) hs.2 (fun y hy a ha => by cases hy; exact hs.1 a ha)
      refine ⟨List.nodup_cons.2 ⟨h.2 n rfl, h.1⟩, ?_⟩
      intro y hy hmem
      rcases List.mem_cons.1 hmem with h1 | h1
      · subst h1; exact hn hy.symm
      · have hyn : y ∈ ns := mem_dedupAdj_of_mem _ _ _ h1
        have h1 := hs.1 y hyn
        have h2 := hl y hy n List.mem_cons_self
        exact hn (by rw [hy, bytesLe_antisymm _ _ h1 h2])

theorem uniq_nodup (names : List Bytes) : (dedupAdj none (sortNames names)).Nodup :=
  (dedupAdj_nodup _ none (List.pairwise_mergeSort bytesLe_trans bytesLe_total names) (by simp)).1

theorem mem_uniq (names : List Bytes) (x : Bytes) :
    x ∈ dedupAdj none (sortNames names) ↔ x ∈ names := by
  constructor
  · intro h; exact List.mem_mergeSort.1 (mem_dedupAdj_of_mem _ _ _ h)
  · intro h; exact mem_of_mem_dedupAdj _ _ _ (List.mem_mergeSort.2 h) (by simp)

theorem commonPrefix2_prefix_left (a b : Bytes) : commonPrefix2 a b <+: a := by
  induction a generalizing b with
  | nil => simp [commonPrefix2]
  | cons x xs ih =>
    cases b with
    | nil => simp [commonPrefix2]
    | cons y ys =>
      simp only [commonPrefix2]
      split
      · exact List.cons_prefix_cons.2 ⟨rfl, ih ys⟩
      · exact List.nil_prefix

theorem commonPrefix2_prefix_right (a b : Bytes) : commonPrefix2 a b <+: b := by
  induction a generalizing b with
  | nil => simp [commonPrefix2]
  | cons x xs ih =>
    cases b with
    | nil => simp [commonPrefix2]
    | cons y ys =>
      simp only [commonPrefix2]
      split
      · rename_i h; subst h; exact List.cons_prefix_cons.2 ⟨rfl, ih ys⟩
      · exact List.nil_prefix

theorem foldl_commonPrefix2_prefix (s : Bytes) (ss : List Bytes) :
    ss.foldl commonPrefix2 s <+: s ∧ ∀ x ∈ ss, ss.foldl commonPrefix2 s <+: x := by
  induction ss generalizing s with
  | nil => simp
  | cons y ys ih =>
    simp only [List.foldl_cons]
    have h := ih (commonPrefix2 s y)
    refine ⟨h.1.trans (commonPrefix2_prefix_left _ _), ?_⟩
    intro x hx
    rcases List.mem_cons.1 hx with hx | hx
    · subst hx; exact h.1.trans (commonPrefix2_prefix_right _ _)
    · exact h.2 x hx

theorem commonPrefix_prefix (l : List Bytes) : ∀ x ∈ l, commonPrefix l <+: x := by
  cases l with
  | nil => simp
  | cons s ss =>
    intro x hx
    simp only [commonPrefix]
    rcases List.mem_cons.1 hx with hx | hx
    · subst hx; exact (foldl_commonPrefix2_prefix _ _).1
    · exact (foldl_commonPrefix2_prefix _ _).2 x hx

theorem mem_firstOccurrences (seen l : List Bytes) (x : Bytes) :
    x ∈ firstOccurrences seen l ↔ x ∈ l ∧ x ∉ seen := by
  induction l generalizing seen with
  | nil => simp [firstOccurrences]
  | cons y ys ih =>
    simp only [firstOccurrences]
    split
    · rename_i h
      have hy : y ∈ seen := by simpa using h
      rw [ih]
      constructor
      · rintro ⟨h1, h2⟩; exact ⟨List.mem_cons_of_mem _ h1, h2⟩
      · rintro ⟨h1, h2⟩
        rcases List.mem_cons.1 h1 with h1 | h1
        · subst h1; exact absurd hy h2
        · exact ⟨h1, h2⟩
    · rename_i h
      have hy : y ∉ seen := by simpa using h
      rw [List.mem_cons, ih]
      constructor
      · rintro (h1 | ⟨h1, h2⟩)
        · subst h1; exact ⟨List.mem_cons_self, hy⟩
        · exact ⟨List.mem_cons_of_mem _ h1, fun h3 => h2 (List.mem_cons_of_mem _ h3)⟩
      · rintro ⟨h1, h2⟩
        by_cases hxy : x = y
        · exact Or.inl hxy
        · rcases List.mem_cons.1 h1 with h1 | h1
          · exact absurd h1 hxy
          · refine Or.inr ⟨h1, ?_⟩
            intro h3
            rcases List.mem_cons.1 h3 with h3 | h3
            · exact hxy h3
            · exact h2 h3

structure TreeOK (names : List Bytes) (t : Tree) : Prop where
  mem : ∀ n, n ∈ names ↔ ∃ b ∈ t.buckets, n ∈ b.2
  key : ∀ b ∈ t.buckets, ∀ n ∈ b.2, prefixOf t.commonPrefix n = b.1
  nonempty : ∀ b ∈ t.buckets, b.2 ≠ []
  complete : ∀ b ∈ t.buckets, ∀ n ∈ names, prefixOf t.commonPrefix n = b.1 → n ∈ b.2
  cpPrefix : ∀ n ∈ names, t.commonPrefix <+: n
  cpSingle : ∀ b ∈ t.buckets, b.1 = t.commonPrefix → ∃ n, b.2 = [n]
  noEmpty : [] ∉ names

theorem prefixOf_eq_cp {cp n : Bytes} (hp : cp <+: n) (h : prefixOf cp n = cp) : n = cp := by
  unfold prefixOf at h
  split at h
  · rename_i hl
    have : (n.take (cp.length + 1)).length = cp.length := by rw [h]
    rw [List.length_take] at this
    omega
  · rename_i hl
    have := List.prefix_iff_eq_take.1 hp
    rw [this, List.take_of_length_le (by omega)]

theorem nodup_all_eq_singleton {l : List Bytes} {c : Bytes} (hn : l.Nodup) (hne : l ≠ [])
    (hall : ∀ x ∈ l, x = c) : l = [c] := by
  cases l with
  | nil => exact absurd rfl hne
  | cons a as =>
    have ha := hall a List.mem_cons_self
    subst ha
    cases as with
    | nil => rfl
    | cons b bs =>
      have hb := hall b (List.mem_cons_of_mem _ List.mem_cons_self)
      subst hb
      simp at hn

theorem mem_bucket (names : List Bytes) (cp p n : Bytes) :
    n ∈ (dedupAdj none (sortNames names)).filter (fun n => prefixOf cp n == p) ↔ n ∈ names ∧ prefixOf cp n = p := by
  rw [List.mem_filter, mem_uniq, beq_iff_eq]

theorem mem_bucketKeys (names : List Bytes) (cp p : Bytes) :
    p ∈ firstOccurrences [] ((dedupAdj none (sortNames names)).map (prefixOf cp)) ↔
      ∃ n ∈ names, prefixOf cp n = p := by
  simp only [mem_firstOccurrences, List.mem_map, mem_uniq, List.not_mem_nil, not_false_eq_true, and_true]

theorem firstOccurrences_nodup (seen l : List Bytes) : (firstOccurrences seen l).Nodup := by
  induction l generalizing seen with
  | nil => simp [firstOccurrences]
  | cons y ys ih =>
    simp only [firstOccurrences]
    split
    · exact ih seen
    · refine List.nodup_cons.2 ⟨?_, ih _⟩
      intro h
      have := (mem_firstOccurrences _ _ _).1 h
      exact this.2 List.mem_cons_self

/-- what `sortAndDivide` returns, read off its definition -/
structure Divided (names : List Bytes) (t : Tree) : Prop where
  noEmpty : [] ∉ names
  cp : t.commonPrefix = commonPrefix (sortNames names)
  covers : ∀ n ∈ names, ∃ b ∈ t.buckets, b.1 = prefixOf t.commonPrefix n
  keyOf : ∀ b ∈ t.buckets, ∃ n ∈ names, prefixOf t.commonPrefix n = b.1
  nodup : ∀ b ∈ t.buckets, b.2.Nodup
  bucket : ∀ b ∈ t.buckets, ∀ n, n ∈ b.2 ↔ n ∈ names ∧ prefixOf t.commonPrefix n = b.1
  keysNodup : (t.buckets.map (·.1)).Nodup

theorem sortAndDivide_some {names : List Bytes} {t : Tree} (h : sortAndDivide names = some t) :
    Divided names t := by
  unfold sortAndDivide at h
  simp only at h
  split at h
  · exact absurd h (by simp)
  · rename_i hany
    obtain rfl := Option.some.inj h
    refine ⟨fun hmem => hany (List.any_eq_true.2 ⟨[], List.mem_mergeSort.2 hmem, beq_self_eq_true _⟩), rfl,
      fun n hn => ⟨_, List.mem_map.2 ⟨_, (mem_bucketKeys _ _ _).2 ⟨n, hn, rfl⟩, rfl⟩, rfl⟩, ?_, ?_, ?_, ?_⟩
    · intro b hb'; obtain ⟨p, hp, rfl⟩ := List.mem_map.1 hb'; exact (mem_bucketKeys _ _ _).1 hp
    · intro b hb'; obtain ⟨p, -, rfl⟩ := List.mem_map.1 hb'; exact (uniq_nodup names).sublist List.filter_sublist
    · intro b hb' n; obtain ⟨p, -, rfl⟩ := List.mem_map.1 hb'; exact mem_bucket _ _ _ _
    · simp only [List.map_map, Function.comp_def, List.map_id']
      exact firstOccurrences_nodup _ _

theorem keys_nodup {names : List Bytes} {t : Tree} (h : sortAndDivide names = some t) :
    (t.buckets.map (·.1)).Nodup := (sortAndDivide_some h).keysNodup

theorem sortAndDivide_ok {names : List Bytes} {t : Tree} (h : sortAndDivide names = some t) :
    TreeOK names t := by
  have dv := sortAndDivide_some h
  have hcp : ∀ n ∈ names, t.commonPrefix <+: n := fun n hn =>
    dv.cp ▸ commonPrefix_prefix _ n (List.mem_mergeSort.2 hn)
  have hnonempty : ∀ b ∈ t.buckets, b.2 ≠ [] := fun b hb' hnil => by
    obtain ⟨n, hn, hk⟩ := dv.keyOf b hb'
    have := (dv.bucket b hb' n).2 ⟨hn, hk⟩
    rw [hnil] at this; cases this
  refine ⟨fun n => ⟨fun hn => ?_, fun ⟨b, hb', hn⟩ => ((dv.bucket b hb' n).1 hn).1⟩,
    fun b hb' n hn => ((dv.bucket b hb' n).1 hn).2, hnonempty,
    fun b hb' n hn hk => (dv.bucket b hb' n).2 ⟨hn, hk⟩, hcp, fun b hb' hk => ⟨t.commonPrefix, ?_⟩, dv.noEmpty⟩
  · obtain ⟨b, hb', hk⟩ := dv.covers n hn
    exact ⟨b, hb', (dv.bucket b hb' n).2 ⟨hn, hk.symm⟩⟩
  · -- a name whose key is the bare common prefix IS the common prefix
    exact nodup_all_eq_singleton (dv.nodup b hb') (hnonempty b hb') fun x hx =>
      have hx' := (dv.bucket b hb' x).1 hx
      prefixOf_eq_cp (hcp x hx'.1) (hx'.2.trans hk)

def ifaceOf (d : IfDir) (pkt : Packet) : Bytes :=
  match d with
  | .inp => pkt.inIface
  | .out => pkt.outIface

def gotoRule (d : IfDir) (pat : Bytes) (t : String) : Rule :=
  { clauses := [ifaceClause d pat], action := .goto t }

theorem endpointRule_eq (pfx : String) (d : IfDir) (n : Bytes) :
    endpointRule pfx d n = gotoRule d n (endpointChainName pfx n) := rfl

theorem runRules_gotoRule (env : Env) (call : String → Mark → Result) (pkt : Packet) (d : IfDir)
    (pat : Bytes) (t : String) (rs : List Rule) (mark : Mark) :
    runRules env call pkt (gotoRule d pat t :: rs) mark =
      if ifaceMatches env.dp pat (ifaceOf d pkt) then call t mark else runRules env call pkt rs mark := by
  have : (gotoRule d pat t).matches env pkt mark = ifaceMatches env.dp pat (ifaceOf d pkt) := by
    cases d <;> exact Bool.and_true _
  rw [runRules_cons_goto rfl, this]

theorem runRules_gotos (env : Env) (call : String → Mark → Result) (pkt : Packet) (d : IfDir)
    (mark : Mark) (tail : List Rule) (l : List (Bytes × String)) :
    runRules env call pkt (l.map (fun e => gotoRule d e.1 e.2) ++ tail) mark =
      match l.find? (fun e => ifaceMatches env.dp e.1 (ifaceOf d pkt)) with
      | some e => call e.2 mark
      | none => runRules env call pkt tail mark := by
  induction l with
  | nil => rfl
  | cons e es ih =>
    rw [List.map_cons, List.cons_append, runRules_gotoRule, List.find?_cons]
    cases ifaceMatches env.dp e.1 (ifaceOf d pkt)
    · exact ih
    · rfl

theorem ifaceMatches_exact {dp : Dataplane} {pat x : Bytes}
    (h : pat.getLast? ≠ some (wildcardByte dp)) : ifaceMatches dp pat x = (pat == x) := by
  unfold ifaceMatches
  split
  · rename_i b hb
    split
    · rename_i hw; subst hw; exact absurd hb h
    · rfl
  · rfl

theorem ifaceMatches_wild (dp : Dataplane) (p x : Bytes) :
    ifaceMatches dp (p ++ [wildcardByte dp]) x = p.isPrefixOf x := by
  unfold ifaceMatches
  simp

def rootPat (dp : Dataplane) (b : Bytes × List Bytes) : Bytes :=
  match b.2 with
  | [single] => single
  | _ => b.1 ++ [wildcardByte dp]

def rootTarget (chainName ifx epPfx : String) (cp : Bytes) (b : Bytes × List Bytes) : String :=
  match b.2 with
  | [single] => endpointChainName epPfx single
  | _ => childChainName chainName ifx cp b.1

theorem rootRule_eq (dp : Dataplane) (chainName ifx epPfx : String) (d : IfDir) (cp : Bytes)
    (b : Bytes × List Bytes) :
    rootRule dp chainName ifx epPfx d cp b =
      gotoRule d (rootPat dp b) (rootTarget chainName ifx epPfx cp b) := by
  obtain ⟨p, ns⟩ := b
  rcases ns with _ | ⟨a, _ | ⟨c, cs⟩⟩ <;> rfl

theorem prefixOf_prefix {cp x : Bytes} (h : cp <+: x) : prefixOf cp x <+: x := by
  unfold prefixOf
  split
  · exact List.take_prefix _ _
  · exact h

theorem key_shape {names : List Bytes} {t : Tree} (ok : TreeOK names t) {b : Bytes × List Bytes}
    (hb : b ∈ t.buckets) (hm : ∀ n, b.2 ≠ [n]) : ∃ byte, b.1 = t.commonPrefix ++ [byte] := by
  have hne : b.1 ≠ t.commonPrefix := fun h => by
    obtain ⟨n, hn⟩ := ok.cpSingle b hb h
    exact hm n hn
  obtain ⟨n, hn⟩ := List.exists_mem_of_ne_nil _ (ok.nonempty b hb)
  have hk := ok.key b hb n hn
  have hnn : n ∈ names := (ok.mem n).2 ⟨b, hb, hn⟩
  obtain ⟨rest, hrest⟩ := ok.cpPrefix n hnn
  unfold prefixOf at hk
  split at hk
  · rename_i hlen
    cases rest with
    | nil => simp at hrest; rw [← hrest] at hlen; simp at hlen
    | cons r rs =>
      refine ⟨r, ?_⟩
      rw [← hk, ← hrest]
      simp [List.take_append, List.take_of_length_le]
  · exact absurd hk.symm hne

theorem mem_bucket_of_prefix {names : List Bytes} {t : Tree} (ok : TreeOK names t)
    {b : Bytes × List Bytes} (hb : b ∈ t.buckets) (hmulti : ∀ n, b.2 ≠ [n]) {x : Bytes}
    (hx : x ∈ names) (hpre : b.1 <+: x) : x ∈ b.2 := by
  obtain ⟨byte, hkey⟩ := key_shape ok hb hmulti
  apply ok.complete b hb x hx
  have hl : b.1.length = t.commonPrefix.length + 1 := by rw [hkey, List.length_append]; rfl
  have hxl : b.1.length ≤ x.length := hpre.length_le
  rw [prefixOf, if_pos (by omega), ← hl]
  exact (List.prefix_iff_eq_take.1 hpre).symm

theorem runRules_endpointRules (env : Env) (call : String → Mark → Result) (pkt : Packet) (d : IfDir)
    (epPfx : String) (ns : List Bytes) (tail : List Rule) (mark : Mark)
    (hw : ∀ n ∈ ns, n.getLast? ≠ some (wildcardByte env.dp)) :
    runRules env call pkt (ns.map (endpointRule epPfx d) ++ tail) mark =
      if ifaceOf d pkt ∈ ns then call (endpointChainName epPfx (ifaceOf d pkt)) mark
      else runRules env call pkt tail mark := by
  induction ns with
  | nil => rfl
  | cons n ns ih =>
    rw [List.map_cons, List.cons_append, endpointRule_eq, runRules_gotoRule,
      ifaceMatches_exact (hw n List.mem_cons_self), ih fun m hm => hw m (List.mem_cons_of_mem _ hm)]
    by_cases h : n = ifaceOf d pkt
    · subst h; simp
    · simp [h, Ne.symm h]

/-- `c`: the root's or the children's call function, according to whether a child chain was passed through -/
theorem tree_dispatch (env : Env) (callRoot callChild : String → Mark → Result) (pkt : Packet)
    (d : IfDir) (mark : Mark) (names : List Bytes) (t : Tree) (chainName ifx epPfx : String)
    (endRules : List Rule) (ok : TreeOK names t)
    (hw : ∀ n ∈ names, n.getLast? ≠ some (wildcardByte env.dp))
    (hchild : ∀ b ∈ t.buckets, (∀ n, b.2 ≠ [n]) → ∀ m,
      callRoot (childChainName chainName ifx t.commonPrefix b.1) m =
        runRules env callChild pkt (b.2.map (endpointRule epPfx d) ++ endRules) m) :
    ∃ c, (c = callRoot ∨ c = callChild) ∧
      runRules env callRoot pkt
        (t.buckets.map (rootRule env.dp chainName ifx epPfx d t.commonPrefix) ++ endRules) mark =
      if ifaceOf d pkt ∈ names then c (endpointChainName epPfx (ifaceOf d pkt)) mark
      else runRules env c pkt endRules mark := by
  have hmap : t.buckets.map (rootRule env.dp chainName ifx epPfx d t.commonPrefix) =
      (t.buckets.map (fun b => (rootPat env.dp b, rootTarget chainName ifx epPfx t.commonPrefix b))).map
        (fun e => gotoRule d e.1 e.2) := by
    rw [List.map_map]; exact List.map_congr_left fun b _ => rootRule_eq ..
  have hsingle : ∀ b ∈ t.buckets, ∀ n, b.2 = [n] → n ∈ names := fun b hb n hn =>
    (ok.mem n).2 ⟨b, hb, by rw [hn]; exact List.mem_cons_self⟩
  rw [hmap, runRules_gotos]
  generalize hf : List.find? _ _ = r
  rcases r with _ | e <;> dsimp only
  · -- no pattern matches: the interface is not configured, since the bucket of a configured name matches it
    refine ⟨callRoot, Or.inl rfl, (if_neg fun hx => ?_).symm⟩
    obtain ⟨b, hb, hxb⟩ := (ok.mem _).1 hx
    have := List.find?_eq_none.1 hf _ (List.mem_map.2 ⟨b, hb, rfl⟩)
    simp only [rootPat] at this
    split at this
    · rename_i n hn
      rw [hn] at hxb
      rw [ifaceMatches_exact (hw n (hsingle b hb n hn)), List.mem_singleton.1 hxb] at this
      simp at this
    · rw [ifaceMatches_wild, List.isPrefixOf_iff_prefix.2
        (ok.key b hb _ hxb ▸ prefixOf_prefix (ok.cpPrefix _ hx))] at this
      exact this rfl
  · obtain ⟨b, hb, rfl⟩ := List.mem_map.1 (List.mem_of_find?_eq_some hf)
    have hfire := List.find?_some hf
    simp only [rootPat, rootTarget] at hfire ⊢
    split at hfire
    · -- an exact name
      rename_i n hn
      rw [ifaceMatches_exact (hw n (hsingle b hb n hn))] at hfire
      obtain rfl : n = ifaceOf d pkt := by simpa using hfire
      exact ⟨callRoot, Or.inl rfl, (if_pos (hsingle b hb _ hn)).symm⟩
    · -- a child chain: it holds every configured name with its prefix, as exact names
      rename_i hmulti
      have hmulti' : ∀ n, b.2 ≠ [n] := fun n hn => hmulti n hn
      rw [ifaceMatches_wild] at hfire
      refine ⟨callChild, Or.inr rfl, ?_⟩
      rw [hchild b hb hmulti', runRules_endpointRules env callChild pkt d epPfx b.2 endRules mark
        fun n hn => hw n ((ok.mem n).2 ⟨b, hb, hn⟩)]
      by_cases hx : ifaceOf d pkt ∈ names
      · rw [if_pos hx, if_pos (mem_bucket_of_prefix ok hb hmulti' hx (List.isPrefixOf_iff_prefix.1 hfire))]
      · rw [if_neg hx, if_neg fun h => hx ((ok.mem _).2 ⟨b, hb, h⟩)]

def unhex (c : Char) : Nat := if c.toNat < 58 then c.toNat - 48 else c.toNat - 87

def unescOne : List Char → Nat
  | [c] => c.toNat
  | [_, a, b] => unhex a * 16 + unhex b
  | _ => 0

theorem unesc_escByte : ∀ n : Fin 256, unescOne (escByte (UInt8.ofNat n.val)).toList = n.val := by
  decide +kernel

theorem escByte_inj (a b : UInt8) (h : escByte a = escByte b) : a = b := by
  have ha := unesc_escByte ⟨a.toNat, a.toNat_lt⟩
  have hb := unesc_escByte ⟨b.toNat, b.toNat_lt⟩
  simp only [UInt8.ofNat_toNat] at ha hb
  rw [h] at ha
  exact UInt8.toNat_inj.1 (ha.symm.trans hb)

theorem escBytes_single (b : UInt8) : escBytes [b] = escByte b := by
  simp [escBytes, String.join]

/-- first seven characters of a name: enough to tell the four chain-name families apart -/
def pfx7 (s : String) : List Char := s.toList.take 7

theorem pfx7_append (lit x : String) (h : 7 ≤ lit.toList.length) : pfx7 (lit ++ x) = lit.toList.take 7 := by
  simp [pfx7, String.toList_append, List.take_append_of_le_length h]

/-- At the empty infix, the only one `interfaceNameDispatchChains` passes. -/
theorem childChainName_form (cn : String) (cp : Bytes) (byte : UInt8) :
    childChainName cn "" cp (cp ++ [byte]) = cn ++ ("-" ++ escByte byte) := by
  simp [childChainName, escBytes_single, toString, String.append_assoc]

theorem childChain_some {cn ifx epPfx : String} {d : IfDir} {cp : Bytes} {endRules : List Rule}
    {b : Bytes × List Bytes} {c : Chain} (h : childChain cn ifx epPfx d cp endRules b = some c) :
    (∀ n, b.2 ≠ [n]) ∧
      c = { name := childChainName cn ifx cp b.1, rules := b.2.map (endpointRule epPfx d) ++ endRules } := by
  obtain ⟨p, ns⟩ := b
  rcases ns with _ | ⟨a, _ | ⟨a', as⟩⟩
  · exact ⟨nofun, (Option.some.inj h).symm⟩
  · cases h
  · exact ⟨nofun, (Option.some.inj h).symm⟩

theorem childChain_multi (cn ifx epPfx : String) (d : IfDir) (cp : Bytes) (endRules : List Rule)
    (b : Bytes × List Bytes) (hm : ∀ n, b.2 ≠ [n]) :
    childChain cn ifx epPfx d cp endRules b =
      some { name := childChainName cn ifx cp b.1, rules := b.2.map (endpointRule epPfx d) ++ endRules } := by
  obtain ⟨p, ns⟩ := b
  rcases ns with _ | ⟨a, _ | ⟨c, cs⟩⟩
  · rfl
  · exact absurd rfl (hm a)
  · rfl

theorem tree_child_names {names : List Bytes} {t : Tree} (hsd : sortAndDivide names = some t)
    (dp : Dataplane) (cn epPfx : String) (d : IfDir) (endRules : List Rule) :
    ((buildTree dp cn t epPfx d endRules "").1.map (·.name)).Nodup ∧
    ∀ c ∈ (buildTree dp cn t epPfx d endRules "").1, ∃ byte, c.name = cn ++ ("-" ++ escByte byte) := by
  have ok := sortAndDivide_ok hsd
  -- the name of a child chain is the root's name and the escaped byte that follows the common prefix
  have hform : ∀ b ∈ t.buckets, ∀ c, childChain cn "" epPfx d t.commonPrefix endRules b = some c →
      ∃ byte, b.1 = t.commonPrefix ++ [byte] ∧ c.name = cn ++ ("-" ++ escByte byte) := by
    intro b hb c hc
    obtain ⟨hm, rfl⟩ := childChain_some hc
    obtain ⟨x, hx⟩ := key_shape ok hb hm
    exact ⟨x, hx, by simp only [hx, childChainName_form]⟩
  simp only [buildTree]
  constructor
  · rw [List.nodup_iff_pairwise_ne, List.pairwise_map]
    have hp : List.Pairwise (fun b b' : Bytes × List Bytes => b.1 ≠ b'.1) t.buckets := by
      have hk := keys_nodup hsd
      rwa [List.nodup_iff_pairwise_ne, List.pairwise_map] at hk
    refine List.Pairwise.filterMap _ ?_ (List.Pairwise.and_mem.1 hp)
    intro b b' ⟨hb, hb', hne⟩ c hc c' hc' heq
    obtain ⟨x, hx, hcx⟩ := hform b hb c hc
    obtain ⟨y, hy, hcy⟩ := hform b' hb' c' hc'
    rw [hcx, hcy] at heq
    have h1 := congrArg String.toList heq
    simp only [String.toList_append, List.append_cancel_left_eq] at h1
    exact hne (by rw [hx, hy, escByte_inj x y (String.toList_inj.1 h1)])
  · intro c hc
    obtain ⟨b, hb, hcb⟩ := List.mem_filterMap.1 hc
    obtain ⟨x, _, hx⟩ := hform b hb c hcb
    exact ⟨x, hx⟩

theorem append_ne_self (a y : String) (h : y.toList ≠ []) : a ++ y ≠ a := by
  intro he
  have := congrArg String.toList he
  simp only [String.toList_append, List.append_right_eq_self] at this
  exact h this

theorem pfx7_epName (pfx : String) (n : Bytes) (h : 7 ≤ pfx.toList.length) :
    pfx7 (endpointChainName pfx n) = pfx.toList.take 7 := by
  unfold endpointChainName
  split <;> exact pfx7_append _ _ h

theorem ne_of_pfx7 {a b : String} (h : pfx7 a ≠ pfx7 b) : a ≠ b := fun he => h (by rw [he])

theorem tree_names {names : List Bytes} {t : Tree} (hsd : sortAndDivide names = some t)
    (dp : Dataplane) (cn epPfx : String) (d : IfDir) (endRules : List Rule) (h7 : 7 ≤ cn.toList.length) :
    (((buildTree dp cn t epPfx d endRules "").1 ++ [(buildTree dp cn t epPfx d endRules "").2]).map (·.name)).Nodup ∧
    ∀ x ∈ ((buildTree dp cn t epPfx d endRules "").1 ++ [(buildTree dp cn t epPfx d endRules "").2]).map (·.name),
      pfx7 x = cn.toList.take 7 := by
  obtain ⟨hnd, hform⟩ := tree_child_names hsd dp cn epPfx d endRules
  have hroot : (buildTree dp cn t epPfx d endRules "").2.name = cn := rfl
  constructor
  · rw [List.map_append, List.nodup_append]
    refine ⟨hnd, by simp, ?_⟩
    intro a ha b hb
    simp only [List.map_cons, List.map_nil, List.mem_singleton, hroot] at hb
    subst hb
    obtain ⟨c, hc, rfl⟩ := List.mem_map.1 ha
    obtain ⟨byte, hbyte⟩ := hform c hc
    rw [hbyte]
    exact append_ne_self _ _ (by simp [String.toList_append])
  · intro x hx
    rw [List.map_append, List.mem_append] at hx
    rcases hx with hx | hx
    · obtain ⟨c, hc, rfl⟩ := List.mem_map.1 hx
      obtain ⟨byte, hbyte⟩ := hform c hc
      rw [hbyte]
      exact pfx7_append _ _ h7
    · simp only [List.map_cons, List.map_nil, List.mem_singleton, hroot] at hx
      subst hx
      rfl

theorem two_trees_names {names : List Bytes} {t : Tree} (hsd : sortAndDivide names = some t)
    (dp : Dataplane) (cn1 cn2 pf1 pf2 : String) (e1 e2 : List Rule)
    (h1 : 7 ≤ cn1.toList.length) (h2 : 7 ≤ cn2.toList.length) (hne : cn1.toList.take 7 ≠ cn2.toList.take 7)
    {chains : List Chain}
    (hc : ((buildTree dp cn1 t pf1 .inp e1 "").1 ++ [(buildTree dp cn1 t pf1 .inp e1 "").2]) ++
      ((buildTree dp cn2 t pf2 .out e2 "").1 ++ [(buildTree dp cn2 t pf2 .out e2 "").2]) = chains) :
    (chains.map (·.name)).Nodup ∧
      ∀ x ∈ chains.map (·.name), pfx7 x = cn1.toList.take 7 ∨ pfx7 x = cn2.toList.take 7 := by
  obtain ⟨n1, f1⟩ := tree_names hsd dp cn1 pf1 .inp e1 h1
  obtain ⟨n2, f2⟩ := tree_names hsd dp cn2 pf2 .out e2 h2
  rw [← hc, List.map_append]
  constructor
  · rw [List.nodup_append]
    refine ⟨n1, n2, fun a ha b hb => ne_of_pfx7 ?_⟩
    rw [f1 a ha, f2 b hb]; exact hne
  · intro x hx
    rcases List.mem_append.1 hx with h | h
    · exact Or.inl (f1 x h)
    · exact Or.inr (f2 x h)

theorem lookup_endpoint_none {chains : List Chain} {p1 p2 : List Char}
    (hfam : ∀ x ∈ chains.map (·.name), pfx7 x = p1 ∨ pfx7 x = p2) (pfx : String) (h7 : 7 ≤ pfx.toList.length)
    (hp1 : pfx.toList.take 7 ≠ p1) (hp2 : pfx.toList.take 7 ≠ p2) (n : Bytes) :
    lookupChain chains (endpointChainName pfx n) = none := by
  refine lookupChain_none_of_names fun hmem => ?_
  rcases hfam _ hmem with h | h <;> rw [pfx7_epName pfx n h7] at h
  · exact hp1 h
  · exact hp2 h

theorem workloadDispatch_chains {dp : Dataplane} {reject : Bool} {names : List Bytes} {chains : List Chain}
    (hc : workloadDispatchChains dp reject names = some chains) :
    ∃ t, sortAndDivide names = some t ∧
      match dp with
      | .ipt =>
        ((buildTree .ipt chainFromWl t pfxFromWl .inp (unknownIfaceRules reject) "").1 ++
          [(buildTree .ipt chainFromWl t pfxFromWl .inp (unknownIfaceRules reject) "").2]) ++
        ((buildTree .ipt chainToWl t pfxToWl .out (unknownIfaceRules reject) "").1 ++
          [(buildTree .ipt chainToWl t pfxToWl .out (unknownIfaceRules reject) "").2]) = chains
      | .nft =>
        [buildVmap chainFromWl .inp (unknownIfaceRules reject)] ++
          [buildVmap chainToWl .out (unknownIfaceRules reject)] = chains := by
  unfold workloadDispatchChains interfaceNameDispatchChains at hc
  split at hc
  · exact absurd hc nofun
  · rename_i t hsd
    have hc := Option.some.inj hc
    refine ⟨t, hsd, ?_⟩
    cases dp
    · have hbs : ∀ (cn pf : String) (d : IfDir) (e : List Rule),
          buildSingle .ipt cn t pf d e "" = buildTree .ipt cn t pf d e "" := by
        intro cn pf d e; simp [buildSingle]
      simpa only [hbs, pfxFromWl, pfxToWl, ne_eq, String.reduceEq, not_false_eq_true, if_true] using hc
    · simpa only [buildSingle, pfxFromWl, pfxToWl, ne_eq, String.reduceEq, not_false_eq_true, if_true,
        true_and, or_true, true_or, and_self, List.nil_append] using hc

/-- **The rendered workload dispatch chain names never collide** (either dataplane): the decidable
side condition of the dispatch theorems holds for every list of interface names. -/
theorem chainNamesOK_iff {chains : List Chain} {ext : List String} :
    chainNamesOK chains ext = true ↔ (chains.map (·.name)).Nodup ∧ ∀ x ∈ ext, lookupChain chains x = none := by
  simp only [chainNamesOK, Bool.and_eq_true, decide_eq_true_eq, List.all_eq_true, Option.isNone_iff_eq_none]

theorem workload_names_ok (dp : Dataplane) (reject : Bool) (names : List Bytes) (chains : List Chain)
    (hc : workloadDispatchChains dp reject names = some chains) :
    chainNamesOK chains
      (names.map (endpointChainName pfxFromWl) ++ names.map (endpointChainName pfxToWl)) = true := by
  obtain ⟨t, hsd, hc⟩ := workloadDispatch_chains hc
  -- the names of the two families and their 7-character prefixes
  have key : (chains.map (·.name)).Nodup ∧
      ∀ x ∈ chains.map (·.name), pfx7 x = chainFromWl.toList.take 7 ∨ pfx7 x = chainToWl.toList.take 7 := by
    cases dp
    · exact two_trees_names hsd .ipt chainFromWl chainToWl _ _ _ _ (by simp [chainFromWl]) (by simp [chainToWl])
        (by simp [chainFromWl, chainToWl]) hc
    · have hn : chains.map (·.name) = [chainFromWl, chainToWl] := by rw [← hc]; rfl
      rw [hn]
      exact ⟨by decide, by decide⟩
  obtain ⟨hnd, hfam⟩ := key
  refine chainNamesOK_iff.2 ⟨hnd, ?_⟩
  simp only [List.mem_append, List.mem_map]
  rintro x (⟨n, _, rfl⟩ | ⟨n, _, rfl⟩)
  · exact lookup_endpoint_none hfam pfxFromWl (by simp [pfxFromWl]) (by simp [pfxFromWl, chainFromWl])
      (by simp [pfxFromWl, chainToWl]) n
  · exact lookup_endpoint_none hfam pfxToWl (by simp [pfxToWl]) (by simp [pfxToWl, chainFromWl])
      (by simp [pfxToWl, chainToWl]) n

/-- the `fromEnd` and `toEnd` rule lists inside `hostDispatchChains` at `applyOnForward = false` -/
def hostFromEnd (dflt : Bytes) : List Rule :=
  if ¬ dflt = [] then [{ action := .goto (endpointChainName "cali-fh-" dflt) }] else []
def hostToEnd (dp : Dataplane) (dflt : Bytes) (wlp : List Bytes) : List Rule :=
  (if ¬ dflt = [] then wlp.map (skipWorkloadRule dp) else []) ++
    if ¬ dflt = [] then [{ action := .goto (endpointChainName "cali-th-" dflt) }] else []

theorem hostDispatch_trees {dp : Dataplane} {names : List Bytes} {dflt : Bytes} {wlp : List Bytes} {chains : List Chain}
    (hc : hostDispatchChains dp names dflt wlp .both false = some chains) :
    ∃ t, sortAndDivide names = some t ∧
      ((buildTree dp "cali-from-host-endpoint" t "cali-fh-" .inp (hostFromEnd dflt) "").1 ++
        [(buildTree dp "cali-from-host-endpoint" t "cali-fh-" .inp (hostFromEnd dflt) "").2]) ++
      ((buildTree dp "cali-to-host-endpoint" t "cali-th-" .out (hostToEnd dp dflt wlp) "").1 ++
        [(buildTree dp "cali-to-host-endpoint" t "cali-th-" .out (hostToEnd dp dflt wlp) "").2]) = chains := by
  unfold hostDispatchChains at hc
  simp only [Bool.false_eq_true, not_false_eq_true, and_true, if_true] at hc
  unfold interfaceNameDispatchChains at hc
  split at hc
  · exact absurd hc nofun
  · rename_i t hsd
    have hc := Option.some.inj hc
    have hbs : ∀ (cn pf : String) (d : IfDir) (e : List Rule), pf ≠ pfxFromWl → pf ≠ pfxToWl →
        buildSingle dp cn t pf d e "" = buildTree dp cn t pf d e "" := by
      intro cn pf d e h1 h2; simp [buildSingle, h1, h2]
    rw [hbs _ "cali-fh-" _ _ (by decide) (by decide), hbs _ "cali-th-" _ _ (by decide) (by decide)] at hc
    simp only [ne_eq, String.reduceEq, not_false_eq_true, if_true] at hc
    exact ⟨t, hsd, hc⟩

/-- **The rendered host dispatch chain names never collide** (`HostDispatchChains(endpoints, default, false)`, either
dataplane). -/
theorem host_names_ok (dp : Dataplane) (names : List Bytes) (dflt : Bytes) (wlp : List Bytes) (chains : List Chain)
    (hc : hostDispatchChains dp names dflt wlp .both false = some chains) :
    chainNamesOK chains
      (names.map (endpointChainName "cali-fh-") ++ names.map (endpointChainName "cali-th-") ++
        [endpointChainName "cali-fh-" dflt, endpointChainName "cali-th-" dflt]) = true := by
  obtain ⟨t, hsd, hc⟩ := hostDispatch_trees hc
  obtain ⟨hnd, hfam⟩ := two_trees_names hsd dp "cali-from-host-endpoint" "cali-to-host-endpoint" _ _ _ _
    (by simp) (by simp) (by simp) hc
  refine chainNamesOK_iff.2 ⟨hnd, ?_⟩
  simp only [List.mem_append, List.mem_map, List.mem_cons, List.not_mem_nil, or_false]
  have hF := lookup_endpoint_none hfam "cali-fh-" (by simp) (by simp) (by simp)
  have hT := lookup_endpoint_none hfam "cali-th-" (by simp) (by simp) (by simp)
  rintro x ((⟨n, _, rfl⟩ | ⟨n, _, rfl⟩) | rfl | rfl)
  · exact hF n
  · exact hT n
  · exact hF dflt
  · exact hT dflt

theorem mapState_apply_mem (s : MapState) (m : List Member) (e : Member) :
    e ∈ ((s.addOrReplace m).apply).dataplane ↔ e ∈ m := by
  simp only [MapState.apply, MapState.addOrReplace, MapState.pendingDeletions, MapState.pendingAdds,
    List.mem_append, List.mem_filter, List.contains_eq_mem, Bool.not_eq_true', decide_eq_false_iff_not,
    not_and, Decidable.not_not]
  constructor
  · rintro (⟨h1, h2⟩ | ⟨h1, _⟩)
    · exact h2 h1
    · exact h1
  · intro h
    by_cases hd : e ∈ s.dataplane
    · exact Or.inl ⟨hd, fun _ => h⟩
    · exact Or.inr ⟨h, hd⟩

theorem find_val_of_set_eq (l1 l2 : List Member) (hset : ∀ e, e ∈ l1 ↔ e ∈ l2)
    (hfun : ∀ k v v', (k, v) ∈ l2 → (k, v') ∈ l2 → v = v') (key : Bytes) :
    (l1.find? fun kv => kv.1 == key).map (·.2) = (l2.find? fun kv => kv.1 == key).map (·.2) := by
  cases h1 : l1.find? fun kv => kv.1 == key with
  | none =>
    cases h2 : l2.find? fun kv => kv.1 == key with
    | none => rfl
    | some e =>
      exfalso
      have hm := List.mem_of_find?_eq_some h2
      have hk := List.find?_some h2
      have := List.find?_eq_none.1 h1 e ((hset e).2 hm)
      exact this hk
  | some e =>
    have hm := (hset e).1 (List.mem_of_find?_eq_some h1)
    have hk : e.1 = key := by simpa using List.find?_some h1
    cases h2 : l2.find? fun kv => kv.1 == key with
    | none =>
      exfalso
      have := List.find?_eq_none.1 h2 e hm
      exact this (by simpa using hk)
    | some e' =>
      have hm' := List.mem_of_find?_eq_some h2
      have hk' : e'.1 = key := by simpa using List.find?_some h2
      obtain ⟨k, v⟩ := e
      obtain ⟨k', v'⟩ := e'
      simp only at hk hk'
      subst hk; subst hk'
      simp only [Option.map_some]
      rw [hfun _ _ _ hm hm']

theorem dispatchMappings_functional (names : List Bytes) (pfx : String) :
    ∀ k v v', (k, v) ∈ (dedupAdj none (sortNames names)).map (fun n => (n, endpointChainName pfx n)) →
      (k, v') ∈ (dedupAdj none (sortNames names)).map (fun n => (n, endpointChainName pfx n)) → v = v' := by
  intro k v v' h1 h2
  obtain ⟨n1, _, e1⟩ := List.mem_map.1 h1
  obtain ⟨n2, _, e2⟩ := List.mem_map.1 h2
  cases e1; cases e2; rfl

theorem runRules_deny (env : Env) (call : String → Mark → Result) (pkt : Packet) (reject : Bool)
    (mark : Mark) :
    runRules env call pkt (unknownIfaceRules reject) mark =
      .verdict (if reject then .reject else .drop) mark := by
  exact (runRules_cons_verdict (by unfold denyAction; split <;> rfl)).trans (if_pos rfl)

theorem mem_two_trees {a b : List Chain × Chain} {chains : List Chain}
    (hc : (a.1 ++ [a.2]) ++ (b.1 ++ [b.2]) = chains) :
    (∀ c, c ∈ a.1 ∨ c = a.2 → c ∈ chains) ∧ (∀ c, c ∈ b.1 ∨ c = b.2 → c ∈ chains) := by
  subst hc
  refine ⟨fun c h => List.mem_append_left _ ?_, fun c h => List.mem_append_right _ ?_⟩ <;>
    rcases h with h | rfl
  · exact List.mem_append_left _ h
  · exact List.mem_append_right _ List.mem_cons_self
  · exact List.mem_append_left _ h
  · exact List.mem_append_right _ List.mem_cons_self

theorem find_assoc_map (ks : List Bytes) (f : Bytes → String) (key : Bytes) :
    ((ks.map fun n => (n, f n)).find? fun kv => kv.1 == key) =
      if key ∈ ks then some (key, f key) else none := by
  induction ks with
  | nil => simp
  | cons k ks ih =>
    simp only [List.map_cons, List.find?_cons]
    by_cases h : k = key
    · subst h; simp
    · rw [show (k == key) = false from by simpa using h, ih]
      simp [List.mem_cons, Ne.symm h]

theorem vmapEnv_from (names : List Bytes) (key : Bytes) :
    vmapEnv names chainFromWl key =
      if key ∈ names then some (.goto (endpointChainName pfxFromWl key)) else none := by
  simp only [vmapEnv, dispatchMappings, if_true]
  rw [find_assoc_map]
  simp only [mem_uniq]
  split <;> simp

theorem vmapEnv_to (names : List Bytes) (key : Bytes) :
    vmapEnv names chainToWl key =
      if key ∈ names then some (.goto (endpointChainName pfxToWl key)) else none := by
  simp only [vmapEnv, dispatchMappings, chainToWl, chainFromWl, String.reduceEq, if_false, if_true]
  rw [find_assoc_map]
  simp only [mem_uniq]
  split <;> simp

theorem runRules_skipWorkload (env : Env) (call : String → Mark → Result) (pkt : Packet) (wlp : List Bytes)
    (rest : List Rule) (mark : Mark) :
    runRules env call pkt
      (wlp.map (skipWorkloadRule env.dp) ++ rest) mark =
      if wlp.any (fun p => p.isPrefixOf pkt.outIface) then .returned mark
      else runRules env call pkt rest mark := by
  induction wlp with
  | nil => simp
  | cons p ps ih =>
    have hm : (skipWorkloadRule env.dp p).matches env pkt mark = p.isPrefixOf pkt.outIface :=
      (Bool.and_true _).trans (ifaceMatches_wild _ _ _)
    rw [List.map_cons, List.cons_append, runRules_cons_ret rfl, hm, ih, List.any_cons]
    cases p.isPrefixOf pkt.outIface <;> simp

theorem setWorkloads_env (s : MapsState) (names : List Bytes) :
    (s.setWorkloads names).env = mkEnv .nft names := by
  unfold MapsState.env mkEnv
  congr 1
  funext mapName key
  simp only [MapsState.setWorkloads, vmapEnv, dispatchMappings, MapState.verdict]
  by_cases h1 : mapName = chainFromWl
  · simp only [h1, if_true]
    have := find_val_of_set_eq _ _ (mapState_apply_mem s.fromWl _) (dispatchMappings_functional names pfxFromWl) key
    have h' := congrArg (Option.map Action.goto) this
    simpa [Option.map_map, Function.comp_def] using h'
  · by_cases h2 : mapName = chainToWl
    · simp only [h2, if_true]
      have hne : ¬ chainToWl = chainFromWl := by decide
      simp only [hne, if_false]
      have := find_val_of_set_eq _ _ (mapState_apply_mem s.toWl _) (dispatchMappings_functional names pfxToWl) key
      have h' := congrArg (Option.map Action.goto) this
      simpa [Option.map_map, Function.comp_def] using h'
    · simp [h1, h2]

end CalicoVerif.C10
