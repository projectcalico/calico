import CalicoVerif.Model.C17
import CalicoVerif.Proofs.Assoc
/-!
Conflict resolution (`foldl_pick_some`, `best_spec`) and the two passes of `applyUpdates`.  The passes never read the kernel:
they bring Felix's VIEW of its routes to the desired routes, and every write goes to the kernel and to the view
alike (`Wrote`), so a view that was exact stays exact; an exact view that equals the desired routes is convergence.
-/
namespace CalicoVerif.C17

namespace Map
variable {α : Type}
theorem get_erase (m : Map α) (k k' : String) :
    (m.erase k).get k' = if k' = k then none else m.get k' := Assoc.lookup_erase m k k'

theorem get_set (m : Map α) (k k' : String) (v : α) :
    (m.set k v).get k' = if k' = k then some v else m.get k' := Assoc.lookup_set m k k' v
end Map

open Assoc (put puts)

theorem has_keys {α : Type} (m : Map α) (n : String) : m.has n = true ↔ n ∈ m.keys :=
  Assoc.lookup_isSome_iff_mem_keys m n

theorem mem_sortS {x : String} {l : List String} : x ∈ sortS l ↔ x ∈ l := List.mem_mergeSort

theorem better_irrefl_of {a b : Want × Nat} (h : better a b = true) : better b a = false := by
  simp only [better, Bool.or_eq_true, Bool.and_eq_true, decide_eq_true_eq, beq_iff_eq] at h
  simp only [better, Bool.or_eq_false_iff, Bool.and_eq_false_iff, decide_eq_false_iff_not, beq_eq_false_iff_ne]
  omega

theorem not_better_of {x b c : Want × Nat} (hxb : better x b = false) (hcb : better c b = true) :
    better x c = false := by
  simp only [better, Bool.or_eq_true, Bool.and_eq_true, decide_eq_true_eq, beq_iff_eq] at hcb
  simp only [better, Bool.or_eq_false_iff, Bool.and_eq_false_iff, decide_eq_false_iff_not, beq_eq_false_iff_ne] at hxb ⊢
  omega

def pick (acc : Option (Want × Nat)) (c : Want × Nat) : Option (Want × Nat) :=
  match acc with
  | none => some c
  | some b => if better c b then some c else some b

theorem better_irrefl (a : Want × Nat) : better a a = false := by
  simp [better]

/-- `better` is the strict part of a total preorder, so a winner is only ever replaced by something that beats
everything the old winner withstood (last clause). -/
theorem foldl_pick_some : ∀ (cs : List (Want × Nat)) (b r : Want × Nat), cs.foldl pick (some b) = some r →
    (r = b ∨ r ∈ cs) ∧ better b r = false ∧ (∀ x ∈ cs, better x r = false) ∧
    ∀ y, better y b = false → better y r = false
  | [], b, r, h => by cases h; exact ⟨Or.inl rfl, better_irrefl _, fun _ hx => (nomatch hx), fun _ h => h⟩
  | c :: cs, b, r, h => by
    have hb' : ∃ b', pick (some b) c = some b' ∧ (b' = b ∨ b' = c) ∧ better b b' = false ∧ better c b' = false ∧
        ∀ y, better y b = false → better y b' = false := by
      show ∃ b', (if better c b = true then some c else some b) = some b' ∧ _
      cases hcb : better c b
      · exact ⟨b, rfl, Or.inl rfl, better_irrefl b, hcb, fun _ h => h⟩
      · exact ⟨c, rfl, Or.inr rfl, better_irrefl_of hcb, better_irrefl c, fun _ hy => not_better_of hy hcb⟩
    obtain ⟨b', e, hmem, hbb', hcb', hmono⟩ := hb'
    rw [List.foldl_cons, e] at h
    obtain ⟨h1, _, h3, h4⟩ := foldl_pick_some cs b' r h
    refine ⟨?_, h4 b hbb', fun x hx => (List.mem_cons.1 hx).elim (fun (e : x = c) => e ▸ h4 c hcb') (h3 x), fun y hy => h4 y (hmono y hy)⟩
    rcases h1 with rfl | h1
    · exact hmem.imp id fun (e : r = c) => e ▸ List.mem_cons_self
    · exact Or.inr (List.mem_cons_of_mem _ h1)

/-- The candidates `recalculateDesiredKernelRoute` considers for a destination. -/
def RT.cands (t : RT) (cidr : String) : List (Want × Nat) :=
  t.wants.filterMap (fun w =>
    if w.cidr == cidr then
      match t.n2i.get w.iface with
      | some idx => if t.i2s.get idx == some true then some (w, idx) else none
      | none => none
    else none)

theorem best_eq (t : RT) (cidr : String) : t.best cidr = (t.cands cidr).foldl pick none := rfl

theorem best_spec (t : RT) (cidr : String) (r : Want × Nat) (h : t.best cidr = some r) :
    r ∈ t.cands cidr ∧ ∀ x ∈ t.cands cidr, better x r = false := by
  rw [best_eq] at h
  cases hc : t.cands cidr with
  | nil => rw [hc] at h; cases h
  | cons c cs =>
    rw [hc] at h
    obtain ⟨h1, h2, h3, _⟩ := foldl_pick_some cs c r h
    exact ⟨h1.elim (fun (e : r = c) => e ▸ List.mem_cons_self) (List.mem_cons_of_mem _),
      fun x hx => (List.mem_cons.1 hx).elim (fun (e : x = c) => e ▸ h2) (h3 x)⟩

theorem best_isSome (t : RT) (cidr : String) (x : Want × Nat) (hx : x ∈ t.cands cidr) :
    (t.best cidr).isSome = true := by
  have key : ∀ (l : List (Want × Nat)) (b : Want × Nat), (l.foldl pick (some b)).isSome = true := by
    intro l
    induction l with
    | nil => intro b; rfl
    | cons c cs ih => intro b; rw [List.foldl_cons, pick]; split <;> exact ih _
  rw [best_eq]
  cases hc : t.cands cidr with
  | nil => rw [hc] at hx; cases hx
  | cons c cs => exact key cs c

theorem recalc_desired (t : RT) (c : String) : (t.recalc c).desired c = t.bestRoute c := by
  unfold RT.recalc RT.desired
  cases h : t.bestRoute c with
  | none => dsimp only; rw [Map.get_erase]; simp
  | some r => dsimp only; rw [Map.get_set]; simp

theorem bestRoute_none_of_unwanted (t : RT) (c : String) (h : ∀ x ∈ t.wants, x.cidr ≠ c) : t.bestRoute c = none := by
  have : t.cands c = [] := by
    unfold RT.cands
    apply List.filterMap_eq_nil_iff.2
    intro x hx
    have : (x.cidr == c) = false := by simp [h x hx]
    simp [this]
  unfold RT.bestRoute
  rw [best_eq, this]; rfl

theorem sAdd_ne_nil (s : List String) (x : String) : sAdd s x ≠ [] := by
  unfold sAdd; split
  · rename_i hm; intro e; rw [e] at hm; cases hm
  · exact List.append_ne_nil_of_right_ne_nil _ (List.cons_ne_nil _ _)

/-- The part of `attemptApply` after the resync: delete pass then update pass. -/
def W.passes (w : W) : W × Bool :=
  ((w.deletePass).1.updatePass.1, (w.deletePass).2 || (w.deletePass).1.updatePass.2)

def ViewExact (w : W) : Prop :=
  (∀ c r, w.t.dp.get c = some r → w.K.get c = some r) ∧
  (∀ c r, w.K.get c = some r → w.t.owns r = true → w.t.dp.get c = some r)

theorem desiredKeys_of_desired (t : RT) (c : String) (r : KRoute) (h : t.desired c = some r) : c ∈ t.desiredKeys := by
  unfold RT.desiredKeys
  rw [← has_keys]
  unfold RT.desired at h
  simp [Map.has, h]

def Wrote (ws : List (String × Option KRoute)) (a b : W) : Prop :=
  ∃ f rs, b = { a with f := f, K := puts a.K ws, t := { a.t with dp := puts a.t.dp ws, rescan := rs } }

theorem Wrote.refl (a : W) : Wrote [] a a := ⟨a.f, a.t.rescan, rfl⟩

theorem Wrote.trans {u v : List (String × Option KRoute)} {a b c : W} (h1 : Wrote u a b) (h2 : Wrote v b c) :
    Wrote (u ++ v) a c := by
  obtain ⟨f1, r1, rfl⟩ := h1
  obtain ⟨f2, r2, rfl⟩ := h2
  exact ⟨f2, r2, by rw [Assoc.puts_append, Assoc.puts_append]⟩

theorem Wrote.desired {ws} {a b : W} (h : Wrote ws a b) (c : String) : b.t.desired c = a.t.desired c := by
  obtain ⟨f, rs, rfl⟩ := h; rfl

theorem Wrote.owns {ws} {a b : W} (h : Wrote ws a b) (r : KRoute) : b.t.owns r = a.t.owns r := by
  obtain ⟨f, rs, rfl⟩ := h; rfl

theorem Wrote.flag {ws} {a b : W} (h : Wrote ws a b) : b.t.fullResync = a.t.fullResync := by
  obtain ⟨f, rs, rfl⟩ := h; rfl

theorem Wrote.nodup {ws} {a b : W} (h : Wrote ws a b) (hn : a.K.keys.Nodup) : b.K.keys.Nodup := by
  obtain ⟨f, rs, rfl⟩ := h; exact Assoc.nodup_keys_puts ws a.K hn

theorem Wrote.viewExact {ws} {a b : W} (h : Wrote ws a b) (hv : ViewExact a) : ViewExact b := by
  obtain ⟨f, rs, rfl⟩ := h
  refine ⟨fun c r => ?_, fun c r hk ho => ?_⟩
  · exact Assoc.lookup_puts_rel (fun v k => v = some r → k = some r) (fun _ h => h) c ws a.t.dp a.K (hv.1 c r)
  · exact Assoc.lookup_puts_rel (fun k v => k = some r → v = some r) (fun _ h => h) c ws a.K a.t.dp
      (fun hk => hv.2 c r hk ho) hk

theorem delStep_wrote (acc : W × Bool) (k : String) :
    ∃ u, Wrote u acc.1 (W.delStep acc k).1 ∧ (∀ p ∈ u, p = (k, none)) ∧
      ((W.delStep acc k).2 = false → acc.2 = false ∧ (k, none) ∈ u) := by
  unfold W.delStep
  split
  · exact ⟨[], ⟨_, _, rfl⟩, fun _ h => (nomatch h), fun h => (nomatch h)⟩
  · exact ⟨[(k, none)], ⟨_, _, rfl⟩, fun _ h => List.mem_singleton.1 h, fun h => ⟨h, List.mem_singleton.2 rfl⟩⟩

theorem delFold_wrote : ∀ (L : List String) (acc : W × Bool),
    ∃ ws, Wrote ws acc.1 (L.foldl W.delStep acc).1 ∧ (∀ p ∈ ws, p.1 ∈ L ∧ p.2 = none) ∧
      ((L.foldl W.delStep acc).2 = false → acc.2 = false ∧ ∀ k ∈ L, (k, none) ∈ ws)
  | [], acc => ⟨[], Wrote.refl _, fun _ h => (nomatch h), fun h => ⟨h, fun _ h => (nomatch h)⟩⟩
  | k :: L, acc => by
    obtain ⟨ws, hw, hsub, hall⟩ := delFold_wrote L (W.delStep acc k)
    obtain ⟨u, hu, husub, huall⟩ := delStep_wrote acc k
    refine ⟨u ++ ws, hu.trans hw, fun p hp => ?_, fun hok => ?_⟩
    · rcases List.mem_append.1 hp with hp | hp
      · rw [husub p hp]; exact ⟨List.mem_cons_self, rfl⟩
      · exact ⟨List.mem_cons_of_mem _ (hsub p hp).1, (hsub p hp).2⟩
    · obtain ⟨h1, h2⟩ := hall hok
      obtain ⟨h3, h4⟩ := huall h1
      exact ⟨h3, fun x hx => List.mem_append.2 ((List.mem_cons.1 hx).elim (fun e => Or.inl (e ▸ h4)) fun h => Or.inr (h2 x h))⟩

theorem updStep_wrote (acc : W × Bool) (k : String) :
    ∃ u, Wrote u acc.1 (W.updStep acc k).1 ∧ (∀ p ∈ u, p = (k, acc.1.t.desired k) ∧ p.2 ≠ none) ∧
      ((W.updStep acc k).2 = false → (W.updStep acc k).1.t.rescan = [] →
        acc.2 = false ∧ acc.1.t.rescan = [] ∧ (acc.1.t.desired k ≠ none → (k, acc.1.t.desired k) ∈ u)) := by
  have failed : ∀ x : W × Bool, (∃ f rs, x.1 = { acc.1 with f := f, t := { acc.1.t with rescan := rs } }) →
      (x.2 = false → x.1.t.rescan = [] → False) →
      ∃ u, Wrote u acc.1 x.1 ∧ (∀ p ∈ u, p = (k, acc.1.t.desired k) ∧ p.2 ≠ none) ∧
        (x.2 = false → x.1.t.rescan = [] →
          acc.2 = false ∧ acc.1.t.rescan = [] ∧ (acc.1.t.desired k ≠ none → (k, acc.1.t.desired k) ∈ u)) :=
    fun x ⟨f, rs, e⟩ h => ⟨[], ⟨f, rs, e⟩, fun _ h => (nomatch h), fun h1 h2 => (h h1 h2).elim⟩
  unfold W.updStep
  split
  · rename_i hd
    exact ⟨[], Wrote.refl _, fun _ h => (nomatch h), fun h hr => ⟨h, hr, fun hne => absurd hd hne⟩⟩
  · rename_i r hd
    split
    · dsimp only
      split
      · exact failed _ ⟨_, _, rfl⟩ fun h => nomatch h
      · split
        · split
          · exact failed _ ⟨_, _, rfl⟩ fun h => nomatch h
          · exact failed _ ⟨_, _, rfl⟩ fun _ h => sAdd_ne_nil _ _ h
        · exact failed _ ⟨_, _, rfl⟩ fun _ h => sAdd_ne_nil _ _ h
    · rw [hd]
      exact ⟨[(k, some r)], ⟨_, _, rfl⟩, fun _ h => ⟨List.mem_singleton.1 h, by rw [List.mem_singleton.1 h]; exact Option.some_ne_none r⟩,
        fun h hr => ⟨h, hr, fun _ => List.mem_singleton.2 rfl⟩⟩

theorem updFold_wrote : ∀ (L : List String) (acc : W × Bool),
    ∃ ws, Wrote ws acc.1 (L.foldl W.updStep acc).1 ∧ (∀ p ∈ ws, p.2 = acc.1.t.desired p.1 ∧ p.2 ≠ none) ∧
      ((L.foldl W.updStep acc).2 = false → (L.foldl W.updStep acc).1.t.rescan = [] →
        acc.2 = false ∧ acc.1.t.rescan = [] ∧ ∀ k ∈ L, acc.1.t.desired k ≠ none → (k, acc.1.t.desired k) ∈ ws)
  | [], acc => ⟨[], Wrote.refl _, fun _ h => (nomatch h), fun h hr => ⟨h, hr, fun _ h => (nomatch h)⟩⟩
  | k :: L, acc => by
    obtain ⟨ws, hw, hsub, hall⟩ := updFold_wrote L (W.updStep acc k)
    obtain ⟨u, hu, husub, huall⟩ := updStep_wrote acc k
    have hdes : ∀ c, (W.updStep acc k).1.t.desired c = acc.1.t.desired c := hu.desired
    refine ⟨u ++ ws, hu.trans hw, fun p hp => ?_, fun hok hrs => ?_⟩
    · rcases List.mem_append.1 hp with hp | hp
      · obtain ⟨e, hne⟩ := husub p hp
        exact ⟨by rw [e], hne⟩
      · exact hdes p.1 ▸ hsub p hp
    · obtain ⟨h1, h1r, h2⟩ := hall hok hrs
      obtain ⟨h3, h3r, h4⟩ := huall h1 h1r
      refine ⟨h3, h3r, fun x hx hne => List.mem_append.2 ?_⟩
      rcases List.mem_cons.1 hx with rfl | hx
      · exact Or.inl (h4 hne)
      · exact Or.inr (hdes x ▸ h2 x hx (hdes x ▸ hne))

theorem deletePass_wrote (w : W) : ∃ ws, Wrote ws w w.deletePass.1 ∧
    (∀ p ∈ ws, p.2 = none ∧ w.t.dp.has p.1 = true ∧ w.t.desired p.1 = none) ∧
    (w.deletePass.2 = false → ∀ c, w.t.dp.has c = true → w.t.desired c = none → (c, none) ∈ ws) := by
  have hmem : ∀ c, c ∈ sortS ((w.t.dp.keys.filter (fun k => (w.t.desired k).isNone)).eraseDups) ↔
      w.t.dp.has c = true ∧ w.t.desired c = none := fun c => by
    rw [mem_sortS, List.mem_eraseDups, List.mem_filter, ← has_keys, Option.isNone_iff_eq_none]
  obtain ⟨u, hu, husub, huall⟩ := delFold_wrote _ (w, false)
  exact ⟨u, hu, fun p hp => ⟨(husub p hp).2, (hmem _).1 (husub p hp).1⟩,
    fun hok c h1 h2 => (huall hok).2 c ((hmem c).2 ⟨h1, h2⟩)⟩

theorem updatePass_wrote (w : W) : ∃ ws, Wrote ws w w.updatePass.1 ∧
    (∀ p ∈ ws, p.2 = w.t.desired p.1 ∧ p.2 ≠ none) ∧
    (w.updatePass.2 = false → w.updatePass.1.t.rescan = [] →
      ∀ c r, w.t.desired c = some r → w.t.dp.get c ≠ some r → (c, some r) ∈ ws) := by
  obtain ⟨u, hu, husub, huall⟩ := updFold_wrote _ (w, false)
  refine ⟨u, hu, husub, fun hok hrs c r hd hne => ?_⟩
  have := (huall hok hrs).2.2 c (mem_sortS.2 (List.mem_filter.2 ⟨desiredKeys_of_desired _ c r hd, ?_⟩))
    (by rw [hd]; exact Option.some_ne_none r)
  · rwa [hd] at this
  · rw [hd]; exact bne_iff_ne.2 (Ne.symm hne)

theorem passes_wrote (w : W) : ∃ ws, Wrote ws w w.passes.1 ∧
    (∀ p ∈ ws, (p.2 = none ∧ w.t.desired p.1 = none ∧ w.t.dp.has p.1 = true) ∨ (p.2 = w.t.desired p.1 ∧ p.2 ≠ none)) ∧
    (w.passes.2 = false → w.passes.1.t.rescan = [] → ∀ c, w.passes.1.t.dp.get c = w.t.desired c) := by
  obtain ⟨u, hu, husub, huall⟩ := deletePass_wrote w
  obtain ⟨v, hv, hvsub, hvall⟩ := updatePass_wrote w.deletePass.1
  have hdes : ∀ c, w.deletePass.1.t.desired c = w.t.desired c := hu.desired
  have hmay : ∀ p ∈ u ++ v, (p.2 = none ∧ w.t.desired p.1 = none ∧ w.t.dp.has p.1 = true) ∨
      (p.2 = w.t.desired p.1 ∧ p.2 ≠ none) := fun p hp => by
    rcases List.mem_append.1 hp with hp | hp
    · exact Or.inl ⟨(husub p hp).1, (husub p hp).2.2, (husub p hp).2.1⟩
    · exact Or.inr (hdes p.1 ▸ hvsub p hp)
  refine ⟨u ++ v, hu.trans hv, hmay, fun hok hrs c => ?_⟩
  obtain ⟨hok1, hok2⟩ := Bool.or_eq_false_iff.1 hok
  obtain ⟨f, rs, e⟩ := hu.trans hv
  rw [show w.passes.1 = _ from e]
  -- every write to `c` writes its desired route (a deletion is of an undesired key)
  refine Assoc.lookup_puts_eq c _ _ _ (fun p hp hpc => ?_) fun hnone => ?_
  · rcases hmay p hp with ⟨h1, h2, _⟩ | ⟨h1, _⟩
    · rw [h1, ← hpc, h2]
    · rw [h1, hpc]
  · -- never written: not a stale key of the view, and not a desired key that differs from the view
    show w.t.dp.get c = _
    have hdp1 : w.deletePass.1.t.dp.get c = w.t.dp.get c := by
      obtain ⟨f1, rs1, e1⟩ := hu
      rw [e1]
      exact Assoc.lookup_puts_of_not_mem c u _ fun p hp hpc => hnone p (List.mem_append_left _ hp) hpc
    cases hd : w.t.desired c with
    | none =>
      cases hg : w.t.dp.get c with
      | none => rfl
      | some r => exact absurd rfl (hnone _ (List.mem_append_left _ (huall hok1 c (by rw [Map.has, hg]; rfl) hd)))
    | some r =>
      refine Decidable.byContradiction fun hne => ?_
      exact hnone _ (List.mem_append_right _ (hvall hok2 hrs c r ((hdes c).trans hd) (hdp1 ▸ hne))) rfl

theorem passes_desired (w : W) (c : String) : w.passes.1.t.desired c = w.t.desired c :=
  let ⟨_, h, _⟩ := passes_wrote w
  h.desired c

theorem passes_owns (w : W) (r : KRoute) : w.passes.1.t.owns r = w.t.owns r :=
  let ⟨_, h, _⟩ := passes_wrote w
  h.owns r

theorem passes_flag (w : W) : w.passes.1.t.fullResync = w.t.fullResync :=
  let ⟨_, h, _⟩ := passes_wrote w
  h.flag

theorem passes_nodup (w : W) (hn : w.K.keys.Nodup) : w.passes.1.K.keys.Nodup :=
  let ⟨_, h, _⟩ := passes_wrote w
  h.nodup hn

theorem passes_view (w : W) (hv : ViewExact w) : ViewExact w.passes.1 :=
  let ⟨_, h, _⟩ := passes_wrote w
  h.viewExact hv

theorem passes_other (w : W) (c : String) (hd : w.t.desired c = none) (hv : w.t.dp.get c = none) :
    w.passes.1.K.get c = w.K.get c ∧ w.passes.1.t.dp.get c = none := by
  obtain ⟨ws, ⟨f, rs, e⟩, hmay, -⟩ := passes_wrote w
  have hc : ∀ p ∈ ws, p.1 ≠ c := fun p hp hpc => by
    rcases hmay p hp with ⟨_, _, h⟩ | ⟨h1, h2⟩
    · rw [hpc, Map.has, hv] at h; cases h
    · rw [hpc, hd] at h1; exact h2 h1
  rw [e]
  exact ⟨Assoc.lookup_puts_of_not_mem c ws _ hc, (Assoc.lookup_puts_of_not_mem c ws _ hc).trans hv⟩

def Converged (w : W) : Prop :=
  (∀ c r, w.t.desired c = some r → w.K.get c = some r) ∧
  (∀ c r, w.K.get c = some r → w.t.owns r = true → w.t.desired c = some r)

theorem converged_of_view {w : W} (hv : ViewExact w) (h : ∀ c, w.t.dp.get c = w.t.desired c) : Converged w :=
  ⟨fun c r hd => hv.1 c r ((h c).trans hd), fun c r hk ho => (h c).symm.trans (hv.2 c r hk ho)⟩

theorem passes_converged (w : W) (hv : ViewExact w) (hok : w.passes.2 = false) (hrs : w.passes.1.t.rescan = []) :
    Converged w.passes.1 :=
  let ⟨_, hw, _, hall⟩ := passes_wrote w
  converged_of_view (hw.viewExact hv) fun c => (hall hok hrs c).trans (hw.desired c).symm

end CalicoVerif.C17
