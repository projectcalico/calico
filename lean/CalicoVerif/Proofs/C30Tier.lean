import CalicoVerif.Proofs.C30Rule
import CalicoVerif.Proofs.C30Flat
/-! C30: from one rule to rule lists, policy sets and the tier GetPolicySetRules builds (`genTier`); a generated
tier is one the flattener accepts (`tierOK_generated`, `total_generated`) and reads as the tier's verdict
(`tier_first`). -/
namespace CalicoVerif.C30

-- keeps `rfl` and the unifier from comparing terms by running the string tables
attribute [local irreducible] protocolNameToNumber actionOf

theorem firstAction_hr (s : IPSets) (hs : s.wf) (hipp : s.ipportOK) (r : Rule) (inbound : Bool)
    (hsup : r.supportedIn inbound) (n : Nat) (hn : 0 < n) (pid : String) (p : Pkt) :
    firstAction (hr s pid r inbound n) p = if r.matches s p then some (ruleAction r) else none := by
  rw [firstAction_const _ _ (fun h hh => (hr_fields s pid r inbound n h hh).1),
    hr_any s hs hipp r inbound hsup n hn]

theorem protoRules_eq (s : IPSets) (pid : String) (rs : List Rule) (inbound : Bool) (n : Nat) :
    protoRulesToHnsRules s pid rs inbound n = rs.flatMap (fun r => hr s pid r inbound n) := rfl

theorem firstAction_rules (s : IPSets) (hs : s.wf) (hipp : s.ipportOK) (inbound : Bool) (n : Nat) (hn : 0 < n)
    (pid : String) (p : Pkt) (rs : List Rule) (hsup : ∀ r ∈ rs, r.supportedIn inbound) :
    firstAction (rs.flatMap (fun r => hr s pid r inbound n)) p = (rs.find? (·.matches s p)).map ruleAction := by
  induction rs with
  | nil => rfl
  | cons r rest ih =>
    rw [List.flatMap_cons, firstAction_append, firstAction_hr s hs hipp r inbound (hsup r List.mem_cons_self) n hn,
      ih (fun x hx => hsup x (List.mem_cons_of_mem _ hx)), List.find?_cons]
    cases r.matches s p <;> rfl

def rulesOf (d : Bool) (ps : PolicySet) : List Rule := if d then ps.inRules else ps.outRules

structure PolicySet.supported (ps : PolicySet) : Prop where
  inb : ∀ r ∈ ps.inRules, r.supportedIn true
  outb : ∀ r ∈ ps.outRules, r.supportedIn false

theorem PolicySet.supported.rulesOf {ps : PolicySet} (h : ps.supported) (d : Bool) :
    ∀ r ∈ rulesOf d ps, r.supportedIn d := by
  cases d
  · exact h.outb
  · exact h.inb

theorem members_filter (s : IPSets) (n : Nat) (id : String) (ps : PolicySet) (d : Bool) :
    (ps.members s id n).filter (fun m => m.inbound == d) = (rulesOf d ps).flatMap (fun r => hr s id r d n) := by
  have hdir : ∀ (d' : Bool) (rs : List Rule), ∀ h ∈ rs.flatMap (fun r => hr s id r d' n), h.inbound = d' := by
    intro d' rs h hh
    obtain ⟨r, _, hmem⟩ := List.mem_flatMap.1 hh
    exact (hr_fields s id r d' n h hmem).2
  unfold PolicySet.members
  rw [List.filter_append, protoRules_eq, protoRules_eq]
  cases d
  · rw [List.filter_eq_nil_iff.2 fun x hx => by rw [hdir true _ x hx]; exact Bool.noConfusion,
      List.filter_eq_self.2 fun x hx => by rw [hdir false _ x hx]; rfl]
    rfl
  · rw [List.filter_eq_self.2 fun x hx => by rw [hdir true _ x hx]; rfl,
      List.filter_eq_nil_iff.2 fun x hx => by rw [hdir false _ x hx]; exact Bool.noConfusion]
    exact List.append_nil _

theorem firstAction_gather (s : IPSets) (hs : s.wf) (hipp : s.ipportOK) (n : Nat) (hn : 0 < n) (d : Bool) (p : Pkt)
    (sets : List (String × PolicySet)) (hsup : ∀ x ∈ sets, x.2.supported) :
    firstAction (gatherMembers d (sets.map fun x => some (x.2.members s x.1 n))) p =
      (((sets.map (·.2)).flatMap (rulesOf d)).find? (·.matches s p)).map ruleAction := by
  induction sets with
  | nil => rfl
  | cons x rest ih =>
    simp only [List.map_cons, gatherMembers, List.flatMap_cons]
    rw [firstAction_append, members_filter s n x.1 x.2 d, List.find?_append,
      ih (fun y hy => hsup y (List.mem_cons_of_mem _ hy)),
      firstAction_rules s hs hipp d n hn x.1 p _ ((hsup x List.mem_cons_self).rulesOf d)]
    cases List.find? (fun r => r.matches s p) (rulesOf d x.2) <;> rfl

theorem tierVerdict_eq (s : IPSets) (sets : List PolicySet) (d eot : Bool) (p : Pkt) :
    tierVerdict s sets d eot p =
      (((sets.flatMap (rulesOf d)).find? (·.matches s p)).map ruleAction).getD (if eot then .block else .pass) := by
  unfold tierVerdict rulesOf
  dsimp only
  cases List.find? (fun r => r.matches s p) (List.flatMap (fun ps => if d = true then ps.inRules else ps.outRules) sets) <;> rfl

theorem gather_ruleOK (s : IPSets) (hs : s.wf) (hv : s.ipportV4) (n : Nat) (hn : 0 < n) (d : Bool)
    (sets : List (String × PolicySet)) :
    ∀ h ∈ gatherMembers d (sets.map fun x => some (x.2.members s x.1 n)), RuleOK d h := by
  induction sets with
  | nil => exact fun h hh => absurd hh List.not_mem_nil
  | cons x rest ih =>
    intro h hh
    rw [List.map_cons, gatherMembers, members_filter s n] at hh
    rcases List.mem_append.1 hh with hh | hh
    · obtain ⟨r, _, hm⟩ := List.mem_flatMap.1 hh
      exact hr_ruleOK s hs hv r d n hn x.1 h hm
    · exact ih h hh

/-- A tier as policysets describes it: the policy sets with their ids, and whether the tier ends in a drop. -/
abbrev TierSpec := List (String × PolicySet) × Bool

def genTier (s : IPSets) (n : Nat) (d : Bool) (t : TierSpec) : List HRule :=
  getPolicySetRules (t.1.map fun x => some (x.2.members s x.1 n)) d t.2

theorem tierOK_generated (s : IPSets) (hs : s.wf) (hv : s.ipportV4) (n : Nat) (hn : 0 < n) (d : Bool) (t : TierSpec) :
    TierOK d (genTier s n d t) := by
  intro h hh
  unfold genTier getPolicySetRules at hh
  rcases List.mem_append.1 hh with hh | hh
  · obtain ⟨m, hm, he⟩ := bump_mem _ _ _ h hh
    obtain ⟨hd, hl, hrem⟩ := gather_ruleOK s hs hv n hn d t.1 m hm
    rw [he]
    exact ⟨hd, hl, hrem⟩
  · obtain rfl := List.mem_singleton.1 hh
    exact ⟨rfl, fun _ ha => absurd ha List.not_mem_nil, fun _ ha => absurd ha List.not_mem_nil⟩

theorem tier_first (s : IPSets) (hs : s.wf) (hipp : s.ipportOK) (n : Nat) (hn : 0 < n) (d : Bool) (p : Pkt)
    (t : TierSpec) (hsup : ∀ x ∈ t.1, x.2.supported) :
    firstAction (genTier s n d t) p = some (tierVerdict s (t.1.map (·.2)) d t.2 p) := by
  rw [genTier, (getPolicySetRules_spec _ d t.2).2 p, firstAction_gather s hs hipp n hn d p t.1 hsup, ← tierVerdict_eq]

theorem total_generated (s : IPSets) (hs : s.wf) (hipp : s.ipportOK) (n : Nat) (hn : 0 < n) (d : Bool)
    (t : TierSpec) (hsup : ∀ x ∈ t.1, x.2.supported) : Total (genTier s n d t) :=
  fun p => by rw [tier_first s hs hipp n hn d p t hsup]; rfl

theorem mvH_generated (s : IPSets) (hs : s.wf) (hipp : s.ipportOK) (n : Nat) (hn : 0 < n) (d : Bool) (p : Pkt) :
    ∀ (ts : List TierSpec), ts ≠ [] → (∀ t ∈ ts, ∀ x ∈ t.1, x.2.supported) →
      mvH p (ts.map (genTier s n d)) = some (multiVerdict s d p (ts.map fun t => (t.1.map (·.2), t.2))) := by
  intro ts
  induction ts with
  | nil => exact fun h => absurd rfl h
  | cons t rest ih =>
    intro _ hsup
    have ht := tier_first s hs hipp n hn d p t (hsup t List.mem_cons_self)
    cases rest with
    | nil =>
      rw [List.map_cons, List.map_nil, mvH, ht, List.map_cons, List.map_nil, multiVerdict]
      cases tierVerdict s (t.1.map (·.2)) d t.2 p <;> rfl
    | cons t2 rest' =>
      have := ih (List.cons_ne_nil _ _) (fun x hx => hsup x (List.mem_cons_of_mem _ hx))
      simp only [List.map_cons] at this ⊢
      simp only [mvH, ht, multiVerdict]
      cases tierVerdict s (t.1.map (·.2)) d t.2 p
      · rfl
      · rfl
      · exact this

end CalicoVerif.C30
