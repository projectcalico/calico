import CalicoVerif.Proofs.C04Tables
import CalicoVerif.Proofs.C01Show
import CalicoVerif.Proofs.C01Decl
/-! C01 helper: the member index (C04 model) inside the composed graph.

Every `OnIPSetMemberAdded/Removed` call the graph makes on the EventSequencer is the image (through the
injective `showMember`) of a callback of the C04 model; the C04 invariant (`Inv`, carried along the graph's
run) makes the strict replay of those callbacks succeed, and C04's `step_log` shows each callback is for a set the
index knows — which the graph has declared.  Hence: the member half of the IP-set protocol is respected
(`memberValidAll`), and the declared content of each set is exactly the consumer's view `D` of the index. -/
namespace CalicoVerif.C01
open CalicoVerif C02

def Mem (u : DP) (D : C04.Down) : Prop :=
  ∀ id f, u.ipsets id = some f → ∀ str, f str = true ↔ ∃ m, (id, m) ∈ D ∧ showMember m = str

theorem memberValidAll_append {u : DP} {a b : List Call} :
    memberValidAll u (a ++ b) ↔ memberValidAll u a ∧ memberValidAll (upAll u a) b := by
  induction a generalizing u with
  | nil => simp [memberValidAll, upAll]
  | cons c a ih =>
    simp only [List.cons_append, memberValidAll, ih, and_assoc]
    rfl

theorem Mem.fupd {u : DP} {D D' : C04.Down} (hm : Mem u D) (s : String) (v : Option (String → Bool))
    (hother : ∀ id m, id ≠ s → ((id, m) ∈ D' ↔ (id, m) ∈ D))
    (hs : ∀ f, v = some f → ∀ str, f str = true ↔ ∃ m, (s, m) ∈ D' ∧ showMember m = str) :
    Mem { u with ipsets := fupd u.ipsets s v } D' := by
  intro id f hf str
  simp only [C02.fupd] at hf
  by_cases hid : id = s
  · subst hid; rw [if_pos rfl] at hf; exact hs f hf str
  · rw [if_neg hid] at hf
    rw [hm id f hf str]
    exact exists_congr fun m => and_congr_left' (hother id m hid).symm

theorem walk_step {u : DP} {D D' : C04.Down} {s : String} {f : String → Bool} (hf : u.ipsets s = some f) (hm : Mem u D)
    {e : C04.Event} (he : (∃ m, e = .added s m) ∨ ∃ m, e = .removed s m) (hr : C04.applyEvent D e = some D') :
    ∃ c, idxCall e = some c ∧ quietCall c = true ∧ memberValidAll u [c] ∧ Mem (upApply u c) D' := by
  have hsf := hm s f hf
  rcases he with ⟨m, rfl⟩ | ⟨m, rfl⟩ <;> simp only [C04.applyEvent] at hr <;> split at hr <;> cases hr <;>
    rename_i hmem <;> refine ⟨_, rfl, rfl, ⟨⟨f, hf, ?_⟩, trivial⟩, ?_⟩
  · -- added: the member is new to the consumer, so its string is not in the set
    exact Bool.eq_false_iff.2 fun hx => by
      obtain ⟨m', hm', he⟩ := (hsf _).1 hx
      exact hmem (showMember_inj he ▸ hm')
  · simp only [upApply, hf]
    refine hm.fupd s _ (fun id m' hid => by simp [hid]) fun f' hf' str => ?_
    cases hf'
    simp only [Bool.or_eq_true, decide_eq_true_eq, hsf str, List.mem_cons, Prod.mk.injEq, true_and]
    exact ⟨fun h => h.elim (fun ⟨m', h1, h2⟩ => ⟨m', .inr h1, h2⟩) fun h => ⟨m, .inl rfl, h.symm⟩,
      fun ⟨m', h1, h2⟩ => h1.elim (fun h => .inr (h ▸ h2.symm)) fun h => .inl ⟨m', h, h2⟩⟩
  · exact (hsf _).2 ⟨m, hmem, rfl⟩
  · simp only [upApply, hf]
    refine hm.fupd s _ (fun id m' hid => by simp [hid]) fun f' hf' str => ?_
    cases hf'
    simp only [Bool.and_eq_true, Bool.not_eq_true', decide_eq_false_iff_not, hsf str, List.mem_filter,
      decide_eq_true_eq, ne_eq, Prod.mk.injEq, true_and]
    exact ⟨fun ⟨⟨m', h1, h2⟩, hne⟩ => ⟨m', ⟨h1, fun e => hne (by rw [← h2, e])⟩, h2⟩,
      fun ⟨m', ⟨h1, hne⟩, h2⟩ => ⟨⟨m', h1, h2⟩, fun e => hne (showMember_inj (h2.trans e))⟩⟩

theorem walk (K : List String) : ∀ (evs : List C04.Event) (u : DP) (D D' : C04.Down),
    (∀ e ∈ evs, ∃ s ∈ K, (∃ m, e = .added s m) ∨ (∃ m, e = .removed s m)) → (∀ k ∈ K, (u.ipsets k).isSome = true) → Mem u D →
    C04.replayFrom D evs = some D' →
    memberValidAll u (evs.filterMap idxCall) ∧ Mem (upAll u (evs.filterMap idxCall)) D'
  | [], u, D, D', _, _, hm, hr => by
    simp only [C04.replayFrom, Option.some.injEq] at hr
    subst hr
    exact ⟨trivial, hm⟩
  | e :: t, u, D, D', hev, hK, hm, hr => by
    obtain ⟨s, hs, hme⟩ := hev e (List.mem_cons_self ..)
    obtain ⟨f, hf⟩ := Option.isSome_iff_exists.1 (hK s hs)
    rw [C04.replayFrom] at hr
    cases hD1 : C04.applyEvent D e with
    | none => rw [hD1] at hr; cases hr
    | some D1 =>
      rw [hD1] at hr
      obtain ⟨c, hc, hq, hv, hm1⟩ := walk_step hf hm hme hD1
      obtain ⟨i1, i2⟩ := walk K t _ D1 D' (fun x hx => hev x (List.mem_cons_of_mem _ hx))
        (fun k hk => ((quiet_upApply u hq).dom k).trans (hK k hk)) hm1 hr
      rw [List.filterMap_cons, hc]
      exact ⟨⟨hv.1, i1⟩, i2⟩

structure IInv (g : Graph) : Prop where
  inv : C04.Inv matchSel g.idx
  dom : ∀ id ∈ g.idx.ipsets.map (·.1), ((decl g).ipsets id).isSome = true
  mem : ∀ D, C04.replay g.idx.out = some D → Mem (decl g) D
  valid : memberValidAll {} g.calls

/-- The hypotheses are the fields of `IInv g` with a list `K` in place of the sets the index knows: `OnIPSetActive`
declares a set to the consumer before the index learns of it, so there `K` has one key more. -/
theorem idxOp_core {g : Graph} (op : C04.Op Str) (hinv : C04.Inv matchSel g.idx) (hop : op.ok)
    (hdel : ∀ s, op ≠ .deleteIPSet s) (K : List String) (hK : ∀ k ∈ g.idx.ipsets.map (·.1), k ∈ K)
    (hnew : ∀ s sel p q, op = .updateIPSet s sel p q → s ∈ K)
    (hdecl : ∀ k ∈ K, ((decl g).ipsets k).isSome = true)
    (hmem : ∀ D, C04.replay g.idx.out = some D → Mem (decl g) D) (hv : memberValidAll {} g.calls) :
    IInv (g.idxOp op) := by
  have fidx := idxOp_idx g op
  have fcalls := idxOp_calls g op
  unfold idxCalls at fcalls
  have hinv' := C04.step_inv matchSel op hop hinv
  obtain ⟨⟨evs, hout, hevs⟩, hsub⟩ := C04.step_log matchSel g.idx op hK hnew hdel
  have hdrop : (C04.step matchSel g.idx op).out.drop g.idx.out.length = evs := C04.stepEvents_of_out matchSel hout
  rw [hdrop] at fcalls
  obtain ⟨D, hD, _, _⟩ := C04.members_once_and_alternate hinv.core.wf
  obtain ⟨D', hD', _, _⟩ := C04.members_once_and_alternate hinv'.core.wf
  have hrep : C04.replayFrom D evs = some D' := by
    have := hD'
    rw [hout] at this
    unfold C04.replay at this hD
    rw [C04.replayFrom_append, hD] at this
    simpa using this
  obtain ⟨w1, w2⟩ := walk K evs (decl g) D D' hevs hdecl (hmem D hD) hrep
  refine ⟨by rw [fidx]; exact hinv', fun id hid => ?_, fun D2 hD2 => ?_,
    by rw [fcalls]; exact memberValidAll_append.mpr ⟨hv, w1⟩⟩
  · -- the member callbacks declare no set and withdraw none
    rw [(decl_quietRel (quietRel_idxOp g op)).1.dom]
    exact hdecl id (hsub id (fidx ▸ hid))
  · rw [fidx, hD'] at hD2
    cases hD2
    rw [decl_calls fcalls]; exact w2

theorem iInv_frame {g g' : Graph} (hi : IInv g) (h1 : g'.idx = g.idx) (h2 : g'.calls = g.calls) : IInv g' := by
  have hd : decl g' = decl g := by unfold decl; rw [h2]
  exact ⟨by rw [h1]; exact hi.inv, by rw [h1, hd]; exact hi.dom, by rw [h1, hd]; exact hi.mem, by rw [h2]; exact hi.valid⟩

theorem down_keys {st : C04.Idx Str} (h : C04.Inv matchSel st) {D : C04.Down} (hD : C04.replay st.out = some D)
    {s : String} {m : C04.Member} (hm : (s, m) ∈ D) : s ∈ st.ipsets.map (·.1) := by
  obtain ⟨D', hD', _, hvis⟩ := C04.members_once_and_alternate h.core.wf
  rw [hD] at hD'
  simp only [Option.some.injEq] at hD'
  subst hD'
  exact C04.alGet_isSome_iff.mp (C04.refCount_pos_present ((hvis s m).mp hm).1)

def noSetCall : Call → Bool
  | .ipsetAdded _ _ => false
  | .ipsetRemoved _ => false
  | .memberAdded _ _ => false
  | .memberRemoved _ _ => false
  | _ => true

theorem upAll_noSet : ∀ (cs : List Call) (u : DP), (∀ c ∈ cs, noSetCall c = true) →
    (upAll u cs).ipsets = u.ipsets ∧ memberValidAll u cs
  | [], _, _ => ⟨rfl, trivial⟩
  | c :: cs, u, h => by
    have hc := h c (List.mem_cons_self ..)
    have ih := upAll_noSet cs (upApply u c) (fun x hx => h x (List.mem_cons_of_mem _ hx))
    have h1 : (upApply u c).ipsets = u.ipsets := by
      cases c with
      | endpointUpdate k v => cases v <;> rfl
      | ipsetAdded _ _ => simp [noSetCall] at hc
      | ipsetRemoved _ => simp [noSetCall] at hc
      | memberAdded _ _ => simp [noSetCall] at hc
      | memberRemoved _ _ => simp [noSetCall] at hc
      | _ => rfl
    refine ⟨by show (upAll (upApply u c) cs).ipsets = _; rw [ih.1, h1], ?_, ih.2⟩
    cases c <;> simp [noSetCall] at hc <;> trivial

theorem iInv_emit {g : Graph} (hi : IInv g) (cs : List Call) (h : ∀ c ∈ cs, noSetCall c = true) : IInv (g.emit cs) := by
  have f1 := emit_idx g cs
  have f2 := emit_calls g cs
  obtain ⟨u1, u2⟩ := upAll_noSet cs (decl g) h
  have hd : (decl (g.emit cs)).ipsets = (decl g).ipsets := by rw [decl_calls f2]; exact u1
  refine ⟨by rw [f1]; exact hi.inv, by rw [f1, hd]; exact hi.dom, ?_, ?_⟩
  · intro D hD
    rw [f1] at hD
    intro id f hf
    rw [hd] at hf
    exact hi.mem D hD id f hf
  · rw [f2]; exact memberValidAll_append.mpr ⟨hi.valid, u2⟩

theorem iInv_idxOp {g : Graph} (hi : IInv g) (op : C04.Op Str) (hop : op.ok) (hdel : ∀ s, op ≠ .deleteIPSet s)
    (hupd : ∀ s sel p q, op ≠ .updateIPSet s sel p q) : IInv (g.idxOp op) := by
  exact idxOp_core op hi.inv hop hdel _ (fun _ h => h) (fun s sel p q e => absurd e (hupd s sel p q))
    hi.dom hi.mem hi.valid

theorem iInv_ipsetActive {g : Graph} (hi : IInv g) (uid : String) (d : IpSetDef) (hnone : (decl g).ipsets uid = none) :
    IInv (g.onRsEvent (.ipsetActive uid d)) := by
  simp only [Graph.onRsEvent]
  have f1 := emit_idx g [.ipsetAdded uid (if d.proto ≠ C04.protoNone then 1 else 0)]
  have f2 := emit_calls g [.ipsetAdded uid (if d.proto ≠ C04.protoNone then 1 else 0)]
  have hd1 : decl (g.emit [.ipsetAdded uid (if d.proto ≠ C04.protoNone then 1 else 0)]) =
      { decl g with ipsets := fupd (decl g).ipsets uid (some (fun _ => false)) } := by
    rw [decl_calls f2]; rfl
  have hK : ∀ k ∈ (g.emit [.ipsetAdded uid (if d.proto ≠ C04.protoNone then 1 else 0)]).idx.ipsets.map (·.1),
      k ∈ uid :: g.idx.ipsets.map (·.1) := by
    intro k hk; rw [f1] at hk; exact List.mem_cons_of_mem _ hk
  have hdom : ∀ k ∈ uid :: g.idx.ipsets.map (·.1),
      ((decl (g.emit [.ipsetAdded uid (if d.proto ≠ C04.protoNone then 1 else 0)])).ipsets k).isSome = true := by
    intro k hk
    rw [hd1]
    simp only [fupd]
    by_cases hku : k = uid
    · simp [hku]
    · rw [if_neg hku]; exact hi.dom k ((List.mem_cons.mp hk).resolve_left hku)
  exact idxOp_core (g := g.emit [.ipsetAdded uid (if d.proto ≠ C04.protoNone then 1 else 0)])
    (.updateIPSet uid d.sel d.proto d.port) (by rw [f1]; exact hi.inv) trivial (fun s e => by cases e)
    (uid :: g.idx.ipsets.map (·.1)) hK
    (fun s sel p q e => by cases e; exact List.mem_cons_self ..) hdom
    (by
      intro D hD
      rw [f1] at hD
      rw [hd1]
      -- the consumer holds nothing for an undeclared set
      refine (hi.mem D hD).fupd uid _ (fun _ _ _ => Iff.rfl) fun f hf str => ?_
      cases hf
      refine ⟨fun h => Bool.noConfusion h, fun ⟨m, hm, _⟩ => ?_⟩
      have := hi.dom uid (down_keys hi.inv hD hm)
      rw [hnone] at this; cases this)
    (by rw [f2]; exact memberValidAll_append.mpr ⟨hi.valid, trivial, trivial⟩)

theorem iInv_ipsetInactive {g : Graph} (hi : IInv g) (uid : String) : IInv (g.onRsEvent (.ipsetInactive uid)) := by
  simp only [Graph.onRsEvent]
  have fidx := idxOp_idx g (.deleteIPSet uid)
  have fcalls := idxOp_calls g (.deleteIPSet uid)
  unfold idxCalls at fcalls
  obtain ⟨hout, hkeys⟩ := C04.deleteIPSet_log uid g.idx
  have hstep : C04.step matchSel g.idx (.deleteIPSet uid) = C04.deleteIPSet uid g.idx := rfl
  rw [hstep] at fidx fcalls
  have hdrop : (C04.deleteIPSet uid g.idx).out.drop g.idx.out.length = [.cleared uid] :=
    C04.stepEvents_of_out matchSel (op := .deleteIPSet uid) hout
  rw [hdrop] at fcalls
  simp only [List.filterMap_cons, idxCall, List.filterMap_nil, List.append_nil] at fcalls
  have hinv' : C04.Inv matchSel (C04.deleteIPSet uid g.idx) := C04.step_inv matchSel (.deleteIPSet uid) trivial hi.inv
  have e1 := emit_idx (g.idxOp (.deleteIPSet uid)) [.ipsetRemoved uid]
  have e2 := emit_calls (g.idxOp (.deleteIPSet uid)) [.ipsetRemoved uid]
  have hd1 : decl (g.idxOp (.deleteIPSet uid)) = decl g := by unfold decl; rw [fcalls]
  have hd2 : decl ((g.idxOp (.deleteIPSet uid)).emit [.ipsetRemoved uid]) =
      { decl g with ipsets := fupd (decl g).ipsets uid none } := by
    rw [decl_calls e2, hd1]; rfl
  refine ⟨by rw [e1, fidx]; exact hinv', ?_, ?_, ?_⟩
  · intro id hid
    rw [e1, fidx] at hid
    obtain ⟨hk, hne⟩ := hkeys id hid
    rw [hd2]
    simp only [fupd, hne, if_false]
    exact hi.dom id hk
  · intro D' hD'
    rw [e1, fidx, hout] at hD'
    obtain ⟨D, hD, _, _⟩ := C04.members_once_and_alternate hi.inv.core.wf
    unfold C04.replay at hD' hD
    rw [C04.replayFrom_append, hD] at hD'
    simp only [Option.bind_some, C04.replayFrom, C04.applyEvent, Option.some.injEq] at hD'
    subst hD'
    rw [hd2]
    exact (hi.mem D hD).fupd uid none (fun id m hid => by simp [hid]) (fun _ hf => nomatch hf)
  · rw [e2, fcalls]
    exact memberValidAll_append.mpr ⟨hi.valid, trivial, trivial⟩

theorem rulesCall_noSet (H : IdFn) (key : RulesId) (r : Option RulesIn) : noSetCall (rulesCall H key r) = true := by
  cases key <;> cases r <;> rfl

theorem iInv_scanRules {H : IdFn} {g : Graph} (hr : RsInv H g) (hi : IInv g) (key : RulesId) (rules : Option RulesIn) :
    IInv (g.scanRules H key rules) := by
  unfold Graph.scanRules
  have hspec := updateRules_spec g.rs key (curOf H rules) hr.nodup
  have hfold := (evReplay_fold (P := IInv) (fun _ uid d hn h => iInv_ipsetActive h uid d hn)
    (fun _ uid _ h => iInv_ipsetInactive h uid) hspec.2
    { g with rs := (g.rs.updateRules key (curOf H rules)).1, active := setOrDel key rules g.active }
    hr.dom (iInv_frame hi rfl rfl)).2
  rw [← rsUpdate_eq] at hfold
  exact iInv_emit hfold _ (by intro c hc; simp at hc; subst hc; exact rulesCall_noSet H key rules)

def netsOk : Upd → Prop
  | .netset _ (some n) => ∀ c ∈ n.nets, c.len ≤ C04.width c.v6
  | _ => True

/-- `netsOk` of the update a step carries (as `N.stepOk` is `N.updOk` of it) -/
def netsOkStep : HStep → Prop
  | .upd u => netsOk u
  | _ => True

theorem extractIPs_canon (nets : List C04.Cidr) : ∀ c ∈ C04.extractIPs nets, c.canon := by
  intro c hc
  unfold C04.extractIPs at hc
  obtain ⟨a, _, rfl⟩ := List.mem_map.mp hc
  exact ⟨Nat.le_refl _, by simp [Nat.mod_one]⟩

theorem extractNetSet_canon (nets : List C04.Cidr) (h : ∀ c ∈ nets, c.len ≤ C04.width c.v6) :
    ∀ c ∈ C04.extractNetSet nets, c.canon := by
  intro c hc
  unfold C04.extractNetSet at hc
  obtain ⟨a, ha, hca⟩ := List.mem_flatMap.mp hc
  simp only [] at hca
  have hw : 1 ≤ C04.width a.v6 := by unfold C04.width; split <;> omega
  split at hca
  · simp only [List.mem_cons, List.not_mem_nil, or_false] at hca
    rcases hca with rfl | rfl
    · exact ⟨hw, by simp⟩
    · exact ⟨hw, by simp⟩
  · simp only [List.mem_singleton] at hca
    subst hca
    refine ⟨h a ha, ?_⟩
    simp only [C04.Cidr.mask, Nat.shiftLeft_eq]
    exact Nat.mul_mod_left _ _

variable {H : IdFn}

/-- Alone `IInv` is not kept by the rule scanner: `OnIPSetActive` needs to know that the set is not declared yet, which
is `RsInv.dom`. -/
structure CInv (H : IdFn) (g : Graph) : Prop where
  rs : RsInv H g
  ii : IInv g

theorem cInv_scanRules {g : Graph} (hi : CInv H g) (key : RulesId) (rules : Option RulesIn) :
    CInv H (g.scanRules H key rules) :=
  ⟨rsInv_scanRules hi.rs key rules, iInv_scanRules hi.rs hi.ii key rules⟩

/-- an endpoint / profile-label operation of the member index with canonical addresses -/
structure TableOp (op : C04.Op Str) : Prop where
  ok : op.ok
  notDel : ∀ s, op ≠ .deleteIPSet s
  notUpd : ∀ s sel p q, op ≠ .updateIPSet s sel p q

theorem cInv_tower (H : IdFn) :
    Tower H TableOp (fun c => quietCall c = true ∧ noSetCall c = true) (CInv H) :=
  Tower.of_scan (fun hi h1 h2 h3 _ h5 => ⟨rsInv_frame hi.rs h1 h2 h5, iInv_frame hi.ii h3 h5⟩)
    (fun key rules hi => cInv_scanRules hi key rules)
    (fun op hop hi => ⟨rsInv_quietRel (quietRel_idxOp _ op) hi.rs, iInv_idxOp hi.ii op hop.ok hop.notDel hop.notUpd⟩)
    (fun cs hcs hi => ⟨rsInv_quietRel (quietRel_emit _ cs (fun c hc => (hcs c hc).1)) hi.rs,
      iInv_emit hi.ii cs (fun c hc => (hcs c hc).2)⟩)

theorem tableOp_of_netsOk {u : Upd} (hu : netsOk u) : ∀ op ∈ idxOps u, TableOp op := by
  intro op hop
  cases u with
  | endpoint nid key l v =>
    cases v <;> rw [List.mem_singleton.mp hop]
    · exact ⟨trivial, (fun _ e => nomatch e), (fun _ _ _ _ e => nomatch e)⟩
    · exact ⟨extractIPs_canon _, (fun _ e => nomatch e), (fun _ _ _ _ e => nomatch e)⟩
  | netset name v =>
    cases v <;> rw [List.mem_singleton.mp hop]
    · exact ⟨trivial, (fun _ e => nomatch e), (fun _ _ _ _ e => nomatch e)⟩
    · exact ⟨extractNetSet_canon _ hu, (fun _ e => nomatch e), (fun _ _ _ _ e => nomatch e)⟩
  | profLabels pid v =>
    cases v <;> rw [List.mem_singleton.mp hop] <;>
      exact ⟨trivial, (fun _ e => nomatch e), (fun _ _ _ _ e => nomatch e)⟩
  | _ => cases hop

theorem cInv_run (h : List HStep) {g : Graph} (hi : CInv H g)
    (hn : ∀ st ∈ h, netsOkStep st) : CInv H (run H g h).1 :=
  (cInv_tower H).run (fun hi => ⟨rsInv_frame hi.rs rfl rfl rfl, iInv_frame hi.ii rfl rfl⟩)
    (fun c key v => by cases v <;> exact ⟨rfl, rfl⟩) (fun _ _ => ⟨rfl, rfl⟩) h
    (fun st hst => by
      have := hn st hst
      cases st with
      | upd u => exact tableOp_of_netsOk this
      | _ => trivial) hi

theorem iInv_new (s : Bool) : IInv (Graph.new s) :=
  ⟨C04.inv_new matchSel s, (by intro id h; simp [Graph.new, C04.Idx.new] at h),
    (by intro D hD id f hf; simp [decl, upAll, Graph.new] at hf), trivial⟩

theorem cInv_new (H : IdFn) (s : Bool) : CInv H (Graph.new s) := ⟨rsInv_new H s, iInv_new s⟩

theorem iInv_content {g : Graph} (hi : IInv g) : ∀ id f, (decl g).ipsets id = some f → ∀ str,
    f str = true ↔ ∃ m, C04.memberSpec matchSel g.idx id m ∧ showMember m = str := by
  obtain ⟨D, hD, _, hspec⟩ := hi.inv.members_eq_spec
  intro id f hf str
  rw [hi.mem D hD id f hf str]
  exact exists_congr fun m => and_congr_left' (hspec id m)

theorem member_index_in_graph (H : IdFn) (s : Bool) (h : List HStep)
    (hn : ∀ st ∈ h, netsOkStep st) :
    memberValidAll {} (run H (Graph.new s) h).1.calls ∧
    ∀ id f, (decl (run H (Graph.new s) h).1).ipsets id = some f → ∀ str,
      f str = true ↔ ∃ m, C04.memberSpec matchSel (run H (Graph.new s) h).1.idx id m ∧ showMember m = str := by
  have hi := (cInv_run h (cInv_new H s) hn).ii
  exact ⟨hi.valid, iInv_content hi⟩

end CalicoVerif.C01
