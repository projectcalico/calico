import CalicoVerif.Proofs.C07Index
/-! C07: the structural model of `LabelRestrictionIndex` (nested maps
with clean-up) refines its specification `RIdx.candidates`.  The whole module turns on one statement, `RInv.filed`: an
id sits at a `Place` of the index (under a label's value, under a label's wildcard, among the unoptimised) exactly when the
selector stored for it is filed there (`filedAt`); `idsAt_unfile` / `idsAt_file` say what the two halves of
`AddSelector` / `DeleteSelector` do to every place, `mem_potentialMatches` and `isCandidate_iff` read both sides by places. -/
namespace CalicoVerif.C07
open CalicoVerif.C06

theorem mem_addId {id x : Nat} {ids : List Nat} : x ∈ addId id ids ↔ x = id ∨ x ∈ ids := by
  unfold addId
  by_cases h : ids.contains id = true
  · simp only [h, if_true]
    constructor
    · exact Or.inr
    · rintro (rfl | h')
      · simpa using h
      · exact h'
  · have h' : id ∉ ids := by simpa using h
    simp [h']

def SubIdx.ids (s : SubIdx) (v : Str) : List Nat := (lookup v s.specific).getD []

theorem SubIdx.eq_default_of_isEmpty {s : SubIdx} (h : s.isEmpty = true) : s = {} := by
  obtain ⟨sp, w⟩ := s
  simp only [SubIdx.isEmpty, Bool.and_eq_true, List.isEmpty_iff] at h
  obtain ⟨rfl, rfl⟩ := h
  rfl

theorem ids_add (s : SubIdx) (v : Str) (id : Nat) (v' : Str) :
    (s.add v id).ids v' = if v' = v then addId id (s.ids v) else s.ids v' := by
  unfold SubIdx.add SubIdx.ids
  rw [lookup_insert]
  split <;> rfl

theorem wildcard_add (s : SubIdx) (v : Str) (id : Nat) : (s.add v id).wildcard = s.wildcard := rfl

/-- `Remove` drops a set it has emptied; read back through `ids` that is the empty list all the same -/
theorem ids_remove (s : SubIdx) (v : Str) (id : Nat) (v' : Str) :
    (s.remove v id).ids v' = if v' = v then (s.ids v).filter (· ≠ id) else s.ids v' := by
  unfold SubIdx.remove SubIdx.ids
  cases hl : lookup v s.specific with
  | none =>
    simp only []
    split
    · next e => rw [e, hl]; rfl
    · rfl
  | some l =>
    simp only []
    split
    · next he =>
      rw [lookup_erase]
      split
      · exact (List.isEmpty_iff.1 he).symm
      · rfl
    · rw [lookup_insert]
      split <;> rfl

theorem wildcard_remove (s : SubIdx) (v : Str) (id : Nat) : (s.remove v id).wildcard = s.wildcard := by
  unfold SubIdx.remove
  split
  · rfl
  · split <;> rfl

theorem addId_idem (id : Nat) (l : List Nat) : addId id (addId id l) = addId id l := by
  unfold addId; split <;> simp [*]

theorem ids_foldl_add (id : Nat) (v' : Str) : ∀ (vs : List Str) (s : SubIdx),
    (vs.foldl (fun sub v => sub.add v id) s).ids v' = if v' ∈ vs then addId id (s.ids v') else s.ids v'
  | [], s => rfl
  | v :: vs, s => by
    rw [List.foldl_cons, ids_foldl_add id v' vs, ids_add]
    by_cases h1 : v' = v <;> by_cases h2 : v' ∈ vs <;> simp [h1, h2, addId_idem]

theorem wildcard_foldl_add (id : Nat) : ∀ (vs : List Str) (s : SubIdx),
    (vs.foldl (fun sub v => sub.add v id) s).wildcard = s.wildcard
  | [], _ => rfl
  | v :: vs, s => by simp only [List.foldl_cons]; rw [wildcard_foldl_add id vs]; rfl

theorem ids_foldl_remove (id : Nat) (v' : Str) : ∀ (vs : List Str) (s : SubIdx),
    (vs.foldl (fun sub v => sub.remove v id) s).ids v' =
      if v' ∈ vs then (s.ids v').filter (· ≠ id) else s.ids v'
  | [], s => rfl
  | v :: vs, s => by
    rw [List.foldl_cons, ids_foldl_remove id v' vs, ids_remove]
    by_cases h1 : v' = v <;> by_cases h2 : v' ∈ vs <;> simp [h1, h2, List.filter_filter]

theorem wildcard_foldl_remove (id : Nat) : ∀ (vs : List Str) (s : SubIdx),
    (vs.foldl (fun sub v => sub.remove v id) s).wildcard = s.wildcard
  | [], _ => rfl
  | v :: vs, s => by simp only [List.foldl_cons]; rw [wildcard_foldl_remove id vs, wildcard_remove]

theorem getSub_putSub (st : RIdxS) (l : Str) (sub : SubIdx) (l' : Str) :
    (st.putSub l sub).getSub l' = if l = l' then sub else st.getSub l' := by
  unfold RIdxS.putSub RIdxS.getSub
  by_cases he : sub.isEmpty = true
  · rw [if_pos he]
    simp only [lookup_erase]
    by_cases h : l = l'
    · subst h
      simp [SubIdx.eq_default_of_isEmpty he]
    · have h' : ¬ l' = l := fun e => h e.symm
      simp [h, h']
  · rw [if_neg he]
    simp only [lookup_insert, eq_comm (a := l')]
    split <;> rfl

theorem sels_putSub (st : RIdxS) (l : Str) (sub : SubIdx) : (st.putSub l sub).sels = st.sels := by
  unfold RIdxS.putSub; split <;> rfl

theorem unopt_putSub (st : RIdxS) (l : Str) (sub : SubIdx) : (st.putSub l sub).unopt = st.unopt := by
  unfold RIdxS.putSub; split <;> rfl

inductive Place
  | spec (l v : Str)
  | wild (l : Str)
  | unopt

def RIdxS.idsAt (st : RIdxS) : Place → List Nat
  | .spec l v => (st.getSub l).ids v
  | .wild l => (st.getSub l).wildcard
  | .unopt => st.unopt

def filedAt (n : Node) : Place → Prop
  | .spec l v => ∃ vs, filing n = .values l vs ∧ v ∈ vs
  | .wild l => filing n = .wildcard l
  | .unopt => filing n = .unoptimized

theorem idsAt_sels (st : RIdxS) (sels : List (Nat × Node)) (pl : Place) :
    ({ st with sels := sels } : RIdxS).idsAt pl = st.idsAt pl := by
  cases pl <;> rfl

theorem sels_unfile (st : RIdxS) (id : Nat) (n : Node) : (st.unfile id n).sels = st.sels := by
  unfold RIdxS.unfile
  split <;> simp [sels_putSub]

theorem idsAt_unfile (st : RIdxS) (id : Nat) (n : Node) (pl : Place) (x : Nat) :
    x ∈ (st.unfile id n).idsAt pl ↔ x ∈ st.idsAt pl ∧ ¬ (x = id ∧ filedAt n pl) := by
  unfold RIdxS.unfile
  cases pl with
  | spec l v =>
    simp only [RIdxS.idsAt, filedAt]
    cases hf : filing n with
    | impossible => simp
    | unoptimized => simp [RIdxS.getSub]
    | wildcard l0 =>
      simp only [getSub_putSub]
      by_cases h : l0 = l
      · subst h; simp [SubIdx.removeWildcard, SubIdx.ids]
      · simp [h]
    | values l0 vs =>
      simp only [getSub_putSub]
      by_cases h : l0 = l
      · subst h
        by_cases hv : v ∈ vs <;> simp [ids_foldl_remove, hv]
      · simp [h]
  | wild l =>
    simp only [RIdxS.idsAt, filedAt]
    cases hf : filing n with
    | impossible => simp
    | unoptimized => simp [RIdxS.getSub]
    | wildcard l0 =>
      simp only [getSub_putSub]
      by_cases h : l0 = l
      · subst h; simp [SubIdx.removeWildcard]
      · simp [h]
    | values l0 vs =>
      simp only [getSub_putSub]
      by_cases h : l0 = l
      · subst h; simp [wildcard_foldl_remove]
      · simp [h]
  | unopt =>
    simp only [RIdxS.idsAt, filedAt]
    cases hf : filing n <;> simp [unopt_putSub]

/-- the filing half of `AddSelector` (what follows its `deleteSelector`), the counterpart of the model's `RIdxS.unfile` -/
def RIdxS.file (st : RIdxS) (id : Nat) (n : Node) : RIdxS :=
  match filing n with
  | .impossible => st
  | .values l vs => st.putSub l (vs.foldl (fun sub v => sub.add v id) (st.getSub l))
  | .wildcard l => st.putSub l ((st.getSub l).addWildcard id)
  | .unoptimized => { st with unopt := addId id st.unopt }

theorem addSelector_eq (st : RIdxS) (id : Nat) (n : Node) :
    st.addSelector id n =
      RIdxS.file { st.deleteSelector id with sels := insert id n (st.deleteSelector id).sels } id n := by
  unfold RIdxS.addSelector RIdxS.file
  simp only []
  cases filing n <;> rfl

theorem sels_file (st : RIdxS) (id : Nat) (n : Node) : (st.file id n).sels = st.sels := by
  unfold RIdxS.file
  split <;> simp [sels_putSub]

theorem idsAt_file (st : RIdxS) (id : Nat) (n : Node) (pl : Place) (x : Nat) :
    x ∈ (st.file id n).idsAt pl ↔ (x = id ∧ filedAt n pl) ∨ x ∈ st.idsAt pl := by
  unfold RIdxS.file
  cases pl with
  | spec l v =>
    simp only [RIdxS.idsAt, filedAt]
    cases hf : filing n with
    | impossible => simp
    | unoptimized => simp [RIdxS.getSub]
    | wildcard l0 =>
      simp only [getSub_putSub]
      by_cases h : l0 = l
      · subst h; simp [SubIdx.addWildcard, SubIdx.ids]
      · simp [h]
    | values l0 vs =>
      simp only [getSub_putSub]
      by_cases h : l0 = l
      · subst h
        by_cases hv : v ∈ vs <;> simp [ids_foldl_add, hv, mem_addId]
      · simp [h]
  | wild l =>
    simp only [RIdxS.idsAt, filedAt]
    cases hf : filing n with
    | impossible => simp
    | unoptimized => simp [RIdxS.getSub]
    | wildcard l0 =>
      simp only [getSub_putSub]
      by_cases h : l0 = l
      · subst h; simp [SubIdx.addWildcard, mem_addId]
      · simp [h]
    | values l0 vs =>
      simp only [getSub_putSub]
      by_cases h : l0 = l
      · subst h; simp [wildcard_foldl_add]
      · simp [h]
  | unopt =>
    simp only [RIdxS.idsAt, filedAt]
    cases hf : filing n <;> simp [unopt_putSub, mem_addId]

structure RInv (st : RIdxS) : Prop where
  selsNodup : KeysNodup st.sels
  filed : ∀ x pl, x ∈ st.idsAt pl ↔ ∃ n, lookup x st.sels = some n ∧ filedAt n pl

theorem rinv_empty : RInv {} :=
  ⟨by simp [KeysNodup], fun x pl => by cases pl <;> simp [RIdxS.idsAt, RIdxS.getSub, SubIdx.ids, lookup]⟩

/-- generic step for deletion: "old members except `id`" is "members w.r.t. `erase id`". -/
theorem erase_step {sels : List (Nat × Node)} {id : Nat} {n : Node} (hl : lookup id sels = some n)
    (P : Node → Prop) (x : Nat) :
    ((∃ m, lookup x sels = some m ∧ P m) ∧ ¬ (x = id ∧ P n)) ↔
      ∃ m, lookup x (erase id sels) = some m ∧ P m := by
  simp only [lookup_erase]
  by_cases hx : x = id
  · subst hx; simp [hl]
  · simp [hx]

theorem deleteSelector_rinv {st : RIdxS} (h : RInv st) (id : Nat) : RInv (st.deleteSelector id) := by
  unfold RIdxS.deleteSelector
  cases hl : lookup id st.sels with
  | none => exact h
  | some n =>
    simp only []
    refine ⟨by simp only [sels_unfile]; exact keysNodup_erase id h.selsNodup, fun x pl => ?_⟩
    rw [idsAt_sels, idsAt_unfile, sels_unfile, h.filed x pl]
    exact erase_step hl (filedAt · pl) x

theorem lookup_deleteSelector (st : RIdxS) (id : Nat) : lookup id (st.deleteSelector id).sels = none := by
  unfold RIdxS.deleteSelector
  cases hl : lookup id st.sels with
  | none => simpa using hl
  | some n => simp [lookup_erase]

theorem insert_step {sels : List (Nat × Node)} {id : Nat} (n : Node) (hl : lookup id sels = none)
    (P : Node → Prop) (x : Nat) :
    ((x = id ∧ P n) ∨ ∃ m, lookup x sels = some m ∧ P m) ↔
      ∃ m, lookup x (insert id n sels) = some m ∧ P m := by
  simp only [lookup_insert]
  by_cases hx : x = id
  · subst hx; simp [hl]
  · simp [hx]

theorem addSelector_rinv {st : RIdxS} (h : RInv st) (id : Nat) (n : Node) : RInv (st.addSelector id n) := by
  rw [addSelector_eq]
  have h0 := deleteSelector_rinv h id
  have hl := lookup_deleteSelector st id
  generalize st.deleteSelector id = st0 at h0 hl
  refine ⟨by rw [sels_file]; exact keysNodup_insert id n h0.selsNodup, fun x pl => ?_⟩
  rw [idsAt_file, sels_file, idsAt_sels, h0.filed x pl]
  exact insert_step n hl (filedAt · pl) x

theorem mem_potentialMatches (st : RIdxS) (kvs : List (Str × Str)) (x : Nat) :
    x ∈ st.potentialMatches kvs ↔
      (∃ kv ∈ kvs, x ∈ st.idsAt (.wild kv.1) ∨ x ∈ st.idsAt (.spec kv.1 kv.2)) ∨ x ∈ st.idsAt .unopt := by
  unfold RIdxS.potentialMatches RIdxS.idsAt RIdxS.getSub SubIdx.ids
  simp only [List.mem_append, List.mem_flatMap]
  refine or_congr (exists_congr fun kv => and_congr Iff.rfl ?_) Iff.rfl
  cases lookup kv.1 st.byLabel <;> simp [lookup]

theorem isCandidate_iff (n : Node) (kvs : List (Str × Str)) :
    isCandidate n kvs = true ↔
      filedAt n .unopt ∨ (∃ kv ∈ kvs, filedAt n (.wild kv.1)) ∨ (∃ kv ∈ kvs, filedAt n (.spec kv.1 kv.2)) := by
  unfold isCandidate filedAt
  cases filing n with
  | unoptimized => simp
  | impossible => simp
  | values l vs =>
    simp only [List.any_eq_true, Bool.and_eq_true, decide_eq_true_eq, List.contains_iff_mem, reduceCtorEq,
      false_or, Filing.values.injEq, exists_false, and_false]
    constructor
    · rintro ⟨kv, hm, h1, h2⟩
      exact ⟨kv, hm, vs, ⟨h1.symm, rfl⟩, h2⟩
    · rintro ⟨kv, hm, vs', ⟨h1, rfl⟩, h3⟩
      exact ⟨kv, hm, h1.symm, h3⟩
  | wildcard l =>
    simp only [List.any_eq_true, decide_eq_true_eq, reduceCtorEq, false_or, Filing.wildcard.injEq]
    constructor
    · rintro ⟨kv, hm, h1⟩; exact Or.inl ⟨kv, hm, h1.symm⟩
    · rintro (⟨kv, hm, h1⟩ | ⟨kv, _, vs, hf, _⟩)
      · exact ⟨kv, hm, h1.symm⟩
      · exact hf.elim

theorem potentialMatches_eq_candidates {st : RIdxS} (h : RInv st) (kvs : List (Str × Str)) (x : Nat) :
    x ∈ st.potentialMatches kvs ↔ x ∈ RIdx.candidates st.sels kvs := by
  have hc : x ∈ RIdx.candidates st.sels kvs ↔ ∃ n, lookup x st.sels = some n ∧ isCandidate n kvs = true := by
    simp only [RIdx.candidates, List.mem_map, List.mem_filter]
    constructor
    · rintro ⟨⟨_, n⟩, ⟨hm, hc⟩, rfl⟩; exact ⟨n, lookup_of_mem h.selsNodup hm, hc⟩
    · rintro ⟨n, hl, hc⟩; exact ⟨(x, n), ⟨mem_of_lookup hl, hc⟩, rfl⟩
  simp only [hc, mem_potentialMatches, isCandidate_iff, h.filed]
  constructor
  · rintro (⟨kv, hm, ⟨n, hl, hn⟩ | ⟨n, hl, hn⟩⟩ | ⟨n, hl, hn⟩)
    · exact ⟨n, hl, Or.inr (Or.inl ⟨kv, hm, hn⟩)⟩
    · exact ⟨n, hl, Or.inr (Or.inr ⟨kv, hm, hn⟩)⟩
    · exact ⟨n, hl, Or.inl hn⟩
  · rintro ⟨n, hl, hu | ⟨kv, hm, hw⟩ | ⟨kv, hm, hs⟩⟩
    · exact Or.inr ⟨n, hl, hu⟩
    · exact Or.inl ⟨kv, hm, Or.inl ⟨n, hl, hw⟩⟩
    · exact Or.inl ⟨kv, hm, Or.inr ⟨n, hl, hs⟩⟩

end CalicoVerif.C07
