import CalicoVerif.Proofs.C11Step
/-!
C11 — the compositional layer of the verdict proof, on the label-level semantics.

`Tri env P B Q`: from a machine satisfying `P` the block `B` runs without fault and leaves control behind
itself (`none`) or at a label (`some l`), with a machine satisfying `Q`.  `Exits env P B t P'` is the triple
whose exit `t` is known.  `Decides env st B t` is `Exits` over the builder's invariant `Inv st`, and `Guard` is
`Decides` for a Boolean criterion (`decides_iff`, `guard_iff`).  There is one sequencing rule (`Tri.seq`;
`Exits.seq` when the exits are known) and one rule for a label (`Tri.land`, `Exits.label`).  Of the program's
structure only guard → rule is here (`Guard.andThen`, `Guard.then_decides`); policies and tiers are in `C11Body`.
Straight-line code is `Line env st v B v'`: `Exits` between two symbolic views of the machine (`Sees st v m`:
invariant, known registers, stack, state), with one rule per instruction class.

How a fragment is proved (smallest example: `guard_load_jcond64` in `C11Guard`):
1. rewrite the builder's output by its shape equation from `C11Shape`, so that the block is a literal list
   of events, straight-line code `B` followed by jumps `J`;
2. `Decides.line_then` for `B ++ J`; in general `Decides.of_view` (`Tri.of_view` for a block with two exits),
   then `Exits.seq` (examples: `decides_ports` in `C11GuardPorts`, `record_tri` in `C11Log`).  The line is a
   `Line.cons`/`Line.append` chain of `Line.*` rules, each instruction in the literal form
   `.ins ⟨op, d, s, off, imm⟩`; a register read `v.reg r = some x` is closed by `rfl`, which evaluates the
   view (a closed term: registers are numerals, the chain is short);
3. a conditional jump is `Exits.jcondV64`/`jcondV32` under a view (`Exits.jcond64`/`jcond32` under any `P`); the
   comparison is evaluated by `cond_nat` (`C11Step`);
4. bring the exit into the stated form with `.congr (by cases c <;> rfl)`; `guard_iff.2` makes it a `Guard`;
5. labels: `DecidesIn.noLabels`, then `GL.of_neg`/`GL.of_pos` give the rule-private guard `GL`; repeated tests
   are `DecidesIn.any` (indexed passes, `seqIdx`) and `DecidesIn.anyFlat` (`flatMap`, passes without labels).
-/
namespace CalicoVerif.C11

/-- Where a block leaves control: behind itself (`none`) or at the next definition of a label. -/
def resume (env : Env) (rest : List Ev) : Option Label → Mach → Outcome
  | none, m => lrun env rest m
  | some l, m => goto env l rest m

def Tri (env : Env) (P : Mach → Prop) (B : List Ev) (Q : Option Label → Mach → Prop) : Prop :=
  ∀ rest m, P m → ∃ t m', Q t m' ∧ lrun env (B ++ rest) m = resume env rest t m'

namespace Tri
variable {env : Env} {P P' : Mach → Prop} {Q Q' R : Option Label → Mach → Prop} {B B1 B2 : List Ev}

theorem nil : Tri env P [] (fun t m => t = none ∧ P m) := fun _ m h => ⟨none, m, ⟨rfl, h⟩, rfl⟩

theorem conseq (h : Tri env P B Q) (hP : ∀ m, P' m → P m) (hQ : ∀ t m, Q t m → Q' t m) : Tri env P' B Q' :=
  fun rest m hm => let ⟨t, m', hq, e⟩ := h rest m (hP m hm); ⟨t, m', hQ t m' hq, e⟩

/-- The sequencing rule: what falls out of `B1` runs `B2`; a jump out of `B1` passes over `B2`, which
does not define its target. -/
theorem seq (h1 : Tri env P B1 Q) (h2 : Tri env (Q none) B2 R)
    (hj : ∀ l m, Q (some l) m → l ∉ labelsOf B2 ∧ R (some l) m) : Tri env P (B1 ++ B2) R := by
  intro rest m hP
  obtain ⟨t, m1, hQ, e1⟩ := h1 (B2 ++ rest) m hP
  rw [List.append_assoc, e1]
  cases t with
  | none => exact h2 rest m1 hQ
  | some l => exact ⟨some l, m1, (hj l m1 hQ).2, goto_append rest m1 (hj l m1 hQ).1⟩

/-- Defining `l` behind the block: a jump to `l` lands there. -/
theorem land (l : Label) (h : Tri env P B Q) :
    Tri env P (B ++ [.label l]) (fun t m => match t with
      | none => Q none m ∨ Q (some l) m
      | some l' => l' ≠ l ∧ Q (some l') m) := by
  intro rest m hP
  obtain ⟨t, m1, hQ, e1⟩ := h ([.label l] ++ rest) m hP
  rw [List.append_assoc, e1]
  cases t with
  | none => exact ⟨none, m1, Or.inl hQ, lrun_label env l rest m1⟩
  | some l' =>
    by_cases hl : l' = l
    · subst hl; exact ⟨none, m1, Or.inr hQ, goto_label_self env l' rest m1⟩
    · exact ⟨some l', m1, ⟨hl, hQ⟩, goto_cons_label_ne env rest m1 (fun e => hl e.symm)⟩

end Tri

def Exits (env : Env) (P : Mach → Prop) (B : List Ev) (t : Option Label) (P' : Mach → Prop) : Prop :=
  Tri env P B (fun t' m => t' = t ∧ P' m)

namespace Exits
variable {env : Env} {P P' P1 P2 : Mach → Prop} {B B1 B2 : List Ev} {t t' t1 t2 : Option Label}

theorem nil : Exits env P [] none P := Tri.nil

theorem congr (h : Exits env P B t P') (e : t = t') : Exits env P B t' P' := e ▸ h

theorem weaken (h : Exits env P B t P') (hP : ∀ m, P1 m → P m) (hQ : ∀ m, P' m → P2 m) : Exits env P1 B t P2 :=
  Tri.conseq h hP fun _ _ hq => ⟨hq.1, hQ _ hq.2⟩

theorem seq (h1 : Exits env P B1 t1 P1) (h2 : t1 = none → Exits env P1 B2 t2 P2)
    (hj : ∀ l, t1 = some l → l ∉ labelsOf B2 ∧ ∀ m, P1 m → P2 m) : Exits env P (B1 ++ B2) (t1.or t2) P2 :=
  Tri.seq h1 (fun rest m hm =>
      let ⟨t, m', hq, e⟩ := h2 hm.1.symm rest m hm.2
      ⟨t, m', ⟨by rw [hq.1, ← hm.1]; rfl, hq.2⟩, e⟩)
    fun l m hm => ⟨(hj l hm.1.symm).1, by rw [← hm.1]; rfl, (hj l hm.1.symm).2 m hm.2⟩

theorem jump (l : Label) : Exits env P [jump l] (some l) P :=
  fun rest m h => ⟨_, m, ⟨rfl, h⟩, lrun_jump env l rest m⟩

theorem cons_label (l : Label) (h : Exits env P B t P') : Exits env P (.label l :: B) t P' := fun rest m hP =>
  let ⟨t', m', hq, e⟩ := h rest m hP
  ⟨t', m', hq, by rw [List.cons_append, lrun_label, e]⟩

theorem label (l : Label) (h : Exits env P B t P') :
    Exits env P (B ++ [.label l]) (if t = some l then none else t) P' :=
  (Tri.land l h).conseq (fun _ h => h) fun t' m hq => by
    cases t' with
    | none => rcases hq with ⟨rfl, hI⟩ | ⟨rfl, hI⟩ <;> exact ⟨by simp, hI⟩
    | some l' => obtain ⟨hne, rfl, hI⟩ := hq; exact ⟨by simp [hne], hI⟩

theorem jcond64 (op d : Nat) (imm : Int) (l : Label) {x : Word} {c : Bool}
    (hop : JOp64 op)
    (hx : ∀ m, P m → m.reg d = some x) (hc : cond (op / 16) x (sext32 imm) = some c) :
    Exits env P [.jmp ⟨op, d, 0, 0, imm⟩ l] (if c then some l else none) P :=
  fun rest m h => ⟨_, m, ⟨rfl, h⟩, (lrun_jcond64 env m op d imm x c l rest hop (hx m h) hc).trans (by cases c <;> rfl)⟩

theorem jcond32 (op d : Nat) (imm : Int) (l : Label) {x : Word} {c : Bool} (hop : JOp32 op)
    (hx : ∀ m, P m → m.reg d = some x) (hc : cond (op / 16) (x.setWidth 32) ((sext32 imm).setWidth 32) = some c) :
    Exits env P [.jmp ⟨op, d, 0, 0, imm⟩ l] (if c then some l else none) P :=
  fun rest m h => ⟨_, m, ⟨rfl, h⟩, (lrun_jcond32 env m op d imm x c l rest hop (hx m h) hc).trans (by cases c <;> rfl)⟩

end Exits

/-! `Guard` and `Decides` are written out on machines.  A proof that needs the machine form applies the
hypothesis (`h rest m hI`); the rules are those of `Exits`, reached through `decides_iff` and `guard_iff`. -/

def Guard (env : Env) (st : List Byte) (L : Label) (F : List Ev) (b : Bool) : Prop :=
  ∀ rest m, Inv st m → ∃ m', Inv st m' ∧
    lrun env (F ++ rest) m = if b then lrun env rest m' else goto env L rest m'

def Decides (env : Env) (st : List Byte) (B : List Ev) (target : Option Label) : Prop :=
  ∀ rest m, Inv st m → ∃ m', Inv st m' ∧
    lrun env (B ++ rest) m = match target with
      | some l => goto env l rest m'
      | none => lrun env rest m'

theorem decides_iff {env : Env} {st : List Byte} {B : List Ev} {t : Option Label} :
    Decides env st B t ↔ Exits env (Inv st) B t (Inv st) := by
  constructor
  · intro h rest m hI
    obtain ⟨m', hI', e⟩ := h rest m hI
    exact ⟨t, m', ⟨rfl, hI'⟩, by rw [e]; cases t <;> rfl⟩
  · intro h rest m hI
    obtain ⟨t', m', ⟨rfl, hI'⟩, e⟩ := h rest m hI
    exact ⟨m', hI', by rw [e]; cases t' <;> rfl⟩

theorem guard_iff {env : Env} {st : List Byte} {L : Label} {F : List Ev} {b : Bool} :
    Guard env st L F b ↔ Decides env st F (if b then none else some L) := by
  cases b <;> exact Iff.rfl

theorem Decides.nil (env : Env) (st : List Byte) : Decides env st [] none := decides_iff.2 Exits.nil

theorem Decides.congr {env : Env} {st : List Byte} {B : List Ev} {t t' : Option Label}
    (h : Decides env st B t) (e : t = t') : Decides env st B t' := e ▸ h

theorem Decides.seq {env : Env} {st : List Byte} {B1 B2 : List Ev} {t1 t2 : Option Label}
    (h1 : Decides env st B1 t1) (h2 : Decides env st B2 t2)
    (hl : ∀ l, t1 = some l → l ∉ labelsOf B2) :
    Decides env st (B1 ++ B2) (t1.or t2) :=
  decides_iff.2 (Exits.seq (decides_iff.1 h1) (fun _ => decides_iff.1 h2) fun l e => ⟨hl l e, fun _ h => h⟩)

theorem Decides.jump (env : Env) (st : List Byte) (l : Label) : Decides env st [jump l] (some l) :=
  decides_iff.2 (Exits.jump l)

theorem Decides.cons_label {env : Env} {st : List Byte} {B : List Ev} {t : Option Label} (l : Label)
    (h : Decides env st B t) : Decides env st (.label l :: B) t :=
  decides_iff.2 ((decides_iff.1 h).cons_label l)

theorem Decides.label {env : Env} {st : List Byte} {B : List Ev} {t : Option Label} (l : Label)
    (h : Decides env st B t) : Decides env st (B ++ [.label l]) (if t = some l then none else t) :=
  decides_iff.2 ((decides_iff.1 h).label l)

theorem Guard.nil (env : Env) (st : List Byte) (L : Label) : Guard env st L [] true :=
  guard_iff.2 (Decides.nil env st)

theorem Guard.append {env : Env} {st : List Byte} {L : Label} {F1 F2 : List Ev} {b1 b2 : Bool}
    (h1 : Guard env st L F1 b1) (h2 : Guard env st L F2 b2) (hL : L ∉ labelsOf F2) :
    Guard env st L (F1 ++ F2) (b1 && b2) :=
  guard_iff.2 (((guard_iff.1 h1).seq (guard_iff.1 h2) fun l e => by cases b1 <;> cases e; exact hL).congr
    (by cases b1 <;> cases b2 <;> rfl))

/-- A guard, then a block `T`, then the guard's no-match label: `T` runs iff the criterion
holds.  (A rule is this with `T` = the jump to the action label, preceded by the rule-hit
recording if that is on, or `T` = the flag update of a `log` rule.) -/
theorem Guard.andThen {env : Env} {st : List Byte} {L : Label} {M T : List Ev} {b : Bool} {t : Option Label}
    (hg : Guard env st L M b) (hT : Decides env st T t) (hL : L ∉ labelsOf T) (ht : t ≠ some L) :
    Decides env st (M ++ (T ++ [.label L])) (if b then t else none) := by
  rw [← List.append_assoc]
  refine (((guard_iff.1 hg).seq hT fun l e => by cases b <;> cases e; exact hL).label L).congr ?_
  cases b <;> simp [ht]

def EndsWith (E : Label) (D : List Ev) : Prop := ∃ D', D = D' ++ [.label E] ∧ labelsOf D' = []

theorem EndsWith.goto {E : Label} {D : List Ev} (h : EndsWith E D) (env : Env) (rest : List Ev) (m : Mach) :
    goto env E (D ++ rest) m = lrun env rest m := by
  obtain ⟨D', rfl, hl⟩ := h
  rw [List.append_assoc, goto_append _ m (by rw [hl]; simp)]
  simp only [List.cons_append, List.nil_append]
  rw [goto_label_self]

theorem EndsWith.labels {E : Label} {D : List Ev} (h : EndsWith E D) : labelsOf D = [E] := by
  obtain ⟨D', rfl, hl⟩ := h
  rw [labelsOf_append, hl]; rfl

theorem EndsWith.cons {E : Label} {D M : List Ev} (h : EndsWith E D) (hM : labelsOf M = []) : EndsWith E (M ++ D) := by
  obtain ⟨D', rfl, hl⟩ := h
  exact ⟨M ++ D', by rw [List.append_assoc], by rw [labelsOf_append, hM, hl]; rfl⟩

/-- Unlike in `Guard.andThen`, `D` is judged as a whole with its end label inside, so `Exits.seq` does not apply (its
second block must not define the jump target): the jump passes over the label-free part of `D` and lands on its
last event.  The sections of a CIDR test nest this way, all sharing one end label. -/
theorem Guard.then_decides {env : Env} {st : List Byte} {E : Label} {M D : List Ev} {b : Bool} {t : Option Label}
    (hg : Guard env st E M b) (hd : Decides env st D t) (he : EndsWith E D) :
    Decides env st (M ++ D) (if b then t else none) := by
  intro rest m hI
  obtain ⟨m1, hI1, e1⟩ := hg (D ++ rest) m hI
  rw [List.append_assoc, e1]
  cases b with
  | true =>
    obtain ⟨m2, hI2, e2⟩ := hd rest m1 hI1
    exact ⟨m2, hI2, by simpa using e2⟩
  | false =>
    exact ⟨m1, hI1, by simp [he.goto env rest m1]⟩

/-- Negated criterion: a hit jumps to the rule's no-match label. -/
theorem Guard.of_decides_neg {env : Env} {st : List Byte} {L : Label} {T : List Ev} {hit : Bool}
    (h : Decides env st T (if hit then some L else none)) : Guard env st L T (!hit) :=
  guard_iff.2 (h.congr (by cases hit <;> rfl))

/-- Positive criterion: a hit jumps to the fresh label `P` placed after the
"no hit ⇒ no match" jump. -/
theorem Guard.of_decides_pos {env : Env} {st : List Byte} {L P : Label} {T : List Ev} {hit : Bool}
    (h : Decides env st T (if hit then some P else none)) (hne : P ≠ L) :
    Guard env st L (T ++ [jump L, .label P]) hit := by
  have := ((h.seq (Decides.jump env st L) fun _ _ => List.not_mem_nil).label P)
  rw [List.append_assoc] at this
  exact guard_iff.2 (this.congr (by cases hit <;> simp [hne.symm]))

/-! Blocks are composed under a side condition "the label the first block may jump to is not
defined in the second".  `DecidesIn` carries, with each block, a predicate `P` that all its labels satisfy; a
composition then asks only that the jump target does not satisfy `P` (`seq`'s `hl`, `any`'s `hT`), which for
the label classes of the builder (`Label.isPart`, `isRule`, `isBody`) is `rfl`. -/

def DecidesIn (env : Env) (st : List Byte) (P : Label → Bool) (B : List Ev) (t : Option Label) : Prop :=
  Decides env st B t ∧ ∀ l ∈ labelsOf B, P l = true

namespace DecidesIn
variable {env : Env} {st : List Byte} {P Q : Label → Bool} {B B1 B2 : List Ev} {t t' t1 t2 : Option Label}

theorem nil : DecidesIn env st P [] none := ⟨Decides.nil env st, fun _ h => nomatch h⟩

theorem noLabels (h : Decides env st B t) (hl : labelsOf B = []) : DecidesIn env st P B t :=
  ⟨h, fun l hm => by rw [hl] at hm; cases hm⟩

theorem jump (l : Label) : DecidesIn env st P [jump l] (some l) := noLabels (Decides.jump env st l) rfl

theorem mono (h : DecidesIn env st P B t) (hPQ : ∀ l, P l = true → Q l = true) : DecidesIn env st Q B t :=
  ⟨h.1, fun l hm => hPQ l (h.2 l hm)⟩

theorem congr (h : DecidesIn env st P B t) (e : t = t') : DecidesIn env st P B t' := e ▸ h

theorem seq (h1 : DecidesIn env st P B1 t1) (h2 : DecidesIn env st P B2 t2)
    (hl : ∀ l, t1 = some l → P l = false) : DecidesIn env st P (B1 ++ B2) (t1.or t2) :=
  ⟨Decides.seq h1.1 h2.1 fun l e hm => Bool.noConfusion ((h2.2 l hm).symm.trans (hl l e)),
    fun l hm => by rw [labelsOf_append, List.mem_append] at hm; exact hm.elim (h1.2 l) (h2.2 l)⟩

theorem label (l : Label) (h : DecidesIn env st P B t) (hP : P l = true) :
    DecidesIn env st P (B ++ [.label l]) (if t = some l then none else t) :=
  ⟨h.1.label l, fun l' hm => by
    rw [labelsOf_append, List.mem_append] at hm
    rcases hm with hm | hm
    · exact h.2 l' hm
    · cases List.mem_singleton.mp hm; exact hP⟩

theorem cons_label (l : Label) (h : DecidesIn env st P B t) (hP : P l = true) :
    DecidesIn env st P (.label l :: B) t :=
  ⟨h.1.cons_label l, fun l' hm => by
    rcases List.mem_cons.mp hm with rfl | hm
    · exact hP
    · exact h.2 l' hm⟩

theorem any {α : Type} (f : Nat → α → List Ev) (p : α → Bool) (T : Label) (hT : Q T = false) :
    ∀ (xs : List α) (i : Nat), (∀ x ∈ xs, ∀ j, DecidesIn env st Q (f j x) (if p x then some T else none)) →
      DecidesIn env st Q (seqIdx f xs i) (if xs.any p then some T else none)
  | [], _, _ => nil
  | x :: xs, i, h =>
    ((h x List.mem_cons_self i).seq (any f p T hT xs (i + 1) fun y hy => h y (List.mem_cons_of_mem _ hy))
      fun l e => by split at e <;> cases e; exact hT).congr (by rw [List.any_cons]; cases p x <;> rfl)

theorem anyFlat {α : Type} (f : α → List Ev) (p : α → Bool) (T : Label) (xs : List α)
    (h : ∀ x ∈ xs, DecidesIn env st (fun _ => false) (f x) (if p x then some T else none)) :
    DecidesIn env st Q (xs.flatMap f) (if xs.any p then some T else none) := by
  have d := any (Q := fun _ => false) (fun _ => f) p T rfl xs 0 fun x hx _ => h x hx
  rw [seqIdx_const] at d
  exact d.mono fun _ h => nomatch h

end DecidesIn

/-- Guard with rule-private labels only. -/
def GL (env : Env) (st : List Byte) (rid : Nat) (F : List Ev) (b : Bool) : Prop :=
  Guard env st (.ruleNoMatch rid) F b ∧ ∀ l ∈ labelsOf F, l.isPart = true

theorem GL.nil (env : Env) (st : List Byte) (rid : Nat) : GL env st rid [] true :=
  ⟨Guard.nil env st _, by intro l hl; simp [labelsOf] at hl⟩

theorem GL.append {env : Env} {st : List Byte} {rid : Nat} {F1 F2 : List Ev} {b1 b2 : Bool}
    (h1 : GL env st rid F1 b1) (h2 : GL env st rid F2 b2) : GL env st rid (F1 ++ F2) (b1 && b2) := by
  refine ⟨Guard.append h1.1 h2.1 ?_, ?_⟩
  · intro hmem; have := h2.2 _ hmem; simp [Label.isPart] at this
  · intro l hl
    rw [labelsOf_append, List.mem_append] at hl
    rcases hl with hl | hl
    · exact h1.2 l hl
    · exact h2.2 l hl

theorem GL.congr {env : Env} {st : List Byte} {rid : Nat} {F : List Ev} {b b' : Bool}
    (h : GL env st rid F b) (e : b = b') : GL env st rid F b' := e ▸ h

/-- An optional criterion: nothing is emitted when it is absent (`e`).  `g` is `flat` for builder output, `id` for
a piece that is already a list of events (`ipSetOrMatch`). -/
theorem GL.ite {β : Type} (g : List β → List Ev) (hg : g [] = []) {env : Env} {st : List Byte} {rid : Nat} {e b : Bool}
    {n : Nat} {x : List β × Nat} (h : GL env st rid (g x.1) b) :
    GL env st rid (g (if e = true then ([], n) else x).1) (e || b) := by
  cases e
  · exact h
  · rw [if_pos rfl, hg]; exact GL.nil env st rid

theorem GL.of_neg {env : Env} {st : List Byte} {rid : Nat} {T : List Ev} {hit : Bool}
    (h : DecidesIn env st Label.isPart T (if hit then some (.ruleNoMatch rid) else none)) : GL env st rid T (!hit) :=
  ⟨Guard.of_decides_neg h.1, h.2⟩

theorem GL.of_pos {env : Env} {st : List Byte} {rid : Nat} {T : List Ev} {hit : Bool} {P : Label}
    (h : DecidesIn env st Label.isPart T (if hit then some P else none)) (hP : P.isPart = true) :
    GL env st rid (T ++ [jump (.ruleNoMatch rid), .label P]) hit := by
  refine ⟨Guard.of_decides_pos h.1 (by rintro rfl; cases hP), fun l hm => ?_⟩
  rw [labelsOf_append, List.mem_append] at hm
  rcases hm with hm | hm
  · exact h.2 l hm
  · cases List.mem_singleton.1 hm; exact hP

/-- What a fragment knows of the machine besides the invariant: some registers, the stack, the state. -/
structure View where
  reg : Nat → Option Word
  stack : Nat → Option Byte
  st : List Byte

def View.set (v : View) (d : Nat) (x : Word) : View := { v with reg := fun r => if r = d then some x else v.reg r }

/-- After a helper call R1–R5 are unknown. -/
def View.clobber (v : View) : View := { v with reg := fun r => if 1 ≤ r ∧ r ≤ 5 then none else v.reg r }

/-- What the invariant alone says of `m`. -/
def View.ofInv (m : Mach) : View :=
  ⟨fun r => if r = 6 then some ctxW else if r = 9 then some stateW else if r = 10 then some stackW else none,
    m.stack, m.st⟩

structure Sees (st : List Byte) (v : View) (m : Mach) : Prop where
  inv : Inv st m
  reg : ∀ r x, v.reg r = some x → m.reg r = some x
  stack : m.stack = v.stack
  state : m.st = v.st

theorem Sees.ofInv {st : List Byte} {m : Mach} (h : Inv st m) : Sees st (View.ofInv m) m where
  inv := h
  reg r x hx := by
    simp only [View.ofInv] at hx
    split at hx
    · next e => cases hx; rw [e]; exact h.r6
    split at hx
    · next e => cases hx; rw [e]; exact h.r9
    split at hx
    · next e => cases hx; rw [e]; exact h.r10
    · cases hx
  stack := rfl
  state := rfl

theorem Sees.set {st : List Byte} {v : View} {m : Mach} (h : Sees st v m) (d : Nat) (x : Word) (hd : d ≤ 5) :
    Sees st (v.set d x) (m.setReg d x) where
  inv := h.inv.setReg d x (by omega) (by omega) (by omega)
  reg r y hy := by
    simp only [View.set] at hy
    split at hy
    · next e => cases hy; rw [e]; exact reg_setReg_eq (h.inv.reg_lt d (by omega))
    · next e => rw [reg_setReg_ne (fun e' => e e'.symm)]; exact h.reg r y hy
  stack := h.stack
  state := h.state

/-- A register whose value is known from outside the view. -/
theorem Sees.know {st : List Byte} {v : View} {m : Mach} (h : Sees st v m) (r : Nat) (x : Word) (hx : m.reg r = some x) :
    Sees st (v.set r x) m where
  inv := h.inv
  reg r' y hy := by
    simp only [View.set] at hy
    split at hy
    · next e => cases hy; rw [e]; exact hx
    · exact h.reg r' y hy
  stack := h.stack
  state := h.state

theorem Sees.clobber {st : List Byte} {v : View} {m : Mach} (h : Sees st v m) : Sees st v.clobber m.clobber where
  inv := h.inv.clobber
  reg r y hy := by
    simp only [View.clobber] at hy
    split at hy
    · cases hy
    · next e => rw [reg_clobber m r (by omega)]; exact h.reg r y hy
  stack := h.stack
  state := h.state

def Line (env : Env) (st : List Byte) (v : View) (B : List Ev) (v' : View) : Prop :=
  Exits env (Sees st v) B none (Sees st v')

namespace Line
variable {env : Env} {st : List Byte} {v v1 v2 : View} {B B1 B2 : List Ev}

theorem nil : Line env st v [] v := Tri.nil

theorem append (h1 : Line env st v B1 v1) (h2 : Line env st v1 B2 v2) : Line env st v (B1 ++ B2) v2 :=
  Exits.seq h1 (fun _ => h2) fun _ e => nomatch e

theorem cons {e : Ev} (h1 : Line env st v [e] v1) (h2 : Line env st v1 B v2) : Line env st v (e :: B) v2 :=
  append h1 h2

theorem ins {i : Insn} (h : ∀ m nxt, Sees st v m → ∃ m', step env i nxt m = .next m' ∧ Sees st v1 m') :
    Line env st v [.ins i] v1 := by
  intro rest m hS
  obtain ⟨m', e, hS'⟩ := h m (nextIns rest) hS
  exact ⟨none, m', ⟨rfl, hS'⟩, lrun_ins_next e⟩

theorem movImm64 (d : Nat) (imm : Int) (hd : d ≤ 5) : Line env st v [movImm64 d imm] (v.set d (sext32 imm)) :=
  ins fun m nxt h => ⟨_, step_movImm64 env m d 0 imm nxt (by omega), h.set d _ hd⟩

theorem movImm32 (d : Nat) (imm : Int) (hd : d ≤ 5) :
    Line env st v [movImm32 d imm] (v.set d (((sext32 imm).setWidth 32).setWidth 64)) :=
  ins fun m nxt h => ⟨_, step_movImm32 env m d 0 imm nxt (by omega), h.set d _ hd⟩

theorem mov64 (d s : Nat) {a : Word} (hd : d ≤ 5) (ha : v.reg s = some a) : Line env st v [mov64 d s] (v.set d a) :=
  ins fun m nxt h => ⟨_, step_mov64 env m d s 0 0 nxt a (by omega) (h.reg _ _ ha), h.set d _ hd⟩

theorem addImm64 (d : Nat) (imm : Int) {a : Word} (hd : d ≤ 5) (ha : v.reg d = some a) :
    Line env st v [addImm64 d imm] (v.set d (a + sext32 imm)) :=
  ins fun m nxt h => ⟨_, step_addImm64 env m d 0 imm nxt a (by omega) (h.reg _ _ ha), h.set d _ hd⟩

theorem andImm64 (d : Nat) (imm : Int) {a : Word} (hd : d ≤ 5) (ha : v.reg d = some a) :
    Line env st v [andImm64 d imm] (v.set d (a &&& sext32 imm)) :=
  ins fun m nxt h => ⟨_, step_andImm64 env m d 0 imm nxt a (by omega) (h.reg _ _ ha), h.set d _ hd⟩

theorem orImm64 (d : Nat) (imm : Int) {a : Word} (hd : d ≤ 5) (ha : v.reg d = some a) :
    Line env st v [orImm64 d imm] (v.set d (a ||| sext32 imm)) :=
  ins fun m nxt h => ⟨_, step_orImm64 env m d 0 imm nxt a (by omega) (h.reg _ _ ha), h.set d _ hd⟩

theorem shlImm64 (d : Nat) (imm : Int) {a : Word} (hd : d ≤ 5) (ha : v.reg d = some a) :
    Line env st v [shiftLImm64 d imm] (v.set d (a <<< ((sext32 imm).toNat % 64))) :=
  ins fun m nxt h => ⟨_, step_shlImm64 env m d 0 imm nxt a (by omega) (h.reg _ _ ha), h.set d _ hd⟩

theorem add64 (d s : Nat) {a b : Word} (hd : d ≤ 5) (ha : v.reg d = some a) (hb : v.reg s = some b) :
    Line env st v [add64 d s] (v.set d (a + b)) :=
  ins fun m nxt h => ⟨_, step_add64 env m d s 0 0 nxt a b (by omega) (h.reg _ _ ha) (h.reg _ _ hb), h.set d _ hd⟩

theorem and32 (d s : Nat) {a b : Word} (hd : d ≤ 5) (ha : v.reg d = some a) (hb : v.reg s = some b) :
    Line env st v [and32 d s] (v.set d ((a.setWidth 32 &&& b.setWidth 32).setWidth 64)) :=
  ins fun m nxt h => ⟨_, step_and32 env m d s 0 0 nxt a b (by omega) (h.reg _ _ ha) (h.reg _ _ hb), h.set d _ hd⟩

theorem loadImm64 (d x : Nat) (hd : d ≤ 5) :
    Line env st v (loadImm64 d x) (v.set d (imm32 (toInt32 (x / 4294967296)) ++ imm32 (toInt32 x) : BitVec 64)) :=
  fun rest m h => ⟨none, _, ⟨rfl, h.set d _ hd⟩, lrun_loadImm64 env m d x rest (by omega)⟩

theorem loadMapFD (d : Nat) (fd : Int) (hd : d ≤ 5) : Line env st v (loadMapFD d fd) (v.set d (mapHandle fd)) :=
  fun rest m h => ⟨none, _, ⟨rfl, h.set d _ hd⟩, lrun_loadMapFD env m d fd rest (by omega)⟩

/-- Load of `skb->cb[0]` / `skb->cb[1]` through R6. -/
theorem ldCb (d k : Nat) (hd : d ≤ 5) (hk : k = 48 ∨ k = 52) :
    Line env st v [.ins ⟨opLoadReg32, d, 6, (k : Int), 0⟩] (v.set d ((if k = 48 then env.cb0 else env.cb1).setWidth 64)) :=
  ins fun m nxt h => ⟨_, step_ld_cb h.inv.r6 d k 0 nxt (by omega) hk, h.set d _ hd⟩

/-- Load of a packet field (bytes no policy program writes): the value is that of the original state. -/
theorem ldxField (op d k n : Nat) (hop : LdOp op n) (hd : d ≤ 5) (hk : k + n ≤ 512)
    (hs : ∀ j, k ≤ j → j < k + n → Stable j) :
    Line env st v [.ins ⟨op, d, 9, (k : Int), 0⟩] (v.set d (BitVec.ofNat 64 (fieldN st k n))) :=
  ins fun m nxt h => ⟨_, step_ldx_state h.inv op d k n 0 nxt hop (by omega) hk hs,
    h.set d _ hd⟩

/-- Load from the state as it is now. -/
theorem ldxState (op d k n : Nat) (hop : LdOp op n) (hd : d ≤ 5) (hk : k + n ≤ 512) :
    Line env st v [.ins ⟨op, d, 9, (k : Int), 0⟩] (v.set d (BitVec.ofNat 64 (fieldN v.st k n))) :=
  ins fun m nxt h => ⟨_, step_ldx_state_raw h.inv.r9 h.inv.sim.len op d k n 0 nxt hop (by omega) hk,
    h.state ▸ h.set d _ hd⟩

/-- Store to the state through a register holding a state address; the new state must still agree with
the original one in the packet fields (`hsim`: by `StSim.write`, `StSim.writeFlags` of `C11Step`). -/
theorem stxAt (op d s : Nat) (off : Int) (k n : Nat) {p x : Word}
    (hop : StOp op n) (hp : v.reg d = some p) (hx : v.reg s = some x) (ha : p + BitVec.ofInt 64 off = stateW + BitVec.ofNat 64 k)
    (hk : k + n ≤ 512) (hsim : StSim st (writeAt v.st k (toLE x.toNat n))) :
    Line env st v [.ins ⟨op, d, s, off, 0⟩] { v with st := writeAt v.st k (toLE x.toNat n) } :=
  ins fun m nxt h => ⟨_, step_stx_state_at op d s off 0 k n nxt p x hop (h.reg _ _ hp) (h.reg _ _ hx) ha hk,
    { inv := h.inv.setSt _ (h.state ▸ hsim), reg := h.reg, stack := h.stack, state := by rw [h.state] }⟩

theorem stxStack (op s k n : Nat) {x : Word} (hop : StOp op n) (hk : k + n ≤ 512) (hx : v.reg s = some x) :
    Line env st v [.ins ⟨op, 10, s, (k : Int) - 512, 0⟩] { v with stack := writeStack v.stack k (toLE x.toNat n) } :=
  ins fun m nxt h => ⟨_, step_stx_stack h.inv op s k n 0 nxt x hop hk (h.reg _ _ hx),
    { inv := h.inv.setStack _, reg := h.reg, stack := by rw [h.stack], state := h.state }⟩

end Line

theorem Exits.toInv {env : Env} {st : List Byte} {P : Mach → Prop} {B : List Ev} {t : Option Label} {v : View}
    (h : Exits env P B t (Sees st v)) : Exits env P B t (Inv st) :=
  h.weaken (fun _ h => h) fun _ h => h.inv

theorem Exits.jcondV64 {env : Env} {st : List Byte} {v : View} (op d : Nat) (imm : Int) (l : Label) {x : Word} {c : Bool}
    (hop : JOp64 op) (hx : v.reg d = some x) (hc : cond (op / 16) x (sext32 imm) = some c) :
    Exits env (Sees st v) [.jmp ⟨op, d, 0, 0, imm⟩ l] (if c then some l else none) (Sees st v) :=
  Exits.jcond64 op d imm l hop (fun _ h => h.reg _ _ hx) hc

theorem Exits.jcondV32 {env : Env} {st : List Byte} {v : View} (op d : Nat) (imm : Int) (l : Label) {x : Word} {c : Bool}
    (hop : JOp32 op) (hx : v.reg d = some x)
    (hc : cond (op / 16) (x.setWidth 32) ((sext32 imm).setWidth 32) = some c) :
    Exits env (Sees st v) [.jmp ⟨op, d, 0, 0, imm⟩ l] (if c then some l else none) (Sees st v) :=
  Exits.jcond32 op d imm l hop (fun _ h => h.reg _ _ hx) hc

theorem Tri.of_view {env : Env} {st : List Byte} {B : List Ev} {Q : Option Label → Mach → Prop}
    (h : ∀ m, Inv st m → Tri env (Sees st (View.ofInv m)) B Q) : Tri env (Inv st) B Q :=
  fun rest m hI => h m hI rest m (Sees.ofInv hI)

theorem Decides.of_view {env : Env} {st : List Byte} {B : List Ev} {t : Option Label}
    (h : ∀ m, Inv st m → Exits env (Sees st (View.ofInv m)) B t (Inv st)) : Decides env st B t :=
  decides_iff.2 (Tri.of_view h)

theorem Decides.line_then {env : Env} {st : List Byte} {B J : List Ev} {t : Option Label}
    (h : ∀ m, Inv st m → ∃ v, Line env st (View.ofInv m) B v ∧ Exits env (Sees st v) J t (Sees st v)) :
    Decides env st (B ++ J) t :=
  Decides.of_view fun m hI =>
    let ⟨_, hL, hJ⟩ := h m hI
    Exits.seq hL (fun _ => hJ.toInv) fun _ e => nomatch e

end CalicoVerif.C11
