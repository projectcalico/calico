import CalicoVerif.Proofs.C11Log
/-!
C11 — the two ends of the program on the label-level semantics: the header (state-map lookup, which
establishes the builder's invariant) and the footer (store the verdict, tail-call, exits).
-/
namespace CalicoVerif.C11

/-- The header up to the state-map lookup (the key 0 is stored at stack index 508 = 512 + `offStateKey`).
The machine is kept as a literal register file
(normalised after each write), so that every register read is a lookup in an explicit list. -/
theorem lrun_header_call (env : Env) (st : List Byte) (rest : List Ev) :
    lrun env (headerEvs env.c ++ rest) (Mach.init st) =
      lrun env (jumpEqImm64 R0 0 .exit :: mov64 R9 R0 :: .label .policy :: rest)
        ⟨[some (if env.stateOK then stateW else 0), none, none, none, none, none, some ctxW, none, none, none,
          some stackW], writeStack (fun _ => none) 508 (toLE 0 4), st⟩ := by
  simp only [headerEvs, mov64, movImm64, storeStack32, addImm64, call, mk, R1, R2, R6, R10,
    offStateKey, List.cons_append, List.nil_append, List.append_assoc]
  rw [lrun_label]
  refine (lrun_ins_next (step_mov64 env _ 6 1 0 0 _ ctxW (by omega) rfl)).trans ?_
  simp only [Mach.init, Mach.setReg, List.set]
  refine (lrun_ins_next (step_movImm64 env _ 1 0 0 _ (by omega))).trans ?_
  simp only [Mach.setReg, List.set]
  refine (lrun_ins_next (step_stx_stack_raw (h10 := rfl) opStoreReg32 1 508 4 0 _ (sext32 0)
    StOp.w (by omega) rfl)).trans ?_
  refine (lrun_ins_next (step_mov64 env _ 2 10 0 0 _ stackW (by omega) rfl)).trans ?_
  simp only [Mach.setReg, List.set]
  refine (lrun_ins_next (step_addImm64 env _ 2 0 (-4) _ stackW (by omega) rfl)).trans ?_
  simp only [Mach.setReg, List.set]
  refine (lrun_loadMapFD env _ 1 _ _ (by omega)).trans ?_
  simp only [Mach.setReg, List.set]
  refine (lrun_ins_next (step_call_state env _ _ rfl rfl rfl)).trans ?_
  rfl

/-- The header establishes the invariant; the state value the program starts from may already differ from `st` in the
fields that policy code writes (a continuation program of a split build: `st1`). -/
theorem lrun_header_sim (env : Env) (st st1 : List Byte) (hsim : StSim st st1) (hlen : st.length = 512)
    (hs : env.stateOK = true) (rest : List Ev) :
    ∃ m, Inv st m ∧ m.st = st1 ∧ lrun env (headerEvs env.c ++ rest) (Mach.init st1) = lrun env rest m := by
  refine ⟨⟨[some stateW, none, none, none, none, none, some ctxW, none, none, some stateW, some stackW],
    writeStack (fun _ => none) 508 (toLE 0 4), st1⟩,
    { r6 := rfl, r9 := rfl, r10 := rfl, regsLen := rfl, sim := hsim, stLen := hlen }, rfl, ?_⟩
  rw [lrun_header_call, hs]
  simp only [if_true, jumpEqImm64, mov64, mk, mkJ, R0, R9]
  refine (lrun_jcond64 env _ opJumpEqImm64 0 0 stateW false .exit _ JOp64.eq rfl (by decide)).trans ?_
  refine (lrun_ins_next (step_mov64 env _ 9 0 0 0 _ stateW (by omega) rfl)).trans ?_
  rw [lrun_label]
  rfl

theorem lrun_header (env : Env) (st : List Byte) (hlen : st.length = 512) (hs : env.stateOK = true) (rest : List Ev) :
    ∃ m, Inv st m ∧ lrun env (headerEvs env.c ++ rest) (Mach.init st) = lrun env rest m :=
  let ⟨m, hI, _, e⟩ := lrun_header_sim env st st (StSim.refl st hlen) hlen hs rest
  ⟨m, hI, e⟩

theorem lrun_header_fail (env : Env) (st : List Byte) (hs : env.stateOK = false) (rest : List Ev) :
    ∃ m, m.regs.length = 11 ∧ m.st = st ∧
      lrun env (headerEvs env.c ++ rest) (Mach.init st) = goto env .exit (.label .policy :: rest) m := by
  refine ⟨⟨[some 0, none, none, none, none, none, some ctxW, none, none, none, some stackW],
    writeStack (fun _ => none) 508 (toLE 0 4), st⟩, rfl, rfl, ?_⟩
  rw [lrun_header_call, hs]
  simp only [Bool.false_eq_true, if_false, jumpEqImm64, mov64, mk, mkJ, R0, R9]
  refine (lrun_jcond64 env _ opJumpEqImm64 0 0 0 true .exit _ JOp64.eq rfl (by decide)).trans ?_
  rw [if_pos rfl, goto_cons_ins]

theorem getBytes_fieldN (st : List Byte) (k n : Nat) (h : k + n ≤ st.length) :
    (getBytes st k n).map leNat = some (fieldN st k n) := by
  unfold getBytes fieldN
  rw [if_pos h]; rfl

/-- 92 = `stateOffPolResult`. -/
theorem fieldN_pol (st : List Byte) (x : Nat) (hlen : st.length = 512) :
    fieldN (writeAt st 92 (toLE x 4)) 92 4 = x % 4294967296 := by
  have := fieldN_writeAt_same st 92 (toLE x 4) (by rw [toLE_length]; omega)
  rwa [toLE_length, leNat_toLE] at this

theorem rc_after_store (st : List Byte) (x : Nat) (hlen : st.length = 512) :
    (getBytes (writeAt st 92 (toLE x 4)) 92 4).map leNat = some (x % 4294967296) := by
  rw [getBytes_fieldN _ _ _ (by rw [writeAt_length _ _ _ (by rw [toLE_length]; omega)]; omega), fieldN_pol st x hlen]

/-- The value of R3 before the tail call: the configured jump index, or `skb->cb[0/1]`. -/
def blockIdx (env : Env) (jmp : Int) (cb0 : Bool) : Word :=
  if env.c.useJmps then ((sext32 jmp).setWidth 32).setWidth 64
  else (if cb0 then env.cb0 else env.cb1).setWidth 64

/-- The `pol_rc` value as the 32-bit move leaves it in R1. -/
def vWord (v : Int) : Word := ((sext32 v).setWidth 32).setWidth 64

theorem line_blockIdx {env : Env} {st : List Byte} (v : View) (jmp : Int) (cb0 : Bool) :
    Line env st v [if env.c.useJmps then movImm32 R3 jmp else load32 R3 R6 (if cb0 then skbCb0 else skbCb1)]
      (v.set 3 (blockIdx env jmp cb0)) := by
  unfold blockIdx
  by_cases hu : env.c.useJmps = true
  · simp only [hu, if_true]; exact Line.movImm32 3 jmp (by omega)
  · simp only [hu, Bool.false_eq_true, if_false]
    cases cb0
    · exact Line.ldCb 3 52 (by omega) (Or.inr rfl)
    · exact Line.ldCb 3 48 (by omega) (Or.inl rfl)

/-- The verdict is stored (92 = `stateOffPolResult`, which no packet field overlaps); then the tail call
ends the program (machine `mT`) or fails and control falls through (machine `m2`). -/
theorem verdictBlock_run (env : Env) (st : List Byte) (m : Mach) (v jmp : Int) (cb0 : Bool) (rest : List Ev)
    (hI : Inv st m) :
    ∃ mT m2 : Mach, mT.st = writeAt m.st 92 (toLE (vWord v).toNat 4) ∧ Inv st m2 ∧
      m2.st = writeAt m.st 92 (toLE (vWord v).toNat 4) ∧
      lrun env (verdictBlock env.c v jmp (if cb0 then skbCb0 else skbCb1) ++ rest) m =
        if env.tailOK then Outcome.tail env.c.staticJumpMapFD (((blockIdx env jmp cb0).setWidth 32).setWidth 64) mT
        else lrun env rest m2 := by
  let B : List Ev := [movImm32 R1 v, store32 R9 R1 stateOffPolResult, mov64 R1 R6] ++
    (loadMapFD R2 env.c.staticJumpMapFD ++
      [if env.c.useJmps then movImm32 R3 jmp else load32 R3 R6 (if cb0 then skbCb0 else skbCb1)])
  have L : Line env st (View.ofInv m) B _ :=
    (Line.movImm32 1 v (by omega)).cons <|
    (Line.stxAt opStoreReg32 9 1 92 92 4 StOp.w rfl rfl rfl (by omega)
      (hI.sim.write 92 _ (Or.inr (Or.inr ⟨by omega, by rw [toLE_length]; omega⟩)))).cons <|
    (Line.mov64 1 6 (by omega) rfl).cons <| (Line.loadMapFD 2 _ (by omega)).append <| line_blockIdx _ jmp cb0
  obtain ⟨_, m1, ⟨rfl, hS⟩, e⟩ := L (call helperTailCall :: rest) m (Sees.ofInv hI)
  have et := step_tail_static env m1 (blockIdx env jmp cb0) (nextIns rest) (hS.reg 1 _ rfl) (hS.reg 2 _ rfl) (hS.reg 3 _ rfl)
  have hS2 := hS.clobber.set 0 (BitVec.ofInt 64 (-2)) (by omega)
  refine ⟨m1, _, hS.state, hS2.inv, hS2.state, ?_⟩
  have hshape : verdictBlock env.c v jmp (if cb0 then skbCb0 else skbCb1) ++ rest = B ++ (call helperTailCall :: rest) := by
    simp [verdictBlock, B]
  rw [hshape]
  refine e.trans ?_
  by_cases ht : env.tailOK = true
  · rw [ht] at et ⊢; exact lrun_ins_tail et
  · rw [Bool.not_eq_true] at ht; rw [ht] at et ⊢; exact lrun_ins_next et

theorem idx_jmp (j : Int) :
    ((((((sext32 j).setWidth 32).setWidth 64 : Word).setWidth 32).setWidth 64 : Word)).toNat = (BitVec.ofInt 32 j).toNat := by
  rw [sext32_setWidth, setWidth_64_32, BitVec.toNat_setWidth]
  exact Nat.mod_eq_of_lt (Nat.lt_trans (BitVec.isLt _) (by decide))

theorem idx_cb (cb : BitVec 32) : ((((cb.setWidth 64 : Word).setWidth 32).setWidth 64 : Word)).toNat = cb.toNat := by
  rw [setWidth_64_32, BitVec.toNat_setWidth]
  exact Nat.mod_eq_of_lt (Nat.lt_trans cb.isLt (by decide))

theorem lrun_set_exit (env : Env) (m : Mach) (x : Int) (r : List Ev) (hl : m.regs.length = 11) :
    lrun env (movImm64 R0 x :: exitI :: r) m = .exit (sext32 x) (m.setReg 0 (sext32 x)) := by
  unfold movImm64 mk R0
  refine (lrun_ins_next (step_movImm64 env m 0 0 x _ (by omega))).trans ?_
  exact lrun_exit (reg_setReg_eq (by omega))

theorem blockIdx_toNat (env : Env) (j : Int) (cb0 : Bool) :
    (((blockIdx env j cb0).setWidth 32).setWidth 64).toNat =
      if env.c.useJmps then (BitVec.ofInt 32 j).toNat else (if cb0 then env.cb0 else env.cb1).toNat := by
  unfold blockIdx
  by_cases hu : env.c.useJmps = true
  · simp only [hu, if_true]; exact idx_jmp j
  · simp only [hu, Bool.false_eq_true, if_false]; exact idx_cb _

theorem st_setReg (m : Mach) (r : Nat) (v : Word) : (m.setReg r v).st = m.st := rfl

theorem footer_deny (env : Env) (st : List Byte) (m : Mach) (xdp : Bool) (hI : Inv st m) :
    (goto env .deny (footerEvs env.c xdp) m).final env ∧ agreesV env xdp .deny (goto env .deny (footerEvs env.c xdp) m) := by
  rw [footerEvs_eq, goto_label_self]
  obtain ⟨mT, m2, hT, hI2, h2, hrun⟩ := verdictBlock_run env st m policyDeny env.c.denyJmp false
    (exitTargetEvs xdp ++ ((if xdp then [.label .xdpPass, movImm64 R0 2, exitI] else []) ++
        (.label .allow :: (verdictBlock env.c policyAllow env.c.allowJmp skbCb0 ++
          [movImm32 R1 policyTailCallFailed, store32 R9 R1 stateOffPolResult, movImm64 R0 (if xdp then 1 else 2), exitI])))) hI
  have hrc : (getBytes (writeAt m.st 92 (toLE (vWord policyDeny).toNat 4)) 92 4).map leNat = some 2 := by
    rw [rc_after_store m.st _ hI.sim.len]; rfl
  simp only [Bool.false_eq_true, if_false] at hrun
  rw [hrun]
  by_cases ht : env.tailOK = true
  · rw [if_pos ht]
    refine ⟨rfl, _, rfl, ?_⟩
    simp only [expectedObs, ht, if_true, Obs.agrees, hT, hrc, blockIdx_toNat]
    simp
  · rw [if_neg ht]
    simp only [exitTargetEvs, List.cons_append, List.nil_append]
    rw [lrun_label, lrun_set_exit env m2 _ _ hI2.regsLen]
    refine ⟨trivial, _, rfl, ?_⟩
    simp only [expectedObs, ht, Bool.false_eq_true, if_false, Obs.agrees, st_setReg, h2, hrc]
    cases xdp <;> simp [sext32]

theorem goto_allow_footer (env : Env) (xdp : Bool) (m : Mach) :
    goto env .allow (footerEvs env.c xdp) m =
      lrun env (verdictBlock env.c policyAllow env.c.allowJmp skbCb0 ++
        [movImm32 R1 policyTailCallFailed, store32 R9 R1 stateOffPolResult, movImm64 R0 (if xdp then 1 else 2), exitI]) m := by
  rw [footerEvs_eq, goto_cons_label_ne env _ m (by simp),
    goto_append _ m (by rw [labelsOf_verdictBlock]; simp),
    goto_append _ m (by simp [exitTargetEvs, labelsOf, movImm64, exitI, mk]),
    goto_append _ m (by cases xdp <;> simp [labelsOf, movImm64, exitI, mk]),
    goto_label_self]

theorem footer_allow (env : Env) (st : List Byte) (m : Mach) (xdp : Bool) (hI : Inv st m) :
    (goto env .allow (footerEvs env.c xdp) m).final env ∧ agreesV env xdp .allow (goto env .allow (footerEvs env.c xdp) m) := by
  rw [goto_allow_footer]
  obtain ⟨mT, m2, hT, hI2, h2, hrun⟩ := verdictBlock_run env st m policyAllow env.c.allowJmp true
    [movImm32 R1 policyTailCallFailed, store32 R9 R1 stateOffPolResult, movImm64 R0 (if xdp then 1 else 2), exitI] hI
  have hrc : (getBytes (writeAt m.st 92 (toLE (vWord policyAllow).toNat 4)) 92 4).map leNat = some 1 := by
    rw [rc_after_store m.st _ hI.sim.len]; rfl
  simp only [if_true] at hrun
  rw [hrun]
  by_cases ht : env.tailOK = true
  · rw [if_pos ht]
    refine ⟨rfl, _, rfl, ?_⟩
    simp only [expectedObs, ht, if_true, Obs.agrees, hT, hrc, blockIdx_toNat]
    simp
  · rw [if_neg ht]
    -- tail call failed: record PolicyTailCallFailed and drop
    obtain ⟨_, m3, ⟨rfl, hS3⟩, e3⟩ := ((Line.movImm32 (env := env) 1 policyTailCallFailed (by omega)).cons <|
      Line.stxAt opStoreReg32 9 1 92 92 4 StOp.w rfl rfl rfl (by omega)
        (hI2.sim.write 92 _ (Or.inr (Or.inr ⟨by omega, by rw [toLE_length]; omega⟩))))
      [movImm64 R0 (if xdp then 1 else 2), exitI] m2 (Sees.ofInv hI2)
    have e := e3.trans (lrun_set_exit env m3 _ _ hS3.inv.regsLen)
    refine ⟨Eq.mpr (congrArg (Outcome.final env) e) trivial, _, congrArg Outcome.obs e, ?_⟩
    have hrc2 : (getBytes m3.st 92 4).map leNat = some 10 := by
      rw [hS3.state]
      exact (rc_after_store m2.st _ hI2.sim.len).trans rfl
    simp only [expectedObs, ht, Bool.false_eq_true, if_false, Obs.agrees, st_setReg, hrc2]
    cases xdp <;> simp [sext32]

theorem footer_xdp (env : Env) (st : List Byte) (m : Mach) (hI : Inv st m) :
    (goto env .xdpPass (footerEvs env.c true) m).final env ∧
      agreesV env true .xdpPass (goto env .xdpPass (footerEvs env.c true) m) := by
  rw [footerEvs_eq, goto_cons_label_ne env _ m (by simp),
    goto_append _ m (by rw [labelsOf_verdictBlock]; simp),
    goto_append _ m (by simp [exitTargetEvs, labelsOf, movImm64, exitI, mk])]
  simp only [if_true, List.cons_append, List.nil_append]
  rw [goto_label_self, lrun_set_exit env m 2 _ hI.regsLen]
  refine ⟨trivial, _, rfl, ?_⟩
  simp [expectedObs, Obs.agrees, sext32]

theorem footer_out (env : Env) (st : List Byte) (xdp : Bool) (l : Label) (V : Verdict) (hV : vOf l = some V)
    (hx : l = .xdpPass → xdp = true) (m : Mach) (hI : Inv st m) :
    (goto env l (footerEvs env.c xdp) m).final env ∧ agreesV env xdp V (goto env l (footerEvs env.c xdp) m) := by
  cases l <;> simp only [vOf, Option.some.injEq, reduceCtorEq] at hV <;> subst hV
  · exact footer_deny env st m xdp hI
  · exact footer_allow env st m xdp hI
  · rw [hx rfl]; exact footer_xdp env st m hI

end CalicoVerif.C11
