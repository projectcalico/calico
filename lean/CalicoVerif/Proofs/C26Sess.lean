import CalicoVerif.Proofs.C26Loop
/-!
C26 — sessions of one cache: any sequence of calls (each with any script) and stops, `total` being everything the
cache ever put on the results channel.  Two invariants meet here.  `Inv m0 st0` (and `Good`) is relative to the start
of a call, because `runCall` empties `out`: `m0`, `st0` are what downstream held and had been told then.  `SInv` is the
same statement over `total` from the empty view.  What an op needs of the cache it starts on is `Rested` (no list
processing under way; a waiting cache has no revision to resume from, which is what `LoopInv.start` asks): it gives
`Good` at the start of the op (`Rested.start`), the op gives `Good` and `Rested` at its end (`stepOp_good`), and
`SInv.glue` puts that back into `SInv`.  `SessOK` adds the datastore-side account (`sessionSpec`) and that InSync needs a List.
-/
namespace CalicoVerif.C26

/-- One step of a cache's life: a call of `resyncAndLoopReadingFromWatcher` with an arbitrary script, or the
shutdown processing. -/
inductive COp where
  | call (lists : List ListOut) (watches : List WatchOut) (fin : List KV × Nat) (evs : List Ev)
  | stop

/-- The List that finally succeeds carries a real revision (otherwise the real loop polls for ever). -/
def COp.WF : COp → Prop
  | .call _ _ fin _ => fin.2 ≠ 0
  | .stop => True

def WC.stepOp (wc : WC) : COp → WC
  | .call l w f e => runCall wc l w f e
  | .stop => ({ wc with out := [], resets := 0 }).sendDeletionsForAll

structure Sess where
  wc : WC
  total : List Res

def Sess.init (proc : Option Proc) (sendDeletes : Bool) : Sess := ⟨WC.new proc sendDeletes, []⟩

def Sess.step (s : Sess) (op : COp) : Sess := ⟨s.wc.stepOp op, s.total ++ (s.wc.stepOp op).out⟩

def Sess.run (s : Sess) (ops : List COp) : Sess := ops.foldl Sess.step s

structure SInv (s : Sess) : Prop where
  idle : s.wc.old = none
  mirror : ∀ k, downFrom emptyView s.total k = lookup s.wc.res k
  track : lastStatus stWait s.total = s.wc.status
  quiet : quietFrom stWait s.total = true
  owed : s.wc.status = stWait → s.wc.rev = 0

theorem SInv.init (p : Option Proc) (sd : Bool) : SInv (Sess.init p sd) :=
  ⟨rfl, fun _ => rfl, rfl, rfl, fun _ => rfl⟩

structure Rested (wc : WC) : Prop where
  idle : wc.old = none
  owed : wc.status = stWait → wc.rev = 0

theorem SInv.rested {s : Sess} (h : SInv s) : Rested s.wc := ⟨h.idle, h.owed⟩

theorem Rested.start {wc : WC} (h : Rested wc) :
    Good (fun k => lookup wc.res k) wc.status { wc with out := [], resets := 0 } :=
  ⟨⟨fun k hk => absurd (oldLookup_idle h.idle k) hk, fun k => (view_idle h.idle k).symm, rfl, rfl⟩, h.idle⟩

theorem SInv.glue {s : Sess} (h : SInv s) (w : WC)
    (g : Good (fun k => lookup s.wc.res k) s.wc.status w) (r : Rested w) :
    SInv ⟨w, s.total ++ w.out⟩ := by
  have e : downFrom emptyView s.total = fun k => lookup s.wc.res k := funext h.mirror
  refine ⟨r.idle, ?_, ?_, ?_, r.owed⟩
  · intro k
    show downFrom emptyView (s.total ++ w.out) k = lookup w.res k
    rw [downFrom_append, e, g.inv.mirror, g.view_eq]
  · show lastStatus stWait (s.total ++ w.out) = w.status
    rw [lastStatus_append, h.track]; exact g.inv.track
  · show quietFrom stWait (s.total ++ w.out) = true
    rw [quietFrom_append, h.quiet, h.track, g.inv.quiet]; rfl

/-- The resync loop of `runCall` carrying the ghosts; by `resyncLoopG_proj` the same run. -/
def callGhost (wc : WC) (lists : List ListOut) (watches : List WatchOut) (fin : List KV × Nat) :
    Option (WC × Option (List KV) × Bool) :=
  resyncLoopG fin (lists.length + watches.length + 2) { wc with out := [], resets := 0 } false lists watches none false

/-- The LAST snapshot a List successfully returned during the call, before the watch was created
(`none` if the call did not list at all). -/
def lastListed (wc : WC) (lists : List ListOut) (watches : List WatchOut) (fin : List KV × Nat) : Option (List KV) :=
  (callGhost wc lists watches fin).bind (·.2.1)

/-- Did the call complete a List (successfully, or with "backing API not installed")? -/
def callListed (wc : WC) (lists : List ListOut) (watches : List WatchOut) (fin : List KV × Nat) : Bool :=
  ((callGhost wc lists watches fin).map (·.2.2)).getD false

theorem call_spec {wc : WC} (h : Rested wc)
    (lists : List ListOut) (watches : List WatchOut) (fin : List KV × Nat) (evs : List Ev) (hfin : fin.2 ≠ 0) :
    ∃ w1 g b, callGhost wc lists watches fin = some (w1, g, b) ∧
      runCall wc lists watches fin evs = eventLoop w1 evs ∧
      LoopPost (fun k => lookup wc.res k) wc.status { wc with out := [], resets := 0 } w1 g b := by
  have hsome := resyncLoop_some fin hfin (lists.length + watches.length + 2) { wc with out := [], resets := 0 }
    false lists watches (by omega)
  obtain ⟨w1, hw1⟩ := Option.isSome_iff_exists.mp hsome
  obtain ⟨g, b, hr⟩ := resyncLoopG_of_some none false hw1
  exact ⟨w1, g, b, hr, by simp only [runCall, hw1, Option.getD_some], resyncLoopG_post fin _ _ _ _ _ _ _
    (LoopInv.start h.start (fun c => Or.inr (h.owed c)) (Or.inr (by simp))) _ hr⟩

theorem stepOp_good {wc : WC} (h : Rested wc) (op : COp) (hwf : op.WF) :
    Good (fun k => lookup wc.res k) wc.status (wc.stepOp op) ∧ Rested (wc.stepOp op) := by
  cases op with
  | call lists watches fin evs =>
    obtain ⟨w1, _, _, _, hrun, hp⟩ := call_spec h lists watches fin evs hwf
    obtain ⟨g2, st2, _⟩ := eventLoop_ok evs hp.good hp.awake
    simp only [WC.stepOp, hrun]
    exact ⟨g2, g2.idle, fun c => absurd (st2 ▸ c) hp.awake⟩
  | stop =>
    have c := sendDeletionsForAll_ok h.start
    exact ⟨c.good, c.good.idle, fun _ => c.rev⟩

theorem SInv.step {s : Sess} (h : SInv s) (op : COp) (hwf : op.WF) : SInv (s.step op) :=
  h.glue _ (stepOp_good h.rested op hwf).1 (stepOp_good h.rested op hwf).2

/-- The datastore-side account of one op. -/
def specStep (p : Option Proc) (acc : View × PState) (wc : WC) : COp → View × PState
  | .call l w f e =>
    match lastListed wc l w f with
    | some L => ((convSeq p [] (L ++ processed e)).foldl applyKV emptyView, convState p [] (L ++ processed e))
    | none => ((convSeq p acc.2 (processed e)).foldl applyKV acc.1, convState p acc.2 (processed e))
  | .stop => (emptyView, acc.2)

def sessionSpec (p : Option Proc) : Sess → View × PState → List COp → View × PState
  | _, acc, [] => acc
  | s, acc, op :: ops => sessionSpec p (s.step op) (specStep p acc s.wc op) ops

theorem step_effect {s : Sess} (h : SInv s) (op : COp) (hwf : op.WF) :
    (s.step op).wc.proc = s.wc.proc ∧
    (∀ k, lookup (s.step op).wc.res k =
      (specStep s.wc.proc (fun k => lookup s.wc.res k, s.wc.pst) s.wc op).1 k) ∧
    (s.step op).wc.pst = (specStep s.wc.proc (fun k => lookup s.wc.res k, s.wc.pst) s.wc op).2 := by
  cases op with
  | stop =>
    have c := sendDeletionsForAll_ok h.rested.start
    exact ⟨c.keeps.proc, fun k => by show lookup (WC.sendDeletionsForAll _).res k = _; rw [c.res]; rfl, c.keeps.pst⟩
  | call lists watches fin evs =>
    obtain ⟨w1, g, b, hcg, hrun, hp⟩ := call_spec h.rested lists watches fin evs hwf
    have hwc : (s.step (.call lists watches fin evs)).wc = eventLoop w1 evs := by
      simp only [Sess.step, WC.stepOp, hrun]
    obtain ⟨s2, p2⟩ := eventLoop_spec evs hp.good.inv hp.awake
    have g2 := s2.good hp.good.idle
    have hlast : lastListed s.wc lists watches fin = g := by simp [lastListed, hcg]
    -- the loop leaves what its ghost names (`LoopPost.last`); the event loop extends that by the processed events
    have hl := hp.last
    simp only [specStep]
    rw [hlast, hwc, s2.mode, p2, funext (fun k => (g2.view_eq k).symm.trans (s2.view k)), hp.proc]
    refine ⟨rfl, ?_⟩
    revert hl
    cases g with
    | some L =>
      rintro ⟨hv, hps⟩
      simp only at hv hps ⊢
      rw [hps, convSeq_append, convState_append, List.foldl_append, funext hv]
      exact ⟨fun _ => rfl, rfl⟩
    | none =>
      rintro ⟨sr, kp, hrev⟩
      have sp := kp.pst
      simp only at sr sp ⊢
      rw [sp, funext hp.good.view_eq, sr]
      exact ⟨fun _ => rfl, rfl⟩

theorem lastListed_none {s : Sess} (h : SInv s) (lists : List ListOut) (watches : List WatchOut) (fin : List KV × Nat)
    (hfin : fin.2 ≠ 0) (hn : lastListed s.wc lists watches fin = none) : s.wc.rev ≠ 0 := by
  obtain ⟨w1, g, b, hcg, _, hp⟩ := call_spec h.rested lists watches fin [] hfin
  have hl := hp.last
  rw [show g = none by simpa [lastListed, hcg] using hn] at hl
  exact hl.2.2

def opListed (wc : WC) : COp → Bool
  | .call l w f _ => callListed wc l w f
  | .stop => false

def sessionListed : Sess → List COp → Bool
  | _, [] => false
  | s, op :: ops => opListed s.wc op || sessionListed (s.step op) ops

theorem op_insync_listed {s : Sess} (h : SInv s) (op : COp) (hwf : op.WF)
    (hin : Res.status stInSync ∈ (s.wc.stepOp op).out) : opListed s.wc op = true := by
  cases op with
  | stop =>
    rcases noNewInSync_sendDeletionsForAll ({ s.wc with out := [], resets := 0 } : WC) _ hin with h1 | h1
    · cases h1
    · exact absurd rfl h1
  | call lists watches fin evs =>
    obtain ⟨w1, g, b, hcg, hrun, hp⟩ := call_spec h.rested lists watches fin evs hwf
    simp only [WC.stepOp, hrun] at hin
    rcases (hp.silent.step (noNewInSync_eventLoop evs w1)) with h1 | h1
    · simpa [opListed, callListed, hcg] using h1
    · exact absurd hin h1

structure SessOK (p : Option Proc) (s : Sess) (acc : View × PState) (b : Bool) : Prop where
  inv : SInv s
  proc : s.wc.proc = p
  res : ∀ k, lookup s.wc.res k = acc.1 k
  pst : s.wc.pst = acc.2
  silent : Res.status stInSync ∈ s.total → b = true

theorem SessOK.init (p : Option Proc) (sd : Bool) : SessOK p (Sess.init p sd) (emptyView, []) false :=
  ⟨SInv.init p sd, rfl, fun _ => rfl, rfl, fun h => by cases h⟩

theorem SessOK.step {p : Option Proc} {s : Sess} {acc : View × PState} {b : Bool} (h : SessOK p s acc b) (op : COp)
    (hwf : op.WF) : SessOK p (s.step op) (specStep p acc s.wc op) (b || opListed s.wc op) := by
  have silent : Res.status stInSync ∈ (s.step op).total → (b || opListed s.wc op) = true := fun hin =>
    (List.mem_append.mp hin).elim (fun c => by rw [h.silent c]; rfl)
      (fun c => by rw [op_insync_listed h.inv op hwf c, Bool.or_true])
  obtain ⟨hproc, hres, hpst⟩ := step_effect h.inv op hwf
  rw [h.proc, h.pst, funext h.res] at hres hpst
  exact ⟨h.inv.step _ hwf, hproc.trans h.proc, hres, hpst, silent⟩

theorem SessOK.run {p : Option Proc} (ops : List COp) {s : Sess} {acc : View × PState} {b : Bool}
    (h : SessOK p s acc b) (hwf : ∀ op ∈ ops, op.WF) :
    SessOK p (s.run ops) (sessionSpec p s acc ops) (b || sessionListed s ops) := by
  induction ops generalizing s acc b with
  | nil => rw [sessionListed, Bool.or_false]; exact h
  | cons op ops ih =>
    rw [sessionListed, ← Bool.or_assoc]
    exact ih (h.step op (hwf op (List.mem_cons_self ..))) fun o ho => hwf o (List.mem_cons_of_mem _ ho)

theorem SInv.reach (p : Option Proc) (sd : Bool) (ops : List COp) (hwf : ∀ op ∈ ops, op.WF) :
    SInv ((Sess.init p sd).run ops) :=
  ((SessOK.init p sd).run ops hwf).inv

end CalicoVerif.C26
