import CalicoVerif.Model.C38
import CalicoVerif.Proofs.C19
/-!
C38 — the programs of `Model/C38` are unfolded once each; what they do to the blocks is read off the
states they pass through, all of which are `call`s, and they keep whatever every step of `Cas.step` keeps
(`relByHandleSeq_keeps`; at `C19.inv_step` the C19 invariants).  DEL is two `relByHandleSeq` (`delSeq_eq`),
which do nothing where nothing is allocated (`relByHandleSeq_noop`).
The ADD half (`rmw_add_mono` to `add_recorded_stays_live`) is about any run of non-releasing events:
no live count of a handle falls, and what a thread records is live when it is recorded.
-/
open CalicoVerif.Cas CalicoVerif.C19
namespace CalicoVerif.C38

/-- `C19.Inv` under a local name; only its second component `hP.2` (`HEq`) is read here. -/
def P (s : St) : Prop := Inv s

/-- In the code `ReleaseByHandle` visits the keys of the handle object's block map, in Go's iteration order: `order`
has to contain them all. -/
def Covers (s : St) (h : Nat) (order : List Nat) : Prop := ∀ b, hcount s h b ≠ 0 → b ∈ order

theorem call_blk_frame (s : St) (c : Call) {b : Nat} (hk : c.key ≠ .blk b) : (call s c).blk b = s.blk b := by
  unfold call
  cases hs : step s (.call c) with
  | none => rfl
  | some s' =>
    rcases step_cases hs with rfl | ⟨_, he, _⟩ | ⟨_, he, ap⟩
    · rfl
    · cases he
    · cases he; exact ap.write.blk_frame hk

theorem rmw_relh {g1 g2 : List Nat} {h : Nat} {v : Blk} {res : BRes}
    (hr : rmw g1 (.relh h) g2 v = some res) :
    res.need = none ∧
    ∀ h', liveCount h' res.v.slots = if h' = h then 0 else liveCount h' v.slots := by
  obtain ⟨b1, r1, b2, h1, h2, h3, rfl⟩ := rmw_eq_some.1 hr
  obtain ⟨_, rfl⟩ := applyBOp_relh.1 h2
  exact ⟨rfl, fun h' => by rw [liveCount_gc_eq h' h3, liveCount_relhAux, liveCount_gc_eq h' h1]⟩

theorem call_blk_relh (s : St) (t h b r : Nat) (v : Blk) (g1 g2 : List Nat) (res : BRes)
    (hb : s.blk b = some (r, v)) (hr : rmw g1 (.relh h) g2 v = some res) :
    (call s (blockWriteCall t h b r g1 g2 res)).blk b = none ∨
      ∃ r', (call s (blockWriteCall t h b r g1 g2 res)).blk b = some (r', res.v) := by
  have hneed := (rmw_relh hr).1
  unfold blockWriteCall
  cases hd : (res.v.empty && res.v.aff.isNone) with
  | true =>
    -- compare-and-delete at the revision read: outcome `ok`, `blkDelete` arm, the block is removed
    simp [call, step, casOutcome, St.curRev, hb, Verb.isWrite, ownOk, applyWrite, hr, hd, hneed, upd]
  | false =>
    -- compare-and-swap at the revision read: outcome `ok`, `blkRmw` arm needing no credit, `res.v` is stored
    simp [call, step, casOutcome, St.curRev, hb, Verb.isWrite, ownOk, applyWrite, hr, hneed, spend, upd]

theorem decHandle_cases (t h b num : Nat) (s1 : St) (fs : List Bool) :
    (decHandle t h b num s1 fs).1 = s1 ∨ ∃ c, c.key = .hdl h ∧ (decHandle t h b num s1 fs).1 = call s1 c := by
  generalize hR : decHandle t h b num s1 fs = R
  unfold decHandle at hR
  dsimp only at hR
  split at hR
  · subst hR; exact .inl rfl
  · split at hR
    · subst hR; exact .inl rfl
    · split at hR
      · subst hR; exact .inl rfl
      · subst hR; exact .inr ⟨_, rfl, rfl⟩

theorem decHandle_blk (t h b num : Nat) (s1 : St) (fs : List Bool) (b' : Nat) :
    (decHandle t h b num s1 fs).1.blk b' = s1.blk b' := by
  rcases decHandle_cases t h b num s1 fs with e | ⟨c, hk, e⟩ <;> rw [e]
  exact call_blk_frame s1 c (by rw [hk]; exact Key.noConfusion)

/-- `R`, the result of `relBlock … b s fs`, when the block is not written. -/
structure RelSkip (h b : Nat) (s : St) (fs : List Bool) (R : St × List Bool × Bool) : Prop where
  st : R.1 = s
  zero : R.2.2 = false → liveAt s b h = 0
  noop : liveAt s b h = 0 → R = (s, (pop fs).2, (pop fs).1)

/-- … and when it is: the read-modify-write of the stored `(r, v)`, then the handle decrement. -/
structure RelWrite (t h b : Nat) (s : St) (r : Nat) (v : Blk) (g1 g2 : List Nat) (res : BRes) (fs' : List Bool)
    (R : St × List Bool × Bool) : Prop where
  read : s.blk b = some (r, v)
  rmw : rmw g1 (.relh h) g2 v = some res
  live : liveAt s b h ≠ 0
  st : R.1 = (decHandle t h b (liveCount h v.slots) (call s (blockWriteCall t h b r g1 g2 res)) fs').1

theorem relBlock_cases (imm : Bool) (t h b : Nat) (s : St) (fs : List Bool) :
    RelSkip h b s fs (relBlock imm t h b s fs) ∨
      ∃ r v g1 g2 res fs', RelWrite t h b s r v g1 g2 res fs' (relBlock imm t h b s fs) := by
  generalize hR : relBlock imm t h b s fs = R
  unfold relBlock at hR
  dsimp only at hR
  split at hR
  · rename_i hf; subst hR; exact .inl ⟨rfl, (fun hc => by cases hc), fun _ => by rw [hf]⟩
  · rename_i hf
    rw [Bool.not_eq_true] at hf
    split at hR
    · rename_i hb; subst hR; exact .inl ⟨rfl, fun _ => liveAt_none hb h, fun _ => by rw [hf]⟩
    · rename_i r v hb
      have hl := liveAt_some hb h
      split at hR
      · rename_i hz; subst hR; exact .inl ⟨rfl, (fun _ => by rw [hl]; simpa using hz), fun _ => by rw [hf]⟩
      · rename_i hz
        have hz : liveAt s b h ≠ 0 := by rw [hl]; simpa using hz
        split at hR
        · subst hR; exact .inl ⟨rfl, (fun hc => by cases hc), fun h0 => absurd h0 hz⟩
        · rename_i res hr
          split at hR
          · subst hR; exact .inl ⟨rfl, (fun hc => by cases hc), fun h0 => absurd h0 hz⟩
          · subst hR; exact .inr ⟨r, v, _, _, res, _, hb, hr, hz, rfl⟩

theorem relBlock_spec (imm : Bool) (t h b : Nat) (s : St) (fs : List Bool) :
    (∀ b', b' ≠ b → (relBlock imm t h b s fs).1.blk b' = s.blk b') ∧
    (∀ h', liveAt (relBlock imm t h b s fs).1 b h' ≤ liveAt s b h') ∧
    ((relBlock imm t h b s fs).2.2 = false → liveAt (relBlock imm t h b s fs).1 b h = 0) := by
  rcases relBlock_cases imm t h b s fs with sk | ⟨r, v, g1, g2, res, fs', wr⟩
  · rw [sk.st]; exact ⟨fun _ _ => rfl, fun _ => Nat.le_refl _, sk.zero⟩
  · rw [wr.st]
    have hb := wr.read
    have hr := wr.rmw
    have hle : ∀ h', liveAt (call s (blockWriteCall t h b r g1 g2 res)) b h' ≤ liveAt s b h' ∧
        (h' = h → liveAt (call s (blockWriteCall t h b r g1 g2 res)) b h' = 0) := by
      intro h'
      rcases call_blk_relh s t h b r v g1 g2 res hb hr with hn | ⟨r', hs⟩
      · simp only [liveAt_none hn, Nat.zero_le, implies_true, and_self]
      · rw [liveAt_some hs, liveAt_some hb, (rmw_relh hr).2 h']
        split <;> simp [*]
    refine ⟨fun b' hne => ?_, fun h' => ?_, fun _ => ?_⟩
    · rw [decHandle_blk]
      exact call_blk_frame s _ (fun e => hne (Key.blk.inj e).symm)
    · rw [liveAt_of_blk (decHandle_blk ..)]; exact (hle h').1
    · rw [liveAt_of_blk (decHandle_blk ..)]; exact (hle h).2 rfl

theorem relBlocks_cons (imm : Bool) (t h b : Nat) (bs : List Nat) (s : St) (fs : List Bool) :
    relBlocks imm t h (b :: bs) s fs =
      if (relBlock imm t h b s fs).2.2 = true then relBlock imm t h b s fs
      else relBlocks imm t h bs (relBlock imm t h b s fs).1 (relBlock imm t h b s fs).2.1 := by
  rw [relBlocks]
  generalize relBlock imm t h b s fs = R
  obtain ⟨s1, fs1, e⟩ := R
  cases e <;> rfl

theorem relBlocks_spec (imm : Bool) (t h : Nat) : ∀ (order : List Nat) (s : St) (fs : List Bool),
    (∀ b, b ∉ order → (relBlocks imm t h order s fs).1.blk b = s.blk b) ∧
    (∀ b h', liveAt (relBlocks imm t h order s fs).1 b h' ≤ liveAt s b h') ∧
    ((relBlocks imm t h order s fs).2.2 = false → ∀ b ∈ order, liveAt (relBlocks imm t h order s fs).1 b h = 0)
  | [], s, fs => by simp [relBlocks]
  | b :: bs, s, fs => by
    obtain ⟨hfr, hle, hz⟩ := relBlock_spec imm t h b s fs
    have hmono : ∀ b' h', liveAt (relBlock imm t h b s fs).1 b' h' ≤ liveAt s b' h' := by
      intro b' h'
      by_cases e' : b' = b
      · subst e'; exact hle h'
      · rw [liveAt_of_blk (hfr b' e')]; exact Nat.le_refl _
    rw [relBlocks_cons]
    split
    · rename_i he
      refine ⟨fun b' hn => hfr b' (fun e' => hn (e' ▸ List.mem_cons_self ..)), hmono, fun hc => ?_⟩
      rw [he] at hc; cases hc
    · rename_i he
      rw [Bool.not_eq_true] at he
      obtain ⟨ifr, ile, iz⟩ := relBlocks_spec imm t h bs (relBlock imm t h b s fs).1 (relBlock imm t h b s fs).2.1
      refine ⟨fun b' hn => ?_, fun b' h' => Nat.le_trans (ile b' h') (hmono b' h'), fun hok b' hm => ?_⟩
      · rw [ifr b' (fun e' => hn (List.mem_cons_of_mem _ e'))]
        exact hfr b' (fun e' => hn (e' ▸ List.mem_cons_self ..))
      · rcases List.mem_cons.1 hm with rfl | hin
        · exact Nat.le_zero.1 (Nat.le_trans (ile b' h) (Nat.le_of_eq (hz he)))
        · exact iz hok b' hin

theorem relByHandleSeq_eq (imm : Bool) (t h : Nat) (order : List Nat) (s : St) (fs : List Bool) :
    relByHandleSeq imm t h order s fs =
      if (pop fs).1 = true then (s, (pop fs).2, .err)
      else if s.hdl h = none then (s, (pop fs).2, .notExist)
      else ((relBlocks imm t h order s (pop fs).2).1, (relBlocks imm t h order s (pop fs).2).2.1,
            if (relBlocks imm t h order s (pop fs).2).2.2 = true then .err else .ok) := by
  unfold relByHandleSeq
  cases pop fs with
  | mk f0 fs0 =>
  dsimp only
  split
  · rfl
  · split
    · rename_i hn; rw [if_pos hn]
    · rename_i x hs
      rw [if_neg (by rw [hs]; exact Option.some_ne_none _)]
      generalize relBlocks imm t h order s fs0 = R
      obtain ⟨s1, fs1, e⟩ := R
      cases e <;> rfl

/-! Every state the programs pass through is a state of a `Cas.run`: what every step keeps (`hQ`, the
shape `Cas.run_invariant` asks for), the programs keep. -/

theorem call_keeps {Q : St → Prop} (hQ : ∀ {s s' : St} {e : Ev}, Q s → step s e = some s' → Q s')
    {s : St} (c : Call) (h : Q s) : Q (call s c) := by
  unfold call
  cases hs : step s (.call c) with
  | none => exact h
  | some s' => exact hQ h hs

theorem decHandle_keeps {Q : St → Prop} (hQ : ∀ {s s' : St} {e : Ev}, Q s → step s e = some s' → Q s')
    (t h b num : Nat) (s1 : St) (fs : List Bool) (h1 : Q s1) : Q (decHandle t h b num s1 fs).1 := by
  rcases decHandle_cases t h b num s1 fs with e | ⟨c, _, e⟩ <;> rw [e]
  · exact h1
  · exact call_keeps hQ c h1

theorem relBlock_keeps {Q : St → Prop} (hQ : ∀ {s s' : St} {e : Ev}, Q s → step s e = some s' → Q s')
    (imm : Bool) (t h b : Nat) (s : St) (fs : List Bool) (hs : Q s) : Q (relBlock imm t h b s fs).1 := by
  rcases relBlock_cases imm t h b s fs with sk | ⟨r, v, g1, g2, res, fs', wr⟩
  · rw [sk.st]; exact hs
  · rw [wr.st]; exact decHandle_keeps hQ _ _ _ _ _ _ (call_keeps hQ _ hs)

theorem relBlocks_keeps {Q : St → Prop} (hQ : ∀ {s s' : St} {e : Ev}, Q s → step s e = some s' → Q s')
    (imm : Bool) (t h : Nat) : ∀ (order : List Nat) (s : St) (fs : List Bool), Q s →
    Q (relBlocks imm t h order s fs).1
  | [], s, fs, hs => hs
  | b :: bs, s, fs, hs => by
    have h1 := relBlock_keeps hQ imm t h b s fs hs
    rw [relBlocks_cons]
    split
    · exact h1
    · exact relBlocks_keeps hQ imm t h bs _ _ h1

theorem relByHandleSeq_keeps {Q : St → Prop} (hQ : ∀ {s s' : St} {e : Ev}, Q s → step s e = some s' → Q s')
    (imm : Bool) (t h : Nat) (order : List Nat) (s : St) (fs : List Bool) (hs : Q s) :
    Q (relByHandleSeq imm t h order s fs).1 := by
  rw [relByHandleSeq_eq]
  split
  · exact hs
  · split
    · exact hs
    · exact relBlocks_keeps hQ imm t h order s _ hs

theorem P_ge {s : St} (hP : P s) (h : Nat) (hh : h ≠ 0) (b : Nat) : liveAt s b h ≤ hcount s h b := by
  have := hP.2 h b hh
  omega

theorem relByHandle_spec (imm : Bool) (t h : Nat) (hh : h ≠ 0) (order : List Nat) (s : St) (fs : List Bool)
    (hP : P s) (hc : Covers s h order) :
    (∀ b h', liveAt (relByHandleSeq imm t h order s fs).1 b h' ≤ liveAt s b h') ∧
    ((relByHandleSeq imm t h order s fs).2.2 ≠ RelRes.err →
      ∀ b, liveAt (relByHandleSeq imm t h order s fs).1 b h = 0) := by
  generalize hR : relByHandleSeq imm t h order s fs = R
  rw [relByHandleSeq_eq] at hR
  split at hR
  · subst hR; exact ⟨fun _ _ => Nat.le_refl _, fun hne => absurd rfl hne⟩
  · split at hR
    · rename_i hn
      subst hR
      -- no handle record: the count is 0 and bounds the live addresses
      refine ⟨fun _ _ => Nat.le_refl _, fun _ b => Nat.le_zero.1 ?_⟩
      have := P_ge hP h hh b
      rwa [hcount, hn] at this
    · obtain ⟨sfr, sle, sz⟩ := relBlocks_spec imm t h order s (pop fs).2
      subst hR
      refine ⟨sle, fun hne b => ?_⟩
      by_cases he : (relBlocks imm t h order s (pop fs).2).2.2 = true
      · exact absurd (if_pos he) hne
      · rw [Bool.not_eq_true] at he
        by_cases hin : b ∈ order
        · exact sz he b hin
        · -- a block outside the order has count 0, and is left as it was
          have hz : hcount s h b = 0 := Decidable.byContradiction fun hz => hin (hc b hz)
          have := P_ge hP h hh b
          rw [hz] at this
          exact (liveAt_of_blk (sfr b hin) h).trans (Nat.le_zero.1 this)

theorem delSeq_eq (imm : Bool) (t h1 h2 : Nat) (o1 o2 : List Nat) (s : St) (fs : List Bool) :
    delSeq imm t h1 h2 o1 o2 s fs =
      if (relByHandleSeq imm t h1 o1 s fs).2.2 = .err then ((relByHandleSeq imm t h1 o1 s fs).1, false)
      else ((relByHandleSeq imm t h2 o2 (relByHandleSeq imm t h1 o1 s fs).1 (relByHandleSeq imm t h1 o1 s fs).2.1).1,
            decide ((relByHandleSeq imm t h2 o2 (relByHandleSeq imm t h1 o1 s fs).1
              (relByHandleSeq imm t h1 o1 s fs).2.1).2.2 ≠ .err)) := by
  unfold delSeq
  generalize relByHandleSeq imm t h1 o1 s fs = R1
  obtain ⟨s1, fs1, r1⟩ := R1
  cases r1
  case err => rfl
  all_goals
    dsimp only
    generalize relByHandleSeq imm t h2 o2 s1 fs1 = R2
    obtain ⟨s2, fs2, r2⟩ := R2
    cases r2 <;> rfl

theorem relBlocks_noop (imm : Bool) (t h : Nat) : ∀ (order : List Nat) (s : St) (fs : List Bool),
    (∀ b, liveAt s b h = 0) →
    (relBlocks imm t h order s fs).1 = s ∧ relBlocks imm t h order s [] = (s, [], false)
  | [], s, fs, _ => ⟨rfl, rfl⟩
  | b :: bs, s, fs, hz => by
    have ih := relBlocks_noop imm t h bs s
    have hb : ∀ fs, relBlock imm t h b s fs = (s, (pop fs).2, (pop fs).1) := fun fs =>
      (relBlock_cases imm t h b s fs).elim (fun sk => sk.noop (hz b)) (fun ⟨_, _, _, _, _, _, wr⟩ => absurd (hz b) wr.live)
    simp only [relBlocks_cons, hb]
    refine ⟨?_, (ih [] hz).2⟩
    split
    · rfl
    · exact (ih _ hz).1

theorem relByHandleSeq_noop (imm : Bool) (t h : Nat) (order : List Nat) (s : St) (fs : List Bool)
    (hz : ∀ b, liveAt s b h = 0) :
    (relByHandleSeq imm t h order s fs).1 = s ∧
    (relByHandleSeq imm t h order s []).2.2 ≠ RelRes.err ∧ (relByHandleSeq imm t h order s []).2.1 = [] := by
  have nb := relBlocks_noop imm t h order s
  simp only [relByHandleSeq_eq]
  refine ⟨?_, ?_⟩
  · split
    · rfl
    · split
      · rfl
      · exact (nb _ hz).1
  · simp only [pop, Bool.false_eq_true, if_false, (nb [] hz).2]
    split <;> simp

/-- The block operations among the events of an ADD for `h` create no debit token, so they
release nothing. -/
theorem rmw_add_mono {h : Nat} {c : Call} {g1 g2 : List Nat} {op : BOp} {v : Blk} {res : BRes} (hw : WF v)
    (ha : addEv h (.call c) = true) (hp : c.pl = .blkRmw g1 op g2)
    (hr : rmw g1 op g2 v = some res) (h' : Nat) (hh : h' ≠ 0) :
    liveCount h' v.slots ≤ liveCount h' res.v.slots := by
  have hc := rmw_count_eq hw h' hh hr
  have hd : res.debits = [] := by
    obtain ⟨b1, r1, b2, _, h2, _, rfl⟩ := rmw_eq_some.1 hr
    simp only [addEv, hp] at ha
    cases op with
    | assign => obtain ⟨_, rfl⟩ := applyBOp_assign.1 h2; rfl
    | assignIP => obtain ⟨_, rfl⟩ := applyBOp_assignIP.1 h2; rfl
    | clearAff => obtain rfl := applyBOp_clearAff.1 h2; rfl
    | bump => obtain rfl := applyBOp_bump.1 h2; rfl
    | release => cases ha
    | relh => cases ha
  rw [hd] at hc
  simp only [sumFor, Nat.add_zero] at hc
  omega

theorem live_mono_step {s s' : St} {e : Ev} (h : Nat) (hwf : AllWF s) (ha : addEv h e = true)
    (hs : step s e = some s') : ∀ b h', h' ≠ 0 → liveAt s b h' ≤ liveAt s' b h' := by
  intro b h' hh
  rcases step_cases hs with rfl | ⟨_, _, rfl⟩ | ⟨c, rfl, ap⟩
  · exact Nat.le_refl _
  · exact Nat.le_refl _
  · rcases ap.write.blk_cases b with e | on
    · rw [liveAt_of_blk e]; exact Nat.le_refl _
    · cases on with
      | create habs => rw [liveAt_none habs]; exact Nat.zero_le _
      | rmw hp hb hr hb' =>
        rw [liveAt_some hb, liveAt_some hb']
        exact rmw_add_mono (hwf _ _ _ hb) ha hp hr h' hh
      | del hb hg he =>
        rw [liveAt_some hb, ← liveCount_gc_eq h' hg, liveCount_eq_zero he]; exact Nat.zero_le _
      | delOp hp => simp [addEv, hp] at ha

theorem got_new_live {s s' : St} {e : Ev} (h : Nat) (hw : AllWF s) (ha : addEv h e = true)
    (hs : step s e = some s') {t b o : Nat} (hin : (b, o) ∈ s'.got t) (hnot : (b, o) ∉ s.got t) :
    1 ≤ liveAt s' b h := by
  obtain ⟨c, g1, op, g2, v, rfl, own⟩ := got_grows_only_by_own_cas hw hs hin hnot
  have hop : opHandle op = h := by
    simp only [addEv, own.pl] at ha
    rcases own.alloc with ⟨_, _, _, rfl, _⟩ | ⟨_, rfl⟩ <;> simpa [opHandle] using ha
  rw [liveAt_some own.stored]
  exact liveCount_pos (hop ▸ own.live)

theorem allWF_run' {s s' : St} {evs : List Ev} (hw : AllWF s) (h : run s evs = some s') : AllWF s' :=
  allWF_run hw h

/-- The start state is a parameter of the invariant, so that one step's monotonicity suffices. -/
theorem add_recorded_stays_live (h : Nat) (hh : h ≠ 0) (evs : List Ev) (s s' : St) (hw : AllWF s)
    (ha : ∀ e ∈ evs, addEv h e = true) (hr : run s evs = some s') :
    ∀ t b o, (b, o) ∈ s'.got t → (b, o) ∉ s.got t → 1 ≤ liveAt s' b h := by
  refine (run_invariant_on (G := fun e => addEv h e = true)
    (P := fun s1 => AllWF s1 ∧ ∀ t b o, (b, o) ∈ s1.got t → (b, o) ∉ s.got t → 1 ≤ liveAt s1 b h)
    ?_ ha ⟨hw, fun t b o hin hnot => absurd hin hnot⟩ hr).2
  intro s1 s2 e he hP h1
  refine ⟨allWF_step hP.1 h1, fun t b o hin hnot => ?_⟩
  by_cases hin1 : (b, o) ∈ s1.got t
  · exact Nat.le_trans (hP.2 t b o hin1 hnot) (live_mono_step h hP.1 he h1 b h hh)
  · exact got_new_live h hP.1 he h1 hin hin1

end CalicoVerif.C38
