import CalicoVerif.Proofs.C07Index
import CalicoVerif.Proofs.C06Basic
/-! C07: `LabelRestrictions()` never excludes a label map the selector
matches, and neither does the restriction index's candidate pruning. -/
namespace CalicoVerif.C07
open CalicoVerif.C06

structure Sat1 (ls : Labels) (l : Str) (r : Restriction) : Prop where
  present : r.mustBePresent = true → ls l ≠ none
  absent : r.mustBeAbsent = true → ls l = none
  values : ∀ vs, r.values = some vs → ∃ x, ls l = some x ∧ x ∈ vs

def Satisfies (lrs : Restrictions) (ls : Labels) : Prop := ∀ l r, (l, r) ∈ lrs → Sat1 ls l r

theorem sat1_default (ls : Labels) (l : Str) : Sat1 ls l {} := by
  refine ⟨?_, ?_, ?_⟩ <;> simp

theorem sat1_lookup_getD {lrs : Restrictions} {ls : Labels} (h : Satisfies lrs ls) (l : Str) :
    Sat1 ls l ((lookup l lrs).getD {}) := by
  cases hl : lookup l lrs with
  | none => exact sat1_default ls l
  | some r => exact h l r (mem_of_lookup hl)

theorem mem_intersectValues {a b : List Str} {x : Str} (ha : x ∈ a) (hb : x ∈ b) : x ∈ intersectValues a b := by
  simp [intersectValues, ha, hb]

theorem mem_unionValues_left {a b : List Str} {x : Str} (ha : x ∈ a) : x ∈ unionValues a b := by
  simp [unionValues, ha]

theorem mem_unionValues_right {a b : List Str} {x : Str} (hb : x ∈ b) : x ∈ unionValues a b := by
  by_cases ha : x ∈ a
  · exact mem_unionValues_left ha
  · simp [unionValues, ha, hb]

theorem satisfies_andMerge1 {lr : Restrictions} {ls : Labels} (h : Satisfies lr ls) {ln : Str} {r : Restriction}
    (hr : Sat1 ls ln r) : Satisfies (andMerge1 lr ln r) ls := by
  intro l r' hm
  unfold andMerge1 insert at hm
  rcases List.mem_cons.mp hm with e | hm
  · have hb := sat1_lookup_getD h ln
    generalize (lookup ln lr).getD {} = base at hb e
    cases e
    refine ⟨?_, ?_, ?_⟩
    · intro hp
      simp only [Bool.or_eq_true] at hp
      rcases hp with hp | hp
      · exact hb.present hp
      · exact hr.present hp
    · intro hp
      simp only [Bool.or_eq_true] at hp
      rcases hp with hp | hp
      · exact hb.absent hp
      · exact hr.absent hp
    · intro vs hvs
      cases hbv : base.values with
      | none => rw [hbv] at hvs; exact hr.values vs hvs
      | some bv =>
        rw [hbv] at hvs
        obtain ⟨x, hx1, hx2⟩ := hb.values bv hbv
        cases hrv : r.values with
        | none =>
          rw [hrv] at hvs
          cases hvs
          exact ⟨x, hx1, hx2⟩
        | some rv =>
          rw [hrv] at hvs
          cases hvs
          obtain ⟨y, hy1, hy2⟩ := hr.values rv hrv
          rw [hx1] at hy1
          cases hy1
          exact ⟨x, hx1, mem_intersectValues hx2 hy2⟩
  · exact h l r' (mem_erase hm).1

theorem satisfies_andMerge {ls : Labels} : ∀ (opLR lr : Restrictions), Satisfies lr ls → Satisfies opLR ls →
    Satisfies (andMerge lr opLR) ls
  | [], lr, h, _ => h
  | (ln, r) :: rest, lr, h, hop => by
    unfold andMerge
    simp only [List.foldl_cons]
    exact satisfies_andMerge rest _ (satisfies_andMerge1 h (hop ln r (List.mem_cons_self ..)))
      (fun l r' hm => hop l r' (List.mem_cons_of_mem _ hm))

theorem satisfies_orMerge {ls : Labels} {lr opLR : Restrictions}
    (h : Satisfies lr ls ∨ Satisfies opLR ls) : Satisfies (orMerge lr opLR) ls := by
  intro l r' hm
  unfold orMerge at hm
  obtain ⟨⟨l0, r⟩, hmem, hf⟩ := List.mem_filterMap.mp hm
  simp only [Option.map_eq_some_iff, Prod.mk.injEq] at hf
  obtain ⟨r'', hor, rfl, rfl⟩ := hf
  have hL : Satisfies lr ls → Sat1 ls l0 r := fun hs => hs l0 r hmem
  have hR : Satisfies opLR ls → Sat1 ls l0 ((lookup l0 opLR).getD {}) := fun hs => sat1_lookup_getD hs l0
  generalize (lookup l0 opLR).getD {} = opr at hor hR
  unfold orMerge1 at hor
  simp only [] at hor
  split at hor
  · rename_i hpa
    cases hor
    refine ⟨?_, ?_, ?_⟩
    · intro hp
      simp only [Bool.and_eq_true] at hp
      rcases h with hs | hs
      · exact (hL hs).present hp.1
      · exact (hR hs).present hp.2
    · intro hp
      simp only [Bool.and_eq_true] at hp
      rcases h with hs | hs
      · exact (hL hs).absent hp.1
      · exact (hR hs).absent hp.2
    · intro vs hvs
      simp only [] at hvs
      split at hvs
      · cases hvs
      · split at hvs
        · rename_i a b ha hb
          cases hvs
          rcases h with hs | hs
          · obtain ⟨x, hx1, hx2⟩ := (hL hs).values a ha
            exact ⟨x, hx1, mem_unionValues_left hx2⟩
          · obtain ⟨x, hx1, hx2⟩ := (hR hs).values b hb
            exact ⟨x, hx1, mem_unionValues_right hx2⟩
        · cases hvs
  · cases hor

theorem stringSetContains_mem {vs : List Str} {x : Str} (h : stringSetContains vs x = true) : x ∈ vs := by
  unfold stringSetContains at h
  split at h
  · rename_i v hv
    have hm := List.mem_of_find?_eq_some hv
    have : v = x := by simpa using h
    exact this ▸ hm
  · cases h

theorem satisfies_single {ls : Labels} {l : Str} {r : Restriction} (h : Sat1 ls l r) : Satisfies [(l, r)] ls := by
  intro l' r' hm
  simp only [List.mem_singleton, Prod.mk.injEq] at hm
  obtain ⟨rfl, rfl⟩ := hm
  exact h

theorem satisfies_nil (ls : Labels) : Satisfies [] ls := fun _ _ hm => by cases hm

theorem satisfies_restrictionsAnd {ls : Labels} : ∀ (ns : List Node) (acc : Restrictions),
    (∀ n ∈ ns, n.eval ls = true → Satisfies (restrictions n) ls) → Satisfies acc ls →
    Node.evalAll ls ns = true → Satisfies (restrictionsAnd acc ns) ls
  | [], acc, _, hacc, _ => by simpa [restrictionsAnd] using hacc
  | n :: ns, acc, ih, hacc, hev => by
    simp only [Node.evalAll, Bool.and_eq_true] at hev
    rw [restrictionsAnd]
    exact satisfies_restrictionsAnd ns _ (fun m hm => ih m (List.mem_cons_of_mem _ hm))
      (satisfies_andMerge _ _ hacc (ih n (List.mem_cons_self ..) hev.1)) hev.2

theorem satisfies_restrictionsOr {ls : Labels} : ∀ (ns : List Node) (acc : Restrictions),
    (∀ n ∈ ns, n.eval ls = true → Satisfies (restrictions n) ls) →
    (Satisfies acc ls ∨ Node.evalAny ls ns = true) → Satisfies (restrictionsOr acc ns) ls
  | [], acc, _, h => by
    rcases h with h | h
    · simpa [restrictionsOr] using h
    · simp [Node.evalAny] at h
  | n :: ns, acc, ih, h => by
    rw [restrictionsOr]
    apply satisfies_restrictionsOr ns _ (fun m hm => ih m (List.mem_cons_of_mem _ hm))
    rcases h with h | h
    · exact Or.inl (satisfies_orMerge (Or.inl h))
    · simp only [Node.evalAny, Bool.or_eq_true] at h
      rcases h with h | h
      · exact Or.inl (satisfies_orMerge (Or.inr (ih n (List.mem_cons_self ..) h)))
      · exact Or.inr h

theorem sat1_present {ls : Labels} {l x : Str} (hl : ls l = some x) : Sat1 ls l { mustBePresent := true } := by
  refine ⟨fun _ => ?_, fun hh => ?_, fun vs hvs => ?_⟩
  · simp [hl]
  · cases hh
  · cases hvs

theorem sat1_present_values {ls : Labels} {l x : Str} {vs : List Str} (hl : ls l = some x) (hx : x ∈ vs) :
    Sat1 ls l { mustBePresent := true, values := some vs } := by
  refine ⟨fun _ => ?_, fun hh => ?_, fun vs' hvs => ?_⟩
  · simp [hl]
  · cases hh
  · cases hvs; exact ⟨x, hl, hx⟩

theorem sat1_absent {ls : Labels} {l : Str} (hl : ls l = none) : Sat1 ls l { mustBeAbsent := true } := by
  refine ⟨fun hh => ?_, fun _ => hl, fun vs hvs => ?_⟩
  · cases hh
  · cases hvs

theorem restrictions_satisfied (ls : Labels) : ∀ t : Node, t.eval ls = true → Satisfies (restrictions t) ls := by
  intro t
  induction t using Node.ind with
  | eq l v =>
    intro h
    rw [restrictions]
    apply satisfies_single
    simp only [Node.eval] at h
    cases hl : ls l with
    | none => simp [hl] at h
    | some x =>
      simp only [hl, decide_eq_true_eq] at h
      exact sat1_present_values hl (by simp [h])
  | ne l v => intro _; rw [restrictions]; exact satisfies_nil ls
  | contains l v | startsWith l v | endsWith l v =>
    intro h
    rw [restrictions]
    simp only [Node.eval] at h
    cases hl : ls l with
    | none => simp [hl] at h
    | some x => exact satisfies_single (sat1_present hl)
  | inSet l vs =>
    intro h
    rw [restrictions]
    apply satisfies_single
    simp only [Node.eval] at h
    cases hl : ls l with
    | none => simp [hl] at h
    | some x =>
      simp only [hl] at h
      split
      · exact sat1_present hl
      · exact sat1_present_values hl (stringSetContains_mem h)
  | notInSet l vs => intro _; rw [restrictions]; exact satisfies_nil ls
  | has l =>
    intro h
    rw [restrictions]
    obtain ⟨x, hl⟩ := Option.isSome_iff_exists.1 h
    exact satisfies_single (sat1_present hl)
  | all => intro _; rw [restrictions]; exact satisfies_nil ls
  | global => intro _; rw [restrictions]; exact satisfies_nil ls
  | not n _ =>
    intro h
    cases n with
    | has l =>
      rw [restrictions]
      apply satisfies_single
      simp only [Node.eval, Bool.not_eq_true', Option.isSome_eq_false_iff, Option.isNone_iff_eq_none] at h
      exact sat1_absent h
    | _ => rw [restrictions] <;> first | exact satisfies_nil ls | (intro l hh; cases hh)
  | and ns ih =>
    intro h
    rw [restrictions]
    simp only [Node.eval] at h
    exact satisfies_restrictionsAnd ns [] ih (satisfies_nil ls) h
  | or ns ih =>
    intro h
    cases ns with
    | nil => rw [restrictions]; exact satisfies_nil ls
    | cons n ns =>
      rw [restrictions]
      simp only [Node.eval, Node.evalAny, Bool.or_eq_true] at h
      apply satisfies_restrictionsOr ns _ (fun m hm => ih m (List.mem_cons_of_mem _ hm))
      rcases h with h | h
      · exact Or.inl (ih n (List.mem_cons_self ..) h)
      · exact Or.inr h

theorem findMostRestricted_mem : ∀ {lrs : Restrictions} {l : Str} {r : Restriction},
    findMostRestricted lrs = some (l, r) → (l, r) ∈ lrs
  | [], _, _, h => by simp [findMostRestricted] at h
  | (a, b) :: rest, l, r, h => by
    rw [findMostRestricted] at h
    split at h
    · cases h; exact List.mem_cons_self ..
    · rename_i l' r' hrec
      split at h
      · cases h; exact List.mem_cons_self ..
      · cases h; exact List.mem_cons_of_mem _ (findMostRestricted_mem hrec)

theorem ofList_some {kvs : List (Str × Str)} {k v : Str} (h : Labels.ofList kvs k = some v) : (k, v) ∈ kvs := by
  unfold Labels.ofList at h
  simp only [Option.map_eq_some_iff] at h
  obtain ⟨⟨a, b⟩, hf, rfl⟩ := h
  have hm := List.mem_of_find?_eq_some hf
  have hp := List.find?_some hf
  simp only [decide_eq_true_eq] at hp
  subst hp
  exact hm

theorem isCandidate_of_eval (n : Node) (kvs : List (Str × Str))
    (h : n.eval (Labels.ofList kvs) = true) : isCandidate n kvs = true := by
  have hs := restrictions_satisfied (Labels.ofList kvs) n h
  unfold isCandidate filing
  cases hf : findMostRestricted (restrictions n) with
  | none => rfl
  | some p =>
    obtain ⟨l, r⟩ := p
    have hsat := hs l r (findMostRestricted_mem hf)
    simp only []
    have hposs : r.possible = true := by
      unfold Restriction.possible
      simp only [Bool.and_eq_true, Bool.not_eq_true', Bool.and_eq_false_imp]
      refine ⟨fun hp => ?_, ?_⟩
      · cases ha : r.mustBeAbsent with
        | false => rfl
        | true => exact absurd (hsat.absent ha) (hsat.present hp)
      · cases hv : r.values with
        | none => rfl
        | some vs =>
          obtain ⟨x, _, hx⟩ := hsat.values vs hv
          cases vs with
          | nil => cases hx
          | cons _ _ => rfl
    simp only [hposs, Bool.not_true, Bool.false_eq_true, if_false]
    cases hv : r.values with
    | some vs =>
      obtain ⟨x, hx1, hx2⟩ := hsat.values vs hv
      simp only [List.any_eq_true, Bool.and_eq_true, decide_eq_true_eq]
      exact ⟨(l, x), ofList_some hx1, rfl, by simpa using hx2⟩
    | none =>
      by_cases hp : r.mustBePresent = true
      · simp only [hp, if_true]
        cases hl : Labels.ofList kvs l with
        | none => exact absurd hl (hsat.present hp)
        | some x =>
          simp only [List.any_eq_true, decide_eq_true_eq]
          exact ⟨(l, x), ofList_some hl, rfl⟩
      · simp [hp]

end CalicoVerif.C07
