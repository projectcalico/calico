import CalicoVerif.Proofs.C04Refc
/-! C04: the invariant `Inv` — every refcount is the number of contributions of the endpoints that cache the
set (`Core`), and every endpoint's match cache is right (`Lab`), so that every refcount is the number of
contributions the inputs call for (`share`, `Inv.refCount_eq`) — and its preservation by the endpoint operations
(`UpdateEndpointOrSet`, `DeleteEndpoint`, `UpdateParentLabels`, `DeleteParentLabels`); `core_replace` is the step
they share with the IP set scan: one endpoint's entry is replaced and the refcounts move by the difference. -/
namespace CalicoVerif.C04

-- many lemmas of a section need neither `DecidableEq Sel` nor `matchSel`
set_option linter.unusedSectionVars false

section Sums

def sumBy {α : Type} (f : α → Nat) (l : List α) : Nat := (l.map f).sum

@[simp] theorem sumBy_nil {α : Type} (f : α → Nat) : sumBy f [] = 0 := rfl
@[simp] theorem sumBy_cons {α : Type} (f : α → Nat) (a : α) (l : List α) : sumBy f (a :: l) = f a + sumBy f l := by
  simp [sumBy]

theorem sumBy_congr {α : Type} {f g : α → Nat} {l : List α} (h : ∀ p ∈ l, f p = g p) : sumBy f l = sumBy g l := by
  unfold sumBy; rw [List.map_congr_left h]

theorem sumBy_perm {α : Type} (f : α → Nat) {l l' : List α} (h : l.Perm l') : sumBy f l = sumBy f l' :=
  (h.map f).sum_nat

theorem sumBy_map {α β : Type} (f : β → Nat) (g : α → β) (l : List α) :
    sumBy f (l.map g) = sumBy (fun x => f (g x)) l := by
  unfold sumBy; rw [List.map_map]; rfl

theorem le_sumBy {α : Type} (f : α → Nat) {l : List α} {p : α} (h : p ∈ l) : f p ≤ sumBy f l := by
  induction l with
  | nil => cases h
  | cons a l ih =>
    rw [sumBy_cons]
    rcases List.mem_cons.1 h with rfl | h
    · omega
    · have := ih h; omega

theorem sumBy_pos_iff {α : Type} {f : α → Nat} {l : List α} : 0 < sumBy f l ↔ ∃ p ∈ l, 0 < f p := by
  refine ⟨fun h => ?_, fun ⟨_, hp, h⟩ => Nat.lt_of_lt_of_le h (le_sumBy f hp)⟩
  induction l with
  | nil => simp at h
  | cons a l ih =>
    rw [sumBy_cons] at h
    by_cases ha : 0 < f a
    · exact ⟨a, List.mem_cons_self .., ha⟩
    · obtain ⟨p, hp, hf⟩ := ih (by omega)
      exact ⟨p, List.mem_cons_of_mem _ hp, hf⟩

theorem sumBy_split {κ β : Type} [DecidableEq κ] (f : κ × β → Nat) (id : κ) {l : List (κ × β)}
    (nd : (l.map (·.1)).Nodup) :
    sumBy f l = (alGet id l).elim 0 (fun v => f (id, v)) + sumBy f (alErase id l) := by
  cases h : alGet id l with
  | none =>
    rw [alErase_absent (alGet_eq_none_iff.1 h)]
    exact (Nat.zero_add _).symm
  | some v => rw [sumBy_perm f (perm_alGet_erase nd h), sumBy_cons]; rfl

theorem sumBy_zero {α : Type} {f : α → Nat} {l : List α} (h : ∀ p ∈ l, f p = 0) : sumBy f l = 0 := by
  induction l with
  | nil => rfl
  | cons a l ih =>
    rw [sumBy_cons, h a (List.mem_cons_self ..), ih (fun p hp => h p (List.mem_cons_of_mem _ hp))]

end Sums

section CoreInv
variable {Sel : Type} [DecidableEq Sel] (matchSel : Sel → Labels → Bool)

/-- what endpoint `p` adds to the refcount of `(s, m)` -/
def term (st : Idx Sel) (s : String) (m : Member) (p : String × EpData) : Nat :=
  if s ∈ p.2.cached then (contribAt st p.2 s).count m else 0

/-- what the index keeps true of the data stored for an endpoint, whatever the labels -/
structure EpWF (st : Idx Sel) (e : EpData) : Prop where
  cachedNodup : e.cached.Nodup
  cachedPresent : ∀ s ∈ e.cached, (alGet s st.ipsets).isSome = true
  parentsNodup : e.parents.Nodup

theorem EpWF.of_present {st st' : Idx Sel} {e : EpData} (h : EpWF st e)
    (hp : ∀ s, (alGet s st.ipsets).isSome = true → (alGet s st'.ipsets).isSome = true) : EpWF st' e :=
  ⟨h.cachedNodup, fun s hs => hp s (h.cachedPresent s hs), h.parentsNodup⟩

/-- the label-independent part of the invariant -/
structure Core (st : Idx Sel) : Prop where
  wf : WF st
  nb : bad st = false
  epsNodup : (st.eps.map (·.1)).Nodup
  ep : ∀ p ∈ st.eps, EpWF st p.2
  refc : ∀ s m, refCount st s m = sumBy (term st s m) st.eps

/-- endpoint data `e` caches set `s` iff it should -/
def CacheOK (st : Idx Sel) (e : EpData) (s : String) : Prop :=
  (s ∈ e.cached → matchAt matchSel st e s = true) ∧
  (matchAt matchSel st e s = true → contribAt st e s ≠ [] → s ∈ e.cached)

/-- the label-dependent part: every endpoint's match cache is right -/
def Lab (st : Idx Sel) : Prop := ∀ p ∈ st.eps, ∀ s, CacheOK matchSel st p.2 s

structure Inv (st : Idx Sel) : Prop where
  core : Core st
  lab : Lab matchSel st

theorem term_eq_share {st : Idx Sel} {p : String × EpData} {s : String} (h : CacheOK matchSel st p.2 s) (m : Member) :
    term st s m p = share matchSel st s m p.2 := by
  unfold term share
  by_cases hc : s ∈ p.2.cached
  · rw [if_pos hc, if_pos (h.1 hc)]
  · rw [if_neg hc]
    split
    · rw [Classical.byContradiction fun hne => hc (h.2 ‹_› hne)]; rfl
    · rfl

/-- **Reference counts count contributions**, in every state satisfying the invariant. -/
theorem Inv.refCount_eq {st : Idx Sel} (h : Inv matchSel st) (s : String) (m : Member) :
    refCount st s m = sumBy (fun p => share matchSel st s m p.2) st.eps := by
  rw [h.core.refc]
  exact sumBy_congr fun p hp => term_eq_share matchSel (h.lab p hp s) m

theorem share_pos_iff {st : Idx Sel} {s : String} {m : Member} {e : EpData} :
    0 < share matchSel st s m e ↔
      ∃ d, alGet s st.ipsets = some d ∧ matchSel d.sel (effLabels st e) = true ∧ m ∈ contrib e d := by
  unfold share matchAt contribAt
  cases alGet s st.ipsets with
  | none => simp
  | some d =>
    by_cases hm : matchSel d.sel (effLabels st e) = true
    · simp [hm, List.count_pos_iff]
    · simp [hm]

/-- In a state satisfying the invariant, a member has a positive reference count iff some
matching endpoint contributes it. -/
theorem refcounted_iff_contributed {matchSel : Sel → Labels → Bool} {st : Idx Sel} (h : Inv matchSel st)
    (s : String) (m : Member) : 0 < refCount st s m ↔ contributed matchSel st s m := by
  rw [h.refCount_eq, sumBy_pos_iff]
  simp only [share_pos_iff, contributed]

theorem Inv.visible_iff_memberSpec {matchSel : Sel → Labels → Bool} {st : Idx Sel} (h : Inv matchSel st) (s : String)
    (m : Member) : visible st s m ↔ memberSpec matchSel st s m := by
  unfold visible memberSpec
  simp only [refcounted_iff_contributed h]

/-- In every state satisfying the invariant: the strict replay of the log succeeds, the consumer holds each member
once, and holds exactly the specified members. -/
theorem Inv.members_eq_spec {matchSel : Sel → Labels → Bool} {st : Idx Sel} (h : Inv matchSel st) :
    ∃ D, replay st.out = some D ∧ D.Nodup ∧ ∀ s m, (s, m) ∈ D ↔ memberSpec matchSel st s m := by
  obtain ⟨D, hD, hnd, hmem⟩ := members_once_and_alternate h.core.wf
  exact ⟨D, hD, hnd, fun s m => (hmem s m).trans (h.visible_iff_memberSpec s m)⟩

theorem term_congr {st st' : Idx Sel} {s : String} (h : cfgAt st' s = cfgAt st s) (m : Member) (p : String × EpData) :
    term st' s m p = term st s m p := by
  unfold term; rw [contribAt_congr h rfl]

theorem CacheOK_congr {st st' : Idx Sel} {e e' : EpData} {s : String} (h : cfgAt st' s = cfgAt st s)
    (hp : st'.parents = st.parents) (hi : e'.input = e.input) (hc : s ∈ e'.cached ↔ s ∈ e.cached) :
    CacheOK matchSel st' e' s ↔ CacheOK matchSel st e s := by
  unfold CacheOK
  rw [matchAt_congr matchSel h hp hi, contribAt_congr h hi, hc]

theorem lab_transfer {st st' : Idx Sel} (h : Lab matchSel st) (hsub : ∀ p ∈ st'.eps, p ∈ st.eps)
    (hcfg : ∀ s, cfgAt st' s = cfgAt st s) (hpar : st'.parents = st.parents) : Lab matchSel st' :=
  fun p hp s => (CacheOK_congr matchSel (hcfg s) hpar rfl Iff.rfl).2 (h p (hsub p hp) s)

theorem Core.of_eqs {st st' : Idx Sel} (hc : Core st) (hE : EInv st') (heps : st'.eps = st.eps)
    (hb : bad st' = bad st) (hk : SetsNodup st') (hr : RefWF st') (hcfg : ∀ s, cfgAt st' s = cfgAt st s)
    (hrc : ∀ s m, refCount st' s m = refCount st s m) : Core st' where
  wf := ⟨hE, fun p hp => hc.wf.nets p (heps ▸ hp), hk, hr⟩
  nb := hb.trans hc.nb
  epsNodup := heps ▸ hc.epsNodup
  ep p hp := (hc.ep p (heps ▸ hp)).of_present fun s h => by rwa [present_iff_cfg, hcfg, ← present_iff_cfg]
  refc s m := by rw [hrc, heps, sumBy_congr fun p _ => term_congr (hcfg s) m p]; exact hc.refc s m

/-- `cfg`, `parents`: what the match caches are judged by (`CoreKept.cacheOK`) -/
structure CoreKept (st st' : Idx Sel) : Prop where
  core : Core st'
  cfg : ∀ s, cfgAt st' s = cfgAt st s
  parents : st'.parents = st.parents

theorem CoreKept.refl {st : Idx Sel} (hc : Core st) : CoreKept st st := ⟨hc, fun _ => rfl, rfl⟩

theorem CoreKept.cacheOK {st st' : Idx Sel} (k : CoreKept st st') {e : EpData} {s : String} (h : CacheOK matchSel st e s) :
    CacheOK matchSel st' e s :=
  (CacheOK_congr matchSel (k.cfg s) k.parents rfl Iff.rfl).2 h

theorem recalc_eq (o : EpData) (st : Idx Sel) :
    recalc o st = o.cached.map (fun s => (s, contribAt st o s)) := rfl

theorem recalc_keys (o : EpData) (st : Idx Sel) : (recalc o st).map (·.1) = o.cached := by
  rw [recalc_eq, List.map_map]; simp [Function.comp_def]

theorem mem_recalc {o : EpData} {st : Idx Sel} {p : String × List Member} (h : p ∈ recalc o st) :
    p.1 ∈ o.cached ∧ p.2 = contribAt st o p.1 := by
  rw [recalc_eq] at h
  obtain ⟨s, hs, rfl⟩ := List.mem_map.1 h
  exact ⟨hs, rfl⟩

theorem oldCount_recalc (o : EpData) (st : Idx Sel) (nd : o.cached.Nodup) (s : String) (m : Member) :
    oldCount (recalc o st) s m = if s ∈ o.cached then (contribAt st o s).count m else 0 := by
  unfold oldCount
  by_cases hs : s ∈ o.cached
  · have : alGet s (recalc o st) = some (contribAt st o s) :=
      alGet_of_mem (by rw [recalc_keys]; exact nd) (by rw [recalc_eq]; exact List.mem_map.2 ⟨s, hs, rfl⟩)
    rw [this, if_pos hs]
  · cases h : alGet s (recalc o st) with
    | none => rw [if_neg hs]
    | some v => exact absurd (mem_recalc (alGet_some_mem h)).1 hs

theorem recalcPanics_false {o : EpData} {st : Idx Sel}
    (h : ∀ s ∈ o.cached, (alGet s st.ipsets).isSome = true) : recalcPanics o st = false := by
  unfold recalcPanics
  rw [List.any_eq_false]
  intro s hs
  rw [Option.isNone_eq_false_iff.2 (h s hs)]; exact Bool.noConfusion

theorem discardPanics_nodup {l : List String} (h : l.Nodup) (id : String) (st : Idx Sel) :
    discardPanics id l st = false := by
  unfold discardPanics
  rw [List.any_eq_false]
  intro p _
  have h2 : decide (2 ≤ l.count p) = false := by rw [h.count]; split <;> simp
  simp [h2]

/-- the contributions to take back -/
def oldList (oldE : Option EpData) (st : Idx Sel) : List (String × List Member) :=
  match oldE with
  | some o => recalc o st
  | none => []

/-- what is known of the list `decrefOld` is given for endpoint `id`: the guards of `decrefOld_counted`, and that it takes
back exactly the endpoint's present term, which was counted -/
structure OldListOK (st : Idx Sel) (id : String) (old : Option EpData) : Prop where
  nodup : ((oldList old st).map (·.1)).Nodup
  covered : ∀ p ∈ oldList old st, ∀ m, p.2.count m ≤ refCount st p.1 m
  count : ∀ s m, oldCount (oldList old st) s m = old.elim 0 (fun o => term st s m (id, o))
  le : ∀ s m, old.elim 0 (fun o => term st s m (id, o)) ≤ refCount st s m

theorem oldList_spec {st : Idx Sel} (hc : Core st) (id : String) : OldListOK st id (alGet id st.eps) := by
  cases h : alGet id st.eps with
  | none => exact ⟨List.nodup_nil, fun p hp => (nomatch hp), fun _ _ => rfl, fun _ _ => Nat.zero_le _⟩
  | some o =>
    have hmem := alGet_some_mem h
    have hnd := (hc.ep _ hmem).cachedNodup
    have hle : ∀ s m, term st s m (id, o) ≤ refCount st s m := fun s m => hc.refc s m ▸ le_sumBy _ hmem
    refine ⟨by rw [oldList, recalc_keys]; exact hnd, fun p hp m => ?_, oldCount_recalc o st hnd, hle⟩
    obtain ⟨h1, h2⟩ := mem_recalc hp
    have := hle p.1 m
    rwa [term, if_pos h1, ← h2] at this

/-- Endpoint `id`'s entry is replaced by `new` (or dropped) and, in a state `x` that may differ from the result in
the endpoint table, the refcounts have moved by the difference of the entry's terms: the bookkeeping survives. -/
theorem core_replace {st x st' : Idx Sel} (hc : Core st) (id : String) (new : Option EpData)
    (hx : WF x) (hb : bad x = false) (hsame : SameButEps x st') (hcfg : ∀ s, cfgAt x s = cfgAt st s)
    (hperm : st'.eps.Perm (new.elim (alErase id st.eps) fun e => (id, e) :: alErase id st.eps))
    (hnew : ∀ e ∈ new, EpWF x e ∧ ∀ c ∈ e.nets, c.canon)
    (hrefc : ∀ s m, refCount x s m + (alGet id st.eps).elim 0 (fun o => term st s m (id, o))
        = refCount st s m + new.elim 0 (fun e => term st s m (id, e))) : Core st' := by
  have hcfg' : ∀ s, cfgAt st' s = cfgAt st s := fun s => (hsame.cfg s).trans (hcfg s)
  have hpres : ∀ s, (alGet s st.ipsets).isSome = true → (alGet s st'.ipsets).isSome = true := fun s h => by
    rwa [present_iff_cfg, hcfg', ← present_iff_cfg]
  have hmem : ∀ p ∈ st'.eps, (∃ e ∈ new, p = (id, e)) ∨ p ∈ alErase id st.eps := fun p hp => by
    have := hperm.mem_iff.1 hp
    cases new with
    | none => exact Or.inr this
    | some e => exact (List.mem_cons.1 this).imp (fun h => ⟨e, rfl, h⟩) fun h => h
  refine ⟨wf_of_sameButEps hx hsame fun p hp c hcn => ?_, hsame.bad.trans hb,
    ?_, fun p hp => ?_, fun s m => ?_⟩
  · rcases hmem p hp with ⟨e, he, rfl⟩ | h
    · exact (hnew e he).2 c hcn
    · exact hc.wf.nets p (mem_alErase h) c hcn
  · refine (hperm.map (fun (q : String × EpData) => q.1)).nodup_iff.2 ?_
    cases new with
    | none => exact keys_alErase_nodup hc.epsNodup
    | some e => exact List.nodup_cons.2 ⟨not_mem_keys_alErase id _, keys_alErase_nodup hc.epsNodup⟩
  · rcases hmem p hp with ⟨e, he, rfl⟩ | h
    · exact (hnew e he).1.of_present fun s hs => by rwa [hsame.ipsets]
    · exact (hc.ep p (mem_alErase h)).of_present hpres
  · have := hrefc s m
    rw [hc.refc, sumBy_split _ id hc.epsNodup] at this
    rw [hsame.refCount, sumBy_perm _ hperm, sumBy_congr (fun p _ => term_congr (hcfg' s) m p)]
    cases new with
    | none => simp only [Option.elim] at this ⊢; omega
    | some e => simp only [Option.elim, sumBy_cons] at this ⊢; omega

/-- Assembly for `UpdateEndpointOrSet` and `updateParent`: scan data `e` for endpoint `id` against the IP sets,
taking back the contributions of the data stored for `id` so far (if any), and store the result under `id`.
`st` is `st0` with whatever endpoint table the caller has at that moment (the scan does not read it). -/
theorem core_after_scan {st0 : Idx Sel} (hc : Core st0) (id : String) (e : EpData)
    (hn : ∀ c ∈ e.nets, c.canon) (hpn : e.parents.Nodup)
    {st : Idx Sel} (hst : SameButEps st0 st) (hw : WF st) (st' : Idx Sel)
    (hsame : SameButEps (scanEp matchSel e (oldList (alGet id st0.eps) st0) st).1 st')
    (hperm : st'.eps.Perm
      ((id, (scanEp matchSel e (oldList (alGet id st0.eps) st0) st).2) :: alErase id st0.eps)) :
    CoreKept st0 st' ∧ ∀ s, CacheOK matchSel st' (scanEp matchSel e (oldList (alGet id st0.eps) st0) st).2 s := by
  have hrc0 : ∀ s m, refCount st s m = refCount st0 s m := hst.refCount
  have ol := oldList_spec hc id
  have sp := scanEp_spec matchSel st e _ hw
    (hst.bad.trans hc.nb) hn ol.nodup
    (fun p hp m' => by rw [hrc0]; exact ol.covered p hp m')
  have hi := scanEp_input matchSel e (oldList (alGet id st0.eps) st0) st
  generalize scanEp matchSel e (oldList (alGet id st0.eps) st0) st = r at *
  have hcfg : ∀ s, cfgAt r.1 s = cfgAt st0 s := fun s => (sp.eff.cfg s).trans (hst.cfg s)
  have hpar : st'.parents = st0.parents := (hsame.parents.trans sp.eff.parents).trans hst.parents
  -- transport from `st` to `st0` (they differ in the endpoint table only)
  have cached_iff : ∀ s, s ∈ r.2.cached ↔ matchAt matchSel st0 e s = true := fun s => by
    rw [sp.cached_iff, matchAt_congr matchSel (hst.cfg s) hst.parents rfl]
  obtain ⟨_, n1, _, q1⟩ := EpData.input_eq.1 hi
  refine ⟨⟨core_replace hc id (some r.2) sp.wf sp.nb hsame hcfg hperm ?_ fun s m => ?_,
    fun s => (hsame.cfg s).trans (hcfg s), hpar⟩, fun s => ?_⟩
  · rintro _ ⟨⟩
    refine ⟨⟨sp.cachedNodup, fun s hs => ?_, q1 ▸ hpn⟩, n1 ▸ hn⟩
    rw [present_iff_cfg, hcfg, ← present_iff_cfg]
    exact matchAt_present matchSel ((cached_iff s).1 hs)
  · -- what the scan added is the new term of `id`, what it took back the old one
    have hnew : term st0 s m (id, r.2) = share matchSel st0 s m e := by
      unfold term share
      rw [contribAt_congr rfl hi]
      by_cases hm : matchAt matchSel st0 e s = true
      · rw [if_pos hm, if_pos ((cached_iff s).2 hm)]
      · rw [if_neg hm, if_neg fun h => hm ((cached_iff s).1 h)]
    have hle := ol.le s m
    rw [sp.refc, hrc0, share_congr matchSel (hst.cfg s) hst.parents rfl, ol.count, Option.elim, hnew]
    omega
  · have hM' : matchAt matchSel st' r.2 s = matchAt matchSel st0 e s :=
      matchAt_congr matchSel ((hsame.cfg s).trans (hcfg s)) hpar hi
    unfold CacheOK
    rw [hM']
    exact ⟨(cached_iff s).1, fun h _ => (cached_iff s).2 h⟩

theorem updateEndpointCore_inv {st : Idx Sel} (id : String) (labels : Labels) (nets : List Cidr) (ports : List Port)
    (parents : List String) (h : Inv matchSel st) (hn : ∀ c ∈ nets, c.canon) (hpn : parents.Nodup) :
    Inv matchSel (updateEndpointCore matchSel id labels nets ports parents st) := by
  have hc := h.core
  -- unless short-circuited, the update scans the new data in the state without `id` and stores the result
  have key : ∀ r, r = scanEp matchSel ⟨labels, nets, ports, parents, []⟩ (oldList (alGet id st.eps) st)
      { st with eps := alErase id st.eps } → Inv matchSel { r.1 with eps := alSet id r.2 r.1.eps } := by
    intro r hr
    have heps : r.1.eps = alErase id st.eps := hr ▸ (scanEp_refcOnly matchSel _ _ _).frame.eps
    obtain ⟨k, hok⟩ := core_after_scan matchSel hc id ⟨labels, nets, ports, parents, []⟩ hn hpn
      (st := { st with eps := alErase id st.eps }) (.of_eps _ _)
      (wf_of_sameButEps hc.wf (.of_eps _ _) fun p hp => hc.wf.nets p (mem_alErase hp))
      { r.1 with eps := alSet id r.2 r.1.eps } (hr ▸ .of_eps _ _)
      (by subst hr; show (alSet id _ _).Perm _; rw [heps, alSet, alErase_idem])
    subst hr
    refine ⟨k.core, fun p hp s => ?_⟩
    have hp' : p ∈ alSet id _ (alErase id st.eps) := heps ▸ hp
    rcases mem_alSet hp' with rfl | hp'
    · exact hok s
    · exact k.cacheOK matchSel (h.lab p (mem_alErase hp') s)
  unfold updateEndpointCore
  cases hget : alGet id st.eps with
  | none =>
    have := key _ rfl
    rw [hget, alErase_absent (alGet_eq_none_iff.1 hget)] at this
    exact this
  | some old =>
    dsimp only
    split
    · exact h
    · have hmem : (id, old) ∈ st.eps := alGet_some_mem hget
      simp only [recalcPanics_false (hc.ep _ hmem).cachedPresent, Bool.false_eq_true, if_false,
        discardPanics_nodup ((hc.ep _ hmem).parentsNodup.filter _)]
      have := key _ rfl
      rw [hget] at this
      exact this

theorem dedupParents_nodup (l : List String) : (dedupParents l).Nodup := by
  refine List.foldlRecOn (motive := List.Nodup) l _ List.nodup_nil fun acc h a _ => ?_
  split
  · exact h
  · exact List.nodup_append.2 ⟨h, by simp, fun x hx y hy e => by
      rw [List.mem_singleton.1 hy] at e; exact ‹a ∉ acc› (e ▸ hx)⟩

theorem mem_dedupParents (l : List String) (p : String) : p ∈ dedupParents l ↔ p ∈ l := by
  have : ∀ (l acc : List String),
      p ∈ l.foldl (fun acc p => if p ∈ acc then acc else acc ++ [p]) acc ↔ p ∈ acc ∨ p ∈ l := by
    intro l
    induction l with
    | nil => intro acc; simp
    | cons a l ih =>
      intro acc
      rw [List.foldl_cons, ih]
      by_cases ha : a ∈ acc
      · rw [if_pos ha, List.mem_cons]
        exact ⟨fun h => h.imp_right Or.inr, fun h => h.elim Or.inl fun h => h.elim (fun e => Or.inl (e ▸ ha)) Or.inr⟩
      · simp only [ha, if_false, List.mem_append, List.mem_cons, List.not_mem_nil, or_false, or_assoc]
  unfold dedupParents
  simpa using this l []

theorem dedupParents_of_nodup {l : List String} (h : l.Nodup) : dedupParents l = l := by
  have : ∀ (l acc : List String), (acc ++ l).Nodup →
      l.foldl (fun acc p => if p ∈ acc then acc else acc ++ [p]) acc = acc ++ l := by
    intro l
    induction l with
    | nil => intro acc _; simp
    | cons a l ih =>
      intro acc h
      rw [List.foldl_cons]
      have ha : a ∉ acc := by
        intro hm
        rw [List.nodup_append] at h
        exact h.2.2 a hm a (List.mem_cons_self ..) rfl
      simp only [ha, if_false]
      rw [ih (acc ++ [a]) (by simpa [List.append_assoc] using h)]
      simp [List.append_assoc]
  simpa [dedupParents] using this l [] (by simpa using h)

theorem updateEndpoint_inv {st : Idx Sel} (id : String) (labels : Labels) (nets : List Cidr) (ports : List Port)
    (parents : List String) (h : Inv matchSel st) (hn : ∀ c ∈ nets, c.canon) :
    Inv matchSel (updateEndpoint matchSel id labels nets ports parents st) :=
  updateEndpointCore_inv matchSel id labels nets ports (dedupParents parents) h hn (dedupParents_nodup parents)

theorem deleteEndpoint_inv {st : Idx Sel} (id : String) (h : Inv matchSel st) :
    Inv matchSel (deleteEndpoint id st) := by
  have hc := h.core
  unfold deleteEndpoint
  cases hget : alGet id st.eps with
  | none => exact h
  | some old =>
    have hmem : (id, old) ∈ st.eps := alGet_some_mem hget
    simp only [recalcPanics_false (hc.ep _ hmem).cachedPresent, Bool.false_eq_true, if_false,
      discardPanics_nodup (hc.ep _ hmem).parentsNodup]
    have ol := oldList_spec hc id
    rw [hget] at ol
    have od := decrefOld_counted (recalc old st) ol.nodup ol.covered
    have eff := od.eff
    have hb1 : bad (decrefOld (recalc old st) st) = false := eff.bad.trans hc.nb
    refine ⟨core_replace hc id none (wf_of_good (decrefOld_good (Or.inr hc.wf)) hb1) hb1
        (.of_eps _ _) eff.cfg (by rw [eff.eps]; exact .refl _) (fun _ h => nomatch h) fun s m => ?_,
      lab_transfer matchSel h.lab (fun p hp => mem_alErase (eff.eps ▸ hp)) eff.cfg eff.parents⟩
    have ho : oldCount (recalc old st) s m = term st s m (id, old) := ol.count s m
    have hle : term st s m (id, old) ≤ refCount st s m := ol.le s m
    rw [od.refc, hget, ho]
    simp only [Option.elim]
    omega

/-- one iteration of `updateParent` -/
theorem rescanEp_spec {st : Idx Sel} (id : String) (hc : Core st) :
    CoreKept st (rescanEp matchSel id st) ∧
    ∀ p ∈ (rescanEp matchSel id st).eps,
      (p.1 = id ∧ ∀ s, CacheOK matchSel (rescanEp matchSel id st) p.2 s) ∨ (p ∈ st.eps ∧ p.1 ≠ id) := by
  unfold rescanEp
  cases hget : alGet id st.eps with
  | none =>
    exact ⟨.refl hc, fun p hp => Or.inr ⟨hp, fun hk => alGet_eq_none_iff.1 hget (List.mem_map.2 ⟨p, hp, hk⟩)⟩⟩
  | some e =>
    have hmem : (id, e) ∈ st.eps := alGet_some_mem hget
    simp only [recalcPanics_false (hc.ep _ hmem).cachedPresent, Bool.false_eq_true, if_false]
    have heps : (scanEp matchSel e (recalc e st) st).1.eps = st.eps := (scanEp_refcOnly matchSel _ _ st).frame.eps
    have key := core_after_scan matchSel hc id e (hc.wf.nets _ hmem) (hc.ep _ hmem).parentsNodup
      (.refl st) hc.wf
    rw [hget] at key
    obtain ⟨k, hok⟩ := key
      { (scanEp matchSel e (recalc e st) st).1 with
        eps := alMod id (fun _ => (scanEp matchSel e (recalc e st) st).2) (scanEp matchSel e (recalc e st) st).1.eps }
      (.of_eps _ _) (by
        dsimp only
        rw [heps]; exact perm_alMod hc.epsNodup hget)
    refine ⟨k, fun p hp => ?_⟩
    have hp2 : p ∈ alMod id (fun _ => (scanEp matchSel e (recalc e st) st).2) st.eps := heps ▸ hp
    rcases mem_alMod hp2 with h | ⟨v, _, rfl⟩
    · exact Or.inr h
    · exact Or.inl ⟨rfl, hok⟩

theorem rescanFold_inv (ids : List String) (st : Idx Sel) (hc : Core st)
    (hq : ∀ p ∈ st.eps, p.1 ∈ ids ∨ ∀ s, CacheOK matchSel st p.2 s) :
    Inv matchSel (ids.foldl (fun st id => rescanEp matchSel id st) st) := by
  induction ids generalizing st with
  | nil => exact ⟨hc, fun p hp s => (hq p hp).elim (fun h => nomatch h) fun h => h s⟩
  | cons id ids ih =>
    obtain ⟨k, hmem⟩ := rescanEp_spec matchSel id hc
    refine ih _ k.core fun p hp => ?_
    rcases hmem p hp with ⟨_, hok⟩ | ⟨hp0, hne⟩
    · exact Or.inr hok
    · rcases hq p hp0 with h | h
      · exact Or.inl ((List.mem_cons.1 h).resolve_left hne)
      · exact Or.inr fun s => k.cacheOK matchSel (h s)

/-- `UpdateParentLabels` keeps the invariant: only endpoints that list the parent see other labels, and
exactly those are rescanned. -/
theorem updateParentLabels_inv {st : Idx Sel} (pid : String) (labels : Labels) (h : Inv matchSel st) :
    Inv matchSel (updateParentLabels matchSel pid labels st) := by
  have hc := h.core
  unfold updateParentLabels
  split
  · exact h
  · refine rescanFold_inv matchSel _ _ (hc.of_eqs (einv_congr hc.wf.e rfl rfl (fun _ => rfl) (fun _ _ => Iff.rfl))
      rfl rfl hc.wf.sets hc.wf.refwf (fun _ => rfl) fun _ _ => rfl) fun p hp => ?_
    by_cases hpp : pid ∈ p.2.parents
    · exact Or.inl (List.mem_map.2 ⟨p, List.mem_filter.2 ⟨hp, by simpa using hpp⟩, rfl⟩)
    · refine Or.inr fun s => ?_
      have hE : effLabels ({ st with parents := alSet pid labels st.parents } : Idx Sel) p.2 = effLabels st p.2 :=
        effLabels_congr_on rfl rfl fun x hx => by
          unfold parentLabels
          rw [alGet_alSet, if_neg fun (e : x = pid) => hpp (e ▸ hx)]
      have := h.lab p hp s
      unfold CacheOK at this ⊢
      have hcfg : cfgAt ({ st with parents := alSet pid labels st.parents } : Idx Sel) s = cfgAt st s := rfl
      rwa [matchAt_congr_eff matchSel hcfg hE, contribAt_congr hcfg rfl]

theorem deleteParentLabels_inv {st : Idx Sel} (pid : String) (h : Inv matchSel st) :
    Inv matchSel (deleteParentLabels matchSel pid st) :=
  updateParentLabels_inv matchSel pid [] h

theorem inv_new (matchSel : Sel → Labels → Bool) (b : Bool) : Inv matchSel (Idx.new Sel b) :=
  ⟨⟨wf_new b, rfl, List.nodup_nil, fun p hp => (by cases hp), fun s m => (by simp [Idx.new, refCount])⟩,
    fun p hp => (by cases hp)⟩

end CoreInv
end CalicoVerif.C04
