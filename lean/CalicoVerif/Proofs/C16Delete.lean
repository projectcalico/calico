import CalicoVerif.Proofs.C16State
/-!
C16 — the two deletion loops (`tryTempDeletions` inside `ApplyUpdates`, and `ApplyDeletions`).  Each walks
its candidates in hint order and destroys at most what it was given: the kernel afterwards is the kernel
before minus some candidates (`Gone`).  Since candidates are never desired, and are names Felix owns, both
loops are `Safe`; `TD` and `AD` say what else the convergence argument needs of them.
-/
namespace CalicoVerif.C16

def Gone (C : String → Prop) (K K' : Kernel) : Prop := ∀ x, K'.get x = K.get x ∨ (K'.get x = none ∧ C x)

theorem Gone.refl (C : String → Prop) (K : Kernel) : Gone C K K := fun _ => Or.inl rfl

theorem Gone.trans {C : String → Prop} {K1 K2 K3 : Kernel} (h1 : Gone C K1 K2) (h2 : Gone C K2 K3) : Gone C K1 K3 :=
  fun x => (h2 x).elim (fun e => (h1 x).imp (e.trans ·) fun h => ⟨e.trans h.1, h.2⟩) Or.inr

theorem Gone.mono {C C' : String → Prop} {K K' : Kernel} (h : Gone C K K') (hC : ∀ x, C x → C' x) : Gone C' K K' :=
  fun x => (h x).imp_right fun h => ⟨h.1, hC x h.2⟩

theorem Gone.erase {C : String → Prop} (K : Kernel) {d : String} (hd : C d) : Gone C K (K.erase d) := fun x => by
  rw [Map.get_erase]
  split
  · exact Or.inr ⟨rfl, ‹x = d› ▸ hd⟩
  · exact Or.inl rfl

theorem Gone.get {C : String → Prop} {K K' : Kernel} (h : Gone C K K') {x : String} (hx : ¬C x) :
    K'.get x = K.get x :=
  (h x).resolve_right fun e => hx e.2

theorem Gone.has_of_not {C : String → Prop} {K K' : Kernel} (h : Gone C K K') {x : String} (hx : ¬C x)
    (hk : K.has x = true) : K'.has x = true := by
  rwa [Map.has, h.get hx]

theorem popHintD_eq {w w1 : W} {h : Option String} (hp : popHintD w = (w1, h)) :
    w1.F = w.F ∧ w1.K = w.K ∧ w1.cfg = w.cfg := by
  unfold popHintD at hp; split at hp <;> cases hp <;> exact ⟨rfl, rfl, rfl⟩

theorem pickHint_mem {h : Option String} {cands : List String} {n : String}
    (hp : pickHint h cands = some n) : n ∈ cands := by
  unfold pickHint at hp
  split at hp
  · split at hp
    · rename_i hh; cases hp; simpa using hh
    · cases hp
  · cases hp

theorem popDestroy_eq {w w1 w2 : W} {h : Option String} {d : String} {ok : Bool} (hp : popHintD w = (w1, h))
    (hd : w1.destroy d = (w2, ok)) : w2.F = w.F ∧ w2.cfg = w.cfg ∧ w2.K = if ok then w.K.erase d else w.K := by
  obtain ⟨hF, hK, hc⟩ := popHintD_eq hp
  cases hd; exact ⟨hF, hc, by rw [hK]⟩

/-- What the temp-set clean-up may change: only temporary names, in the kernel and in the view. -/
structure TD (w w' : W) : Prop where
  cfg : w'.cfg = w.cfg
  desired : w'.F.desired = w.F.desired
  allMeta : w'.F.allMeta = w.F.allMeta
  filter : w'.F.filter = w.F.filter
  fullReq : w'.F.fullReq = w.F.fullReq
  bgReq : w'.F.bgReq = w.F.bgReq
  members : w'.F.members = w.F.members
  dirty : w'.F.dirty = w.F.dirty
  nonTemp : ∀ b, w.cfg.isTemp b = false → w'.K.get b = w.K.get b ∧ w'.F.dp.get b = w.F.dp.get b
  dpSub : ∀ b, w'.F.dp.has b = true → w.F.dp.has b = true
  qSub : (∀ x ∈ w'.F.qMust, x ∈ w.F.qMust) ∧ (∀ x ∈ w'.F.qBg, x ∈ w.F.qBg)
  cov : Cov w.cfg w.F w.K → Cov w.cfg w'.F w'.K

theorem TD.of_eq {w w' : W} (hc : w'.cfg = w.cfg) (hF : w'.F = w.F) (hK : w'.K = w.K) : TD w w' :=
  ⟨hc, by rw [hF], by rw [hF], by rw [hF], by rw [hF], by rw [hF], by rw [hF], by rw [hF],
    fun _ _ => ⟨by rw [hK], by rw [hF]⟩, fun _ hb => hF ▸ hb, ⟨fun _ hx => hF ▸ hx, fun _ hx => hF ▸ hx⟩,
    fun h => by rw [hF, hK]; exact h⟩

theorem TD.trans {a b c : W} (h1 : TD a b) (h2 : TD b c) : TD a c := by
  refine ⟨h2.cfg.trans h1.cfg, h2.desired.trans h1.desired, h2.allMeta.trans h1.allMeta, h2.filter.trans h1.filter,
    h2.fullReq.trans h1.fullReq, h2.bgReq.trans h1.bgReq, h2.members.trans h1.members, h2.dirty.trans h1.dirty,
    fun x hx => ?_, fun x hx => h1.dpSub x (h2.dpSub x hx),
    ⟨fun x hx => h1.qSub.1 x (h2.qSub.1 x hx), fun x hx => h1.qSub.2 x (h2.qSub.2 x hx)⟩, fun hcov => ?_⟩
  · have a1 := h1.nonTemp x hx
    have a2 := h2.nonTemp x (h1.cfg ▸ hx)
    exact ⟨a2.1.trans a1.1, a2.2.trans a1.2⟩
  · exact h1.cfg ▸ h2.cov (h1.cfg ▸ h1.cov hcov)

theorem tryTempDeletions_go_spec (fuel : Nat) (cands : List String) (w : W)
    (hc : ∀ x ∈ cands, w.cfg.isTemp x = true) :
    TD w (W.tryTempDeletions.go fuel cands w) ∧ Gone (· ∈ cands) w.K (W.tryTempDeletions.go fuel cands w).K := by
  fun_induction W.tryTempDeletions.go fuel cands w with
  | case1 | case2 => exact ⟨TD.of_eq rfl rfl rfl, Gone.refl _ _⟩
  | case3 fuel cands w _ w1 h hp =>
    obtain ⟨hF, hK, hc1⟩ := popHintD_eq hp
    exact ⟨TD.of_eq hc1 hF hK, fun _ => Or.inl (by rw [← hK])⟩
  | case4 fuel cands w _ w1 h hp d hpick w2 hd =>
    obtain ⟨eF, ec, e⟩ := popDestroy_eq hp hd
    rw [if_pos rfl] at e
    have hmem := pickHint_mem hpick
    have hdT : w.cfg.isTemp d = true := hc d hmem
    refine ⟨⟨ec, by rw [eF]; rfl, by rw [eF]; rfl, by rw [eF]; rfl, by rw [eF]; rfl, by rw [eF]; rfl,
      by rw [eF]; rfl, by rw [eF]; rfl, fun b hb => ?_, fun b hb => ?_, ?_, fun hcov b hown hb => ?_⟩,
      e ▸ Gone.erase _ hmem⟩
    · have hbd : b ≠ d := fun e => by rw [e, hdT] at hb; cases hb
      exact ⟨by simp [e, Map.get_erase, hbd], by simp [eF, Map.get_erase, hbd]⟩
    · simp only [eF, Map.has_erase, Bool.and_eq_true] at hb
      exact hb.2
    · simp only [eF, Felix.qRemove]
      exact ⟨fun x hx => (mem_sErase.1 hx).1, fun x hx => (mem_sErase.1 hx).1⟩
    · simp only [e, eF, Map.has_erase, Bool.and_eq_true] at hb ⊢
      exact ⟨hb.1, hcov b hown hb.2⟩
  | case5 fuel cands w _ w1 h hp d hpick w2 ok hd hok ih =>
    obtain ⟨eF, ec, e⟩ := popDestroy_eq hp hd
    rw [if_neg hok] at e
    obtain ⟨t, g⟩ := ih fun x hx => by rw [ec]; exact hc x (mem_sErase.1 hx).1
    exact ⟨(TD.of_eq ec eF e).trans t, e ▸ g.mono fun x hx => (mem_sErase.1 hx).1⟩

theorem tryTempDeletions_spec (w : W) : TD w w.tryTempDeletions ∧
    Gone (fun x => w.cfg.isTemp x = true ∧ w.F.desired.has x = false) w.K w.tryTempDeletions.K := by
  have hc : ∀ x ∈ w.F.pendingDeletions.filter (fun n => w.cfg.isTemp n && !((w.F.dp.get n).getD Meta.zero).deleteFailed),
      w.cfg.isTemp x = true ∧ w.F.desired.has x = false := fun x hx => by
    obtain ⟨h1, h2⟩ := List.mem_filter.1 hx
    rw [Bool.and_eq_true] at h2
    exact ⟨h2.1, (mem_pendingDeletions.1 h1).2⟩
  obtain ⟨t, g⟩ := tryTempDeletions_go_spec _ _ w fun x hx => (hc x hx).1
  exact ⟨t, g.mono hc⟩

theorem tryTempDeletions_TD (w : W) : TD w w.tryTempDeletions := (tryTempDeletions_spec w).1

theorem TD.winv {w w' : W} (h : TD w w') (hinv : WInv w.cfg w.F w.K) : WInv w.cfg w'.F w'.K := by
  refine ⟨fun n hn => hinv.notTemp n (h.desired ▸ hn), fun n hn => ?_, fun n dm t hdm ht => ?_⟩
  · rw [h.members]; exact hinv.tracked n (h.desired ▸ hn)
  · rw [h.desired] at hdm; rw [h.members] at ht
    obtain ⟨h1, h2⟩ := h.nonTemp n (hinv.notTemp n (Map.has_of_get hdm))
    rw [h1, h2]; exact hinv.acc n dm t hdm ht

theorem TD.dirtyOK {w w' : W} (h : TD w w') (hdo : DirtyOK w.F) : DirtyOK w'.F := by
  intro n hn hd t ht
  rw [h.desired] at hn; rw [h.dirty] at hd; rw [h.members] at ht
  exact hdo n hn hd t ht

theorem TD.grow {w w' : W} (h : TD w w') : Grow (fun _ => False) w.F w'.F :=
  ⟨fun b hb => Or.inl (h.dpSub b hb), fun x hx => Or.inl (h.qSub.1 x hx), fun x hx => Or.inl (h.qSub.2 x hx)⟩

theorem TD.wpres {w w' : W} (h : TD w w') : WPres w w' :=
  ⟨h.cfg, Pres.of_members ⟨h.allMeta, h.desired, h.filter, h.fullReq⟩ h.members⟩

theorem tryTempDeletions_safe (w : W) : Safe w w.tryTempDeletions := by
  obtain ⟨t, g⟩ := tryTempDeletions_spec w
  refine ⟨t.wpres.keep, fun n hd hk => g.has_of_not (fun h => by simp [hd] at h) hk, fun hc hi => ?_⟩
  exact ⟨t.grow.QD (fun _ => False.elim) hi.qd, fun x hx => g.get fun h => by simp [hc.tempOwned x h.1] at hx⟩

/-- What `ApplyDeletions` may change: it destroys only sets that are in the view and not desired. -/
structure AD (w w' : W) : Prop where
  cfg : w'.cfg = w.cfg
  pres : Pres w.F w'.F
  gone : Gone (fun x => w.F.desired.has x = false ∧ w.F.dp.has x = true) w.K w'.K
  cov : Cov w.cfg w.F w.K → Cov w.cfg w'.F w'.K
  grow : Grow (fun _ => False) w.F w'.F

theorem AD.of_eq {w w' : W} (hc : w'.cfg = w.cfg) (hF : w'.F = w.F) (hK : w'.K = w.K) : AD w w' :=
  ⟨hc, hF ▸ Pres.refl _, hK ▸ Gone.refl _ _, fun h => by rw [hF, hK]; exact h, hF ▸ Grow.refl _ _⟩

theorem AD.wpres {w w' : W} (h : AD w w') : WPres w w' := ⟨h.cfg, h.pres⟩

theorem AD.trans {a b c : W} (h1 : AD a b) (h2 : AD b c) : AD a c :=
  ⟨h2.cfg.trans h1.cfg, h1.pres.trans h2.pres,
    h1.gone.trans (h2.gone.mono fun x hx => ⟨h1.pres.desired ▸ hx.1, h1.grow.dp_has hx.2⟩),
    fun hcov => h1.cfg ▸ h2.cov (h1.cfg ▸ h1.cov hcov), h1.grow.trans h2.grow⟩

theorem applyDeletions_go_AD (fuel : Nat) (cands : List String) (w : W)
    (hc : ∀ x ∈ cands, w.F.desired.has x = false ∧ w.F.dp.has x = true) : AD w (W.applyDeletions.go fuel cands w).1 := by
  fun_induction W.applyDeletions.go fuel cands w with
  | case1 | case2 => exact AD.of_eq rfl rfl rfl
  | case3 fuel cands w _ w1 h hp =>
    obtain ⟨hF, hK, hc1⟩ := popHintD_eq hp
    exact AD.of_eq hc1 hF hK
  | case4 fuel cands w _ w1 h hp d hpick w2 hd =>
    obtain ⟨eF, ec, e⟩ := popDestroy_eq hp hd
    rw [if_pos rfl] at e
    obtain ⟨mem, he, _⟩ := afterDestroy_eq w.F d
    refine ⟨ec, eF ▸ afterDestroy_pres _ d, e ▸ Gone.erase _ (hc d (pickHint_mem hpick)), fun hcov b hown hb => ?_,
      ⟨fun b hb => ?_, ?_, ?_⟩⟩
    · simp only [e, eF, he, Map.has_erase, Bool.and_eq_true] at hb ⊢
      exact ⟨hb.1, hcov b hown hb.2⟩
    · simp only [eF, he, Map.has_erase, Bool.and_eq_true] at hb
      exact Or.inl hb.2
    · simp only [eF, he]
      exact fun x hx => Or.inl (mem_sErase.1 hx).1
    · simp only [eF, he]
      exact fun x hx => Or.inl (mem_sErase.1 hx).1
  | case5 fuel cands w _ w1 h hp d hpick w2 ok hd hok ih =>
    obtain ⟨eF, ec, e⟩ := popDestroy_eq hp hd
    rw [if_neg hok] at e
    have hddp := (hc d (pickHint_mem hpick)).2
    -- marking the set only touches its own entry of the view, which was there already
    have k12 : AD w ({ w2 with F := w2.F.markDeleteFailed d } : W) := by
      refine ⟨ec, eF ▸ Pres.of_members ⟨rfl, rfl, rfl, rfl⟩ rfl, e ▸ Gone.refl _ _, fun hcov b hown hb => ?_,
        ⟨fun b hb => Or.inl ?_, eF ▸ fun _ => Or.inl, eF ▸ fun _ => Or.inl⟩⟩
      · simp only [eF, Felix.markDeleteFailed, Map.has_set, Bool.or_eq_true]
        exact Or.inr (hcov b hown (e ▸ hb))
      · simp only [eF, Felix.markDeleteFailed, Map.has_set, Bool.or_eq_true, beq_iff_eq] at hb
        exact hb.elim (· ▸ hddp) id
    refine k12.trans (ih fun x hx => ?_)
    have hx' := hc x (mem_sErase.1 hx).1
    simp only [eF, Felix.markDeleteFailed, Map.has_set, Bool.or_eq_true]
    exact ⟨hx'.1, Or.inr hx'.2⟩

theorem applyDeletions_AD (w : W) : AD w w.applyDeletions.1 := by
  unfold W.applyDeletions
  dsimp only
  have hc : ∀ c ∈ w.F.pendingDeletions.filter (fun n => !((w.F.dp.get n).getD Meta.zero).deleteFailed),
      w.F.desired.has c = false ∧ w.F.dp.has c = true :=
    fun c hc => (mem_pendingDeletions.1 (List.mem_filter.1 hc).1).symm
  generalize List.filter _ w.F.pendingDeletions = cands at hc ⊢
  have h := applyDeletions_go_AD cands.length cands w hc
  generalize W.applyDeletions.go _ _ w = r at h ⊢
  split
  · exact h
  · split <;> exact h

theorem AD.safe {w w' : W} (h : AD w w') : Safe w w' :=
  ⟨h.wpres.keep, fun n hd hk => h.gone.has_of_not (fun e => by simp [hd] at e) hk, fun _ hi =>
    ⟨h.grow.QD (fun _ => False.elim) hi.qd, fun x hx => h.gone.get fun e => by simp [hi.qd.dp x e.2] at hx⟩⟩

theorem AD.exact {w w' : W} (h : AD w w') {n : String} (hex : Exact w.F w.K n)
    (ha : w.F.allMeta.has n = true) : Exact w'.F w'.K n := by
  obtain ⟨dm, t, k, h1, h2, h3, h4, h5⟩ := hex
  obtain ⟨t', ht', hd'⟩ := h.pres.tracked n t.des ha ⟨t, h2, rfl⟩
  refine ⟨dm, t', k, h.pres.desired ▸ h1, ht', ?_, h4, hd' ▸ h5⟩
  rw [h.gone.get fun e => by simp [Map.has_of_get h1] at e]; exact h3

theorem no_stale_owned {c : Cfg} {F : Felix} {K : Kernel} (hcov : Cov c F K)
    (hdrained : F.pendingDeletions = []) (b : String) (hown : c.owns b = true) (hk : K.has b = true) :
    F.desired.has b = true := by
  have : b ∉ F.pendingDeletions := by simp [hdrained]
  simpa [mem_pendingDeletions, hcov b hown hk] using this

end CalicoVerif.C16
