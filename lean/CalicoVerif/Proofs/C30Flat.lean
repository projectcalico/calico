import CalicoVerif.Model.C30Flat
import CalicoVerif.Proofs.C30
import CalicoVerif.Proofs.C30Addr
/-! C30: the tier flattener (flattener.go) reads, first match first, like the tiers evaluated in
order: for any tiers of rules of one direction with IPv4 addresses (`TierOK`) that each decide every packet (`Total`).
The proof follows the code: field by field, rule by rule, a rule into a tier, a tier into a tier, all tiers
(`flattenTiers_sem`); then `rewritePriorities` keeps the first-match reading and makes the priorities `good`.
`runsGo_any` (sorted ports folded into ranges admit exactly the ports) is the walk of `C29.coalesceGo_any` for a builder
that breaks a range at a gap, where SimplifyPorts breaks at `>`. -/
namespace CalicoVerif.C30

def TierOK (d : Bool) (t : List HRule) : Prop := ∀ h ∈ t, RuleOK d h

/-- Every packet is matched by some rule of the tier.  The tiers GetPolicySetRules generates are total because they
read as the tier's verdict (`total_generated` in `C30Tier`). -/
def Total (t : List HRule) : Prop := ∀ p, (firstAction t p).isSome = true

theorem combineCIDRs_sem (a b : List Addr) (ha : ∀ x ∈ a, x.v6 = false) (hb : ∀ x ∈ b, x.v6 = false) (ip : Nat) :
    (combineCIDRs a b).any (addrsOK · ip) = (addrsOK a ip && addrsOK b ip) := by
  unfold combineCIDRs addrsOK
  cases hae : a.isEmpty
  · cases hbe : b.isEmpty
    · rw [if_neg Bool.false_ne_true, if_neg Bool.false_ne_true, Bool.false_or, Bool.false_or,
        ← intersectCIDRs_any a b ha hb ip]
      cases intersectCIDRs a b <;> rfl
    · rw [if_neg Bool.false_ne_true, if_pos rfl, Option.any_some, hae, Bool.true_or, Bool.and_true]
  · rw [if_pos rfl, Option.any_some, Bool.true_or, Bool.true_and]

theorem combineCIDRs_v4 {a b c : List Addr} (ha : ∀ x ∈ a, x.v6 = false) (hb : ∀ x ∈ b, x.v6 = false)
    (h : combineCIDRs a b = some c) : ∀ x ∈ c, x.v6 = false := by
  unfold combineCIDRs at h
  split at h
  · obtain rfl := Option.some.inj h; exact hb
  · split at h
    · obtain rfl := Option.some.inj h; exact ha
    · dsimp only at h
      split at h
      · injection h
      · obtain rfl := Option.some.inj h; exact intersectCIDRs_v4 a b

theorem combinePorts_nil (b : List PortRange) : combinePorts [] b = some b := by simp [combinePorts]

theorem inPorts_le_max (l : List PortRange) (x : Nat) (h : inPorts l x = true) : x ≤ maxPort l := by
  obtain ⟨r, hr, hc⟩ := List.any_eq_true.1 h
  simp only [PortRange.contains, Bool.and_eq_true, decide_eq_true_eq] at hc
  refine Nat.le_trans hc.2 (le_foldl_of_mem (μ := id) (fun m r => by
    dsimp only [id]; split
    · exact Nat.le_max_left _ _
    · exact Nat.le_refl _) hr (fun m => ?_) 0)
  rw [show r.valid = true from decide_eq_true (Nat.le_trans hc.1 hc.2), if_pos rfl]
  exact Nat.le_max_right _ _

theorem runsGo_any (x : Nat) (rest : List Nat) : ∀ (f l : Nat), f ≤ l → (∀ y ∈ rest, l < y) →
    rest.Pairwise (· < ·) →
    ((runsGo f l rest).any (fun r => r.contains x) = true ↔ ((f ≤ x ∧ x ≤ l) ∨ x ∈ rest)) := by
  induction rest with
  | nil => intro f l _ _ _; simp [runsGo, PortRange.contains]
  | cons n rest ih =>
    intro f l hfl hgt hs
    have hln := hgt n List.mem_cons_self
    have hs' := List.pairwise_cons.1 hs
    rw [runsGo, List.mem_cons, ← or_assoc]
    split
    · -- `n` extends the run
      rename_i hn
      rw [ih f n (by omega) hs'.1 hs'.2]
      exact or_congr_left (by omega)
    · rw [List.any_cons, Bool.or_eq_true, ih n n (Nat.le_refl n) hs'.1 hs'.2, ← or_assoc]
      simp only [PortRange.contains, Bool.and_eq_true, decide_eq_true_eq]
      exact or_congr_left (or_congr_right (by omega))

theorem runsGo_ne_nil (rest : List Nat) : ∀ f l : Nat, runsGo f l rest ≠ [] := by
  induction rest with
  | nil => exact fun f l => List.cons_ne_nil _ _
  | cons m rest ih =>
    intro f l
    rw [runsGo]
    split
    · exact ih f m
    · exact List.cons_ne_nil _ _

theorem portsOK_runs (l : List Nat) (hs : l.Pairwise (· < ·)) (hne : l ≠ []) (x : Nat) :
    portsOK (runs l) x = true ↔ x ∈ l := by
  cases l with
  | nil => exact absurd rfl hne
  | cons n rest =>
    have hs' := List.pairwise_cons.1 hs
    rw [portsOK, runs, List.isEmpty_eq_false_iff.2 (runsGo_ne_nil rest n n), Bool.false_or,
      runsGo_any x rest n n (Nat.le_refl n) hs'.1 hs'.2, List.mem_cons]
    exact or_congr_left (by omega)

theorem combinePorts_sem (a b : List PortRange) (x : Nat) :
    (combinePorts a b).any (portsOK · x) = (portsOK a x && portsOK b x) := by
  unfold combinePorts
  cases hae : a.isEmpty
  · cases hbe : b.isEmpty
    · have hmem : ∀ y, y ∈ (List.range (max (maxPort a) (maxPort b) + 1)).filter (fun x => inPorts a x && inPorts b x) ↔
          (inPorts a y = true ∧ inPorts b y = true) := by
        intro y
        rw [List.mem_filter, List.mem_range, Bool.and_eq_true]
        exact ⟨fun h => h.2, fun h => ⟨by have := inPorts_le_max a y h.1; omega, h⟩⟩
      have hsorted : ((List.range (max (maxPort a) (maxPort b) + 1)).filter (fun x => inPorts a x && inPorts b x)).Pairwise
          (· < ·) := List.pairwise_lt_range.filter _
      rw [if_neg Bool.false_ne_true, if_neg Bool.false_ne_true]
      dsimp only
      generalize (List.range (max (maxPort a) (maxPort b) + 1)).filter (fun x => inPorts a x && inPorts b x) = s
        at hmem hsorted
      have hx : (portsOK a x && portsOK b x) = true ↔ x ∈ s := by
        rw [hmem x, portsOK, portsOK, hae, hbe, Bool.and_eq_true]; rfl
      cases s with
      | nil => exact (Bool.eq_false_iff.2 fun h => absurd (hx.1 h) List.not_mem_nil).symm
      | cons y s' => rw [Bool.eq_iff_iff, hx]; exact portsOK_runs _ hsorted (List.cons_ne_nil _ _) x
    · rw [if_neg Bool.false_ne_true, if_pos rfl, Option.any_some, portsOK, portsOK, hbe, Bool.true_or, Bool.and_true]
  · rw [if_pos rfl, Option.any_some, portsOK, portsOK, hae, Bool.true_or, Bool.true_and]

theorem combineProto_sem (p1 p2 q : Nat) :
    (combineProto p1 p2).any (fun pr => pr == 256 || pr == q) =
      ((p1 == 256 || p1 == q) && (p2 == 256 || p2 == q)) := by
  unfold combineProto
  by_cases h1 : p1 = 256
  · rw [if_neg (not_not_intro h1), Option.any_some, h1, beq_self_eq_true, Bool.true_or, Bool.true_and]
  · rw [if_pos h1, beq_false_of_ne h1, Bool.false_or]
    by_cases h2 : p2 = 256
    · rw [if_pos h2, Option.any_some, h2, beq_self_eq_true, Bool.true_or, Bool.and_true, beq_false_of_ne h1, Bool.false_or]
    · rw [if_neg h2, beq_false_of_ne h2, Bool.false_or]
      by_cases he : p1 = p2
      · rw [if_neg (not_not_intro he), Option.any_some, beq_false_of_ne h2, Bool.false_or, he, Bool.and_self]
      · rw [if_pos he, Option.any_none]
        by_cases hq : p1 = q
        · rw [beq_false_of_ne (fun h => he (hq.trans h.symm)), Bool.and_false]
        · rw [beq_false_of_ne hq, Bool.false_and]

theorem and5_and5 (a1 b1 c1 d1 e1 a2 b2 c2 d2 e2 : Bool) :
    (a1 && b1 && c1 && d1 && e1 && (a2 && b2 && c2 && d2 && e2)) =
      (a1 && a2 && (b1 && b2) && (c1 && c2) && (d1 && d2) && (e1 && e2)) := by
  simp only [Bool.and_left_comm, Bool.and_comm]

theorem TierOK.cons {d : Bool} {h : HRule} {t : List HRule} (hh : RuleOK d h) (ht : TierOK d t) : TierOK d (h :: t) :=
  fun x hx => (List.mem_cons.1 hx).elim (fun e => e ▸ hh) (ht x)

theorem combineRules_sem (d : Bool) (r1 r2 : HRule) (h1 : RuleOK d r1) (h2 : RuleOK d r2) :
    match combineRules r1 r2 with
    | .panic => False
    | .noOp => ∀ p, (r1.matches p && r2.matches p) = false
    | .ok c => (∀ p, c.matches p = (r1.matches p && r2.matches p)) ∧ c.action = r2.action ∧ RuleOK d c := by
  -- both rules match iff each of the five fields passes both; each field's combination computes that
  simp only [matches_eq r1 d h1.dir, matches_eq r2 d h2.dir, and5_and5, HRule.protoOK,
    ← combineProto_sem, ← combineCIDRs_sem _ _ h1.v4l h2.v4l, ← combineCIDRs_sem _ _ h1.v4r h2.v4r, ← combinePorts_sem]
  unfold combineRules
  cases combineProto r1.proto r2.proto with
  | none => simp only [Option.any_none, Bool.false_and, implies_true]
  | some pr =>
    cases hl : combineCIDRs r1.lAddrs r2.lAddrs with
    | none => simp only [Option.any_none, Bool.and_false, Bool.false_and, implies_true]
    | some la =>
      cases hr : combineCIDRs r1.rAddrs r2.rAddrs with
      | none => simp only [Option.any_none, Bool.and_false, Bool.false_and, implies_true]
      | some ra =>
        cases combinePorts r1.lPorts r2.lPorts with
        | none => simp only [Option.any_none, Bool.and_false, Bool.false_and, implies_true]
        | some lp =>
          cases combinePorts r1.rPorts r2.rPorts with
          | none => simp only [Option.any_none, Bool.and_false, implies_true]
          | some rp =>
            refine ⟨fun p => ?_, rfl, h2.dir, combineCIDRs_v4 h1.v4l h2.v4l hl, combineCIDRs_v4 h1.v4r h2.v4r hr⟩
            rw [matches_eq (mkComb r2 pr la ra lp rp) d h2.dir]
            rfl

theorem combineWithTier_sem (d : Bool) (r : HRule) (hr : RuleOK d r)
    (second : List HRule) (hs : TierOK d second) :
    ∃ cs, combineWithTier r second = some cs ∧ TierOK d cs ∧
      ∀ p, firstAction cs p = if r.matches p then firstAction second p else none := by
  induction second with
  | nil => exact ⟨[], rfl, fun _ h => absurd h List.not_mem_nil, fun p => (ite_self _).symm⟩
  | cons x rest ih =>
    obtain ⟨cs, hcs, hok, hfa⟩ := ih (fun h hh => hs h (List.mem_cons_of_mem _ hh))
    have hsem := combineRules_sem d r x hr (hs x List.mem_cons_self)
    rw [combineWithTier]
    cases hc : combineRules r x with
    | panic => rw [hc] at hsem; exact hsem.elim
    | noOp =>
      rw [hc] at hsem
      refine ⟨cs, hcs, hok, fun p => ?_⟩
      rw [hfa p, firstAction_cons]
      cases hrm : r.matches p
      · rfl
      · have := hsem p
        rw [hrm, Bool.true_and] at this
        rw [this]; rfl
    | ok c =>
      rw [hc] at hsem
      obtain ⟨hmatch, hact, hcok⟩ := hsem
      refine ⟨c :: cs, by rw [hcs]; rfl, hok.cons hcok, fun p => ?_⟩
      rw [firstAction_cons, firstAction_cons, hfa p, hmatch p, hact]
      cases r.matches p <;> rfl

/-- Three readings of "tier after tier": `cascade1` is one hand-over (a pass leaves the decision to `next`), `cascade`
hands over along a list of tiers, and the specification `mvH` is `cascade` after the last tier's pass is turned into a
block, as `flattenTiers` does before it starts (`cascade_mapLast`). -/
def cascade1 (a : Option Action) (next : Option Action) : Option Action :=
  match a with
  | some .pass => next
  | x => x

theorem buildFirst_sem (d : Bool) (second : List HRule) (hs : TierOK d second) (htot : Total second)
    (first : List HRule) (hf : TierOK d first) :
    ∃ nf, buildFirst second first = some nf ∧ TierOK d nf ∧
      ∀ p, firstAction nf p = cascade1 (firstAction first p) (firstAction second p) := by
  induction first with
  | nil => exact ⟨[], rfl, fun _ h => absurd h List.not_mem_nil, fun p => rfl⟩
  | cons r rest ih =>
    obtain ⟨nf, hnf, hok, hfa⟩ := ih (fun h hh => hf h (List.mem_cons_of_mem _ hh))
    have hr := hf r List.mem_cons_self
    rw [buildFirst]
    by_cases hp : r.action = .pass
    · obtain ⟨cs, hcs, hcok, hcfa⟩ := combineWithTier_sem d r hr second hs
      refine ⟨cs ++ nf, by rw [if_pos hp, hcs, hnf]; rfl,
        fun h hh => (List.mem_append.1 hh).elim (hcok h) (hok h), fun p => ?_⟩
      rw [firstAction_append, hcfa p, hfa p, firstAction_cons, hp]
      cases r.matches p
      · rfl
      · -- the second tier always has a verdict, so the combined rules decide
        obtain ⟨a, ha⟩ := Option.isSome_iff_exists.1 (htot p)
        rw [ha]; rfl
    · refine ⟨r :: nf, by rw [if_neg hp, hnf]; rfl, hok.cons hr, fun p => ?_⟩
      rw [firstAction_cons, firstAction_cons, hfa p]
      cases r.matches p
      · rfl
      · cases hra : r.action
        · rfl
        · rfl
        · exact absurd hra hp

def cascade (p : Pkt) : Option Action → List (List HRule) → Option Action
  | x, [] => x
  | x, t :: rest => match x with
    | some .pass => cascade p (firstAction t p) rest
    | y => y

theorem cascade_cascade1 (p : Pkt) (x : Option Action) (t : List HRule) (rest : List (List HRule)) :
    cascade p (cascade1 x (firstAction t p)) rest = cascade p x (t :: rest) := by
  cases x with
  | none => cases rest <;> rfl
  | some a => cases a <;> cases rest <;> rfl

theorem firstAction_pass_mem (t : List HRule) (p : Pkt) (h : firstAction t p = some .pass) :
    t.any (fun r => r.action == .pass) = true := by
  obtain ⟨x, hf, hx⟩ := Option.map_eq_some_iff.1 h
  exact List.any_eq_true.2 ⟨x, List.mem_of_find?_eq_some hf, by rw [hx]; rfl⟩

theorem flattenRec_sem (d : Bool) (rest : List (List HRule)) (hrest : ∀ t ∈ rest, TierOK d t ∧ Total t) :
    ∀ first, TierOK d first →
      ∃ l, flattenRec first rest = some l ∧ ∀ p, firstAction l p = cascade p (firstAction first p) rest := by
  induction rest with
  | nil => exact fun first _ => ⟨first, rfl, fun p => rfl⟩
  | cons second rest ih =>
    intro first hf
    obtain ⟨hs, htot⟩ := hrest second List.mem_cons_self
    rw [flattenRec]
    by_cases hany : first.any (fun r => r.action == .pass) = true
    · obtain ⟨nf, hnf, hok, hfa⟩ := buildFirst_sem d second hs htot first hf
      obtain ⟨l, hl, hlf⟩ := ih (fun t ht => hrest t (List.mem_cons_of_mem _ ht)) nf hok
      exact ⟨l, by rw [if_pos hany, hnf]; exact hl, fun p => by rw [hlf p, hfa p, cascade_cascade1]⟩
    · refine ⟨first, by rw [if_neg hany], fun p => ?_⟩
      cases hfp : firstAction first p with
      | none => rfl
      | some a =>
        cases a
        · rfl
        · rfl
        · exact absurd (firstAction_pass_mem first p hfp) hany

theorem firstAction_zipIdx_prio (l : List HRule) (p : Pkt) (f : Nat → Nat) : ∀ k,
    firstAction ((l.zipIdx k).map fun (x : HRule × Nat) => { x.1 with prio := f x.2 }) p = firstAction l p := by
  induction l with
  | nil => intro k; rfl
  | cons a rest ih =>
    intro k
    rw [List.zipIdx_cons, List.map_cons, firstAction_cons, firstAction_cons, ih]
    rfl

theorem good_zipIdx (c : Nat) (l : List HRule) : ∀ k,
    good ((l.zipIdx k).map fun (x : HRule × Nat) => { x.1 with prio := c + x.2 }) := by
  induction l with
  | nil => exact fun k => trivial
  | cons a rest ih =>
    intro k
    cases rest with
    | nil => trivial
    | cons b rest' => exact ⟨Nat.le_succ _, fun _ => Nat.lt_succ_self _, ih (k + 1)⟩

theorem rewritePriorities_sem (l : List HRule) (limit : Nat) (p : Pkt) :
    good (rewritePriorities l limit) ∧ firstAction (rewritePriorities l limit) p = firstAction l p := by
  unfold rewritePriorities
  split
  · rename_i h
    refine ⟨?_, rfl⟩
    match l, h with
    | [], _ => trivial
    | [_], _ => trivial
  · split
    · exact ⟨good_zipIdx _ l 0, firstAction_zipIdx_prio l p _ 0⟩
    · exact ⟨bump_good l _ _, bump_firstAction l p _ _⟩

/-- Tier-by-tier semantics on HNS rule lists: pass continues, pass in the last tier is block. -/
def mvH (p : Pkt) : List (List HRule) → Option Action
  | [] => none
  | [t] => (firstAction t p).map fun a => if a = .pass then .block else a
  | t :: t2 :: rest =>
    match firstAction t p with
    | some .pass => mvH p (t2 :: rest)
    | x => x

theorem passToBlock_matches (h : HRule) (p : Pkt) : (passToBlock h).matches p = h.matches p := by
  unfold passToBlock; split <;> rfl

theorem firstAction_passToBlock (t : List HRule) (p : Pkt) :
    firstAction (t.map passToBlock) p = (firstAction t p).map fun a => if a = .pass then .block else a := by
  induction t with
  | nil => rfl
  | cons h rest ih =>
    rw [List.map_cons, firstAction_cons, firstAction_cons, passToBlock_matches, ih]
    cases h.matches p
    · rfl
    · unfold passToBlock
      cases ha : h.action <;> simp [ha]

theorem ruleOK_passToBlock (d : Bool) (h : HRule) (hh : RuleOK d h) : RuleOK d (passToBlock h) := by
  unfold passToBlock
  split
  · exact ⟨hh.dir, hh.v4l, hh.v4r⟩
  · exact hh

theorem mapLast_ne_nil {α : Type} (f : α → α) (a : α) (l : List α) : mapLast f (a :: l) ≠ [] := by
  cases l <;> exact List.cons_ne_nil _ _

theorem cascade_mapLast (p : Pkt) : ∀ (first : List HRule) (rest : List (List HRule)),
    (match mapLast (fun t => t.map passToBlock) (first :: rest) with
     | [] => none
     | f :: r => cascade p (firstAction f p) r) = mvH p (first :: rest) := by
  intro first rest
  induction rest generalizing first with
  | nil => exact firstAction_passToBlock first p
  | cons second rest ih =>
    have := ih second
    rw [mapLast, mvH]
    cases hm : mapLast (fun t => List.map passToBlock t) (second :: rest) with
    | nil => exact absurd hm (mapLast_ne_nil _ _ _)
    | cons f r =>
      rw [hm] at this
      rw [← this]
      dsimp only
      cases hfa : firstAction first p with
      | none => rfl
      | some a => cases a <;> rfl

theorem mapLast_props (d : Bool) : ∀ (tiers : List (List HRule)), (∀ t ∈ tiers, TierOK d t ∧ Total t) →
    ∀ t ∈ mapLast (fun t => t.map passToBlock) tiers, TierOK d t ∧ Total t := by
  intro tiers
  induction tiers with
  | nil => exact fun _ t ht => absurd ht List.not_mem_nil
  | cons a rest ih =>
    intro h t ht
    cases rest with
    | nil =>
      obtain rfl := List.mem_singleton.1 ht
      obtain ⟨h1, h2⟩ := h a List.mem_cons_self
      refine ⟨fun x hx => ?_, fun p => ?_⟩
      · obtain ⟨y, hy, rfl⟩ := List.mem_map.1 hx
        exact ruleOK_passToBlock d y (h1 y hy)
      · rw [firstAction_passToBlock, Option.isSome_map]; exact h2 p
    | cons b rest' =>
      rcases List.mem_cons.1 ht with rfl | ht
      · exact h _ List.mem_cons_self
      · exact ih (fun x hx => h x (List.mem_cons_of_mem _ hx)) t ht

theorem flattenTiers_sem (d : Bool) (tiers : List (List HRule)) (hne : tiers ≠ [])
    (h : ∀ t ∈ tiers, TierOK d t ∧ Total t) :
    ∃ l, flattenTiers tiers = some l ∧ ∀ p, firstAction l p = mvH p tiers := by
  cases tiers with
  | nil => exact absurd rfl hne
  | cons first rest =>
    have hp := mapLast_props d (first :: rest) h
    unfold flattenTiers
    cases hm : mapLast (fun t => List.map passToBlock t) (first :: rest) with
    | nil => exact absurd hm (mapLast_ne_nil _ _ _)
    | cons f r =>
      rw [hm] at hp
      obtain ⟨l, hl, hlf⟩ := flattenRec_sem d r (fun t ht => hp t (List.mem_cons_of_mem _ ht)) f (hp f List.mem_cons_self).1
      refine ⟨l, hl, fun p => ?_⟩
      have := cascade_mapLast p first rest
      rw [hm] at this
      rw [hlf p]; exact this

theorem mvH_isSome (p : Pkt) : ∀ ts : List (List HRule), ts ≠ [] → (∀ t ∈ ts, Total t) → ∃ a, mvH p ts = some a := by
  intro ts
  induction ts with
  | nil => exact fun h => absurd rfl h
  | cons t rest ih =>
    intro _ htot
    obtain ⟨a, ha⟩ := Option.isSome_iff_exists.1 (htot t List.mem_cons_self p)
    cases rest with
    | nil => exact ⟨_, by rw [mvH, ha]; rfl⟩
    | cons t2 r =>
      rw [mvH, ha]
      cases a
      · exact ⟨_, rfl⟩
      · exact ⟨_, rfl⟩
      · exact ih (List.cons_ne_nil _ _) (fun x hx => htot x (List.mem_cons_of_mem _ hx))

end CalicoVerif.C30
