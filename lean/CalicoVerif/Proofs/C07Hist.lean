import CalicoVerif.Proofs.C07Index
/-! C07: histories of the InheritIndex.  The operations as a type (`Op`); `Inv` and the callback trace along every
history from any state; the index's input tables as a function of the history, "last writer wins" (`Tables.apply`). -/
namespace CalicoVerif.C07
open CalicoVerif.C06

inductive Op
  | updateLabels (id : Nat) (labels : List (Str × Str)) (parents : List Str)
  | deleteLabels (id : Nat)
  | updateParentLabels (pid : Str) (labels : List (Str × Str))
  | deleteParentLabels (pid : Str)
  | updateSelector (id : Nat) (sel : Node)
  | deleteSelector (id : Nat)

def Op.apply (st : Idx) : Op → Idx × List Event
  | .updateLabels id l ps => C07.updateLabels st id l ps
  | .deleteLabels id => C07.deleteLabels st id
  | .updateParentLabels p l => C07.updateParentLabels st p l
  | .deleteParentLabels p => C07.deleteParentLabels st p
  | .updateSelector id n => C07.updateSelector st id n
  | .deleteSelector id => C07.deleteSelector st id

def runFrom : Idx → List Op → Idx × List Event
  | st, [] => (st, [])
  | st, op :: ops =>
    let (st1, e1) := op.apply st
    let (st2, e2) := runFrom st1 ops
    (st2, e1 ++ e2)

/-- Run a history on a fresh index (`NewInheritIndex`). -/
def run (ops : List Op) : Idx × List Event := runFrom {} ops

theorem apply_inv {st : Idx} (h : Inv st) (op : Op) : Inv (op.apply st).1 := by
  cases op with
  | updateLabels id l ps => exact updateLabels_inv h id l ps
  | deleteLabels id => exact deleteLabels_inv h id
  | updateParentLabels p l => exact updateParentLabels_inv h p l
  | deleteParentLabels p => exact deleteParentLabels_inv h p
  | updateSelector id n => exact updateSelector_inv h id n
  | deleteSelector id => exact deleteSelector_inv h id

theorem runFrom_inv : ∀ (ops : List Op) {st : Idx}, Inv st → Inv (runFrom st ops).1
  | [], _, h => h
  | op :: ops, st, h => by
    simp only [runFrom]
    exact runFrom_inv ops (apply_inv h op)

theorem apply_replay {st : Idx} (h : Inv st) (op : Op) :
    Replay st.matched (op.apply st).2 (op.apply st).1.matched := by
  cases op with
  | updateLabels id l ps => exact scanSelectors_replay _ _ _ _ _
  | deleteLabels id => exact dropMatches_replay _ _ h.matchedNodup
  | updateParentLabels p l => exact flushItems_replay _ _ _
  | deleteParentLabels p => exact flushItems_replay _ _ _
  | updateSelector id n =>
    simp only [Op.apply, C07.updateSelector]
    split
    · split
      · exact .nil _
      · exact scanItems_replay _ _ _ _ _
    · exact scanItems_replay _ _ _ _ _
  | deleteSelector id => exact dropMatches_replay _ _ h.matchedNodup

theorem runFrom_replay : ∀ (ops : List Op) {st : Idx}, Inv st →
    Replay st.matched (runFrom st ops).2 (runFrom st ops).1.matched
  | [], _, _ => .nil _
  | op :: ops, st, h => by
    simp only [runFrom]
    exact (apply_replay h op).append (runFrom_replay ops (apply_inv h op))

/-- the index's input tables; of a selector only its canonical text: `UpdateSelector` keeps the old object when the
texts are equal -/
structure Tables where
  items : Nat → Option (List (Str × Str) × List Str)
  parents : Str → Option (List (Str × Str))
  sels : Nat → Option Str

def Tables.apply (t : Tables) : Op → Tables
  | .updateLabels id l ps => { t with items := fun k => if k = id then some (l, ps) else t.items k }
  | .deleteLabels id => { t with items := fun k => if k = id then none else t.items k }
  | .updateParentLabels p l => { t with parents := fun k => if k = p then some l else t.parents k }
  | .deleteParentLabels p => { t with parents := fun k => if k = p then none else t.parents k }
  | .updateSelector id n => { t with sels := fun k => if k = id then some n.text else t.sels k }
  | .deleteSelector id => { t with sels := fun k => if k = id then none else t.sels k }

def tablesOf (st : Idx) : Tables :=
  { items := fun k => (lookup k st.items).map (fun it => (it.labels, it.parents))
    parents := fun k => lookup k st.parents
    sels := fun k => (lookup k st.sels).map (·.text) }

theorem map_lookup_insert {α β γ : Type} [DecidableEq α] (f : β → γ) (id : α) (v : β) (l : List (α × β)) :
    (fun k => (lookup k (insert id v l)).map f) = fun k => if k = id then some (f v) else (lookup k l).map f := by
  funext k
  rw [lookup_insert]
  split <;> rfl

theorem map_lookup_erase {α β γ : Type} [DecidableEq α] (f : β → γ) (id : α) (l : List (α × β)) :
    (fun k => (lookup k (erase id l)).map f) = fun k => if k = id then none else (lookup k l).map f := by
  funext k
  rw [lookup_erase]
  split <;> rfl

theorem apply_tables (st : Idx) (op : Op) : tablesOf (op.apply st).1 = (tablesOf st).apply op := by
  cases op with
  | updateLabels id l ps => simp only [Op.apply, updateLabels, tablesOf, Tables.apply, map_lookup_insert]
  | deleteLabels id => simp only [Op.apply, deleteLabels, dropMatches, tablesOf, Tables.apply, map_lookup_erase]
  | updateParentLabels p l =>
    simp only [Op.apply, updateParentLabels, tablesOf, Tables.apply, lookup_insert]
  | deleteParentLabels p => simp only [Op.apply, deleteParentLabels, tablesOf, Tables.apply, lookup_erase]
  | updateSelector id n =>
    have go : tablesOf (updateSelector.go st id n).1 = (tablesOf st).apply (.updateSelector id n) := by
      simp only [updateSelector.go, tablesOf, Tables.apply, map_lookup_insert]
    simp only [Op.apply, C07.updateSelector]
    cases ho : lookup id st.sels with
    | none => exact go
    | some old =>
      dsimp only
      split
      · next ht =>
        -- the old selector is kept: it has the text that is written
        refine congrArg (Tables.mk _ _) (funext fun k => ?_)
        by_cases hk : k = id
        · simp [hk, ho, ht]
        · simp [hk]; rfl
      · exact go
  | deleteSelector id => simp only [Op.apply, deleteSelector, dropMatches, tablesOf, Tables.apply, map_lookup_erase]

theorem apply_known (st : Idx) (op : Op) :
    (∀ n, (lookup n (op.apply st).1.sels).isSome = true →
      (lookup n st.sels).isSome = true ∨ ∃ sel, op = .updateSelector n sel) ∧
    (∀ i, (lookup i (op.apply st).1.items).isSome = true →
      (lookup i st.items).isSome = true ∨ ∃ l ps, op = .updateLabels i l ps) := by
  have hs : ∀ n, (lookup n (op.apply st).1.sels).isSome = (((tablesOf st).apply op).sels n).isSome := fun n => by
    rw [← apply_tables]; exact Option.isSome_map.symm
  have hi : ∀ i, (lookup i (op.apply st).1.items).isSome = (((tablesOf st).apply op).items i).isSome := fun i => by
    rw [← apply_tables]; exact Option.isSome_map.symm
  constructor <;> intro k h
  · rw [hs] at h
    cases op <;> simp only [Tables.apply, tablesOf] at h <;> (try split at h) <;> simp_all
  · rw [hi] at h
    cases op <;> simp only [Tables.apply, tablesOf] at h <;> (try split at h) <;> simp_all

theorem tables_runFrom : ∀ (ops : List Op) (st : Idx), tablesOf (runFrom st ops).1 = ops.foldl Tables.apply (tablesOf st)
  | [], _ => rfl
  | op :: ops, st => by
    simp only [runFrom, List.foldl_cons]
    rw [tables_runFrom ops, apply_tables]

end CalicoVerif.C07
