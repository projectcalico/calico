import CalicoVerif.Proofs.C25Inv
/-!
C25 — the real sender releases the lock between pulling a batch and delivering it (`dropLockAndSendBatch`),
so upstream calls interleave with the deliveries of a batch.  `Sys2` makes that explicit (an in-flight batch
delivered one element at a time); it is simulated by the atomic system `Sys` of `Proofs/C25.lean`:
abstracting "deliver the rest of the in-flight batch now" commutes with every step.
-/
namespace CalicoVerif.C25

structure Sys2 where
  buf : Buf
  /-- pulled from the queue (lock released) but not yet handed to the sink -/
  inflight : List Item
  down : View
  view : View
  insync : Bool
  wf : Bool
  log : List (Upd × Bool)

def Sys2.init : Sys2 :=
  { buf := Buf.new, inflight := [], down := fun _ => none, view := fun _ => none, insync := false, wf := true,
    log := [] }

inductive Op2 where
  | upd (us : List Upd)
  | status (s : Nat) (order : List Key)
  | restart
  /-- the sender takes the lock and pulls a batch (only when the previous batch is fully delivered) -/
  | pullOnly (n : Nat)
  /-- the sender hands the next element of the in-flight batch to the sink -/
  | deliverOne

/-- One upstream update's bookkeeping (same as `Sys.upd1`). -/
def Sys2.upd1 (s : Sys2) (u : Upd) : Sys2 :=
  { s with buf := onUpdate s.buf u, view := applyUpd s.view u,
           wf := s.wf && (u.val.isSome || (s.view u.key).isSome) }

def Sys2.step (s : Sys2) : Op2 → Sys2
  | .upd us => us.foldl Sys2.upd1 s
  | .status st order => { s with buf := onStatus s.buf st order, insync := s.insync || st == inSync }
  | .restart => { s with buf := onRestart s.buf, view := fun _ => none, insync := false }
  | .pullOnly n =>
    if s.inflight.isEmpty then
      let r := pullNextBatch s.buf n
      { s with buf := r.1, inflight := r.2 }
    else s
  | .deliverOne =>
    match s.inflight with
    | [] => s
    | .st _ :: r => { s with inflight := r }
    | .up u :: r =>
      { s with inflight := r, down := applyUpd s.down u, log := s.log ++ [(u, (s.down u.key).isSome)] }

def Sys2.run (s : Sys2) (ops : List Op2) : Sys2 := ops.foldl Sys2.step s

def Sys2.abs (s : Sys2) : Sys :=
  { buf := s.buf, down := (deliver s.down s.log s.inflight).1, view := s.view, insync := s.insync, wf := s.wf,
    log := (deliver s.down s.log s.inflight).2 }

/-- The atomic op a concurrent op corresponds to (`none` = a stutter step). -/
def Op2.abs (s : Sys2) : Op2 → Option Op
  | .upd us => some (.upd us)
  | .status st order => some (.status st order)
  | .restart => some .restart
  | .pullOnly n => if s.inflight.isEmpty then some (.pull n) else none
  | .deliverOne => none

def stepOpt (s : Sys) : Option Op → Sys
  | none => s
  | some op => s.step op

theorem foldl_upd1_abs (us : List Upd) (s : Sys2) : (us.foldl Sys2.upd1 s).abs = us.foldl Sys.upd1 s.abs :=
  (List.foldl_hom Sys2.abs fun _ _ => rfl).symm

theorem step_abs (s : Sys2) (op : Op2) : (s.step op).abs = stepOpt s.abs (op.abs s) := by
  cases op with
  | upd us => exact foldl_upd1_abs us s
  | status st order => rfl
  | restart => rfl
  | pullOnly n =>
    simp only [Sys2.step, Op2.abs]
    split
    · rename_i he
      have : s.inflight = [] := by simpa using he
      simp only [stepOpt, Sys.step, Sys2.abs, this, deliver]
    · rfl
  | deliverOne =>
    simp only [Sys2.step, Op2.abs, stepOpt]
    cases hi : s.inflight with
    | nil => simp only [Sys2.abs, hi]
    | cons i r =>
      cases i with
      | st x => simp only [Sys2.abs, hi, deliver]
      | up u => simp only [Sys2.abs, hi, deliver]

def absOps : Sys2 → List Op2 → List Op
  | _, [] => []
  | s, op :: ops => (match op.abs s with
    | some o => [o]
    | none => []) ++ absOps (s.step op) ops

theorem run_abs (ops : List Op2) (s : Sys2) : (s.run ops).abs = s.abs.run (absOps s ops) := by
  induction ops generalizing s with
  | nil => rfl
  | cons op ops ih =>
    simp only [Sys2.run, List.foldl_cons, absOps]
    have := ih (s.step op)
    simp only [Sys2.run] at this
    rw [this, step_abs]
    cases op.abs s with
    | none => simp [stepOpt, Sys.run]
    | some o => simp [stepOpt, Sys.run]

theorem init_abs : Sys2.init.abs = Sys.init := rfl

theorem deliver_log_prefix (down : View) (log : List (Upd × Bool)) (items : List Item) :
    ∃ rest, (deliver down log items).2 = log ++ rest := by
  induction items generalizing down log with
  | nil => exact ⟨[], (List.append_nil _).symm⟩
  | cons i r ih =>
    cases i with
    | st x => exact ih down log
    | up u =>
      obtain ⟨rest, h⟩ := ih (applyUpd down u) (log ++ [(u, (down u.key).isSome)])
      exact ⟨(u, (down u.key).isSome) :: rest, by rw [deliver, h, List.append_assoc]; rfl⟩

theorem log_sub_abs (s : Sys2) (e : Upd × Bool) (he : e ∈ s.log) : e ∈ s.abs.log := by
  obtain ⟨rest, hp⟩ := deliver_log_prefix s.down s.log s.inflight
  show e ∈ (deliver _ _ _).2
  rw [hp]
  exact List.mem_append_left _ he

end CalicoVerif.C25
