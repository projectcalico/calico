import CalicoVerif.Proofs.C12Bridge
import CalicoVerif.Proofs.C11GuardPorts
/-!
C12 — the instance of the reference bridge (`RuleBridge`, C12Bridge) for rules with ALL non-CIDR
criteria (protocol, ports, named ports, IP sets, ICMP and their negations).
-/
namespace CalicoVerif.C12
open CalicoVerif.C11

/-- IP sets are numbers on the C11 side (the 64-bit id), strings in Model/Policy. -/
structure Names where
  set : Nat → String

def trIcmp : C11.Icmp → Policy.IcmpMatch
  | .none => .none
  | .type t => .type t.toNat
  | .typeCode t c => .typeCode t.toNat c.toNat

def trPR (r : C11.PortRange) : Netfilter.PortRange := ⟨r.first.toNat, r.last.toNat⟩

def trRuleF (N : Names) (r : C11.Rule) : Policy.Rule :=
  { action := r.action, ipVersion := r.ipVersion,
    protocol := r.protocol.map trP, notProtocol := r.notProtocol.map trP,
    srcPorts := r.srcPorts.map trPR, dstPorts := r.dstPorts.map trPR,
    notSrcPorts := r.notSrcPorts.map trPR, notDstPorts := r.notDstPorts.map trPR,
    srcNamedPortIpSetIds := r.srcNamedPortIpSetIds.map N.set, dstNamedPortIpSetIds := r.dstNamedPortIpSetIds.map N.set,
    notSrcNamedPortIpSetIds := r.notSrcNamedPortIpSetIds.map N.set,
    notDstNamedPortIpSetIds := r.notDstNamedPortIpSetIds.map N.set,
    srcIpSetIds := r.srcIpSetIds.map N.set, dstIpSetIds := r.dstIpSetIds.map N.set,
    notSrcIpSetIds := r.notSrcIpSetIds.map N.set, notDstIpSetIds := r.notDstIpSetIds.map N.set,
    dstIpPortSetIds := r.dstIpPortSetIds.map N.set,
    icmp := trIcmp r.icmp, notIcmp := trIcmp r.notIcmp }

/-- The two environments and packet views describe the same packet and the same IP sets (IPv4). -/
structure EnvRel (N : Names) (env9 : Netfilter.Env) (pkt9 : Netfilter.Packet) (env : Env) (p : Pkt) : Prop where
  v4 : env.c.v6 = false
  pv4 : pkt9.v6 = false
  protoTab : EnvProto env9
  proto : pkt9.proto = p.proto.toNat
  sport : pkt9.sport = p.sport.toNat
  dport : pkt9.dport = p.postDport.toNat
  icmpT : pkt9.icmpType = p.icmpW.toNat % 256
  icmpC : pkt9.icmpCode = p.icmpW.toNat / 256
  setS : ∀ id, env9.inIPSet (C08.setNameFor false (N.set id)) pkt9.src =
    env.member id (keyAddr false p.src) p.sport p.proto
  setD : ∀ id, env9.inIPSet (C08.setNameFor false (N.set id)) pkt9.dst =
    env.member id (keyAddr false p.postDst) p.postDport p.proto
  psetS : ∀ id, env9.inIPPortSet (C08.setNameFor false (N.set id)) pkt9.src pkt9.proto pkt9.sport =
    env.member id (keyAddr false p.src) p.sport p.proto
  psetD : ∀ id, env9.inIPPortSet (C08.setNameFor false (N.set id)) pkt9.dst pkt9.proto pkt9.dport =
    env.member id (keyAddr false p.postDst) p.postDport p.proto

def IcmpNN : C11.Icmp → Prop
  | .none => True
  | .type t => 0 ≤ t
  | .typeCode t c => 0 ≤ t ∧ 0 ≤ c

/-- A rule of the extended common fragment: every criterion except CIDRs, as the API validates them
(numeric ports only with a port protocol, ICMP criteria only with protocol ICMP, at most one
destination IP set). -/
structure RuleFull (r : C11.Rule) : Prop where
  act : ActLit r.action
  p1 : ProtoNumOK r.protocol
  p2 : ProtoNumOK r.notProtocol
  noNet : r.ipVersion = 0 ∧ r.srcNet = [] ∧ r.notSrcNet = [] ∧ r.dstNet = [] ∧ r.notDstNet = []
  ports : ∀ pr ∈ r.srcPorts ++ r.notSrcPorts ++ r.dstPorts ++ r.notDstPorts, PortOK pr
  portProto : r.srcPorts ++ r.notSrcPorts ++ r.dstPorts ++ r.notDstPorts ≠ [] →
    ∃ pr k, r.protocol = some pr ∧ protoNumberRef pr = some k ∧ (k = 6 ∨ k = 17 ∨ k = 132)
  icmpProto : (r.icmp ≠ .none ∨ r.notIcmp ≠ .none) → ∃ pr, r.protocol = some pr ∧ protoNumberRef pr = some 1
  icmpNN : IcmpNN r.icmp ∧ IcmpNN r.notIcmp
  dst1 : r.dstIpSetIds.length ≤ 1

theorem filterRule_noNet (v6 : Bool) (r : C11.Rule)
    (h : r.ipVersion = 0 ∧ r.srcNet = [] ∧ r.notSrcNet = [] ∧ r.dstNet = [] ∧ r.notDstNet = []) :
    filterRule v6 r = some r := by
  obtain ⟨h0, h1, h2, h3, h4⟩ := h
  cases r
  simp only at h0 h1 h2 h3 h4
  subst h0 h1 h2 h3 h4
  simp [filterRule, filterNets]

theorem inRanges_bridge (rs : List C11.PortRange) (hok : ∀ r ∈ rs, PortOK r) (v : BitVec 16) :
    Netfilter.inRanges (rs.map trPR) v.toNat = rs.any (portIn v) := by
  induction rs with
  | nil => rfl
  | cons r rs ih =>
    have := ih (fun q hq => hok q (List.mem_cons_of_mem _ hq))
    obtain ⟨h0, h1, h2⟩ := hok r List.mem_cons_self
    simp only [Netfilter.inRanges, List.map_cons, List.any_cons] at this ⊢
    rw [this]
    congr 1
    obtain ⟨f, hf⟩ : ∃ f : Nat, r.first = (f : Int) := ⟨r.first.toNat, by omega⟩
    obtain ⟨l, hl⟩ : ∃ l : Nat, r.last = (l : Int) := ⟨r.last.toNat, by omega⟩
    simp only [trPR, portIn, hf, hl, Int.toNat_natCast]
    rw [Bool.eq_iff_iff]
    simp only [Bool.and_eq_true, decide_eq_true_eq]
    constructor <;> intro h <;> constructor <;> omega

theorem icmp_bridge {N : Names} {env9 : Netfilter.Env} {pkt9 : Netfilter.Packet} {env : Env} {p : Pkt}
    (he : EnvRel N env9 pkt9 env p) (ic : C11.Icmp) (hnn : IcmpNN ic) :
    (pkt9.proto = 1 → Policy.icmpMatches pkt9 (trIcmp ic) = icmpIs p ic) ∧
    (pkt9.proto = 1 → Policy.notIcmpMatches pkt9 (trIcmp ic) = (ic == .none || !icmpIs p ic)) := by
  have hi : pkt9.proto = 1 → Policy.isIcmpPkt pkt9 = true := by
    intro h; simp [Policy.isIcmpPkt, he.pv4, h]
  cases ic with
  | none => exact ⟨fun _ => rfl, fun _ => rfl⟩
  | type t =>
    have ht : 0 ≤ t := hnn
    have e : (pkt9.icmpType == t.toNat % 256) = ((p.icmpW.toNat % 256 : Int) == t % 256) := by
      rw [he.icmpT, Bool.eq_iff_iff]; simp only [beq_iff_eq]; omega
    refine ⟨fun h => ?_, fun h => ?_⟩
    · simp [trIcmp, Policy.icmpMatches, icmpIs, hi h, e]
    · simp [trIcmp, Policy.notIcmpMatches, icmpIs, hi h, e]
  | typeCode t c =>
    obtain ⟨ht, hc⟩ : 0 ≤ t ∧ 0 ≤ c := hnn
    have e1 : (pkt9.icmpType == t.toNat % 256) = ((p.icmpW.toNat % 256 : Int) == t % 256) := by
      rw [he.icmpT, Bool.eq_iff_iff]; simp only [beq_iff_eq]; omega
    have hw : p.icmpW.toNat < 65536 := p.icmpW.isLt
    have e2 : (pkt9.icmpCode == c.toNat % 256) = ((p.icmpW.toNat / 256 : Int) == c % 256) := by
      rw [he.icmpC, Bool.eq_iff_iff]; simp only [beq_iff_eq]; omega
    refine ⟨fun h => ?_, fun h => ?_⟩
    · simp [trIcmp, Policy.icmpMatches, icmpIs, hi h, e1, e2]
    · simp [trIcmp, Policy.notIcmpMatches, icmpIs, hi h, e1, e2]

theorem all_map_eq {α β : Type} (f : α → β) (g : β → Bool) (h : α → Bool) (l : List α) (e : ∀ x, g (f x) = h x) :
    (l.map f).all g = l.all h := by
  rw [List.all_map]; exact congrArg _ (funext e)

theorem any_map_eq {α β : Type} (f : α → β) (g : β → Bool) (h : α → Bool) (l : List α) (e : ∀ x, g (f x) = h x) :
    (l.map f).any g = l.any h := by
  rw [List.any_map]; exact congrArg _ (funext e)

theorem portsPos_bridge (env9 : Netfilter.Env) (N : Names) (rs : List C11.PortRange) (named : List Nat)
    (hok : ∀ r ∈ rs, PortOK r) (proto9 a9 port9 : Nat) (v : BitVec 16) (hv : port9 = v.toNat) (mem : Nat → Bool)
    (hm : ∀ id, env9.inIPPortSet (C08.setNameFor false (N.set id)) a9 proto9 port9 = mem id)
    (hpp : rs ≠ [] → Netfilter.isPortProto proto9 = true) :
    Policy.portsMatch env9 (C08.setNameFor false) (rs.map trPR) (named.map N.set) proto9 a9 port9 =
      ((rs.isEmpty && named.isEmpty) || (rs.any (portIn v) || named.any mem)) := by
  subst hv
  unfold Policy.portsMatch
  rw [inRanges_bridge rs hok v, any_map_eq N.set _ mem named hm]
  cases rs with
  | nil => simp
  | cons r rs' => simp [hpp (by simp)]

/-- negated port criterion (numeric ranges and named-port sets are two criteria in Model/Policy) -/
theorem portsNeg_bridge (env9 : Netfilter.Env) (N : Names) (rs : List C11.PortRange) (named : List Nat)
    (hok : ∀ r ∈ rs, PortOK r) (proto9 a9 port9 : Nat) (v : BitVec 16) (hv : port9 = v.toNat) (mem : Nat → Bool)
    (hm : ∀ id, env9.inIPPortSet (C08.setNameFor false (N.set id)) a9 proto9 port9 = mem id)
    (hpp : rs ≠ [] → Netfilter.isPortProto proto9 = true) :
    (((rs.map trPR).isEmpty || (Netfilter.isPortProto proto9 && !Netfilter.inRanges (rs.map trPR) port9)) &&
      (named.map N.set).all (fun id => !env9.inIPPortSet (C08.setNameFor false id) a9 proto9 port9)) =
      !((!(rs.isEmpty && named.isEmpty)) && (rs.any (portIn v) || named.any mem)) := by
  subst hv
  rw [inRanges_bridge rs hok v, all_map_eq N.set _ (fun id => !mem id) named (fun id => by rw [hm id])]
  rw [← List.not_any_eq_all_not]
  cases rs with
  | nil => cases named <;> simp
  | cons r rs' =>
    simp only [List.map_cons, List.isEmpty_cons, Bool.false_or, hpp (by simp), Bool.true_and, Bool.false_and,
      Bool.not_false, Bool.not_or]

/-- at most one destination IP set: "every set" = "some set" -/
theorem dst1_bridge (ids : List Nat) (f : Nat → Bool) (h : ids.length ≤ 1) : ids.all f = (ids.isEmpty || ids.any f) := by
  cases ids with
  | nil => rfl
  | cons x xs =>
    cases xs with
    | nil => simp
    | cons y ys => simp only [List.length_cons] at h; omega

def notProto9 (env9 : Netfilter.Env) (q : Option Netfilter.Proto) (n : Nat) : Bool :=
  match q with
  | none => true
  | some q => !Netfilter.protoIs env9 (Policy.protoTrunc q) n

theorem protoIs_k {p : Pkt} {pr : C11.Proto} {k : Nat} (hk : protoNumberRef pr = some k) (h : C11.protoIs p pr = true) :
    p.proto.toNat = k := by
  simp only [C11.protoIs, hk, beq_iff_eq] at h
  exact h

theorem ruleMatches_full {N : Names} {env9 : Netfilter.Env} {pkt9 : Netfilter.Packet} {env : Env} {p : Pkt}
    (he : EnvRel N env9 pkt9 env p) (r : C11.Rule) (hr : RuleFull r) :
    Policy.ruleMatches env9 (C08.setNameFor false) (trRuleF N r) pkt9 = C11.ruleMatch env p .dest r := by
  obtain ⟨h0, hn1, hn2, hn3, hn4⟩ := hr.noNet
  have hB1 : Policy.protoOK env9 (trRuleF N r) pkt9 = r.protocol.all (C11.protoIs p) := by
    simp only [Policy.protoOK, trRuleF]
    cases hp : r.protocol with
    | none => rfl
    | some a =>
      have := hr.p1; rw [hp] at this
      simp only [Option.map_some, Option.all_some, he.proto]
      exact protoIs_bridge env9 he.protoTab p a this
  have hB2 : notProto9 env9 (r.notProtocol.map trP) pkt9.proto =
      r.notProtocol.all (fun x => !C11.protoIs p x) := by
    cases hp : r.notProtocol with
    | none => rfl
    | some a =>
      have := hr.p2; rw [hp] at this
      simp only [notProto9, Option.map_some, Option.all_some, he.proto]
      rw [protoIs_bridge env9 he.protoTab p a this]
  by_cases hA1 : r.protocol.all (C11.protoIs p) = true
  · -- ports need a port protocol, ICMP needs ICMP: both follow from the protocol criterion
    have hpp : r.srcPorts ++ r.notSrcPorts ++ r.dstPorts ++ r.notDstPorts ≠ [] → Netfilter.isPortProto pkt9.proto = true := by
      intro hne
      obtain ⟨pr, k, hp, hk, hk3⟩ := hr.portProto hne
      rw [hp] at hA1
      have := protoIs_k hk (by simpa using hA1)
      rw [he.proto, this]
      rcases hk3 with e | e | e <;> rw [e] <;> rfl
    have hic : (r.icmp ≠ .none ∨ r.notIcmp ≠ .none) → pkt9.proto = 1 := by
      intro hne
      obtain ⟨pr, hp, hk⟩ := hr.icmpProto hne
      rw [hp] at hA1
      rw [he.proto]; exact protoIs_k hk (by simpa using hA1)
    have hok := hr.ports
    simp only [List.forall_mem_append] at hok
    obtain ⟨⟨⟨k1, k2⟩, k3⟩, k4⟩ := hok
    have q1 := portsPos_bridge env9 N r.srcPorts r.srcNamedPortIpSetIds k1 pkt9.proto pkt9.src
      pkt9.sport p.sport he.sport _ he.psetS (fun hne => hpp (by simp [hne]))
    have q2 := portsPos_bridge env9 N r.dstPorts r.dstNamedPortIpSetIds k3 pkt9.proto pkt9.dst
      pkt9.dport p.postDport he.dport _ he.psetD (fun hne => hpp (by simp [hne]))
    have q3 := portsNeg_bridge env9 N r.notSrcPorts r.notSrcNamedPortIpSetIds k2 pkt9.proto
      pkt9.src pkt9.sport p.sport he.sport _ he.psetS (fun hne => hpp (by simp [hne]))
    have q4 := portsNeg_bridge env9 N r.notDstPorts r.notDstNamedPortIpSetIds k4 pkt9.proto
      pkt9.dst pkt9.dport p.postDport he.dport _ he.psetD (fun hne => hpp (by simp [hne]))
    have s1 := all_map_eq N.set (fun id => env9.inIPSet (C08.setNameFor false id) pkt9.src)
      (fun id => env.member id (keyAddr false p.src) p.sport p.proto) r.srcIpSetIds he.setS
    have s2 := all_map_eq N.set (fun id => !env9.inIPSet (C08.setNameFor false id) pkt9.src)
      (fun id => !env.member id (keyAddr false p.src) p.sport p.proto) r.notSrcIpSetIds (fun id => by rw [he.setS id])
    have s3 := all_map_eq N.set (fun id => env9.inIPSet (C08.setNameFor false id) pkt9.dst)
      (fun id => env.member id (keyAddr false p.postDst) p.postDport p.proto) r.dstIpSetIds he.setD
    rw [dst1_bridge _ _ hr.dst1] at s3
    have s4 := all_map_eq N.set (fun id => !env9.inIPSet (C08.setNameFor false id) pkt9.dst)
      (fun id => !env.member id (keyAddr false p.postDst) p.postDport p.proto) r.notDstIpSetIds (fun id => by rw [he.setD id])
    have s5 := all_map_eq N.set (fun id => env9.inIPPortSet (C08.setNameFor false id) pkt9.dst pkt9.proto pkt9.dport)
      (fun id => env.member id (keyAddr false p.postDst) p.postDport p.proto) r.dstIpPortSetIds he.psetD
    have i1 : Policy.icmpMatches pkt9 (trIcmp r.icmp) = icmpIs p r.icmp := by
      by_cases hi : r.icmp = .none
      · rw [hi]; rfl
      · exact (icmp_bridge he r.icmp hr.icmpNN.1).1 (hic (Or.inl hi))
    have i2 : Policy.notIcmpMatches pkt9 (trIcmp r.notIcmp) = (r.notIcmp == .none || !icmpIs p r.notIcmp) := by
      by_cases hi : r.notIcmp = .none
      · rw [hi]; rfl
      · exact (icmp_bridge he r.notIcmp hr.icmpNN.2).2 (hic (Or.inr hi))
    have hL : Policy.ruleMatches env9 (C08.setNameFor false) (trRuleF N r) pkt9 =
        (Policy.protoOK env9 (trRuleF N r) pkt9 &&
          Policy.portsMatch env9 (C08.setNameFor false) (r.srcPorts.map trPR) (r.srcNamedPortIpSetIds.map N.set) pkt9.proto pkt9.src pkt9.sport &&
          Policy.portsMatch env9 (C08.setNameFor false) (r.dstPorts.map trPR) (r.dstNamedPortIpSetIds.map N.set) pkt9.proto pkt9.dst pkt9.dport &&
          ((r.srcIpSetIds.map N.set).all (fun id => env9.inIPSet (C08.setNameFor false id) pkt9.src) &&
           (r.dstIpSetIds.map N.set).all (fun id => env9.inIPSet (C08.setNameFor false id) pkt9.dst) &&
           (r.dstIpPortSetIds.map N.set).all (fun id => env9.inIPPortSet (C08.setNameFor false id) pkt9.dst pkt9.proto pkt9.dport) &&
           Policy.icmpMatches pkt9 (trIcmp r.icmp) &&
           notProto9 env9 (r.notProtocol.map trP) pkt9.proto &&
           (r.notSrcIpSetIds.map N.set).all (fun id => !env9.inIPSet (C08.setNameFor false id) pkt9.src) &&
           (((r.notSrcPorts.map trPR).isEmpty || (Netfilter.isPortProto pkt9.proto && !Netfilter.inRanges (r.notSrcPorts.map trPR) pkt9.sport)) &&
            (r.notSrcNamedPortIpSetIds.map N.set).all (fun id => !env9.inIPPortSet (C08.setNameFor false id) pkt9.src pkt9.proto pkt9.sport)) &&
           (r.notDstIpSetIds.map N.set).all (fun id => !env9.inIPSet (C08.setNameFor false id) pkt9.dst) &&
           (((r.notDstPorts.map trPR).isEmpty || (Netfilter.isPortProto pkt9.proto && !Netfilter.inRanges (r.notDstPorts.map trPR) pkt9.dport)) &&
            (r.notDstNamedPortIpSetIds.map N.set).all (fun id => !env9.inIPPortSet (C08.setNameFor false id) pkt9.dst pkt9.proto pkt9.dport)) &&
           Policy.notIcmpMatches pkt9 (trIcmp r.notIcmp))) := by
      simp only [Policy.ruleMatches, Policy.netsMatch, Policy.posNetOK, Policy.negNetOK, Policy.familyOK, Policy.restMatch,
        Policy.otherMatch, trRuleF, h0, notProto9]
      cases r.notProtocol <;> simp [Bool.and_assoc]
    rw [hL, hB1, hB2, q1, q2, q3, q4, s1, s2, s3, s4, s5, i1, i2]
    simp only [C11.ruleMatch, he.v4, hn1, hn2, hn3, hn4, Pkt.addr, Pkt.port, List.isEmpty_nil, Bool.true_or, List.all_nil,
      Bool.and_true]
    ac_rfl
  · -- the protocol criterion fails on both sides
    have hA1' : r.protocol.all (C11.protoIs p) = false := by simpa using hA1
    have hR : C11.ruleMatch env p .dest r = false := by
      simp only [C11.ruleMatch, hA1', Bool.false_and]
    rw [hR]
    simp only [Policy.ruleMatches, Policy.restMatch, hB1, hA1', Bool.false_and, Bool.and_false]

theorem ruleBridge_full {N : Names} {env9 : Netfilter.Env} {pkt9 : Netfilter.Packet} {env : Env} {p : Pkt}
    (he : EnvRel N env9 pkt9 env p) : RuleBridge env9 pkt9 env p (trRuleF N) RuleFull := by
  refine ⟨fun r hr => ⟨hr.act, rfl⟩, fun r hr => ?_⟩
  rw [filterRule_noNet env.c.v6 r hr.noNet]
  exact ruleMatches_full he r hr

end CalicoVerif.C12
