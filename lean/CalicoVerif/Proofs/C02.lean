import CalicoVerif.Model.C02
import CalicoVerif.Proofs.Assoc
/-!
Helper lemmas for C02: list-backed sets/maps and the generic update/delete/sent category.
-/
namespace CalicoVerif.C02

section basics
variable {α κ β : Type} [DecidableEq α] [DecidableEq κ]

@[simp] theorem mem_sadd {a b : α} {s : List α} : b ∈ sadd a s ↔ b = a ∨ b ∈ s := by
  unfold sadd
  by_cases h : a ∈ s
  · rw [if_pos h]; exact ⟨Or.inr, fun hb => hb.elim (fun e => e ▸ h) fun x => x⟩
  · simp [h, or_comm]

@[simp] theorem mem_sdel {a b : α} {s : List α} : b ∈ sdel a s ↔ b ∈ s ∧ b ≠ a := by
  simp [sdel]

theorem nodup_sadd {a : α} {s : List α} (h : s.Nodup) : (sadd a s).Nodup := by
  unfold sadd
  by_cases ha : a ∈ s
  · simp [ha, h]
  · simp only [ha, if_false]
    rw [List.nodup_append]
    refine ⟨h, by simp, ?_⟩
    intro x hx y hy
    simp at hy; subst hy
    intro hxy; subst hxy; exact ha hx

theorem nodup_sdel {a : α} {s : List α} (h : s.Nodup) : (sdel a s).Nodup := by
  unfold sdel; exact h.filter _

@[simp] theorem mget_nil {k : κ} : mget ([] : List (κ × β)) k = none := rfl

theorem mget_cons {k k' : κ} {v : β} {t : List (κ × β)} :
    mget ((k', v) :: t) k = if k' = k then some v else mget t k := rfl

theorem mget_eq (m : List (κ × β)) (k : κ) : mget m k = Assoc.get m k := by
  induction m with
  | nil => rfl
  | cons p t ih => obtain ⟨k', v⟩ := p; simp only [mget, Assoc.get, ih]

theorem mget_append {m₁ m₂ : List (κ × β)} {k : κ} :
    mget (m₁ ++ m₂) k = (mget m₁ k).or (mget m₂ k) := by
  rw [mget_eq, mget_eq, mget_eq]; exact Assoc.get_append m₁ m₂ k

theorem mget_mdel {m : List (κ × β)} {k k' : κ} :
    mget (mdel k m) k' = if k' = k then none else mget m k' := by
  rw [mget_eq, mget_eq]; exact Assoc.get_del m k k'

theorem mget_mset {m : List (κ × β)} {k k' : κ} {v : β} :
    mget (mset k v m) k' = if k' = k then some v else mget m k' := by
  rw [mget_eq, mget_eq]; exact Assoc.get_set_end m k k' v

theorem mem_mkeys_iff {m : List (κ × β)} {k : κ} : k ∈ mkeys m ↔ (mget m k).isSome := by
  rw [mget_eq]; exact (Assoc.get_isSome_iff m k).symm

theorem mkeys_mdel_nodup {m : List (κ × β)} {k : κ} (h : (mkeys m).Nodup) : (mkeys (mdel k m)).Nodup :=
  Assoc.nodup_del k h

theorem mkeys_mset_nodup {m : List (κ × β)} {k : κ} {v : β} (h : (mkeys m).Nodup) : (mkeys (mset k v m)).Nodup :=
  Assoc.nodup_set_end k v h

theorem mget_of_mem {m : List (κ × β)} (hn : (mkeys m).Nodup) {k : κ} {v : β} (h : (k, v) ∈ m) :
    mget m k = some v :=
  (mget_eq m k).trans (Assoc.get_of_mem hn h)

theorem mem_of_mget {m : List (κ × β)} {k : κ} {v : β} (h : mget m k = some v) : (k, v) ∈ m :=
  Assoc.mem_of_get ((mget_eq m k).symm.trans h)

end basics

section cat
variable {κ β γ : Type} [DecidableEq κ]

def fupd (f : κ → Option γ) (k : κ) (v : Option γ) : κ → Option γ := fun k' => if k' = k then v else f k'

theorem isSome_fupd_some {f : κ → Option γ} {k k' : κ} {v : γ} (h : (f k').isSome) :
    (fupd f k (some v) k').isSome := by
  unfold fupd; split <;> trivial

theorem isSome_fupd_none {f : κ → Option γ} {k k' : κ} (hne : k' ≠ k) (h : (f k').isSome) :
    (fupd f k none k').isSome := by
  rwa [fupd, if_neg hne]

theorem forall_fupd_some {f : κ → Option γ} {Q : γ → Prop} (h : ∀ k v, f k = some v → Q v)
    {k₀ : κ} {v₀ : γ} (h0 : Q v₀) : ∀ k v, fupd f k₀ (some v₀) k = some v → Q v := by
  intro k v hk
  unfold fupd at hk
  split at hk
  · cases hk; exact h0
  · exact h k v hk

theorem forall_fupd_none {f : κ → Option γ} {Q : γ → Prop} (h : ∀ k v, f k = some v → Q v)
    {k₀ : κ} : ∀ k v, fupd f k₀ none k = some v → Q v := by
  intro k v hk
  unfold fupd at hk
  split at hk
  · cases hk
  · exact h k v hk

/-- Effect on the downstream map of the update messages of one flush phase (in list order). -/
def applyUpds (g : κ → β → γ) (D : κ → Option γ) (l : List (κ × β)) : κ → Option γ :=
  l.foldl (fun D p => fupd D p.1 (some (g p.1 p.2))) D
/-- Effect of the delete messages. -/
def applyDels (D : κ → Option γ) (l : List κ) : κ → Option γ :=
  l.foldl (fun D k => fupd D k none) D

theorem applyDels_get (D : κ → Option γ) (l : List κ) (k : κ) :
    applyDels D l k = if k ∈ l then none else D k := by
  induction l generalizing D with
  | nil => simp [applyDels]
  | cons h t ih =>
    simp only [applyDels, List.foldl_cons] at ih ⊢
    rw [ih]
    by_cases h1 : k ∈ t
    · simp [h1]
    · by_cases h2 : k = h <;> simp [h1, h2, fupd]

theorem applyUpds_get (g : κ → β → γ) (D : κ → Option γ) (l : List (κ × β)) (hn : (mkeys l).Nodup) (k : κ) :
    applyUpds g D l k = match mget l k with | some v => some (g k v) | none => D k := by
  induction l generalizing D with
  | nil => simp [applyUpds]
  | cons h t ih =>
    obtain ⟨k₀, v₀⟩ := h
    simp only [mkeys, List.map_cons, List.nodup_cons] at hn
    simp only [applyUpds, List.foldl_cons] at ih ⊢
    rw [ih _ hn.2, mget_cons]
    by_cases h0 : k₀ = k
    · subst h0
      have : mget t k₀ = none := by
        have := hn.1
        rw [show List.map (fun x => x.1) t = mkeys t from rfl, mem_mkeys_iff] at this
        simpa using this
      simp [this, fupd]
    · have h0' : ¬ k = k₀ := fun e => h0 e.symm
      simp only [h0, if_false]
      cases mget t k <;> simp [fupd, h0']

/-- The invariant tying a category's buffers to the upstream-declared map `U` (already expressed in
the downstream vocabulary through `g`) and the downstream map `D`. -/
structure CatInv (g : κ → β → γ) (c : Cat κ β) (U D : κ → Option γ) : Prop where
  sent : ∀ k, k ∈ c.sent ↔ (D k).isSome
  view : ∀ k, U k = match mget c.upd k with | some v => some (g k v) | none => if k ∈ c.del then none else D k
  delSent : ∀ k, k ∈ c.del → k ∈ c.sent
  delNodup : c.del.Nodup
  updNodup : (mkeys c.upd).Nodup
  disj : ∀ k, k ∈ c.del → mget c.upd k = none

theorem CatInv.init (g : κ → β → γ) : CatInv g ({} : Cat κ β) (fun _ => none) (fun _ => none) :=
  ⟨by simp, by simp, by simp, by simp, by simp [mkeys], by simp⟩

theorem CatInv.onUpdate {g : κ → β → γ} {c : Cat κ β} {U D} (h : CatInv g c U D) (k : κ) (v : β) :
    CatInv g (c.onUpdate k v) (fupd U k (some (g k v))) D := by
  refine ⟨h.sent, ?view, ?delSent, nodup_sdel h.delNodup, mkeys_mset_nodup h.updNodup, ?disj⟩
  case view =>
    intro k'
    simp only [Cat.onUpdate, mget_mset, fupd]
    by_cases hk : k' = k
    · subst hk; simp
    · simp only [hk, if_false, mem_sdel, ne_eq, not_false_eq_true, and_true]
      exact h.view k'
  case delSent =>
    intro k' hk'
    simp only [Cat.onUpdate, mem_sdel] at hk'
    exact h.delSent k' hk'.1
  case disj =>
    intro k' hk'
    simp only [Cat.onUpdate, mem_sdel] at hk'
    simp only [Cat.onUpdate, mget_mset, hk'.2, if_false]
    exact h.disj k' hk'.1

theorem CatInv.onRemove {g : κ → β → γ} {c : Cat κ β} {U D} (h : CatInv g c U D) (k : κ) :
    CatInv g (c.onRemove k) (fupd U k none) D := by
  refine ⟨h.sent, ?view, ?delSent, ?delNodup, mkeys_mdel_nodup h.updNodup, ?disj⟩
  case view =>
    intro k'
    simp only [Cat.onRemove, mget_mdel, fupd]
    by_cases hk : k' = k
    · subst hk
      simp only [if_true]
      by_cases hs : k' ∈ c.sent
      · simp [hs]
      · simp only [hs, if_false]
        have h1 : D k' = none := by
          have := (not_congr (h.sent k')).1 hs
          simpa using this
        have h2 : k' ∉ c.del := fun hd => hs (h.delSent _ hd)
        simp [h1, h2]
    · simp only [hk, if_false]
      rw [h.view k']
      by_cases hs : k ∈ c.sent <;> simp [hs, hk]
  case delSent =>
    intro k' hk'
    simp only [Cat.onRemove] at hk' ⊢
    by_cases hs : k ∈ c.sent
    · simp only [hs, if_true, mem_sadd] at hk'
      rcases hk' with rfl | h1
      · exact hs
      · exact h.delSent _ h1
    · simp only [hs, if_false] at hk'; exact h.delSent _ hk'
  case delNodup =>
    simp only [Cat.onRemove]
    by_cases hs : k ∈ c.sent
    · simp only [hs, if_true]; exact nodup_sadd h.delNodup
    · simp only [hs, if_false]; exact h.delNodup
  case disj =>
    intro k' hk'
    simp only [Cat.onRemove, mget_mdel]
    by_cases hk : k' = k
    · simp [hk]
    · simp only [hk, if_false]
      simp only [Cat.onRemove] at hk'
      by_cases hs : k ∈ c.sent
      · simp only [hs, if_true, mem_sadd, hk, false_or] at hk'; exact h.disj _ hk'
      · simp only [hs, if_false] at hk'; exact h.disj _ hk'

theorem mem_foldl_sadd {l : List κ} {s : List κ} {k : κ} :
    k ∈ l.foldl (fun s k => sadd k s) s ↔ k ∈ l ∨ k ∈ s := by
  induction l generalizing s with
  | nil => simp
  | cons h t ih => simp only [List.foldl_cons, ih, mem_sadd, List.mem_cons, or_left_comm, or_assoc]

theorem nodup_foldl_sadd {l s : List κ} (h : s.Nodup) : (l.foldl (fun s k => sadd k s) s).Nodup := by
  induction l generalizing s with
  | nil => exact h
  | cons x t ih => exact ih (nodup_sadd h)

theorem mem_foldl_sdel {l : List κ} {s : List κ} {k : κ} :
    k ∈ l.foldl (fun s k => sdel k s) s ↔ k ∈ s ∧ k ∉ l := by
  induction l generalizing s with
  | nil => simp
  | cons h t ih => simp only [List.foldl_cons, ih, mem_sdel, List.mem_cons, not_or, and_assoc]

theorem CatInv.flushUpd {g : κ → β → γ} {c : Cat κ β} {U D} (h : CatInv g c U D) (f : κ → β → List Msg) :
    CatInv g (c.flushUpd f).1 U (applyUpds g D c.upd) := by
  refine ⟨?_, ?_, ?_, h.delNodup, by simp [Cat.flushUpd, mkeys], by simp [Cat.flushUpd]⟩
  · intro k
    simp only [Cat.flushUpd, mem_foldl_sadd, applyUpds_get g D c.upd h.updNodup, mem_mkeys_iff, h.sent]
    cases mget c.upd k <;> simp
  · intro k
    simp only [Cat.flushUpd, mget_nil, applyUpds_get g D c.upd h.updNodup]
    rw [h.view k]
    cases hm : mget c.upd k with
    | none => simp
    | some v =>
      simp only
      -- a key with a pending update is never pending-deleted
      by_cases hd : k ∈ c.del
      · rw [h.disj k hd] at hm; cases hm
      · simp [hd]
  · intro k hk
    simp only [Cat.flushUpd, mem_foldl_sadd]
    exact Or.inr (h.delSent k hk)

theorem CatInv.flushDel {g : κ → β → γ} {c : Cat κ β} {U D} (h : CatInv g c U D) (f : κ → Msg) :
    CatInv g (c.flushDel f).1 U (applyDels D c.del) := by
  refine ⟨?_, ?_, by simp [Cat.flushDel], by simp [Cat.flushDel], h.updNodup, by simp [Cat.flushDel]⟩
  · intro k
    simp only [Cat.flushDel, mem_foldl_sdel, applyDels_get, h.sent]
    by_cases hd : k ∈ c.del <;> simp [hd]
  · intro k
    simp only [Cat.flushDel, applyDels_get, List.not_mem_nil, if_false]
    rw [h.view k]

theorem CatInv.synced {g : κ → β → γ} {c : Cat κ β} {U D} (h : CatInv g c U D)
    (hu : c.upd = []) (hd : c.del = []) : U = D := by
  funext k
  rw [h.view k, hu, hd]; simp

theorem CatInv.view_of_mem {g : κ → β → γ} {c : Cat κ β} {U D} (h : CatInv g c U D) {k : κ} {v : β}
    (hm : (k, v) ∈ c.upd) : U k = some (g k v) := by
  rw [h.view k, mget_of_mem h.updNodup hm]

theorem CatInv.present {g : κ → β → γ} {c : Cat κ β} {U D} (h : CatInv g c U D) (hu : c.upd = []) {k : κ}
    (hk : (U k).isSome) : (D k).isSome := by
  rw [h.view k, hu] at hk
  by_cases hd : k ∈ c.del
  · simp [hd] at hk
  · simpa [hd] using hk

theorem CatInv.del_absent {g : κ → β → γ} {c : Cat κ β} {U D} (h : CatInv g c U D) {k : κ} (hk : k ∈ c.del) :
    U k = none := by
  simp only [h.view k, h.disj k hk, hk, if_true]

/-- Every delete message of a flush names an object that the downstream still has at that moment
(it was sent, and it is not deleted twice). -/
theorem CatInv.del_present {g : κ → β → γ} {c : Cat κ β} {U D} (h : CatInv g c U D)
    (l₁ : List κ) (k : κ) (l₂ : List κ) (hl : c.del = l₁ ++ k :: l₂) : (applyDels D l₁ k).isSome := by
  have hk : k ∈ c.del := by rw [hl]; simp
  have hn : k ∉ l₁ := by
    have := h.delNodup
    rw [hl, List.nodup_append] at this
    intro hin
    exact this.2.2 k hin k (by simp) rfl
  rw [applyDels_get]
  simp only [hn, if_false]
  exact (h.sent k).1 (h.delSent k hk)

end cat
end CalicoVerif.C02
