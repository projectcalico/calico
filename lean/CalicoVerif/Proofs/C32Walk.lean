import CalicoVerif.Proofs.C32Ring
/-! C32 — the emission walk in distances back from the head: which windows `EmitFlowCollections` builds, that they are
disjoint, and the invariant on `pushed` flags under which every bucket it hands to the sink is unpushed. -/
namespace CalicoVerif.C32

theorem maybeBuild_start_unpushed (r : Ring) (s e : Nat) (c : Coll) (h : r.maybeBuild s e = some c) :
    (r.bucket s).pushed = false := by
  unfold Ring.maybeBuild at h
  split at h
  · cases h
  · rename_i hp; simpa using hp

theorem maybeBuild_idxs (r : Ring) (s e : Nat) (c : Coll) (h : r.maybeBuild s e = some c) : c.idxs = r.iterIdx r.n s e := by
  unfold Ring.maybeBuild at h
  split at h
  · cases h
  · cases h; rfl

/-- indexes of the window whose oldest bucket is `D` back from the head: distances `D, D-1, …, D-m+1` -/
def winIdx (r : Ring) (D m : Nat) : List Nat := (List.range m).map (fun j => r.idxSub r.head (D - j))

theorem mem_winIdx {r : Ring} {D m i : Nat} : i ∈ winIdx r D m ↔ ∃ j, j < m ∧ i = r.idxSub r.head (D - j) := by
  simp only [winIdx, List.mem_map, List.mem_range, eq_comm]

theorem iterIdx_win (r : Ring) (hh : r.head < r.n) (fuel D m : Nat) (hm : m ≤ fuel) (hmD : m ≤ D) (hD : D < r.n) :
    r.iterIdx fuel (r.idxSub r.head D) (r.idxSub r.head (D - m)) = winIdx r D m := by
  induction m generalizing fuel D with
  | zero => cases fuel <;> simp [Ring.iterIdx, winIdx]
  | succ m ih =>
    cases fuel with
    | zero => omega
    | succ f =>
      have hne : r.idxSub r.head D ≠ r.idxSub r.head (D - (m + 1)) := fun he => by
        have := idxSub_inj r r.head D (D - (m + 1)) hh hD (by omega) he
        omega
      rw [Ring.iterIdx, if_neg hne, idxAdd_idxSub r r.head D (by omega) (by omega),
        show D - (m + 1) = (D - 1) - m by omega, ih f (D - 1) (by omega) (by omega) (by omega)]
      simp only [winIdx, List.range_succ_eq_map, List.map_cons, List.map_map, Nat.sub_zero]
      refine congrArg _ (List.map_congr_left fun j _ => ?_)
      show r.idxSub r.head (D - 1 - j) = r.idxSub r.head (D - (j + 1))
      rw [Nat.sub_sub, Nat.add_comm]

/-- the windows the walk builds from distance `D` on when it meets no pushed bucket -/
def allWins (r : Ring) : Nat → Nat → List (List Nat)
  | 0, _ => []
  | fuel + 1, D => if D < r.n then winIdx r D r.agg :: allWins r fuel (D + r.agg) else []

theorem mem_allWins_form (r : Ring) (fuel D0 : Nat) (w : List Nat) (hw : w ∈ allWins r fuel D0) :
    ∃ D, D0 ≤ D ∧ D < r.n ∧ w = winIdx r D r.agg := by
  induction fuel generalizing D0 with
  | zero => cases hw
  | succ f ih =>
    rw [allWins] at hw
    split at hw
    · rename_i hlt
      rcases List.mem_cons.1 hw with rfl | hw
      · exact ⟨D0, Nat.le_refl _, hlt, rfl⟩
      · obtain ⟨D, h1, h2, h3⟩ := ih (D0 + r.agg) hw
        exact ⟨D, by omega, h2, h3⟩
    · cases hw

theorem buildLoop2_ge (r : Ring) (fuel oldest s e : Nat) (h : r.n ≤ oldest) : r.buildLoop2 fuel oldest s e = [] := by
  cases fuel with
  | zero => rfl
  | succ f => rw [Ring.buildLoop2, if_neg (Nat.not_lt.2 h)]

theorem buildLoop2_succ (r : Ring) (f D : Nat) :
    r.buildLoop2 (f + 1) D (r.idxSub r.head D) (r.idxSub r.head (D - r.agg)) =
      if D < r.n then
        match r.maybeBuild (r.idxSub r.head D) (r.idxSub r.head (D - r.agg)) with
        | none => []
        | some c => c :: r.buildLoop2 f (D + r.agg) (r.idxSub r.head (D + r.agg)) (r.idxSub r.head (D + r.agg - r.agg))
      else [] := by
  rw [Ring.buildLoop2]
  split
  · cases r.maybeBuild (r.idxSub r.head D) (r.idxSub r.head (D - r.agg)) with
    | none => rfl
    | some c =>
      simp only []
      by_cases h2 : D + r.agg < r.n
      · rw [idxSub_idxSub r r.head D r.agg (Nat.le_of_lt h2), Nat.add_sub_cancel]
      · rw [buildLoop2_ge r f _ _ _ (Nat.not_lt.1 h2), buildLoop2_ge r f _ _ _ (Nat.not_lt.1 h2)]
  · rfl

/-- A walk that starts `D0` back from the head and builds the windows whose oldest buckets lie `Ds` back built one at `d`:
it found the oldest bucket unpushed, and came from the start or from the window one `agg` nearer. -/
structure Stop (r : Ring) (D0 : Nat) (Ds : List Nat) (d : Nat) : Prop where
  ge : D0 ≤ d
  lt : d < r.n
  unpushed : (r.bucket (r.idxSub r.head d)).pushed = false
  prev : d = D0 ∨ d - r.agg ∈ Ds

theorem buildLoop2_walk (r : Ring) (hh : r.head < r.n) (fuel D : Nat) (hD : r.agg ≤ D) :
    ∃ Ds : List Nat,
      (r.buildLoop2 fuel D (r.idxSub r.head D) (r.idxSub r.head (D - r.agg))).map (·.idxs) = Ds.map (winIdx r · r.agg) ∧
      Ds.Pairwise (fun a b => a + r.agg ≤ b) ∧ ∀ d ∈ Ds, Stop r D Ds d := by
  induction fuel generalizing D with
  | zero => exact ⟨[], rfl, List.Pairwise.nil, nofun⟩
  | succ f ih =>
    rw [buildLoop2_succ]
    split
    · rename_i hlt
      cases hb : r.maybeBuild (r.idxSub r.head D) (r.idxSub r.head (D - r.agg)) with
      | none => exact ⟨[], rfl, List.Pairwise.nil, nofun⟩
      | some c =>
        obtain ⟨Ds, hmap, hpw, hall⟩ := ih (D + r.agg) (by omega)
        refine ⟨D :: Ds, ?_, List.pairwise_cons.2 ⟨fun d hd => (hall d hd).ge, hpw⟩, fun d hd => ?_⟩
        · rw [List.map_cons, List.map_cons, hmap, maybeBuild_idxs r _ _ c hb,
            iterIdx_win r hh r.n D r.agg (by omega) hD hlt]
        · rcases List.mem_cons.1 hd with rfl | hd
          · exact ⟨Nat.le_refl _, hlt, maybeBuild_start_unpushed r _ _ c hb, Or.inl rfl⟩
          · have s := hall d hd
            refine ⟨Nat.le_trans (Nat.le_add_right ..) s.ge, s.lt, s.unpushed, Or.inr ?_⟩
            rcases s.prev with rfl | h4
            · rw [Nat.add_sub_cancel]; exact List.mem_cons_self
            · exact List.mem_cons_of_mem _ h4
    · exact ⟨[], rfl, List.Pairwise.nil, nofun⟩

theorem built_eq (r : Ring) (hagg : 1 ≤ r.agg) :
    r.built = r.buildLoop2 r.n (1 + r.pushAfter + r.agg) (r.idxSub r.head (1 + r.pushAfter + r.agg))
      (r.idxSub r.head (1 + r.pushAfter + r.agg - r.agg)) := by
  unfold Ring.built
  simp only [if_neg (Nat.not_lt.2 hagg)]
  by_cases hfit : 1 + r.pushAfter + r.agg < r.n
  · rw [idxSub_idxSub r r.head 1 r.pushAfter (by omega), idxSub_idxSub r r.head (1 + r.pushAfter) r.agg (by omega),
      Nat.add_sub_cancel]
  · rw [buildLoop2_ge r _ _ _ _ (Nat.not_lt.1 hfit), buildLoop2_ge r _ _ _ _ (Nat.not_lt.1 hfit)]

theorem built_walk (r : Ring) (hh : r.head < r.n) :
    ∃ Ds : List Nat, r.built.map (·.idxs) = Ds.map (winIdx r · r.agg) ∧ Ds.Pairwise (fun a b => a + r.agg ≤ b) ∧
      ∀ d ∈ Ds, 1 ≤ r.agg ∧ Stop r (1 + r.pushAfter + r.agg) Ds d := by
  by_cases hagg : 1 ≤ r.agg
  · obtain ⟨Ds, h1, h2, h3⟩ := buildLoop2_walk r hh r.n (1 + r.pushAfter + r.agg) (by omega)
    exact ⟨Ds, by rw [built_eq r hagg]; exact h1, h2, fun d hd => ⟨hagg, h3 d hd⟩⟩
  · exact ⟨[], by unfold Ring.built; rw [if_pos (Nat.lt_of_not_le hagg)]; rfl, List.Pairwise.nil, nofun⟩

/-- `D` is how far the oldest bucket of `c`'s window lies back from the head; `prev` speaks of the window built just
before `c`, if there is one. -/
structure BuiltAt (r : Ring) (c : Coll) (D : Nat) : Prop where
  agg : 1 ≤ r.agg
  ge : 1 + r.pushAfter + r.agg ≤ D
  lt : D < r.n
  idxs : c.idxs = winIdx r D r.agg
  unpushed : (r.bucket (r.idxSub r.head D)).pushed = false
  prev : D = 1 + r.pushAfter + r.agg ∨
    (1 + r.pushAfter + r.agg ≤ D - r.agg ∧ (r.bucket (r.idxSub r.head (D - r.agg))).pushed = false)

theorem built_at (r : Ring) (hh : r.head < r.n) (c : Coll) (hc : c ∈ r.built) : ∃ D, BuiltAt r c D := by
  obtain ⟨Ds, hmap, _, hall⟩ := built_walk r hh
  obtain ⟨d, hd, he⟩ := List.mem_map.1 (hmap ▸ List.mem_map_of_mem (f := Coll.idxs) hc)
  obtain ⟨hagg, s⟩ := hall d hd
  exact ⟨d, hagg, s.ge, s.lt, he.symm, s.unpushed, s.prev.imp_right fun h => ⟨(hall _ h).2.ge, (hall _ h).2.unpushed⟩⟩

theorem built_disjoint (r : Ring) (hh : r.head < r.n) :
    (r.built.map (·.idxs)).Pairwise (fun a b => ∀ i, i ∈ a → i ∉ b) ∧
    ∀ c ∈ r.built, ∀ i ∈ c.idxs, i ≠ r.head ∧ i < r.n := by
  refine ⟨?_, fun c hc i hi => ?_⟩
  · obtain ⟨Ds, hmap, hpw, hall⟩ := built_walk r hh
    rw [hmap]
    -- windows `agg` or more apart inside the ring share no distance, hence no index
    refine List.pairwise_map.2 (hpw.imp_of_mem fun {a b} _ hbm hab i hia hib => ?_)
    obtain ⟨j, hj, rfl⟩ := mem_winIdx.1 hia
    obtain ⟨j', hj', he⟩ := mem_winIdx.1 hib
    have hbn := (hall b hbm).2.lt
    have := idxSub_inj r r.head (a - j) (b - j') hh (by omega) (by omega) he
    omega
  · obtain ⟨D', b⟩ := built_at r hh c hc
    obtain ⟨j, hj, rfl⟩ := mem_winIdx.1 (b.idxs ▸ hi)
    refine ⟨fun he => ?_, idxSub_lt r _ _ (Nat.zero_lt_of_lt hh)⟩
    have := idxSub_inj r r.head (D' - j) 0 hh (by have := b.lt; omega) (Nat.zero_lt_of_lt hh)
      (he.trans (idxSub_zero r hh).symm)
    have := b.ge
    omega

theorem winIdx_nodup (r : Ring) (hh : r.head < r.n) (D m : Nat) (hm : m ≤ D + 1) (hD : D < r.n) : (winIdx r D m).Nodup := by
  refine List.pairwise_map.2 (List.nodup_range.imp_of_mem fun {a b} ha hb hne he => hne ?_)
  rw [List.mem_range] at ha hb
  have := idxSub_inj r r.head (D - a) (D - b) hh (by omega) (by omega) he
  omega

theorem sent_idxs_nodup (r : Ring) (hh : r.head < r.n) : (r.emit.2.flatMap (·.idxs)).Nodup := by
  have hsub : r.emit.2.Sublist r.built.reverse := List.filter_sublist
  have hpw : r.built.reverse.Pairwise (fun a b => ∀ i ∈ a.idxs, ∀ j ∈ b.idxs, i ≠ j) := by
    rw [List.pairwise_reverse]
    exact (List.pairwise_map.1 (built_disjoint r hh).1).imp (fun h i hb j ha (he : i = j) => h j ha (he ▸ hb))
  refine List.pairwise_flatMap.2 ⟨fun c hc => ?_, hpw.sublist hsub⟩
  obtain ⟨D', b⟩ := built_at r hh c (emit_sent_built r c hc)
  rw [b.idxs]; exact winIdx_nodup r hh D' r.agg (by have := b.ge; omega) b.lt

def Ring.pd (r : Ring) (d : Nat) : Bool := (r.bucket (r.idxSub r.head d)).pushed

/-- The pushed buckets are (the retained parts of) whole windows `(x, x + agg]` of distances that were handed to the
sink, at or behind the emission position. -/
def PInv (r : Ring) : Prop :=
  ∀ d, d < r.n → r.pd d = true →
    ∃ x, 1 + r.pushAfter ≤ x ∧ x < d ∧ d ≤ x + r.agg ∧ ∀ d', x < d' → d' ≤ x + r.agg → d' < r.n → r.pd d' = true

theorem idx_in_win (r : Ring) (hh : r.head < r.n) (D d : Nat) (hD : D < r.n) (hd : d < r.n) (hagg : r.agg ≤ D) :
    r.idxSub r.head d ∈ winIdx r D r.agg ↔ D - r.agg < d ∧ d ≤ D := by
  rw [mem_winIdx]
  constructor
  · rintro ⟨j, hj, he⟩
    have := idxSub_inj r r.head d (D - j) hh hd (by omega) he
    omega
  · rintro ⟨h1, h2⟩
    exact ⟨D - d, by omega, by congr 1; omega⟩

theorem built_all_unpushed (r : Ring) (hh : r.head < r.n) (hI : PInv r)
    (c : Coll) (hc : c ∈ r.built) (i : Nat) (hi : i ∈ c.idxs) : (r.bucket i).pushed = false := by
  obtain ⟨D', b⟩ := built_at r hh c hc
  obtain ⟨j, hj, rfl⟩ := mem_winIdx.1 (b.idxs ▸ hi)
  have hge := b.ge
  have hlt := b.lt
  cases hpd : r.pd (D' - j) with
  | false => exact hpd
  | true =>
    -- the pushed window `(x, x + agg]` around `D' - j` would contain `D'` or the oldest bucket of the window before
    obtain ⟨x, x1, x2, x3, x4⟩ := hI (D' - j) (by omega) hpd
    by_cases hcase : D' ≤ x + r.agg
    · exact absurd (x4 D' (by omega) hcase hlt) (by rw [Ring.pd, b.unpushed]; exact Bool.false_ne_true)
    · rcases b.prev with h5 | ⟨h5, h6⟩
      · omega
      · exact absurd (x4 (D' - r.agg) (by omega) (by omega) (by omega)) (by rw [Ring.pd, h6]; exact Bool.false_ne_true)

theorem PInv.of_flags {a b : Ring} (h : SameFlags a b) (hb : PInv b) : PInv a := by
  have hpd : ∀ d, a.pd d = b.pd d := fun d => by
    unfold Ring.pd; rw [h.head, idxSub_congr h.len]; exact h.pushed _
  intro d hd hp
  rw [h.len] at hd; rw [hpd] at hp
  obtain ⟨x, x1, x2, x3, x4⟩ := hb d hd hp
  rw [h.pa, h.agg, h.len]
  exact ⟨x, x1, x2, x3, fun d' a1 a2 a3 => by rw [hpd]; exact x4 d' a1 a2 a3⟩

theorem rolled_pd (r : Ring) (hh : r.head < r.n) (d : Nat) (hd : d < r.n) :
    r.rolled.pd d = if d = 0 then false else r.pd (d - 1) := by
  unfold Ring.pd
  cases d with
  | zero => rw [rolled_back_zero r (Nat.zero_lt_of_lt hh)]; rfl
  | succ d => rw [rolled_back_succ r hh d hd]; rfl

/-- `Rollover` shifts every pushed window one step back and puts an unpushed bucket in front -/
theorem rolled_pinv {r : Ring} (hh : r.head < r.n) (h : PInv r) : PInv r.rolled := by
  intro d hd hp
  rw [rolled_n] at hd
  rw [rolled_pd r hh d hd] at hp
  split at hp
  · cases hp
  · obtain ⟨x, x1, x2, x3, x4⟩ := h (d - 1) (by omega) hp
    refine ⟨x + 1, by show 1 + r.pushAfter ≤ x + 1; omega, by omega, by show d ≤ x + 1 + r.agg; omega,
      fun d' a1 a2 a3 => ?_⟩
    rw [rolled_n] at a3
    rw [rolled_pd r hh d' a3, if_neg (by omega)]
    exact x4 (d' - 1) (by omega) (by have : d' ≤ x + 1 + r.agg := a2; omega) (by omega)

/-- an emission adds whole windows behind the emission position to the pushed ones -/
theorem emit_pinv {r : Ring} (hh : r.head < r.n) (h : PInv r) : PInv r.emit.1 := by
  have hn := Nat.zero_lt_of_lt hh
  have hs := emit_same r
  have hpd : ∀ d, r.emit.1.pd d = (r.pd d || decide (∃ c ∈ r.emit.2, r.idxSub r.head d ∈ c.idxs)) := fun d => by
    unfold Ring.pd
    rw [hs.times.head, idxSub_congr (emit_n r), emit_bucket, decide_eq_true (idxSub_lt r _ _ hn), Bool.and_true]
  intro d hd hpt
  rw [emit_n] at hd
  rw [hs.pa, hs.agg, emit_n]
  rw [hpd d, Bool.or_eq_true] at hpt
  rcases hpt with hold | hnew
  · obtain ⟨x, x1, x2, x3, x4⟩ := h d hd hold
    exact ⟨x, x1, x2, x3, fun d' a1 a2 a3 => by rw [hpd d', x4 d' a1 a2 a3]; rfl⟩
  · obtain ⟨c, hc, hi⟩ := of_decide_eq_true hnew
    obtain ⟨D', b⟩ := built_at r hh c (emit_sent_built r c hc)
    have hge := b.ge
    have hw := (idx_in_win r hh D' d b.lt hd (by omega)).1 (b.idxs ▸ hi)
    refine ⟨D' - r.agg, by omega, hw.1, by omega, fun d' a1 a2 a3 => ?_⟩
    rw [hpd d', Bool.or_eq_true]; right
    exact decide_eq_true ⟨c, hc, b.idxs ▸ (idx_in_win r hh D' d' b.lt a3 (by omega)).2 ⟨a1, by omega⟩⟩

end CalicoVerif.C32
