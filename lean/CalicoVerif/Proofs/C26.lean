import CalicoVerif.Model.C26
/-!
C26 — specification-side definitions for the watcher cache (the view the cache stands for, the
downstream consumer's accumulated view, "no update while waiting", what a stateful processor makes of a list of KVs:
`convSeq`, `convState`), how each goes through an append, and the lemmas on the model's maps and sorted key lists.
-/
namespace CalicoVerif.C26

/-- key ↦ revision -/
abbrev View := Nat → Option Nat

def emptyView : View := fun _ => none

/-- What `oldResources` holds for a key (nothing when the map is nil). -/
def oldLookup (wc : WC) (k : Nat) : Option Nat := wc.old.bind (fun o => lookup o k)

/-- The set of resources the cache believes downstream holds: `resources` plus the not yet revalidated
`oldResources`. -/
def view (wc : WC) : View := fun k =>
  match lookup wc.res k with
  | some r => some r
  | none => oldLookup wc k

def applyUpd (m : View) (u : Upd) : View := fun k =>
  if u.key = k then (if u.ut = utDeleted then none else some u.rev) else m k

def applyRes (m : View) : Res → View
  | .updates us => us.foldl applyUpd m
  | _ => m

def downFrom (m : View) (out : List Res) : View := out.foldl applyRes m

def applyKV (m : View) (kv : KV) : View := fun k =>
  if kv.key = k then (if kv.del then none else some kv.rev) else m k

/-- What a processor `p`, in private state `st`, converts the raw KVs `kvs` to (processing them in order, the state
evolving) — `st = []` is a FRESH processor (just after `OnSyncerStarting`). -/
def convSeq (p : Option Proc) : PState → List KV → List KV
  | _, [] => []
  | st, kv :: r => (procRun p st kv).2.1 ++ convSeq p (procRun p st kv).1 r

def convState (p : Option Proc) : PState → List KV → PState
  | st, [] => st
  | st, kv :: r => convState p (procRun p st kv).1 r

theorem convSeq_append (p : Option Proc) (st : PState) (a b : List KV) :
    convSeq p st (a ++ b) = convSeq p st a ++ convSeq p (convState p st a) b := by
  induction a generalizing st with
  | nil => rfl
  | cons x xs ih => simp only [List.cons_append, convSeq, convState, ih, List.append_assoc]

theorem convState_append (p : Option Proc) (st : PState) (a b : List KV) :
    convState p st (a ++ b) = convState p (convState p st a) b := by
  induction a generalizing st with
  | nil => rfl
  | cons x xs ih => exact ih _

def lastStatus : Nat → List Res → Nat
  | st, [] => st
  | _, .status s :: r => lastStatus s r
  | st, .updates _ :: r => lastStatus st r
  | st, .convErr :: r => lastStatus st r
  | st, .backendErr :: r => lastStatus st r

/-- No `updates` result is emitted while the last announced status is WaitForDatastore. -/
def quietFrom : Nat → List Res → Bool
  | _, [] => true
  | _, .status s :: r => quietFrom s r
  | st, .updates _ :: r => st != stWait && quietFrom st r
  | st, .convErr :: r => quietFrom st r
  | st, .backendErr :: r => quietFrom st r

theorem downFrom_append (m : View) (a b : List Res) : downFrom m (a ++ b) = downFrom (downFrom m a) b :=
  List.foldl_append

theorem lastStatus_append (st : Nat) (a b : List Res) :
    lastStatus st (a ++ b) = lastStatus (lastStatus st a) b := by
  induction a generalizing st with
  | nil => rfl
  | cons x xs ih => cases x <;> exact ih _

theorem quietFrom_append (st : Nat) (a b : List Res) :
    quietFrom st (a ++ b) = (quietFrom st a && quietFrom (lastStatus st a) b) := by
  induction a generalizing st with
  | nil => rfl
  | cons x xs ih => cases x <;> simp only [List.cons_append, quietFrom, lastStatus, ih, Bool.and_assoc]

def OnlyUpdates (ext : List Res) : Prop := ∀ r ∈ ext, ∃ us, r = Res.updates us

theorem lastStatus_onlyUpdates (st : Nat) {ext : List Res} (h : OnlyUpdates ext) : lastStatus st ext = st := by
  induction ext with
  | nil => rfl
  | cons r rs ih =>
    obtain ⟨us, rfl⟩ := h r (List.mem_cons_self ..)
    exact ih fun x hx => h x (List.mem_cons_of_mem _ hx)

theorem quietFrom_onlyUpdates {st : Nat} {ext : List Res} (h : OnlyUpdates ext) (hs : st ≠ stWait ∨ ext = []) :
    quietFrom st ext = true := by
  induction ext with
  | nil => rfl
  | cons r rs ih =>
    obtain ⟨us, rfl⟩ := h r (List.mem_cons_self ..)
    have hst : st ≠ stWait := hs.resolve_right (List.cons_ne_nil _ _)
    rw [quietFrom, ih (fun x hx => h x (List.mem_cons_of_mem _ hx)) (Or.inl hst), Bool.and_true]
    exact bne_iff_ne.mpr hst

theorem lookup_cons (p : Nat × Nat) (m : List (Nat × Nat)) (k : Nat) :
    lookup (p :: m) k = if p.1 = k then some p.2 else lookup m k := by
  unfold lookup
  by_cases h : p.1 = k
  · simp [List.find?, h]
  · have : (p.1 == k) = false := by simpa using h
    simp [List.find?, this, h]

theorem lookup_erase (m : List (Nat × Nat)) (k k' : Nat) :
    lookup (erase m k) k' = if k' = k then none else lookup m k' := by
  induction m with
  | nil => simp [erase, lookup]
  | cons p ps ih =>
    rw [erase, List.filter_cons, ← erase]
    grind [lookup_cons]

theorem lookup_insert (m : List (Nat × Nat)) (k r k' : Nat) :
    lookup (insert m k r) k' = if k' = k then some r else lookup m k' := by
  rw [insert, lookup_cons, lookup_erase]
  grind

theorem mem_insertSorted (k x : Nat) (l : List Nat) : x ∈ insertSorted k l ↔ x = k ∨ x ∈ l := by
  induction l with
  | nil => simp [insertSorted]
  | cons y ys ih => grind [insertSorted]

theorem mem_sortKeys (x : Nat) (l : List Nat) : x ∈ sortKeys l ↔ x ∈ l := by
  induction l with
  | nil => simp [sortKeys]
  | cons y ys ih => rw [sortKeys, List.foldr_cons, mem_insertSorted, ← sortKeys, ih, List.mem_cons]

theorem mem_keysOf (m : List (Nat × Nat)) (k : Nat) : k ∈ keysOf m ↔ lookup m k ≠ none := by
  induction m with
  | nil => simp [keysOf, lookup]
  | cons p ps ih =>
    rw [keysOf, List.map_cons, List.mem_cons, ← keysOf, ih, lookup_cons]
    grind

theorem foldl_delUpd (m : View) (ks : List Nat) (k : Nat) :
    (ks.map delUpd).foldl applyUpd m k = if k ∈ ks then none else m k := by
  induction ks generalizing m with
  | nil => rfl
  | cons x xs ih =>
    rw [List.map_cons, List.foldl_cons, ih]
    grind [applyUpd, delUpd]

theorem foldl_applyKV_not_mem (m : View) (c : List KV) (k : Nat) (h : ∀ kv ∈ c, kv.key ≠ k) :
    c.foldl applyKV m k = m k := by
  induction c generalizing m with
  | nil => rfl
  | cons x xs ih =>
    rw [List.foldl_cons, ih _ fun kv hkv => h kv (List.mem_cons_of_mem _ hkv)]
    exact if_neg (h x (List.mem_cons_self ..))

theorem foldl_applyKV_mem (m m' : View) (c : List KV) (k : Nat) (h : ∃ kv ∈ c, kv.key = k) :
    c.foldl applyKV m k = c.foldl applyKV m' k := by
  induction c generalizing m m' with
  | nil => obtain ⟨kv, hkv, _⟩ := h; cases hkv
  | cons x xs ih =>
    by_cases hx : ∃ kv ∈ xs, kv.key = k
    · exact ih _ _ hx
    · have hn : ∀ kv ∈ xs, kv.key ≠ k := fun kv hkv e => hx ⟨kv, hkv, e⟩
      rw [List.foldl_cons, List.foldl_cons, foldl_applyKV_not_mem _ _ _ hn, foldl_applyKV_not_mem _ _ _ hn]
      obtain ⟨kv, hkv, e⟩ := h
      rcases List.mem_cons.mp hkv with rfl | hkv
      · simp only [applyKV, e, if_true]
      · exact absurd e (hn kv hkv)

end CalicoVerif.C26
