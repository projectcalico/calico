import CalicoVerif.Model.C32
/-! C32 — the definitions the statements of `Props/C32` are made of, beside the model: the ring between the two halves of
`Rollover` (`rolled`), contiguity, how the stored windows and the ghost log of accepted flows are read (`wins`, `wcOf`,
`logSum`, `logOf`, the range tests), the part of the invariant that `reachable_invariant` states (`GInv`), and the two
ghost runs over histories (`grun` with the log, `erun` with the start times of the emitted buckets). No lemmas. -/
namespace CalicoVerif.C32

/-- the ring after the head moved and the expired windows were dropped, before the emission -/
def Ring.rolled (r : Ring) : Ring := (r.rollover false).1

/-- Contiguity of the `j` newest buckets; `j < n` occurs only while `NewBucketRing` fills the ring by `n` rollovers
(`rollN_spec`). `Contig r` = all `n` of them. -/
structure PContig (r : Ring) (j : Nat) : Prop where
  npos : 0 < r.n
  hlt : r.head < r.n
  ipos : 0 < r.interval
  jle : j ≤ r.n
  tile : ∀ k, k < j → (r.bucket (r.idxSub r.head k)).stop = r.eoh - (k : Int) * r.interval ∧
                      (r.bucket (r.idxSub r.head k)).start = r.eoh - (k : Int) * r.interval - r.interval

def Contig (r : Ring) : Prop := PContig r r.n

def KeysSorted (dia : List (Nat × List Win)) : Prop := (dia.map (·.1)).Pairwise (· < ·)

def winsOf (dia : List (Nat × List Win)) (k : Nat) : List Win := (lookupDia dia k).getD []
def Ring.wins (r : Ring) (k : Nat) : List Win := winsOf r.dia k

def total (ws : List Win) : Int := (ws.map (·.cnt)).sum

def wcOf (ws : List Win) (s : Int) : Int := total (ws.filter (fun w => w.start == s))

def WSorted (ws : List Win) : Prop := ws.Pairwise (fun a b => a.start ≤ b.start)

abbrev Log := List (Nat × Int × Int)

def inLog (k : Nat) (lo hi : Int) (e : Nat × Int × Int) : Bool :=
  e.1 == k && decide (lo ≤ e.2.1) && decide (e.2.1 < hi)

/-- sum of the counts of the logged (accepted) flows of key `k` whose start time lies in `[lo, hi)` -/
def logSum (log : Log) (k : Nat) (lo hi : Int) : Int := ((log.filter (inLog k lo hi)).map (·.2.2)).sum

/-- what the flow list of bucket `b` (`Ring.bflows`, the model's stand-in for the bucket's statistics index) has to be -/
def logOf (log : Log) (b : Bucket) : List (Nat × Int) :=
  (log.filter (fun e => b.contains e.2.1)).map (fun e => (e.1, e.2.2))

/-! The three range tests of the code, each spelt exactly as the model inlines it (the lemmas of `C32Store` and `C32` match the
model's lambdas by unfolding): `inRange` is the filter of `GetWindows` inside `aggregate`; `bucketIn` the same test on a bucket,
the "retained bucket wholly inside the range" of the specification; `bucketSel` is `FlowSet`'s test, which compares the
bucket's START with both bounds, the upper one inclusively. -/

def inRange (gte lt : Int) (w : Win) : Bool := (gte == 0 || decide (w.start ≥ gte)) && (lt == 0 || decide (w.stop ≤ lt))

def bucketIn (gte lt : Int) (b : Bucket) : Bool := (gte == 0 || decide (b.start ≥ gte)) && (lt == 0 || decide (b.stop ≤ lt))

def bucketSel (gte lt : Int) (b : Bucket) : Bool := (gte == 0 || decide (b.start ≥ gte)) && (lt == 0 || decide (b.start ≤ lt))

structure GInv (r : Ring) (log : Log) : Prop where
  contig : Contig r
  ks : KeysSorted r.dia
  wlt : ∀ k w, w ∈ r.wins k → w.start < r.eoh
  wI : ∀ k w, w ∈ r.wins k → w.stop = w.start + r.interval
  llt : ∀ e ∈ log, e.2.1 < r.eoh
  q : ∀ k i, i < r.n → wcOf (r.wins k) (r.bucket i).start = logSum log k (r.bucket i).start (r.bucket i).stop

inductive Op
  | add (k : Nat) (t c : Int)
  | roll (sink : Bool)
  | emit
deriving Repr

/-- one step of the aggregator together with the ghost log of ACCEPTED flows -/
def gstep (s : Ring × Log) : Op → Ring × Log
  | .add k t c => ((s.1.addFlow k t c).1, if (s.1.addFlow k t c).2 then (k, t, c) :: s.2 else s.2)
  | .roll sink => ((s.1.rollover sink).1, s.2)
  | .emit => (s.1.emit.1, s.2)

def grun (s : Ring × Log) (ops : List Op) : Ring × Log := ops.foldl gstep s

def sentStarts (r : Ring) (cs : List Coll) : List Int := cs.flatMap (fun c => c.idxs.map (fun i => (r.bucket i).start))

/-- one step of the aggregator together with the ghost list of the start times of all buckets handed to the sink so far -/
def estep (s : Ring × List Int) : Op → Ring × List Int
  | .add k t c => ((s.1.addFlow k t c).1, s.2)
  | .roll false => (s.1.rolled, s.2)
  | .roll true => (s.1.rolled.emit.1, s.2 ++ sentStarts s.1.rolled s.1.rolled.emit.2)
  | .emit => (s.1.emit.1, s.2 ++ sentStarts s.1 s.1.emit.2)

def erun (s : Ring × List Int) (ops : List Op) : Ring × List Int := ops.foldl estep s

end CalicoVerif.C32
