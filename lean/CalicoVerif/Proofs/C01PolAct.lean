import CalicoVerif.Proofs.C01Lbl
/-! The RuleScanner's `active` table for POLICIES versus the ARC's bookkeeping.

After any well-formed history, policy `pk n` is in the `active` table iff `policyIDToEndpointKeys` has an
entry for `n` (`polActive n`), and then with the rules of the ARC's CURRENT `allPolicies n`.  While a policy
update is being processed (`allPolicies` already replaced, matches being re-scanned) the table may hold the
previous rules for that one policy (`x = some n`); the `sendPolicyUpdate` that ends the update repairs it.
`PolAct` and C01Lbl's `MInv` are kept along an update only together (`ArcP`, `arcP_step`), so the run of C01Lbl's
`LInv` (`lInv_flush`, `lInv_new`, `lInv_polAct_run`) and its final theorem `resolver_matched_eq_datastore` stand here too.
The end of the file reads the table back: `polAct_mirror` (the policy rows of `active` mirror the datastore's policies that
match some endpoint), `activePols_eq_ds`, and the final theorem `active_policies_eq_datastore`. -/
namespace CalicoVerif.C01
open CalicoVerif C02

def polAct (g : Graph) (k : PolicyKey) : Option RulesIn := mget g.active (.pol k)

structure KeepA (g g' : Graph) : Prop where
  keep : Keep g g'
  rows : ∀ k, polAct g' k = polAct g k

theorem KeepA.rfl' (g : Graph) : KeepA g g := ⟨Keep.rfl' g, fun _ => rfl⟩
theorem KeepA.trans {a b c : Graph} (h1 : KeepA a b) (h2 : KeepA b c) : KeepA a c :=
  ⟨h1.keep.trans h2.keep, fun k => (h2.rows k).trans (h1.rows k)⟩

theorem polAct_congr {g g' : Graph} (h : g'.active = g.active) (k : PolicyKey) : polAct g' k = polAct g k := by
  unfold polAct; rw [h]

theorem keepA_of {g g' : Graph} (k : Keep g g') (h : g'.active = g.active) : KeepA g g' := ⟨k, polAct_congr h⟩

theorem keepA_emit (g : Graph) (cs : List Call) : KeepA g (g.emit cs) := keepA_of (keep_emit g cs) (emit_active g cs)
theorem keepA_idxOp (g : Graph) (op : C04.Op Str) : KeepA g (g.idxOp op) := keepA_of (keep_idxOp g op) (idxOp_active g op)

theorem keepA_scanRules_prof (H : IdFn) (g : Graph) (p : String) (r : Option RulesIn) :
    KeepA g (g.scanRules H (.prof p) r) :=
  ⟨keep_scanRules H g _ r, fun k => by unfold polAct; rw [scanRules_active, mget_setOrDel]; simp⟩

theorem keepA_profEvents (H : IdFn) (g : Graph) (evs : List (C05.Event RulesIn)) : KeepA g (g.profEvents H evs) :=
  profEvents_keeps (P := KeepA g) H (fun g' p r k => k.trans (keepA_scanRules_prof H g' p r)) g evs (KeepA.rfl' g)

theorem keepA_arcProfStep (H : IdFn) (g : Graph) (u : C05.Upd RulesIn) :
    KeepA { g with arcProf := C05.step g.arcProf u } (g.arcProfStep H u) :=
  keepA_profEvents H _ _

theorem polActive_iff (g : Graph) (n : Nat) : g.polActive n = true ↔ ∃ i, (n, i) ∈ g.polEps := by
  unfold Graph.polActive
  rw [List.any_eq_true]
  constructor
  · rintro ⟨⟨a, b⟩, hm, he⟩
    simp only [decide_eq_true_eq] at he
    subst he
    exact ⟨b, hm⟩
  · rintro ⟨i, hm⟩
    exact ⟨(n, i), hm, by simp⟩

theorem polActive_false_iff (g : Graph) (n : Nat) : g.polActive n = false ↔ ∀ i, (n, i) ∉ g.polEps := by
  constructor
  · intro h i hm
    have := (polActive_iff g n).mpr ⟨i, hm⟩
    rw [h] at this; cases this
  · intro h
    cases hp : g.polActive n with
    | false => rfl
    | true =>
      obtain ⟨i, hm⟩ := (polActive_iff g n).mp hp
      exact absurd hm (h i)

/-- `x` is the one policy whose row may be stale while its update is in flight. -/
structure PolAct (N : Numbering) (x : Option Nat) (g : Graph) : Prop where
  range : ∀ k, (polAct g k).isSome = true → ∃ n, k = N.pk n
  off : ∀ n, g.polActive n = false → polAct g (N.pk n) = none
  on : ∀ n, x ≠ some n → g.polActive n = true → polAct g (N.pk n) = (mget g.allPolicies n).map (·.rules)

theorem polAct_frame {N : Numbering} {x : Option Nat} {g g' : Graph} (hi : PolAct N x g) (h1 : g'.active = g.active)
    (h2 : g'.polEps = g.polEps) (h3 : g'.allPolicies = g.allPolicies) : PolAct N x g' := by
  have ha := polAct_congr h1
  have hp := polActive_congr h2
  exact ⟨fun k h => hi.range k (by rw [← ha]; exact h), fun n h => by rw [ha]; exact hi.off n (by rw [← hp]; exact h),
    fun n hx h => by rw [ha, h3]; exact hi.on n hx (by rw [← hp]; exact h)⟩

theorem polAct_keepA {N : Numbering} {x : Option Nat} {g g' : Graph} (k : KeepA g g') (hi : PolAct N x g) :
    PolAct N x g' := by
  have hp := polActive_congr k.keep.polEps
  exact ⟨fun q h => hi.range q (by rw [← k.rows]; exact h), fun n h => by rw [k.rows]; exact hi.off n (by rw [← hp]; exact h),
    fun n hx h => by rw [k.rows, k.keep.allPolicies]; exact hi.on n hx (by rw [← hp]; exact h)⟩

def wantRow (g : Graph) (n : Nat) : Option RulesIn :=
  if g.polActive n then (mget g.allPolicies n).map (·.rules) else none

/-- The `if`: where the policy is active and the ARC does not know it ("Unknown policy became active!") nothing is
written. -/
theorem sendPolicyUpdate_row (H : IdFn) (N : Numbering) (g : Graph) (n : Nat) (hk : g.polKey n = N.pk n) :
    (∀ k, k ≠ N.pk n → polAct (g.sendPolicyUpdate H n) k = polAct g k) ∧
    polAct (g.sendPolicyUpdate H n) (N.pk n) =
      if g.polActive n = true ∧ mget g.allPolicies n = none then polAct g (N.pk n) else wantRow g n := by
  refine ⟨fun k hne => ?_, ?_⟩
  · have hne' : ¬ RulesId.pol k = RulesId.pol (N.pk n) := fun e => hne (by cases e; rfl)
    unfold Graph.sendPolicyUpdate polAct
    rw [hk]
    split
    · split
      · rw [scanRules_active, mget_setOrDel, if_neg hne']
      · rfl
    · rw [scanRules_active, mget_setOrDel, if_neg hne']
  · unfold Graph.sendPolicyUpdate polAct wantRow
    rw [hk]
    cases hp : g.polActive n with
    | false => simp only [Bool.false_eq_true, if_false, false_and]; rw [scanRules_active, mget_setOrDel, if_pos rfl]
    | true =>
      cases hpv : mget g.allPolicies n with
      | none => simp
      | some pv => simp only [if_true, reduceCtorEq, and_false, if_false]; rw [scanRules_active, mget_setOrDel, if_pos rfl]; rfl

/-- what one label-index callback or one `sendPolicyUpdate` for policy `s` does to the policy rows -/
structure RowsStep (N : Numbering) (g : Graph) (s : Nat) (g' : Graph) : Prop where
  pols : g'.allPolicies = g.allPolicies
  others : ∀ n, n ≠ s → g'.polActive n = g.polActive n
  rows : ∀ k, k ≠ N.pk s → polAct g' k = polAct g k
  row : polAct g' (N.pk s) = wantRow g' s ∨ (polAct g' (N.pk s) = polAct g (N.pk s) ∧ g'.polActive s = g.polActive s)

theorem RowsStep.res {N : Numbering} {g g' : Graph} {s : Nat} (h : RowsStep N g s g') (r : C03.Resolver) :
    RowsStep N g s { g' with res := r } := ⟨h.pols, h.others, h.rows, h.row⟩

theorem rowsStep_send (H : IdFn) {N : Numbering} {g g0 : Graph} {s : Nat} (hk : g.polKey s = N.pk s)
    (h1 : g0.allPolicies = g.allPolicies) (h2 : g0.polKeys = g.polKeys) (h3 : g0.active = g.active)
    (hoth : ∀ n, n ≠ s → g0.polActive n = g.polActive n)
    (h4 : g0.polActive s = true → mget g0.allPolicies s = none → polAct g (N.pk s) = none) :
    RowsStep N g s (g0.sendPolicyUpdate H s) ∧
      polAct (g0.sendPolicyUpdate H s) (N.pk s) = wantRow (g0.sendPolicyUpdate H s) s := by
  have h3' := polAct_congr h3
  have kp := keep_sendPolicyUpdate H g0 s
  obtain ⟨hne, hrow⟩ := sendPolicyUpdate_row H N g0 s ((polKey_congr h2 s).trans hk)
  have hpa := polActive_congr kp.polEps
  suffices h : polAct (g0.sendPolicyUpdate H s) (N.pk s) = wantRow (g0.sendPolicyUpdate H s) s from
    ⟨⟨kp.allPolicies.trans h1, fun n hn => (hpa n).trans (hoth n hn), fun k hk' => (hne k hk').trans (h3' k), Or.inl h⟩, h⟩
  rw [hrow]
  unfold wantRow
  rw [hpa, kp.allPolicies]
  split
  · rename_i hc; rw [h3', h4 hc.1 hc.2, hc.1, hc.2]; rfl
  · rfl

theorem onMatchEvent_rows (H : IdFn) (N : Numbering) (g : Graph) (ev : C07.Event)
    (hk : g.polKey (evSel ev) = N.pk (evSel ev))
    (hoff : g.polActive (evSel ev) = false → polAct g (N.pk (evSel ev)) = none) :
    RowsStep N g (evSel ev) (g.onMatchEvent H ev) := by
  cases ev with
  | started s i =>
    simp only [evSel] at hk hoff ⊢
    have hact : ∀ n, ({ g with polEps := C02.sadd (s, i) g.polEps } : Graph).polActive n = true ↔
        (g.polActive n = true ∨ n = s) := by
      intro n
      rw [polActive_iff, polActive_iff]
      constructor
      · rintro ⟨j, hj⟩
        rcases mem_sadd.mp hj with h | h
        · simp only [Prod.mk.injEq] at h; exact Or.inr h.1
        · exact Or.inl ⟨j, h⟩
      · rintro (⟨j, hj⟩ | rfl)
        · exact ⟨j, mem_sadd.mpr (Or.inr hj)⟩
        · exact ⟨i, mem_sadd.mpr (Or.inl rfl)⟩
    have hother : ∀ n, n ≠ s → ({ g with polEps := C02.sadd (s, i) g.polEps } : Graph).polActive n = g.polActive n := by
      intro n hns
      apply Bool.eq_iff_iff.mpr
      rw [hact n]; exact ⟨fun h => h.elim id (fun e => absurd e hns), Or.inl⟩
    rw [onMatchEvent_eq]
    simp only [Graph.afterMatch]
    refine RowsStep.res ?_ _
    cases hw : g.polActive s with
    | true =>
      -- `s` was active already: nothing is sent
      simp only [Bool.not_true, Bool.false_eq_true, if_false]
      exact ⟨rfl, hother, fun _ _ => rfl, Or.inr ⟨rfl, ((hact s).mpr (Or.inr rfl)).trans hw.symm⟩⟩
    | false =>
      simp only [Bool.not_false, if_true]
      exact (rowsStep_send (g0 := { g with polEps := C02.sadd (s, i) g.polEps }) H hk rfl rfl rfl hother
        fun _ _ => hoff hw).1
  | stopped s i =>
    simp only [evSel] at hk hoff ⊢
    have hmono : ∀ n, ({ g with polEps := C02.sdel (s, i) g.polEps } : Graph).polActive n = true → g.polActive n = true := by
      intro n h
      obtain ⟨j, hj⟩ := (polActive_iff _ n).mp h
      exact (polActive_iff g n).mpr ⟨j, (mem_sdel.mp hj).1⟩
    have hother : ∀ n, n ≠ s → ({ g with polEps := C02.sdel (s, i) g.polEps } : Graph).polActive n = g.polActive n := by
      intro n hns
      apply Bool.eq_iff_iff.mpr
      refine ⟨hmono n, fun h1 => ?_⟩
      obtain ⟨j, hj⟩ := (polActive_iff g n).mp h1
      exact (polActive_iff _ n).mpr ⟨j, mem_sdel.mpr ⟨hj, fun e => hns (by simp only [Prod.mk.injEq] at e; exact e.1)⟩⟩
    rw [onMatchEvent_eq]
    simp only [Graph.afterMatch]
    refine RowsStep.res ?_ _
    cases hw : ({ g with polEps := C02.sdel (s, i) g.polEps } : Graph).polActive s with
    | true =>
      -- `s` stays active: nothing is sent
      simp only [Bool.not_true, Bool.false_eq_true, if_false]
      exact ⟨rfl, hother, fun _ _ => rfl, Or.inr ⟨rfl, hw.trans (hmono s hw).symm⟩⟩
    | false =>
      -- `s` lost its last match: `sendPolicyUpdate` clears its row
      simp only [Bool.not_false, if_true]
      exact (rowsStep_send (g0 := { g with polEps := C02.sdel (s, i) g.polEps }) H hk rfl rfl rfl hother
        fun h => by rw [hw] at h; cases h).1

theorem PolAct.rowsStep {N : Numbering} {x : Option Nat} {g g' : Graph} {s : Nat} (hi : PolAct N x g)
    (h : RowsStep N g s g') : PolAct N x g' := by
  obtain ⟨ha, hn, hr, hs⟩ := h
  have hne : ∀ {n}, n ≠ s → N.pk n ≠ N.pk s := fun h e => h (N.pkInj _ _ e)
  refine ⟨fun k hk => ?_, fun n h => ?_, fun n hx h => ?_⟩
  · by_cases hks : k = N.pk s
    · exact ⟨_, hks⟩
    · rw [hr k hks] at hk; exact hi.range k hk
  · by_cases hns : n = s
    · subst hns
      rcases hs with h1 | ⟨h1, h2⟩
      · rw [h1, wantRow, h]; rfl
      · rw [h1]; exact hi.off _ (h2 ▸ h)
    · rw [hr _ (hne hns)]; exact hi.off n (hn n hns ▸ h)
  · rw [ha]
    by_cases hns : n = s
    · subst hns
      rcases hs with h1 | ⟨h1, h2⟩
      · rw [h1, wantRow, h, ha]; rfl
      · rw [h1]; exact hi.on _ hx (h2 ▸ h)
    · rw [hr _ (hne hns)]; exact hi.on n hx (hn n hns ▸ h)

theorem PolAct.clear {N : Numbering} {g : Graph} {s : Nat} (hi : PolAct N (some s) g)
    (hrow : polAct g (N.pk s) = wantRow g s) : PolAct N none g :=
  ⟨hi.range, hi.off, fun n _ h => by
    by_cases hn : n = s
    · subst hn; rw [hrow, wantRow, h]; rfl
    · exact hi.on n (fun e => hn (Option.some.inj e).symm) h⟩

theorem polAct_onMatchEvent (H : IdFn) {N : Numbering} {x : Option Nat} {g : Graph} (hi : PolAct N x g)
    (ev : C07.Event) (hp : g.polKey (evSel ev) = N.pk (evSel ev)) : PolAct N x (g.onMatchEvent H ev) :=
  hi.rowsStep (onMatchEvent_rows H N g ev hp (hi.off _))

theorem polAct_resend (H : IdFn) {N : Numbering} {g : Graph} {nid : Nat} (hi : PolAct N (some nid) g)
    (hk : g.polKey nid = N.pk nid) (hall : g.polActive nid = true → mget g.allPolicies nid ≠ none) :
    PolAct N none (g.act H (.resend nid)) := by
  show PolAct N none (if g.polActive nid = true then g.sendPolicyUpdate H nid else g)
  cases hact : g.polActive nid with
  | false => exact hi.clear (by rw [wantRow, hact]; exact hi.off nid hact)
  | true =>
    obtain ⟨h1, h2⟩ := rowsStep_send (g0 := g) H hk rfl rfl rfl (fun _ _ => rfl) fun h1 h2 => absurd h2 (hall h1)
    exact (hi.rowsStep h1).clear h2

theorem polAct_lblStep (H : IdFn) {N : Numbering} {x : Option Nat} {g : Graph} (hm : MInv N g) (hi : PolAct N x g)
    (op : C07.Op) (hP : ∀ n sel, op = .updateSelector n sel → mget g.polKeys n = some (N.pk n)) :
    PolAct N x (g.lblStep H (op.apply g.lbl)) := by
  refine (foldl_onMatchEvent_keep H { g with lbl := (op.apply g.lbl).1 } (op.apply g.lbl).2 (fun g' ev hev k' hi' => ?_)
    (polAct_frame hi rfl rfl rfl)).2
  refine polAct_onMatchEvent H hi' ev ((polKey_congr k'.polKeys _).trans (polKey_of ?_))
  rcases (apply_ids hm.arc.idx op ev hev).1 with h | h
  · exact hm.regP _ h
  · exact ((C07.apply_known g.lbl op).1 _ h).elim (hm.regP _) (fun ⟨sel, e⟩ => hP _ sel e)

theorem polAct_setPolicy {N : Numbering} {g : Graph} (hi : PolAct N none g) (nid : Nat) (v : Option PolVal) :
    PolAct N (some nid) { g with allPolicies := setOrDel nid v g.allPolicies } := by
  refine ⟨hi.range, hi.off, fun n hx hn => ?_⟩
  show polAct g (N.pk n) = (mget (setOrDel nid v g.allPolicies) n).map _
  rw [mget_setOrDel, if_neg (fun e => hx (by rw [e]))]
  exact hi.on n (by simp) hn

theorem polAct_weaken {N : Numbering} {x : Option Nat} {g : Graph} (hi : PolAct N none g) : PolAct N x g :=
  ⟨hi.range, hi.off, fun n _ h => hi.on n (by simp) h⟩

theorem flushResolver_active (g : Graph) : g.flushResolver.active = g.active := by
  rw [flushResolver_eq]; exact emit_active _ _

/-- the two actions that write a policy's `allPolicies` entry and refresh its row are taken together (`arcP_polProg`) -/
def Act.notPol : Act → Prop
  | .setPol .. | .resend _ => False
  | _ => True

theorem polAct_act (H : IdFn) {N : Numbering} {g : Graph} (hm : MInv N g) (hp : PolAct N none g) :
    ∀ a : Act, a.reg N g → a.notPol → PolAct N none (g.act H a)
  | .regEp .., _, _ | .regPol .., _, _ | .res _, _, _ | .panic, _, _ => polAct_frame hp rfl rfl rfl
  | .prof u, _, _ => polAct_keepA (keepA_arcProfStep H g u) (polAct_frame hp rfl rfl rfl)
  | .lbl op, h, _ => polAct_lblStep H hm hp op (fun _ _ e => by subst e; exact h)
  | .idx op, _, _ => polAct_keepA (keepA_idxOp g op) hp
  | .emit cs, _, _ => polAct_keepA (keepA_emit g cs) hp
  | .flushRes, _, _ =>
    polAct_keepA (keepA_of (keep_flushResolver g) (flushResolver_active g)) (polAct_frame hp rfl rfl rfl)
  | .setPol .., _, h | .resend _, _, h => h.elim

/-- `PolAct` is carried together with `MInv`: a label-index step keeps `PolAct` only where every selector it calls back
for is registered (`polAct_lblStep` reads `MInv.regP`). -/
def ArcP (N : Numbering) (g : Graph) : Prop := MInv N g ∧ PolAct N none g

theorem arcP_act (H : IdFn) {N : Numbering} {g : Graph} (hj : ArcP N g) (a : Act) (hr : a.reg N g) (hn : a.notPol) :
    ArcP N (g.act H a) :=
  ⟨mInv_act H hj.1 a hr, polAct_act H hj.1 hj.2 a hr hn⟩

/-- `ActiveRulesCalculator.OnUpdate` for a registered policy whose selector parses: while the new value is stored and
the matches are re-scanned the policy's row may be stale; the closing `sendPolicyUpdate` (or the absence of any match)
repairs it -/
theorem arcP_polProg (H : IdFn) {N : Numbering} {g : Graph} (hj : ArcP N g) (nid : Nat)
    (hreg : mget g.polKeys nid = some (N.pk nid)) (v : Option PolVal)
    (hsel : ∀ pv, v = some pv → (selOf pv.sel).isSome = true) : ArcP N ((polProg g nid v).foldl (Graph.act H) g) := by
  obtain ⟨hm0, hpa0⟩ := hj
  cases v with
  | none =>
    show ArcP N (Graph.lblStep H { g with allPolicies := C02.mdel nid g.allPolicies } (C07.Op.apply g.lbl (.deleteSelector nid)))
    have hmA : MInv N { g with allPolicies := C02.mdel nid g.allPolicies } := mInv_frame hm0 rfl rfl rfl rfl rfl
    have hpaA : PolAct N (some nid) { g with allPolicies := C02.mdel nid g.allPolicies } := polAct_setPolicy hpa0 nid none
    have h2 := polAct_lblStep H hmA hpaA (.deleteSelector nid) (fun _ _ e => nomatch e)
    have hm2 := mInv_lblStep H hmA (.deleteSelector nid) (fun _ _ e => nomatch e) (fun _ _ _ e => nomatch e)
    -- after `DeleteSelector` no match of `nid` is left
    have hoff : (Graph.lblStep H { g with allPolicies := C02.mdel nid g.allPolicies }
        (C07.Op.apply g.lbl (.deleteSelector nid))).polActive nid = false := by
      rw [polActive_false_iff]
      intro i hm
      obtain ⟨sel, _, h4, _, _⟩ := (hm2.arc.idx.sound (nid, i)).mp ((hm2.arc.mirrors (nid, i)).mp hm)
      simp only [] at h4
      rw [(lblStep_up H _ _).lbl] at h4
      have : C07.lookup nid (C07.erase nid g.lbl.sels) = some sel := h4
      rw [C07.lookup_erase] at this
      simp at this
    exact ⟨hm2, h2.clear (by rw [wantRow, hoff]; exact h2.off nid hoff)⟩
  | some pv =>
    simp only [polProg]
    split
    · exact ⟨hm0, hpa0⟩
    · cases hsl : selOf pv.sel with
      | none => have := hsel pv rfl; rw [hsl] at this; cases this
      | some sel =>
        simp only [selOf_some hsl, List.foldl_cons, List.foldl_nil]
        have hmA : MInv N (g.act H (.setPol nid (some pv))) := mInv_frame hm0 rfl rfl rfl rfl rfl
        have hpaA : PolAct N (some nid) (g.act H (.setPol nid (some pv))) := polAct_setPolicy hpa0 nid (some pv)
        have hP : ∀ n s, C07.Op.updateSelector nid sel = .updateSelector n s →
            mget (g.act H (.setPol nid (some pv))).polKeys n = some (N.pk n) := fun n s e => by cases e; exact hreg
        have h2 := polAct_lblStep H hmA hpaA (.updateSelector nid sel) hP
        have hm2 := mInv_lblStep H hmA (.updateSelector nid sel) hP (fun _ _ _ e => nomatch e)
        have k := lblStep_up H (g.act H (.setPol nid (some pv)))
          (C07.Op.apply (g.act H (.setPol nid (some pv))).lbl (.updateSelector nid sel))
        have f3 := k.allPolicies
        have f1 := k.polKeys
        clear k
        rw [show (g.act H (.setPol nid (some pv))).act H (.lbl (.updateSelector nid sel)) =
          Graph.lblStep H (g.act H (.setPol nid (some pv)))
            (C07.Op.apply (g.act H (.setPol nid (some pv))).lbl (.updateSelector nid sel)) from rfl]
        generalize Graph.lblStep H (g.act H (.setPol nid (some pv)))
          (C07.Op.apply (g.act H (.setPol nid (some pv))).lbl (.updateSelector nid sel)) = g2 at h2 hm2 f1 f3 ⊢
        have hall : mget g2.allPolicies nid = some pv := by
          rw [f3]; exact (mget_mset ..).trans (if_pos rfl)
        exact ⟨mInv_act H hm2 (.resend nid) trivial,
          polAct_resend H h2 (polKey_of (by rw [f1]; exact hreg)) (fun _ h => by rw [hall] at h; cases h)⟩

/-- The dispatcher registers the number first, so every action finds it registered. -/
theorem arcP_step (H : IdFn) {N : Numbering} {g : Graph} (hj : ArcP N g) (u : Upd) (hu : N.updOk u) (hs : selParses u) :
    ArcP N (g.step H u) := by
  rw [step_eq, prog, List.foldl_append, List.foldl_append]
  have h1 : ArcP N ((upper g u).foldl (Graph.act H) g) := by
    cases u with
    | endpoint nid key l v =>
      obtain ⟨rfl, rfl⟩ := hu
      have j1 := arcP_act H hj (.regEp nid (N.ek nid)) rfl trivial
      cases hl : N.lc nid with
      | false => exact j1
      | true =>
        have j2 := arcP_act H j1 (.prof (.endpoint (epKeyStr (N.ek nid)) (v.map (·.profiles)))) trivial trivial
        have j3 := arcP_act H j2 (.lbl (epLblOp nid v)) (by
          cases v with
          | none => trivial
          | some e =>
            show mget (Graph.arcProfStep H _ _).epKeys nid = _
            rw [(keep_arcProfStep H _ _).epKeys]; exact (mget_mset ..).trans (if_pos rfl)) trivial
        exact arcP_act H j3 (.res _) trivial trivial
    | policy nid key v =>
      have hk : key = N.pk nid := hu
      subst hk
      have j1 := arcP_act H hj (.regPol nid (N.pk nid)) rfl trivial
      have j2 := arcP_polProg H j1 nid ((mget_mset ..).trans (if_pos rfl)) v (fun pv e => by subst e; exact hs)
      rw [foldl_upper_policy]
      rw [show polProg g nid v = polProg (g.act H (.regPol nid (N.pk nid))) nid v from rfl]
      exact arcP_act H j2 (.res _) trivial trivial
    | profLabels pid v => exact arcP_act H hj (.lbl (profLblOp pid v)) (by cases v <;> trivial) trivial
    | profRules pid v => exact arcP_act H hj (.prof _) trivial trivial
    | tier name v => exact arcP_act H hj (.res (.tier name v)) trivial trivial
    | _ => exact hj
  refine acts_keep (P := ArcP N) _ (fun a ha g' h => ?_) (acts_keep (P := ArcP N) _ (fun a ha g' h => ?_) h1)
  · obtain ⟨c, _, rfl⟩ := List.mem_map.mp ha
    exact arcP_act H h _ trivial trivial
  · obtain ⟨op, _, rfl⟩ := List.mem_map.mp ha
    exact arcP_act H h _ trivial trivial

theorem lTab_congr {N : Numbering} {l l' : C07.Idx} {p p' : List (Nat × PolVal)} {ds : DS} (ht : LTab N l p ds)
    (h1 : l' = l) (h2 : p' = p) : LTab N l' p' ds := h1 ▸ h2 ▸ ht

theorem polAct_flush (H : IdFn) {N : Numbering} {g : Graph} (hm : MInv N g) (hi : PolAct N none g) :
    PolAct N none g.flush.1 := by
  rw [flush_eq]
  exact polAct_frame (g := g.flushResolver) (polAct_act H hm hi .flushRes trivial trivial) rfl rfl rfl

theorem lInv_flush (H : IdFn) {N : Numbering} {g : Graph} {ds : DS} (hi : LInv N g ds) : LInv N g.flush.1 ds := by
  rw [flush_eq]
  exact LTab.inv (g := { g.flushResolver with seq := g.flushResolver.seq.flush.1 })
    (lTab_congr hi.tab (keep_flushResolver g).lbl (keep_flushResolver g).allPolicies)
    (mInv_frame (mInv_act H hi.m .flushRes trivial) rfl rfl rfl rfl rfl)

theorem polAct_new (N : Numbering) (s : Bool) : PolAct N none (Graph.new s) :=
  ⟨(by intro k h; simp [polAct, Graph.new] at h), (by intro n _; simp [polAct, Graph.new]),
    (by intro n _ h; simp [Graph.polActive, Graph.new] at h)⟩

theorem lInv_new (N : Numbering) (s : Bool) : LInv N (Graph.new s) {} := (lTab_new N s).inv (mInv_new N s)

theorem lInv_polAct_run (H : IdFn) {N : Numbering} (h : List HStep) {g : Graph} {ds : DS}
    (hi : LInv N g ds) (hp : PolAct N none g) (hN : N.histOk h) :
    LInv N (run H g h).1 (dsRun ds h) ∧ PolAct N none (run H g h).1 :=
  run_induction (P := fun ds g => LInv N g ds ∧ PolAct N none g) (S := N.stOk)
    (fun u hu hi =>
      have hj := arcP_step H ⟨hi.1.m, hi.2⟩ u hu.1 hu.2
      ⟨(lTab_step H hi.1.tab u hu.1 hu.2).inv hj.1, hj.2⟩)
    (@fun _ g hi => ⟨LTab.inv (g := g.inSync) hi.1.tab (mInv_act H hi.1.m (.res (.status true)) trivial),
      polAct_frame hi.2 rfl rfl rfl⟩)
    (fun hi => ⟨lInv_flush H hi.1, polAct_flush H hi.1.m hi.2⟩) h hN ⟨hi, hp⟩

theorem polAct_mirror {N : Numbering} {g : Graph} {ds : DS} (hi : LInv N g ds) (hpa : PolAct N none g) (hd : DSOk N ds) :
    Mirror N.pk (fun n (x : PolicyKey × PolVal) => if ds.matched.any (fun q => q.1 = N.pk n) then some x.2.rules else none)
      (polAct g) ds.pols := by
  refine ⟨fun n => ?_, hpa.range⟩
  cases hact : g.polActive n with
  | true =>
    obtain ⟨i, hm⟩ := (polActive_iff g n).mp hact
    have h1 : (N.pk n, N.ek i) ∈ ds.matched :=
      (matched_eq_ds hi hd _ _).mp ((hi.m.mm _ _).mpr ⟨n, i, hm, rfl, rfl⟩)
    have hany : ds.matched.any (fun q => q.1 = N.pk n) = true :=
      List.any_eq_true.mpr ⟨_, h1, by simp⟩
    rw [hpa.on n (by simp) hact, hi.arcPols n, hany]
    cases mget ds.pols n <;> rfl
  | false =>
    have hany : ds.matched.any (fun q => q.1 = N.pk n) = false := by
      cases ha : ds.matched.any (fun q => q.1 = N.pk n) with
      | false => rfl
      | true =>
        exfalso
        obtain ⟨⟨p, e⟩, hm, hp⟩ := List.any_eq_true.mp ha
        simp only [decide_eq_true_eq] at hp
        subst hp
        obtain ⟨n', i, hq, h1, _⟩ := (hi.m.mm _ _).mp ((matched_eq_ds hi hd _ _).mpr hm)
        have : n' = n := (N.pkInj _ _ h1).symm
        subst this
        have := (polActive_iff g n').mpr ⟨i, hq⟩
        rw [hact] at this; cases this
    rw [hpa.off n hact, hany]
    cases mget ds.pols n <;> rfl

theorem activePols_eq_ds {N : Numbering} {g : Graph} {ds : DS} (hi : LInv N g ds) (hpa : PolAct N none g)
    (hd : DSOk N ds) (k : PolicyKey) :
    mget g.active (.pol k) = (mget ds.activePols k).map (·.rules) := by
  rw [← mget_map_val (fun _ (v : PolVal) => v.rules)]
  unfold DS.activePols
  rw [List.map_filterMap]
  refine (polAct_mirror hi hpa hd).eq_filterMap N.pkInj (fun n => ds.matched.any (fun q => q.1 = N.pk n))
    (fun p _ => ?_) _ (fun p hp => ?_) k
  · cases ds.matched.any (fun q => q.1 = N.pk p.1) <;> simp
  · rw [← hd.polsConf p hp]
    cases ds.matched.any (fun q => q.1 = p.2.1) <;> rfl

theorem resolver_matched_eq_datastore (H : IdFn) (s : Bool) (h : List HStep) (N : Numbering) (hN : N.histOk h)
    (p : PolicyKey) (e : EpKey) :
    (p, e) ∈ (run H (Graph.new s) (h ++ [.flush])).1.res.matched ↔ (p, e) ∈ (lastState h).matched := by
  have hi : LInv N _ (lastState h) := lInv_flush H (lInv_polAct_run H h (lInv_new N s) (polAct_new N s) hN).1
  rw [← run_snoc_flush_fst] at hi
  exact matched_eq_ds hi (dsOk_lastState N h hN.stepOk) p e

theorem active_policies_eq_datastore (H : IdFn) (s : Bool) (h : List HStep) (N : Numbering) (hN : N.histOk h)
    (k : PolicyKey) :
    mget (run H (Graph.new s) (h ++ [.flush])).1.active (.pol k) = (mget (lastState h).activePols k).map (·.rules) := by
  obtain ⟨hi0, hp0⟩ := lInv_polAct_run H h (lInv_new N s) (polAct_new N s) hN
  have hi : LInv N _ (lastState h) := lInv_flush H hi0
  have hp := polAct_flush H hi0.m hp0
  rw [← run_snoc_flush_fst] at hi hp
  exact activePols_eq_ds hi hp (dsOk_lastState N h hN.stepOk) k

end CalicoVerif.C01
