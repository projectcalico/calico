import CalicoVerif.Proofs.C01Decl
import CalicoVerif.Proofs.C03Dirty
/-! The PolicyResolver end of the composition.

Inside the composed graph the resolver (`g.res`) is driven only through `Resolver.step` (endpoint /
policy / tier updates from the dispatcher, match started/stopped from the ARC's label index,
in-sync) and `Resolver.flush`; its `OnEndpointTierUpdate` calls are the only `endpointUpdate` calls
ever made on the EventSequencer.  Hence after ANY history the graph's resolver is the C03 model run
(`C03.runL`) on SOME resolver history, and the endpoint part of the declared state is that run's
"last emitted update" map; C03's `upToDate_after_flush` and `runL_some` then say what that map is in terms of
the resolver's own tables (`declared_endpoints_isSpec`, over the policy keys `histKeys h` a history mentions).  The end,
`declared_endpoints_eq`, is what Props/C01 uses: given that the resolver's tables are the datastore's (`DS.polMetas` for the
policy table; C01Tab, C01PolAct) and that the specification's tier list is an `IsSpec`, the declared endpoints are the
specification's. -/
namespace CalicoVerif.C01
open CalicoVerif C02

def epCall : Call → Bool
  | .endpointUpdate _ _ => true
  | _ => false

/-- last emitted `OnEndpointTierUpdate` per endpoint, read off the call log -/
def lastOf (cs : List Call) : C03.Last := C03.lastAfter (fun _ => none) cs

theorem lastAfter_append (L : C03.Last) (a b : List Call) :
    C03.lastAfter L (a ++ b) = C03.lastAfter (C03.lastAfter L a) b := by
  simp [C03.lastAfter, List.foldl_append]

theorem lastAfter_cons (L : C03.Last) (c : Call) (t : List Call) :
    C03.lastAfter L (c :: t) = C03.lastAfter (C03.lastAfter L [c]) t := rfl

theorem lastAfter_noEp1 (L : C03.Last) {c : Call} (h : epCall c = false) : C03.lastAfter L [c] = L := by
  cases c <;> first | rfl | (simp [epCall] at h)

theorem lastAfter_noEp : ∀ (cs : List Call) (L : C03.Last), (∀ c ∈ cs, epCall c = false) → C03.lastAfter L cs = L
  | [], _, _ => rfl
  | c :: t, L, h => by
    rw [lastAfter_cons, lastAfter_noEp1 L (h c (List.mem_cons_self ..))]
    exact lastAfter_noEp t L (fun x hx => h x (List.mem_cons_of_mem _ hx))

def epOfLast (L : C03.Last) (e : EpKey) : Option EpDown :=
  match L e with
  | some (some v) => some (epDown e v)
  | _ => none

theorem upApply_ep (u : DP) (L : C03.Last) (h : ∀ e, u.ep e = epOfLast L e) (c : Call) :
    ∀ e, (upApply u c).ep e = epOfLast (C03.lastAfter L [c]) e := by
  intro e
  cases c with
  | endpointUpdate k v =>
    cases v with
    | none =>
      simp only [upApply, fupd, C03.lastAfter, List.foldl_cons, List.foldl_nil, epOfLast]
      by_cases hk : e = k
      · simp [hk]
      · simp only [hk, if_false]; exact h e
    | some v =>
      simp only [upApply, fupd, C03.lastAfter, List.foldl_cons, List.foldl_nil, epOfLast]
      by_cases hk : e = k
      · subst hk; simp
      · simp only [hk, if_false]; exact h e
  | memberAdded id m =>
    rw [lastAfter_noEp1 L rfl]
    simp only [upApply]
    split <;> exact h e
  | memberRemoved id m =>
    rw [lastAfter_noEp1 L rfl]
    simp only [upApply]
    split <;> exact h e
  | _ => rw [lastAfter_noEp1 L rfl]; exact h e

theorem upAll_ep : ∀ (cs : List Call) (u : DP) (L : C03.Last), (∀ e, u.ep e = epOfLast L e) →
    ∀ e, (upAll u cs).ep e = epOfLast (C03.lastAfter L cs) e
  | [], _, _, h => h
  | c :: t, u, L, h => by
    rw [lastAfter_cons]
    exact upAll_ep t (upApply u c) _ (upApply_ep u L h c)

theorem decl_ep (g : Graph) (e : EpKey) : (decl g).ep e = epOfLast (lastOf g.calls) e :=
  upAll_ep g.calls {} (fun _ => none) (fun _ => rfl) e

/-- the policy keys the graph knows (plus the zero key `polKey` falls back to) -/
def KG (g : Graph) (k : PolicyKey) : Prop := k = default ∨ ∃ n, mget g.polKeys n = some k

theorem kg_polKey (g : Graph) (n : Nat) : KG g (g.polKey n) := by
  unfold Graph.polKey
  cases h : mget g.polKeys n with
  | none => exact Or.inl rfl
  | some k => exact Or.inr ⟨n, h⟩

structure Neutral (e : C03.Event) : Prop where
  ds : ∀ tds, C03.dsEvent tds e = tds
  tables : ∀ r : C03.Resolver, (r.step e).endpoints = r.endpoints ∧ (r.step e).allPolicies = r.allPolicies

theorem neutral_of {e : C03.Event} (h : match e with
    | .matchStarted .. | .matchStopped .. | .status _ => True
    | _ => False) : Neutral e := by
  refine ⟨fun _ => ?_, fun r => ⟨(C03.step_folds r e).endpoints.trans ?_, (C03.step_folds r e).allPolicies.trans ?_⟩⟩ <;>
    cases e <;> first | rfl | cases h

theorem neutral_matchStarted (p : PolicyKey) (e : EpKey) : Neutral (.matchStarted p e) := neutral_of trivial
theorem neutral_matchStopped (p : PolicyKey) (e : EpKey) : Neutral (.matchStopped p e) := neutral_of trivial
theorem neutral_status (b : Bool) : Neutral (.status b) := neutral_of trivial

theorem foldl_neutral_ds (evs : List C03.Event) (h : ∀ e ∈ evs, Neutral e) (tds : C03.TierDS) :
    evs.foldl C03.dsEvent tds = tds :=
  List.foldlRecOn evs _ (motive := fun t => t = tds) rfl (fun _ hb e he => by rw [hb]; exact (h e he).ds tds)

theorem foldl_neutral (evs : List C03.Event) (h : ∀ e ∈ evs, Neutral e) (r : C03.Resolver) :
    (evs.foldl C03.Resolver.step r).endpoints = r.endpoints ∧
    (evs.foldl C03.Resolver.step r).allPolicies = r.allPolicies :=
  List.foldlRecOn evs _ (motive := fun r' => r'.endpoints = r.endpoints ∧ r'.allPolicies = r.allPolicies) ⟨rfl, rfl⟩
    (fun r' hb e he => ⟨((h e he).tables r').1.trans hb.1, ((h e he).tables r').2.trans hb.2⟩)

structure ResRel (g g' : Graph) : Prop where
  keys : g'.polKeys = g.polKeys
  evs : ∃ evs : List C03.Event, (∀ e ∈ evs, C03.EventIn (KG g) e ∧ Neutral e) ∧
      g'.res = evs.foldl C03.Resolver.step g.res

theorem ResRel.of_eq {g g' : Graph} (h1 : g'.res = g.res) (h2 : g'.polKeys = g.polKeys) : ResRel g g' :=
  ⟨h2, [], by simp, h1⟩

theorem ResRel.of_keep {g g' : Graph} (k : Keep g g') : ResRel g g' := .of_eq k.res k.polKeys

theorem ResRel.trans {a b c : Graph} (h1 : ResRel a b) (h2 : ResRel b c) : ResRel a c := by
  obtain ⟨e1, p1, r1⟩ := h1.evs
  obtain ⟨e2, p2, r2⟩ := h2.evs
  have hkg : KG b = KG a := by unfold KG; rw [h1.keys]
  refine ⟨h2.keys.trans h1.keys, e1 ++ e2, ?_, by rw [r2, r1, List.foldl_append]⟩
  intro e he
  rcases List.mem_append.mp he with h | h
  · exact p1 e h
  · exact hkg ▸ p2 e h

theorem resRel_onMatchEvent (H : IdFn) (g : Graph) (e : C07.Event) : ResRel g (g.onMatchEvent H e) := by
  refine ⟨(onMatchEvent_up H g e).polKeys, [matchEv g e], ?_, onMatchEvent_res H g e⟩
  intro x hx
  rw [List.mem_singleton.mp hx]
  cases e with
  | started s i => exact ⟨kg_polKey g s, neutral_matchStarted _ _⟩
  | stopped s i => exact ⟨kg_polKey g s, neutral_matchStopped _ _⟩

theorem resRel_lblStep (H : IdFn) (g : Graph) (r : C07.Idx × List C07.Event) : ResRel g (g.lblStep H r) := by
  unfold Graph.lblStep
  exact foldl_keeps (P := ResRel g) _ (fun g' e h => h.trans (resRel_onMatchEvent H g' e)) _ _ (.of_eq rfl rfl)

def Act.noRes : Act → Prop
  | .res _ | .regPol .. | .flushRes => False
  | _ => True

theorem resRel_act (H : IdFn) (g : Graph) : ∀ a : Act, a.noRes → ResRel g (g.act H a)
  | .regEp .., _ | .setPol .., _ | .panic, _ => .of_eq rfl rfl
  | .prof u, _ => .of_eq (keep_arcProfStep H g u).res (keep_arcProfStep H g u).polKeys
  | .lbl _, _ => resRel_lblStep H g _
  | .resend n, _ => .of_keep (keep_sendIf H _ g n)
  | .idx op, _ => .of_keep (keep_idxOp g op)
  | .emit cs, _ => .of_keep (keep_emit g cs)
  | .res _, h | .regPol .., h | .flushRes, h => h.elim

theorem resRel_acts (H : IdFn) (as : List Act) (h : ∀ a ∈ as, a.noRes) (g : Graph) : ResRel g (as.foldl (Graph.act H) g) :=
  acts_keep (P := ResRel g) as (fun a ha _ hr => hr.trans (resRel_act H _ a (h a ha))) (.of_eq rfl rfl)

def resEvs : Upd → List C03.Event
  | .endpoint _ key true v => [.endpoint key (v.map epDataOf)]
  | .tier name v => [.tier name v]
  | .policy _ key v => [.policy key (v.map (·.pmeta))]
  | _ => []

def keysAfter (m : List (Nat × PolicyKey)) : Upd → List (Nat × PolicyKey)
  | .policy nid key _ => C02.mset nid key m
  | _ => m

/-- The resolver's view of one update: match started / stopped calls `evs` from the ARC for known policy keys, then the
dispatcher's own event. -/
structure StepRes (g g' : Graph) (u : Upd) (evs : List C03.Event) : Prop where
  keys : g'.polKeys = keysAfter g.polKeys u
  evsIn : ∀ e ∈ evs, C03.EventIn (KG g') e ∧ Neutral e
  res : g'.res = (resEvs u).foldl C03.Resolver.step (evs.foldl C03.Resolver.step g.res)

theorem step_res (H : IdFn) (g : Graph) (u : Upd) : ∃ evs, StepRes g (g.step H u) u evs := by
  have res_acts : ∀ (evs' : List C03.Event) (g1 : Graph),
      ((evs'.map Act.res).foldl (Graph.act H) g1).polKeys = g1.polKeys ∧
      ((evs'.map Act.res).foldl (Graph.act H) g1).res = evs'.foldl C03.Resolver.step g1.res := by
    intro evs'
    induction evs' with
    | nil => exact fun _ => ⟨rfl, rfl⟩
    | cons e t ih => exact fun g1 => ih (g1.act H (.res e))
  -- `pre`: the registration; `as`: actions that do not drive the resolver (`Act.noRes`); then the dispatcher's own
  -- event; below, the member index's operations and the direct calls leave the resolver and the keys alone
  have of_rel : ∀ pre as : List Act, (∀ a ∈ as, a.noRes) → (pre.foldl (Graph.act H) g).res = g.res →
      (pre.foldl (Graph.act H) g).polKeys = keysAfter g.polKeys u →
      upper g u = pre ++ (as ++ (resEvs u).map Act.res) → ∃ evs, StepRes g (g.step H u) u evs := by
    intro pre as hq h0 hk0 el
    have low := keep_lower H g u
    rw [el, List.foldl_append, List.foldl_append] at low
    have hr := resRel_acts H as hq (pre.foldl (Graph.act H) g)
    obtain ⟨hk, h2⟩ := res_acts (resEvs u) (as.foldl (Graph.act H) (pre.foldl (Graph.act H) g))
    obtain ⟨evs, p, r⟩ := hr.evs
    have hkg : KG (g.step H u) = KG (pre.foldl (Graph.act H) g) := by unfold KG; rw [low.polKeys, hk, hr.keys]
    exact ⟨evs, by rw [low.polKeys, hk, hr.keys, hk0], hkg ▸ p, by rw [low.res, h2, r, h0]⟩
  cases u with
  | endpoint nid key isLocal v =>
    cases isLocal with
    | false => exact of_rel [] [.regEp nid key] (fun a ha => by rw [List.mem_singleton.mp ha]; trivial) rfl rfl rfl
    | true =>
      exact of_rel [] [.regEp nid key, .prof (.endpoint (epKeyStr key) (v.map (·.profiles))), .lbl (epLblOp nid v)]
        (fun a ha => by
          simp only [List.mem_cons, List.not_mem_nil, or_false] at ha
          rcases ha with rfl | rfl | rfl <;> trivial) rfl rfl rfl
  | profLabels pid v =>
    exact of_rel [] [.lbl (profLblOp pid v)] (fun a ha => by rw [List.mem_singleton.mp ha]; trivial) rfl rfl rfl
  | profRules pid v =>
    exact of_rel [] [.prof (.profileRules pid v)] (fun a ha => by rw [List.mem_singleton.mp ha]; trivial) rfl rfl rfl
  | policy nid key v =>
    exact of_rel [.regPol nid key] (polProg g nid v)
      (polProg_all (fun _ => trivial) (fun _ => trivial) trivial trivial g v) rfl rfl rfl
  | _ => exact of_rel [] [] (fun _ ha => nomatch ha) rfl rfl rfl

theorem step_lastOf (H : IdFn) (g : Graph) (u : Upd) : lastOf (g.step H u).calls = lastOf g.calls := by
  obtain ⟨cs, sb⟩ := sends_step (Q := fun c => epCall c = false) (fun _ _ => rfl) (fun _ _ => rfl) (fun _ _ => rfl)
    (fun _ => rfl) (fun key r => by cases key <;> cases r <;> rfl) g u (by
      intro c hc
      cases u <;> simp only [dirCalls, List.not_mem_nil, List.mem_singleton] at hc
      rename_i v; subst hc; cases v <;> rfl)
  unfold lastOf
  rw [sb.calls, lastAfter_append, lastAfter_noEp cs _ sb.all]

/-- `K` = the policy keys in play.  The graph's resolver is the C03 model after SOME resolver history
over `K`; the endpoint updates in the call log are that run's last-emitted map; `tds` is the tier
datastore of that history. -/
structure RLog (K : PolicyKey → Prop) (g : Graph) (tds : C03.TierDS) (hist : List C03.RStep) : Prop where
  histIn : C03.HistIn K hist
  run : C03.runL {} (fun _ => none) hist = some (g.res, lastOf g.calls)
  ds : C03.dsHist [] hist = tds

structure RInv (K : PolicyKey → Prop) (g : Graph) (tds : C03.TierDS) : Prop where
  kdef : K default
  keys : ∀ n k, mget g.polKeys n = some k → K k
  log : ∃ hist, RLog K g tds hist

theorem rInv_frame {K : PolicyKey → Prop} {g g' : Graph} {tds : C03.TierDS} (hi : RInv K g tds)
    (h1 : g'.polKeys = g.polKeys) (h2 : g'.res = g.res) (h3 : g'.calls = g.calls) : RInv K g' tds :=
  let ⟨hist, lg⟩ := hi.log
  ⟨hi.kdef, by rw [h1]; exact hi.keys, hist, lg.histIn, by rw [h2, h3]; exact lg.run, lg.ds⟩

theorem rInv_evs {K : PolicyKey → Prop} {g g' : Graph} {tds : C03.TierDS} (hi : RInv K g tds)
    (hk : ∀ n k, mget g'.polKeys n = some k → K k) (evs : List C03.Event) (hin : ∀ e ∈ evs, C03.EventIn K e)
    (hres : g'.res = evs.foldl C03.Resolver.step g.res) (hl : lastOf g'.calls = lastOf g.calls) :
    RInv K g' (evs.foldl C03.dsEvent tds) := by
  obtain ⟨hist, lg⟩ := hi.log
  refine ⟨hi.kdef, hk, hist ++ evs.map .ev, ?_, ?_, ?_⟩
  · exact (C03.histIn_append _ _).mpr ⟨lg.histIn, C03.histIn_evs evs hin⟩
  · rw [C03.runL_append, lg.run]
    simp only [Option.bind_some]
    rw [C03.runL_evs, hres, hl]
  · rw [C03.dsHist_append, lg.ds, C03.dsHist_evs]

def UpdIn (K : PolicyKey → Prop) : Upd → Prop
  | .policy _ key _ => K key
  | _ => True

theorem rInv_step (H : IdFn) {K : PolicyKey → Prop} {g : Graph} {ds : DS} (hi : RInv K g ds.tiers) (u : Upd)
    (hu : UpdIn K u) : RInv K (g.step H u) (ds.apply u).tiers := by
  obtain ⟨evs, sr⟩ := step_res H g u
  have hk : ∀ n k, mget (g.step H u).polKeys n = some k → K k := by
    rw [sr.keys]
    cases u with
    | policy nid key v =>
      intro n k hn
      simp only [keysAfter, mget_mset] at hn
      split at hn
      · cases hn; exact hu
      · exact hi.keys n k hn
    | _ => exact hi.keys
  have hK : ∀ k, KG (g.step H u) k → K k := by
    rintro k (rfl | ⟨n, hn⟩)
    · exact hi.kdef
    · exact hk n k hn
  have := rInv_evs hi hk (evs ++ resEvs u)
    (by
      intro e he
      rcases List.mem_append.mp he with h | h
      · exact C03.eventIn_mono hK (sr.evsIn e h).1
      · cases u with
        | policy nid key v => rw [List.mem_singleton.mp h]; exact hu
        | endpoint nid key l v => cases l <;> simp only [resEvs, List.not_mem_nil, List.mem_singleton] at h; subst h; trivial
        | tier name v => rw [List.mem_singleton.mp h]; trivial
        | _ => cases h)
    (by rw [sr.res, List.foldl_append]) (step_lastOf H g u)
  rw [List.foldl_append, foldl_neutral_ds evs (fun e he => (sr.evsIn e he).2)] at this
  have htds : (resEvs u).foldl C03.dsEvent ds.tiers = (ds.apply u).tiers := by
    cases u with
    | endpoint nid key l v => cases l <;> rfl
    | tier name v => cases v <;> rfl
    | _ => rfl
  rw [htds] at this
  exact this

theorem rInv_inSync {K : PolicyKey → Prop} {g : Graph} {tds : C03.TierDS} (hi : RInv K g tds) : RInv K g.inSync tds :=
  rInv_evs (g' := g.inSync) hi hi.keys [.status true] (fun e he => by rw [List.mem_singleton.mp he]; trivial) rfl rfl

theorem rInv_flush {K : PolicyKey → Prop} {g : Graph} {tds : C03.TierDS} (hi : RInv K g tds) : RInv K g.flush.1 tds := by
  rw [flush_eq]
  suffices h : RInv K g.flushResolver tds from rInv_frame h rfl rfl rfl
  cases hf : g.res.flush with
  | none =>
    refine rInv_frame hi (keep_flushResolver g).polKeys (by rw [flushResolver_eq, emit_eq, hf]; rfl) ?_
    rw [flushResolver_eq, emit_calls]; unfold Graph.flushed; rw [hf]; exact List.append_nil _
  | some x =>
    obtain ⟨r, calls⟩ := x
    obtain ⟨hist, lg⟩ := hi.log
    refine ⟨hi.kdef, by rw [(keep_flushResolver g).polKeys]; exact hi.keys, hist ++ [.flush], ?_, ?_, ?_⟩
    · exact (C03.histIn_append _ _).mpr ⟨lg.histIn, trivial⟩
    · rw [C03.runL_append, lg.run]
      simp only [Option.bind_some, C03.runL, hf]
      rw [flushResolver_res hf, flushResolver_calls hf]
      unfold lastOf
      rw [lastAfter_append]
    · rw [C03.dsHist_append, lg.ds]; rfl

def StepIn (K : PolicyKey → Prop) : HStep → Prop
  | .upd u => UpdIn K u
  | _ => True

theorem rInv_run (H : IdFn) {K : PolicyKey → Prop} (h : List HStep) {g : Graph} {ds : DS}
    (hi : RInv K g ds.tiers) (hin : ∀ st ∈ h, StepIn K st) : RInv K (run H g h).1 (dsRun ds h).tiers :=
  run_induction (P := fun ds g => RInv K g ds.tiers) (fun u hu hi => rInv_step H hi u hu) rInv_inSync rInv_flush h hin hi

theorem rInv_new (K : PolicyKey → Prop) (hd : K default) (s : Bool) : RInv K (Graph.new s) ({} : DS).tiers :=
  ⟨hd, by intro n k h; simp [Graph.new] at h, [], trivial, rfl, rfl⟩

theorem inSync_flush {g : Graph} (h : g.res.inSync = true) : g.flush.1.res.inSync = true := by
  rw [flush_eq]
  exact flushResolver_res_cases (P := fun r => r.inSync = true) g h (fun _ _ hf => by rw [C03.flush_inSync hf]; exact h)

theorem inSync_run (H : IdFn) : ∀ (h : List HStep) (g : Graph), (g.res.inSync = true ∨ HStep.inSync ∈ h) →
    (run H g h).1.res.inSync = true
  | [], g, hs => hs.elim id (fun h => nomatch h)
  | .upd u :: t, g, hs => by
    simp only [run]
    refine inSync_run H t _ (hs.imp (fun hs => ?_) (fun hs => ?_))
    · obtain ⟨evs, sr⟩ := step_res H g u
      rw [sr.res]
      exact C03.foldl_inSync_mono _ (C03.foldl_inSync_mono evs hs)
    · cases hs with
      | tail _ h => exact h
  | .inSync :: t, g, _ => by
    simp only [run]
    refine inSync_run H t _ (Or.inl ?_)
    show (g.res.step (.status true)).inSync = true
    simp only [C03.Resolver.step]
    cases h : g.res.inSync <;> simp [h]
  | .flush :: t, g, hs => by
    simp only [run]
    refine inSync_run H t _ (hs.imp inSync_flush (fun hs => ?_))
    cases hs with
    | tail _ h => exact h

theorem declared_endpoints_isSpec (H : IdFn) (s : Bool) (h : List HStep) (K : PolicyKey → Prop) (hK : C03.KeyU K)
    (hd : K default) (hin : ∀ st ∈ h, StepIn K st) (hs : HStep.inSync ∈ h) (e : EpKey) :
    ((run H (Graph.new s) h).1.res.flush).isSome = true ∧
    match mget (run H (Graph.new s) (h ++ [.flush])).1.res.endpoints e with
    | none => (decl (run H (Graph.new s) (h ++ [.flush])).1).ep e = none
    | some ep => ∃ l, (decl (run H (Graph.new s) (h ++ [.flush])).1).ep e = some (epDown e ⟨ep, l⟩) ∧
        C03.IsSpec (lastState h).tiers (run H (Graph.new s) (h ++ [.flush])).1.res.allPolicies
          (run H (Graph.new s) (h ++ [.flush])).1.res.matched e l := by
  have hi : RInv K (run H (Graph.new s) h).1 (lastState h).tiers := rInv_run H h (rInv_new K hd s) hin
  have hsync := inSync_run H h (Graph.new s) (Or.inr hs)
  -- the graph's resolver is `runL` on some history `hist`; append the final flush to it
  obtain ⟨hist, lg⟩ := hi.log
  obtain ⟨r, L, hr⟩ := C03.runL_some (r := {}) C03.SInv.init (fun _ => none) (hist ++ [.flush])
  obtain ⟨r0, L0, calls, e0, hf, hL⟩ := C03.runL_append_flush hist hr
  rw [lg.run] at e0
  simp only [Option.some.injEq, Prod.mk.injEq] at e0
  obtain ⟨rfl, rfl⟩ := e0
  have hfin : (run H (Graph.new s) (h ++ [.flush])).1 =
      { (run H (Graph.new s) h).1.flushResolver with seq := (run H (Graph.new s) h).1.flushResolver.seq.flush.1 } := by
    rw [run_snoc_flush_fst, flush_eq]
  have hres : (run H (Graph.new s) (h ++ [.flush])).1.res = r := by rw [hfin]; exact flushResolver_res hf
  have hcalls : (run H (Graph.new s) (h ++ [.flush])).1.calls = (run H (Graph.new s) h).1.calls ++ calls := by
    rw [hfin]; exact flushResolver_calls hf
  refine ⟨by rw [hf]; rfl, ?_⟩
  have hlast : lastOf (run H (Graph.new s) (h ++ [.flush])).1.calls = L := by
    rw [hcalls, hL]; unfold lastOf; rw [lastAfter_append]
  have hsr : r.inSync = true := by rw [C03.flush_inSync hf]; exact hsync
  -- C03's general form speaks of the resolver's own tables
  have spec : C03.UpToDate (C03.dsHist [] hist) r L e := C03.upToDate_after_flush hK (C03.DInv.init K) hist lg.histIn hr hsr e
  unfold C03.UpToDate at spec
  rw [decl_ep, hlast, hres, ← lg.ds]
  cases hm : mget r.endpoints e with
  | none =>
    rw [hm] at spec
    simp only [] at spec ⊢
    unfold epOfLast
    rcases spec with x | x <;> rw [x]
  | some ep =>
    rw [hm] at spec
    simp only [] at spec ⊢
    obtain ⟨l, hl, hspec⟩ := spec
    exact ⟨l, by unfold epOfLast; rw [hl], hspec⟩

/-- the policy metadata table of a datastore state (what `ExtractPolicyMetadata` gives per policy) -/
def DS.polMetas (ds : DS) : List (PolicyKey × PolMeta) :=
  ds.pols.map (fun p => (p.2.1, C03.extractPolicyMetadata p.2.2.pmeta))

def histKeys (h : List HStep) (k : PolicyKey) : Prop := k = default ∨ ∃ nid v, HStep.upd (.policy nid k v) ∈ h

theorem stepIn_histKeys (h : List HStep) : ∀ st ∈ h, StepIn (histKeys h) st := by
  intro st hst
  cases st with
  | upd u =>
    cases u with
    | policy nid key v => exact Or.inr ⟨nid, v, hst⟩
    | _ => trivial
  | _ => trivial

theorem declared_endpoints_eq (H : IdFn) (s : Bool) (h : List HStep) (hK : C03.KeyU (histKeys h)) (hs : HStep.inSync ∈ h)
    (hEps : ∀ e, mget (run H (Graph.new s) (h ++ [.flush])).1.res.endpoints e =
      (mget (lastState h).localEps e).map (fun v => (⟨v.tag, v.profiles⟩ : EpData)))
    (hPols : ∀ k, mget (run H (Graph.new s) (h ++ [.flush])).1.res.allPolicies k = mget (lastState h).polMetas k)
    (hMatched : ∀ p e, (p, e) ∈ (run H (Graph.new s) (h ++ [.flush])).1.res.matched ↔ (p, e) ∈ (lastState h).matched)
    (hSpec : ∀ e, (mget (lastState h).localEps e).isSome = true →
      C03.IsSpec (lastState h).tiers (lastState h).polMetas (lastState h).matched e
        (C03.filterTiers (lastState h).matched e (lastState h).sortedTiers))
    (e : EpKey) :
    (decl (run H (Graph.new s) (h ++ [.flush])).1).ep e =
      (mget ((lastState h).localEps.map (fun x =>
        (x.1, (⟨⟨x.2.tag, x.2.profiles⟩, C03.filterTiers (lastState h).matched x.1 (lastState h).sortedTiers⟩ : EpUpd)))) e).map
        (epDown e) := by
  have spec := (declared_endpoints_isSpec H s h (histKeys h) hK (Or.inl rfl) (stepIn_histKeys h) hs e).2
  rw [mget_map_val (fun k (v : EpVal) =>
    (⟨⟨v.tag, v.profiles⟩, C03.filterTiers (lastState h).matched k (lastState h).sortedTiers⟩ : EpUpd))]
  rw [hEps e] at spec
  cases hm : mget (lastState h).localEps e with
  | none =>
    rw [hm] at spec
    simp only [Option.map_none] at spec ⊢
    exact spec
  | some v =>
    rw [hm] at spec
    simp only [Option.map_some] at spec ⊢
    obtain ⟨l, hl, hspec⟩ := spec
    have h2 := hSpec e (by rw [hm]; rfl)
    have h1 := hspec.congr (fun p => (hMatched p e).symm) fun p _ => (hPols p).symm
    rw [hl, h1.unique h2]

end CalicoVerif.C01
