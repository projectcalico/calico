import CalicoVerif.Model.C24
/-!
C24 — cache side: the B-tree model behaves like a finite map; every breadcrumb's snapshot is the previous
snapshot with the crumb's deltas applied; within one loop iteration only the LAST crumb minted may carry a changed
status, and that crumb's snapshot has every update consumed in the iteration applied ("status never precedes its
updates").  At the end, the chain read from outside: the deltas between two crumbs (`dB`), the view at a crumb
(`viewAt`), and `chain_telescope`: the view at a later crumb is the view at an earlier one with the deltas between applied.
-/
namespace CalicoVerif.C24

/-- What a client stores for a key: (value, revision). -/
abbrev V := Nat × Nat
abbrev View := Nat → Option V

def SU.entry (u : SU) : Option V := u.val.map (fun v => (v, u.rev))

/-- A client applying one update (`Value == nil` deletes). -/
def applyD (m : View) (u : SU) : View := fun k => if u.key = k then u.entry else m k

def applyDs (m : View) (ds : List SU) : View := ds.foldl applyD m

def asMap (kvs : List SU) : View := fun k => (kvsGet kvs k).bind SU.entry

def emptyView : View := fun _ => none

def Sorted (l : List SU) : Prop := l.Pairwise (fun a b => a.key < b.key)

/-- key ↦ value (revisions ignored: a skipped no-op keeps the older revision). -/
abbrev VView := Nat → Option Nat

def vmap (kvs : List SU) : VView := fun k => (kvsGet kvs k).bind (·.val)

def vapply (m : VView) (u : SU) : VView := fun k => if u.key = k then u.val else m k

def vfold (m : VView) (us : List SU) : VView := us.foldl vapply m

theorem applyDs_append (m : View) (a b : List SU) : applyDs m (a ++ b) = applyDs (applyDs m a) b :=
  List.foldl_append ..

theorem vfold_append (m : VView) (a b : List SU) : vfold m (a ++ b) = vfold (vfold m a) b :=
  List.foldl_append ..

theorem kvsGet_insert (l : List SU) (u : SU) (k : Nat) :
    kvsGet (kvsInsert l u) k = if u.key = k then some u else kvsGet l k := by
  induction l with
  | nil => rfl
  | cons x xs ih => grind [kvsInsert, kvsGet]

theorem kvsGet_delete_ne (l : List SU) (k k' : Nat) (h : k' ≠ k) :
    kvsGet (kvsDelete l k) k' = kvsGet l k' := by
  induction l with
  | nil => rfl
  | cons x xs ih => grind [kvsDelete, kvsGet]

theorem kvsGet_none_of_lt (l : List SU) (k : Nat) (h : ∀ y ∈ l, k < y.key) : kvsGet l k = none := by
  induction l with
  | nil => rfl
  | cons x xs ih =>
    simp only [kvsGet, if_neg (Nat.ne_of_gt (h x (List.mem_cons_self ..)))]
    exact ih fun y hy => h y (List.mem_cons_of_mem _ hy)

theorem kvsGet_delete_self (l : List SU) (k : Nat) (hs : Sorted l) : kvsGet (kvsDelete l k) k = none := by
  induction l with
  | nil => rfl
  | cons x xs ih =>
    have hs' := List.pairwise_cons.mp hs
    simp only [kvsDelete]
    split
    · next hx => exact kvsGet_none_of_lt xs k (hx ▸ hs'.1)
    · next hx => simp only [kvsGet, if_neg hx]; exact ih hs'.2

theorem kvsDelete_sublist (l : List SU) (k : Nat) : (kvsDelete l k).Sublist l := by
  induction l with
  | nil => exact .slnil
  | cons x xs ih =>
    simp only [kvsDelete]
    split
    · exact List.sublist_cons_self _ _
    · exact ih.cons_cons _

theorem sorted_delete (l : List SU) (k : Nat) (hs : Sorted l) : Sorted (kvsDelete l k) :=
  List.Pairwise.sublist (kvsDelete_sublist l k) hs

theorem mem_kvsInsert (l : List SU) (u y : SU) (h : y ∈ kvsInsert l u) : y = u ∨ y ∈ l := by
  induction l with
  | nil => exact Or.inl (List.mem_singleton.mp h)
  | cons x xs ih => grind [kvsInsert]

theorem sorted_insert (l : List SU) (u : SU) (hs : Sorted l) : Sorted (kvsInsert l u) := by
  induction l with
  | nil => exact List.pairwise_singleton _ _
  | cons x xs ih =>
    have hs' := List.pairwise_cons.mp hs
    simp only [kvsInsert]
    split
    · next h1 =>
      refine List.pairwise_cons.mpr ⟨fun y hy => ?_, hs⟩
      rcases List.mem_cons.mp hy with rfl | hy
      · exact h1
      · exact Nat.lt_trans h1 (hs'.1 y hy)
    · split
      · next h2 => exact List.pairwise_cons.mpr ⟨fun y hy => h2 ▸ hs'.1 y hy, hs'.2⟩
      · refine List.pairwise_cons.mpr ⟨fun y hy => ?_, ih hs'.2⟩
        rcases mem_kvsInsert xs u y hy with rfl | hy
        · omega
        · exact hs'.1 y hy

theorem asMap_insert (l : List SU) (u u' : SU) (hk : u'.key = u.key) (he : u'.entry = u.entry) :
    asMap (kvsInsert l u') = applyD (asMap l) u := by
  funext k
  simp only [asMap, kvsGet_insert, applyD, hk]
  split
  · exact he
  · rfl

theorem asMap_delete (l : List SU) (u : SU) (hs : Sorted l) (hv : u.val = none) :
    asMap (kvsDelete l u.key) = applyD (asMap l) u := by
  funext k
  simp only [asMap, applyD]
  split
  · next hk => subst hk; simp only [kvsGet_delete_self l u.key hs, SU.entry, hv]; rfl
  · next hk => rw [kvsGet_delete_ne l u.key k (Ne.symm hk)]

theorem vmap_eq (l : List SU) (k : Nat) : vmap l k = (asMap l k).map Prod.fst := by
  simp only [vmap, asMap]
  cases kvsGet l k with
  | none => rfl
  | some x => simp only [Option.bind_some, SU.entry, Option.map_map]; cases x.val <;> rfl

theorem vmap_of_asMap (a b : List SU) (h : asMap a = asMap b) : vmap a = vmap b := by
  funext k; rw [vmap_eq, vmap_eq, h]

theorem vmap_applyD (l l' : List SU) (u : SU) (h : asMap l' = applyD (asMap l) u) :
    vmap l' = vapply (vmap l) u := by
  funext k
  simp only [vmap_eq, h, applyD, vapply]
  split
  · simp only [SU.entry, Option.map_map]; cases u.val <;> rfl
  · rfl

/-- A skipped no-op appends no delta and changes nothing value-wise: the value is already there. -/
theorem applyOne_spec (st : List SU × List SU) (u : SU) (hs : Sorted st.1) :
    Sorted (applyOne st u).1 ∧ vmap (applyOne st u).1 = vapply (vmap st.1) u ∧
    ∃ d, (applyOne st u).2 = st.2 ++ d ∧ asMap (applyOne st u).1 = applyDs (asMap st.1) d := by
  have put : ∀ kv, Sorted kv → asMap kv = applyD (asMap st.1) u →
      Sorted kv ∧ vmap kv = vapply (vmap st.1) u ∧
        ∃ d, st.2 ++ [u] = st.2 ++ d ∧ asMap kv = applyDs (asMap st.1) d :=
    fun kv h1 h2 => ⟨h1, vmap_applyD _ _ u h2, [u], rfl, h2⟩
  have ins : ∀ v, u.val = some v → asMap (kvsInsert st.1 { u with ut := utNew }) = applyD (asMap st.1) u :=
    fun v hv => asMap_insert st.1 u _ rfl (by simp only [SU.entry, hv])
  unfold applyOne
  split
  · next hv => exact put _ (sorted_delete _ _ hs) (asMap_delete st.1 u hs hv)
  · next v hv =>
    split
    · next old hg =>
      split
      · next hn =>
        refine ⟨hs, ?_, [], (List.append_nil _).symm, rfl⟩
        funext k
        simp only [wouldBeNoOp, Bool.and_eq_true, beq_iff_eq] at hn
        simp only [vapply]
        split
        · next hk => subst hk; simp only [vmap, hg, Option.bind_some, hn.1]
        · rfl
      · exact put _ (sorted_insert _ _ hs) (ins v hv)
    · exact put _ (sorted_insert _ _ hs) (ins v hv)

theorem foldl_applyOne_spec (us : List SU) (st : List SU × List SU) (hs : Sorted st.1) :
    Sorted (us.foldl applyOne st).1 ∧ vmap (us.foldl applyOne st).1 = vfold (vmap st.1) us ∧
    ∃ d, (us.foldl applyOne st).2 = st.2 ++ d ∧ asMap (us.foldl applyOne st).1 = applyDs (asMap st.1) d := by
  induction us generalizing st with
  | nil => exact ⟨hs, rfl, [], (List.append_nil _).symm, rfl⟩
  | cons u us ih =>
    obtain ⟨h1, v1, d1, e1, m1⟩ := applyOne_spec st u hs
    obtain ⟨h2, v2, d2, e2, m2⟩ := ih (applyOne st u) h1
    refine ⟨h2, ?_, d1 ++ d2, ?_, ?_⟩
    · rw [List.foldl_cons, v2, v1]; rfl
    · rw [List.foldl_cons, e2, e1, List.append_assoc]
    · rw [List.foldl_cons, m2, m1, applyDs_append]

def Link (a b : Crumb) : Prop :=
  asMap b.kvs = applyDs (asMap a.kvs) b.deltas ∧ b.seq = a.seq + 1

def ChainOK : List Crumb → Prop
  | [] => True
  | [_] => True
  | a :: b :: rest => Link a b ∧ ChainOK (b :: rest)

theorem chainOK_snoc (l : List Crumb) (a b : Crumb) (h : ChainOK (l ++ [a])) (hl : Link a b) :
    ChainOK ((l ++ [a]) ++ [b]) := by
  induction l with
  | nil => exact ⟨hl, trivial⟩
  | cons x xs ih =>
    cases xs with
    | nil => exact ⟨h.1, hl, trivial⟩
    | cons y ys => exact ⟨h.1, ih h.2⟩

structure CacheInv (c : Cache) : Prop where
  sorted : Sorted c.kvs
  cur_view : asMap c.kvs = asMap c.cur.kvs
  chain : ChainOK c.chain
  crumbs_sorted : ∀ x ∈ c.chain, Sorted x.kvs

theorem CacheInv.new (b : Nat) : CacheInv (Cache.new b) :=
  ⟨List.Pairwise.nil, rfl, trivial, fun _ hx => List.mem_singleton.mp hx ▸ List.Pairwise.nil⟩

/-- Tree and deltas after the chunk of `pendingUpdates` that one `publishBreadcrumb` applies.  `take`/`drop` cover
both chunking cases: on the last chunk they are the whole list and `[]`. -/
def chunk (c : Cache) : List SU × List SU := (c.pendingUpdates.take c.maxBatch).foldl applyOne (c.kvs, [])

def chunkStatus (c : Cache) : Nat :=
  if c.pendingUpdates.length ≤ c.maxBatch then c.pendingStatus else c.cur.status

theorem publishBreadcrumb_eq (c : Cache) (ts : Nat) :
    publishBreadcrumb c ts =
      if chunkStatus c ≠ c.cur.status ∨ (chunk c).2 ≠ [] then
        { c with pendingUpdates := c.pendingUpdates.drop c.maxBatch, kvs := (chunk c).1, older := c.older ++ [c.cur],
                 cur := ⟨c.cur.seq + 1, ts, (chunk c).1, (chunk c).2, chunkStatus c⟩ }
      else { c with pendingUpdates := c.pendingUpdates.drop c.maxBatch, kvs := (chunk c).1 } := by
  unfold publishBreadcrumb chunk chunkStatus
  by_cases hbig : c.pendingUpdates.length > c.maxBatch
  · simp [hbig, Nat.not_le.mpr hbig]
  · have hle := Nat.not_lt.mp hbig
    have e : (if c.pendingStatus = c.cur.status then c.cur.status else c.pendingStatus) = c.pendingStatus := by
      split
      · next h => exact h.symm
      · rfl
    simp [hbig, hle, List.take_of_length_le hle, List.drop_of_length_le hle, e]

theorem CacheInv.publishBreadcrumb {c : Cache} (h : CacheInv c) (ts : Nat) :
    CacheInv (publishBreadcrumb c ts) := by
  rw [publishBreadcrumb_eq]
  obtain ⟨h1, _, d, e, m⟩ := foldl_applyOne_spec (c.pendingUpdates.take c.maxBatch) (c.kvs, []) h.sorted
  rw [List.nil_append] at e
  rw [h.cur_view] at m
  split
  · refine ⟨h1, rfl, chainOK_snoc c.older c.cur _ h.chain ⟨e ▸ m, rfl⟩, fun x hx => ?_⟩
    rcases List.mem_append.mp hx with hx | hx
    · exact h.crumbs_sorted x hx
    · exact List.mem_singleton.mp hx ▸ h1
  · next hc =>
    have hd : d = [] := e ▸ Decidable.not_not.mp (not_or.mp hc).2
    exact ⟨h1, by rw [hd] at m; exact m, h.chain, h.crumbs_sorted⟩

theorem publishRest_induct {P : Cache → Prop} (hP : ∀ c ts, P c → P (publishBreadcrumb c ts)) :
    ∀ (fuel : Nat) (c : Cache) (ts : Nat), P c → P (publishRest c ts fuel)
  | 0, _, _, h => h
  | fuel + 1, c, ts, h => by
    unfold publishRest
    split
    · exact h
    · exact publishRest_induct hP fuel _ _ (hP c ts h)

theorem publishBreadcrumbs_induct {P : Cache → Prop} (hP : ∀ c ts, P c → P (publishBreadcrumb c ts))
    (c : Cache) (ts : Nat) (h : P c) : P (publishBreadcrumbs c ts) :=
  publishRest_induct hP _ _ _ (hP c ts h)

theorem CacheInv.publishBreadcrumbs {c : Cache} (h : CacheInv c) (ts : Nat) :
    CacheInv (publishBreadcrumbs c ts) :=
  publishBreadcrumbs_induct (fun _ ts h => h.publishBreadcrumb ts) c ts h

/-- `c'` differs from `c` on the input side only (`inputQ`, `pendingStatus`, `pendingUpdates`). -/
structure SameOut (c c' : Cache) : Prop where
  maxBatch : c'.maxBatch = c.maxBatch
  kvs : c'.kvs = c.kvs
  older : c'.older = c.older
  cur : c'.cur = c.cur

theorem SameOut.trans {a b c : Cache} (h1 : SameOut a b) (h2 : SameOut b c) : SameOut a c :=
  ⟨h2.maxBatch.trans h1.maxBatch, h2.kvs.trans h1.kvs, h2.older.trans h1.older, h2.cur.trans h1.cur⟩

theorem storePending_sameOut (c : Cache) (o : In) : SameOut c (storePending c o).1 := by
  cases o <;> exact ⟨rfl, rfl, rfl, rfl⟩

theorem batchLoop_sameOut (c : Cache) (n : Nat) (q : List In) : SameOut c (batchLoop c n q).1 := by
  induction q generalizing c n with
  | nil => exact ⟨rfl, rfl, rfl, rfl⟩
  | cons o q ih =>
    unfold batchLoop
    split
    · exact (storePending_sameOut c o).trans (ih _ _)
    · exact ⟨rfl, rfl, rfl, rfl⟩

theorem fillBatch_sameOut (c : Cache) : SameOut c (fillBatch c) := by
  unfold fillBatch
  split
  · exact ⟨rfl, rfl, rfl, rfl⟩
  · next o q _ => exact ((storePending_sameOut c o).trans (batchLoop_sameOut _ _ q)).trans ⟨rfl, rfl, rfl, rfl⟩

theorem push_sameOut (c : Cache) (o : In) : SameOut c (push c o) := by
  unfold push
  split <;> exact ⟨rfl, rfl, rfl, rfl⟩

theorem CacheInv.sameOut {c c' : Cache} (h : CacheInv c) (e : SameOut c c') : CacheInv c' := by
  exact ⟨e.kvs ▸ h.sorted, by rw [e.kvs, e.cur]; exact h.cur_view,
    by unfold Cache.chain; rw [e.older, e.cur]; exact h.chain,
    by unfold Cache.chain; rw [e.older, e.cur]; exact h.crumbs_sorted⟩

structure PubOK (c c' : Cache) : Prop where
  /-- the tree advanced by exactly the chunk taken off `pendingUpdates` -/
  vals : vfold (vmap c'.kvs) c'.pendingUpdates = vfold (vmap c.kvs) c.pendingUpdates
  shorter : c.pendingUpdates ≠ [] → 0 < c.maxBatch → c'.pendingUpdates.length < c.pendingUpdates.length
  nil : c.pendingUpdates = [] → c'.pendingUpdates = []
  older : ∀ x ∈ c'.older, x ∈ c.older ∨ x = c.cur
  status : c'.cur.status ≠ c.cur.status → c'.pendingUpdates = [] ∧ c'.cur.status = c.pendingStatus
  final : c'.pendingUpdates = [] → c.pendingUpdates.length ≤ c.maxBatch → c'.cur.status = c.pendingStatus
  same : c'.maxBatch = c.maxBatch ∧ c'.pendingStatus = c.pendingStatus ∧ c'.inputQ = c.inputQ

theorem publishBreadcrumb_pub {c : Cache} (h : CacheInv c) (ts : Nat) : PubOK c (publishBreadcrumb c ts) := by
  rw [publishBreadcrumb_eq]
  have hv : vfold (vmap (chunk c).1) (c.pendingUpdates.drop c.maxBatch) = vfold (vmap c.kvs) c.pendingUpdates := by
    rw [chunk, (foldl_applyOne_spec _ (c.kvs, []) h.sorted).2.1, ← vfold_append, List.take_append_drop]
  have hsh : c.pendingUpdates ≠ [] → 0 < c.maxBatch →
      (c.pendingUpdates.drop c.maxBatch).length < c.pendingUpdates.length := fun hne hm => by
    have := List.length_pos_iff.mpr hne
    rw [List.length_drop]; omega
  have hnil : c.pendingUpdates = [] → c.pendingUpdates.drop c.maxBatch = [] := fun hn => by rw [hn, List.drop_nil]
  -- a status other than the current one is the pending one, taken on the last chunk
  have hst : chunkStatus c ≠ c.cur.status →
      c.pendingUpdates.drop c.maxBatch = [] ∧ chunkStatus c = c.pendingStatus := by
    unfold chunkStatus
    split
    · next hle => exact fun _ => ⟨List.drop_of_length_le hle, rfl⟩
    · exact fun hne => absurd rfl hne
  have hfin : c.pendingUpdates.length ≤ c.maxBatch → chunkStatus c = c.pendingStatus := fun hle => if_pos hle
  split
  · exact ⟨hv, hsh, hnil, fun x hx => (List.mem_append.mp hx).imp id List.mem_singleton.mp, hst,
      fun _ => hfin, rfl, rfl, rfl⟩
  · next hc =>
    have hcur := Decidable.not_not.mp (not_or.mp hc).1
    exact ⟨hv, hsh, hnil, fun x hx => Or.inl hx, fun hne => absurd rfl hne, fun _ hle => hcur ▸ hfin hle,
      rfl, rfl, rfl⟩

/-- Invariant of the draining loop relative to the state `b` at the start of `publishBreadcrumbs`. -/
structure DrainInv (b c : Cache) : Prop where
  inv : CacheInv c
  vals : vfold (vmap c.kvs) c.pendingUpdates = vfold (vmap b.kvs) b.pendingUpdates
  older : ∀ x ∈ c.older, x ∈ b.older ∨ x.status = b.cur.status
  status : c.cur.status ≠ b.cur.status → c.pendingUpdates = [] ∧ c.cur.status = b.pendingStatus
  same : c.maxBatch = b.maxBatch ∧ c.pendingStatus = b.pendingStatus ∧ c.inputQ = b.inputQ

theorem DrainInv.step {b c : Cache} (h : DrainInv b c) (ts : Nat) (hcur : c.cur.status = b.cur.status) :
    DrainInv b (publishBreadcrumb c ts) := by
  have p := publishBreadcrumb_pub h.inv ts
  refine ⟨h.inv.publishBreadcrumb ts, p.vals.trans h.vals, fun x hx => ?_, fun hne => ?_,
    p.same.1.trans h.same.1, p.same.2.1.trans h.same.2.1, p.same.2.2.trans h.same.2.2⟩
  · rcases p.older x hx with h1 | h1
    · exact h.older x h1
    · exact Or.inr (h1 ▸ hcur)
  · have := p.status (hcur ▸ hne)
    exact ⟨this.1, this.2.trans h.same.2.1⟩

theorem DrainInv.rest {b : Cache} (hmb : 0 < b.maxBatch) :
    ∀ (fuel : Nat) (c : Cache) (ts : Nat), DrainInv b c → c.pendingUpdates.length ≤ fuel →
      DrainInv b (publishRest c ts fuel) ∧ (publishRest c ts fuel).pendingUpdates = []
  | 0, _, _, h, hl => ⟨h, List.length_eq_zero_iff.mp (Nat.le_zero.mp hl)⟩
  | n + 1, c, ts, h, hl => by
    unfold publishRest
    split
    · next he => exact ⟨h, List.isEmpty_iff.mp he⟩
    · next he =>
      have hne : c.pendingUpdates ≠ [] := fun e => he (List.isEmpty_iff.mpr e)
      -- a pending update means the status has not been changed yet
      have hcur : c.cur.status = b.cur.status := Decidable.by_contra fun e => hne (h.status e).1
      have := (publishBreadcrumb_pub h.inv ts).shorter hne (h.same.1 ▸ hmb)
      exact DrainInv.rest hmb n _ _ (h.step ts hcur) (by omega)

theorem DrainInv.drained {b c : Cache} (d : DrainInv b c) (hnil : c.pendingUpdates = []) :
    vmap c.cur.kvs = vfold (vmap b.kvs) b.pendingUpdates := by
  have := d.vals
  rw [hnil] at this
  exact (vmap_of_asMap _ _ d.inv.cur_view).symm.trans this

theorem publishBreadcrumbs_drained {b : Cache} (h : CacheInv b) (hmb : 0 < b.maxBatch) (ts : Nat) :
    DrainInv b (publishBreadcrumbs b ts) ∧ (publishBreadcrumbs b ts).pendingUpdates = [] :=
  have h0 : DrainInv b b := ⟨h, rfl, fun _ hx => Or.inl hx, fun hne => absurd rfl hne, rfl, rfl, rfl⟩
  DrainInv.rest hmb (publishBreadcrumb b ts).pendingUpdates.length (publishBreadcrumb b ts)
    (if (publishBreadcrumb b ts).cur.seq = b.cur.seq then ts else ts + 1) (h0.step ts rfl) (Nat.le_refl _)

def crumbDeltas (chain : List Crumb) (i : Nat) : List SU := ((chain[i]?).map (·.deltas)).getD []

/-- The deltas of crumbs `a+1 … b`, in order. -/
def dB (chain : List Crumb) (a b : Nat) : List SU :=
  (List.range' (a + 1) (b - a)).flatMap (crumbDeltas chain)

theorem dB_self (chain : List Crumb) (a : Nat) : dB chain a a = [] := by
  rw [dB, Nat.sub_self]; rfl

theorem dB_split (chain : List Crumb) (a b c : Nat) (h1 : a ≤ b) (h2 : b ≤ c) :
    dB chain a b ++ dB chain b c = dB chain a c := by
  obtain ⟨m, rfl⟩ := Nat.exists_eq_add_of_le h1
  obtain ⟨n, rfl⟩ := Nat.exists_eq_add_of_le h2
  unfold dB
  rw [← List.flatMap_append, Nat.add_sub_cancel_left, Nat.add_sub_cancel_left, Nat.add_assoc a m n,
    Nat.add_sub_cancel_left, Nat.add_right_comm a m 1, ← List.range'_append, Nat.one_mul]

theorem dB_next (chain : List Crumb) (a b : Nat) (h : a ≤ b) (x : Crumb) (hx : chain[b + 1]? = some x) :
    dB chain a (b + 1) = dB chain a b ++ x.deltas := by
  rw [← dB_split chain a b (b + 1) h (Nat.le_succ b)]
  simp [dB, crumbDeltas, hx]

def viewAt (chain : List Crumb) (i : Nat) : View := ((chain[i]?).map (fun c => asMap c.kvs)).getD emptyView

theorem viewAt_of_get {chain : List Crumb} {i : Nat} {x : Crumb} (h : chain[i]? = some x) :
    viewAt chain i = asMap x.kvs := by
  rw [viewAt, h]; rfl

theorem chainOK_link (chain : List Crumb) (h : ChainOK chain) (i : Nat) (x y : Crumb)
    (hx : chain[i]? = some x) (hy : chain[i + 1]? = some y) : Link x y := by
  induction chain generalizing i with
  | nil => cases hx
  | cons a rest ih =>
    cases rest with
    | nil => cases hy
    | cons b rest' =>
      cases i with
      | zero => cases hx; cases hy; exact h.1
      | succ j => exact ih h.2 j hx hy

theorem chain_telescope (chain : List Crumb) (h : ChainOK chain) (a b : Nat) (hab : a ≤ b)
    (hb : b < chain.length) : viewAt chain b = applyDs (viewAt chain a) (dB chain a b) := by
  induction b with
  | zero => rw [Nat.le_zero.mp hab, dB_self]; rfl
  | succ n ih =>
    rcases Nat.lt_or_ge n a with e | han
    · rw [Nat.le_antisymm hab e, dB_self]; rfl
    · have hx := List.getElem?_eq_getElem (Nat.lt_of_succ_lt hb)
      have hy := List.getElem?_eq_getElem hb
      rw [dB_next chain a n han _ hy, applyDs_append, ← ih han (Nat.lt_of_succ_lt hb), viewAt_of_get hx,
        viewAt_of_get hy]
      exact (chainOK_link chain h n _ _ hx hy).1

end CalicoVerif.C24
