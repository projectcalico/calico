import CalicoVerif.Proofs.C15Loop
/-!
The fuel that bounds the incref/decref cascades of the model is never exhausted when the reference graph of the
chains goes strictly down a rank, and histories of ranked calls keep it so.
-/
namespace CalicoVerif.C15

def Ranked (rk : String → Nat) (t : T) : Prop :=
  ∀ c ch, t.chains.get c = some ch → ∀ x ∈ refsOf ch.rules, rk x < rk c

theorem incref_chains (f : Nat) (t : T) (n : String) : (T.incref f t n).chains = t.chains :=
  (incref_casc (Q := fun _ => True) f t n trivial (true_refs t)).chains

theorem decref_chains (f : Nat) (t : T) (n : String) : (T.decref f t n).chains = t.chains :=
  (decref_casc (Q := fun _ => True) f t n trivial (true_refs t)).chains

theorem fold_congr_ranked (rk : String → Nat) (g1 g2 : T → String → T) (bound : Nat)
    (hch : ∀ t x, (g1 t x).chains = t.chains)
    (heq : ∀ t x, Ranked rk t → rk x < bound → g1 t x = g2 t x) :
    ∀ (L : List String) (t : T), Ranked rk t → (∀ x ∈ L, rk x < bound) → L.foldl g1 t = L.foldl g2 t
  | [], _, _, _ => rfl
  | x :: L, t, hr, hL => by
    rw [List.foldl_cons, List.foldl_cons, ← heq t x hr (hL x List.mem_cons_self)]
    exact fold_congr_ranked rk g1 g2 bound hch heq L _ (fun c ch hc => hr c ch (hch t x ▸ hc))
      fun y hy => hL y (List.mem_cons_of_mem _ hy)

theorem incref_fuel (rk : String → Nat) : ∀ (f : Nat) (t : T) (n : String), Ranked rk t → rk n < f →
    T.incref f t n = T.incref (f + 1) t n
  | 0, _, _, _, h => absurd h (Nat.not_lt_zero _)
  | f + 1, t, n, hr, hn => by
    rw [T.incref, T.incref]
    dsimp only
    split
    · cases hch : t.chains.get n with
      | none => rfl
      | some ch =>
        exact fold_congr_ranked rk _ _ f (incref_chains f) (incref_fuel rk f) _ _ hr
          fun x hx => Nat.lt_of_lt_of_le (hr n ch hch x hx) (Nat.le_of_lt_succ hn)
    · rfl

theorem decref_fuel (rk : String → Nat) : ∀ (f : Nat) (t : T) (n : String), Ranked rk t → rk n < f →
    T.decref f t n = T.decref (f + 1) t n
  | 0, _, _, _, h => absurd h (Nat.not_lt_zero _)
  | f + 1, t, n, hr, hn => by
    rw [T.decref, T.decref]
    split
    · cases hch : t.chains.get n with
      | none => rfl
      | some ch =>
        dsimp only
        rw [fold_congr_ranked rk (fun t x => T.decref f t x) (fun t x => T.decref (f + 1) t x) f (decref_chains f)
          (decref_fuel rk f) (refsOf ch.rules) t hr
          fun x hx => Nat.lt_of_lt_of_le (hr n ch hch x hx) (Nat.le_of_lt_succ hn)]
    · rfl

theorem fuel_enough (rk : String → Nat) (g : Nat → T → String → T)
    (hg : ∀ f t n, Ranked rk t → rk n < f → g f t n = g (f + 1) t n) (t : T) (n : String) (hr : Ranked rk t)
    (B : Nat) (hn : rk n < B) : ∀ k, g (B + k) t n = g B t n
  | 0 => rfl
  | k + 1 => (hg (B + k) t n hr (Nat.lt_of_lt_of_le hn (Nat.le_add_right _ _))).symm.trans
      (fuel_enough rk g hg t n hr B hn k)

def Op.ranked (rk : String → Nat) : Op → Prop
  | .chain c ch => ∀ x ∈ refsOf ch.rules, rk x < rk c
  | _ => True

theorem stepOp_ranked (rk : String → Nat) (w : W) (o : Op) (ho : o.ranked rk) (h : Ranked rk w.t) :
    Ranked rk (w.stepOp o).1.t := by
  cases o with
  | restart m => intro c ch hc; cases hc
  | kchain n rs => exact h
  | kdelchain n => exact h
  | chain n ch =>
    intro c ch' hc
    have hc' : (w.t.updateChain n ch).chains.get c = some ch' := hc
    rw [updateChain_chains, Map.get_set] at hc'
    split at hc'
    · rename_i hcn
      cases hc'
      rw [hcn]; exact ho
    · exact h c ch' hc'
  | rmchain n =>
    intro c ch' hc
    have hc' : (w.t.removeChain n).chains.get c = some ch' := hc
    rcases removeChain_chains w.t n with e | e
    · rw [e] at hc'; exact h c ch' hc'
    · rw [e, Map.get_erase] at hc'
      split at hc'
      · cases hc'
      · exact h c ch' hc'
  | ins c rs =>
    have e : (w.t.setInserts c rs).chains = w.t.chains := hooks_chains _ c rs _
    intro c' ch' hc; exact h c' ch' (e ▸ hc)
  | app c rs =>
    have e : (w.t.setAppends c rs).chains = w.t.chains := hooks_chains _ c rs _
    intro c' ch' hc; exact h c' ch' (e ▸ hc)
  | invalidate => exact h
  | apply sf rf pre =>
    have hI : ApplyInv (fun t => t.chains = w.t.chains) :=
      ⟨fun t K h => (load_chains t K).trans h, fun _ h => h, fun _ _ _ _ _ h => h⟩
    intro c ch' hc
    exact h c ch' (hI.apply { w with saveFails := sf, restoreFails := rf, pre := pre, trace := [] } rfl ▸ hc)

theorem run_ranked (rk : String → Nat) (ops : List Op) (w : W) (hr : ∀ o ∈ ops, o.ranked rk) (h : Ranked rk w.t) :
    Ranked rk (w.run ops).t :=
  run_induct (I := fun w => Ranked rk w.t) ops w (fun o ho w => stepOp_ranked rk w o (hr o ho)) h

end CalicoVerif.C15
