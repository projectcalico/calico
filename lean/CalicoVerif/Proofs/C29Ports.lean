import CalicoVerif.Proofs.C29
/-! C29: ports.  SimplifyPorts and the protocol → ports map of k8sRuleToCalico allow exactly the
(protocol, port) pairs the NetworkPolicyPorts allow. -/
namespace CalicoVerif.C29

theorem mem_expandPorts (ps : List CPort) (d : Nat) :
    d ∈ expandPorts ps ↔ ∃ p ∈ ps, p.name = "" ∧ p.min ≤ d ∧ d ≤ p.max := by
  simp only [expandPorts, List.mem_flatMap]
  constructor
  · rintro ⟨p, hp, hd⟩
    by_cases hn : p.name = ""
    · simp only [hn, ne_eq, not_true_eq_false, if_false, List.mem_range'_1] at hd
      exact ⟨p, hp, hn, by omega, by omega⟩
    · simp [hn] at hd
  · rintro ⟨p, hp, hn, h1, h2⟩
    refine ⟨p, hp, ?_⟩
    simp only [hn, ne_eq, not_true_eq_false, if_false, List.mem_range'_1]
    omega

theorem cportMatches_numeric (f l : Nat) (conn : Conn) :
    cportMatches { min := f, max := l, name := "" } conn = (decide (f ≤ conn.dport) && decide (conn.dport ≤ l)) := by
  simp [cportMatches]

theorem coalesceGo_any (conn : Conn) (rest : List Nat) :
    ∀ (f l : Nat), f ≤ l → (∀ x ∈ rest, l ≤ x) → rest.Pairwise (· ≤ ·) →
      ((coalesceGo f l rest).any (fun p => cportMatches p conn) = true ↔
        ((f ≤ conn.dport ∧ conn.dport ≤ l) ∨ conn.dport ∈ rest)) := by
  induction rest with
  | nil =>
    intro f l _ _ _
    simp [coalesceGo, cportMatches_numeric]
  | cons n rest ih =>
    intro f l hfl hge hs
    have hln : l ≤ n := hge n List.mem_cons_self
    have hs' := List.pairwise_cons.1 hs
    rw [coalesceGo, List.mem_cons]
    split
    · rw [List.any_cons, Bool.or_eq_true, ih n n (Nat.le_refl n) hs'.1 hs'.2, cportMatches_numeric, Bool.and_eq_true,
        decide_eq_true_eq, decide_eq_true_eq]
      exact or_congr_right (or_congr_left (by omega))
    · -- `n` extends the range
      rw [ih f n (by omega) hs'.1 hs'.2, ← or_assoc]
      exact or_congr_left (by omega)

theorem coalesce_any (conn : Conn) (l : List Nat) (hs : l.Pairwise (· ≤ ·)) :
    ((coalesce l).any (fun p => cportMatches p conn) = true ↔ conn.dport ∈ l) := by
  cases l with
  | nil => simp [coalesce]
  | cons n rest =>
    have hs' := List.pairwise_cons.1 hs
    rw [coalesce, coalesceGo_any conn rest n n (Nat.le_refl n) hs'.1 hs'.2, List.mem_cons]
    exact or_congr_left (by omega)

theorem sorted_mergeSort_nat (l : List Nat) :
    (l.mergeSort (fun a b => decide (a ≤ b))).Pairwise (· ≤ ·) := by
  have := List.pairwise_mergeSort (le := fun (a b : Nat) => decide (a ≤ b))
    (by intro a b c; simp only [decide_eq_true_eq]; omega)
    (by intro a b; simp only [Bool.or_eq_true, decide_eq_true_eq]; omega) l
  exact this.imp (by intro a b h; simpa using h)

theorem coalesceGo_ne_nil (rest : List Nat) : ∀ f l : Nat, coalesceGo f l rest ≠ [] := by
  induction rest with
  | nil => exact fun f l => List.cons_ne_nil _ _
  | cons m rest ih =>
    intro f l
    rw [coalesceGo]
    split
    · exact List.cons_ne_nil _ _
    · exact ih f m

theorem coalesce_ne_nil (l : List Nat) (h : l ≠ []) : coalesce l ≠ [] := by
  cases l with
  | nil => exact absurd rfl h
  | cons n rest => exact coalesceGo_ne_nil rest n n

theorem simplifyPorts_any (ps : List CPort) (conn : Conn) :
    (simplifyPorts ps).any (fun p => cportMatches p conn) = ps.any (fun p => cportMatches p conn) := by
  unfold simplifyPorts
  split
  · rfl
  · dsimp only
    split
    · rfl
    · rw [Bool.eq_iff_iff]
      simp only [List.any_append, Bool.or_eq_true]
      rw [coalesce_any conn _ (sorted_mergeSort_nat _), (List.mergeSort_perm _ _).mem_iff, mem_expandPorts]
      simp only [List.any_eq_true, namedPorts, List.mem_filter, decide_eq_true_eq]
      constructor
      · rintro (⟨p, ⟨hp, _⟩, hm⟩ | ⟨p, hp, hn, h1, h2⟩)
        · exact ⟨p, hp, hm⟩
        · exact ⟨p, hp, by simp [cportMatches, hn, h1, h2]⟩
      · rintro ⟨p, hp, hm⟩
        by_cases hn : p.name = ""
        · right
          simp only [cportMatches, hn, ne_eq, not_true_eq_false, if_false, Bool.and_eq_true,
            decide_eq_true_eq] at hm
          exact ⟨p, hp, hn, hm.1, hm.2⟩
        · left
          exact ⟨p, ⟨hp, hn⟩, hm⟩

theorem simplifyPorts_eq_nil (ps : List CPort) : simplifyPorts ps = [] ↔ ps = [] := by
  unfold simplifyPorts
  split
  · rfl
  · dsimp only
    split
    · rfl
    · rename_i h1 h2
      constructor
      · intro h
        -- at least two numeric ports are enumerated, so at least one range comes out
        refine absurd (List.append_eq_nil_iff.1 h).2 (coalesce_ne_nil _ fun hnil => ?_)
        have : expandPorts ps = [] := List.nil_perm.1 (hnil ▸ List.mergeSort_perm (expandPorts ps) _)
        rw [this] at h2
        exact h2 (Nat.zero_le 1)
      · intro h; subst h; simp at h1

def validProto (p : Option String) : Prop :=
  p = none ∨ p = some "TCP" ∨ p = some "UDP" ∨ p = some "SCTP"

/-- Kubernetes API validation of a NetworkPolicyPort (ValidateNetworkPolicyPort), slightly
generalised: any name that is not all digits and consists of `[A-Za-z0-9_.-]{1,128}` is accepted. -/
def KPort.valid (kp : KPort) : Prop :=
  validProto kp.proto ∧
  (match kp.port, kp.endPort with
   | none, e => e = none
   | some (.int n), none => 1 ≤ n ∧ n ≤ 65535
   | some (.int n), some e => 1 ≤ n ∧ n ≤ e ∧ e ≤ 65535
   | some (.str s), none => validPortName s = true ∧ allDigits s = false
   | some (.str _), some _ => False)

/-- The port half of `k8sPortMatches`. -/
def k8sPortPart (kp : KPort) (conn : Conn) : Bool :=
  match kp.port with
  | none => true
  | some (.int n) =>
    (match kp.endPort with
     | none => n == (conn.dport : Int)
     | some e => n ≤ (conn.dport : Int) && (conn.dport : Int) ≤ e)
  | some (.str s) => podHasPort conn.dst.ep s conn.proto conn.dport

theorem k8sPortMatches_eq (kp : KPort) (conn : Conn) :
    k8sPortMatches kp conn = ((protoNum (kp.proto.getD "TCP") == some conn.proto) && k8sPortPart kp conn) := by
  unfold k8sPortMatches k8sPortPart
  rfl

theorem dropWhile_cons_props {α : Type} (p : α → Bool) (l : List α) (c : α) (b : List α)
    (h : l.dropWhile p = c :: b) : p c = false ∧ c ∈ l := by
  have h1 := List.head_dropWhile_not p (l := l) (by rw [h]; exact List.cons_ne_nil _ _)
  simp only [h, List.head_cons] at h1
  exact ⟨h1, (List.dropWhile_suffix p).subset (h ▸ List.mem_cons_self)⟩

theorem splitRange_none_of_name (l : List Char) (hall : l.all nameChar = true) : splitRange l = none := by
  unfold splitRange
  dsimp only
  split
  · rename_i b hb
    have := dropWhile_cons_props _ _ _ _ hb
    have hc : nameChar ':' = true := List.all_eq_true.1 hall ':' this.2
    exact absurd hc (by decide)
  · rfl

theorem portFromString_name (s : String) (hv : validPortName s = true) (hd : allDigits s = false) :
    portFromString s = some { min := 0, max := 0, name := s } := by
  have hall : s.toList.all nameChar = true := by
    simp only [validPortName, Bool.and_eq_true] at hv
    exact hv.2
  simp [portFromString, hd, splitRange_none_of_name _ hall, namedPort, hv]

theorem name_ne_empty (s : String) (hv : validPortName s = true) : s ≠ "" := by
  intro h
  subst h
  simp [validPortName] at hv

/-- "No port constraint, or some port matches": how a port list is read in `cruleMatches`. -/
def portsOK (cps : List CPort) (conn : Conn) : Bool := cps.isEmpty || cps.any (fun p => cportMatches p conn)

theorem portsOK_simplify (ps : List CPort) (conn : Conn) : portsOK (simplifyPorts ps) conn = portsOK ps conn := by
  rw [portsOK, portsOK, simplifyPorts_any]
  congr 1
  rw [Bool.eq_iff_iff, List.isEmpty_iff, List.isEmpty_iff, simplifyPorts_eq_nil]

theorem port_conv (kp : KPort) (hv : kp.valid) :
    ∃ cps, k8sPortToCalico kp = some cps ∧ ∀ conn, portsOK cps conn = k8sPortPart kp conn := by
  obtain ⟨_, hp⟩ := hv
  rcases kp with ⟨proto, port, endPort⟩
  cases port with
  | none => exact ⟨[], rfl, fun conn => rfl⟩
  | some pv =>
    cases pv with
    | int n =>
      cases endPort with
      | none =>
        simp only at hp
        have hu : u16 n = some n.toNat := by simp [u16]; omega
        refine ⟨[{ min := n.toNat, max := n.toNat, name := "" }], by simp [k8sPortToCalico, Int.not_lt.2 (by omega : 0 ≤ n), hu], ?_⟩
        intro conn
        rw [Bool.eq_iff_iff]
        simp only [portsOK, List.isEmpty_cons, Bool.false_or, List.any_cons, List.any_nil, Bool.or_false,
          cportMatches_numeric, Bool.and_eq_true, decide_eq_true_eq, k8sPortPart, beq_iff_eq]
        omega
      | some e =>
        simp only at hp
        have hn : ¬ (n < 0 ∨ e < 0) := by omega
        have hu : u16 n = some n.toNat := by simp [u16]; omega
        have hue : u16 e = some e.toNat := by simp [u16]; omega
        have hle : ¬ n.toNat > e.toNat := by omega
        refine ⟨[{ min := n.toNat, max := e.toNat, name := "" }], by simp [k8sPortToCalico, hn, hu, hue, hle], ?_⟩
        intro conn
        rw [Bool.eq_iff_iff]
        simp only [portsOK, List.isEmpty_cons, Bool.false_or, List.any_cons, List.any_nil, Bool.or_false,
          cportMatches_numeric, Bool.and_eq_true, decide_eq_true_eq, k8sPortPart]
        omega
    | str s =>
      cases endPort with
      | some e => exact hp.elim
      | none =>
        simp only at hp
        refine ⟨[{ min := 0, max := 0, name := s }], by simp [k8sPortToCalico, portFromString_name s hp.1 hp.2], ?_⟩
        intro conn
        simp [portsOK, k8sPortPart, cportMatches, name_ne_empty s hp.1]

/-- The protocol test of the rules generated for the key `k` of the protocol → ports map. -/
def protoTest (k : String) (conn : Conn) : Bool :=
  match (if k ≠ "" then some (protocolFromString k) else none : Option String) with
  | none => true
  | some p => protoNum p == some conn.proto

/-- What the rules generated for one entry of the map test (SimplifyPorts aside).  Reading the key
the way the generated rule does means the map needs no invariant on its keys. -/
def entryMatches (e : String × List CPort) (conn : Conn) : Bool := protoTest e.1 conn && portsOK e.2 conn

theorem ppInsert_any (m : List (String × List CPort)) (p : String) (ports : List CPort) (conn : Conn) :
    (ppInsert m p ports).any (entryMatches · conn) = (m.any (entryMatches · conn) || entryMatches (p, ports) conn) := by
  induction m with
  | nil => simp [ppInsert]
  | cons e rest ih =>
    rcases e with ⟨k, v⟩
    rw [ppInsert]
    split
    · rename_i hkp
      subst hkp
      split
      · -- "all ports" replaces whatever was there
        rename_i hp
        rw [List.any_cons, List.any_cons]
        generalize rest.any (entryMatches · conn) = R
        simp only [entryMatches, portsOK, hp, Bool.true_or, Bool.and_true, List.isEmpty_nil]
        cases protoTest k conn <;> cases R <;> simp
      · rename_i hp
        split
        · -- "all ports" stays
          rename_i hv
          rw [List.any_cons]
          generalize rest.any (entryMatches · conn) = R
          simp only [entryMatches, portsOK, hv, Bool.true_or, Bool.and_true]
          cases protoTest k conn <;> cases R <;> simp
        · rename_i hv
          have happ : (v ++ ports).isEmpty = false := by
            cases v with
            | nil => exact absurd rfl hv
            | cons _ _ => rfl
          rw [List.any_cons, List.any_cons]
          generalize rest.any (entryMatches · conn) = R
          simp only [entryMatches, portsOK, hv, hp, happ, Bool.false_or, List.any_append]
          cases protoTest k conn <;> cases R <;> simp [Bool.or_comm]
    · rw [List.any_cons, ih, List.any_cons, Bool.or_assoc]

theorem protocol_known (x : String) (h : x = "TCP" ∨ x = "UDP" ∨ x = "SCTP") :
    protocolFromString x = x ∧ x ≠ "" := by
  rcases h with rfl | rfl | rfl <;> exact ⟨by decide, by decide⟩

theorem validProto_cases (p : Option String) (h : validProto p) :
    p.getD "TCP" = "TCP" ∨ p.getD "TCP" = "UDP" ∨ p.getD "TCP" = "SCTP" := by
  rcases h with rfl | rfl | rfl | rfl
  · exact Or.inl rfl
  · exact Or.inl rfl
  · exact Or.inr (Or.inl rfl)
  · exact Or.inr (Or.inr rfl)

def bppStep (acc : Option (List (String × List CPort))) (p : KPort) : Option (List (String × List CPort)) :=
  match acc with
  | none => none
  | some m =>
    match k8sPortToCalico p with
    | none => none
    | some cps => some (ppInsert m (protocolFromString (p.proto.getD "TCP")) cps)

theorem buildProtocolPorts_eq (ports : List KPort) :
    buildProtocolPorts ports = ports.foldl bppStep (some []) := rfl

theorem protoTest_valid (p : Option String) (h : validProto p) (conn : Conn) :
    protoTest (protocolFromString (p.getD "TCP")) conn = (protoNum (p.getD "TCP") == some conn.proto) := by
  obtain ⟨h1, h2⟩ := protocol_known _ (validProto_cases p h)
  rw [protoTest, h1, if_pos h2, h1]

theorem bpp_fold (ports : List KPort) (hv : ∀ kp ∈ ports, kp.valid) :
    ∀ m, ∃ m', ports.foldl bppStep (some m) = some m' ∧
      ∀ conn, m'.any (entryMatches · conn) =
        (m.any (entryMatches · conn) || ports.any (fun kp => k8sPortMatches kp conn)) := by
  induction ports with
  | nil => exact fun m => ⟨m, rfl, fun conn => (Bool.or_false _).symm⟩
  | cons kp rest ih =>
    intro m
    have hkv := hv kp List.mem_cons_self
    obtain ⟨cps, hcps, hsem⟩ := port_conv kp hkv
    obtain ⟨m', hf, hsem'⟩ := ih (fun x hx => hv x (List.mem_cons_of_mem _ hx))
      (ppInsert m (protocolFromString (kp.proto.getD "TCP")) cps)
    refine ⟨m', by rw [List.foldl_cons, bppStep, hcps]; exact hf, fun conn => ?_⟩
    rw [hsem' conn, ppInsert_any, List.any_cons, Bool.or_assoc, entryMatches, protoTest_valid _ hkv.1, hsem conn,
      k8sPortMatches_eq]

end CalicoVerif.C29
