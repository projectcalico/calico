import CalicoVerif.Proofs.C26Machine
/-!
C26 — the resync loop.  It always ends (with the fuel `runCall` passes).  Run with two ghosts — the LAST
successfully listed snapshot consumed, and whether any List completed (ok or "API not installed") — which do not
influence the run (`resyncLoopG_proj`), it has ONE invariant (`LoopInv`) from which everything said about a call
follows (`LoopPost`): the cache invariant holds and the cache is awake when the watch is created, WHICH snapshot the
cache then holds, that a call which does not list leaves the cache untouched, and that InSync is only ever announced
after a completed List.
-/
namespace CalicoVerif.C26

theorem listStep_ok_goes_on (wc : WC) (kvs : List KV) (lrev : Nat) (h : lrev ≠ 0) :
    (listStep wc (.ok kvs lrev)).2.2 = true := by
  simp [listStep, h]

theorem watchStep_ok_done (wc : WC) (full : Bool) : (watchStep wc full .ok).2.2 = true := rfl

theorem resyncLoop_some (fin : List KV × Nat) (hfin : fin.2 ≠ 0) :
    ∀ (fuel : Nat) (wc : WC) (full : Bool) (lists : List ListOut) (watches : List WatchOut),
      lists.length + watches.length < fuel → (resyncLoop fin fuel wc full lists watches).isSome = true := by
  intro fuel wc full lists watches hlen
  fun_induction resyncLoop fin fuel wc full lists watches with
  | case1 => omega
  | case2 => rfl
  | case4 => rfl
  | case3 fuel wc full0 lists0 watches full lo r lists hstop hgo ih =>
    -- no Watch attempt: a scripted List outcome was consumed (the final List always goes on to the Watch)
    refine ih ?_
    cases hf : full with
    | false => simp [r, hf] at hgo
    | true =>
      cases lists0 with
      | nil => simp [r, hf, lo, listStep_ok_goes_on wc fin.1 fin.2 hfin] at hgo
      | cons l ls => simp only [lists, hf, if_true, List.tail_cons, List.length_cons] at hlen ⊢; omega
  | case5 fuel wc full0 lists0 watches full lo r lists hstop hgo w hdone ih =>
    -- the Watch attempt failed: a scripted Watch outcome was consumed
    refine ih ?_
    have hl : lists.length ≤ lists0.length := by
      simp only [lists]; split <;> simp
    cases watches with
    | nil => exact absurd (watchStep_ok_done r.1 r.2.1) hdone
    | cons wo ws => simp only [List.tail_cons, List.length_cons] at hlen ⊢; omega

/-- Ghost update for the List outcome `lo`: the last successfully listed snapshot. -/
def ghostList (lo : ListOut) (g : Option (List KV)) : Option (List KV) :=
  match lo with
  | .ok kvs _ => some kvs
  | .pollStop => some []
  | _ => g

def ghostListed (lo : ListOut) (b : Bool) : Bool :=
  match lo with
  | .ok _ _ => true
  | .notFound => true
  | .pollStop => true
  | _ => b

structure ViewIs (p : Option Proc) (L : List KV) (wc : WC) : Prop where
  view : ∀ k, view wc k = (convSeq p [] L).foldl applyKV emptyView k
  pst : wc.pst = convState p [] L

theorem ViewIs.same {p : Option Proc} {L : List KV} {wc w : WC} (h : ViewIs p L wc) (s : Same wc w) :
    ViewIs p L w :=
  ⟨fun k => (view_congr s.res s.old k).trans (h.view k), s.keeps.pst.trans h.pst⟩

/-- `resyncLoop` carrying the ghosts `g` (last successful List) and `b` (some List completed). -/
def resyncLoopG (fin : List KV × Nat) :
    Nat → WC → Bool → List ListOut → List WatchOut → Option (List KV) → Bool → Option (WC × Option (List KV) × Bool)
  | 0, _, _, _, _, _, _ => none
  | fuel + 1, wc, full, lists, watches, g, b =>
    let full := full || wc.rev = 0
    let lo := lists.headD (ListOut.ok fin.1 fin.2)
    let r : WC × Bool × Bool := if full then listStep wc lo else (wc, false, true)
    let g := if full then ghostList lo g else g
    let b := if full then ghostListed lo b else b
    let lists := if full then lists.tail else lists
    if full && lo.isPollStop then some (r.1, g, b)
    else if !r.2.2 then resyncLoopG fin fuel r.1 r.2.1 lists watches g b
    else
      let w := watchStep r.1 r.2.1 (watches.headD WatchOut.ok)
      if w.2.2 then some (w.1, g, b) else resyncLoopG fin fuel w.1 w.2.1 lists watches.tail g b

theorem resyncLoopG_proj (fin : List KV × Nat) :
    ∀ (fuel : Nat) (wc : WC) (full : Bool) (lists : List ListOut) (watches : List WatchOut)
      (g : Option (List KV)) (b : Bool),
      (resyncLoopG fin fuel wc full lists watches g b).map (·.1) = resyncLoop fin fuel wc full lists watches := by
  intro fuel wc full lists watches g b
  fun_induction resyncLoopG fin fuel wc full lists watches g b with
  | case1 => rfl
  | case2 fuel wc full0 lists watches g0 b0 full lo r g1 b1 hstop => rw [resyncLoop]; exact (if_pos hstop).symm
  | case3 fuel wc full0 lists0 watches g0 b0 full lo r g1 b1 lists hstop hgo ih =>
    rw [resyncLoop, ih]; exact ((if_neg hstop).trans (if_pos hgo)).symm
  | case4 fuel wc full0 lists watches g0 b0 full lo r g1 b1 hstop hgo w hdone =>
    rw [resyncLoop]; exact ((if_neg hstop).trans ((if_neg hgo).trans (if_pos hdone))).symm
  | case5 fuel wc full0 lists0 watches g0 b0 full lo r g1 b1 lists hstop hgo w hdone ih =>
    rw [resyncLoop, ih]; exact ((if_neg hstop).trans ((if_neg hgo).trans (if_neg hdone))).symm

theorem noNewInSync_handleConverted (wc : WC) (kv : KV) : NoNewInSync wc (wc.handleConverted kv) := by
  have hm : NoNewInSync wc (wc.markAsValid kv.key) := NoNewInSync.of_out (markAsValid_out _ _)
  rcases handleConverted_cases wc kv with ⟨_, e⟩ | ⟨u, wr⟩
  · rw [e]; exact hm
  · exact hm.trans (NoNewInSync.of_append wr.out fun c => Res.noConfusion (List.mem_singleton.mp c))

theorem noNewInSync_handleWatchListEvent (wc : WC) (kv : KV) : NoNewInSync wc (wc.handleWatchListEvent kv) := by
  have fold : ∀ (c : List KV) (w : WC), NoNewInSync w (c.foldl WC.handleConverted w) := fun c w =>
    List.foldlRecOn c _ (motive := fun w' : WC => NoNewInSync w w') (NoNewInSync.refl w)
      fun w' hb x _ => hb.trans (noNewInSync_handleConverted w' x)
  have h0 : NoNewInSync wc { wc with rev := kv.rev, errCount := 0, pst := (procRun wc.proc wc.pst kv).1 } :=
    NoNewInSync.of_out rfl
  have c : NoNewInSync wc (wc.converted kv) := h0.trans (fold _ _)
  rcases handleWatchListEvent_cases wc kv with e | e <;> rw [e]
  · exact c
  · exact c.trans (NoNewInSync.send _ (by simp))

theorem noNewInSync_eventLoop (evs : List Ev) (wc : WC) : NoNewInSync wc (eventLoop wc evs) := by
  obtain ⟨r, e, he⟩ := eventLoop_eq evs wc
  rw [he]
  exact (List.foldlRecOn (processed evs) _ (motive := fun w : WC => NoNewInSync wc w) (NoNewInSync.refl wc)
    fun w hb x _ => hb.trans (noNewInSync_handleWatchListEvent w x)).trans (NoNewInSync.of_out rfl)

theorem noNewInSync_sendDels (wc : WC) : NoNewInSync wc wc.sendDels :=
  NoNewInSync.of_append (sendDels_fields _ wc).out fun c => by
    obtain ⟨k, _, e⟩ := List.mem_map.mp c
    cases e

theorem noNewInSync_sendDeletionsForAll (wc : WC) : NoNewInSync wc wc.sendDeletionsForAll :=
  (leaveWaitIfAny_told wc).noNew.trans ((noNewInSync_sendDels _).trans (NoNewInSync.of_out rfl))

theorem noNewInSync_onListOther (wc : WC) (elapsed : Bool) : NoNewInSync wc (wc.onListOther elapsed) := by
  obtain ⟨w0, s, e | e | e⟩ := onListOther_cases wc elapsed <;> rw [e]
  · exact NoNewInSync.of_out s.out
  · exact (NoNewInSync.of_out s.out).trans (NoNewInSync.send _ (by simp))
  · exact ((NoNewInSync.of_out s.out).trans (NoNewInSync.send _ (by simp))).trans (noNewInSync_sendDeletionsForAll _)

def ListedOrSilent (wc : WC) (b : Bool) : Prop := b = true ∨ Res.status stInSync ∉ wc.out

theorem ListedOrSilent.step {wc w : WC} {b : Bool} (h : ListedOrSilent wc b) (hn : NoNewInSync wc w) :
    ListedOrSilent w b := by
  rcases h with h | h
  · exact Or.inl h
  · right
    intro c
    rcases hn _ c with h1 | h1
    · exact h h1
    · exact h1 rfl

/-- What one List step `listStep wc lo` guarantees about its result `r`, on a cache between calls; `g` and `b` are the
ghosts before the step. -/
structure ListStepOK (m0 : View) (st0 : Nat) (wc : WC) (lo : ListOut) (g : Option (List KV)) (b : Bool)
    (r : WC × Bool × Bool) : Prop where
  good : Good m0 st0 r.1
  proc : r.1.proc = wc.proc
  silent : ListedOrSilent r.1 (ghostListed lo b)
  /-- going on to the Watch, or stopping to poll: the cache is awake and holds the fresh conversion of the snapshot
  just listed, which the ghost now names -/
  done : r.2.2 = true ∨ lo.isPollStop = true →
    r.1.status ≠ stWait ∧ ∃ L, ghostList lo g = some L ∧ ViewIs wc.proc L r.1
  /-- otherwise a full resync is owed -/
  owed : r.2.2 = false → r.2.1 = true

theorem listStep_spec {m0 : View} {st0 : Nat} {wc : WC} (h : Good m0 st0 wc) (lo : ListOut) (g : Option (List KV))
    {b : Bool} (hs : ListedOrSilent wc b) : ListStepOK m0 st0 wc lo g b (listStep wc lo) := by
  have hb := notifyConverter_good ((beginFull_told wc).good h)
  have hp : wc.beginFull.notifyConverter.proc = wc.proc := (beginFull_told wc).keeps.proc
  have hpst : wc.beginFull.notifyConverter.pst = [] := rfl
  have hs0 : ListedOrSilent wc.beginFull.notifyConverter b :=
    hs.step ((beginFull_told wc).noNew.trans (NoNewInSync.of_out rfl))
  unfold listStep
  simp only
  generalize wc.beginFull.notifyConverter = w0 at hb hp hpst hs0
  -- a successful List of `kvs`, whatever is then done to the connection fields
  have listed : ∀ (kvs : List KV) (w : WC), Same (w0.processList kvs) w →
      Good m0 st0 w ∧ w.proc = wc.proc ∧ w.status ≠ stWait ∧ ViewIs wc.proc kvs w := by
    intro kvs w e
    have l := processList_ok hb kvs
    have v : ViewIs wc.proc kvs (w0.processList kvs) :=
      ⟨fun k => by rw [l.view k, hp, hpst], by rw [l.pst, hp, hpst]⟩
    exact ⟨l.good.same e, e.keeps.proc.trans (l.mode.trans hp), by rw [e.status, l.status]; decide, v.same e⟩
  have never : ∀ {P : Prop}, false = true ∨ false = true → P := fun c => by rcases c with c | c <;> cases c
  cases lo with
  | notFound =>
    obtain ⟨f, fk⟩ := finishResync_ok hb.inv
    exact ⟨f.good.same ⟨rfl, rfl, rfl, rfl, ⟨rfl, rfl⟩⟩, fk.proc.trans hp, Or.inl rfl, never, fun _ => rfl⟩
  | expired => exact ⟨hb.same ⟨rfl, rfl, rfl, rfl, ⟨rfl, rfl⟩⟩, hp, hs0.step (NoNewInSync.of_out rfl), never, fun _ => rfl⟩
  | other elapsed =>
    obtain ⟨hg, hq⟩ := onListOther_ok hb elapsed
    exact ⟨hg, hq.proc.trans hp, hs0.step (noNewInSync_onListOther _ elapsed), never, fun _ => rfl⟩
  | ok kvs lrev =>
    simp only
    split
    · obtain ⟨g1, p1, _, _⟩ :=
        listed kvs { w0.processList kvs with listPolling := true, watchPolling := false, rev := 0 } ⟨rfl, rfl, rfl, rfl, ⟨rfl, rfl⟩⟩
      exact ⟨g1, p1, Or.inl rfl, never, fun _ => rfl⟩
    · obtain ⟨g1, p1, a1, v1⟩ := listed kvs { w0.processList kvs with rev := lrev, errCount := 0 } ⟨rfl, rfl, rfl, rfl, ⟨rfl, rfl⟩⟩
      exact ⟨g1, p1, Or.inl rfl, fun _ => ⟨a1, kvs, rfl, v1⟩, fun c => Bool.noConfusion c⟩
  | pollStop =>
    obtain ⟨g1, p1, a1, v1⟩ :=
      listed [] { w0.processList [] with listPolling := true, watchPolling := false, rev := 0 } ⟨rfl, rfl, rfl, rfl, ⟨rfl, rfl⟩⟩
    exact ⟨g1, p1, Or.inl rfl, fun _ => ⟨a1, [], rfl, v1⟩, fun _ => rfl⟩

/-- With nothing listed yet the call resumed the watch of `wc0`, hence `rev ≠ 0`. -/
def Holds (wc0 : WC) (g : Option (List KV)) (wc : WC) : Prop :=
  match g with
  | some L => ViewIs wc0.proc L wc
  | none => wc.res = wc0.res ∧ Keeps wc0 wc ∧ wc0.rev ≠ 0

theorem Holds.same {wc0 w w' : WC} {g : Option (List KV)} (h : Holds wc0 g w) (s : Same w w') : Holds wc0 g w' := by
  cases g with
  | some L => exact ViewIs.same h s
  | none =>
    obtain ⟨ur, uk, r⟩ := h
    exact ⟨s.res.trans ur, uk.trans s.keeps, r⟩

/-- What is known at the head of an iteration of `resyncLoopG` started on `wc0`: the cache invariant; a waiting
cache still owes a full resync; and unless a full resync is owed anyway, the cache holds what the ghost `g` says:
the fresh conversion of the last listed snapshot, or (nothing listed yet) what `wc0` held. -/
structure LoopInv (m0 : View) (st0 : Nat) (wc0 wc : WC) (full : Bool)
    (g : Option (List KV)) (b : Bool) : Prop where
  good : Good m0 st0 wc
  proc : wc.proc = wc0.proc
  owed : wc.status = stWait → full = true ∨ wc.rev = 0
  last : full = true ∨ wc.rev = 0 ∨ Holds wc0 g wc
  silent : ListedOrSilent wc b

/-- What holds when the loop is left (watch created, or stopping to poll). -/
structure LoopPost (m0 : View) (st0 : Nat) (wc0 w : WC) (g : Option (List KV)) (b : Bool) : Prop where
  good : Good m0 st0 w
  proc : w.proc = wc0.proc
  awake : w.status ≠ stWait
  last : Holds wc0 g w
  silent : ListedOrSilent w b

theorem LoopPost.inv {m0 : View} {st0 : Nat} {wc0 w : WC} {g : Option (List KV)} {b : Bool}
    (h : LoopPost m0 st0 wc0 w g b) (full : Bool) : LoopInv m0 st0 wc0 w full g b :=
  ⟨h.good, h.proc, fun c => absurd c h.awake, Or.inr (Or.inr h.last), h.silent⟩

theorem listPart {m0 : View} {st0 : Nat} {wc0 wc : WC} {full0 : Bool} {g : Option (List KV)}
    {b : Bool} (h : LoopInv m0 st0 wc0 wc full0 g b) (full : Bool) (lo : ListOut)
    (hf : full = (full0 || decide (wc.rev = 0))) :
    let r := if full = true then listStep wc lo else (wc, false, true)
    let g1 := if full = true then ghostList lo g else g
    let b1 := if full = true then ghostListed lo b else b
    (r.2.2 = true ∨ (full && lo.isPollStop) = true → LoopPost m0 st0 wc0 r.1 g1 b1) ∧
    (r.2.2 = false → LoopInv m0 st0 wc0 r.1 r.2.1 g1 b1) := by
  cases full with
  | false =>
    have hnf : ¬(full0 = true ∨ wc.rev = 0) := fun c => by
      rcases c with c | c <;> rw [c] at hf <;> simp at hf
    exact ⟨fun _ => ⟨h.good, h.proc, fun c => hnf (h.owed c), (h.last.resolve_left (hnf ∘ Or.inl)).resolve_left
      (hnf ∘ Or.inr), h.silent⟩, fun c => Bool.noConfusion c⟩
  | true =>
    simp only [if_true, Bool.true_and]
    have ls := listStep_spec h.good lo g h.silent
    refine ⟨fun hgo => ?_, fun c => ⟨ls.good, ls.proc.trans h.proc, fun _ => Or.inl (ls.owed c), Or.inl (ls.owed c),
      ls.silent⟩⟩
    obtain ⟨ha, L, hL, hv⟩ := ls.done hgo
    exact ⟨ls.good, ls.proc.trans h.proc, ha, by rw [hL]; exact (h.proc ▸ hv : ViewIs wc0.proc L _), ls.silent⟩

theorem LoopPost.watchStep {m0 : View} {st0 : Nat} {wc0 w : WC} {g : Option (List KV)} {b : Bool}
    (h : LoopPost m0 st0 wc0 w g b) (full : Bool) (wo : WatchOut) :
    LoopPost m0 st0 wc0 (watchStep w full wo).1 g b :=
  have s := watchStep_same w full wo
  ⟨h.good.same s, s.keeps.proc.trans h.proc, s.status ▸ h.awake, h.last.same s, h.silent.step (NoNewInSync.of_out s.out)⟩

/-- The whole `maybeResyncAndCreateWatcher`, for every scripted sequence of failures. -/
theorem resyncLoopG_post {m0 : View} {st0 : Nat} {wc0 : WC} (fin : List KV × Nat)
    (fuel : Nat) (wc : WC) (full : Bool) (lists : List ListOut) (watches : List WatchOut)
    (g : Option (List KV)) (b : Bool) (h : LoopInv m0 st0 wc0 wc full g b)
    (r : WC × Option (List KV) × Bool) (hr : resyncLoopG fin fuel wc full lists watches g b = some r) :
    LoopPost m0 st0 wc0 r.1 r.2.1 r.2.2 := by
  fun_induction resyncLoopG fin fuel wc full lists watches g b with
  | case1 => cases hr
  | case2 fuel wc full0 lists watches g0 b0 full lo r1 g1 b1 hstop =>
    cases hr; exact (listPart h full lo rfl).1 (Or.inr hstop)
  | case3 fuel wc full0 lists0 watches g0 b0 full lo r1 g1 b1 lists hstop hgo ih =>
    exact ih ((listPart h full lo rfl).2 (by simpa using hgo)) hr
  | case4 fuel wc full0 lists watches g0 b0 full lo r1 g1 b1 hstop hgo w hdone =>
    cases hr; exact ((listPart h full lo rfl).1 (Or.inl (by simpa using hgo))).watchStep _ _
  | case5 fuel wc full0 lists0 watches g0 b0 full lo r1 g1 b1 lists hstop hgo w hdone ih =>
    exact ih ((((listPart h full lo rfl).1 (Or.inl (by simpa using hgo))).watchStep _ _).inv _) hr

theorem resyncLoopG_of_some {fin : List KV × Nat} {fuel : Nat} {wc : WC} {full : Bool} {lists : List ListOut}
    {watches : List WatchOut} {w : WC} (g : Option (List KV)) (b : Bool)
    (hr : resyncLoop fin fuel wc full lists watches = some w) :
    ∃ g1 b1, resyncLoopG fin fuel wc full lists watches g b = some (w, g1, b1) := by
  rw [← resyncLoopG_proj fin fuel wc full lists watches g b] at hr
  obtain ⟨x, hx, rfl⟩ := Option.map_eq_some_iff.mp hr
  exact ⟨x.2.1, x.2.2, hx⟩

theorem LoopInv.start {m0 : View} {st0 : Nat} {wc : WC} (hg : Good m0 st0 wc) {full : Bool}
    (ho : wc.status = stWait → full = true ∨ wc.rev = 0) {b : Bool} (hs : ListedOrSilent wc b) :
    LoopInv m0 st0 wc wc full none b :=
  ⟨hg, rfl, ho, if e : wc.rev = 0 then Or.inr (Or.inl e) else Or.inr (Or.inr ⟨rfl, Keeps.refl wc, e⟩), hs⟩

theorem resyncLoop_ok {m0 : View} {st0 : Nat} (fin : List KV × Nat) :
    ∀ (fuel : Nat) (wc : WC) (full : Bool) (lists : List ListOut) (watches : List WatchOut),
      Good m0 st0 wc → (wc.status = stWait → full = true ∨ wc.rev = 0) →
      ∀ w, resyncLoop fin fuel wc full lists watches = some w → Good m0 st0 w ∧ w.status ≠ stWait := by
  intro fuel wc full lists watches hg ho w hw
  obtain ⟨g1, b1, hr⟩ := resyncLoopG_of_some none true hw
  have hp := resyncLoopG_post fin fuel wc full lists watches none true (LoopInv.start hg ho (Or.inl rfl)) _ hr
  exact ⟨hp.good, hp.awake⟩

end CalicoVerif.C26
