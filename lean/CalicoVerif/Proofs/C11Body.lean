import CalicoVerif.Proofs.C11RuleGuard
import CalicoVerif.Proofs.C11Log
/-!
C11 — rule → policy → tier composition for the events the builder model
actually produces (`writeRule`, `writePolicyRules`, `writePolicies`,
`writeTiers`, `writeProfiles`): each block continues at the label that stands
for what the REFERENCE semantics (`evalRules`/`evalPolicies`/`evalTiers`/
`evalProfiles` of `Model/C11Ref`) decides, for API-valid rules (`RuleOK`) whose action
is allow/deny/pass/next-tier/log.
-/
namespace CalicoVerif.C11

/-- `none`: control goes on to the next rule; a `log` rule only sets a flag. -/
def ruleTarget (env : Env) (p : Pkt) (destLeg : Leg) (r : Rule) (a : Label) : Option Label :=
  match filterRule env.c.v6 r with
  | none => none
  | some fr => if ruleMatch env p destLeg fr then (if a = .log then none else some a) else none

/-- Control arrives at `a` whether or not the hit table is full. -/
theorem decides_record (env : Env) (st : List Byte) (id : Nat) (a : Label) :
    Decides env st (recordRuleID id a ++ [jump a]) (some a) :=
  decides_iff.2 ((record_tri env st id a).seq
    ((decides_iff.1 (Decides.jump env st a)).conseq (fun _ h => h.2) fun _ _ h => h)
    fun _ _ h => ⟨List.not_mem_nil, h.1.resolve_left nofun, h.2⟩)

theorem ruleEnd_decides (env : Env) (st : List Byte) (id : Nat) (a : Label) :
    Decides env st (ruleEndEvs env.c id a) (if a = .log then none else some a) := by
  unfold ruleEndEvs
  by_cases h1 : a = .log
  · rw [if_pos h1, if_pos h1]; exact decides_log env st
  · rw [if_neg h1, if_neg h1]
    by_cases h2 : env.c.record = true
    · rw [if_pos h2]; exact decides_record env st id a
    · rw [if_neg h2]; exact Decides.jump env st a

theorem writeRule_block {env : Env} {st : List Byte} (hc : SetCtx env st) (rid : Nat) (r : Rule) (a : Label) (leg : Leg)
    (hna : a.isRule = false) (hok : RuleOK r) :
    DecidesIn env st Label.isRule (flat (writeRule env.c rid r a leg).1) (ruleTarget env (pktOfD st) leg r a) := by
  rw [writeRule_flat env.c rid r a leg]
  unfold ruleTarget
  cases hf : filterRule env.c.v6 r with
  | none => exact DecidesIn.nil
  | some fr =>
    obtain ⟨g, hl⟩ := ruleMatches_guard env st hc rid fr leg (hok.filter hf)
    have hTl := labelsOf_ruleEndEvs env.c r.matchID a
    have hne : a ≠ .ruleNoMatch rid := by intro e; rw [e] at hna; cases hna
    rw [endOfRule_split]
    refine ⟨g.andThen (ruleEnd_decides env st r.matchID a) (by rw [hTl]; exact List.not_mem_nil) ?_, ?_⟩
    · split
      · nofun
      · exact fun e => hne (Option.some.inj e)
    · intro l hm
      rw [labelsOf_append, labelsOf_append, hTl, List.mem_append] at hm
      rcases hm with h | h
      · have := hl l h
        cases l <;> first | rfl | cases this
      · cases List.mem_singleton.mp h; rfl

/-- The implicit end-of-tier / end-of-profiles rule has no match criteria. -/
theorem RuleOK.empty (id : Nat) : RuleOK { action := "", matchID := id } :=
  ⟨nofun, nofun, nofun, nofun⟩

theorem emptyRule_block {env : Env} {st : List Byte} (hc : SetCtx env st) (rid id : Nat) (a : Label) (leg : Leg)
    (hna : a.isRule = false) (hl : a ≠ .log) :
    DecidesIn env st Label.isRule (flat (writeRule env.c rid { action := "", matchID := id } a leg).1) (some a) := by
  refine (writeRule_block hc rid _ a leg hna (RuleOK.empty id)).congr ?_
  simp [ruleTarget, filterRule, filterNets, ruleMatch, icmpIs, hl]

def decLabel (al passL : Label) : Dec → Option Label
  | .allow => some al
  | .deny => some .deny
  | .pass => some passL
  | .noMatch => none

structure LabelMap (lab : String → Label) (al passL : Label) : Prop where
  allow : ∀ a, actOf a = .allow → lab a = al
  deny : ∀ a, actOf a = .deny → lab a = .deny
  pass : ∀ a, actOf a = .pass → lab a = passL
  log : ∀ a, actOf a = .log → lab a = .log
  allowOK : al.isRule = false ∧ al ≠ .log
  passOK : passL.isRule = false ∧ passL ≠ .log

theorem LabelMap.decLabel_not_rule {lab : String → Label} {al passL : Label} (h : LabelMap lab al passL)
    {d : Dec} {l : Label} (e : decLabel al passL d = some l) : l.isRule = false := by
  cases d <;> cases e
  · exact h.allowOK.1
  · rfl
  · exact h.passOK.1

theorem ruleTarget_eq_some {env : Env} {p : Pkt} {leg : Leg} {r : Rule} {a l : Label}
    (h : ruleTarget env p leg r a = some l) : l = a := by
  unfold ruleTarget at h
  split at h
  · cases h
  · split at h
    · split at h
      · cases h
      · cases h; rfl
    · cases h

theorem LabelMap.rule {lab : String → Label} {al passL : Label} (h : LabelMap lab al passL)
    (env : Env) (p : Pkt) (leg : Leg) (r : Rule) (rs : List Rule) (hr : r.tierAction = true) :
    (lab r.action).isRule = false ∧
    (ruleTarget env p leg r (lab r.action)).or (decLabel al passL (evalRules env p leg rs)) =
      decLabel al passL (evalRules env p leg (r :: rs)) := by
  -- `fin` is the common ending of the four actions.  `a`: the action label; `f`: what a match of this
  -- rule makes of the verdict of the rules after it
  have fin : ∀ (a : Label) (f : Dec → Dec), lab r.action = a → a.isRule = false →
      (∀ d, (if a = .log then none else some a).or (decLabel al passL d) = decLabel al passL (f d)) →
      (∀ fr, filterRule env.c.v6 r = some fr → ruleMatch env p leg fr = true →
        evalRules env p leg (r :: rs) = f (evalRules env p leg rs)) →
      (lab r.action).isRule = false ∧
      (ruleTarget env p leg r (lab r.action)).or (decLabel al passL (evalRules env p leg rs)) =
        decLabel al passL (evalRules env p leg (r :: rs)) := by
    intro a f hla ha hor hact
    rw [hla]
    refine ⟨ha, ?_⟩
    cases hf : filterRule env.c.v6 r with
    | none => simp only [ruleTarget, evalRules, hf]; rfl
    | some fr =>
      cases hm : ruleMatch env p leg fr with
      | false => simp only [ruleTarget, evalRules, hf, hm]; rfl
      | true =>
        rw [hact fr hf hm, ← hor]
        simp only [ruleTarget, hf, hm, if_true]
  have E : ∀ fr, filterRule env.c.v6 r = some fr → ruleMatch env p leg fr = true →
      evalRules env p leg (r :: rs) = (match actOf r.action with
        | .allow => .allow | .deny => .deny | .pass => .pass
        | .log => evalRules env p leg rs | .invalid => .deny) := by
    intro fr hf hm; simp only [evalRules, hf, hm, if_true]; rfl
  unfold Rule.tierAction at hr
  cases ha : actOf r.action with
  | allow =>
    exact fin al (fun _ => .allow) (h.allow _ ha) h.allowOK.1 (fun _ => by rw [if_neg h.allowOK.2]; rfl)
      fun fr hf hm => by rw [E fr hf hm, ha]
  | deny => exact fin .deny (fun _ => .deny) (h.deny _ ha) rfl (fun _ => rfl) fun fr hf hm => by rw [E fr hf hm, ha]
  | pass =>
    exact fin passL (fun _ => .pass) (h.pass _ ha) h.passOK.1 (fun _ => by rw [if_neg h.passOK.2]; rfl)
      fun fr hf hm => by rw [E fr hf hm, ha]
  | log => exact fin .log (fun d => d) (h.log _ ha) rfl (fun _ => rfl) fun fr hf hm => by rw [E fr hf hm, ha]
  | invalid => rw [ha] at hr; cases hr

theorem rules_block {env : Env} {st : List Byte} (hc : SetCtx env st) {lab : String → Label} {al passL : Label}
    (hlab : LabelMap lab al passL) (leg : Leg) :
    ∀ (rs : List Rule) (rid : Nat), (∀ r ∈ rs, r.tierAction = true ∧ RuleOK r) →
      DecidesIn env st Label.isRule (flat (writePolicyRules env.c lab leg rs rid).1)
        (decLabel al passL (evalRules env (pktOfD st) leg rs)) := by
  intro rs
  induction rs with
  | nil => intro _ _; exact DecidesIn.nil
  | cons r rs ih =>
    intro rid h
    obtain ⟨hr, hg⟩ := h r List.mem_cons_self
    obtain ⟨hna, htgt⟩ := hlab.rule env (pktOfD st) leg r rs hr
    have hd := writeRule_block hc rid r (lab r.action) leg hna hg
    have := hd.seq (ih (writeRule env.c rid r (lab r.action) leg).2 fun r' hr' => h r' (List.mem_cons_of_mem _ hr'))
      fun l hl => ruleTarget_eq_some hl ▸ hna
    rw [htgt] at this
    simpa only [writePolicyRules, flat_append] using this

theorem policies_block {env : Env} {st : List Byte} (hc : SetCtx env st) {lab : String → Label} {al passL : Label}
    (hlab : LabelMap lab al passL) (leg : Leg) :
    ∀ (ps : List Policy) (rid : Nat), (∀ pol ∈ ps, ∀ r ∈ pol.rules, r.tierAction = true ∧ RuleOK r) →
      DecidesIn env st Label.isRule (flat (writePolicies env.c lab leg ps rid).1)
        (decLabel al passL (evalPolicies env (pktOfD st) leg ps)) := by
  intro ps
  induction ps with
  | nil => intro _ _; exact DecidesIn.nil
  | cons pol ps ih =>
    intro rid h
    have := (rules_block hc hlab leg pol.rules rid (h pol List.mem_cons_self)).seq
      (ih (writePolicyRules env.c lab leg pol.rules rid).2 fun pol' hp' => h pol' (List.mem_cons_of_mem _ hp'))
      fun l hl => hlab.decLabel_not_rule hl
    have e : (decLabel al passL (evalRules env (pktOfD st) leg pol.rules)).or
        (decLabel al passL (evalPolicies env (pktOfD st) leg ps)) =
        decLabel al passL (evalPolicies env (pktOfD st) leg (pol :: ps)) := by
      simp only [evalPolicies]
      cases evalRules env (pktOfD st) leg pol.rules <;> rfl
    rw [e] at this
    simpa only [writePolicies, flat_append] using this

def TiersGood (ts : List Tier) : Prop :=
  ∀ t ∈ ts, ∀ pol ∈ t.policies, ∀ rule ∈ pol.rules, rule.tierAction = true ∧ RuleOK rule

def ProfsGood (ps : List Policy) : Prop :=
  ∀ pol ∈ ps, ∀ rule ∈ pol.rules, rule.tierAction = true ∧ RuleOK rule

def isAllowLabel (l : Label) : Prop := l = .allow ∨ l = .allowedByHostPolicy

theorem isAllowLabel.props {al : Label} (hal : isAllowLabel al) :
    al.isBody = false ∧ al.isRule = false ∧ al ≠ .log := by
  rcases hal with rfl | rfl <;> exact ⟨rfl, rfl, nofun⟩

theorem tierLabelMap {al : Label} (hal : isAllowLabel al) (tid : Nat) :
    LabelMap (tierActionLabel al tid) al (.endOfTier tid) where
  allow a e := by rw [tierActionLabel_actOf, e]
  deny a e := by rw [tierActionLabel_actOf, e]
  pass a e := by rw [tierActionLabel_actOf, e]
  log a e := by rw [tierActionLabel_actOf, e]
  allowOK := hal.props.2
  passOK := ⟨rfl, nofun⟩

theorem profileLabelMap {al : Label} (hal : isAllowLabel al) : LabelMap (profileActionLabel al) al .deny where
  allow a e := by rw [profileActionLabel_actOf, e]
  deny a e := by rw [profileActionLabel_actOf, e]
  pass a e := by rw [profileActionLabel_actOf, e]
  log a e := by rw [profileActionLabel_actOf, e]
  allowOK := hal.props.2
  passOK := ⟨rfl, nofun⟩

def tiersDec (al : Label) : Dec → Option Label
  | .allow => some al
  | .deny => some .deny
  | _ => none

/-- A `pass` in a profile denies, as the builder does. -/
def profDec (al : Label) : Dec → Option Label
  | .allow => some al
  | _ => some .deny

theorem tiers_block (env : Env) (st : List Byte) (hc : SetCtx env st) (leg : Leg) (al : Label)
    (ts : List Tier) (rid tid : Nat)
    (hal : isAllowLabel al) (hts : TiersGood ts) :
    DecidesIn env st Label.isBody (flat (writeTiers env.c leg al ts rid tid).1)
      (tiersDec al (evalTiers env (pktOfD st) leg ts)) := by
  induction ts generalizing rid tid with
  | nil => exact DecidesIn.nil
  | cons t ts ih =>
    have hne : al ≠ .endOfTier tid := by rcases hal with rfl | rfl <;> nofun
    have hel : (tierEndLabel t tid).isRule = false ∧ tierEndLabel t tid ≠ .log := by
      unfold tierEndLabel; cases t.endAction <;> exact ⟨rfl, nofun⟩
    have hP := policies_block hc (tierLabelMap hal tid) leg t.policies rid (hts t List.mem_cons_self)
    have hE := emptyRule_block hc
      (writePolicies env.c (tierActionLabel al tid) leg t.policies rid).2 t.endRuleID _ leg hel.1 hel.2
    have hPEL := ((hP.seq hE fun l hl => (tierLabelMap hal tid).decLabel_not_rule hl).mono
      Label.isBody_of_isRule).label (.endOfTier tid) rfl
    have hrest := ih
      (writeRule env.c (writePolicies env.c (tierActionLabel al tid) leg t.policies rid).2
        { action := "", matchID := t.endRuleID } (tierEndLabel t tid) leg).2 (tid + 1)
      fun t' ht' => hts t' (List.mem_cons_of_mem _ ht')
    rw [writeTiers_cons_flat]
    -- what the tier itself decides, with the jumps to its own end label resolved
    have htier : (if (decLabel al (.endOfTier tid) (evalPolicies env (pktOfD st) leg t.policies)).or (some (tierEndLabel t tid)) =
          some (.endOfTier tid) then none
        else (decLabel al (.endOfTier tid) (evalPolicies env (pktOfD st) leg t.policies)).or (some (tierEndLabel t tid))) =
        tiersDec al (match evalPolicies env (pktOfD st) leg t.policies with
          | .noMatch => (match t.endAction with | .pass => .pass | _ => .deny)
          | d => d) := by
      unfold tierEndLabel
      cases evalPolicies env (pktOfD st) leg t.policies <;> cases t.endAction <;> simp [decLabel, tiersDec, hne]
    rw [htier] at hPEL
    refine (hPEL.seq hrest ?_).congr ?_
    · intro l hl
      generalize (match evalPolicies env (pktOfD st) leg t.policies with
          | .noMatch => (match t.endAction with | .pass => Dec.pass | _ => .deny)
          | d => d) = d at hl
      cases d <;> cases hl
      · exact hal.props.1
      · rfl
    · simp only [evalTiers]
      cases evalPolicies env (pktOfD st) leg t.policies <;> cases t.endAction <;> rfl

theorem profDec_eval (env : Env) (p : Pkt) (al : Label) (ps : List Policy) :
    (decLabel al .deny (evalPolicies env p .dest ps)).or (some .deny) = profDec al (evalProfiles true env p ps) := by
  induction ps with
  | nil => rfl
  | cons pol ps ih =>
    simp only [evalPolicies, evalProfiles]
    cases evalRules env p .dest pol.rules <;> first | rfl | exact ih

theorem profiles_block (env : Env) (st : List Byte) (hc : SetCtx env st) (al : Label)
    (ps : List Policy) (noMatchID rid : Nat)
    (hal : isAllowLabel al) (hps : ProfsGood ps) :
    DecidesIn env st Label.isBody (flat (writeProfiles env.c al ps noMatchID rid).1)
      (profDec al (evalProfiles true env (pktOfD st) ps)) := by
  have hP := policies_block hc (profileLabelMap hal) .dest ps rid hps
  have hE := emptyRule_block hc (writePolicies env.c (profileActionLabel al) .dest ps rid).2
    noMatchID .deny .dest rfl nofun
  have := (hP.seq hE fun l hl => (profileLabelMap hal).decLabel_not_rule hl).mono Label.isBody_of_isRule
  rw [profDec_eval] at this
  simpa only [writeProfiles, flat_append] using this

end CalicoVerif.C11
