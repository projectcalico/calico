import CalicoVerif.Proofs.C11Body
/-!
C11 — the policy part of the program (`hostPart` ++ `workloadPart` of the
builder model) decides the reference verdict: it continues at `allow`, `deny`
or `xdp_pass` of the footer.
-/
namespace CalicoVerif.C11

theorem Decides.branch {env : Env} {st : List Byte} {B1 X Y : List Ev} {c : Bool} {l : Label} {tX tY : Option Label}
    (h1 : Decides env st B1 (if c then some l else none)) (hX : Decides env st X tX) (hY : Decides env st Y tY)
    (hlX : l ∉ labelsOf X) (hXY : ∀ l', tX = some l' → l' ≠ l ∧ l' ∉ labelsOf Y) :
    Decides env st (B1 ++ X ++ [.label l] ++ Y) (if c then tY else (tX.or tY)) := by
  -- what `B1 ++ X` decides with `l` defined behind it: nothing if `c`, else what `X` decides
  have hne : ∀ l', tX = some l' → ¬ (tX = some l) := fun l' e e' => (hXY l' e).1 (Option.some.inj (e.symm.trans e'))
  have d : Decides env st (B1 ++ X ++ [.label l]) (if c then none else tX) :=
    ((h1.seq hX fun l' e => by cases c <;> cases e; exact hlX).label l).congr (by
      cases c
      · cases tX with
        | none => rfl
        | some l' => exact if_neg (hne l' rfl)
      · exact if_pos rfl)
  refine (d.seq hY fun l' e => ?_).congr (by cases c <;> rfl)
  cases c
  · exact (hXY l' e).2
  · cases e

/-- `writeJumpIfToOrFromHost`. -/
theorem decides_tofh (env : Env) (st : List Byte) (l : Label) :
    Decides env st (jumpIfToOrFromHost l) (if toOrFromHost (pktOfD st) then some l else none) :=
  Decides.line_then (B := [_, _]) (J := [_]) fun m hI =>
    have hc : cond (opJumpNEImm64 / 16) (BitVec.ofNat 64 (fieldN m.st 368 8) &&& sext32 12) (sext32 0) =
        some (toOrFromHost (pktOfD st)) := by
      have h12 : sext32 12 = 12#64 := by decide
      rw [h12, hI.sim.flags]
      simp only [cond, opJumpNEImm64, toOrFromHost, pktOfD, sext32]
      rfl
    ⟨_, (Line.ldxState opLoadReg64 1 368 8 LdOp.d (by omega) (by omega)).cons <| Line.andImm64 1 12 (by omega) rfl,
      Exits.jcond64 opJumpNEImm64 1 0 l (Or.inr (Or.inl rfl)) (fun _ h => h.reg _ _ rfl) hc⟩

/-- The hypotheses of the whole-program theorems on a configuration. -/
structure ProgOK (env : Env) (st : List Byte) (r : Rules) : Prop where
  ctx : SetCtx env st
  gT : TiersGood r.tiers
  gHP : TiersGood r.hostPreDnatTiers
  gHF : TiersGood r.hostForwardTiers
  gHN : TiersGood r.hostNormalTiers
  gP : ProfsGood r.profiles
  gHPR : ProfsGood r.hostProfiles

def vlabel : Verdict → Label
  | .allow => .allow
  | .deny => .deny
  | .xdpPass => .xdpPass

theorem vOf_vlabel (V : Verdict) : vOf (vlabel V) = some V := by cases V <;> rfl

theorem tiersDec_mem {al : Label} {d : Dec} {l : Label} (h : tiersDec al d = some l) : l = al ∨ l = .deny := by
  cases d <;> cases h <;> simp

theorem profDec_mem {al : Label} {d : Dec} {l : Label} (h : profDec al d = some l) : l = al ∨ l = .deny := by
  cases d <;> simp [profDec] at h <;> simp [h]

theorem tiersDec_notBody {d : Dec} {l : Label} (h : tiersDec AHP d = some l) : l.isBody = false ∧ l ≠ TOFH := by
  rcases tiersDec_mem h with rfl | rfl <;> exact ⟨rfl, nofun⟩

theorem decides_workload (env : Env) (st : List Byte) (r : Rules) (hok : ProgOK env st r) (rid tid : Nat) :
    DecidesIn env st Label.isBody (flat (workloadPart env.c r rid tid))
      (some (vlabel (workloadVerdict env r (pktOfD st)))) := by
  unfold workloadVerdict
  by_cases hh : r.forHostInterface = true
  · simp only [workloadPart, hh, if_true, flat]
    exact DecidesIn.jump .allow
  · have hh' : r.forHostInterface = false := by simpa using hh
    simp only [hh', Bool.false_eq_true, if_false]
    have dT := tiers_block env st hok.ctx .dest .allow r.tiers rid tid (Or.inl rfl) hok.gT
    have dP := profiles_block env st hok.ctx .allow r.profiles r.noProfileMatchID
      (writeTiers env.c .dest .allow r.tiers rid tid).2.1 (Or.inl rfl) hok.gP
    rw [workloadPart_flat env.c r rid tid hh']
    refine (dT.seq dP fun l hl => ?_).congr ?_
    · rcases tiersDec_mem hl with rfl | rfl <;> rfl
    · cases evalTiers env (pktOfD st) .dest r.tiers <;> first | rfl |
        (cases evalProfiles true env (pktOfD st) r.profiles <;> rfl)

/-- What the host-policy part decides: `none` = allowed by host policy (go on with
workload policy), else the footer label to continue at.  Inside the part "allowed" is a jump
to the `allowed_by_host_policy` label at its end. -/
def hostTarget (env : Env) (r : Rules) (p : Pkt) : Option Label :=
  let t : Option Label :=
    if r.forXDP then
      if r.suppressNormalHostPolicy then none
      else (tiersDec AHP (evalTiers env p .destPreNAT r.hostNormalTiers)).or (some .xdpPass)
    else
      (tiersDec AHP (evalTiers env p .destPreNAT r.hostPreDnatTiers)).or
        (if toOrFromHost p then
          (if r.suppressNormalHostPolicy then some AHP
           else (tiersDec AHP (evalTiers env p .dest r.hostNormalTiers)).or
             (profDec AHP (evalProfiles true env p r.hostProfiles)))
         else (tiersDec AHP (evalTiers env p .dest r.hostForwardTiers)).or (some AHP))
  if t = some AHP then none else t

theorem decides_host (env : Env) (st : List Byte) (r : Rules) (hok : ProgOK env st r) :
    DecidesIn env st Label.bodyish (flat (hostPart env.c r).1) (hostTarget env r (pktOfD st)) := by
  have hBH : ∀ l : Label, l.isBody = true → l.bodyish = true := fun l h => by simp [Label.bodyish, h]
  have hT := fun leg ts rid tid => tiers_block env st hok.ctx leg AHP ts rid tid (Or.inr rfl)
  unfold hostTarget
  by_cases hx : r.forXDP = true
  · by_cases hs : r.suppressNormalHostPolicy = true
    · -- XDP, normal host policy suppressed: the part is the end label alone
      rw [hostPart_xdp_sup_flat env.c r hx hs]
      simp only [hx, hs, if_true]
      exact (DecidesIn.nil (P := Label.bodyish)).label AHP rfl
    · -- XDP: the normal host tiers, then `xdp_pass`
      have hs' : r.suppressNormalHostPolicy = false := by simpa using hs
      rw [hostPart_xdp_flat env.c r hx hs']
      simp only [hx, hs', if_true, Bool.false_eq_true, if_false]
      exact ((((hT .destPreNAT r.hostNormalTiers 0 0 hok.gHN).seq (DecidesIn.jump .xdpPass) fun l h => (tiersDec_notBody h).1).mono
        hBH).cons_label TOFH rfl).label AHP rfl
  · -- TC: `d1` the pre-DNAT tiers, `dX` the apply-on-forward tiers followed by the jump to the end label
    have hx' : r.forXDP = false := by simpa using hx
    have d1 := hT .destPreNAT r.hostPreDnatTiers 0 0 hok.gHP
    have dX := (hT .dest r.hostForwardTiers (writeTiers env.c .destPreNAT AHP r.hostPreDnatTiers 0 0).2.1
      (writeTiers env.c .destPreNAT AHP r.hostPreDnatTiers 0 0).2.2 hok.gHF).seq (DecidesIn.jump AHP)
        fun l h => (tiersDec_notBody h).1
    by_cases hs : r.suppressNormalHostPolicy = true
    · -- normal host policy suppressed: packets to or from the host skip `dX`
      rw [hostPart_sup_flat env.c r hx' hs rfl]
      simp only [hx', hs, Bool.false_eq_true, if_false, if_true]
      have d2 : DecidesIn env st Label.isBody _ _ := DecidesIn.noLabels (decides_tofh env st AHP) rfl
      refine (((d1.seq (d2.seq dX fun l hl => ?_) fun l h => (tiersDec_notBody h).1).mono hBH).label AHP rfl).congr ?_
      · split at hl <;> cases hl; rfl
      · cases toOrFromHost (pktOfD st) <;> rfl
    · -- full: `dX` and `dY` (normal host tiers, then host profiles) are the two arms `X`, `Y` of
      -- `Decides.branch` on "to or from host"
      have hs' : r.suppressNormalHostPolicy = false := by simpa using hs
      let w1 := writeTiers env.c .destPreNAT AHP r.hostPreDnatTiers 0 0
      let w3 := writeTiers env.c .dest AHP r.hostForwardTiers w1.2.1 w1.2.2
      let w5 := writeTiers env.c .dest AHP r.hostNormalTiers w3.2.1 w3.2.2
      rw [hostPart_nosup_flat env.c r hx' hs' (w1 := w1) (w3 := w3) (w5 := w5) rfl rfl rfl]
      simp only [hx', hs', Bool.false_eq_true, if_false]
      have dY := (hT .dest r.hostNormalTiers w3.2.1 w3.2.2 hok.gHN).seq (profiles_block env st hok.ctx
        AHP r.hostProfiles r.noProfileMatchID w5.2.1 (Or.inr rfl) hok.gHPR) fun l h => (tiersDec_notBody h).1
      -- the section label is defined between the two branches; it is not a jump target either
      let Q : Label → Bool := fun l => l.isBody || l == TOFH
      have hBQ : ∀ l : Label, l.isBody = true → Q l = true := fun l h => by simp [Q, h]
      have hXt : ∀ l, (tiersDec AHP (evalTiers env (pktOfD st) .dest r.hostForwardTiers)).or (some AHP) = some l →
          l.isBody = false ∧ l ≠ TOFH := fun l hl => by
        cases hd : tiersDec AHP (evalTiers env (pktOfD st) .dest r.hostForwardTiers) with
        | none => rw [hd] at hl; cases hl; exact ⟨rfl, nofun⟩
        | some l' => rw [hd] at hl; cases hl; exact tiersDec_notBody hd
      have dA1 : DecidesIn env st Q _ _ :=
        ⟨Decides.branch (decides_tofh env st TOFH) dX.1 dY.1
          (fun hm => Bool.noConfusion (dX.2 _ hm))
          (fun l' hl' => ⟨(hXt l' hl').2, fun hm => Bool.noConfusion ((dY.2 _ hm).symm.trans (hXt l' hl').1)⟩),
        fun l hm => by
          simp only [labelsOf_append, List.mem_append] at hm
          rcases hm with ((h | h) | h) | h
          · cases h
          · exact hBQ l (dX.2 l (mem_labelsOf_append.2 h))
          · cases List.mem_singleton.mp h; rfl
          · exact hBQ l (dY.2 l (mem_labelsOf_append.2 h))⟩
      refine ((((d1.mono hBQ).seq dA1 fun l h => ?_).mono fun l h => ?_).label AHP rfl).congr ?_
      · obtain ⟨h1, h2⟩ := tiersDec_notBody h
        simp [Q, h1, h2]
      · simp only [Q, Bool.or_eq_true] at h; simp only [Label.bodyish, Bool.or_eq_true]; exact Or.inl h
      · cases toOrFromHost (pktOfD st) <;> cases tiersDec AHP (evalTiers env (pktOfD st) .dest r.hostForwardTiers) <;> rfl

end CalicoVerif.C11
