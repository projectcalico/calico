import CalicoVerif.Proofs.C43Dirty
/-!
C43 — the resolver's trie content (pool and block fields) and node table are functions of the
datastore state, whatever the history (for non-overlapping blocks).
At the end: a tracked route is a function of the datastore (`route_canon`).
-/
namespace CalicoVerif.C43

theorem routesFromBlock_nodup (c : Cidr) (aff : Option Nat) (allocs : List (Nat × Option Nat)) :
    ((routesFromBlock c aff allocs).map Prod.fst).Nodup :=
  routesFromBlock_ind (fun m => (m.map Prod.fst).Nodup) c aff allocs (by simp) fun m k n hm _ => aset_nodup m k n hm

theorem routesFromBlock_mem (c : Cidr) (aff : Option Nat) (allocs : List (Nat × Option Nat)) (k : Cidr) (n : Nat) :
    (k, n) ∈ routesFromBlock c aff allocs ↔ aget (routesFromBlock c aff allocs) k = some n :=
  ⟨mem_aget_of_nodup _ _ _ (routesFromBlock_nodup c aff allocs), aget_some_mem _ _ _⟩

/-- the datastore as far as the resolver reads it: last value per node, pool and block. -/
structure DS where
  nodes : Nat → Option NodeInfo
  pools : Cidr → Option Pool
  blocks : Cidr → Option (Option Nat × List (Nat × Option Nat))

def DS.empty : DS := ⟨fun _ => none, fun _ => none, fun _ => none⟩

def DS.apply (d : DS) : Op → DS
  | .node n i => { d with nodes := fun m => if n = m then i else d.nodes m }
  | .pool c p => { d with pools := fun k => if c = k then p else d.pools k }
  | .block c aff al => { d with blocks := fun k => if c = k then some (aff, al) else d.blocks k }
  | .blockDel c => { d with blocks := fun k => if c = k then none else d.blocks k }
  | .wep _ _ _ => d

def dsOf (ops : List Op) : DS := ops.foldl DS.apply DS.empty

/-- the node that block `b` routes `k` to (block-via-host route or a borrowed address). -/
def DS.routeAt (d : DS) (b k : Cidr) : Option Nat :=
  match d.blocks b with
  | some v => aget (routesFromBlock b v.1 v.2) k
  | none => none

/-- IPAM blocks never overlap: no CIDR is routed by two blocks. -/
def DS.Disj (d : DS) : Prop :=
  ∀ b b' k n m, b ≠ b' → d.routeAt b k = some n → d.routeAt b' k = some m → False

structure Canon (s : St) (d : DS) : Prop where
  nodes : ∀ m, aget s.nodes m = d.nodes m
  pools : ∀ k, aget s.pools k = d.pools k
  poolv : ∀ k, (s.view k).pool = d.pools k
  cache_iff : ∀ b n k, (n, k) ∈ (aget s.blockRoutes b).getD [] ↔ d.routeAt b k = some n
  block_iff : ∀ k n, (s.view k).block = some n ↔ ∃ b, d.routeAt b k = some n

/-- a stage of a block handler: it keeps what `Canon` reads except the block field, which it maps by `f`. -/
structure BlkStage (s s' : St) (f : Cidr → Option Nat → Option Nat) : Prop where
  nodes : s'.nodes = s.nodes
  pools : s'.pools = s.pools
  br : s'.blockRoutes = s.blockRoutes
  poolv : ∀ k, (s'.view k).pool = (s.view k).pool
  block : ∀ k, (s'.view k).block = f k (s.view k).block

theorem BlkStage.of_edit {P : St → St} {k : Cidr} {f : RouteInfo → RouteInfo} (hE : Edit P k f) (x : Option Nat)
    (hp : ∀ v, (f v).pool = v.pool) (hb : ∀ v, (f v).block = x) (s : St) (nr : List ((Nat × Cidr) × Nat)) :
    BlkStage s { P s with nodeRoutes := nr } (fun k' b => if k = k' then x else b) := by
  have hv : ∀ k', ({ P s with nodeRoutes := nr } : St).view k' = if k = k' then f (s.view k) else s.view k' :=
    fun k' => (view_congr (P s) _ rfl k').trans (hE.view s k')
  refine ⟨hE.nodes s, hE.pools s, hE.br s, fun k' => ?_, fun k' => ?_⟩
  · rw [hv]; split
    · rename_i e; rw [hp, e]
    · rfl
  · rw [hv]; split
    · rename_i e; rw [hb]
    · rfl

theorem BlkStage.refl (s : St) : BlkStage s s (fun _ b => b) := ⟨rfl, rfl, rfl, fun _ => rfl, fun _ => rfl⟩

theorem BlkStage.trans {s s1 s2 : St} {f g : Cidr → Option Nat → Option Nat} (h1 : BlkStage s s1 f)
    (h2 : BlkStage s1 s2 g) : BlkStage s s2 (fun k b => g k (f k b)) :=
  ⟨h2.nodes.trans h1.nodes, h2.pools.trans h1.pools, h2.br.trans h1.br, fun k => (h2.poolv k).trans (h1.poolv k),
    fun k => by rw [h2.block k, h1.block k]⟩

theorem BlkStage.foldl {α : Type} (body : St → α → St) (F : α → Cidr → Option Nat → Option Nat)
    (hb : ∀ s r, BlkStage s (body s r) (F r)) (xs : List α) (s : St) :
    BlkStage s (xs.foldl body s) (fun k b => xs.foldl (fun b r => F r k b) b) := by
  induction xs generalizing s with
  | nil => exact BlkStage.refl s
  | cons r xs ih => exact (hb s r).trans (ih (body s r))

theorem foldl_clear (D : List (Nat × Cidr)) (k : Cidr) (b : Option Nat) :
    D.foldl (fun b r => if r.2 = k then none else b) b = if k ∈ D.map Prod.snd then none else b := by
  induction D generalizing b with
  | nil => rfl
  | cons r D ih =>
    rw [List.foldl_cons, ih]
    by_cases hk : r.2 = k
    · simp [hk]
    · have hk' : k ≠ r.2 := fun e => hk e.symm
      by_cases hm : k ∈ D.map Prod.snd <;> simp [hk, hk', hm]

theorem foldl_assign (A : List (Nat × Cidr)) (k : Cidr) (b : Option Nat) :
    (k ∉ A.map Prod.snd → A.foldl (fun b r => if r.2 = k then some r.1 else b) b = b) ∧
    (k ∈ A.map Prod.snd → ∃ n, (n, k) ∈ A ∧ A.foldl (fun b r => if r.2 = k then some r.1 else b) b = some n) := by
  induction A generalizing b with
  | nil => exact ⟨fun _ => rfl, fun h => by cases h⟩
  | cons r A ih =>
    obtain ⟨j1, j2⟩ := ih (if r.2 = k then some r.1 else b)
    rw [List.foldl_cons, List.map_cons, List.mem_cons]
    refine ⟨fun hk => ?_, fun hk => ?_⟩
    · rw [j1 fun e => hk (Or.inr e), if_neg fun e => hk (Or.inl e.symm)]
    · by_cases hkA : k ∈ A.map Prod.snd
      · obtain ⟨n, hn, e⟩ := j2 hkA
        exact ⟨n, List.mem_cons_of_mem _ hn, e⟩
      · have hrk : r.2 = k := (hk.resolve_right hkA).symm
        exact ⟨r.1, hrk ▸ List.mem_cons_self, by rw [j1 hkA, if_pos hrk]⟩

theorem mem_snd {L : List (Nat × Cidr)} {k : Cidr} : k ∈ L.map Prod.snd ↔ ∃ n, (n, k) ∈ L := by
  constructor
  · intro h
    obtain ⟨r, hr, rfl⟩ := List.mem_map.1 h
    exact ⟨r.1, hr⟩
  · rintro ⟨n, hn⟩
    exact List.mem_map.2 ⟨(n, k), hn, rfl⟩

theorem routeAt_node (d : DS) (n : Nat) (i : Option NodeInfo) (b k : Cidr) :
    (d.apply (.node n i)).routeAt b k = d.routeAt b k := rfl

theorem routeAt_pool (d : DS) (c : Cidr) (p : Option Pool) (b k : Cidr) :
    (d.apply (.pool c p)).routeAt b k = d.routeAt b k := rfl

theorem canon_node (s : St) (d : DS) (n : Nat) (i : Option NodeInfo) (h : Canon s d) :
    Canon (s.onNodeUpdate n i) (d.apply (.node n i)) := by
  have Q := (onNodeUpdate_facts s n i).quiet
  have hn := (onNodeUpdate_facts s n i).nodes
  refine ⟨fun m => ?_, fun k => ?_, fun k => ?_, fun b n' k => ?_, fun k n' => ?_⟩
  · rw [hn m]; show _ = if n = m then i else d.nodes m
    by_cases e : n = m
    · simp [e]
    · simp only [e, if_false]; exact h.nodes m
  · rw [Q.pools]; exact h.pools k
  · rw [(Q.pb k).1]; exact h.poolv k
  · rw [Q.br]; exact h.cache_iff b n' k
  · rw [(Q.pb k).2]; exact h.block_iff k n'

theorem canon_pool (s : St) (d : DS) (c : Cidr) (p : Option Pool) (h : Canon s d) :
    Canon (s.onPoolUpdate c p) (d.apply (.pool c p)) := by
  have hd : ∀ k, (d.apply (.pool c p)).pools k = if c = k then p else d.pools k := fun _ => rfl
  rcases onPoolUpdate_shape s c p with ⟨rfl, hp, e⟩ | ⟨P, X, hE, hX, e⟩
  · -- removal of a pool the resolver does not know: the datastore had none at `c` either
    rw [e]
    refine ⟨h.nodes, fun k => ?_, fun k => ?_, h.cache_iff, h.block_iff⟩
    all_goals rw [hd k]; split
    · rename_i e; rw [← e]; exact hp
    · exact h.pools k
    · rename_i e; rw [← e, h.poolv c, ← h.pools c]; exact hp
    · exact h.poolv k
  · -- the pool table is rewritten, then the pool field of the trie entry
    rw [e]
    refine ⟨fun m => by rw [hE.nodes]; exact h.nodes m, fun k => ?_, fun k => ?_,
      fun b n k => by rw [hE.br]; exact h.cache_iff b n k, fun k n => ?_⟩
    · rw [hE.pools, hd k]; refine (hX k).trans ?_; split
      · rfl
      · exact h.pools k
    · rw [hE.view _ k, hd k]; split
      · rfl
      · exact h.poolv k
    · rw [hE.view _ k]; split
      · rename_i e; subst e; exact h.block_iff c n
      · exact h.block_iff k n

theorem routeAt_block_self (d : DS) (b : Cidr) (aff : Option Nat) (al : List (Nat × Option Nat)) (k : Cidr) :
    (d.apply (.block b aff al)).routeAt b k = aget (routesFromBlock b aff al) k := by
  simp [DS.apply, DS.routeAt]

theorem routeAt_block_other (d : DS) (b b0 : Cidr) (aff : Option Nat) (al : List (Nat × Option Nat)) (k : Cidr)
    (hne : b ≠ b0) : (d.apply (.block b aff al)).routeAt b0 k = d.routeAt b0 k := by
  simp [DS.apply, DS.routeAt, hne]

theorem canon_block (s : St) (d : DS) (b : Cidr) (aff : Option Nat) (al : List (Nat × Option Nat))
    (h : Canon s d) (hd : d.Disj) (hd' : (d.apply (.block b aff al)).Disj) :
    Canon (s.onBlockUpdate b aff al) (d.apply (.block b aff al)) := by
  unfold St.onBlockUpdate
  simp only []
  -- name the five lists of the handler: new routes, cached ones, deletes, kept, adds
  generalize hnew : routesFromBlock b aff al = new
  generalize hcached : (aget s.blockRoutes b).getD [] = cached
  generalize hD : cached.filter (fun r => !(aget new r.2 == some r.1)) = D
  generalize hkept : cached.filter (fun r => aget new r.2 == some r.1) = kept
  generalize hA : (new.map (fun r => (r.2, r.1))).filter (fun r => !kept.contains r) = A
  -- what membership in each of them means
  have mcached : ∀ n k, (n, k) ∈ cached ↔ d.routeAt b k = some n := by
    intro n k; rw [← hcached]; exact h.cache_iff b n k
  have mkept : ∀ n k, (n, k) ∈ kept ↔ (n, k) ∈ cached ∧ aget new k = some n := by
    intro n k; rw [← hkept]; simp [List.mem_filter]
  have mD : ∀ n k, (n, k) ∈ D ↔ (n, k) ∈ cached ∧ aget new k ≠ some n := by
    intro n k; rw [← hD]; simp [List.mem_filter]
  have mA : ∀ n k, (n, k) ∈ A ↔ aget new k = some n ∧ (n, k) ∉ kept := by
    intro n k
    rw [← hA, List.mem_filter]
    have : (n, k) ∈ new.map (fun r => (r.2, r.1)) ↔ (k, n) ∈ new := by
      constructor
      · intro hm; obtain ⟨x, hx, e⟩ := List.mem_map.1 hm
        cases x; simp at e; obtain ⟨rfl, rfl⟩ := e; exact hx
      · intro hm; exact List.mem_map.2 ⟨(k, n), hm, rfl⟩
    rw [this, ← hnew, routesFromBlock_mem]
    simp
  -- the delete fold followed by the add fold, as one `BlkStage`; `s2` is the state after both
  have st0 : ∀ k, ({ s with blockRoutes := aset s.blockRoutes b (kept ++ A) } : St).view k = s.view k :=
    fun k => view_congr s _ rfl k
  let delB : St → Nat × Cidr → St := fun s r =>
    { s.removeBlockRoute r.2 with nodeRoutes := nrRemove (s.removeBlockRoute r.2).nodeRoutes r }
  let addB : St → Nat × Cidr → St := fun s r =>
    { s.updateBlockRoute r.2 r.1 with nodeRoutes := nrAdd (s.updateBlockRoute r.2 r.1).nodeRoutes r }
  show Canon (A.foldl addB (D.foldl delB { s with blockRoutes := aset s.blockRoutes b (kept ++ A) })) _
  have st := (BlkStage.foldl delB _
      (fun s r => BlkStage.of_edit (Edit.removeBlockRoute r.2) none (fun _ => rfl) (fun _ => rfl) s _) D
      { s with blockRoutes := aset s.blockRoutes b (kept ++ A) }).trans
    (BlkStage.foldl addB _
      (fun s r => BlkStage.of_edit (Edit.updateBlockRoute r.2 r.1) (some r.1) (fun _ => rfl) (fun _ => rfl) s _) A _)
  generalize A.foldl addB (D.foldl delB { s with blockRoutes := aset s.blockRoutes b (kept ++ A) }) = s2 at st ⊢
  refine ⟨fun m => ?_, fun k => ?_, fun k => ?_, fun b0 n k => ?_, fun k n => ?_⟩
  · rw [st.nodes]; exact h.nodes m
  · rw [st.pools]; exact h.pools k
  · rw [st.poolv k, st0 k]; exact h.poolv k
  · -- `cache_iff`: the cache of `b` is now kept ++ adds, i.e. exactly the new routes; other blocks' caches are untouched
    rw [st.br, aget_aset]
    by_cases hb0 : b = b0
    · subst hb0
      simp only [if_true, Option.getD_some]
      rw [routeAt_block_self, hnew, List.mem_append, mkept, mA]
      constructor
      · rintro (⟨_, h2⟩ | ⟨h2, _⟩) <;> exact h2
      · intro h2
        by_cases hc : (n, k) ∈ cached
        · exact Or.inl ⟨hc, h2⟩
        · exact Or.inr ⟨h2, fun hk => hc ((mkept n k).1 hk).1⟩
    · simp only [hb0, if_false]
      rw [routeAt_block_other d b b0 aff al k hb0]
      exact h.cache_iff b0 n k
  · -- `block_iff`: who routes `k` after the update is the new block or one of the others
    rw [st.block k, st0 k, foldl_clear]
    obtain ⟨j1, j2⟩ := foldl_assign A k (if k ∈ D.map Prod.snd then none else (s.view k).block)
    have hex : (∃ b0, (d.apply (.block b aff al)).routeAt b0 k = some n) ↔
        aget new k = some n ∨ ∃ b0, b ≠ b0 ∧ d.routeAt b0 k = some n := by
      constructor
      · rintro ⟨b0, hb0⟩
        by_cases e : b = b0
        · subst e; rw [routeAt_block_self, hnew] at hb0; exact Or.inl hb0
        · rw [routeAt_block_other d b b0 aff al k e] at hb0; exact Or.inr ⟨b0, e, hb0⟩
      · rintro (h1 | ⟨b0, e, h1⟩)
        · exact ⟨b, by rw [routeAt_block_self, hnew]; exact h1⟩
        · exact ⟨b0, by rw [routeAt_block_other d b b0 aff al k e]; exact h1⟩
    -- routed by the new block and not freshly added: it was kept, hence cached
    have hkept : k ∉ A.map Prod.snd → aget new k = some n → d.routeAt b k = some n := fun hkA hn =>
      (mcached n k).1 ((mkept n k).1 (Classical.byContradiction fun hk =>
        hkA (mem_snd.2 ⟨n, (mA n k).2 ⟨hn, hk⟩⟩))).1
    rw [hex]
    by_cases hkA : k ∈ A.map Prod.snd
    · obtain ⟨n', hn', hbn⟩ := j2 hkA
      have hnew' : aget new k = some n' := ((mA n' k).1 hn').1
      rw [hbn]
      constructor
      · intro e; cases e; exact Or.inl hnew'
      · rintro (h1 | ⟨b0, e, h1⟩)
        · exact hnew'.symm.trans h1
        · exact (hd' b b0 k n' n e (by rw [routeAt_block_self, hnew]; exact hnew')
            (by rw [routeAt_block_other d b b0 aff al k e]; exact h1)).elim
    · rw [j1 hkA]
      by_cases hkD : k ∈ D.map Prod.snd
      · simp only [hkD, if_true]
        refine ⟨fun e => (nomatch e), ?_⟩
        obtain ⟨m, hm⟩ := mem_snd.1 hkD
        obtain ⟨hmc, hmn⟩ := (mD m k).1 hm
        rintro (h1 | ⟨b0, e, h1⟩)
        · have e1 := hkept hkA h1
          rw [(mcached m k).1 hmc] at e1
          cases e1
          exact (hmn h1).elim
        · exact (hd b b0 k m n e ((mcached m k).1 hmc) h1).elim
      · simp only [hkD, if_false]
        rw [h.block_iff k n]
        constructor
        · rintro ⟨b0, hb0⟩
          by_cases e : b = b0
          · subst e
            exact Or.inl (Classical.byContradiction fun hx =>
              hkD (mem_snd.2 ⟨n, (mD n k).2 ⟨(mcached n k).2 hb0, hx⟩⟩))
          · exact Or.inr ⟨b0, e, hb0⟩
        · rintro (h1 | ⟨b0, _, h1⟩)
          · exact ⟨b, hkept hkA h1⟩
          · exact ⟨b0, h1⟩

theorem routeAt_blockDel_self (d : DS) (b k : Cidr) : (d.apply (.blockDel b)).routeAt b k = none := by
  simp [DS.apply, DS.routeAt]

theorem routeAt_blockDel_other (d : DS) (b b0 k : Cidr) (hne : b ≠ b0) :
    (d.apply (.blockDel b)).routeAt b0 k = d.routeAt b0 k := by
  simp [DS.apply, DS.routeAt, hne]

theorem canon_blockDel (s : St) (d : DS) (b : Cidr) (h : Canon s d) (hd : d.Disj) :
    Canon (s.onBlockDelete b) (d.apply (.blockDel b)) := by
  unfold St.onBlockDelete
  simp only []
  generalize hcached : (aget s.blockRoutes b).getD [] = cached
  have mcached : ∀ n k, (n, k) ∈ cached ↔ d.routeAt b k = some n := by
    intro n k; rw [← hcached]; exact h.cache_iff b n k
  have st := BlkStage.foldl (fun (s : St) r => s.removeBlockRoute r.2) _
    (fun s r => BlkStage.of_edit (Edit.removeBlockRoute r.2) none (fun _ => rfl) (fun _ => rfl) s _) cached s
  generalize cached.foldl (fun (s : St) r => s.removeBlockRoute r.2) s = s1 at st
  have hv : ∀ k, ({ s1 with blockRoutes := adel s1.blockRoutes b } : St).view k = s1.view k :=
    fun k => view_congr s1 _ rfl k
  refine ⟨fun m => ?_, fun k => ?_, fun k => ?_, fun b0 n k => ?_, fun k n => ?_⟩
  · show aget s1.nodes m = _; rw [st.nodes]; exact h.nodes m
  · show aget s1.pools k = _; rw [st.pools]; exact h.pools k
  · rw [hv, st.poolv k]; exact h.poolv k
  · show (n, k) ∈ (aget (adel s1.blockRoutes b) b0).getD [] ↔ _
    rw [aget_adel, st.br]
    by_cases e : b = b0
    · subst e; simp [routeAt_blockDel_self]
    · simp only [e, if_false]; rw [routeAt_blockDel_other d b b0 k e]; exact h.cache_iff b0 n k
  · rw [hv, st.block k, foldl_clear]
    by_cases hk : k ∈ cached.map Prod.snd
    · simp only [hk, if_true]
      constructor
      · intro e; cases e
      · rintro ⟨b0, hb0⟩
        exfalso
        obtain ⟨m, hm⟩ := mem_snd.1 hk
        by_cases e : b = b0
        · subst e; rw [routeAt_blockDel_self] at hb0; cases hb0
        · rw [routeAt_blockDel_other d b b0 k e] at hb0
          exact hd b b0 k m n e ((mcached m k).1 hm) hb0
    · simp only [hk, if_false]
      rw [h.block_iff k n]
      constructor
      · rintro ⟨b0, hb0⟩
        by_cases e : b = b0
        · subst e; exact absurd (mem_snd.2 ⟨n, (mcached n k).2 hb0⟩) hk
        · exact ⟨b0, by rw [routeAt_blockDel_other d b b0 k e]; exact hb0⟩
      · rintro ⟨b0, hb0⟩
        by_cases e : b = b0
        · subst e; rw [routeAt_blockDel_self] at hb0; cases hb0
        · rw [routeAt_blockDel_other d b b0 k e] at hb0; exact ⟨b0, hb0⟩

theorem Canon.same {s s' : St} {d : DS} (h : Canon s d) (hs : SameData s s') : Canon s' d :=
  ⟨fun m => by rw [hs.nodes]; exact h.nodes m, fun k => by rw [hs.pools]; exact h.pools k,
    fun k => by rw [hs.view]; exact h.poolv k, fun b n k => by rw [hs.br]; exact h.cache_iff b n k,
    fun k n => by rw [hs.view]; exact h.block_iff k n⟩

/-- blocks never overlap, at any point of the history. -/
def DisjAlong : DS → List Op → Prop
  | _, [] => True
  | d, op :: ops => (d.apply op).Disj ∧ DisjAlong (d.apply op) ops

theorem canon_step (s : St) (d : DS) (op : Op) (hok : op.ok) (h : Canon s d) (hd : d.Disj)
    (hd' : (d.apply op).Disj) : Canon (s.step op).1 (d.apply op) := by
  unfold St.step
  refine Canon.same ?_ (flush_same _)
  cases op with
  | node n i => exact canon_node s d n i h
  | pool c p => exact canon_pool s d c p h
  | block c aff al => exact canon_block s d c aff al h hd hd'
  | blockDel c => exact canon_blockDel s d c h hd
  | wep _ _ _ => exact absurd hok (by simp [Op.ok])

theorem canon_run (ops : List Op) (s : St) (sent : List (Cidr × RouteUpdate)) (d : DS)
    (hok : ∀ op ∈ ops, op.ok) (h : Canon s d) (hd : d.Disj) (hda : DisjAlong d ops) :
    Canon (St.run s sent ops).1 (ops.foldl DS.apply d) := by
  induction ops generalizing s sent d with
  | nil => exact h
  | cons op ops ih =>
    simp only [St.run, List.foldl_cons]
    exact ih _ _ _ (fun o ho => hok o (List.mem_cons_of_mem _ ho))
      (canon_step s d op (hok op List.mem_cons_self) h hd hda.1) hda.1 hda.2

theorem canon_init (me : Nat) : Canon { me := me } DS.empty := by
  refine ⟨fun m => rfl, fun k => rfl, fun k => rfl, fun b n k => ?_, fun k n => ?_⟩
  · simp [aget, DS.routeAt, DS.empty]
  · simp [St.view, St.get, aget, strip, DS.routeAt, DS.empty]

theorem disj_empty : DS.empty.Disj := by
  intro b b' k n m _ h; simp [DS.routeAt, DS.empty] at h

theorem routeInfo_ext (a b : RouteInfo) (h1 : a.pool = b.pool) (h2 : a.block = b.block) (h3 : a.hosts = b.hosts)
    (h4 : a.refs = b.refs) (h5 : a.wasSent = b.wasSent) : a = b := by
  cases a; cases b; simp_all

theorem nodeInOurSubnet_congr (v6 : Bool) (me : Nat) (nodes nodes' : List (Nat × NodeInfo)) (n : Nat)
    (h : ∀ m, aget nodes' m = aget nodes m) : nodeInOurSubnet v6 me nodes' n = nodeInOurSubnet v6 me nodes n := by
  unfold nodeInOurSubnet; rw [h n, h me]

theorem DS.ext {d1 d2 : DS} (hn : ∀ m, d1.nodes m = d2.nodes m) (hp : ∀ k, d1.pools k = d2.pools k)
    (hb : ∀ k, d1.blocks k = d2.blocks k) : d1 = d2 := by
  cases d1; cases d2
  simp only [DS.mk.injEq]
  exact ⟨funext hn, funext hp, funext hb⟩

/-- A tracked route is a function of the datastore, however the state was reached. -/
theorem route_canon {s1 s2 : St} {d : DS} (a1 : Aux s1) (a2 : Aux s2) (c1 : Canon s1 d) (c2 : Canon s2 d)
    (hme : s1.me = s2.me) (c : Cidr) (n : Nat) (t1 : Tracked s1 c n) (t2 : Tracked s2 c n) :
    s1.route c = s2.route c := by
  have hnodes : ∀ m, aget s1.nodes m = aget s2.nodes m := fun m => (c1.nodes m).trans (c2.nodes m).symm
  have hblock : ∀ k, (s1.view k).block = (s2.view k).block := fun k =>
    Option.ext fun x => (c1.block_iff k x).trans (c2.block_iff k x).symm
  have hpool : ∀ k, (s1.view k).pool = (s2.view k).pool := fun k => (c1.poolv k).trans (c2.poolv k).symm
  have hl : c.len ≤ c.width := a1.l32 c (ne_empty_of_block _ n t1.1)
  have hpath : fullPath s1.view c = fullPath s2.view c := by
    apply fullPath_congr
    · exact routeInfo_ext _ _ (hpool c) (hblock c) (t1.2.1.trans t2.2.1.symm) (t1.2.2.trans t2.2.2.symm) rfl
    · intro l hlt
      have p1 := plain_ancPath s1 a1 c hl _ (List.mem_map.2 ⟨l, List.mem_range.2 hlt, rfl⟩)
      have p2 := plain_ancPath s2 a2 c hl _ (List.mem_map.2 ⟨l, List.mem_range.2 hlt, rfl⟩)
      exact routeInfo_ext _ _ (hpool _) (hblock _) (p1.1.trans p2.1.symm) (p1.2.trans p2.2.symm) rfl
  unfold St.route
  rw [hpath, hme]
  exact routeOfPath_nodes_congr _ _ _ _ _ fun n' _ => ⟨hnodes n', nodeInOurSubnet_congr c.v6 _ _ _ n' hnodes⟩

end CalicoVerif.C43
