import CalicoVerif.Proofs.C03Resolver
/-! C03: the from-scratch characterisation of an endpoint's tier list (`IsSpec`; it determines the list: `IsSpec.unique`);
every list a flush in sync emits satisfies it; dirty-set completeness (`DInv`): an endpoint that a flush does not
re-emit still has a list that satisfies it for the CURRENT datastore state; and all of that along every history.

Histories.  `runL` (the resolver and the last update emitted per endpoint) is the run the invariants are carried along:
`runL_induct`, `runL_inv` (`DInv`), `upToDate_after_flush`, the latch
`last_update_refs_live`, and `runL_folds`: the resolver's policy table, match relation and endpoint table are the folds
`polHistory` / `matchedHistory` / `epHistory` of the history (`Folds`, with `step_folds` for one event and
`Folds.append_flush`; the tier resources are the fourth fold, `dsHist`).  `runR` returns the calls of every flush
instead, which is what the `_partial` theorems of `Props/C03` speak of; `runR_spec`: no `Sorted()` panic, and every
emitted update is `GoodUpdate`.  `runL_eq_runR` says the two runs are one; `runL_of_runR` / `runR_of_runL` carry a
successful run across (so `runL_some`: no panic along `runL` either), and `runR_induct` brings a predicate of the
resolver alone over to `runR` (`runR_content`, `runR_tiers`). -/
namespace CalicoVerif.C03
open CalicoVerif.C02

/-- sort key of an emitted tier computed from the datastore: a tier is "valid" iff the datastore has it -/
def dkey (ds : TierDS) (t : TierInfo) : TierKey := ⟨t.name, (mget ds t.name).isSome, t.order⟩

/-- `l` is THE policy list of endpoint `e` for the datastore state (tier resources `ds`, policy
metadata `all`) and the match relation `matched`: written from scratch, no reference to the sorter.  It determines `l`
(`IsSpec.unique`); a list satisfying it is built from the datastore alone in `Proofs/C01Fresh` (`fresh_isSpec`). -/
structure IsSpec (ds : TierDS) (all : List (PolicyKey × PolMeta)) (matched : List (PolicyKey × EpKey)) (e : EpKey)
    (l : List TierInfo) : Prop where
  /-- tiers ascend: existing tiers first, order ascending, unset last, then name -/
  tiersSorted : l.Pairwise (fun a b => tierLess (dkey ds a) (dkey ds b) = true)
  /-- a tier none of whose policies matches the endpoint is not listed -/
  nonEmpty : ∀ t ∈ l, t.policies ≠ []
  /-- policies in a tier ascend: order ascending, default last, then name/namespace/kind -/
  polSorted : ∀ t ∈ l, Sorted polKVLess t.policies
  /-- a tier carries the datastore tier's order and default action (none / "" if it does not exist) -/
  attrs : ∀ t ∈ l, match mget ds t.name with
    | some (o, a) => t.order = o ∧ t.defaultAction = a
    | none => t.order = none ∧ t.defaultAction = ""
  /-- exactly the policies that match the endpoint, with their current metadata, in their own tier -/
  exact : ∀ p m, (∃ t ∈ l, t.name = m.tier ∧ ⟨p, m⟩ ∈ t.policies) ↔ ((p, e) ∈ matched ∧ mget all p = some m)
  inTier : ∀ t ∈ l, ∀ kv ∈ t.policies, kv.val.tier = t.name
  /-- `sendEndpointUpdate` sets the flag on every tier it lists, existing or not (part of the list, so part of what
  determines it) -/
  valid : ∀ t ∈ l, t.valid = true

theorem IsSpec.matches {ds all matched e l} (h : IsSpec ds all matched e l) {t : TierInfo} (ht : t ∈ l)
    {kv : PolKV} (hkv : kv ∈ t.policies) : (kv.key, e) ∈ matched :=
  ((h.exact kv.key kv.val).1 ⟨t, ht, (h.inTier t ht kv hkv).symm, hkv⟩).1

theorem IsSpec.nil_of_noMatch {ds all matched e l} (h : IsSpec ds all matched e l) (hn : ∀ p, (p, e) ∉ matched) : l = [] := by
  cases l with
  | nil => rfl
  | cons t rest =>
    cases hp : t.policies with
    | nil => exact absurd hp (h.nonEmpty t (List.mem_cons_self ..))
    | cons kv _ => exact absurd (h.matches (List.mem_cons_self ..) (hp ▸ List.mem_cons_self ..)) (hn kv.key)

theorem IsSpec.nil {ds all matched e} (hn : ∀ p, (p, e) ∉ matched) : IsSpec ds all matched e [] :=
  ⟨by simp, by simp, by simp, by simp, by intro p m; simp; intro h; exact absurd h (hn p), by simp, by simp⟩

theorem IsSpec.congr {ds all all' matched matched' e l} (h : IsSpec ds all matched e l)
    (hm : ∀ p, (p, e) ∈ matched' ↔ (p, e) ∈ matched) (ha : ∀ p, (p, e) ∈ matched → mget all' p = mget all p) :
    IsSpec ds all' matched' e l := by
  refine ⟨h.tiersSorted, h.nonEmpty, h.polSorted, h.attrs, fun p m => ?_, h.inTier, h.valid⟩
  rw [h.exact p m, hm p]
  exact and_congr_right fun a => by rw [ha p a]

theorem IsSpec.unique {ds all matched e} {l₁ l₂ : List TierInfo} (h1 : IsSpec ds all matched e l₁)
    (h2 : IsSpec ds all matched e l₂) : l₁ = l₂ := by
  -- the datastore-computed key depends on the tier's name only
  have hkey : ∀ {l}, IsSpec ds all matched e l → ∀ a ∈ l, ∀ {l'}, IsSpec ds all matched e l' → ∀ b ∈ l',
      a.name = b.name → dkey ds a = dkey ds b ∧ a.order = b.order ∧ a.defaultAction = b.defaultAction := by
    intro l h a ha l' h' b hb hn
    have e := ((attrs_match_iff ..).1 (h.attrs a ha)).trans (hn ▸ ((attrs_match_iff ..).1 (h'.attrs b hb)).symm)
    obtain ⟨eo, ea⟩ := Prod.mk.inj e
    exact ⟨by simp only [dkey, hn, eo], eo, ea⟩
  -- same name ⇒ same element, inside one spec list
  have sameName : ∀ {l}, IsSpec ds all matched e l → ∀ a ∈ l, ∀ b ∈ l, a.name = b.name → a = b := by
    intro l h a ha b hb hn
    refine Classical.byContradiction fun hab => ?_
    have hk := (hkey h a ha h b hb hn).1
    rcases (pairwise_mem_or h.tiersSorted ha hb).resolve_left hab with x | x <;>
      (rw [hk, swo_tierLess.irrefl] at x; cases x)
  -- membership transfers from one spec list to the other
  have transfer : ∀ {la lb}, IsSpec ds all matched e la → IsSpec ds all matched e lb → ∀ t ∈ la, t ∈ lb := by
    intro la lb ha hb t ht
    -- a policy of `t` is listed by `lb` in a tier of the same name
    have key : ∀ {la lb}, IsSpec ds all matched e la → IsSpec ds all matched e lb → ∀ t ∈ la, ∀ kv ∈ t.policies,
        ∃ t₂ ∈ lb, t₂.name = t.name ∧ kv ∈ t₂.policies := by
      intro la lb ha hb t ht kv hkv
      have hin := ha.inTier t ht kv hkv
      obtain ⟨t₂, ht₂, hn₂, hk₂⟩ := (hb.exact kv.key kv.val).2 ((ha.exact kv.key kv.val).1 ⟨t, ht, hin.symm, hkv⟩)
      exact ⟨t₂, ht₂, hn₂.trans hin, hk₂⟩
    cases hp : t.policies with
    | nil => exact absurd hp (ha.nonEmpty t ht)
    | cons kv0 rest =>
      obtain ⟨t₂, ht₂, hn₂, _⟩ := key ha hb t ht kv0 (hp ▸ List.mem_cons_self ..)
      have hpol : t.policies = t₂.policies := by
        refine sorted_ext swo_polKVLess (ha.polSorted t ht) (hb.polSorted t₂ ht₂) fun kv => ⟨fun hkv => ?_, fun hkv => ?_⟩
        · obtain ⟨t₃, ht₃, hn₃, hk₃⟩ := key ha hb t ht kv hkv
          exact sameName hb t₃ ht₃ t₂ ht₂ (hn₃.trans hn₂.symm) ▸ hk₃
        · obtain ⟨t₃, ht₃, hn₃, hk₃⟩ := key hb ha t₂ ht₂ kv hkv
          exact sameName ha t₃ ht₃ t ht (hn₃.trans hn₂) ▸ hk₃
      obtain ⟨_, ho, hda⟩ := hkey ha t ht hb t₂ ht₂ hn₂.symm
      have hv := (ha.valid t ht).trans (hb.valid t₂ ht₂).symm
      obtain ⟨_, _, _, _, _⟩ := t
      obtain ⟨_, _, _, _, _⟩ := t₂
      cases hn₂; cases hpol; cases ho; cases hda; cases hv
      exact ht₂
  -- both lists are sorted under the pulled-back comparator and have the same members
  have hswo : SWO (fun a b : TierInfo => tierLess (dkey ds a) (dkey ds b)) :=
    ⟨fun a => swo_tierLess.irrefl _, fun a b c => swo_tierLess.trans _ _ _, fun a b c => swo_tierLess.negTrans _ _ _⟩
  exact sorted_ext hswo h1.tiersSorted h2.tiersSorted (fun t => ⟨transfer h1 h2 t, transfer h2 h1 t⟩)

theorem outTiers_attrs {ds : TierDS} {s : Sorter} (h : SInv s) (ta : TierAttr ds s) {t : TierInfo}
    (ht : t ∈ s.outTiers) : t.valid = (mget ds t.name).isSome ∧ (t.order, t.defaultAction) = dsAttrs ds t.name := by
  obtain ⟨n, T, hT, rfl⟩ := (mem_outTiers h t).1 ht
  rw [show (tierInfoOf T).name = n from (h.tiers n T hT).1]
  exact ta.attrs n T hT

theorem outTiers_isSpec {K : PolicyKey → Prop} {ds : TierDS} {r : Resolver} (hri : RInv r)
    (tc : TiersOK K r.sorter) (ta : TierAttr ds r.sorter)
    (hcomp : ∀ p, r.polHasMatch p = true → (mget r.allPolicies p).isSome → Held r.sorter p) (e : EpKey) :
    IsSpec ds r.allPolicies r.matched e (filterTiers r.matched e r.sorter.outTiers) := by
  have hs := hri.sinv
  -- an emitted tier is the image of a tier of the sorter's output
  have back : ∀ {t'}, t' ∈ filterTiers r.matched e r.sorter.outTiers →
      ∃ t ∈ r.sorter.outTiers, keepMatching r.matched e t = t' := fun ht' => (mem_filterTiers.1 ht').2
  refine ⟨?_, fun t ht => (mem_filterTiers.1 ht).1, ?_, ?_, emitted_exact hri tc hcomp e, ?_, ?_⟩
  · -- under the datastore-computed key the tiers ascend as in the tier btree
    rw [filterTiers_eq]
    refine List.Pairwise.filter _ (List.pairwise_map.2 ?_)
    have hsorted : r.sorter.outTiers.Pairwise fun a b => tierLess (TierInfo.key a) (TierInfo.key b) = true :=
      List.pairwise_map.1 ((outTiers_keys hs).symm ▸ hs.sorted)
    have hkey : ∀ t ∈ r.sorter.outTiers, dkey ds (keepMatching r.matched e t) = TierInfo.key t := fun t ht => by
      rw [TierInfo.key, (outTiers_attrs hs ta ht).1]; rfl
    exact hsorted.imp_of_mem fun ha hb hlt => by rw [hkey _ ha, hkey _ hb]; exact hlt
  · intro t' ht'
    obtain ⟨t, ht, rfl⟩ := back ht'
    exact List.Pairwise.filter _ (outTiers_policies_sorted hs t ht)
  · intro t' ht'
    obtain ⟨t, ht, rfl⟩ := back ht'
    exact (attrs_match_iff ds t.name t.order t.defaultAction).2 (outTiers_attrs hs ta ht).2
  · intro t' ht' kv hkv
    obtain ⟨t, ht, rfl⟩ := back ht'
    obtain ⟨n, T, hT, rfl⟩ := (mem_outTiers hs t).1 ht
    have hin := ((tc n T hT).1 kv).1 (List.mem_filter.1 hkv).1
    exact (hri.held kv.key n kv.val ⟨T, hT, hin⟩).2.2.trans (hs.tiers n T hT).1.symm
  · intro t' ht'
    obtain ⟨t, _, rfl⟩ := back ht'
    rfl

/-- last emitted `OnEndpointTierUpdate` per endpoint (`none` = never emitted) -/
abbrev Last := EpKey → Option (Option EpUpd)

def UpToDate (ds : TierDS) (r : Resolver) (L : Last) (e : EpKey) : Prop :=
  match mget r.endpoints e with
  | none => L e = none ∨ L e = some none
  | some ep => ∃ l, L e = some (some ⟨ep, l⟩) ∧ IsSpec ds r.allPolicies r.matched e l

def PendDirty (r : Resolver) : Prop :=
  ∀ p, p ∈ r.pending → (mget r.allPolicies p).isSome → ∀ e, (p, e) ∈ r.matched → e ∈ r.dirty

/-- what holds between two calls of the resolver; `good` is dirty-set completeness, `pendDirty` what keeps it true
when a policy is resolved late -/
structure DInv (K : PolicyKey → Prop) (r : Resolver) (L : Last) (ds : TierDS) : Prop where
  rinv : RInv r
  tc : TiersOK K r.sorter
  pendK : ∀ p, p ∈ r.pending → K p
  ta : TierAttr ds r.sorter
  pendDirty : PendDirty r
  good : ∀ e, e ∉ r.dirty → UpToDate ds r L e
  quiet : r.inSync = false → ∀ e, L e = none

theorem DInv.init (K : PolicyKey → Prop) : DInv K {} (fun _ => none) [] :=
  ⟨RInv.init, fun _ _ ht => (by cases ht), by simp, TierAttr.init, by simp [PendDirty], by intro e _; simp [UpToDate],
    fun _ _ => rfl⟩

theorem upToDate_congr {ds : TierDS} {r r' : Resolver} {L : Last} {e : EpKey} (h : UpToDate ds r L e)
    (hep : mget r'.endpoints e = mget r.endpoints e)
    (hm : ∀ p, (p, e) ∈ r'.matched ↔ (p, e) ∈ r.matched)
    (ha : ∀ p, (p, e) ∈ r.matched → mget r'.allPolicies p = mget r.allPolicies p) : UpToDate ds r' L e := by
  unfold UpToDate at *
  rw [hep]
  cases hx : mget r.endpoints e with
  | none => rw [hx] at h; exact h
  | some ep =>
    rw [hx] at h
    obtain ⟨l, h1, h2⟩ := h
    exact ⟨l, h1, h2.congr hm ha⟩

theorem pendDirty_step {r : Resolver} (hri : RInv r)
    (hpd : PendDirty r)
    (ev : Event) : PendDirty (r.step ev) := by
  cases ev with
  | endpoint k v => cases v <;> exact fun p hp hk e he => mem_sadd.2 (Or.inr (hpd p hp hk e he))
  | status b => rw [step_status]; exact hpd
  | tier name v => exact fun p hp hk e he => (mem_addAll ..).2 (Or.inr (hpd p hp hk e he))
  | matchStarted q e0 =>
    have hp0 : ∀ p, p ∈ (r.step (.matchStarted q e0)).pending → p ∉ r.pending →
        p = q ∧ r.sorter.hasPolicy q = false := fun p hp hpp => by
      rcases pending_step hp with hp | ⟨_, e, h⟩
      · exact absurd hp hpp
      · cases e; exact ⟨rfl, h⟩
    rw [step_matchStarted] at hp0 ⊢
    intro p hp hk e he
    rcases mem_sadd.1 he with h1 | h1
    · exact mem_sadd.2 (Or.inl (Prod.mk.inj h1).2)
    · refine mem_sadd.2 (Or.inr ?_)
      by_cases hpp : p ∈ r.pending
      · exact hpd p hpp hk e h1
      · -- `p` starts to wait although it already matched `e`: then it was held, or waiting already
        obtain ⟨rfl, hnh⟩ := hp0 p hp hpp
        rcases hri.compl p ((polHasMatch_iff r p).2 ⟨e, h1⟩) hk with x | x
        · rw [(hasPolicy_iff hri.sinv p).2 x] at hnh; cases hnh
        · exact absurd x hpp
  | matchStopped q e0 =>
    have hp0 : ∀ p, p ∈ (r.step (.matchStopped q e0)).pending → p ∈ r.pending := fun p hp =>
      (pending_step hp).resolve_right fun ⟨_, e, _⟩ => by cases e
    rw [step_matchStopped] at hp0 ⊢
    exact fun p hp hk e he => mem_sadd.2 (Or.inr (hpd p (hp0 p hp) hk e (mem_sdel.1 he).1))
  | policy k v =>
    have hall := mget_step_policy r k v
    have hp0 : ∀ p, p ∈ (r.step (.policy k v)).pending → p ∈ r.pending := fun p hp =>
      (pending_step hp).resolve_right fun ⟨_, e, _⟩ => by cases e
    rw [step_policy] at hall hp0 ⊢
    intro p hp hk e he
    rw [hall] at hk
    by_cases hknown : (mget r.allPolicies p).isSome
    · have := hpd p (hp0 p hp) hknown e he
      dsimp only
      split
      · exact (mem_addAll ..).2 (Or.inr this)
      · exact this
    · -- `p` was unknown, hence not held: the sorter reports a change and `p`'s endpoints become dirty
      have hpk : p = k := by
        by_cases hpk : p = k
        · exact hpk
        · rw [if_neg hpk] at hk; exact absurd hk hknown
      subst hpk
      rw [if_pos rfl] at hk
      have hd : (r.sorter.updatePolicy p (v.map extractPolicyMetadata)).2 = true := by
        cases hd : (r.sorter.updatePolicy p (v.map extractPolicyMetadata)).2 with
        | true => rfl
        | false =>
          rcases updatePolicy_notDirty hri.sinv p _ hd with ⟨hv, _⟩ | ⟨np, _, hx⟩
          · rw [hv] at hk; cases hk
          · rw [(hri.held p np.tier np hx).2.1] at hknown; exact absurd rfl hknown
      dsimp only
      rw [(polHasMatch_iff r p).2 ⟨e, he⟩, hd]
      exact (mem_addAll ..).2 (Or.inl ((mem_matchingEps ..).2 he))

theorem good_step {ds : TierDS} {r : Resolver} {L : Last} (hri : RInv r)
    (hpd : PendDirty r)
    (hgood : ∀ e, e ∉ r.dirty → UpToDate ds r L e) (ev : Event) :
    ∀ e, e ∉ (r.step ev).dirty → UpToDate (dsEvent ds ev) (r.step ev) L e := by
  cases ev with
  | endpoint k v =>
    intro e he
    have hek : e ≠ k ∧ e ∉ r.dirty := by cases v <;> exact not_or.1 (mt mem_sadd.2 he)
    refine upToDate_congr (hgood e hek.2) ?_ (fun p => by cases v <;> rfl) (fun p _ => by cases v <;> rfl)
    cases v <;> simp [Resolver.step, mget_mset, mget_mdel, hek.1]
  | status b =>
    rw [step_status]
    exact fun e he => upToDate_congr (hgood e he) rfl (fun _ => Iff.rfl) (fun _ _ => rfl)
  | tier name v =>
    -- an endpoint the tier change leaves clean matches no policy: its list is, and stays, empty
    intro e he
    obtain ⟨hno, hd⟩ := not_or.1 (mt (mem_addAll ..).2 he)
    have hno : ∀ p, (p, e) ∉ r.matched := fun p hp => hno ((mem_matchedEps r e).2 ⟨p, hp⟩)
    have hold := hgood e hd
    unfold UpToDate at hold ⊢
    show match mget r.endpoints e with
      | none => _
      | some ep => ∃ l, _ ∧ IsSpec (dsTier ds name v) r.allPolicies r.matched e l
    cases hx : mget r.endpoints e with
    | none => rw [hx] at hold; exact hold
    | some ep =>
      rw [hx] at hold
      obtain ⟨l, h1, h2⟩ := hold
      cases h2.nil_of_noMatch hno
      exact ⟨[], h1, IsSpec.nil hno⟩
  | matchStarted q e0 =>
    rw [step_matchStarted]
    intro e he
    obtain ⟨hne, hd⟩ := not_or.1 (mt mem_sadd.2 he)
    refine upToDate_congr (hgood e hd) rfl (fun p => ?_) (fun _ _ => rfl)
    exact mem_sadd.trans (or_iff_right fun x => hne (Prod.mk.inj x).2)
  | matchStopped q e0 =>
    rw [step_matchStopped]
    intro e he
    obtain ⟨hne, hd⟩ := not_or.1 (mt mem_sadd.2 he)
    refine upToDate_congr (hgood e hd) rfl (fun p => ?_) (fun _ _ => rfl)
    exact mem_sdel.trans (and_iff_left fun x => hne (Prod.mk.inj x).2)
  | policy k v =>
    have hall := mget_step_policy r k v
    rw [step_policy] at hall ⊢
    intro e he
    refine upToDate_congr (r := r) ?_ rfl (fun _ => Iff.rfl) fun p hpe => ?_
    · refine hgood e fun hd => he ?_
      dsimp only
      split
      · exact (mem_addAll ..).2 (Or.inr hd)
      · exact hd
    rw [hall]
    split
    · next hpk =>
      -- `e` stays clean, so the sorter saw no change for `p`: its metadata is what it was
      subst hpk
      have hmatch := (polHasMatch_iff r p).2 ⟨e, hpe⟩
      have hflag : (r.sorter.updatePolicy p (v.map extractPolicyMetadata)).2 = false := by
        refine Bool.eq_false_iff.2 fun x => he ?_
        dsimp only
        rw [hmatch, x]
        exact (mem_addAll ..).2 (Or.inl ((mem_matchingEps ..).2 hpe))
      have hd : e ∉ r.dirty := fun hd => he (by
        dsimp only; rw [hflag, Bool.and_false, if_neg Bool.false_ne_true]; exact hd)
      rcases updatePolicy_notDirty hri.sinv p _ hflag with ⟨hv, hnh⟩ | ⟨np, hv, hx⟩
      · rw [hv]
        cases hknown : mget r.allPolicies p with
        | none => rfl
        | some m =>
          rcases hri.compl p hmatch (by simp [hknown]) with x | x
          · exact absurd x hnh
          · exact absurd (hpd p x (by simp [hknown]) e hpe) hd
      · rw [hv, (hri.held p np.tier np hx).2.1]
    · rfl

theorem step_inSync_false {r : Resolver} (ev : Event) (h : (r.step ev).inSync = false) : r.inSync = false := by
  cases ev with
  | endpoint k v => cases v <;> exact h
  | policy k v => rw [step_policy] at h; exact h
  | tier n v => exact h
  | status b => rw [step_status] at h; exact (Bool.or_eq_false_iff.1 h).1
  | matchStarted p e => rw [step_matchStarted] at h; exact h
  | matchStopped p e => rw [step_matchStopped] at h; exact h

theorem step_inSync_mono {r : Resolver} (e : Event) (h : r.inSync = true) : (r.step e).inSync = true := by
  cases h' : (r.step e).inSync with
  | true => rfl
  | false => rw [step_inSync_false e h'] at h; cases h

theorem foldl_inSync_mono (evs : List Event) {r : Resolver} (h : r.inSync = true) : (evs.foldl Resolver.step r).inSync = true :=
  List.foldlRecOn (motive := fun r : Resolver => r.inSync = true) evs _ h fun _ h e _ => step_inSync_mono e h

theorem DInv.step {K : PolicyKey → Prop} (hK : KeyU K) {r : Resolver} {L : Last} {ds : TierDS} (h : DInv K r L ds)
    (ev : Event) (hev : EventIn K ev) : DInv K (r.step ev) L (dsEvent ds ev) := by
  refine ⟨h.rinv.step ev, h.tc.step hK h.rinv.sinv ev hev, fun q hq => ?_, h.ta.step h.rinv.sinv ev,
    pendDirty_step h.rinv h.pendDirty ev, good_step h.rinv h.pendDirty h.good ev,
    fun hs => h.quiet (step_inSync_false ev hs)⟩
  rcases pending_step hq with hq | ⟨_, rfl, _⟩
  · exact h.pendK q hq
  · exact hev

/-- the last-emitted map after a batch of `OnEndpointTierUpdate` calls -/
def lastAfter (L : Last) (calls : List Call) : Last :=
  calls.foldl (fun L c => match c with
    | .endpointUpdate e v => (fun e' => if e' = e then some v else L e')
    | _ => L) L

theorem lastAfter_map (g : EpKey → Option EpUpd) (l : List EpKey) (L : Last) (e : EpKey) :
    lastAfter L (l.map (fun e => Call.endpointUpdate e (g e))) e = if e ∈ l then some (g e) else L e := by
  induction l generalizing L with
  | nil => simp [lastAfter]
  | cons x t ih =>
    simp only [lastAfter, List.map_cons, List.foldl_cons] at ih ⊢
    rw [ih]
    by_cases h1 : e ∈ t
    · simp [h1]
    · by_cases h2 : e = x
      · subst h2; simp [h1]
      · simp [h1, h2]

theorem DInv.flush {K : PolicyKey → Prop} (hK : KeyU K) {r r' : Resolver} {L : Last} {ds : TierDS} {calls : List Call}
    (h : DInv K r L ds) (hf : r.flush = some (r', calls)) : DInv K r' (lastAfter L calls) ds := by
  have hri' := h.rinv.flush hf
  have htc' := h.tc.flush hK h.rinv.sinv h.pendK hf
  have hta' := h.ta.flush h.rinv.sinv hf
  rcases h.rinv.sinv.flush_cases hf with ⟨_, rfl, rfl⟩ | ⟨hs, hr', rfl⟩
  · exact h
  · have hspec := outTiers_isSpec hri' htc' hta' (h.rinv.flush_held hf hs)
    subst hr'
    refine ⟨hri', htc', fun p hp => h.pendK p (List.mem_filter.1 hp).1, hta', fun p hp hk => ?_, fun e _ => ?_,
      fun hs' => absurd (hs.symm.trans hs') (by simp)⟩
    · -- what still waits is unknown to the datastore
      rw [List.mem_filter] at hp
      rw [Option.isNone_iff_eq_none.1 hp.2] at hk; cases hk
    · unfold UpToDate
      rw [lastAfter_map]
      by_cases hed : e ∈ r.dirty
      · rw [if_pos hed]
        cases mget r.endpoints e with
        | none => exact Or.inr rfl
        | some ep => exact ⟨_, rfl, hspec e⟩
      · rw [if_neg hed]; exact h.good e hed

inductive RStep
  | ev (e : Event)
  | flush
deriving Repr

/-- Run a history of resolver inputs (datastore updates, status changes, match start/stop calls from
the ActiveRulesCalculator) with flushes at arbitrary points.  Returns, per flush, the match relation at
that moment and the emitted `OnEndpointTierUpdate` calls.  `none` = the `Sorted()` panic. -/
def runR (r : Resolver) : List RStep → Option (Resolver × List (List (PolicyKey × EpKey) × List Call))
  | [] => some (r, [])
  | .ev e :: t => runR (r.step e) t
  | .flush :: t => match r.flush with
    | none => none
    | some (r', calls) => match runR r' t with
      | none => none
      | some (r'', outs) => some (r'', (r.matched, calls) :: outs)

/-- history run that also tracks the last emitted update per endpoint -/
def runL (r : Resolver) (L : Last) : List RStep → Option (Resolver × Last)
  | [] => some (r, L)
  | .ev e :: t => runL (r.step e) L t
  | .flush :: t => match r.flush with
    | none => none
    | some (r', calls) => runL r' (lastAfter L calls) t

def dsHist (ds : TierDS) : List RStep → TierDS
  | [] => ds
  | .ev e :: t => dsHist (dsEvent ds e) t
  | .flush :: t => dsHist ds t

def HistIn (K : PolicyKey → Prop) : List RStep → Prop
  | [] => True
  | .ev e :: t => EventIn K e ∧ HistIn K t
  | .flush :: t => HistIn K t

theorem histIn_true : ∀ hist : List RStep, HistIn (fun _ => True) hist
  | [] => trivial
  | .ev e :: t => ⟨by cases e <;> trivial, histIn_true t⟩
  | .flush :: t => histIn_true t

theorem histIn_append {K : PolicyKey → Prop} (a b : List RStep) : HistIn K (a ++ b) ↔ HistIn K a ∧ HistIn K b := by
  induction a with
  | nil => simp [HistIn]
  | cons st t ih => cases st <;> simp only [List.cons_append, HistIn, ih, and_assoc]

theorem runL_evs (evs : List Event) : ∀ (r : Resolver) (L : Last), runL r L (evs.map .ev) = some (evs.foldl Resolver.step r, L) := by
  induction evs with
  | nil => intro r L; rfl
  | cons e t ih => intro r L; exact ih _ _

theorem histIn_evs {K : PolicyKey → Prop} (evs : List Event) (h : ∀ e ∈ evs, EventIn K e) : HistIn K (evs.map .ev) := by
  induction evs with
  | nil => trivial
  | cons e t ih => exact ⟨h e (List.mem_cons_self ..), ih fun x hx => h x (List.mem_cons_of_mem _ hx)⟩

theorem dsHist_evs (evs : List Event) : ∀ ds, dsHist ds (evs.map .ev) = evs.foldl dsEvent ds := by
  induction evs with
  | nil => intro ds; rfl
  | cons e t ih => intro ds; exact ih _

/-- What one emitted `OnEndpointTierUpdate` call looks like: the endpoint's tier list is the sorter's
sorted output (tiers ascending under `TierLess`, each tier's policies ascending under `PolKVLess`)
filtered to the policies that match the endpoint, tiers without a matching policy dropped. -/
def GoodUpdate (matched : List (PolicyKey × EpKey)) : Call → Prop
  | .endpointUpdate e (some u) =>
    ∃ ts : List TierInfo, Sorted tierLess (ts.map TierInfo.key) ∧ (∀ t ∈ ts, Sorted polKVLess t.policies) ∧
      u.tiers = filterTiers matched e ts
  | .endpointUpdate _ none => True
  | _ => False

theorem flush_good {r r' : Resolver} {calls : List Call} (h : SInv r.sorter) (hf : r.flush = some (r', calls)) :
    ∀ c ∈ calls, GoodUpdate r.matched c := by
  rcases h.flush_cases hf with ⟨_, _, rfl⟩ | ⟨_, _, rfl⟩
  · simp
  · intro c hc
    obtain ⟨e, _, rfl⟩ := List.mem_map.1 hc
    cases mget r.endpoints e with
    | none => trivial
    | some ep => exact ⟨_, (outTiers_keys h.flushSorter).symm ▸ h.flushSorter.sorted, outTiers_policies_sorted h.flushSorter, rfl⟩

theorem runR_spec {r : Resolver} (h : SInv r.sorter) (hist : List RStep) :
    ∃ r' outs, runR r hist = some (r', outs) ∧ ∀ o ∈ outs, ∀ c ∈ o.2, GoodUpdate o.1 c := by
  induction hist generalizing r with
  | nil => exact ⟨r, [], rfl, by simp⟩
  | cons st t ih =>
    cases st with
    | ev e => exact ih (h.step e)
    | flush =>
      obtain ⟨r1, calls, e1⟩ := flush_some h
      obtain ⟨r2, outs, e2, hg2⟩ := ih (h.flush e1)
      refine ⟨r2, (r.matched, calls) :: outs, by simp [runR, e1, e2], fun o ho => ?_⟩
      rcases List.mem_cons.1 ho with rfl | ho
      · exact flush_good h e1
      · exact hg2 o ho

theorem runL_eq_runR (hist : List RStep) (r : Resolver) (L : Last) :
    runL r L hist = (runR r hist).map fun x => (x.1, x.2.foldl (fun L o => lastAfter L o.2) L) := by
  induction hist generalizing r L with
  | nil => rfl
  | cons st t ih =>
    cases st with
    | ev e => exact ih _ _
    | flush =>
      simp only [runL, runR]
      cases r.flush with
      | none => rfl
      | some x => simp only [ih]; cases runR x.1 t <;> rfl

theorem runL_of_runR {r r' : Resolver} {hist : List RStep} {outs} (hr : runR r hist = some (r', outs)) (L : Last) :
    ∃ L', runL r L hist = some (r', L') := by
  rw [runL_eq_runR, hr]; exact ⟨_, rfl⟩

theorem runL_some {r : Resolver} (h : SInv r.sorter) (L : Last) (hist : List RStep) : ∃ r' L', runL r L hist = some (r', L') :=
  let ⟨r', _, hr, _⟩ := runR_spec h hist
  ⟨r', runL_of_runR hr L⟩

theorem runR_of_runL {r r' : Resolver} {hist : List RStep} {L L' : Last} (hr : runL r L hist = some (r', L')) :
    ∃ outs, runR r hist = some (r', outs) := by
  rw [runL_eq_runR] at hr
  obtain ⟨⟨r'', outs⟩, h, e⟩ := Option.map_eq_some_iff.1 hr
  cases e; exact ⟨outs, h⟩

theorem runL_induct {K : PolicyKey → Prop} {P : TierDS → Resolver → Last → Prop}
    (hstep : ∀ ds r L e, EventIn K e → P ds r L → P (dsEvent ds e) (r.step e) L)
    (hflush : ∀ ds r L r' calls, P ds r L → r.flush = some (r', calls) → P ds r' (lastAfter L calls)) :
    ∀ (hist : List RStep) {ds : TierDS} {r : Resolver} {L : Last} {r' : Resolver} {L' : Last},
      HistIn K hist → P ds r L → runL r L hist = some (r', L') → P (dsHist ds hist) r' L'
  | [], _, _, _, _, _, _, h, hr => by cases hr; exact h
  | .ev e :: t, _, _, _, _, _, hin, h, hr => runL_induct hstep hflush t hin.2 (hstep _ _ _ e hin.1 h) hr
  | .flush :: t, _, r, _, _, _, hin, h, hr => by
    simp only [runL] at hr
    cases hf : r.flush with
    | none => rw [hf] at hr; cases hr
    | some x => rw [hf] at hr; exact runL_induct hstep hflush t hin (hflush _ _ _ _ _ h hf) hr

theorem runR_induct {K : PolicyKey → Prop} {P : TierDS → Resolver → Prop}
    (hstep : ∀ ds r e, EventIn K e → P ds r → P (dsEvent ds e) (r.step e))
    (hflush : ∀ ds r r' calls, P ds r → r.flush = some (r', calls) → P ds r')
    (hist : List RStep) {ds : TierDS} {r r' : Resolver} {outs} (hin : HistIn K hist) (h : P ds r)
    (hr : runR r hist = some (r', outs)) : P (dsHist ds hist) r' := by
  obtain ⟨L', hl⟩ := runL_of_runR hr fun _ => none
  exact runL_induct (P := fun ds r _ => P ds r) (fun ds r _ => hstep ds r) (fun ds r _ => hflush ds r) hist hin h hl

theorem runR_content {r : Resolver} (h : RInv r) (hist : List RStep) {r' : Resolver}
    {outs : List (List (PolicyKey × EpKey) × List Call)} (hr : runR r hist = some (r', outs)) : RInv r' :=
  runR_induct (P := fun _ r => RInv r) (fun _ _ e _ h => h.step e) (fun _ _ _ _ h hf => h.flush hf) hist
    (ds := []) (histIn_true hist) h hr

theorem runR_tiers {ds : TierDS} {r : Resolver} (h : SInv r.sorter) (ta : TierAttr ds r.sorter) (hist : List RStep)
    {r' : Resolver} {outs : List (List (PolicyKey × EpKey) × List Call)} (hr : runR r hist = some (r', outs)) :
    TierAttr (dsHist ds hist) r'.sorter :=
  (runR_induct (P := fun ds r => SInv r.sorter ∧ TierAttr ds r.sorter) (fun _ _ e _ h => ⟨h.1.step e, h.2.step h.1 e⟩)
    (fun _ _ _ _ h hf => ⟨h.1.flush hf, h.2.flush h.1 hf⟩) hist (histIn_true hist) ⟨h, ta⟩ hr).2

theorem runL_inv {K : PolicyKey → Prop} (hK : KeyU K) {r : Resolver} {L : Last} {ds : TierDS} (h : DInv K r L ds)
    (hist : List RStep) (hin : HistIn K hist) {r' : Resolver} {L' : Last} (hr : runL r L hist = some (r', L')) :
    DInv K r' L' (dsHist ds hist) :=
  runL_induct (P := fun ds r L => DInv K r L ds) (fun _ _ _ e he h => h.step hK e he)
    (fun _ _ _ _ _ h hf => h.flush hK hf) hist hin h hr

theorem runL_append (r : Resolver) (L : Last) (a b : List RStep) :
    runL r L (a ++ b) = (runL r L a).bind fun p => runL p.1 p.2 b := by
  induction a generalizing r L with
  | nil => rfl
  | cons st t ih =>
    cases st with
    | ev e => exact ih _ _
    | flush =>
      simp only [List.cons_append, runL]
      cases r.flush with
      | none => rfl
      | some x => exact ih _ _

theorem runL_append_flush {r : Resolver} {L : Last} (hist : List RStep) {r1 : Resolver} {L1 : Last}
    (h : runL r L (hist ++ [.flush]) = some (r1, L1)) :
    ∃ r0 L0 calls, runL r L hist = some (r0, L0) ∧ r0.flush = some (r1, calls) ∧ L1 = lastAfter L0 calls := by
  rw [runL_append] at h
  obtain ⟨⟨r0, L0⟩, h0, h1⟩ := Option.bind_eq_some_iff.1 h
  simp only [runL] at h1
  cases hf : r0.flush with
  | none => rw [hf] at h1; cases h1
  | some x => rw [hf] at h1; cases h1; exact ⟨r0, L0, _, h0, hf, rfl⟩

theorem dsHist_append (ds : TierDS) (a b : List RStep) : dsHist ds (a ++ b) = dsHist (dsHist ds a) b := by
  induction a generalizing ds with
  | nil => rfl
  | cons st t ih => cases st <;> simp only [List.cons_append, dsHist, ih]

theorem dsHist_append_flush (ds : TierDS) (hist : List RStep) : dsHist ds (hist ++ [.flush]) = dsHist ds hist :=
  dsHist_append ds hist [.flush]

/-- After a history followed by a flush that leaves the resolver in sync, the last update of EVERY endpoint —
re-emitted by that flush or not — is up to date. -/
theorem upToDate_after_flush {K : PolicyKey → Prop} (hK : KeyU K) {r : Resolver} {L : Last} {ds : TierDS}
    (h : DInv K r L ds) (hist : List RStep) (hin : HistIn K hist) {r' : Resolver} {L' : Last}
    (hr : runL r L (hist ++ [.flush]) = some (r', L')) (hs : r'.inSync = true) (e : EpKey) :
    UpToDate (dsHist ds hist) r' L' e := by
  obtain ⟨r0, L0, calls, h0, hf, rfl⟩ := runL_append_flush hist hr
  have hs0 : r0.inSync = true := by rw [← flush_inSync hf]; exact hs
  exact ((runL_inv hK h hist hin h0).flush hK hf).good e (by rw [flush_dirty hf hs0]; simp)

/-- The latch: for ALL histories, with status changes in ANY order (regressions after in-sync
included), after a flush the last update of every endpoint lists only policies that currently match
that endpoint — so a policy the ActiveRulesCalculator has just declared inactive (no match left) is
referenced by no endpoint update downstream. -/
theorem last_update_refs_live {K : PolicyKey → Prop} (hK : KeyU K) (hist : List RStep) (hin : HistIn K hist)
    {r : Resolver} {L : Last} (hr : runL {} (fun _ => none) (hist ++ [.flush]) = some (r, L))
    (e : EpKey) (u : EpUpd) (hu : L e = some (some u)) :
    ∀ t ∈ u.tiers, ∀ kv ∈ t.policies, (kv.key, e) ∈ r.matched := by
  cases hs : r.inSync with
  | false =>
    -- while the resolver has never been in sync nothing has been emitted
    rw [(runL_inv hK (DInv.init K) _ ((histIn_append hist [.flush]).2 ⟨hin, trivial⟩) hr).quiet hs e] at hu
    cases hu
  | true =>
    have hg := upToDate_after_flush hK (DInv.init K) hist hin hr hs e
    unfold UpToDate at hg
    cases hep : mget r.endpoints e with
    | none => rw [hep] at hg; rcases hg with x | x <;> (rw [x] at hu; cases hu)
    | some ep =>
      rw [hep] at hg
      obtain ⟨l, h1, h2⟩ := hg
      rw [h1] at hu
      cases hu
      exact fun t ht kv hkv => h2.matches ht hkv

/-- policy metadata table after a history: last policy update per key, deletions removed -/
def polHistory (ps : List (PolicyKey × PolMeta)) : List RStep → List (PolicyKey × PolMeta)
  | [] => ps
  | .ev (.policy k (some p)) :: t => polHistory (mset k (extractPolicyMetadata p) ps) t
  | .ev (.policy k none) :: t => polHistory (mdel k ps) t
  | _ :: t => polHistory ps t

/-- match relation after a history: match-started calls not yet followed by the match-stopped call -/
def matchedHistory (m : List (PolicyKey × EpKey)) : List RStep → List (PolicyKey × EpKey)
  | [] => m
  | .ev (.matchStarted p e) :: t => matchedHistory (sadd (p, e) m) t
  | .ev (.matchStopped p e) :: t => matchedHistory (sdel (p, e) m) t
  | _ :: t => matchedHistory m t

def epHistory (es : List (EpKey × EpData)) : List RStep → List (EpKey × EpData)
  | [] => es
  | .ev (.endpoint k (some v)) :: t => epHistory (mset k v es) t
  | .ev (.endpoint k none) :: t => epHistory (mdel k es) t
  | _ :: t => epHistory es t

structure Folds (r r' : Resolver) (hist : List RStep) : Prop where
  allPolicies : r'.allPolicies = polHistory r.allPolicies hist
  matched : r'.matched = matchedHistory r.matched hist
  endpoints : r'.endpoints = epHistory r.endpoints hist

theorem step_folds (r : Resolver) (ev : Event) : Folds r (r.step ev) [.ev ev] := by
  cases ev with
  | endpoint k v => cases v <;> exact ⟨rfl, rfl, rfl⟩
  | policy k v => rw [step_policy]; cases v <;> exact ⟨rfl, rfl, rfl⟩
  | tier n v => exact ⟨rfl, rfl, rfl⟩
  | status b => rw [step_status]; exact ⟨rfl, rfl, rfl⟩
  | matchStarted p e => rw [step_matchStarted]; exact ⟨rfl, rfl, rfl⟩
  | matchStopped p e => rw [step_matchStopped]; exact ⟨rfl, rfl, rfl⟩

/-- The resolver's policy table, match relation and endpoint table ARE the folds of the history (no
update is dropped or invented), whatever flushes happen in between. -/
theorem runL_folds {r : Resolver} {L : Last} (hist : List RStep) {r' : Resolver} {L' : Last}
    (hr : runL r L hist = some (r', L')) : Folds r r' hist := by
  induction hist generalizing r L with
  | nil => cases hr; exact ⟨rfl, rfl, rfl⟩
  | cons st t ih =>
    cases st with
    | ev e =>
      obtain ⟨a, b, c⟩ := ih (r := r.step e) hr
      obtain ⟨a1, b1, c1⟩ := step_folds r e
      refine ⟨a.trans ?_, b.trans ?_, c.trans ?_⟩
      all_goals
        first | rw [a1] | rw [b1] | rw [c1]
        rcases e with ⟨_, _ | _⟩ | ⟨_, _ | _⟩ | _ | _ | _ | _ <;> rfl
    | flush =>
      simp only [runL] at hr
      cases hf : r.flush with
      | none => rw [hf] at hr; cases hr
      | some x =>
        rw [hf] at hr
        obtain ⟨a, b, c⟩ := ih hr
        exact ⟨by rw [a, flush_allPolicies hf]; rfl, by rw [b, flush_matched hf]; rfl, by rw [c, flush_endpoints hf]; rfl⟩

theorem polHistory_append (ps : List (PolicyKey × PolMeta)) (a b : List RStep) :
    polHistory ps (a ++ b) = polHistory (polHistory ps a) b := by
  fun_induction polHistory ps a <;> simp_all [polHistory]

theorem matchedHistory_append (m : List (PolicyKey × EpKey)) (a b : List RStep) :
    matchedHistory m (a ++ b) = matchedHistory (matchedHistory m a) b := by
  fun_induction matchedHistory m a <;> simp_all [matchedHistory]

theorem epHistory_append (es : List (EpKey × EpData)) (a b : List RStep) :
    epHistory es (a ++ b) = epHistory (epHistory es a) b := by
  fun_induction epHistory es a <;> simp_all [epHistory]

theorem Folds.append_flush {r r' : Resolver} {hist : List RStep} (h : Folds r r' (hist ++ [.flush])) : Folds r r' hist :=
  ⟨h.allPolicies.trans (polHistory_append ..), h.matched.trans (matchedHistory_append ..),
    h.endpoints.trans (epHistory_append ..)⟩

end CalicoVerif.C03
