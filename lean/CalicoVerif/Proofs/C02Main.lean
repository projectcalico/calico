import CalicoVerif.Proofs.C02Ips
import CalicoVerif.Proofs.C02Flush
/-!
C02: the invariant `Inv` holds initially, is kept by every valid upstream call (which does not panic)
and by every flush phase, whose messages are well-formed; after a flush the dataplane state described
by the stream is the upstream-declared state.  `table` lists the phases of `Flush()` with what the
order between them has to guarantee.
-/
namespace CalicoVerif.C02

theorem Inv.init : Inv {} {} {} :=
  ⟨⟨by simp, by simp, by simp, by simp, by simp, by simp [mkeys], by simp, by simp, by simp⟩,
   CatInv.init _, CatInv.init _, CatInv.init _, CatInv.init _, CatInv.init _, fun _ => CatInv.init _⟩

theorem Inv.setIps {s : State} {u d : DP} (h : Inv s u d) {a r am rm st U D} (hc : IpsInv ⟨a, r, am, rm, st⟩ U D) :
    Inv { s with addedSets := a, removedSets := r, addedMem := am, removedMem := rm, sentSets := st }
      { u with ipsets := U } { d with ipsets := D } :=
  { h with ips := hc }

/-- `s'` is `s` up to the ready flag, the wireguard buffers and the encap / BGP slots: what neither the invariant
nor any `Buf` looks at. -/
def State.Rest (s s' : State) : Prop :=
  ∃ n wu wd w4 w6 e b,
    s' = { s with notReady := n, wgUpd := wu, wgDel := wd, sentWg := w4, sentWg6 := w6, encap := e, bgp := b }

theorem Inv.rest {s s' : State} {u d : DP} (h : Inv s u d) (hr : s.Rest s') : Inv s' u d := by
  obtain ⟨_, _, _, _, _, _, _, rfl⟩ := hr
  exact { h with }

theorem Buf.empty_rest {b : Buf} {s s' : State} (hr : s.Rest s') (h : b.empty s) : b.empty s' := by
  obtain ⟨_, _, _, _, _, _, _, rfl⟩ := hr
  exact Buf.empty_mono (h := h)

theorem setKnown_iff {s : State} {id : String} :
    s.setKnown id = true ↔ id ∈ s.sentSets ∨ (mget s.addedSets id).isSome := by
  simp [State.setKnown]

theorem call_ipsetAdded {s : State} {id : String} (typ : Nat) (h : ¬ (id ∈ s.sentSets ∧ id ∉ s.removedSets)) :
    s.call (.ipsetAdded id typ) =
      some { s with addedSets := mset id typ s.addedSets, removedSets := sdel id s.removedSets,
                    addedMem := s.addedMem.discardKey id, removedMem := s.removedMem.discardKey id } := by
  have : (decide (id ∈ s.sentSets) && !decide (id ∈ s.removedSets)) = false := by simpa using h
  simp only [State.call, this, Bool.false_eq_true, if_false]

theorem call_ipsetRemoved {s : State} {id : String} (h : s.setKnown id = true) :
    s.call (.ipsetRemoved id) =
      some { s with removedSets := if id ∈ s.sentSets then sadd id s.removedSets else s.removedSets,
                    addedSets := mdel id s.addedSets,
                    addedMem := s.addedMem.discardKey id, removedMem := s.removedMem.discardKey id } := by
  simp only [State.call, h, Bool.not_true, Bool.false_eq_true, if_false]

theorem call_memberAdded {s : State} {id : String} (m : String) (h : s.setKnown id = true) :
    s.call (.memberAdded id m) =
      some { s with addedMem := if s.removedMem.has id m then s.addedMem else s.addedMem.put id m,
                    removedMem := if s.removedMem.has id m then s.removedMem.discard id m else s.removedMem } := by
  simp only [State.call, h, Bool.not_true, Bool.false_eq_true, if_false]
  cases s.removedMem.has id m <;> rfl

theorem call_memberRemoved {s : State} {id : String} (m : String) (h : s.setKnown id = true) :
    s.call (.memberRemoved id m) =
      some { s with addedMem := if s.addedMem.has id m then s.addedMem.discard id m else s.addedMem,
                    removedMem := if s.addedMem.has id m then s.removedMem else s.removedMem.put id m } := by
  simp only [State.call, h, Bool.not_true, Bool.false_eq_true, if_false]
  cases s.addedMem.has id m <;> rfl

/-- A call allowed by the upstream protocol never panics and keeps the invariant, the declared state
moving by `upApply`. -/
theorem Inv.call {s : State} {u d : DP} (h : Inv s u d) (c : Call) (hv : upValid u c) :
    ∃ s', s.call c = some s' ∧ Inv s' (upApply u c) d := by
  cases c with
  | ipsetAdded id typ =>
    have := h.ips.ipsetAdded id typ hv
    exact ⟨_, call_ipsetAdded typ this.1, h.setIps this.2⟩
  | ipsetRemoved id =>
    have := h.ips.ipsetRemoved id hv
    exact ⟨_, call_ipsetRemoved (setKnown_iff.2 this.1), h.setIps this.2⟩
  | memberAdded id m =>
    obtain ⟨f, hf, hm⟩ := hv
    have := h.ips.memberAdded id m f hf hm
    simp only [upApply, hf]
    exact ⟨_, call_memberAdded m (setKnown_iff.2 this.1), h.setIps this.2⟩
  | memberRemoved id m =>
    obtain ⟨f, hf, hm⟩ := hv
    have := h.ips.memberRemoved id m f hf hm
    simp only [upApply, hf]
    exact ⟨_, call_memberRemoved m (setKnown_iff.2 this.1), h.setIps this.2⟩
  | policyActive k r => exact ⟨_, rfl, polSlot.inv_call h (h.pol.onUpdate k r)⟩
  | policyInactive k => exact ⟨_, rfl, polSlot.inv_call h (h.pol.onRemove k)⟩
  | profileActive k r => exact ⟨_, rfl, profSlot.inv_call h (h.prof.onUpdate k r)⟩
  | profileInactive k => exact ⟨_, rfl, profSlot.inv_call h (h.prof.onRemove k)⟩
  | endpointUpdate k v =>
    cases v with
    | some v => exact ⟨_, rfl, epSlot.inv_call h (h.ep.onUpdate k v)⟩
    | none => exact ⟨_, rfl, epSlot.inv_call h (h.ep.onRemove k)⟩
  | genUpdate c k t => exact ⟨_, rfl, (genSlot c).inv_call h ((h.gen c).onUpdate k t)⟩
  | genRemove c k => exact ⟨_, rfl, (genSlot c).inv_call h ((h.gen c).onRemove k)⟩
  | routeUpdate dst r => exact ⟨_, rfl, routeSlot.inv_call h (h.route.onUpdate dst r)⟩
  | routeRemove dst => exact ⟨_, rfl, routeSlot.inv_call h (h.route.onRemove dst)⟩
  | vtepUpdate n t => exact ⟨_, rfl, vtepSlot.inv_call h (h.vtep.onUpdate n t)⟩
  | vtepRemove n => exact ⟨_, rfl, vtepSlot.inv_call h (h.vtep.onRemove n)⟩
  | notReady | wgUpdate _ _ | wgRemove _ | encap _ | bgp _ => exact ⟨_, rfl, h.rest ⟨_, _, _, _, _, _, _, rfl⟩⟩

def Inert (m : Msg) : Prop := ∀ d, d.apply m = d ∧ WF d m

theorem inert_list {ms : List Msg} (h : ∀ m ∈ ms, Inert m) (d : DP) : d.applyAll ms = d ∧ AllWF d ms := by
  induction ms with
  | nil => exact ⟨rfl, trivial⟩
  | cons m t ih =>
    have hm := h m List.mem_cons_self d
    have := ih fun m' hm' => h m' (List.mem_cons_of_mem _ hm')
    simp only [applyAll_cons, AllWF, hm.1, hm.2, this, and_self]

def MsgCat.inert : MsgCat → Bool
  | .ready | .wg | .encap | .bgp | .inSync => true
  | _ => false

theorem inert_of_cat {m : Msg} (h : m.cat.inert = true) : Inert m := by
  cases m <;> first | contradiction | exact fun _ => ⟨rfl, trivial⟩

theorem inertEntry_sound {p : Phase} {c : MsgCat} (hc : c.inert = true)
    (hm : ∀ s, ∀ m ∈ (p s).2, m.cat = c)
    (hs : ∀ s : State, s.Rest (p s).1) : Entry.Sound ⟨p, c, [], []⟩ where
  emits := hm
  keeps _ s := Buf.empty_rest (hs s)
  clears _ hb := nomatch hb
  ok s u d h _ := by
    have := inert_list (fun m hm' => inert_of_cat (hm s m hm' ▸ hc)) d
    rw [this.1]
    exact ⟨this.2, h.rest (hs s)⟩

theorem readyFlag_spec (s : State) :
    (flushReadyFlag s).1 = { s with notReady := false } ∧ ∀ m ∈ (flushReadyFlag s).2, m.cat = .ready := by
  unfold flushReadyFlag
  split
  · exact ⟨rfl, fun m hm => List.mem_singleton.1 hm ▸ rfl⟩
  · next h =>
    constructor
    · cases s; dsimp only at h; rw [Bool.eq_false_iff.2 h]
    · intro m hm; cases hm

theorem encap_spec (s : State) :
    (flushEncap s).1 = { s with encap := none } ∧ ∀ m ∈ (flushEncap s).2, m.cat = .encap := by
  unfold flushEncap
  split
  · exact ⟨rfl, fun m hm => List.mem_singleton.1 hm ▸ rfl⟩
  · next h =>
    constructor
    · cases s; dsimp only at h; rw [h]
    · intro m hm; cases hm

theorem bgp_spec (s : State) :
    (flushBGP s).1 = { s with bgp := none } ∧ ∀ m ∈ (flushBGP s).2, m.cat = .bgp := by
  unfold flushBGP
  split
  · exact ⟨rfl, fun m hm => List.mem_singleton.1 hm ▸ rfl⟩
  · next h =>
    constructor
    · cases s; dsimp only at h; rw [h]
    · intro m hm; cases hm

def readyFlagEntry : Entry := ⟨flushReadyFlag, .ready, [], []⟩

theorem readyFlag_sound : readyFlagEntry.Sound :=
  inertEntry_sound rfl (fun s => (readyFlag_spec s).2) fun s => ⟨_, _, _, _, _, _, _, (readyFlag_spec s).1⟩

def encapEntry : Entry := ⟨flushEncap, .encap, [], []⟩

theorem encap_sound : encapEntry.Sound :=
  inertEntry_sound rfl (fun s => (encap_spec s).2) fun s => ⟨_, _, _, _, _, _, _, (encap_spec s).1⟩

def bgpEntry : Entry := ⟨flushBGP, .bgp, [], []⟩

theorem bgp_sound : bgpEntry.Sound :=
  inertEntry_sound rfl (fun s => (bgp_spec s).2) fun s => ⟨_, _, _, _, _, _, _, (bgp_spec s).1⟩

section lists
variable {P : Msg → Prop}

theorem all_snoc {ms : List Msg} {m : Msg} (h : ∀ x ∈ ms, P x) (hm : P m) : ∀ x ∈ ms ++ [m], P x := fun x hx =>
  (List.mem_append.1 hx).elim (h x) fun hx => List.mem_singleton.1 hx ▸ hm

theorem all_ite {σ : Type} {c : Prop} [Decidable c] {x y : σ × List Msg} (hx : ∀ m ∈ x.2, P m)
    (hy : ∀ m ∈ y.2, P m) : ∀ m ∈ (if c then x else y).2, P m := by
  split
  · exact hx
  · exact hy

end lists

def wgDeletesEntry : Entry := ⟨flushWgDeletes, .wg, [], []⟩

theorem wgDeletes_sound : wgDeletesEntry.Sound :=
  inertEntry_sound rfl
    (fun s => by
      simp only [flushWgDeletes]
      -- the fold carries the message list as last accumulator; the v6 step appends to the list the v4 step leaves
      refine List.foldlRecOn (motive := fun acc : List String × List String × List Msg => ∀ m ∈ acc.2.2, m.cat = MsgCat.wg)
        _ _ (fun _ h => nomatch h) ?_
      intro ⟨s4, s6, ms⟩ hacc k _
      refine all_ite (all_snoc ?_ rfl) ?_ <;> exact all_ite (all_snoc hacc rfl) hacc)
    fun s => ⟨_, _, _, _, _, _, _, rfl⟩

def wgUpdatesEntry : Entry := ⟨flushWgUpdates, .wg, [], []⟩

theorem wgUpdates_sound : wgUpdatesEntry.Sound :=
  inertEntry_sound rfl
    (fun s => by
      simp only [flushWgUpdates]
      refine List.foldlRecOn (motive := fun acc : List String × List String × List Msg => ∀ m ∈ acc.2.2, m.cat = MsgCat.wg)
        _ _ (fun _ h => nomatch h) ?_
      intro ⟨s4, s6, ms⟩ hacc ⟨n, wg⟩ _
      refine all_ite (all_snoc ?_ rfl) (all_ite (all_snoc ?_ rfl) ?_) <;>
        exact all_ite (all_snoc hacc rfl) (all_ite (all_snoc hacc rfl) hacc))
    fun s => ⟨_, _, _, _, _, _, _, rfl⟩

theorem applyAll_deltas (A R : String → List String) (l : List String) (hn : l.Nodup) (d : DP)
    (hp : ∀ id ∈ l, ∃ f, d.ipsets id = some f ∧ (∀ m ∈ A id, f m = false) ∧ (∀ m ∈ R id, f m = true)) :
    d.applyAll (l.map (fun id => Msg.ipsetDelta id (A id) (R id))) =
      { d with ipsets := fun k => if k ∈ l then (d.ipsets k).map (deltaFn A R k) else d.ipsets k } ∧
    AllWF d (l.map (fun id => Msg.ipsetDelta id (A id) (R id))) := by
  induction l generalizing d with
  | nil => exact ⟨by simp [applyAll_nil], trivial⟩
  | cons id t ih =>
    simp only [List.nodup_cons] at hn
    obtain ⟨f, hf, hA, hR⟩ := hp id (by simp)
    have hstep : d.apply (Msg.ipsetDelta id (A id) (R id)) =
        { d with ipsets := fupd d.ipsets id (some (deltaFn A R id f)) } := by
      simp only [DP.apply, hf]; rfl
    have hp' : ∀ id' ∈ t, ∃ f', ({ d with ipsets := fupd d.ipsets id (some (deltaFn A R id f)) } : DP).ipsets id' = some f' ∧
        (∀ m ∈ A id', f' m = false) ∧ (∀ m ∈ R id', f' m = true) := by
      intro id' hid'
      have hne : id' ≠ id := fun e => hn.1 (e ▸ hid')
      simp only [fupd, hne, if_false]
      exact hp id' (by simp [hid'])
    have := ih hn.2 _ hp'
    simp only [List.map_cons, applyAll_cons, AllWF, hstep]
    refine ⟨?_, ⟨f, hf, hA, hR⟩, this.2⟩
    rw [this.1]
    congr 1
    funext k
    simp only [List.mem_cons, fupd]
    by_cases hk : k = id
    · subst hk; simp [hn.1, hf]
    · simp [hk]

theorem foldl_discardKey_nil (l : List String) {md : MD} (h : md = []) :
    l.foldl (fun (md : MD) id => md.discardKey id) md = [] :=
  List.foldlRecOn (motive := (· = [])) l _ h fun _ e _ _ => by subst e; rfl

def addedIPSetsEntry : Entry := ⟨flushAddedIPSets, .ipset, [], [.addedSets]⟩

theorem addedIPSets_sound : addedIPSetsEntry.Sound where
  emits _ _ hm := let ⟨_, _, e⟩ := List.mem_map.1 hm; e ▸ rfl
  keeps _ s := Buf.empty_mono (ha := fun _ => rfl) (ham := foldl_discardKey_nil _)
  clears _ hb _ := by cases List.mem_singleton.1 hb; rfl
  ok s u d h _ := by
    obtain ⟨e, w⟩ := applyAll_ipsetUpdates s.addedMem.iter s.addedSets h.ips.addNodup d
    exact ⟨w, e ▸ h.setIps h.ips.flushAdded⟩

def ipsetDeltasEntry : Entry := ⟨flushIPSetDeltas, .ipset, [.addedSets], [.addedMem, .removedMem]⟩

/-- `flushIPSetDeltas` is sound only once the pending IP set adds have been flushed (a pending delta of
a set not yet sent names a set the dataplane lacks). -/
theorem ipsetDeltas_sound : ipsetDeltasEntry.Sound where
  emits _ _ hm := let ⟨_, _, e⟩ := List.mem_map.1 hm; e ▸ rfl
  keeps _ s := Buf.empty_mono (ham := fun _ => rfl) (hrm := fun _ => rfl)
  clears
    | _, .head _, _ => rfl
    | _, .tail _ (.head _), _ => rfl
  ok s u d h hn := by
    obtain ⟨hn, hp, hinv⟩ := h.ips.flushDeltas (hn .addedSets (.head _))
    obtain ⟨e, w⟩ := applyAll_deltas _ _ _ hn d hp
    exact ⟨w, e ▸ h.setIps hinv⟩

def removedIPSetsEntry : Entry := ⟨flushRemovedIPSets, .ipset, [.upd .pol, .del .pol, .upd .prof, .del .prof], [.removedSets]⟩

theorem removedIPSets_sound : removedIPSetsEntry.Sound where
  emits _ _ hm := let ⟨_, _, e⟩ := List.mem_map.1 hm; e ▸ rfl
  keeps _ s := Buf.empty_mono (hr := fun _ => rfl) (ham := foldl_discardKey_nil _)
    (hrm := foldl_discardKey_nil _)
  clears _ hb _ := by cases List.mem_singleton.1 hb; rfl
  ok s u d h _ := by
    obtain ⟨hn, hp, hinv⟩ := h.ips.flushRemoved
    obtain ⟨e, hw⟩ := (ipsLens fun _ => []).applyDels d s.removedSets hn hp
    exact ⟨hw, e ▸ h.setIps hinv⟩

/-- The phases of `EventSequencer.Flush` in their order, each with the buffers that must be empty when it
runs: referenced objects are sent before what refers to them and removed after it.  Soundness reads one
`needs` only (`ipsetDeltasEntry`: a delta of a set not yet sent is ill-formed); all the others are what
reference closure after every message asks for (`flush_closed`, `flush_closed_routes`). -/
def table : List Entry :=
  [readyFlagEntry, addedIPSetsEntry, ipsetDeltasEntry,
   polSlot.updEntry [.addedSets], profSlot.updEntry [.addedSets], epSlot.updEntry [.upd .pol, .upd .prof],
   epSlot.delEntry [], profSlot.delEntry [.upd .ep, .del .ep], polSlot.delEntry [.upd .ep, .del .ep],
   removedIPSetsEntry, (genSlot .sa).delUpdEntry, (genSlot .ns).delUpdEntry,
   routeSlot.delEntry [], vtepSlot.updEntry [], routeSlot.updEntry [.upd .vtep], vtepSlot.delEntry [.upd .route, .del .route],
   wgDeletesEntry, wgUpdatesEntry, (genSlot .host).delUpdEntry, (genSlot .pool).delUpdEntry,
   encapEntry, bgpEntry, (genSlot .svc).delUpdEntry]

theorem table_run : table.map (·.run) = flushPhases := rfl

theorem table_ordered : Ordered [] table = true := by decide +kernel

theorem table_sound : ∀ e ∈ table, e.Sound := by
  simp only [table, List.forall_mem_cons]
  exact ⟨readyFlag_sound, addedIPSets_sound, ipsetDeltas_sound, polSlot.updEntry_sound _, profSlot.updEntry_sound _,
    epSlot.updEntry_sound _, epSlot.delEntry_sound _, profSlot.delEntry_sound _, polSlot.delEntry_sound _,
    removedIPSets_sound, (genSlot _).delUpdEntry_sound, (genSlot _).delUpdEntry_sound, routeSlot.delEntry_sound _,
    vtepSlot.updEntry_sound _, routeSlot.updEntry_sound _, vtepSlot.delEntry_sound _, wgDeletes_sound, wgUpdates_sound,
    (genSlot _).delUpdEntry_sound, (genSlot _).delUpdEntry_sound, encap_sound, bgp_sound, (genSlot _).delUpdEntry_sound,
    fun _ h => nomatch h⟩

/-- `EventSequencer.Flush` as a whole, for a property `P` of the dataplane state that only messages of
the kinds `fp` can break: it is enough that the phases emitting these kinds maintain it. -/
theorem flush_sound {C P : DP → Prop} (fp : MsgCat → Bool) (hfp : ∀ m : Msg, fp m.cat = false → ∀ d, P d → P (d.apply m))
    (hm : ∀ e ∈ table, fp e.cat = true → e.Maintains C P) {s : State} {u d : DP} (hi : Inv s u d) (hu : C u) (hd : P d) :
    RunOK P u d s.flush (table.foldl (fun E e => e.clears ++ E) []) := by
  have := runPhases_sound table_sound
    (fun e he => match h : fp e.cat with
      | true => hm e he h
      | false => (table_sound e he).maintains hfp h)
    table_ordered hi hu (fun _ h => nomatch h) hd
  rwa [table_run] at this

/-- Every buffer is flushed by some phase. -/
theorem table_clears (b : Buf) : b ∈ table.foldl (fun E e => e.clears ++ E) [] := by
  rcases b with (_|_|_|_|⟨_|_|_|_|_|⟨_|_|_|_|_⟩⟩|⟨_|_|_|_|_|⟨_|_|_|_|_⟩⟩) <;> decide +kernel

theorem flush_plain {s : State} {u d : DP} (hi : Inv s u d) :
    RunOK (fun _ => True) u d s.flush (table.foldl (fun E e => e.clears ++ E) []) :=
  flush_sound (C := fun _ => True) (fun _ => false) (fun _ _ _ _ => trivial) (fun _ _ h => nomatch h) hi trivial trivial

/-- `EventSequencer.Flush` as a whole keeps the invariant and emits only well-formed messages. -/
theorem flush_ok (s : State) (u d : DP) (hi : Inv s u d) :
    AllWF d s.flush.2 ∧ Inv s.flush.1 u (d.applyAll s.flush.2) :=
  ⟨(flush_plain hi).wf, (flush_plain hi).inv⟩

theorem DP.ext' {d u : DP} (h1 : d.ipsets = u.ipsets) (h2 : d.pol = u.pol) (h3 : d.prof = u.prof) (h4 : d.ep = u.ep)
    (h5 : d.vtep = u.vtep) (h6 : d.route = u.route) (h7 : d.gen = u.gen) : d = u := by
  cases d; cases u; dsimp only at *; subst_vars; rfl

/-- Coalescing is sound: after a flush the dataplane state described by the stream IS the
upstream-declared state. -/
theorem flush_synced {s : State} {u d : DP} (h : Inv s u d) : d.applyAll s.flush.2 = u := by
  obtain ⟨hips, hpol, hprof, hep, hvtep, hroute, hgen⟩ := (flush_plain h).inv
  have e (b : Buf) : b.empty s.flush.1 := (flush_plain h).cleared b (table_clears b)
  refine (DP.ext' ?_ ?_ ?_ ?_ ?_ ?_ ?_).symm
  · exact hips.synced (e .addedSets) (e .removedSets) (e .addedMem) (e .removedMem)
  · exact hpol.synced (e (.upd .pol)) (e (.del .pol))
  · exact hprof.synced (e (.upd .prof)) (e (.del .prof))
  · exact hep.synced (e (.upd .ep)) (e (.del .ep))
  · exact hvtep.synced (e (.upd .vtep)) (e (.del .vtep))
  · exact hroute.synced (e (.upd .route)) (e (.del .route))
  · funext c
    exact (hgen c).synced (e (.upd (.gen c))) (e (.del (.gen c)))

end CalicoVerif.C02
