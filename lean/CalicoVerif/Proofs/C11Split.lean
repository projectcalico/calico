import CalicoVerif.Proofs.C11Shape
/-!
C11 — `expand` when no trampoline is written (every block stays below the trampoline stride): the builder's split
fold in closed form, `cont` (the rest of the current block, the later blocks), with `expand_cont`; and its case without
any split — splitting disabled, or fewer jump-class instructions than the per-program limit — where `expand` is the
identity on the builder's plain events (`expand_one`).  In between: what feeding an event to a block does to its
tables of unresolved (`fix`) and used (`use`) labels (`mem_raw_fix`, `mem_raw_use`), on which closedness (`C11Total`),
the trampoline proof (`C11Tramp`) and the chain simulation (`C11Chain`) rest.
-/
namespace CalicoVerif.C11

theorem mem_insertLabel (x l : Label) (ls : List Label) : x ∈ insertLabel l ls ↔ x = l ∨ x ∈ ls := by
  induction ls with
  | nil => simp [insertLabel]
  | cons y ys ih =>
    unfold insertLabel
    split
    · simp
    · simp only [List.mem_cons, ih]
      constructor
      · rintro (h | h | h)
        · exact Or.inr (Or.inl h)
        · exact Or.inl h
        · exact Or.inr (Or.inr h)
      · rintro (h | h | h)
        · exact Or.inr (Or.inl h)
        · exact Or.inl h
        · exact Or.inr (Or.inr h)

theorem mem_sortLabels (x : Label) (ls : List Label) : x ∈ sortLabels ls ↔ x ∈ ls := by
  unfold sortLabels
  induction ls with
  | nil => simp
  | cons y ys ih => simp only [List.foldr_cons, mem_insertLabel, ih, List.mem_cons]


theorem raw_out (b : BlockSt) (e : Ev) : (b.raw e).out = e :: b.out := by
  cases e <;> simp only [BlockSt.raw] <;> (try split) <;> rfl

theorem raw_len (b : BlockSt) (e : Ev) : (b.raw e).len ≤ b.len + 1 := by
  cases e <;> simp only [BlockSt.raw] <;> (try split) <;> simp

theorem raw_lastTramp (b : BlockSt) (e : Ev) : (b.raw e).lastTrampAddr = b.lastTrampAddr := by
  cases e <;> simp only [BlockSt.raw] <;> (try split) <;> rfl

theorem add_eq_raw (stride : Nat) (b : BlockSt) (e : Ev) (h : b.len - b.lastTrampAddr < stride) :
    b.add stride e = b.raw e := by
  unfold BlockSt.add
  cases evOp e with
  | none => rfl
  | some op =>
    have : ¬ (b.len - b.lastTrampAddr ≥ stride) := by omega
    simp [this]

def rawAll (b : BlockSt) (es : List Ev) : BlockSt := es.foldl BlockSt.raw b

theorem rawAll_append (b : BlockSt) (a c : List Ev) : rawAll b (a ++ c) = rawAll (rawAll b a) c := by
  simp [rawAll, List.foldl_append]

theorem rawAll_cons (b : BlockSt) (e : Ev) (es : List Ev) : rawAll b (e :: es) = rawAll (b.raw e) es := rfl

/-- The model spells the fold out (`BlockSt.add`, `trampolineEvs`); the lemmas speak of `rawAll`. -/
theorem foldl_raw (es : List Ev) (b : BlockSt) : es.foldl BlockSt.raw b = rawAll b es := rfl

theorem rawAll_ind {P : BlockSt → Prop} (h : ∀ b e, P b → P (b.raw e)) :
    ∀ (es : List Ev) (b : BlockSt), P b → P (rawAll b es)
  | [], _, hb => hb
  | e :: es, b, hb => rawAll_ind h es (b.raw e) (h b e hb)

theorem rawAll_out : ∀ (es : List Ev) (b : BlockSt), (rawAll b es).out = es.reverse ++ b.out
  | [], _ => rfl
  | e :: es, b => by rw [rawAll_cons, rawAll_out es, raw_out, List.reverse_cons, List.append_assoc]; rfl

theorem raw_trampEnabled (b : BlockSt) (e : Ev) : (b.raw e).trampEnabled = b.trampEnabled := by
  cases e <;> simp only [BlockSt.raw] <;> (try split) <;> rfl

theorem raw_len_out (b : BlockSt) (e : Ev) (h : b.len ≤ b.out.length) : (b.raw e).len ≤ (b.raw e).out.length := by
  have h1 := raw_len b e
  rw [raw_out]; simp only [List.length_cons]; omega

theorem add_disabled (stride : Nat) (b : BlockSt) (e : Ev) (h : b.trampEnabled = false) : b.add stride e = b.raw e := by
  unfold BlockSt.add
  cases evOp e with
  | none => rfl
  | some op => simp [h]

theorem addAll_disabled (stride : Nat) : ∀ (es : List Ev) (b : BlockSt), b.trampEnabled = false →
    es.foldl (BlockSt.add stride) b = rawAll b es := by
  intro es
  induction es with
  | nil => intro b _; rfl
  | cons e es ih =>
    intro b h
    rw [List.foldl_cons, add_disabled stride b e h, ih _ (by rw [raw_trampEnabled]; exact h)]
    rfl

theorem addAll_short (stride : Nat) : ∀ (es : List Ev) (b : BlockSt), b.lastTrampAddr = 0 → b.len ≤ b.out.length →
    b.out.length + es.length ≤ stride → es.foldl (BlockSt.add stride) b = rawAll b es := by
  intro es
  induction es with
  | nil => intro b _ _ _; rfl
  | cons e es ih =>
    intro b h0 hl hs
    simp only [List.length_cons] at hs
    rw [List.foldl_cons, add_eq_raw stride b e (by omega)]
    exact ih _ (by rw [raw_lastTramp]; exact h0) (raw_len_out b e hl) (by rw [raw_out]; simp only [List.length_cons]; omega)

theorem rawAll_trampEnabled (b : BlockSt) (es : List Ev) : (rawAll b es).trampEnabled = b.trampEnabled :=
  rawAll_ind (P := fun b' => b'.trampEnabled = b.trampEnabled) (fun b' e h => (raw_trampEnabled b' e).trans h) es b rfl

theorem rawAll_lastTramp (b : BlockSt) (es : List Ev) : (rawAll b es).lastTrampAddr = b.lastTrampAddr :=
  rawAll_ind (P := fun b' => b'.lastTrampAddr = b.lastTrampAddr) (fun b' e h => (raw_lastTramp b' e).trans h) es b rfl

theorem rawAll_len_out (b : BlockSt) (es : List Ev) (h : b.len ≤ b.out.length) :
    (rawAll b es).len ≤ (rawAll b es).out.length :=
  rawAll_ind (P := fun b' => b'.len ≤ b'.out.length) raw_len_out es b h

/-- `mov r0, 0; goto next-program` and the copy of the footer that ends a split-off program. -/
def glueHead (c : Cfg) (xdp : Bool) : List Ev := [movImm64 R0 0, jump .nextProgram] ++ footerEvs c xdp

/-- The unresolved jump targets at a split (sorted), for which landing pads are written. -/
def splitTargets (c : Cfg) (xdp : Bool) (s : SplitSt) : List Label :=
  (sortLabels (rawAll { s.cur with trampEnabled := false } (glueHead c xdp)).fix).filter (· != .nextProgram)

def splitIdx (c : Cfg) (s : SplitSt) : Int := c.policyMapIndex + ((s.done.length + 1 : Nat) : Int) * c.policyMapStride

/-- The `next-program` block: stash R0 in `pol_rc`, tail-call the next program. -/
def npBlock (c : Cfg) (xdp : Bool) (idx : Int) : List Ev :=
  [.label .nextProgram, store32 R9 R0 stateOffPolResult, mov64 R1 R6] ++ loadMapFD R2 c.policyJumpMapFD ++
    [movImm64 R3 idx, call helperTailCall] ++ exitTargetEvs xdp

def glueTail (c : Cfg) (xdp : Bool) (s : SplitSt) : List Ev :=
  landingPads (splitTargets c xdp s) 0 ++ npBlock c xdp (splitIdx c s)

def glueEvs (c : Cfg) (xdp : Bool) (s : SplitSt) : List Ev := glueHead c xdp ++ glueTail c xdp s

/-- What a split-off continuation program starts with. -/
def preEvs (c : Cfg) (T : List Label) (R : List Ev) : List Ev :=
  headerEvs c ++ [load32 R0 R9 stateOffPolResult, movImm32 R1 0, store32 R9 R1 stateOffPolResult] ++
    trampolineJumps T 0 ++ R

/-- The state after a split (trampolines ignored). -/
def splitState (c : Cfg) (xdp : Bool) (s : SplitSt) (R : List Ev) : SplitSt :=
  { done := (rawAll { s.cur with trampEnabled := false } (glueEvs c xdp s)).out.reverse :: s.done,
    cur := rawAll {} (preEvs c (splitTargets c xdp s) R) }

def willSplit (c : Cfg) (s : SplitSt) : Bool := !(decide (s.cur.numJumps < c.maxJumps)) && !(c.policyMapStride == 0)

/-- The split fold continued from `s`: (remaining events of the current block, later blocks). -/
def cont (c : Cfg) (xdp : Bool) : List BEv → SplitSt → List Ev × List (List Ev)
  | [], _ => ([], [])
  | .ev e :: S, s => (e :: (cont c xdp S { s with cur := s.cur.raw e }).1, (cont c xdp S { s with cur := s.cur.raw e }).2)
  | .maybeSplit R :: S, s =>
    if willSplit c s then
      (glueEvs c xdp s,
        (preEvs c (splitTargets c xdp s) R ++ (cont c xdp S (splitState c xdp s R)).1) ::
          (cont c xdp S (splitState c xdp s R)).2)
    else cont c xdp S s

theorem maybeSplit_of_not (c : Cfg) (xdp : Bool) (s : SplitSt) (R : List Ev) (hw : willSplit c s = false) :
    s.maybeSplit c xdp R = s := by
  unfold SplitSt.maybeSplit
  unfold willSplit at hw
  by_cases h1 : s.cur.numJumps < c.maxJumps
  · simp [h1]
  · by_cases h2 : c.policyMapStride = 0
    · simp [h1, h2]
    · simp [h1, h2] at hw

/-- At a split no trampoline is written: they are switched off for the glue, and the start of the
continuation program is shorter than the stride. -/
theorem maybeSplit_of_will (c : Cfg) (xdp : Bool) (s : SplitSt) (R : List Ev) (hw : willSplit c s = true)
    (hpre : (preEvs c (splitTargets c xdp s) R).length ≤ c.trampolineStride) :
    s.maybeSplit c xdp R = splitState c xdp s R := by
  simp only [willSplit, Bool.and_eq_true, Bool.not_eq_true', decide_eq_false_iff_not, beq_eq_false_iff_ne] at hw
  unfold SplitSt.maybeSplit
  rw [if_neg hw.1, if_neg (by simpa using hw.2)]
  simp only [SplitSt.addAll]
  have h1 : List.foldl (BlockSt.add c.trampolineStride) ({ s.cur with trampEnabled := false } : BlockSt)
      ([movImm64 R0 0, jump Label.nextProgram] ++ footerEvs c xdp) =
      rawAll { s.cur with trampEnabled := false } ([movImm64 R0 0, jump Label.nextProgram] ++ footerEvs c xdp) :=
    addAll_disabled _ _ _ rfl
  simp only [h1]
  rw [addAll_disabled _ _ _ (by rw [rawAll_trampEnabled]),
    addAll_short c.trampolineStride _ ({} : BlockSt) rfl (Nat.le_refl _) (by simpa [preEvs, splitTargets, glueHead] using hpre)]
  simp only [splitState, glueEvs, glueHead, glueTail, splitTargets, splitIdx, npBlock, preEvs, rawAll_append,
    List.append_assoc]

/-- No block of the split build exceeds the trampoline stride (so no trampoline is written). -/
def ShortBlocks (c : Cfg) (xdp : Bool) (S : List BEv) (s : SplitSt) : Prop :=
  s.cur.out.length + (cont c xdp S s).1.length ≤ c.trampolineStride ∧
  ∀ b ∈ (cont c xdp S s).2, b.length ≤ c.trampolineStride

theorem cont_evs (c : Cfg) (xdp : Bool) (S : List BEv) :
    ∀ (B : List Ev) (s : SplitSt),
      cont c xdp (B.map BEv.ev ++ S) s =
        (B ++ (cont c xdp S { s with cur := rawAll s.cur B }).1, (cont c xdp S { s with cur := rawAll s.cur B }).2) := by
  intro B
  induction B with
  | nil => intro s; rfl
  | cons e r ih =>
    intro s
    simp only [List.map_cons, List.cons_append, cont, ih]
    rfl

theorem cont_marker_split (c : Cfg) (xdp : Bool) (R : List Ev) (S : List BEv) (s : SplitSt) (hw : willSplit c s = true) :
    cont c xdp (BEv.maybeSplit R :: S) s =
      (glueEvs c xdp s, (preEvs c (splitTargets c xdp s) R ++ (cont c xdp S (splitState c xdp s R)).1) ::
        (cont c xdp S (splitState c xdp s R)).2) := by
  simp [cont, hw]

theorem cont_marker_nosplit (c : Cfg) (xdp : Bool) (R : List Ev) (S : List BEv) (s : SplitSt) (hw : willSplit c s = false) :
    cont c xdp (BEv.maybeSplit R :: S) s = cont c xdp S s := by
  simp [cont, hw]

theorem splitState_done (c : Cfg) (xdp : Bool) (s : SplitSt) (R : List Ev) :
    (splitState c xdp s R).done.length = s.done.length + 1 := by simp [splitState]

theorem splitState_cur (c : Cfg) (xdp : Bool) (s : SplitSt) (R : List Ev) :
    (splitState c xdp s R).cur = rawAll {} (preEvs c (splitTargets c xdp s) R) := by
  simp only [splitState]

theorem ShortBlocks.evs {c : Cfg} {xdp : Bool} {S : List BEv} {B : List Ev} {s : SplitSt}
    (h : ShortBlocks c xdp (B.map BEv.ev ++ S) s) : ShortBlocks c xdp S { s with cur := rawAll s.cur B } := by
  obtain ⟨h1, h2⟩ := h
  rw [cont_evs] at h1 h2
  refine ⟨?_, h2⟩
  simp only [rawAll_out, List.length_append, List.length_reverse] at h1 ⊢
  omega

theorem ShortBlocks.nosplit {c : Cfg} {xdp : Bool} {R : List Ev} {S : List BEv} {s : SplitSt}
    (h : ShortBlocks c xdp (BEv.maybeSplit R :: S) s) (hw : willSplit c s = false) : ShortBlocks c xdp S s := by
  unfold ShortBlocks at h ⊢
  rwa [cont_marker_nosplit _ _ _ _ _ hw] at h

theorem ShortBlocks.split {c : Cfg} {xdp : Bool} {R : List Ev} {S : List BEv} {s : SplitSt}
    (h : ShortBlocks c xdp (BEv.maybeSplit R :: S) s) (hw : willSplit c s = true) :
    s.cur.out.length + (glueEvs c xdp s).length ≤ c.trampolineStride ∧
    (preEvs c (splitTargets c xdp s) R).length ≤ c.trampolineStride ∧
    ShortBlocks c xdp S (splitState c xdp s R) := by
  obtain ⟨h1, h2⟩ := h
  rw [cont_marker_split _ _ _ _ _ hw] at h1 h2
  have hb := h2 _ List.mem_cons_self
  rw [List.length_append] at hb
  refine ⟨h1, by omega, ?_, fun b hb' => h2 b (List.mem_cons_of_mem _ hb')⟩
  rw [splitState_cur, rawAll_out]
  simpa using hb

theorem foldl_cont (c : Cfg) (xdp : Bool) :
    ∀ (S : List BEv) (s : SplitSt), s.cur.lastTrampAddr = 0 → s.cur.len ≤ s.cur.out.length → ShortBlocks c xdp S s →
      ((S.foldl (SplitSt.step c xdp) s).cur.out.reverse :: (S.foldl (SplitSt.step c xdp) s).done).reverse =
        s.done.reverse ++ ((s.cur.out.reverse ++ (cont c xdp S s).1) :: (cont c xdp S s).2) := by
  intro S
  induction S with
  | nil => intro s _ _ _; simp [cont]
  | cons b S ih =>
    intro s h0 hl hs
    cases b with
    | ev e =>
      obtain ⟨hs1, hs2⟩ := hs
      simp only [cont, List.length_cons] at hs1 hs2
      simp only [List.foldl_cons, SplitSt.step]
      rw [add_eq_raw c.trampolineStride s.cur e (by omega),
        ih { s with cur := s.cur.raw e } (by simpa [raw_lastTramp] using h0) (raw_len_out s.cur e hl)
          ⟨by simp only [raw_out, List.length_cons]; omega, hs2⟩]
      simp [cont, raw_out]
    | maybeSplit R =>
      simp only [List.foldl_cons, SplitSt.step]
      cases hw : willSplit c s with
      | true =>
        obtain ⟨_, hpre, hsb⟩ := hs.split hw
        rw [maybeSplit_of_will c xdp s R hw hpre,
          ih (splitState c xdp s R) (by rw [splitState_cur, rawAll_lastTramp])
            (by rw [splitState_cur]; exact rawAll_len_out _ _ (Nat.le_refl _)) hsb,
          cont_marker_split _ _ _ _ _ hw]
        simp [splitState, rawAll_out]
      | false =>
        rw [maybeSplit_of_not c xdp s R hw, ih s h0 hl (hs.nosplit hw), cont_marker_nosplit _ _ _ _ _ hw]

theorem expand_cont (c : Cfg) (xdp : Bool) (bevs : List BEv) (hs : ShortBlocks c xdp bevs {}) :
    expand c xdp bevs = (cont c xdp bevs {}).1 :: (cont c xdp bevs {}).2 := by
  unfold expand
  have := foldl_cont c xdp bevs {} rfl (Nat.le_refl _) hs
  simpa using this

def BlockSt.reach (b : BlockSt) : Bool := reachable b.last b.pend b.use

theorem mem_raw_fix {b : BlockSt} {e : Ev} {l : Label} :
    l ∈ (b.raw e).fix ↔ (l ∈ b.fix ∧ e ≠ .label l) ∨ (b.reach = true ∧ ∃ i, e = .jmp i l) := by
  cases e with
  | label l' =>
    simp only [BlockSt.raw, List.mem_filter, bne_iff_ne, ne_eq, Ev.label.injEq, reduceCtorEq, exists_false, and_false,
      or_false]
    exact and_congr_right fun _ => ⟨fun h e => h e.symm, fun h e => h e.symm⟩
  | ins i =>
    simp only [BlockSt.raw, ne_eq, reduceCtorEq, not_false_eq_true, and_true, exists_false, and_false, or_false]
    split <;> rfl
  | jmp i l' =>
    simp only [BlockSt.raw, BlockSt.reach, ne_eq, reduceCtorEq, not_false_eq_true, and_true, Ev.jmp.injEq, exists_and_right,
      exists_eq', true_and]
    by_cases hr : reachable b.last b.pend b.use = true
    · by_cases hc : b.fix.contains l' = true
      · simp only [hr, hc, if_true, true_and]
        exact ⟨Or.inl, fun h => h.elim id fun e => e ▸ List.contains_iff_mem.1 hc⟩
      · simp only [hr, hc, if_true, true_and, List.mem_cons, Bool.false_eq_true, if_false]
        exact ⟨fun h => h.elim (fun e => Or.inr e.symm) Or.inl, fun h => h.elim Or.inr fun e => Or.inl e.symm⟩
    · simp [hr]

theorem mem_raw_use {b : BlockSt} {e : Ev} {l : Label} :
    l ∈ (b.raw e).use ↔ l ∈ b.use ∨ (b.reach = true ∧ ∃ i, e = .jmp i l) := by
  cases e with
  | label l' => simp [BlockSt.raw]
  | ins i => simp only [BlockSt.raw, reduceCtorEq, exists_false, and_false, or_false]; split <;> rfl
  | jmp i l' =>
    simp only [BlockSt.raw, BlockSt.reach, Ev.jmp.injEq, exists_and_right, exists_eq', true_and]
    by_cases hr : reachable b.last b.pend b.use = true
    · simp only [hr, if_true, List.mem_cons, true_and]
      exact ⟨fun h => h.elim (fun e => Or.inr e.symm) Or.inl, fun h => h.elim Or.inr fun e => Or.inl e.symm⟩
    · simp [hr]

theorem raw_use_mono (b : BlockSt) (e : Ev) (l : Label) (h : l ∈ b.use) : l ∈ (b.raw e).use :=
  mem_raw_use.2 (Or.inl h)

theorem raw_fix_mono (b : BlockSt) (e : Ev) (l : Label) (he : e ≠ .label l) (h : l ∈ b.fix) : l ∈ (b.raw e).fix :=
  mem_raw_fix.2 (Or.inl ⟨h, he⟩)

theorem raw_jmp_fix (b : BlockSt) (i : Insn) (l : Label) (hr : b.reach = true) :
    l ∈ (b.raw (.jmp i l)).fix ∧ l ∈ (b.raw (.jmp i l)).use :=
  ⟨mem_raw_fix.2 (Or.inr ⟨hr, i, rfl⟩), mem_raw_use.2 (Or.inr ⟨hr, i, rfl⟩)⟩

theorem rawAll_use_mono (B : List Ev) (b : BlockSt) (l : Label) (h : l ∈ b.use) : l ∈ (rawAll b B).use :=
  rawAll_ind (P := fun b' => l ∈ b'.use) (fun b' e h' => raw_use_mono b' e l h') B b h

theorem fix_persist : ∀ (evs : List Ev) (b : BlockSt) (l : Label), l ∈ b.fix →
    l ∈ labelsOf evs ∨ l ∈ (rawAll b evs).fix
  | [], _, _, h => Or.inr h
  | e :: es, b, l, h => by
    rw [mem_labelsOf_cons]
    by_cases he : e = .label l
    · exact Or.inl (Or.inl he)
    · exact (fix_persist es (b.raw e) l (raw_fix_mono b e l he h)).imp_left Or.inr

theorem rawAll_fix_from : ∀ (es : List Ev) (b : BlockSt) (l : Label), l ∈ (rawAll b es).fix →
    l ∈ b.fix ∨ ∃ i, Ev.jmp i l ∈ es
  | [], _, _, h => Or.inl h
  | e :: es, b, l, h => by
    rcases rawAll_fix_from es (b.raw e) l h with h' | ⟨i, hi⟩
    · rcases mem_raw_fix.1 h' with ⟨h'', _⟩ | ⟨_, i, rfl⟩
      · exact Or.inl h''
      · exact Or.inr ⟨i, List.mem_cons_self⟩
    · exact Or.inr ⟨i, List.mem_cons_of_mem _ hi⟩

theorem rawAll_fix_mono (B : List Ev) (l : Label) (hB : l ∉ labelsOf B) (b : BlockSt) (h : l ∈ b.fix) :
    l ∈ (rawAll b B).fix :=
  (fix_persist B b l h).resolve_left hB

/-- Number of jump-class instructions (conditional jumps, `JumpA`, `Call`, `Exit`) of an event list:
an upper bound for the `NumJumps` bookkeeping of the block. -/
def jumpCount : List Ev → Nat
  | [] => 0
  | .ins i :: r => (if i.isJumpClass then 1 else 0) + jumpCount r
  | .jmp i _ :: r => (if i.isJumpClass then 1 else 0) + jumpCount r
  | .label _ :: r => jumpCount r

theorem jumpCount_append (a b : List Ev) : jumpCount (a ++ b) = jumpCount a + jumpCount b := by
  induction a with
  | nil => simp [jumpCount]
  | cons e es ih => cases e <;> simp [jumpCount, ih, Nat.add_assoc]

theorem raw_numJumps (b : BlockSt) (e : Ev) : (b.raw e).numJumps ≤ b.numJumps + jumpCount [e] := by
  cases e <;> simp only [BlockSt.raw, jumpCount] <;> (try split) <;> simp

theorem maybeSplit_noSplit (c : Cfg) (xdp : Bool) (s : SplitSt) (reload : List Ev)
    (h : c.policyMapStride = 0) : s.maybeSplit c xdp reload = s :=
  maybeSplit_of_not c xdp s reload (by simp [willSplit, h])

theorem cont_noSplit (c : Cfg) (xdp : Bool) (h : c.policyMapStride = 0) :
    ∀ (S : List BEv) (s : SplitSt), cont c xdp S s = (flat S, [])
  | [], _ => rfl
  | .ev e :: S, s => by simp only [cont, flat, cont_noSplit c xdp h S]
  | .maybeSplit R :: S, s => by
    rw [cont_marker_nosplit _ _ _ _ _ (by simp [willSplit, h]), cont_noSplit c xdp h S]; rfl

theorem cont_fewJumps (c : Cfg) (xdp : Bool) :
    ∀ (S : List BEv) (s : SplitSt), s.cur.numJumps + jumpCount (flat S) < c.maxJumps → cont c xdp S s = (flat S, [])
  | [], _, _ => rfl
  | .ev e :: S, s, h => by
    have h' : jumpCount (flat (BEv.ev e :: S)) = jumpCount [e] + jumpCount (flat S) := by
      rw [← jumpCount_append]; rfl
    have := raw_numJumps s.cur e
    simp only [cont, flat, cont_fewJumps c xdp S { s with cur := s.cur.raw e } (by simp only; omega)]
  | .maybeSplit R :: S, s, h => by
    rw [cont_marker_nosplit _ _ _ _ _ (by simp only [willSplit, flat] at h ⊢; simp; intro; omega),
      cont_fewJumps c xdp S s h]; rfl

/-- The program is not split: splitting is disabled, or it has fewer jump-class instructions than the
per-program limit. -/
def NoSplit (c : Cfg) (evs : List Ev) : Prop := c.policyMapStride = 0 ∨ jumpCount evs < c.maxJumps

theorem expand_one (c : Cfg) (xdp : Bool) (bevs : List BEv) (h : NoSplit c (flat bevs))
    (hlen : (flat bevs).length < c.trampolineStride) : expand c xdp bevs = [flat bevs] := by
  have e : cont c xdp bevs {} = (flat bevs, []) :=
    h.elim (fun h => cont_noSplit c xdp h bevs {}) (fun h => cont_fewJumps c xdp bevs {} (by simpa using h))
  rw [expand_cont c xdp bevs ⟨by rw [e]; exact Nat.le_of_lt (by simpa using hlen), by rw [e]; intro b hb; cases hb⟩, e]

end CalicoVerif.C11
