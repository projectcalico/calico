import CalicoVerif.Proofs.C11Comp
/-!
C11 — the state-writing fragments of `writeEndOfRule`: the `log` action (sets
`FlagLogPacket` in `state->flags`) and `writeRecordRuleID` (flow-log rule-hit
recording).  Both keep the builder's invariant: they write only outside the
packet fields and leave the host bits of the flags alone.
-/
namespace CalicoVerif.C11

theorem or1024_and12 (v : BitVec 64) : (v ||| 1024#64) &&& 12#64 = v &&& 12#64 := by
  rw [BitVec.and_or_distrib_right, show (1024#64 &&& 12#64) = 0#64 by decide, BitVec.or_zero]

theorem decides_log (env : Env) (st : List Byte) : Decides env st logEvs none := by
  have h1024 : sext32 1024 = 1024#64 := by decide
  refine (Decides.line_then (J := []) fun m hI => ⟨_,
    (Line.ldxState opLoadReg64 1 368 8 LdOp.d (by omega) (by omega)).cons <|
    (Line.orImm64 1 1024 (by omega) rfl).cons <|
    Line.stxAt opStoreReg64 9 1 368 368 8 StOp.d rfl rfl rfl (by omega)
      (hI.sim.writeFlags _ (by rw [h1024, or1024_and12]; rfl)), Exits.nil⟩)

theorem shl3 (h : Nat) (hh : h < 32) : BitVec.ofNat 64 h <<< 3 = BitVec.ofNat 64 (h * 8) := by
  apply BitVec.eq_of_toNat_eq
  simp only [BitVec.toNat_shiftLeft, BitVec.toNat_ofNat, Nat.shiftLeft_eq]
  have e1 : h % 2 ^ 64 = h := Nat.mod_eq_of_lt (by omega)
  rw [e1]

theorem record_addr (h : Nat) (hh : h < 32) :
    ((BitVec.ofNat 64 h <<< ((sext32 3).toNat % 64)) + sext32 112 + stateW) + BitVec.ofInt 64 0 =
      stateW + BitVec.ofNat 64 (h * 8 + 112) := by
  have s3 : (sext32 3).toNat % 64 = 3 := by decide
  have s112 : sext32 112 = BitVec.ofNat 64 112 := by decide
  have s0 : BitVec.ofInt 64 0 = 0#64 := by decide
  rw [s3, s112, s0, shl3 h hh, BitVec.add_zero, ← BitVec.ofNat_add, BitVec.add_comm]

/-- 108 = `stateOffRulesHit`, 112 = `stateOffRuleIDs`, 32 = `maxRuleIDs`. -/
theorem record_tri (env : Env) (st : List Byte) (id : Nat) (skip : Label) :
    Tri env (Inv st) (recordRuleID id skip) (fun t m => (t = none ∨ t = some skip) ∧ Inv st m) :=
  Tri.of_view fun m hI => by
    have hh : fieldN m.st 108 1 < 256 := by have := fieldN_lt m.st 108 1; omega
    have L2 : fieldN m.st 108 1 < 32 → Line env st ((View.ofInv m).set 1 (BitVec.ofNat 64 (fieldN m.st 108 1)))
        ([mov64 R2 R1, addImm64 R2 1, store8 R9 R2 stateOffRulesHit, shiftLImm64 R1 3, addImm64 R1 stateOffRuleIDs] ++
          (loadImm64 R2 id ++ [add64 R1 R9, store64 R1 R2 0])) _ := fun hlt =>
      have hs4 : StSim st (writeAt m.st 108 (toLE (BitVec.ofNat 64 (fieldN m.st 108 1) + sext32 1).toNat 1)) :=
        hI.sim.write 108 _ (Or.inl ⟨by omega, by rw [toLE_length]; omega⟩)
      (Line.mov64 2 1 (by omega) rfl).cons <| (Line.addImm64 2 1 (by omega) rfl).cons <|
      (Line.stxAt opStoreReg8 9 2 108 108 1 StOp.b rfl rfl rfl (by omega) hs4).cons <|
      (Line.shlImm64 1 3 (by omega) rfl).cons <| (Line.addImm64 1 112 (by omega) rfl).cons <|
      (Line.loadImm64 2 id (by omega)).append <| (Line.add64 1 9 (by omega) rfl rfl).cons <|
      Line.stxAt opStoreReg64 1 2 0 (fieldN m.st 108 1 * 8 + 112) 8 StOp.d rfl rfl
        (record_addr _ hlt) (by omega) (hs4.write _ _ (Or.inl ⟨by omega, by rw [toLE_length]; omega⟩))
    have hshape : recordRuleID id skip = [load8 R1 R9 stateOffRulesHit] ++ ([jumpGEImm64 R1 maxRuleIDs skip] ++
        ([mov64 R2 R1, addImm64 R2 1, store8 R9 R2 stateOffRulesHit, shiftLImm64 R1 3, addImm64 R1 stateOffRuleIDs] ++
          (loadImm64 R2 id ++ [add64 R1 R9, store64 R1 R2 0]))) := by simp [recordRuleID]
    rw [hshape]
    refine Tri.conseq (Exits.seq (P2 := Inv st)
      (Line.ldxState (env := env) (st := st) (v := View.ofInv m) opLoadReg8 1 108 1 LdOp.b (by omega) (by omega))
      (fun _ => Exits.seq
        (Exits.jcond64 opJumpGEImm64 1 32 skip (c := decide (32 ≤ fieldN m.st 108 1)) JOp64.ge
          (fun _ h => h.reg 1 _ rfl) (cond_nat _ (x := fieldN m.st 108 1) (k := 32) (by omega) (by omega)))
        (fun hc => (L2 (by simpa using hc)).toInv)
        fun _ _ => ⟨by simp [labelsOf, mov64, addImm64, store8, shiftLImm64, loadImm64, add64, store64, mk],
          fun _ h => h.inv⟩)
      fun _ e => nomatch e) (fun _ h => h) fun t m' h => ⟨?_, h.2⟩
    rw [h.1]
    by_cases hfull : 32 ≤ fieldN m.st 108 1 <;> simp [hfull]

end CalicoVerif.C11
