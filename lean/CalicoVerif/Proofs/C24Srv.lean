import CalicoVerif.Proofs.C24
/-!
C24 — sender side: whatever the batching decisions, the KV messages of one connection are exactly
the deltas of the crumbs passed, in order; every status message is sent at a crumb boundary; and a sender that is
not disconnected reaches the end of the breadcrumb chain and holds nothing back (given MaxMessageSize > 0 and
MinBatchingAgeThreshold > 0, which `Config.ApplyDefaults` enforces).  Three statements about a run of the inner loop
feed these: `InnerOK` (what it batched, always), `InnerAdv` (it advances when not at the last crumb) and their
combination under the defaults, `InnerRun`.  At the end, the snapshot side: a snapshot cut into messages of any size,
applied to the empty view, gives the crumb's map (`snapshot_concat`, `applyDs_snapshot`).
-/
namespace CalicoVerif.C24

def kvsConcat : List Msg → List SU
  | [] => []
  | .kvs l :: ms => l ++ kvsConcat ms
  | .status _ :: ms => kvsConcat ms

theorem kvsConcat_append (a b : List Msg) : kvsConcat (a ++ b) = kvsConcat a ++ kvsConcat b := by
  induction a with
  | nil => rfl
  | cons m ms ih => cases m <;> simp only [List.cons_append, kvsConcat, ih, List.append_assoc]

def statusesOK (P : List SU → Nat → Prop) : List SU → List Msg → Prop
  | _, [] => True
  | acc, .kvs l :: ms => statusesOK P (acc ++ l) ms
  | acc, .status s :: ms => P acc s ∧ statusesOK P acc ms

theorem statusesOK_snoc_kvs (P : List SU → Nat → Prop) (acc : List SU) (ms : List Msg) (l : List SU) :
    statusesOK P acc (ms ++ [Msg.kvs l]) ↔ statusesOK P acc ms := by
  induction ms generalizing acc with
  | nil => exact Iff.rfl
  | cons m ms ih => cases m <;> simp only [List.cons_append, statusesOK, ih]

theorem statusesOK_snoc_status (P : List SU → Nat → Prop) (acc : List SU) (ms : List Msg) (s : Nat) :
    statusesOK P acc (ms ++ [Msg.status s]) ↔ statusesOK P acc ms ∧ P (acc ++ kvsConcat ms) s := by
  induction ms generalizing acc with
  | nil => simp only [List.nil_append, statusesOK, kvsConcat, List.append_nil, and_true, true_and]
  | cons m ms ih =>
    cases m <;> simp only [List.cons_append, statusesOK, kvsConcat, ih, List.append_assoc, and_assoc]

theorem statusesOK_mono {P Q : List SU → Nat → Prop} (h : ∀ acc s, P acc s → Q acc s) (acc : List SU)
    (ms : List Msg) (hp : statusesOK P acc ms) : statusesOK Q acc ms := by
  induction ms generalizing acc with
  | nil => trivial
  | cons m ms ih =>
    cases m with
    | kvs l => exact ih _ hp
    | status t => exact ⟨h _ _ hp.1, ih _ hp.2⟩

def Fwd (chain : List Crumb) (p0 p : Nat) : Prop := p0 ≤ p ∧ (p0 < chain.length → p < chain.length)

theorem Fwd.refl (chain : List Crumb) (p : Nat) : Fwd chain p p := ⟨Nat.le_refl _, id⟩

theorem Fwd.next {chain : List Crumb} {p0 p : Nat} {x : Crumb} (h : Fwd chain p0 p) (hx : chain[p + 1]? = some x) :
    Fwd chain p0 (p + 1) :=
  ⟨Nat.le_succ_of_le h.1, fun _ => (List.getElem?_eq_some_iff.mp hx).1⟩

theorem Fwd.trans {chain : List Crumb} {a b c : Nat} (h1 : Fwd chain a b) (h2 : Fwd chain b c) : Fwd chain a c :=
  ⟨Nat.le_trans h1.1 h2.1, fun h => h2.2 (h1.2 h)⟩

def InnerOK (chain : List Crumb) (p0 : Nat) : Inner → Prop
  | .done p acc _ | .blocked p acc _ => Fwd chain p0 p ∧ acc = dB chain p0 p
  | .disconnected p => Fwd chain p0 p

theorem inner_spec (chain : List Crumb) (cfg : SrvCfg) (p0 : Nat)
    (fuel pos : Nat) (acc : List SU) (lags : List Nat) (hp : Fwd chain p0 pos)
    (ha : acc = dB chain p0 pos) : InnerOK chain p0 (inner chain cfg fuel pos acc lags) := by
  fun_induction inner chain cfg fuel pos acc lags with
  | case1 | case2 | case7 => exact ⟨hp, ha⟩
  | case3 _ _ _ _ _ _ hc => exact hp.next hc
  | case4 _ _ _ _ _ x hc _ _ _ _ _ hcond =>
    -- nothing batched yet: this crumb's deltas go out as they are
    have hemp := List.isEmpty_iff.mp (Bool.and_eq_true_iff.mp hcond).2
    refine ⟨hp.next hc, ?_⟩
    rw [dB_next chain p0 _ hp.1 x hc, ← ha, hemp]; rfl
  | case5 _ _ _ _ _ x hc =>
    exact ⟨hp.next hc, by rw [dB_next chain p0 _ hp.1 x hc, ← ha]⟩
  | case6 _ _ _ _ _ x hc _ _ _ _ _ _ _ _ ih =>
    exact ih (hp.next hc) (by rw [dB_next chain p0 _ hp.1 x hc, ← ha])

theorem inner_spec_start (chain : List Crumb) (cfg : SrvCfg) (pos : Nat) (lags : List Nat) :
    InnerOK chain pos (inner chain cfg chain.length pos [] lags) :=
  inner_spec chain cfg pos chain.length pos [] lags (Fwd.refl _ _) (dB_self chain pos).symm

def InnerAdv (cfg : SrvCfg) (pos : Nat) (acc : List SU) : Inner → Prop
  | .blocked _ _ _ => False
  | .done p _ _ => pos ≤ p ∧ (acc.length < cfg.maxMsg → pos < p)
  | .disconnected _ => True

theorem inner_progress (chain : List Crumb) (cfg : SrvCfg) (hage : 0 < cfg.minBatchAge)
    (fuel pos : Nat) (acc : List SU) (lags : List Nat) (h1 : pos + 1 < chain.length)
    (h2 : chain.length ≤ fuel + pos + 1) : InnerAdv cfg pos acc (inner chain cfg fuel pos acc lags) := by
  fun_induction inner chain cfg fuel pos acc lags with
  | case1 => omega
  | case2 _ _ _ _ _ hc => rw [List.getElem?_eq_getElem h1] at hc; cases hc
  | case3 => trivial
  | case4 | case5 => exact ⟨Nat.le_succ _, fun _ => Nat.lt_succ_self _⟩
  | case7 _ _ _ _ hfull => exact ⟨Nat.le_refl _, fun h => absurd h hfull⟩
  | case6 fuel pos acc lags _ x hc lag _ latest age _ _ _ hold ih =>
    -- still behind: the crumb just read cannot be the last one
    have hnext : pos + 1 + 1 < chain.length := by
      apply Decidable.by_contra
      intro h
      have hlen : chain.length - 1 = pos + 1 := by omega
      have : age = 0 := by
        simp only [age, latest, hlen, Nat.min_eq_right (Nat.le_add_right _ lag), hc, Option.getD_some, Nat.sub_self]
      exact hold (this ▸ hage)
    have := ih hnext (by omega)
    revert this
    cases inner chain cfg fuel (pos + 1) (acc ++ x.deltas) lags.tail with
    | blocked _ _ _ => exact id
    | disconnected _ => exact id
    | done p a l => exact fun h => ⟨Nat.le_of_succ_le h.1, fun _ => h.1⟩

theorem inner_at_end (chain : List Crumb) (cfg : SrvCfg) (hmsg : 0 < cfg.maxMsg) (pos : Nat) (lags : List Nat)
    (hend : pos + 1 = chain.length) :
    inner chain cfg chain.length pos [] lags = .blocked pos [] lags := by
  have : chain[pos + 1]? = none := List.getElem?_eq_none (Nat.le_of_eq hend.symm)
  rw [← hend]
  simp only [inner, List.length_nil, hmsg, if_true, this]

def AtCrumb (chain : List Crumb) (start : Nat) (acc : List SU) (s : Nat) : Prop :=
  ∃ p, start ≤ p ∧ acc = dB chain start p ∧ (chain[p]?).map (·.status) = some s

structure OuterOK (chain : List Crumb) (start : Nat) (r : SendResult) : Prop where
  prefix_exact : ∃ p, start ≤ p ∧ p ≤ r.pos ∧ kvsConcat r.msgs = dB chain start p
  exact : r.disconnected = false → kvsConcat r.msgs ++ r.held = dB chain start r.pos
  statuses : statusesOK (AtCrumb chain start) [] r.msgs

theorem atCrumb_of_ne {chain : List Crumb} {start p last : Nat} (hp : start ≤ p)
    (hne : (last != ((chain[p]?).map (·.status)).getD last) = true) :
    AtCrumb chain start (dB chain start p) (((chain[p]?).map (·.status)).getD last) := by
  refine ⟨p, hp, rfl, ?_⟩
  cases hc : chain[p]? with
  | none => rw [hc] at hne; exact absurd rfl (bne_iff_ne.mp hne)
  | some c => rfl

structure SendOK (chain : List Crumb) (start : Nat) (r : SendResult) : Prop extends OuterOK chain start r where
  fwd : Fwd chain start r.pos

theorem outer_spec (chain : List Crumb) (cfg : SrvCfg) (start : Nat)
    (fuel pos lastSent : Nat) (lags : List Nat) (out : List Msg) (hp : Fwd chain start pos)
    (hk : kvsConcat out = dB chain start pos) (hs : statusesOK (AtCrumb chain start) [] out) :
    SendOK chain start (outer chain cfg fuel pos lastSent lags out) := by
  -- the stream after the (possibly empty) KV message of a finished inner loop
  have sent : ∀ {pos pos' : Nat} {acc : List SU} {out : List Msg}, Fwd chain start pos →
      kvsConcat out = dB chain start pos → statusesOK (AtCrumb chain start) [] out →
      InnerOK chain pos (.done pos' acc []) →
      kvsConcat (if acc.length > 0 then out ++ [Msg.kvs acc] else out) = dB chain start pos' ∧
        statusesOK (AtCrumb chain start) [] (if acc.length > 0 then out ++ [Msg.kvs acc] else out) := by
    intro pos pos' acc out hp hk hs hin
    have hacc : kvsConcat out ++ acc = dB chain start pos' := by
      rw [hk, hin.2, dB_split chain start pos pos' hp.1 hin.1.1]
    split
    · exact ⟨by rw [kvsConcat_append, ← hacc]; simp only [kvsConcat, List.append_nil],
        (statusesOK_snoc_kvs _ _ _ _).mpr hs⟩
    · next hz => rw [List.eq_nil_of_length_eq_zero (Nat.eq_zero_of_not_pos hz), List.append_nil] at hacc
                 exact ⟨hacc, hs⟩
  have hin := inner_spec_start chain cfg
  fun_induction outer chain cfg fuel pos lastSent lags out with
  | case1 => exact ⟨⟨⟨_, hp.1, Nat.le_refl _, hk⟩, fun _ => by rw [List.append_nil]; exact hk, hs⟩, hp⟩
  | case2 _ pos _ lags _ pos' _ _ heq =>
    have hin := heq ▸ hin pos lags
    refine ⟨⟨⟨pos, hp.1, hin.1.1, hk⟩, fun _ => ?_, hs⟩, hp.trans hin.1⟩
    rw [hk, hin.2]
    exact dB_split chain start pos pos' hp.1 hin.1.1
  | case3 _ pos _ lags _ _ heq =>
    have hin := heq ▸ hin pos lags
    exact ⟨⟨⟨pos, hp.1, hin.1, hk⟩, fun h => Bool.noConfusion h, hs⟩, hp.trans hin⟩
  | case4 _ pos _ lags _ pos' _ _ heq out1 st hne ih =>
    have hin := heq ▸ hin pos lags
    obtain ⟨hk1, hs1⟩ := sent hp hk hs hin
    have hp' := hp.trans hin.1
    refine ih hp' ?_ ((statusesOK_snoc_status _ _ _ _).mpr ⟨hs1, ?_⟩)
    · rw [kvsConcat_append, hk1]; simp only [kvsConcat, List.append_nil]
    · rw [List.nil_append, hk1]; exact atCrumb_of_ne hp'.1 hne
  | case5 _ pos _ lags _ _ _ _ heq _ _ _ ih =>
    have hin := heq ▸ hin pos lags
    obtain ⟨hk1, hs1⟩ := sent hp hk hs hin
    exact ih (hp.trans hin.1) hk1 hs1

theorem sendDeltas_spec (chain : List Crumb) (cfg : SrvCfg) (start : Nat) (lags : List Nat) :
    SendOK chain start (sendDeltas chain cfg start lags) := by
  unfold sendDeltas
  refine outer_spec chain cfg start _ start _ lags _ (Fwd.refl _ _) ?_ ?_
  · rw [dB_self]; split <;> rfl
  · split
    · next hne => exact ⟨dB_self chain start ▸ atCrumb_of_ne (Nat.le_refl _) hne, trivial⟩
    · trivial

/-- One run of the inner loop as the outer loop starts it, under the defaults that `Config.ApplyDefaults` enforces. -/
def InnerRun (chain : List Crumb) (pos : Nat) : Inner → Prop
  | .blocked p acc _ => p + 1 = chain.length ∧ acc = []
  | .done p _ _ => pos < p ∧ p < chain.length
  | .disconnected _ => True

theorem inner_run (chain : List Crumb) (cfg : SrvCfg) (hmsg : 0 < cfg.maxMsg) (hage : 0 < cfg.minBatchAge)
    (pos : Nat) (lags : List Nat) (h1 : pos < chain.length) :
    InnerRun chain pos (inner chain cfg chain.length pos [] lags) := by
  by_cases hend : pos + 1 = chain.length
  · rw [inner_at_end chain cfg hmsg pos lags hend]
    exact ⟨hend, rfl⟩
  · have h := inner_progress chain cfg hage chain.length pos [] lags (by omega) (by omega)
    have h' := inner_spec_start chain cfg pos lags
    revert h h'
    cases inner chain cfg chain.length pos [] lags with
    | blocked _ _ _ => exact fun h _ => h.elim
    | disconnected _ => exact fun _ _ => trivial
    | done p _ _ => exact fun h h' => ⟨h.2 hmsg, h'.1.2 h1⟩

theorem outer_reads_to_end (chain : List Crumb) (cfg : SrvCfg) (hmsg : 0 < cfg.maxMsg) (hage : 0 < cfg.minBatchAge)
    (fuel pos lastSent : Nat) (lags : List Nat) (out : List Msg) (h1 : pos < chain.length)
    (h2 : chain.length ≤ fuel + pos) (hd : (outer chain cfg fuel pos lastSent lags out).disconnected = false) :
    (outer chain cfg fuel pos lastSent lags out).pos + 1 = chain.length ∧
      (outer chain cfg fuel pos lastSent lags out).held = [] := by
  fun_induction outer chain cfg fuel pos lastSent lags out with
  | case1 => omega
  | case2 _ pos _ lags _ _ _ _ heq =>
    have h := inner_run chain cfg hmsg hage pos lags h1
    rw [heq] at h
    exact h
  | case3 => cases hd
  | case4 _ pos _ lags _ _ _ _ heq _ _ _ ih | case5 _ pos _ lags _ _ _ _ heq _ _ _ ih =>
    have h := inner_run chain cfg hmsg hage pos lags h1
    rw [heq] at h
    exact ih h.2 (by have := h.1; omega) hd

theorem chunks_concat (m : Nat) (fuel : Nat) (l : List SU) (h : l.length ≤ fuel) :
    (chunks m fuel l).flatten = l := by
  fun_induction chunks m fuel l with
  | case1 l => exact (List.length_eq_zero_iff.mp (Nat.le_zero.mp h)).symm
  | case2 _ _ he => exact (List.isEmpty_iff.mp he).symm
  | case3 n l he ih =>
    have hpos := List.length_pos_iff.mpr fun e => he (List.isEmpty_iff.mpr e)
    have : 1 ≤ max m 1 := Nat.le_max_right _ _
    rw [List.flatten_cons, ih (by rw [List.length_drop]; omega), List.take_append_drop]

theorem kvsConcat_map_kvs (ls : List (List SU)) : kvsConcat (ls.map Msg.kvs) = ls.flatten := by
  induction ls with
  | nil => rfl
  | cons l ls ih => rw [List.map_cons, kvsConcat, ih, List.flatten_cons]

theorem snapshot_concat (c : Crumb) (m : Nat) : kvsConcat (snapshotMsgs c m) = c.kvs := by
  rw [snapshotMsgs, kvsConcat_map_kvs, chunks_concat _ _ _ (Nat.le_refl _)]

theorem applyDs_sorted (l : List SU) (hs : Sorted l) (m : View) (k : Nat) :
    applyDs m l k = match kvsGet l k with
      | some u => u.entry
      | none => m k := by
  induction l generalizing m with
  | nil => rfl
  | cons x xs ih =>
    have hs' := List.pairwise_cons.mp hs
    rw [applyDs, List.foldl_cons, ← applyDs, ih hs'.2]
    by_cases hx : x.key = k
    · simp only [kvsGet, applyD, if_pos hx, kvsGet_none_of_lt xs k (hx ▸ hs'.1)]
    · simp only [kvsGet, applyD, if_neg hx]

theorem applyDs_snapshot (l : List SU) (hs : Sorted l) : applyDs emptyView l = asMap l := by
  funext k
  rw [applyDs_sorted l hs, asMap]
  cases kvsGet l k <;> rfl
end CalicoVerif.C24
