import CalicoVerif.Proofs.C16State
/-!
C16 — the resync path (`tryResync`: list the names, sweep what is gone, re-list the queued sets).
Whatever fails, it leaves the kernel and the API-level state alone (`Res`, `tryResync_res`).  A full
resync that reports success leaves Felix with an accurate view of every desired set
(`fullResync_post`): seen from one set `n`, each step either re-lists `n`, which makes the view of
`n` good, or re-lists another set, which does not touch it (`foldl_good`).
-/
namespace CalicoVerif.C16

def Frame (w w' : W) : Prop := w'.K = w.K ∧ w'.F.desired = w.F.desired ∧ w'.cfg = w.cfg

theorem Frame.refl (w : W) : Frame w w := ⟨rfl, rfl, rfl⟩

structure Res (w w' : W) : Prop where
  K : w'.K = w.K
  cfg : w'.cfg = w.cfg
  pres : Pres w.F w'.F
  qd : QD w.cfg w.F → QD w.cfg w'.F

theorem Res.refl (w : W) : Res w w := ⟨rfl, rfl, Pres.refl _, id⟩

theorem Res.wpres {w w' : W} (h : Res w w') : WPres w w' := ⟨h.cfg, h.pres⟩

theorem Res.trans {a b c : W} (h1 : Res a b) (h2 : Res b c) : Res a c :=
  ⟨h2.K.trans h1.K, h2.cfg.trans h1.cfg, h1.pres.trans h2.pres,
    fun h => h1.cfg ▸ h2.qd (h1.cfg ▸ h1.qd h)⟩

theorem listNames_desc (w : W) :
    (w.listNames).1.K = w.K ∧ (w.listNames).1.F = w.F ∧ (w.listNames).1.cfg = w.cfg ∧
    ((w.listNames).2 = none ∨ (w.listNames).2 = some (w.K.keys.filter w.cfg.owns)) := by
  unfold W.listNames
  split <;> (dsimp only; split <;> simp)

/-- What `ipset list <name>` tells Felix, relative to the kernel. -/
def LRSpec (K : Kernel) (n : String) : LR → Prop
  | .notFound => K.get n = none
  | .failNoOutput => ∃ k, K.get n = some k
  | .listed m ms failed => ∃ k, K.get n = some k ∧ m = parseMeta k ∧ (failed = false → ms = k.members)

theorem listSet_spec (w : W) (n : String) :
    (w.listSet n).1.K = w.K ∧ (w.listSet n).1.F = w.F ∧ (w.listSet n).1.cfg = w.cfg ∧
    LRSpec w.K n (w.listSet n).2 := by
  unfold W.listSet
  cases hk : w.K.get n with
  | none => exact ⟨rfl, rfl, rfl, hk⟩
  | some k =>
    dsimp only
    by_cases hlf : k.listFails = true
    · rw [if_pos hlf]; exact ⟨rfl, rfl, rfl, k, hk⟩
    · rw [if_neg hlf]
      cases (popList n w.plan.lists).1 with
      | none => exact ⟨rfl, rfl, rfl, k, hk, rfl, fun _ => rfl⟩
      | some j =>
        dsimp only
        by_cases hj : j < 0
        · rw [if_pos hj]; exact ⟨rfl, rfl, rfl, k, hk⟩
        · rw [if_neg hj]; exact ⟨rfl, rfl, rfl, k, hk, rfl, fun h => by cases h⟩

/-- `r` is a parameter so that `drainStep_desc` can unfold `W.drainStep` in its goal. -/
structure DrainStep (acc : W × Bool) (m : String) (r : W × Bool) (lr : LR) (q1 q2 : List String) : Prop where
  spec : LRSpec acc.1.K m lr
  K : r.1.K = acc.1.K
  cfg : r.1.cfg = acc.1.cfg
  F : r.1.F = { (acc.1.F.applyList acc.1.cfg m lr).1 with qMust := q1, qBg := q2 }
  qMust : ∀ x ∈ q1, x ∈ (acc.1.F.applyList acc.1.cfg m lr).1.qMust ∨ x = m
  qBg : ∀ x ∈ q2, x ∈ (acc.1.F.applyList acc.1.cfg m lr).1.qBg
  ok : r.2 = false → acc.2 = false ∧
    ((acc.1.F.applyList acc.1.cfg m lr).2 = false ∨ (acc.1.F.applyList acc.1.cfg m lr).1.desired.has m = false)

theorem drainStep_desc (acc : W × Bool) (m : String) :
    ∃ lr q1 q2, DrainStep acc m (W.drainStep acc m) lr q1 q2 := by
  obtain ⟨hK, hF, hc, hspec⟩ := listSet_spec acc.1 m
  refine ⟨(acc.1.listSet m).2, ?_⟩
  unfold W.drainStep W.resyncIPSet
  dsimp only
  rw [hF, hc]
  generalize hA : acc.1.F.applyList acc.1.cfg m (acc.1.listSet m).2 = A
  by_cases hcond : (A.2 && A.1.desired.has m) = true
  · obtain ⟨q1, q2, hq, h1, h2⟩ := qAdd_eq A.1 m true
    rw [if_pos hcond]
    subst hA
    exact ⟨q1, q2, hspec, hK, rfl, hq, fun x hx => ((h1 x).1 hx).imp_right (·.1),
      fun x hx => (h2 x hx).resolve_right (by simp), fun h => by cases h⟩
  · rw [if_neg hcond]
    subst hA
    refine ⟨_, _, hspec, hK, rfl, rfl, fun _ => Or.inl, fun _ h => h, fun h => ⟨h, ?_⟩⟩
    cases hg : (acc.1.F.applyList acc.1.cfg m (acc.1.listSet m).2).2 with
    | false => exact Or.inl rfl
    | true => exact Or.inr (by simpa [hg] using hcond)

theorem drainStep_touch (acc : W × Bool) (m : String) : Touch m acc.1.F (W.drainStep acc m).1.F := by
  obtain ⟨lr, q1, q2, d⟩ := drainStep_desc acc m
  have ht := applyList_touch acc.1.cfg acc.1.F m lr
  rw [d.F]
  exact ⟨ht.fixed, ht.other, fun x hx => (d.qMust x hx).elim (ht.qMust x) Or.inr, fun x hx => ht.qBg x (d.qBg x hx),
    ht.tracked⟩

theorem foldl_good {σ : Type} (f : σ → String → σ) (I G : σ → Prop) (n : String) (L : List String)
    (inv : ∀ s, ∀ m ∈ L, I s → I (f s m)) (other : ∀ s, ∀ m ∈ L, I s → m ≠ n → G s → G (f s m))
    (self : ∀ s, I s → G (f s n)) (s : σ) (hI : I s) (h : n ∈ L ∨ G s) : G (L.foldl f s) := by
  induction L generalizing s with
  | nil => exact h.resolve_left (by simp)
  | cons m L ih =>
    refine ih (fun s m' hm' => inv s m' (List.mem_cons_of_mem _ hm'))
      (fun s m' hm' => other s m' (List.mem_cons_of_mem _ hm')) (f s m) (inv s m List.mem_cons_self hI) ?_
    by_cases hm : m = n
    · exact Or.inr (hm ▸ self s hI)
    · exact h.imp (fun h => (List.mem_cons.1 h).resolve_left (Ne.symm hm)) (other s m List.mem_cons_self hI hm)

def Good (K : Kernel) (F : Felix) (n : String) (des : List String) : Prop :=
  F.dp.get n = (K.get n).map parseMeta ∧
  (∃ t, F.members.get n = some t ∧ t.des = des ∧ ∀ x, x ∈ t.dp ↔ ∃ k, K.get n = some k ∧ x ∈ k.members) ∧
  FreshDirty F n

theorem Good_congr {K : Kernel} {F F' : Felix} {n : String} {des : List String} (h : SN F' n = SN F n)
    (hg : Good K F n des) : Good K F' n des := by
  obtain ⟨h1, h2, h3⟩ := SN_eq.1 h
  unfold Good FreshDirty at *
  rw [h1, h2, h3]
  exact hg

theorem onMissing_good {K : Kernel} {F : Felix} {n : String} {t : MT} (hK : K.get n = none)
    (ha : F.allMeta.has n = true) (ht : F.members.get n = some t) (hneed : F.needed n = true) :
    Good K (F.onMissing n) n t.des := by
  obtain ⟨h1, h2, h3⟩ := onMissing_self F ha ht hneed
  exact ⟨by rw [h1, hK]; rfl, ⟨_, h2, rfl, fun x => by simp [hK]⟩, h3⟩

theorem meta_listFailed_false (k : KSet) : ({ parseMeta k with listFailed := false } : Meta) = parseMeta k := by
  unfold parseMeta; split <;> rfl

theorem applyList_good (c : Cfg) {K : Kernel} {F : Felix} {n : String} {t : MT} {lr : LR}
    (hspec : LRSpec K n lr) (hnt : c.isTemp n = false) (ha : F.allMeta.has n = true)
    (ht : F.members.get n = some t) (hneed : F.needed n = true) (hok : (F.applyList c n lr).2 = false) :
    Good K (F.applyList c n lr).1 n t.des := by
  cases lr with
  | notFound => exact onMissing_good hspec ha ht hneed
  | failNoOutput => cases hok
  | listed mt ms failed =>
    cases (show failed = false from hok)
    obtain ⟨k, hk, rfl, hms⟩ := hspec
    cases hms rfl
    simp only [Felix.applyList, hnt, Bool.false_eq_true, if_false]
    rw [show F.tracker n = t by simp [Felix.tracker, ht]]
    obtain ⟨d, hd, _, hf⟩ := updateDirtiness_eq
      ({ F with members := F.members.set n { t with dp := k.members.eraseDups } } : Felix) n
    rw [hd]
    exact ⟨by simp [Map.get_set, hk, meta_listFailed_false],
      ⟨{ t with dp := k.members.eraseDups }, by simp [Map.get_set], rfl, fun x => by simp [hk]⟩, hf hneed⟩

theorem applyList_dp_self (c : Cfg) {K : Kernel} (F : Felix) {m : String} {lr : LR} (hspec : LRSpec K m lr)
    (hk : K.has m = true) : (F.applyList c m lr).1.dp.has m = true := by
  cases lr with
  | notFound => simp [Map.has, show K.get m = none from hspec] at hk
  | failNoOutput => simp [Felix.applyList, Map.has_set]
  | listed mt ms failed => simp [Felix.applyList, Map.has_set]

/-- An intermediate state of a drain of the names `L` that started from `w0`. -/
structure Draining (w0 : W) (L : List String) (w : W) : Prop where
  K : w.K = w0.K
  cfg : w.cfg = w0.cfg
  pres : Pres w0.F w.F
  grow : Grow (· ∈ L) w0.F w.F

theorem Draining.refl (w : W) (L : List String) : Draining w L w := ⟨rfl, rfl, Pres.refl _, Grow.refl _ _⟩

theorem Draining.step {w0 : W} {L : List String} {acc : W × Bool} {m : String} (hm : m ∈ L)
    (h : Draining w0 L acc.1) : Draining w0 L (W.drainStep acc m).1 := by
  obtain ⟨_, _, _, d⟩ := drainStep_desc acc m
  have ht := drainStep_touch acc m
  exact ⟨d.K.trans h.K, d.cfg.trans h.cfg, h.pres.trans ht.pres, h.grow.trans (ht.grow.mono fun _ e => e ▸ hm)⟩

theorem Draining.foldl {w0 : W} {L : List String} {acc : W × Bool} (h : Draining w0 L acc.1) :
    Draining w0 L (L.foldl W.drainStep acc).1 :=
  List.foldlRecOn (motive := fun a : W × Bool => Draining w0 L a.1) L _ h fun _ ha _ hm => ha.step hm

theorem drain_good {w0 : W} {L : List String} {n : String} {des : List String}
    (hnt : w0.cfg.isTemp n = false) (ha : w0.F.allMeta.has n = true) (hdes : w0.F.desired.has n = true)
    (hneed : w0.F.needed n = true) (htr : Tracked w0.F n des) (acc : W × Bool) (hacc : Draining w0 L acc.1)
    (h : n ∈ L ∨ (acc.2 = false → Good w0.K acc.1.F n des)) (hok : (L.foldl W.drainStep acc).2 = false) :
    Good w0.K (L.foldl W.drainStep acc).1.F n des := by
  refine foldl_good W.drainStep (fun a => Draining w0 L a.1) (fun a => a.2 = false → Good w0.K a.1.F n des) n L
    (fun _ _ hm ha => ha.step hm) ?_ ?_ acc hacc h hok
  · intro a m _ _ hmn hG hf
    obtain ⟨_, _, _, d⟩ := drainStep_desc a m
    exact Good_congr ((drainStep_touch a m).other n (Ne.symm hmn)) (hG (d.ok hf).1)
  · intro a hI hf
    obtain ⟨lr, q1, q2, d⟩ := drainStep_desc a n
    obtain ⟨t, ht, hd⟩ := hI.pres.tracked n des ha htr
    have hfix := hI.pres.fixed
    have hok : (a.1.F.applyList a.1.cfg n lr).2 = false := (d.ok hf).2.resolve_right (by
      rw [(applyList_touch _ _ _ _).fixed.desired, hfix.desired, hdes]; simp)
    have := applyList_good a.1.cfg (hI.K ▸ d.spec) (hI.cfg ▸ hnt) (hfix.allMeta ▸ ha) ht
      (by rw [needed_congr hfix.filter]; exact hneed) hok
    rw [d.F, ← hd]
    exact Good_congr rfl this

theorem drain_cov {w0 : W} {L : List String} {b : String} (hk : w0.K.has b = true) (acc : W × Bool)
    (hacc : Draining w0 L acc.1) (h : b ∈ L ∨ acc.1.F.dp.has b = true) :
    (L.foldl W.drainStep acc).1.F.dp.has b = true := by
  refine foldl_good W.drainStep (fun a => Draining w0 L a.1) (fun a => a.1.F.dp.has b = true) b L
    (fun _ _ hm ha => ha.step hm) ?_ ?_ acc hacc h
  · intro a m _ _ hmb hG
    rw [Map.has, (SN_eq.1 ((drainStep_touch a m).other b (Ne.symm hmb))).1]; exact hG
  · intro a hI
    obtain ⟨lr, _, _, d⟩ := drainStep_desc a b
    rw [d.F]
    exact applyList_dp_self a.1.cfg a.1.F d.spec (hI.K ▸ hk)

theorem drain_tier_res {w w0 : W} (L : List String) (b : Bool) (h0 : Res w w0)
    (hL : QD w.cfg w.F → ∀ m ∈ L, w.cfg.owns m = true) : Res w (L.foldl W.drainStep (w0, b)).1 := by
  have h := Draining.foldl (acc := (w0, b)) (Draining.refl w0 L)
  exact ⟨h.K.trans h0.K, h.cfg.trans h0.cfg, h0.pres.trans h.pres, fun hq => h.grow.QD (hL hq) (h0.qd hq)⟩

theorem drain_res (w : W) : Res w w.drain.1 := by
  unfold W.drain
  dsimp only
  have r1 := drain_tier_res (w := w) (w0 := { w with F := { w.F with qMust := [] } }) (sortS w.F.qMust) false
    ⟨rfl, rfl, Pres.of_members ⟨rfl, rfl, rfl, rfl⟩ rfl, fun hq => ⟨hq.dp, by simp, hq.qBg⟩⟩
    (fun hq m hm => hq.qMust m (mem_sortS.1 hm))
  generalize List.foldl W.drainStep _ (sortS w.F.qMust) = r at r1 ⊢
  split
  · exact r1
  · exact r1.trans (drain_tier_res (w0 := { r.1 with F := { r.1.F with qBg := [] } }) (sortS r.1.F.qBg) r.2
      ⟨rfl, rfl, Pres.of_members ⟨rfl, rfl, rfl, rfl⟩ rfl, fun hq => ⟨hq.dp, hq.qMust, by simp⟩⟩
      (fun hq m hm => hq.qBg m (mem_sortS.1 hm)))

theorem drain_full (w : W) (h : w.F.fullReq = true) :
    w.drain = (sortS w.F.qMust).foldl W.drainStep ({ w with F := { w.F with qMust := [] } }, false) := by
  have hD := Draining.foldl (acc := (_, false)) (Draining.refl { w with F := { w.F with qMust := [] } } (sortS w.F.qMust))
  unfold W.drain
  dsimp only
  rw [if_pos (hD.pres.fullReq.trans h)]

theorem onMissingAll_spec (L : List String) (F : Felix) :
    Pres F (L.foldl Felix.onMissing F) ∧ Grow (fun _ => False) F (L.foldl Felix.onMissing F) ∧
    ∀ x, x ∈ F.qMust → x ∉ L → x ∈ (L.foldl Felix.onMissing F).qMust := by
  refine ⟨?_, ?_, fun x hx hL => ?_⟩
  · exact List.foldlRecOn L _ (Pres.refl F) fun G h m _ => h.trans (onMissing_touch G m).pres
  · refine List.foldlRecOn L _ (Grow.refl _ F) fun G h m _ => h.trans ?_
    obtain ⟨mem, d, he, _⟩ := onMissing_eq G m
    rw [he]
    exact ⟨fun b hb => Or.inl (by rw [Map.has_erase, Bool.and_eq_true] at hb; exact hb.2), fun x hx => Or.inl (mem_sErase.1 hx).1,
      fun x hx => Or.inl (mem_sErase.1 hx).1⟩
  · refine List.foldlRecOn (motive := fun G : Felix => x ∈ G.qMust) L _ hx fun G hG m hm => ?_
    obtain ⟨mem, d, he, _⟩ := onMissing_eq G m
    rw [he]
    exact mem_sErase.2 ⟨hG, fun e => hL (e ▸ hm)⟩

theorem onMissingAll_good {K : Kernel} {F0 : Felix} {n : String} {des : List String} (hK : K.get n = none)
    (ha : F0.allMeta.has n = true) (hneed : F0.needed n = true) (htr : Tracked F0 n des)
    (L : List String) (hL : n ∈ L) : Good K (L.foldl Felix.onMissing F0) n des := by
  refine foldl_good Felix.onMissing (Pres F0) (fun G => Good K G n des) n L
    (fun G m _ h => h.trans (onMissing_touch G m).pres) ?_ ?_ F0 (Pres.refl F0) (Or.inl hL)
  · intro G m _ _ hmn hG
    exact Good_congr ((onMissing_touch G m).other n (Ne.symm hmn)) hG
  · intro G hI
    obtain ⟨t, ht, hd⟩ := hI.tracked n des ha htr
    exact hd ▸ onMissing_good hK (hI.allMeta ▸ ha) ht (by rw [needed_congr hI.filter]; exact hneed)

theorem afterListing_res (F : Felix) (listed : List String) (b : Bool) :
    Pres F (F.afterListing listed b) ∧ Grow (· ∈ listed) F (F.afterListing listed b) := by
  have bg : ∀ G : Felix, Pres G { G with bgReq := false } ∧ Grow (· ∈ listed) G { G with bgReq := false } :=
    fun G => ⟨Pres.of_members ⟨rfl, rfl, rfl, rfl⟩ rfl, ⟨fun _ => Or.inl, fun _ => Or.inl, fun _ => Or.inl⟩⟩
  have sw : ∀ G : Felix, Pres G (G.sweep listed) ∧ Grow (· ∈ listed) G (G.sweep listed) := fun G =>
    ⟨(onMissingAll_spec _ G).1, (onMissingAll_spec _ G).2.1.mono fun _ => False.elim⟩
  have qa : ∀ G : Felix, Pres G ((sortS listed).foldl (fun F n => F.qAdd n b) G) ∧
      Grow (· ∈ listed) G ((sortS listed).foldl (fun F n => F.qAdd n b) G) := fun G =>
    ⟨qAddAll_pres b _ G, (qAddAll_grow b _ G).mono fun _ => mem_sortS.1⟩
  unfold Felix.afterListing
  split
  · rename_i hb; subst hb
    exact ⟨((qa F).1.trans (sw _).1).trans (bg _).1, ((qa F).2.trans (sw _).2).trans (bg _).2⟩
  · rename_i hb
    rw [Bool.not_eq_true] at hb; subst hb
    exact ⟨((sw F).1.trans (qa _).1).trans (bg _).1, ((sw F).2.trans (qa _).2).trans (bg _).2⟩

theorem beginResync_res (w : W) (b : Bool) : Res w (w.beginResync b).1 := by
  unfold W.beginResync
  dsimp only
  have h0 : Res w (if b then { w with F := { w.F with qMust := [], qBg := [], dp := [] } } else w) := by
    split
    · exact ⟨rfl, rfl, Pres.of_members ⟨rfl, rfl, rfl, rfl⟩ rfl,
        fun _ => ⟨fun x hx => by simp [Map.has, Map.get] at hx, by simp, by simp⟩⟩
    · exact Res.refl w
  generalize (if b then ({ w with F := { w.F with qMust := [], qBg := [], dp := [] } } : W) else w) = w0 at h0 ⊢
  obtain ⟨lK, lF, lc, lres⟩ := listNames_desc w0
  generalize w0.listNames = ln at lK lF lc lres ⊢
  obtain ⟨w1, lo⟩ := ln
  dsimp only at lK lF lc lres ⊢
  have h1 : Res w0 w1 := ⟨lK, lc, lF ▸ Pres.refl _, fun h => lF ▸ h⟩
  rcases lres with rfl | rfl
  · exact h0.trans h1
  · refine h0.trans (h1.trans ⟨rfl, rfl, (afterListing_res _ _ _).1, (afterListing_res _ _ _).2.QD fun x hx => ?_⟩)
    rw [lc]; exact (List.mem_filter.1 hx).2

theorem tryResync_res (w : W) : Res w w.tryResync.1 := by
  unfold W.tryResync
  split
  · have h1 := beginResync_res w w.F.fullReq
    generalize w.beginResync w.F.fullReq = r at h1
    obtain ⟨w1, _ | _⟩ := r
    · exact h1.trans (drain_res w1)
    · exact h1
  · exact drain_res w

theorem afterListing_full {F : Felix} (listed : List String) (hdp : F.dp = []) (hq1 : F.qMust = [])
    (hq2 : F.qBg = []) : (∀ b, (F.afterListing listed true).dp.has b = false) ∧
      (∀ x, x ∈ (F.afterListing listed true).qMust ↔ x ∈ listed) ∧ ∀ x, x ∉ (F.afterListing listed true).qBg := by
  obtain ⟨q1, q2, hq, a1, a2⟩ := qAddAll_eq true (sortS listed) F
  simp only [Felix.afterListing, if_true, hq, Felix.sweep]
  generalize hcd : List.filter (fun n => !listed.contains n) _ = cands
  have hc : ∀ x ∈ listed, x ∉ cands := fun x hx hc => by
    rw [← hcd] at hc; simpa [hx] using (List.mem_filter.1 hc).2
  obtain ⟨_, hg, hm⟩ := onMissingAll_spec cands { F with qMust := q1, qBg := q2 }
  refine ⟨fun b => ?_, fun x => ⟨fun hx => ?_, fun hx => ?_⟩, fun x hx => ?_⟩
  · refine Bool.eq_false_iff.2 fun hb => (hg.dp b hb).elim (fun h => ?_) id
    simp [hdp, Map.has, Map.get] at h
  · rcases hg.qMust x hx with h | h
    · exact ((a1 x).1 h).elim (fun h => by simp [hq1] at h) fun h => mem_sortS.1 h.1
    · exact h.elim
  · exact hm x ((a1 x).2 (Or.inr ⟨mem_sortS.2 hx, rfl⟩)) (hc x hx)
  · rcases hg.qBg x hx with h | h
    · exact (a2 x h).elim (fun h => by simp [hq2] at h) (fun h => by cases h.2)
    · exact h

theorem afterListing_good {K : Kernel} {F : Felix} {listed : List String} {n : String} {des : List String}
    (hK : K.get n = none) (hnl : n ∉ listed) (ha : F.allMeta.has n = true) (hneed : F.needed n = true)
    (htr : Tracked F n des) : Good K (F.afterListing listed true) n des := by
  obtain ⟨q1, q2, hq, _⟩ := qAddAll_eq true (sortS listed) F
  simp only [Felix.afterListing, if_true, hq, Felix.sweep]
  refine Good_congr (F := List.foldl Felix.onMissing _ _) rfl (onMissingAll_good (F0 := { F with qMust := q1, qBg := q2 }) hK ha hneed htr _ ?_)
  obtain ⟨t, ht, _⟩ := htr
  refine List.mem_filter.2 ⟨List.mem_eraseDups.2 ?_, by simpa using hnl⟩
  exact List.mem_append_left _ (List.mem_append_left _ ((Map.has_iff_mem_keys _ _).1 (Map.has_of_get ht)))

/-- What a full resync that reports success establishes. -/
structure ResyncPost (w w' : W) : Prop where
  winv : WInv w.cfg w'.F w'.K
  dirtyOK : DirtyOK w'.F
  cov : Cov w.cfg w'.F w'.K
  qd : QD w.cfg w'.F

theorem Good.acc {K : Kernel} {F : Felix} {n : String} {des : List String} (h : Good K F n des) : Acc F K n := by
  intro dm t _ ht
  obtain ⟨hdp, ⟨t', ht', _, hmem⟩, _⟩ := h
  rw [ht] at ht'; cases ht'
  cases hk : K.get n with
  | none =>
    refine ⟨by rw [hdp, hk]; rfl, List.eq_nil_iff_forall_not_mem.2 fun x hx => ?_⟩
    simpa [hk] using (hmem x).1 hx
  | some k =>
    exact ⟨parseMeta k, by rw [hdp, hk]; rfl, fun h => ⟨parseMeta_matches h, fun x => by simpa [hk] using hmem x⟩⟩

theorem fullResync_post (w : W) (hok : DesOK w.cfg w.F) (hfull : w.F.fullReq = true)
    (hres : (w.tryResync).2 = false) : ResyncPost w (w.tryResync).1 := by
  unfold W.tryResync at hres ⊢
  simp only [hfull, Bool.true_or, if_true] at hres ⊢
  unfold W.beginResync at hres ⊢
  simp only [if_true] at hres ⊢
  -- 1. a full resync first clears the view and the queues
  generalize hCleared : ({ w with F := { w.F with qMust := [], qBg := [], dp := [] } } : W) = wCleared at hres ⊢
  -- 2. the kernel's owned names are listed (a failed listing is excluded by `hres`)
  obtain ⟨lK, lF, lc, lres⟩ := listNames_desc wCleared
  generalize wCleared.listNames = ln at hres lK lF lc lres ⊢
  obtain ⟨wListed, lo⟩ := ln
  dsimp only at lK lF lc lres hres ⊢
  subst hCleared
  rcases lres with rfl | rfl
  · cases hres
  · dsimp only at hres lc lF lK ⊢
    generalize hl : List.filter w.cfg.owns (Map.keys w.K) = listed at hres ⊢
    have hlist : ∀ n, n ∈ listed ↔ w.K.has n = true ∧ w.cfg.owns n = true := fun n => by
      rw [← hl, List.mem_filter, Map.has_iff_mem_keys]
    -- 3. `afterListing` queues the listed names and sweeps the others: view still empty, `qMust` = listed,
    -- and a wanted set the kernel lacks already has a good view (`hGone`)
    obtain ⟨hdpEmpty, hqm, hqb⟩ := afterListing_full (F := wListed.F) listed (by rw [lF]) (by rw [lF]) (by rw [lF])
    have presSwept : Pres w.F (wListed.F.afterListing listed true) :=
      Pres.trans (lF ▸ Pres.of_members ⟨rfl, rfl, rfl, rfl⟩ rfl) (afterListing_res _ _ _).1
    have hGone : ∀ n des, w.K.get n = none → n ∉ listed → w.F.allMeta.has n = true → w.F.needed n = true →
        Tracked w.F n des → Good w.K (wListed.F.afterListing listed true) n des := by
      rw [lF]; exact fun n des h1 h2 h3 h4 h5 => afterListing_good h1 h2 h3 h4 h5
    generalize wListed.F.afterListing listed true = FSwept at hres hdpEmpty hqm hqb presSwept hGone ⊢
    -- 4. the drain re-lists exactly the names of `qMust`, i.e. every owned kernel set
    rw [drain_full { wListed with F := FSwept } (presSwept.fullReq.trans hfull)] at hres ⊢
    dsimp only at hres ⊢
    generalize hDrain : ({ wListed with F := { FSwept with qMust := [] } } : W) = wDrain at hres ⊢
    have hDrainK : wDrain.K = w.K := by rw [← hDrain]; exact lK
    have hDrainCfg : wDrain.cfg = w.cfg := by rw [← hDrain]; exact lc
    have hDrainF : wDrain.F = { FSwept with qMust := [] } := by rw [← hDrain]
    have presDrain : Pres w.F wDrain.F := hDrainF ▸ presSwept.trans (Pres.of_members ⟨rfl, rfl, rfl, rfl⟩ rfl)
    have hL : ∀ n, n ∈ sortS FSwept.qMust ↔ w.K.has n = true ∧ w.cfg.owns n = true := fun n => by
      rw [mem_sortS, hqm, hlist]
    have hD : Draining wDrain (sortS FSwept.qMust) (List.foldl W.drainStep (wDrain, false) (sortS FSwept.qMust)).1 :=
      Draining.foldl (Draining.refl _ _)
    have hgood : ∀ n, w.F.desired.has n = true → ∃ t, w.F.members.get n = some t ∧
        Good w.K (List.foldl W.drainStep (wDrain, false) (sortS FSwept.qMust)).1.F n t.des := by
      intro n hn
      have ha := hok.inAll n hn
      obtain ⟨t, htr, ht⟩ := tracked_of_has (hok.tracked n ha)
      refine ⟨t, ht, hDrainK ▸ drain_good (hDrainCfg ▸ hok.notTemp n hn) (presDrain.allMeta ▸ ha) (presDrain.desired ▸ hn)
        (by rw [needed_congr presDrain.filter]; exact hok.needed n hn) (presDrain.tracked n _ ha htr) (wDrain, false)
        (Draining.refl _ _) ?_ hres⟩
      by_cases hk : w.K.has n = true
      · exact Or.inl ((hL n).2 ⟨hk, hok.owned n hn⟩)
      · refine Or.inr fun _ => ?_
        rw [hDrainK, hDrainF]
        exact Good_congr rfl (hGone n _ (by simpa [Map.has] using hk) (fun h => hk ((hlist n).1 h).1) ha
          (hok.needed n hn) htr)
    have hcov : ∀ b, w.cfg.owns b = true → w.K.has b = true →
        (List.foldl W.drainStep (wDrain, false) (sortS FSwept.qMust)).1.F.dp.has b = true := fun b hown hb =>
      drain_cov (hDrainK ▸ hb) (wDrain, false) (Draining.refl _ _) (Or.inl ((hL b).2 ⟨hb, hown⟩))
    generalize List.foldl W.drainStep (wDrain, false) (sortS FSwept.qMust) = R at hD hgood hcov hres ⊢
    have hdes : R.1.F.desired = w.F.desired := hD.pres.desired.trans presDrain.desired
    have hK : R.1.K = w.K := hD.K.trans hDrainK
    -- every desired set is either in the kernel, hence listed and drained, or was swept: its view is good
    refine ⟨⟨fun n hn => hok.notTemp n (hdes ▸ hn), fun n hn => ?_, fun n dm t hdm ht => ?_⟩,
      fun n hn hnd t ht => ?_, fun b hown hb => ?_, ?_⟩
    · obtain ⟨_, _, _, ⟨t', ht', _⟩, _⟩ := hgood n (hdes ▸ hn)
      exact Map.has_of_get ht'
    · obtain ⟨_, _, hg⟩ := hgood n (hdes ▸ Map.has_of_get hdm)
      exact hK ▸ hg.acc dm t hdm ht
    · obtain ⟨_, _, hg⟩ := hgood n (hdes ▸ hn)
      exact hg.2.2 hnd t ht
    · exact hcov b hown (hK ▸ hb)
    · refine hD.grow.QD (fun x hx => ((hL x).1 hx).2) ?_
      rw [hDrainF]
      exact ⟨fun b hb => by simp [hdpEmpty b] at hb, by simp, fun x hx => absurd hx (hqb x)⟩

end CalicoVerif.C16
