import CalicoVerif.Proofs.C32Spec
/-! C32 — the ring as a clock face: index arithmetic modulo `n`, what marking, `AddFlow` and `Rollover` do to
single buckets, contiguity of the time layout (`Contig`) and how `NewBucketRing` reaches it by `n` rollovers from a
ring with one bucket set (`initRing`, `Fresh`, `rollN_spec`, `newRing_spec`), and `findBucket` on a contiguous ring. -/
namespace CalicoVerif.C32

theorem contains_iff (b : Bucket) (t : Int) : b.contains t = true ↔ b.start ≤ t ∧ t < b.stop := by
  simp only [Bucket.contains, Bool.and_eq_true, decide_eq_true_eq]

theorem idxSub_lt (r : Ring) (i k : Nat) (hn : 0 < r.n) : r.idxSub i k < r.n := Nat.mod_lt _ hn
theorem idxAdd_lt (r : Ring) (i k : Nat) (hn : 0 < r.n) : r.idxAdd i k < r.n := Nat.mod_lt _ hn

theorem idxSub_congr {a b : Ring} (h : a.n = b.n) (i k : Nat) : a.idxSub i k = b.idxSub i k := by
  unfold Ring.idxSub; rw [h]

theorem idxSub_zero_of_lt (r : Ring) (i : Nat) (hi : i < r.n) : r.idxSub i 0 = i := by
  unfold Ring.idxSub; rw [Nat.sub_zero, Nat.add_mod_right]; exact Nat.mod_eq_of_lt hi

theorem idxSub_zero (r : Ring) (hh : r.head < r.n) : r.idxSub r.head 0 = r.head := idxSub_zero_of_lt r _ hh

theorem idxSub_idxSub (r : Ring) (h a b : Nat) (hab : a + b ≤ r.n) :
    r.idxSub (r.idxSub h a) b = r.idxSub h (a + b) := by
  unfold Ring.idxSub
  rw [Nat.add_sub_assoc (Nat.le_trans (Nat.le_add_left b a) hab), Nat.mod_add_mod,
    ← Nat.add_mod_right (h + r.n - (a + b))]
  congr 1; omega

theorem idxAdd_idxSub (r : Ring) (h d : Nat) (hd1 : 1 ≤ d) (hd : d ≤ h + r.n) :
    r.idxAdd (r.idxSub h d) 1 = r.idxSub h (d - 1) := by
  unfold Ring.idxAdd Ring.idxSub
  rw [Nat.mod_add_mod]; congr 1; omega

theorem idxSub_idxAdd (r : Ring) (h k : Nat) (hk1 : 1 ≤ k) (hk : k ≤ r.n) :
    r.idxSub (r.idxAdd h 1) k = r.idxSub h (k - 1) := by
  unfold Ring.idxAdd Ring.idxSub
  rw [Nat.add_sub_assoc hk, Nat.mod_add_mod]; congr 1; omega

theorem idxAdd_one_eq_sub (r : Ring) (h : Nat) (hn : 0 < r.n) : r.idxAdd h 1 = r.idxSub h (r.n - 1) := by
  unfold Ring.idxAdd Ring.idxSub; congr 1; omega

theorem idxSub_invol (r : Ring) (h k : Nat) (hh : h < r.n) (hk : k < r.n) : r.idxSub h (r.idxSub h k) = k := by
  unfold Ring.idxSub
  by_cases hkh : k ≤ h
  · rw [Nat.sub_add_comm hkh, Nat.add_mod_right, Nat.mod_eq_of_lt (Nat.lt_of_le_of_lt (Nat.sub_le h k) hh),
      Nat.sub_add_comm (Nat.sub_le h k), Nat.sub_sub_self hkh, Nat.add_mod_right, Nat.mod_eq_of_lt hk]
  · rw [Nat.mod_eq_of_lt (by omega : h + r.n - k < r.n), Nat.sub_sub_self (by omega : k ≤ h + r.n),
      Nat.mod_eq_of_lt hk]

theorem idxSub_inj (r : Ring) (h k1 k2 : Nat) (hh : h < r.n) (h1 : k1 < r.n) (h2 : k2 < r.n)
    (he : r.idxSub h k1 = r.idxSub h k2) : k1 = k2 := by
  have := congrArg (r.idxSub h) he
  rwa [idxSub_invol r h k1 hh h1, idxSub_invol r h k2 hh h2] at this

theorem idxAdd_one_ne (r : Ring) (hh : r.head < r.n) (k : Nat) (hk : k + 1 < r.n) :
    r.idxAdd r.head 1 ≠ r.idxSub r.head k := by
  rw [idxAdd_one_eq_sub r r.head (Nat.zero_lt_of_lt hh)]
  intro he
  have := idxSub_inj r r.head (r.n - 1) k hh (by omega) (by omega) he
  omega

theorem getD_set_self {α : Type} (l : List α) (i : Nat) (v d : α) (h : i < l.length) : (l.set i v).getD i d = v := by
  simp [List.getD_eq_getElem?_getD, List.getElem?_set_self h]

theorem getD_set_ne {α : Type} (l : List α) (i j : Nat) (v d : α) (h : i ≠ j) : (l.set i v).getD j d = l.getD j d := by
  simp [List.getD_eq_getElem?_getD, List.getElem?_set_ne h]

theorem getD_replicate {α : Type} (n i : Nat) (a : α) : (List.replicate n a).getD i a = a := by
  simp only [List.getD_eq_getElem?_getD, List.getElem?_replicate]; split <;> rfl

theorem markFold (idxs : List Nat) (bs : List Bucket) :
    (idxs.foldl (fun bs i => bs.set i { (bs.getD i emptyBucket) with pushed := true }) bs).length = bs.length ∧
    ∀ j, (idxs.foldl (fun bs i => bs.set i { (bs.getD i emptyBucket) with pushed := true }) bs).getD j emptyBucket =
      { bs.getD j emptyBucket with
        pushed := (bs.getD j emptyBucket).pushed || (decide (j ∈ idxs) && decide (j < bs.length)) } := by
  induction idxs generalizing bs with
  | nil => exact ⟨rfl, fun j => by simp⟩
  | cons i is ih =>
    obtain ⟨hl, hg⟩ := ih (bs.set i { (bs.getD i emptyBucket) with pushed := true })
    rw [List.length_set] at hl hg
    refine ⟨hl, fun j => ?_⟩
    rw [List.foldl_cons, hg j]
    by_cases h : i = j
    · subst h
      by_cases hlt : i < bs.length
      · rw [getD_set_self _ _ _ _ hlt]; simp [hlt]
      · rw [List.set_eq_of_length_le (Nat.le_of_not_lt hlt)]; simp [hlt]
    · rw [getD_set_ne _ _ _ _ _ h]; simp [Ne.symm h]

theorem markPushed_n (r : Ring) (idxs : List Nat) : (r.markPushed idxs).n = r.n := (markFold idxs r.buckets).1

theorem markPushed_bucket (r : Ring) (idxs : List Nat) (j : Nat) :
    (r.markPushed idxs).bucket j =
      { r.bucket j with pushed := (r.bucket j).pushed || (decide (j ∈ idxs) && decide (j < r.n)) } :=
  (markFold idxs r.buckets).2 j

theorem markPushed_bflows (r : Ring) (idxs : List Nat) : (r.markPushed idxs).bflows = r.bflows := rfl

theorem markPushed_append (r : Ring) (a b : List Nat) : (r.markPushed a).markPushed b = r.markPushed (a ++ b) := by
  simp only [Ring.markPushed, List.foldl_append]

theorem emit_fst (r : Ring) : r.emit.1 = r.markPushed (r.emit.2.flatMap (·.idxs)) := by
  unfold Ring.emit
  simp only []
  generalize (r.built.reverse).filter (fun c => !c.flows.isEmpty) = cs
  induction cs generalizing r with
  | nil => rfl
  | cons c cs ih => rw [List.foldl_cons, ih, markPushed_append, List.flatMap_cons]

theorem emit_n (r : Ring) : r.emit.1.n = r.n := by rw [emit_fst, markPushed_n]

theorem emit_bucket (r : Ring) (j : Nat) :
    r.emit.1.bucket j =
      { r.bucket j with pushed := (r.bucket j).pushed || (decide (∃ c ∈ r.emit.2, j ∈ c.idxs) && decide (j < r.n)) } := by
  rw [emit_fst, markPushed_bucket]; simp only [List.mem_flatMap]

theorem emit_sent_marked (r : Ring) (c : Coll) (hc : c ∈ r.emit.2) (i : Nat) (hi : i ∈ c.idxs) (hn : i < r.n) :
    (r.emit.1.bucket i).pushed = true := by
  rw [emit_bucket, decide_eq_true (p := ∃ c ∈ r.emit.2, i ∈ c.idxs) ⟨c, hc, hi⟩, decide_eq_true hn]
  exact Bool.or_true _

theorem emit_sent_built (r : Ring) (c : Coll) (hc : c ∈ r.emit.2) : c ∈ r.built :=
  List.mem_reverse.1 (List.mem_filter.1 hc).1

theorem rollover_fst (r : Ring) (sink : Bool) : (r.rollover sink).1 = if sink then r.rolled.emit.1 else r.rolled := by
  cases sink <;> rfl

theorem rolled_n (r : Ring) : r.rolled.n = r.n := List.length_set ..

theorem rolled_new (r : Ring) (hn : 0 < r.n) :
    r.rolled.bucket (r.idxAdd r.head 1) = { start := r.eoh, stop := r.eoh + r.interval, pushed := false, keys := [] } :=
  getD_set_self _ _ _ _ (idxAdd_lt r _ _ hn)

theorem rolled_old (r : Ring) (i : Nat) (hne : r.idxAdd r.head 1 ≠ i) : r.rolled.bucket i = r.bucket i :=
  getD_set_ne _ _ _ _ _ hne

theorem rolled_eoh (r : Ring) (hn : 0 < r.n) : r.rolled.eoh = r.eoh + r.interval :=
  congrArg Bucket.stop (rolled_new r hn)

theorem rolled_back_zero (r : Ring) (hn : 0 < r.n) :
    r.rolled.bucket (r.rolled.idxSub r.rolled.head 0) =
      { start := r.eoh, stop := r.eoh + r.interval, pushed := false, keys := [] } := by
  rw [idxSub_congr (rolled_n r)]
  show r.rolled.bucket (r.idxSub (r.idxAdd r.head 1) 0) = _
  rw [idxSub_zero_of_lt r _ (idxAdd_lt r _ _ hn), rolled_new r hn]

theorem rolled_back_succ (r : Ring) (hh : r.head < r.n) (k : Nat) (hk : k + 1 < r.n) :
    r.rolled.bucket (r.rolled.idxSub r.rolled.head (k + 1)) = r.bucket (r.idxSub r.head k) := by
  rw [idxSub_congr (rolled_n r)]
  show r.rolled.bucket (r.idxSub (r.idxAdd r.head 1) (k + 1)) = _
  rw [idxSub_idxAdd r r.head (k + 1) (Nat.succ_pos k) (Nat.le_of_lt hk), Nat.add_sub_cancel,
    rolled_old r _ (idxAdd_one_ne r hh k hk)]

theorem rolled_bflows (r : Ring) : r.rolled.bflows = r.bflows.set (r.idxAdd r.head 1) [] := rfl

theorem addFlow_none {r : Ring} {t : Int} (key : Nat) (cnt : Int) (h : r.findBucket t = none) :
    r.addFlow key t cnt = (r, false) := by
  simp only [Ring.addFlow, h]

theorem addFlow_some {r : Ring} {t : Int} {i : Nat} (key : Nat) (cnt : Int) (h : r.findBucket t = some i) :
    r.addFlow key t cnt =
      ({ r with dia := setDia key (addWin (r.bucket i).start (r.bucket i).stop cnt ((lookupDia r.dia key).getD [])) r.dia,
                buckets := r.buckets.set i { r.bucket i with keys := insertKey key (r.bucket i).keys },
                bflows := r.bflows.set i ((key, cnt) :: r.bflows.getD i []) }, true) := by
  simp only [Ring.addFlow, h, Ring.setBucket]

theorem addFlow_bucket {r : Ring} {t : Int} {i : Nat} (key : Nat) (cnt : Int) (h : r.findBucket t = some i)
    (hi : i < r.n) (j : Nat) :
    (r.addFlow key t cnt).1.bucket j =
      if i = j then { r.bucket i with keys := insertKey key (r.bucket i).keys } else r.bucket j := by
  rw [addFlow_some key cnt h]
  split
  · rename_i hj; subst hj; exact getD_set_self _ _ _ _ hi
  · rename_i hj; exact getD_set_ne _ _ _ _ _ hj

theorem addFlow_n {r : Ring} {t : Int} {i : Nat} (key : Nat) (cnt : Int) (h : r.findBucket t = some i) :
    (r.addFlow key t cnt).1.n = r.n := by
  rw [addFlow_some key cnt h]; exact List.length_set ..

/-- What `CInv` reads of the buckets. -/
structure SameTimes (a b : Ring) : Prop where
  head : a.head = b.head
  interval : a.interval = b.interval
  len : a.buckets.length = b.buckets.length
  bk : ∀ i, (a.bucket i).start = (b.bucket i).start ∧ (a.bucket i).stop = (b.bucket i).stop ∧
            (a.bucket i).keys = (b.bucket i).keys

/-- What `Contig` and `findBucket` read; `AddFlow` keeps it. -/
structure SameLayout (a b : Ring) : Prop where
  head : a.head = b.head
  interval : a.interval = b.interval
  len : a.n = b.n
  bk : ∀ i, (a.bucket i).start = (b.bucket i).start ∧ (a.bucket i).stop = (b.bucket i).stop

/-- What `PInv` reads; `AddFlow` keeps it. -/
structure SameFlags (a b : Ring) : Prop where
  head : a.head = b.head
  len : a.n = b.n
  pa : a.pushAfter = b.pushAfter
  agg : a.agg = b.agg
  pushed : ∀ i, (a.bucket i).pushed = (b.bucket i).pushed

theorem SameTimes.layout {a b : Ring} (h : SameTimes a b) : SameLayout a b :=
  ⟨h.head, h.interval, h.len, fun i => ⟨(h.bk i).1, (h.bk i).2.1⟩⟩

theorem SameLayout.eoh {a b : Ring} (h : SameLayout a b) : a.eoh = b.eoh := by
  unfold Ring.eoh; rw [h.head]; exact (h.bk _).2

structure SameButPushed (a b : Ring) : Prop where
  times : SameTimes a b
  pa : a.pushAfter = b.pushAfter
  agg : a.agg = b.agg
  dia : a.dia = b.dia
  bflows : a.bflows = b.bflows

theorem markPushed_same (r : Ring) (idxs : List Nat) : SameButPushed (r.markPushed idxs) r :=
  ⟨⟨rfl, rfl, markPushed_n r idxs, fun j => by rw [markPushed_bucket]; exact ⟨rfl, rfl, rfl⟩⟩, rfl, rfl, rfl,
    markPushed_bflows r idxs⟩

theorem emit_same (r : Ring) : SameButPushed r.emit.1 r := by rw [emit_fst]; exact markPushed_same r _

theorem addFlow_same {r : Ring} {t : Int} {i : Nat} (key : Nat) (cnt : Int) (h : r.findBucket t = some i)
    (hi : i < r.n) : SameLayout (r.addFlow key t cnt).1 r ∧ SameFlags (r.addFlow key t cnt).1 r := by
  have hb : ∀ j, ((r.addFlow key t cnt).1.bucket j).start = (r.bucket j).start ∧
      ((r.addFlow key t cnt).1.bucket j).stop = (r.bucket j).stop ∧
      ((r.addFlow key t cnt).1.bucket j).pushed = (r.bucket j).pushed := fun j => by
    rw [addFlow_bucket key cnt h hi]; split
    · rename_i hj; subst hj; exact ⟨rfl, rfl, rfl⟩
    · exact ⟨rfl, rfl, rfl⟩
  have hn := addFlow_n key cnt h
  rw [addFlow_some key cnt h] at hb hn ⊢
  exact ⟨⟨rfl, rfl, hn, fun j => ⟨(hb j).1, (hb j).2.1⟩⟩, ⟨rfl, hn, rfl, rfl, fun j => (hb j).2.2⟩⟩

theorem addFlow_layout {r : Ring} {t : Int} {i : Nat} (key : Nat) (cnt : Int) (h : r.findBucket t = some i)
    (hi : i < r.n) : SameLayout (r.addFlow key t cnt).1 r := (addFlow_same key cnt h hi).1

theorem addFlow_flags {r : Ring} {t : Int} {i : Nat} (key : Nat) (cnt : Int) (h : r.findBucket t = some i)
    (hi : i < r.n) : SameFlags (r.addFlow key t cnt).1 r := (addFlow_same key cnt h hi).2

theorem PContig.of_layout {a b : Ring} {j : Nat} (h : SameLayout a b) (hb : PContig b j) : PContig a j := by
  refine ⟨h.len ▸ hb.npos, by rw [h.len, h.head]; exact hb.hlt, h.interval ▸ hb.ipos, h.len ▸ hb.jle, fun k hk => ?_⟩
  rw [h.eoh, h.head, h.interval, idxSub_congr h.len, (h.bk _).1, (h.bk _).2]
  exact hb.tile k hk

theorem Contig.of_layout {a b : Ring} (h : SameLayout a b) (hb : Contig b) : Contig a := by
  unfold Contig at hb ⊢; rw [h.len]; exact PContig.of_layout h hb

theorem rolled_pcontig {r : Ring} {j : Nat} (h : PContig r j) : PContig r.rolled (min (j + 1) r.n) := by
  have hn := rolled_n r
  refine ⟨hn ▸ h.npos, hn ▸ idxAdd_lt r _ _ h.npos, h.ipos, hn ▸ Nat.min_le_right _ _, fun k hk => ?_⟩
  rw [rolled_eoh r h.npos]
  show _ = r.eoh + r.interval - (k : Int) * r.interval ∧ _ = r.eoh + r.interval - (k : Int) * r.interval - r.interval
  cases k with
  | zero => rw [rolled_back_zero r h.npos]; constructor <;> simp
  | succ k =>
    have hk' : k < j ∧ k + 1 < r.n := by omega
    rw [rolled_back_succ r h.hlt k hk'.2, (h.tile k hk'.1).1, (h.tile k hk'.1).2, Int.natCast_succ, Int.add_mul,
      Int.one_mul]
    constructor <;> omega

theorem rolled_contig {r : Ring} (h : Contig r) : Contig r.rolled := by
  have := rolled_pcontig h
  rw [Nat.min_eq_right (Nat.le_succ _)] at this
  unfold Contig; rw [rolled_n]; exact this

theorem rollover_contig {r : Ring} (h : Contig r) (sink : Bool) : Contig (r.rollover sink).1 := by
  rw [rollover_fst]
  cases sink
  · exact rolled_contig h
  · exact Contig.of_layout (emit_same _).times.layout (rolled_contig h)

structure Fresh (r : Ring) : Prop where
  dia : r.dia = []
  bk : ∀ i, (r.bucket i).keys = [] ∧ (r.bucket i).pushed = false
  blen : r.bflows.length = r.n
  bf : ∀ i, r.bflows.getD i [] = []

theorem rolled_fresh {r : Ring} (hn : 0 < r.n) (h : Fresh r) : Fresh r.rolled := by
  have hd : r.rolled.dia = [] := by
    show List.foldl _ r.dia (r.bucket (r.idxAdd r.head 1)).keys = []
    rw [(h.bk _).1]; exact h.dia
  refine ⟨hd, fun i => ?_, by rw [rolled_bflows, List.length_set, rolled_n]; exact h.blen, fun i => ?_⟩
  · by_cases hi : r.idxAdd r.head 1 = i
    · subst hi; rw [rolled_new r hn]; exact ⟨rfl, rfl⟩
    · rw [rolled_old r i hi]; exact h.bk i
  · rw [rolled_bflows]
    by_cases hi : r.idxAdd r.head 1 = i
    · subst hi; exact getD_set_self _ _ _ _ (h.blen ▸ idxAdd_lt r _ _ hn)
    · rw [getD_set_ne _ _ _ _ _ hi]; exact h.bf i

theorem rollN_spec {r : Ring} {j : Nat} (h : PContig r j) (hf : Fresh r) (m : Nat) :
    PContig (rollN r m) (min (j + m) r.n) ∧ Fresh (rollN r m) ∧ (rollN r m).n = r.n := by
  induction m generalizing r j with
  | zero => exact ⟨by rw [Nat.add_zero, Nat.min_eq_left h.jle]; exact h, hf, rfl⟩
  | succ m ih =>
    have := ih (rolled_pcontig h) (rolled_fresh h.npos hf)
    rw [rolled_n] at this
    refine ⟨?_, this.2⟩
    have he : min (min (j + 1) r.n + m) r.n = min (j + (m + 1)) r.n := by omega
    rw [← he]; exact this.1

def initRing (n : Nat) (interval S : Int) (pushAfter agg : Nat) : Ring :=
  { buckets := (List.replicate n emptyBucket).set 0 (⟨S, S + interval, false, []⟩ : Bucket),
    head := 0, interval := interval, pushAfter := pushAfter, agg := agg, dia := [], bflows := List.replicate n [] }

theorem newRing_eq (n : Nat) (interval now : Int) (pushAfter agg : Nat) :
    newRing n interval now pushAfter agg = rollN (initRing n interval (now + interval - interval * n) pushAfter agg) n := rfl

theorem initRing_spec (n : Nat) (interval S : Int) (pushAfter agg : Nat) (hn : 0 < n) (hi : 0 < interval) :
    PContig (initRing n interval S pushAfter agg) 1 ∧ Fresh (initRing n interval S pushAfter agg) ∧
      (initRing n interval S pushAfter agg).n = n := by
  have hlen : (initRing n interval S pushAfter agg).n = n := by simp [initRing, Ring.n]
  have hl : 0 < (List.replicate n emptyBucket).length := by simpa using hn
  have hb : (initRing n interval S pushAfter agg).bucket 0 = (⟨S, S + interval, false, []⟩ : Bucket) :=
    getD_set_self _ _ _ _ hl
  have hn' : 0 < (initRing n interval S pushAfter agg).n := hlen.symm ▸ hn
  refine ⟨⟨hn', hn', hi, hn', fun k hk => ?_⟩, ⟨rfl, fun i => ?_, by simp [initRing, Ring.n], fun i => ?_⟩, hlen⟩
  · have hk0 : k = 0 := by omega
    subst hk0
    rw [idxSub_zero _ hn']
    show ((initRing n interval S pushAfter agg).bucket 0).stop = ((initRing n interval S pushAfter agg).bucket 0).stop - _ ∧
      ((initRing n interval S pushAfter agg).bucket 0).start = ((initRing n interval S pushAfter agg).bucket 0).stop - _ - _
    rw [hb]
    show S + interval = S + interval - ((0 : Nat) : Int) * interval ∧ S = S + interval - ((0 : Nat) : Int) * interval - interval
    constructor <;> omega
  · by_cases h0 : 0 = i
    · subst h0; rw [hb]; exact ⟨rfl, rfl⟩
    · have : (initRing n interval S pushAfter agg).bucket i = emptyBucket :=
        (getD_set_ne _ _ _ _ _ h0).trans (getD_replicate n i emptyBucket)
      rw [this]; exact ⟨rfl, rfl⟩
  · exact getD_replicate n i []

theorem newRing_spec (n : Nat) (interval now : Int) (pushAfter agg : Nat) (hn : 0 < n) (hi : 0 < interval) :
    Contig (newRing n interval now pushAfter agg) ∧ Fresh (newRing n interval now pushAfter agg) := by
  rw [newRing_eq]
  obtain ⟨h0, hf, hl⟩ := initRing_spec n interval (now + interval - interval * n) pushAfter agg hn hi
  obtain ⟨h1, h2, h3⟩ := rollN_spec h0 hf n
  rw [hl, Nat.min_eq_right (Nat.le_add_left n 1)] at h1
  unfold Contig; rw [h3, hl]
  exact ⟨h1, h2⟩

theorem contig_boh {r : Ring} (h : Contig r) : r.boh = r.eoh - (r.n : Int) * r.interval := by
  unfold Ring.boh
  have hc : ((r.n - 1 : Nat) : Int) = (r.n : Int) - 1 := by have := h.npos; omega
  rw [idxAdd_one_eq_sub r r.head h.npos, (h.tile (r.n - 1) (Nat.sub_lt h.npos Nat.one_pos)).2, hc, Int.sub_mul,
    Int.one_mul]
  omega

theorem contig_bucket {r : Ring} (h : Contig r) (i : Nat) (hi : i < r.n) :
    ∃ k : Nat, k < r.n ∧ i = r.idxSub r.head k ∧ (r.bucket i).stop = r.eoh - (k : Int) * r.interval ∧
      (r.bucket i).start = r.eoh - (k : Int) * r.interval - r.interval := by
  have hk := idxSub_lt r r.head i h.npos
  have he := idxSub_invol r r.head i h.hlt hi
  have := h.tile _ hk
  rw [he] at this
  exact ⟨_, hk, he.symm, this⟩

theorem contig_width {r : Ring} (h : Contig r) (i : Nat) (hi : i < r.n) :
    (r.bucket i).stop = (r.bucket i).start + r.interval := by
  obtain ⟨k, _, _, st, sr⟩ := contig_bucket h i hi
  rw [st, sr]; omega

theorem contig_stop_le {r : Ring} (h : Contig r) (i : Nat) (hi : i < r.n) : (r.bucket i).stop ≤ r.eoh := by
  obtain ⟨k, _, _, st, _⟩ := contig_bucket h i hi
  have h0 : 0 ≤ (k : Int) * r.interval := Int.mul_nonneg (by omega) (by have := h.ipos; omega)
  rw [st]; omega

theorem contig_boh_le {r : Ring} (h : Contig r) (i : Nat) (hi : i < r.n) : r.boh ≤ (r.bucket i).start := by
  obtain ⟨k, hk, _, _, sr⟩ := contig_bucket h i hi
  have h1 : ((k : Int) + 1) * r.interval ≤ (r.n : Int) * r.interval :=
    Int.mul_le_mul_of_nonneg_right (by omega) (by have := h.ipos; omega)
  rw [Int.add_mul, Int.one_mul] at h1
  rw [contig_boh h, sr]; omega

/-- `one_bucket_per_flow`, uniqueness -/
theorem contig_unique {r : Ring} (h : Contig r) (t : Int) (i j : Nat) (hi : i < r.n) (hj : j < r.n)
    (ci : (r.bucket i).contains t = true) (cj : (r.bucket j).contains t = true) : i = j := by
  obtain ⟨ki, _, hei, sti, sri⟩ := contig_bucket h i hi
  obtain ⟨kj, _, hej, stj, srj⟩ := contig_bucket h j hj
  rw [contains_iff] at ci cj
  rw [sti, sri] at ci
  rw [stj, srj] at cj
  have hI := h.ipos
  -- buckets at different distances from the head are at least `interval` apart
  have far : ∀ a b : Nat, a < b → ((a : Int) + 1) * r.interval ≤ (b : Int) * r.interval := fun a b hab =>
    Int.mul_le_mul_of_nonneg_right (by omega) (by omega)
  have : ki = kj := by
    rcases Nat.lt_trichotomy ki kj with hlt | heq | hgt
    · have := far ki kj hlt; rw [Int.add_mul, Int.one_mul] at this; omega
    · exact heq
    · have := far kj ki hgt; rw [Int.add_mul, Int.one_mul] at this; omega
  rw [hei, hej, this]

theorem contig_start_inj {r : Ring} (hc : Contig r) (i j : Nat) (hi : i < r.n) (hj : j < r.n)
    (h : (r.bucket i).start = (r.bucket j).start) : i = j := by
  have hbi := contig_width hc i hi
  have hbj := contig_width hc j hj
  have hI := hc.ipos
  apply contig_unique hc (r.bucket i).start i j hi hj
  · rw [contains_iff]; omega
  · rw [contains_iff]; omega

/-- `one_bucket_per_flow`, existence: on a contiguous ring `findBucket` computes the index directly, its fallback
scan never runs. -/
theorem contig_findBucket {r : Ring} (h : Contig r) (t : Int) (h1 : r.boh ≤ t) (h2 : t < r.eoh) :
    ∃ i, i < r.n ∧ r.findBucket t = some i ∧ (r.bucket i).contains t = true := by
  have hI := h.ipos
  have hb := contig_boh h
  generalize ha : r.eoh - 1 - t = a
  have ha0 : 0 ≤ a := by omega
  have hq1 : a / r.interval * r.interval ≤ a := Int.ediv_mul_le a (by omega)
  have hq2 : a < (a / r.interval + 1) * r.interval := Int.lt_ediv_add_one_mul_self a hI
  rw [Int.add_mul, Int.one_mul] at hq2
  have hq0 : 0 ≤ a / r.interval := Int.ediv_nonneg ha0 (by omega)
  have hqn : a / r.interval < r.n := by
    by_cases hc : a / r.interval < r.n
    · exact hc
    · have : (r.n : Int) * r.interval ≤ a / r.interval * r.interval :=
        Int.mul_le_mul_of_nonneg_right (by omega) (by omega)
      omega
  have hk : (a / r.interval).toNat < r.n := by omega
  have htile := h.tile _ hk
  rw [Int.toNat_of_nonneg hq0] at htile
  have hc : (r.bucket (r.idxSub r.head (a / r.interval).toNat)).contains t = true := by
    rw [contains_iff, htile.1, htile.2]
    constructor <;> omega
  refine ⟨_, idxSub_lt r _ _ h.npos, ?_, hc⟩
  unfold Ring.findBucket
  rw [if_neg (by omega : ¬ (t ≥ r.eoh ∨ t < r.boh))]
  simp only [ha, Nat.mod_eq_of_lt hk, hc, if_true]

theorem scan_sound (r : Ring) (t : Int) (k i j : Nat) (h : r.scan t k i = some j) : (r.bucket j).contains t = true := by
  induction k generalizing i with
  | zero => simp [Ring.scan] at h
  | succ k ih =>
    simp only [Ring.scan] at h
    split at h
    · rename_i hc; cases h; exact hc
    · exact ih _ h

/-- one_bucket_per_flow (soundness half, every ring): `findBucket` only ever answers with a bucket
whose `[start, end)` contains the flow's start time. -/
theorem findBucket_sound (r : Ring) (t : Int) (i : Nat) (h : r.findBucket t = some i) :
    (r.bucket i).contains t = true := by
  unfold Ring.findBucket at h
  split at h
  · cases h
  · simp only [] at h
    split at h
    · rename_i hc; cases h; exact hc
    · exact scan_sound r t _ _ _ h

theorem findBucket_range (r : Ring) (t : Int) (i : Nat) (h : r.findBucket t = some i) : r.boh ≤ t ∧ t < r.eoh := by
  unfold Ring.findBucket at h
  split at h
  · cases h
  · omega

theorem findBucket_lt {r : Ring} (hc : Contig r) (t : Int) (i : Nat) (h : r.findBucket t = some i) : i < r.n := by
  obtain ⟨h1, h2⟩ := findBucket_range r t i h
  obtain ⟨i', hi', hf', _⟩ := contig_findBucket hc t h1 h2
  rw [h] at hf'; cases hf'; exact hi'

end CalicoVerif.C32
