/-!
Association lists read as finite maps.  Every model keeps its Go maps as a `List (K × V)` and reads
them by "first pair whose key matches"; the models differ only in how they spell that lookup
(recursive `if`, `List.lookup`, `find?`), the deletion (a `filter` on the keys, or a recursive walk)
and the insertion (in front of the filtered list, behind it, or in place).  `get` is the one lookup, the other
spellings are shown equal to it, and each model has one bridge lemma from its own lookup to `get` (`get_eq`,
`alGet_eq`, `aget_eq`, `mget_eq`, `lookup_eq_get`, `SMap.find_eq`) through which its map lemmas are instances of the
ones here.  `del` and `set` are the delete and the insert of most models, reducible so that a model's own `filter` is
recognised; the insert behind what is left (C02) is `get_set_end`/`nodup_set_end`.  An insert in place (C43 `aset`,
C45 `mset`) is not covered: those keep their own inductions.
-/
namespace CalicoVerif.Assoc
universe u v w
variable {K : Type u} {V : Type v} {W : Type w} [DecidableEq K]

def get : List (K × V) → K → Option V
  | [], _ => none
  | (k', v) :: m, k => if k' = k then some v else get m k

@[simp] theorem get_nil (k : K) : get ([] : List (K × V)) k = none := rfl

theorem get_cons (p : K × V) (m : List (K × V)) (k : K) :
    get (p :: m) k = if p.1 = k then some p.2 else get m k := rfl

theorem lookup_eq [BEq K] [LawfulBEq K] (m : List (K × V)) (k : K) : m.lookup k = get m k := by
  induction m with
  | nil => rfl
  | cons p r ih =>
    by_cases e : p.1 = k
    · subst e; simp [List.lookup, get]
    · rw [get_cons, if_neg e, ← ih]
      exact List.lookup_cons.trans (by rw [beq_false_of_ne (Ne.symm e)])

theorem find?_eq [BEq K] [LawfulBEq K] (m : List (K × V)) (k : K) :
    (m.find? (fun p => p.1 == k)).map (·.2) = get m k := by
  induction m with
  | nil => rfl
  | cons p r ih =>
    by_cases e : p.1 = k
    · simp [get_cons, e]
    · simp [get_cons, e, ih]

theorem mem_of_get {m : List (K × V)} {k : K} {v : V} (h : get m k = some v) : (k, v) ∈ m := by
  induction m with
  | nil => cases h
  | cons p r ih =>
    rw [get_cons] at h
    split at h
    · next e => cases h; subst e; exact List.mem_cons_self ..
    · exact List.mem_cons_of_mem _ (ih h)

theorem get_eq_none_iff (m : List (K × V)) (k : K) : get m k = none ↔ k ∉ m.map (·.1) := by
  induction m with
  | nil => simp
  | cons p r ih =>
    by_cases e : p.1 = k
    · simp [get_cons, e]
    · simp [get_cons, e, ih, Ne.symm e]

theorem get_isSome_iff (m : List (K × V)) (k : K) : (get m k).isSome ↔ k ∈ m.map (·.1) := by
  rw [← Classical.not_not (a := k ∈ _), ← get_eq_none_iff]; cases get m k <;> simp

theorem get_isSome_of_mem {m : List (K × V)} {k : K} {v : V} (h : (k, v) ∈ m) : (get m k).isSome :=
  (get_isSome_iff m k).2 (List.mem_map_of_mem (f := (·.1)) h)

theorem get_of_mem {m : List (K × V)} {k : K} {v : V} (hn : (m.map (·.1)).Nodup) (h : (k, v) ∈ m) :
    get m k = some v := by
  induction m with
  | nil => cases h
  | cons p r ih =>
    rw [List.map_cons, List.nodup_cons] at hn
    rcases List.mem_cons.1 h with e | h'
    · subst e; simp [get_cons]
    · have : p.1 ≠ k := fun e => hn.1 (e ▸ List.mem_map_of_mem (f := (·.1)) h')
      rw [get_cons, if_neg this, ih hn.2 h']

theorem perm_get {m m' : List (K × V)} (hp : m.Perm m') (hn : (m'.map (·.1)).Nodup) (k : K) :
    get m k = get m' k := by
  have hm : (m.map (·.1)).Nodup := (hp.map _).nodup_iff.2 hn
  cases e : get m' k with
  | some v => exact get_of_mem hm (hp.mem_iff.2 (mem_of_get e))
  | none =>
    cases e' : get m k with
    | none => rfl
    | some w => rw [get_of_mem hn (hp.mem_iff.1 (mem_of_get e'))] at e; cases e

theorem get_append (m₁ m₂ : List (K × V)) (k : K) : get (m₁ ++ m₂) k = (get m₁ k).or (get m₂ k) := by
  induction m₁ with
  | nil => simp
  | cons p r ih => rw [List.cons_append, get_cons, get_cons, ih]; split <;> simp

theorem get_filter (m : List (K × V)) (q : K → Bool) (k : K) :
    get (m.filter (fun p => q p.1)) k = if q k then get m k else none := by
  induction m with
  | nil => simp
  | cons p r ih =>
    by_cases e : p.1 = k
    · subst e; cases h : q p.1 <;> simp [List.filter, h, get_cons, ih]
    · cases h : q p.1 <;> simp [List.filter, h, get_cons, e, ih]

theorem get_filter_of_nodup (P : K × V → Bool) (m : List (K × V)) (hn : (m.map (·.1)).Nodup) (k : K) :
    get (m.filter P) k = (get m k).filter (fun v => P (k, v)) := by
  induction m with
  | nil => rfl
  | cons p r ih =>
    rw [List.map_cons, List.nodup_cons] at hn
    by_cases e : p.1 = k
    · subst e
      cases hP : P p
      · have : get (r.filter P) p.1 = none :=
          (get_eq_none_iff _ _).2 fun h => hn.1 ((List.filter_sublist.map _).subset h)
        simp [List.filter, hP, get_cons, this, Option.filter]
      · simp [List.filter, hP, get_cons, Option.filter]
    · cases hP : P p <;> simp [List.filter, hP, get_cons, e, ih hn.2]

theorem get_map_val (g : K → V → W) (m : List (K × V)) (k : K) :
    get (m.map (fun p => (p.1, g p.1 p.2))) k = (get m k).map (g k) := by
  induction m with
  | nil => rfl
  | cons p r ih =>
    by_cases e : p.1 = k
    · subst e; simp [get_cons]
    · simp [get_cons, e, ih]

abbrev del (m : List (K × V)) (k : K) : List (K × V) := m.filter (fun p => decide (p.1 ≠ k))

abbrev set (m : List (K × V)) (k : K) (v : V) : List (K × V) := (k, v) :: del m k

theorem get_del (m : List (K × V)) (k k' : K) : get (del m k) k' = if k' = k then none else get m k' := by
  rw [del, get_filter m (fun x => decide (x ≠ k))]
  by_cases h : k' = k <;> simp [h]

theorem get_set (m : List (K × V)) (k k' : K) (v : V) :
    get (set m k v) k' = if k' = k then some v else get m k' := by
  rw [set, get_cons, get_del]
  by_cases h : k' = k
  · simp [h]
  · simp [h, Ne.symm h]

theorem get_set_end (m : List (K × V)) (k k' : K) (v : V) :
    get (del m k ++ [(k, v)]) k' = if k' = k then some v else get m k' := by
  rw [get_append, get_del, get_cons]
  by_cases h : k' = k
  · simp [h]
  · simp [h, Ne.symm h]

theorem mem_del {m : List (K × V)} {k : K} {p : K × V} : p ∈ del m k ↔ p ∈ m ∧ p.1 ≠ k := by
  simp [List.mem_filter]

theorem mem_set {m : List (K × V)} {k : K} {v : V} {p : K × V} (h : p ∈ set m k v) :
    p = (k, v) ∨ (p ∈ m ∧ p.1 ≠ k) :=
  (List.mem_cons.1 h).imp_right mem_del.1

theorem mem_set_of_ne {m : List (K × V)} {p : K × V} {k : K} (v : V) (h : p ∈ m) (hk : p.1 ≠ k) : p ∈ set m k v :=
  List.mem_cons_of_mem _ (mem_del.2 ⟨h, hk⟩)

omit [DecidableEq K] in
theorem nodup_filter {m : List (K × V)} (q : K × V → Bool) (h : (m.map (·.1)).Nodup) :
    ((m.filter q).map (·.1)).Nodup :=
  h.sublist (List.filter_sublist.map _)

theorem nodup_del {m : List (K × V)} (k : K) (h : (m.map (·.1)).Nodup) : ((del m k).map (·.1)).Nodup :=
  nodup_filter _ h

theorem nodup_set {m : List (K × V)} (k : K) (v : V) (h : (m.map (·.1)).Nodup) :
    ((set m k v).map (·.1)).Nodup := by
  rw [List.map_cons, List.nodup_cons]
  exact ⟨fun hm => by obtain ⟨p, hp, e⟩ := List.mem_map.1 hm; exact (mem_del.1 hp).2 e, nodup_filter _ h⟩

theorem nodup_set_end {m : List (K × V)} (k : K) (v : V) (h : (m.map (·.1)).Nodup) :
    ((del m k ++ [(k, v)]).map (·.1)).Nodup :=
  (List.perm_append_comm.map _).nodup_iff.1 (nodup_set k v h)

theorem get_foldl_del (L : List K) (m : List (K × V)) (k : K) :
    get (L.foldl del m) k = if k ∈ L then none else get m k := by
  induction L generalizing m with
  | nil => simp
  | cons a L ih =>
    rw [List.foldl_cons, ih, get_del]
    by_cases h : k = a <;> simp [h]

/-- the last write to `k` wins; a key not written keeps its value -/
theorem get_foldl_set (L : List (K × V)) (m : List (K × V)) (k : K) :
    get (L.foldl (fun m p => set m p.1 p.2) m) k = (get L.reverse k).or (get m k) := by
  induction L generalizing m with
  | nil => simp
  | cons a L ih =>
    rw [List.foldl_cons, ih, get_set, List.reverse_cons, get_append, get_cons, get_nil]
    cases get L.reverse k with
    | some _ => rfl
    | none => by_cases h : k = a.1 <;> simp [h, eq_comm]

theorem get_foldl_set_of_nodup {L : List (K × V)} (hn : (L.map (·.1)).Nodup) (m : List (K × V)) (k : K) :
    get (L.foldl (fun m p => set m p.1 p.2) m) k = (get L k).or (get m k) := by
  rw [get_foldl_set, perm_get (List.reverse_perm L) hn]

theorem filter_key {m : List (K × V)} (hn : (m.map (·.1)).Nodup) (k : K) :
    m.filter (fun x => decide (x.1 = k)) = match get m k with
      | some v => [(k, v)]
      | none => [] := by
  induction m with
  | nil => rfl
  | cons p r ih =>
    obtain ⟨a, b⟩ := p
    rw [List.map_cons, List.nodup_cons] at hn
    by_cases e : a = k
    · subst e
      have := ih hn.2
      rw [(get_eq_none_iff r a).2 hn.1] at this
      simp [List.filter, get, this]
    · simp [List.filter, get, e, ih hn.2]

/-! The same facts in the spelling of C15, C16 and C17 (`get := lookup`, `erase k := filter (·.1 != k)`,
`set k v := (k, v) :: erase k`).  `put` is either of the two writes and `puts` a list of them, oldest first: a cache
update is one (C15), and so are the passes that bring a kernel table and a view of it up to date (C17). -/
section Lookup
variable [BEq K] [LawfulBEq K]

theorem lookup_filter_key (q : K → Bool) (l : List (K × V)) (k : K) :
    (l.filter (fun p => q p.1)).lookup k = if q k then l.lookup k else none := by
  rw [lookup_eq, lookup_eq]; exact get_filter l q k

theorem lookup_filter_of_nodup (P : K × V → Bool) (l : List (K × V)) (hn : (l.map (·.1)).Nodup) (k : K) :
    (l.filter P).lookup k = (l.lookup k).filter (fun v => P (k, v)) := by
  rw [lookup_eq, lookup_eq]; exact get_filter_of_nodup P l hn k

theorem lookup_erase (l : List (K × V)) (k k' : K) :
    (l.filter (fun p => p.1 != k)).lookup k' = if k' = k then none else l.lookup k' := by
  rw [lookup_filter_key (· != k)]
  by_cases h : k' = k <;> simp [h]

theorem lookup_set (l : List (K × V)) (k k' : K) (v : V) :
    ((k, v) :: l.filter (fun p => p.1 != k)).lookup k' = if k' = k then some v else l.lookup k' := by
  by_cases h : k' = k
  · simp [h]
  · simp [List.lookup_cons, beq_false_of_ne h, lookup_erase, h]

theorem lookup_map_val (g : K → V → W) (l : List (K × V)) (k : K) :
    (l.map (fun p => (p.1, g p.1 p.2))).lookup k = (l.lookup k).map (g k) := by
  rw [lookup_eq, lookup_eq]; exact get_map_val g l k

theorem lookup_isSome_iff_mem_keys (l : List (K × V)) (k : K) : (l.lookup k).isSome = true ↔ k ∈ l.map (·.1) := by
  rw [lookup_eq]; exact get_isSome_iff l k

def put (l : List (K × V)) (k : K) : Option V → List (K × V)
  | some v => (k, v) :: l.filter (fun p => p.1 != k)
  | none => l.filter (fun p => p.1 != k)

theorem lookup_put (l : List (K × V)) (k k' : K) (o : Option V) :
    (put l k o).lookup k' = if k' = k then o else l.lookup k' := by
  cases o
  · exact lookup_erase l k k'
  · exact lookup_set l k k' _

omit [DecidableEq K] in
theorem nodup_keys_put (l : List (K × V)) (k : K) (o : Option V) (h : (l.map (·.1)).Nodup) :
    ((put l k o).map (·.1)).Nodup := by
  have he := nodup_filter (fun p => p.1 != k) h
  cases o with
  | none => exact he
  | some v =>
    refine List.nodup_cons.2 ⟨fun hm => ?_, he⟩
    obtain ⟨p, hp, hk⟩ := List.mem_map.1 hm
    exact bne_iff_ne.1 (List.mem_filter.1 hp).2 hk

def puts (l : List (K × V)) (ws : List (K × Option V)) : List (K × V) := ws.foldl (fun m p => put m p.1 p.2) l

omit [DecidableEq K] [LawfulBEq K] in
theorem puts_append (l : List (K × V)) (a b : List (K × Option V)) : puts l (a ++ b) = puts (puts l a) b :=
  List.foldl_append

omit [DecidableEq K] in
theorem nodup_keys_puts : ∀ (ws : List (K × Option V)) (l : List (K × V)), (l.map (·.1)).Nodup →
    ((puts l ws).map (·.1)).Nodup
  | [], _, h => h
  | p :: ws, l, h => nodup_keys_puts ws _ (nodup_keys_put l p.1 p.2 h)

/-- Two lists that receive the same writes: a relation between their values at `c` that holds of equal values
survives. -/
theorem lookup_puts_rel (R : Option V → Option V → Prop) (hR : ∀ o, R o o) (c : K) :
    ∀ (ws : List (K × Option V)) (a b : List (K × V)), R (a.lookup c) (b.lookup c) →
      R ((puts a ws).lookup c) ((puts b ws).lookup c)
  | [], _, _, h => h
  | p :: ws, a, b, h => by
    refine lookup_puts_rel R hR c ws _ _ ?_
    rw [lookup_put, lookup_put]
    split
    · exact hR _
    · exact h

theorem lookup_puts_of_not_mem (c : K) : ∀ (ws : List (K × Option V)) (l : List (K × V)), (∀ p ∈ ws, p.1 ≠ c) →
    (puts l ws).lookup c = l.lookup c
  | [], _, _ => rfl
  | p :: ws, l, h => by
    refine (lookup_puts_of_not_mem c ws _ fun q hq => h q (List.mem_cons_of_mem _ hq)).trans ?_
    rw [lookup_put, if_neg (Ne.symm (h p List.mem_cons_self))]

theorem lookup_puts_eq (c : K) (v : Option V) : ∀ (ws : List (K × Option V)) (l : List (K × V)),
    (∀ p ∈ ws, p.1 = c → p.2 = v) → ((∀ p ∈ ws, p.1 ≠ c) → l.lookup c = v) → (puts l ws).lookup c = v
  | [], _, _, hl => hl fun _ h => nomatch h
  | p :: ws, l, hv, hl => by
    refine lookup_puts_eq c v ws _ (fun q hq => hv q (List.mem_cons_of_mem _ hq)) fun hL => ?_
    rw [lookup_put]
    by_cases hp : c = p.1
    · rw [if_pos hp]; exact hv p List.mem_cons_self hp.symm
    · rw [if_neg hp]; exact hl fun q hq => (List.mem_cons.1 hq).elim (fun e => e ▸ Ne.symm hp) (hL q)

end Lookup

/-! `pr s k` is what a state shows at key `k` (a lookup, or several): if a step touches it at the key of
its item only, the projection after a fold is computed key by key. -/

theorem fold_local {S : Type w} {α : Type v} {Q : Type u} (step : S → α → S) (key : α → K) (pr : S → K → Q) (f : Q → α → Q)
    (hloc : ∀ s x k', pr (step s x) k' = if key x = k' then f (pr s k') x else pr s k')
    (xs : List α) (s : S) (k' : K) :
    pr (xs.foldl step s) k' = (xs.filter (fun x => decide (key x = k'))).foldl f (pr s k') := by
  induction xs generalizing s with
  | nil => rfl
  | cons x r ih =>
    simp only [List.foldl_cons, ih, hloc, List.filter]
    by_cases h : key x = k' <;> simp [h]

/-- The same for steps that do one idempotent thing `g k` at their key `k` (delete it, overwrite it
with a value that depends on the key alone). -/
theorem fold_local_idem {S : Type w} {Q : Type v} (step : S → K → S) (pr : S → K → Q) (g : K → Q → Q)
    (hg : ∀ k q, g k (g k q) = g k q)
    (hloc : ∀ s x k', pr (step s x) k' = if x = k' then g k' (pr s k') else pr s k')
    (ks : List K) (s : S) (k' : K) :
    pr (ks.foldl step s) k' = if k' ∈ ks then g k' (pr s k') else pr s k' := by
  induction ks generalizing s with
  | nil => rfl
  | cons x r ih =>
    rw [List.foldl_cons, ih, hloc]
    by_cases hx : x = k'
    · subst hx; simp [hg]
    · simp [hx, Ne.symm hx]

end CalicoVerif.Assoc
