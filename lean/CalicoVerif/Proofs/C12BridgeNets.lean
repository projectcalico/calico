import CalicoVerif.Proofs.C12BridgeFull
import CalicoVerif.Proofs.C12Nets
/-!
C12 — the reference bridge with literal IPv4 CIDR criteria added to the extended fragment:
`Model/Policy`'s CIDR clauses (`posNetOK` / `negNetOK` with the family reading) against the C11
reference (`filterRule` + `netContains`).
-/
namespace CalicoVerif.C12
open CalicoVerif.C11

/-- CIDRs are numbers on the C11 side, API strings in Model/Policy. -/
structure NamesN extends Names where
  cidr : Net → String
  cidrFam : ∀ n, Policy.cidrIsV6 (cidr n) = n.v6

def trRuleFN (N : NamesN) (r : C11.Rule) : Policy.Rule :=
  { trRuleF N.toNames (clearNets r) with
    srcNet := r.srcNet.map N.cidr, notSrcNet := r.notSrcNet.map N.cidr,
    dstNet := r.dstNet.map N.cidr, notDstNet := r.notDstNet.map N.cidr }

/-- `EnvRel` plus: the kernel's CIDR containment agrees with the numeric one on the CIDRs `U` the policy
state mentions. -/
structure EnvRelN (N : NamesN) (U : List Net) (env9 : Netfilter.Env) (pkt9 : Netfilter.Packet) (env : Env) (p : Pkt) :
    Prop where
  base : EnvRel N.toNames env9 pkt9 env p
  netS : ∀ n ∈ U, n.v6 = false → env9.netContains (N.cidr n) pkt9.src = netContains false p.src n
  netD : ∀ n ∈ U, n.v6 = false → env9.netContains (N.cidr n) pkt9.dst = netContains false p.postDst n

structure RuleFullN (U : List Net) (r : C11.Rule) : Prop where
  rest : RuleFull (clearNets r)
  v4 : ∀ n ∈ r.srcNet ++ r.notSrcNet ++ r.dstNet ++ r.notDstNet, n.v6 = false
  sub : ∀ n ∈ r.srcNet ++ r.notSrcNet ++ r.dstNet ++ r.notDstNet, n ∈ U

theorem NetsL4.fullN {U : List Net} {r : C11.Rule} (h : NetsL4 r) (ha : ActLit r.action) (h1 : ProtoNumOK r.protocol)
    (h2 : ProtoNumOK r.notProtocol) (hU : ∀ n ∈ r.srcNet ++ r.notSrcNet ++ r.dstNet ++ r.notDstNet, n ∈ U) :
    RuleFullN U r := by
  refine ⟨⟨ha, h1, h2, ?_, ?_, ?_, ?_, ?_, ?_⟩, h.v4, hU⟩ <;> rw [h.shape] <;> simp [clearNets, IcmpNN]

section
variable (N : NamesN) (env9 : Netfilter.Env) (a9 : Nat) (a : List (BitVec 32)) {U : List Net}
  (hs : ∀ n ∈ U, n.v6 = false → env9.netContains (N.cidr n) a9 = netContains false a n)
  (nets : List Net) (h : ∀ n ∈ nets, n.v6 = false ∧ n ∈ U)
include hs h

theorem netHas_bridge :
    Policy.familyOK false (nets.map N.cidr) = true ∧
    (nets.map N.cidr).any (fun c => Policy.netHas env9 false c a9) = nets.any (netContains false a) := by
  refine ⟨?_, ?_⟩
  · cases nets with
    | nil => rfl
    | cons x xs => simp [Policy.familyOK, N.cidrFam, (h x List.mem_cons_self).1]
  · rw [List.any_map]
    exact listAny_congr_mem fun n hnm => by
      simp only [Function.comp, Policy.netHas, N.cidrFam, (h n hnm).1, beq_self_eq_true, Bool.true_and]
      exact hs n (h n hnm).2 (h n hnm).1

theorem posNet_bridge :
    Policy.posNetOK env9 false (nets.map N.cidr) a9 = (nets.isEmpty || nets.any (netContains false a)) := by
  obtain ⟨h1, h2⟩ := netHas_bridge N env9 a9 a hs nets h
  rw [Policy.posNetOK, h1, h2, List.isEmpty_map, Bool.true_and]

theorem negNet_bridge :
    Policy.negNetOK env9 false (nets.map N.cidr) a9 = nets.all (fun n => !netContains false a n) := by
  obtain ⟨h1, h2⟩ := netHas_bridge N env9 a9 a hs nets h
  rw [Policy.negNetOK, h1, h2, Bool.true_and, List.not_any_eq_all_not]

end

theorem restMatch_clear (N : NamesN) (env9 : Netfilter.Env) (r : C11.Rule) (pkt9 : Netfilter.Packet) :
    Policy.restMatch env9 (C08.setNameFor false) (trRuleFN N r) pkt9 =
      Policy.restMatch env9 (C08.setNameFor false) (trRuleF N.toNames (clearNets r)) pkt9 := rfl

theorem ruleMatches_noNets (N : Names) (env9 : Netfilter.Env) (r0 : C11.Rule) (pkt9 : Netfilter.Packet)
    (h0 : r0.ipVersion = 0) :
    Policy.ruleMatches env9 (C08.setNameFor false) (trRuleF N r0) pkt9 =
      Policy.restMatch env9 (C08.setNameFor false) (trRuleF N r0) pkt9 := by
  simp [Policy.ruleMatches, Policy.netsMatch, Policy.posNetOK, Policy.negNetOK, Policy.familyOK, trRuleF, h0]

theorem ruleMatches_fullN {N : NamesN} {U : List Net} {env9 : Netfilter.Env} {pkt9 : Netfilter.Packet} {env : Env}
    {p : Pkt} (he : EnvRelN N U env9 pkt9 env p) (r : C11.Rule) (hr : RuleFullN U r) :
    Policy.ruleMatches env9 (C08.setNameFor false) (trRuleFN N r) pkt9 = refMatch env p r := by
  have hm : ∀ n ∈ r.srcNet ++ r.notSrcNet ++ r.dstNet ++ r.notDstNet, n.v6 = false ∧ n ∈ U :=
    fun n hn => ⟨hr.v4 n hn, hr.sub n hn⟩
  simp only [List.forall_mem_append] at hm
  obtain ⟨⟨⟨m1, m2⟩, m3⟩, m4⟩ := hm
  have hip : r.ipVersion = 0 := hr.rest.noNet.1
  have hrest := ruleMatches_full he.base (clearNets r) hr.rest
  rw [ruleMatches_noNets N.toNames env9 (clearNets r) pkt9 hip] at hrest
  have hL : Policy.ruleMatches env9 (C08.setNameFor false) (trRuleFN N r) pkt9 =
      (netsPart env p r && C11.ruleMatch env p .dest (clearNets r)) := by
    have e1 := posNet_bridge N env9 pkt9.src p.src he.netS r.srcNet m1
    have e2 := negNet_bridge N env9 pkt9.src p.src he.netS r.notSrcNet m2
    have e3 := posNet_bridge N env9 pkt9.dst p.postDst he.netD r.dstNet m3
    have e4 := negNet_bridge N env9 pkt9.dst p.postDst he.netD r.notDstNet m4
    have hiv : (trRuleFN N r).ipVersion = 0 := hip
    simp only [Policy.ruleMatches, hiv, beq_self_eq_true, Bool.true_or, Bool.true_and, restMatch_clear, hrest,
      Policy.netsMatch, he.base.pv4]
    have : (trRuleFN N r).srcNet = r.srcNet.map N.cidr ∧ (trRuleFN N r).notSrcNet = r.notSrcNet.map N.cidr ∧
        (trRuleFN N r).dstNet = r.dstNet.map N.cidr ∧ (trRuleFN N r).notDstNet = r.notDstNet.map N.cidr :=
      ⟨rfl, rfl, rfl, rfl⟩
    rw [this.1, this.2.1, this.2.2.1, this.2.2.2, e1, e2, e3, e4]
    simp only [netsPart, he.base.v4]
  exact hL.trans ((ruleMatch_split env p r).symm.trans (filterMatch_v4 env he.base.v4 p r hip hr.v4).symm)

theorem ruleBridge_fullN {N : NamesN} {U : List Net} {env9 : Netfilter.Env} {pkt9 : Netfilter.Packet} {env : Env}
    {p : Pkt} (he : EnvRelN N U env9 pkt9 env p) : RuleBridge env9 pkt9 env p (trRuleFN N) (RuleFullN U) :=
  ⟨fun _ hr => ⟨hr.rest.act, rfl⟩, fun r hr => ruleMatches_fullN he r hr⟩

end CalicoVerif.C12
