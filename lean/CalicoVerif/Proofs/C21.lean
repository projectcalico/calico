import CalicoVerif.Model.C21
import CalicoVerif.Proofs.CoreFacts
/-! C21 — the block functions of `Model/C21` one by one: what each does to an ordinal's attribute (`*_attrAt`), to the
free queue, and that it keeps `WF`; a release is read through its per-request verdict (`verdict_cases`) and leaves a
block `Marked`.  Over runs: the free queue's order by a ghost of entry times (`G`, `GInv`), and sequence numbers under
the client's read-operate-bump discipline (`cstep`).  `autoLoop` is `Cas.takeFree` of the store model with its first
two arms swapped; `autoLoop_perm` and `autoLoop_taken_not_reserved` are deliberate twins of `C19.takeFree_perm` and
`C19.takeFree_not_reserved`, so that this family imports nothing of the store family. -/
namespace CalicoVerif.C21

theorem setAll_length {α : Type} (l : List α) (idxs : List Nat) (v : α) :
    (setAll l idxs v).length = l.length := length_foldl_set v idxs l

theorem setAll_getElem? {α : Type} (l : List α) (idxs : List Nat) (v : α) (i : Nat) :
    (setAll l idxs v)[i]? = if i ∈ idxs then (l[i]?).map (fun _ => v) else l[i]? :=
  getElem?_foldl_set v idxs l i

theorem newIdx_eq_countP (used : Nat → Bool) (x : Nat) : newIdx used x = (List.range' 0 x).countP used := by
  rw [newIdx, List.range_eq_range', List.countP_eq_length_filter]

/-- Compaction keeps the used attributes in order: the one with old index `k + j` (indexes of `as` counted from
`k`) lands at the number of used indexes among `k, …, k + j - 1`. -/
theorem compact_get (used : Nat → Bool) (as : List Attr) (k j : Nat) (h : used (k + j) = true) :
    (compact used as k)[(List.range' k j).countP used]? = as[j]? := by
  induction as generalizing k j with
  | nil => simp [compact]
  | cons a as ih =>
    cases j with
    | zero =>
      simp at h
      simp [compact, h]
    | succ j =>
      have h' : used ((k + 1) + j) = true := by rw [← h]; congr 1; omega
      rw [List.range'_succ, List.countP_cons]
      by_cases hk : used k
      · simp only [compact, hk, if_true]
        simp [ih (k + 1) j h']
      · simp only [compact, hk]
        simp [ih (k + 1) j h']

def Block.ds (b : Block) (cd : Int) (now : Nat) : List Nat := (List.range b.n).filter (b.expired cd now)

theorem mem_ds {b : Block} {cd : Int} {now o : Nat} : o ∈ b.ds cd now ↔ o < b.n ∧ b.expired cd now o = true := by
  simp [Block.ds]

theorem gc_n (b : Block) (cd : Int) (now : Nat) : (b.gc cd now).1.n = b.n := by
  unfold Block.gc; simp only []; split <;> rfl
theorem gc_seq (b : Block) (cd : Int) (now : Nat) : (b.gc cd now).1.seq = b.seq := by
  unfold Block.gc; simp only []; split <;> rfl
theorem gc_unalloc (b : Block) (cd : Int) (now : Nat) : (b.gc cd now).1.unalloc = b.unalloc ++ b.ds cd now := by
  unfold Block.gc; simp only []; split <;> rfl
theorem gc_seqFor (b : Block) (cd : Int) (now : Nat) : (b.gc cd now).1.seqFor = setAll b.seqFor (b.ds cd now) none := by
  unfold Block.gc; simp only []; split <;> rfl
theorem expired_false_of_attrAt_none {b : Block} {cd : Int} {now o : Nat} (h : b.attrAt o = none) :
    b.expired cd now o = false := by
  simp [Block.expired, h]

theorem attrAt_eq_some {b : Block} {o : Nat} {a : Attr} :
    b.attrAt o = some a ↔ ∃ i, b.allocs[o]? = some (some i) ∧ b.attrs[i]? = some a := by
  unfold Block.attrAt
  split
  · next i hi => simp [hi]
  · next hn => exact ⟨nofun, fun ⟨i, hi, _⟩ => absurd hi (hn i)⟩

theorem attrAt_lt {b : Block} {o : Nat} {a : Attr} (h : b.attrAt o = some a) : o < b.allocs.length := by
  obtain ⟨i, hi, _⟩ := attrAt_eq_some.1 h
  exact (List.getElem?_eq_some_iff.1 hi).1

theorem attrAt_mem {b : Block} {o : Nat} {a : Attr} (h : b.attrAt o = some a) : a ∈ b.attrs := by
  obtain ⟨i, _, hi⟩ := attrAt_eq_some.1 h
  exact List.mem_of_getElem? hi

/-- `garbageCollect` as a renumbering `f` of the attribute indexes that are still in use. -/
theorem gc_renaming (b : Block) (cd : Int) (now : Nat) :
    ∃ f : Nat → Nat, (b.gc cd now).1.allocs = (setAll b.allocs (b.ds cd now) none).map (Option.map f) ∧
      ∀ i, (setAll b.allocs (b.ds cd now) none).contains (some i) = true →
        (b.gc cd now).1.attrs[f i]? = b.attrs[i]? := by
  unfold Block.gc Block.ds; simp only []
  split
  · refine ⟨_, rfl, fun i hi => ?_⟩
    rw [newIdx_eq_countP]
    exact compact_get _ b.attrs 0 i (by rwa [Nat.zero_add])
  · exact ⟨id, by simp, fun _ _ => rfl⟩

theorem gc_allocs_get (b : Block) (cd : Int) (now : Nat) :
    ∃ f : Nat → Nat, ∀ o : Nat, (b.gc cd now).1.allocs[o]? =
      if o ∈ b.ds cd now then (b.allocs[o]?).map (fun _ => none) else (b.allocs[o]?).map (Option.map f) := by
  obtain ⟨f, ha, _⟩ := gc_renaming b cd now
  refine ⟨f, fun o => ?_⟩
  rw [ha, List.getElem?_map, setAll_getElem?]
  split
  · cases b.allocs[o]? <;> rfl
  · rfl

theorem gc_allocs_length (b : Block) (cd : Int) (now : Nat) : (b.gc cd now).1.allocs.length = b.allocs.length := by
  obtain ⟨f, ha, _⟩ := gc_renaming b cd now
  rw [ha, List.length_map, setAll_length]

theorem gc_attrAt (b : Block) (cd : Int) (now : Nat) (hlen : b.allocs.length = b.n) (o : Nat) :
    (b.gc cd now).1.attrAt o = if b.expired cd now o then none else b.attrAt o := by
  obtain ⟨f, ha, hat⟩ := gc_renaming b cd now
  have hds : o ∈ b.ds cd now ↔ b.expired cd now o = true := by
    refine mem_ds.trans (and_iff_right_of_imp fun hex => ?_)
    -- an expired ordinal points at an attribute, so it is inside the block
    cases hat' : b.attrAt o with
    | none => rw [expired_false_of_attrAt_none hat'] at hex; cases hex
    | some a => exact hlen ▸ attrAt_lt hat'
  unfold Block.attrAt
  rw [ha, List.getElem?_map, setAll_getElem?]
  by_cases hex : b.expired cd now o = true
  · rw [if_pos (hds.2 hex), if_pos hex]
    cases b.allocs[o]? <;> rfl
  · rw [if_neg (mt hds.1 hex), if_neg hex]
    cases hao : b.allocs[o]? with
    | none => rfl
    | some v =>
      cases v with
      | none => rfl
      | some i =>
        refine hat i (List.contains_iff_mem.2 (List.mem_of_getElem? (i := o) ?_))
        rw [setAll_getElem?, if_neg (mt hds.1 hex), hao]

structure WF (b : Block) : Prop where
  alen : b.allocs.length = b.n
  slen : b.seqFor.length = b.n
  idx : ∀ (o i : Nat), b.allocs[o]? = some (some i) → i < b.attrs.length
  free : ∀ (o : Nat), o ∈ b.unalloc → b.allocs[o]? = some none
  nodup : b.unalloc.Nodup
  cool : ∀ a, a ∈ b.attrs → a.releasedAt.isSome = true → a.handle = none

def Block.LiveAt (b : Block) (o : Nat) (a : Attr) : Prop := b.attrAt o = some a ∧ a.releasedAt = none
def Block.CoolingAt (b : Block) (o : Nat) (r : Nat) : Prop := ∃ a, b.attrAt o = some a ∧ a.releasedAt = some r
/-- free (`Allocations[o] == nil`) -/
def Block.FreeAt (b : Block) (o : Nat) : Prop := b.allocs[o]? = some none

theorem attrAt_none_of_free {b : Block} {o : Nat} (h : b.FreeAt o) : b.attrAt o = none := by
  unfold Block.FreeAt at h
  simp [Block.attrAt, h]

theorem findOrAdd_new (attrs : List Attr) (a : Attr) : (findOrAdd attrs a).1[(findOrAdd attrs a).2]? = some a := by
  unfold findOrAdd
  cases h : attrs.findIdx? (fun x => x == a) with
  | none => simp
  | some i =>
    simp only []
    rw [List.findIdx?_eq_some_iff_getElem] at h
    obtain ⟨hlt, hx, _⟩ := h
    simp at hx
    simp [hlt, hx]

theorem findOrAdd_old (attrs : List Attr) (a : Attr) (i : Nat) (hi : i < attrs.length) :
    (findOrAdd attrs a).1[i]? = attrs[i]? := by
  unfold findOrAdd
  cases h : attrs.findIdx? (fun x => x == a) with
  | none => simp [List.getElem?_append_left hi]
  | some i => rfl

theorem findOrAdd_lt (attrs : List Attr) (a : Attr) : (findOrAdd attrs a).2 < (findOrAdd attrs a).1.length := by
  have := findOrAdd_new attrs a
  by_cases hh : (findOrAdd attrs a).2 < (findOrAdd attrs a).1.length
  · exact hh
  · rw [List.getElem?_eq_none (Nat.le_of_not_lt hh)] at this; cases this

theorem findOrAdd_len (attrs : List Attr) (a : Attr) : attrs.length ≤ (findOrAdd attrs a).1.length := by
  unfold findOrAdd
  cases h : attrs.findIdx? (fun x => x == a) <;> simp

theorem autoLoop_perm (rsv : List Nat) (k : Nat) (us : List Nat) :
    ((autoLoop rsv k us).1 ++ (autoLoop rsv k us).2).Perm us := by
  fun_induction autoLoop rsv k us with
  | case1 => exact .refl _
  | case2 => exact .refl _
  | case3 k o us _ r ih => exact List.perm_middle.trans (ih.cons o)
  | case4 k o us _ r ih => exact ih.cons o

theorem autoLoop_kept_sublist (rsv : List Nat) (k : Nat) (us : List Nat) :
    (autoLoop rsv k us).2.Sublist us := by
  fun_induction autoLoop rsv k us with
  | case1 => exact .refl _
  | case2 => exact .refl _
  | case3 k o us _ r ih => exact ih.cons_cons o
  | case4 k o us _ r ih => exact ih.cons o

theorem autoLoop_fifo (R : Nat → Nat → Prop) (rsv : List Nat) (k : Nat) (us : List Nat)
    (hp : us.Pairwise R) :
    ∀ y ∈ (autoLoop rsv k us).1, ∀ x ∈ (autoLoop rsv k us).2, rsv.contains x = false → R y x := by
  fun_induction autoLoop rsv k us with
  | case1 => intro y hy; cases hy
  | case2 => intro y hy; cases hy
  | case3 k o us hr r ih =>
    intro y hy x hx hnr
    rcases List.mem_cons.1 hx with rfl | hx
    · rw [hr] at hnr; cases hnr
    · exact ih (List.pairwise_cons.1 hp).2 y hy x hx hnr
  | case4 k o us _ r ih =>
    intro y hy x hx hnr
    rcases List.mem_cons.1 hy with rfl | hy
    · exact (List.pairwise_cons.1 hp).1 x ((autoLoop_kept_sublist rsv k us).subset hx)
    · exact ih (List.pairwise_cons.1 hp).2 y hy x hx hnr

theorem autoLoop_taken_not_reserved (rsv : List Nat) (k : Nat) (us : List Nat) :
    ∀ y ∈ (autoLoop rsv k us).1, rsv.contains y = false := by
  fun_induction autoLoop rsv k us with
  | case1 => intro y hy; cases hy
  | case2 => intro y hy; cases hy
  | case3 k o us _ r ih => exact ih
  | case4 k o us hr r ih =>
    intro y hy
    rcases List.mem_cons.1 hy with rfl | hy
    · simpa using hr
    · exact ih y hy

theorem compact_mem (used : Nat → Bool) (as : List Attr) (k : Nat) (a : Attr) (h : a ∈ compact used as k) : a ∈ as := by
  induction as generalizing k with
  | nil => simp [compact] at h
  | cons x xs ih =>
    simp only [compact] at h
    split at h
    · simp only [List.mem_cons] at h ⊢
      rcases h with h | h
      · exact Or.inl h
      · exact Or.inr (ih _ h)
    · exact List.mem_cons_of_mem _ (ih _ h)

theorem gc_attrs_mem (b : Block) (cd : Int) (now : Nat) (a : Attr) (h : a ∈ (b.gc cd now).1.attrs) : a ∈ b.attrs := by
  unfold Block.gc at h; simp only [] at h
  split at h
  · exact compact_mem _ _ _ _ h
  · exact h

theorem gc_WF {b : Block} (cd : Int) (now : Nat) (h : WF b) : WF (b.gc cd now).1 := by
  have hnotds : ∀ o : Nat, b.allocs[o]? = some none → o ∉ b.ds cd now := by
    intro o ho hm
    have := (mem_ds.1 hm).2
    rw [expired_false_of_attrAt_none (attrAt_none_of_free ho)] at this; cases this
  obtain ⟨f, hf⟩ := gc_allocs_get b cd now
  refine ⟨?_, ?_, ?_, ?_, ?_, ?_⟩
  · rw [gc_allocs_length, gc_n]; exact h.alen
  · rw [gc_seqFor, setAll_length, gc_n]; exact h.slen
  · intro o i hoi
    obtain ⟨g, ha, hat⟩ := gc_renaming b cd now
    rw [ha, List.getElem?_map] at hoi
    obtain ⟨v, hv, hvi⟩ := Option.map_eq_some_iff.1 hoi
    obtain ⟨j, rfl, rfl⟩ := Option.map_eq_some_iff.1 hvi
    -- the ordinal still points at the old index `j`, which is renamed to an index of the new list
    have hj : b.allocs[o]? = some (some j) := by
      rw [setAll_getElem?] at hv
      split at hv
      · cases hb : b.allocs[o]? <;> rw [hb] at hv <;> cases hv
      · exact hv
    have := hat j (List.contains_iff_mem.2 (List.mem_of_getElem? hv))
    rw [List.getElem?_eq_getElem (h.idx o j hj)] at this
    exact (List.getElem?_eq_some_iff.1 this).1
  · intro o ho
    rw [gc_unalloc, List.mem_append] at ho
    rw [hf o]
    rcases ho with ho | ho
    · have hfree := h.free o ho
      have := hnotds o hfree
      simp [this, hfree]
    · have hlt := (mem_ds.1 ho).1
      rw [← h.alen] at hlt
      simp [ho, List.getElem?_eq_getElem hlt]
  · rw [gc_unalloc, List.nodup_append]
    refine ⟨h.nodup, (List.nodup_range).filter _, ?_⟩
    intro a ha c hc hac
    subst hac
    exact hnotds a (h.free a ha) hc
  · intro a ha; exact h.cool a (gc_attrs_mem b cd now a ha)

theorem gc_free_iff {b : Block} (cd : Int) (now : Nat) (o : Nat) :
    (b.gc cd now).1.FreeAt o ↔ (o ∈ b.ds cd now ∧ o < b.allocs.length) ∨ (o ∉ b.ds cd now ∧ b.FreeAt o) := by
  obtain ⟨f, hf⟩ := gc_allocs_get b cd now
  unfold Block.FreeAt
  rw [hf o]
  by_cases hm : o ∈ b.ds cd now
  · simp only [hm, if_true, true_and, not_true, false_and, or_false]
    by_cases hh : o < b.allocs.length
    · simp [hh]
    · simp [hh]
  · simp only [hm, if_false, false_and, false_or, not_false_eq_true, true_and]
    cases hb : b.allocs[o]? with
    | none => simp
    | some v => cases v <;> simp

def coolAttr (now : Nat) : Attr := { handle := none, owner := 0, releasedAt := some now }

theorem mc_n (b : Block) (now : Nat) (ords : List Nat) (s : Bool) : (b.markCooldown now ords s).n = b.n := rfl
theorem mc_unalloc (b : Block) (now : Nat) (ords : List Nat) (s : Bool) : (b.markCooldown now ords s).unalloc = b.unalloc := rfl
theorem mc_seq (b : Block) (now : Nat) (ords : List Nat) (s : Bool) : (b.markCooldown now ords s).seq = b.seq := rfl
theorem mc_allocs (b : Block) (now : Nat) (ords : List Nat) (s : Bool) :
    (b.markCooldown now ords s).allocs = setAll b.allocs ords (some b.attrs.length) := rfl
theorem mc_attrs (b : Block) (now : Nat) (ords : List Nat) (s : Bool) :
    (b.markCooldown now ords s).attrs = b.attrs ++ [coolAttr now] := rfl

theorem live_allocated {b : Block} {o : Nat} (h : ∃ a, b.LiveAt o a) : ∃ i : Nat, b.allocs[o]? = some (some i) :=
  let ⟨_, ha, _⟩ := h
  let ⟨i, hi, _⟩ := attrAt_eq_some.1 ha
  ⟨i, hi⟩

theorem mc_attrAt {b : Block} (h : WF b) (now : Nat) (ords : List Nat) (s : Bool)
    (hlive : ∀ o ∈ ords, ∃ a, b.LiveAt o a) (o : Nat) :
    (b.markCooldown now ords s).attrAt o = if o ∈ ords then some (coolAttr now) else b.attrAt o := by
  have hall := fun o ho => live_allocated (hlive o ho)
  simp only [Block.attrAt, mc_allocs, mc_attrs, setAll_getElem?]
  by_cases hm : o ∈ ords
  · obtain ⟨i, hi⟩ := hall o hm
    simp [hm, hi]
  · simp only [hm, if_false]
    cases hb : b.allocs[o]? with
    | none => rfl
    | some v =>
      cases v with
      | none => rfl
      | some i => simp [List.getElem?_append_left (h.idx o i hb)]

theorem mc_WF {b : Block} (h : WF b) (now : Nat) (ords : List Nat) (s : Bool)
    (hlive : ∀ o ∈ ords, ∃ a, b.LiveAt o a) : WF (b.markCooldown now ords s) := by
  have hall := fun o ho => live_allocated (hlive o ho)
  refine ⟨?_, ?_, ?_, ?_, ?_, ?_⟩
  · rw [mc_allocs, setAll_length, mc_n]; exact h.alen
  · unfold Block.markCooldown Block.addCooldown; simp only []
    split
    · rw [setAll_length]; exact h.slen
    · exact h.slen
  · intro o i hoi
    rw [mc_allocs, setAll_getElem?] at hoi
    rw [mc_attrs]
    simp only [List.length_append, List.length_singleton]
    by_cases hm : o ∈ ords
    · obtain ⟨j, hj⟩ := hall o hm
      simp [hm, hj] at hoi; omega
    · simp only [hm, if_false] at hoi
      have := h.idx o i hoi; omega
  · intro o ho
    rw [mc_unalloc] at ho
    have hf := h.free o ho
    rw [mc_allocs, setAll_getElem?]
    have : o ∉ ords := by
      intro hm; obtain ⟨j, hj⟩ := hall o hm; rw [hf] at hj; cases hj
    simp [this, hf]
  · exact h.nodup
  · intro a ha hr
    rw [mc_attrs, List.mem_append] at ha
    rcases ha with ha | ha
    · exact h.cool a ha hr
    · simp only [List.mem_singleton] at ha; subst ha; rfl

def newAttr (h : Option Handle) (owner : Nat) : Attr := { handle := h, owner := owner, releasedAt := none }

/-- What `autoAssign` does when it takes something, and `assign` when it succeeds (`taken = [o]`): the free
ordinals `taken` get the attribute `a` (found or appended), `un` stays in the queue. -/
def Block.alloc (b : Block) (a : Attr) (taken un : List Nat) (sf : List (Option Nat)) : Block :=
  { b with attrs := (findOrAdd b.attrs a).1, allocs := setAll b.allocs taken (some (findOrAdd b.attrs a).2),
           seqFor := sf, unalloc := un }

theorem alloc_attrAt {b : Block} (hw : WF b) (a : Attr) {taken : List Nat}
    (hfree : ∀ o ∈ taken, b.allocs[o]? = some none) (un : List Nat) (sf : List (Option Nat)) (o : Nat) :
    (b.alloc a taken un sf).attrAt o = if o ∈ taken then some a else b.attrAt o := by
  simp only [Block.attrAt, Block.alloc, setAll_getElem?]
  by_cases hm : o ∈ taken
  · simp only [hm, if_true, hfree o hm, Option.map_some]
    exact findOrAdd_new _ _
  · simp only [hm, if_false]
    cases hb : b.allocs[o]? with
    | none => rfl
    | some v =>
      cases v with
      | none => rfl
      | some i => exact findOrAdd_old _ _ i (hw.idx o i hb)

theorem findOrAdd_mem (attrs : List Attr) (a x : Attr) (h : x ∈ (findOrAdd attrs a).1) : x ∈ attrs ∨ x = a := by
  unfold findOrAdd at h
  cases hf : attrs.findIdx? (fun x => x == a) with
  | none => simp [hf] at h; exact h
  | some i => simp [hf] at h; exact Or.inl h

theorem alloc_WF {b : Block} (hw : WF b) {a : Attr} (ha : a.releasedAt = none) {taken un : List Nat}
    (hfree : ∀ o ∈ taken, b.allocs[o]? = some none) (hsub : un.Sublist b.unalloc)
    (hdis : ∀ o ∈ un, o ∉ taken) {sf : List (Option Nat)} (hsf : sf.length = b.n) :
    WF (b.alloc a taken un sf) := by
  refine ⟨by simp only [Block.alloc, setAll_length]; exact hw.alen, hsf, ?_, ?_, hsub.nodup hw.nodup, ?_⟩
  · intro o i hoi
    simp only [Block.alloc, setAll_getElem?] at hoi ⊢
    by_cases hm : o ∈ taken
    · simp [hm, hfree o hm] at hoi
      rw [← hoi]; exact findOrAdd_lt _ _
    · simp only [hm, if_false] at hoi
      exact Nat.lt_of_lt_of_le (hw.idx o i hoi) (findOrAdd_len _ _)
  · intro o ho
    simp only [Block.alloc, setAll_getElem?, hdis o ho, if_false]
    exact hw.free o (hsub.subset ho)
  · intro x hx hr
    rcases findOrAdd_mem _ _ _ hx with hx | hx
    · exact hw.cool x hx hr
    · rw [hx, ha] at hr; cases hr

theorem aa_eq (b : Block) (num : Nat) (h : Option Handle) (owner : Nat) (rsv : List Nat) :
    (b.autoAssign num h owner rsv) =
      if (autoLoop rsv num b.unalloc).1 = [] then ({ b with unalloc := (autoLoop rsv num b.unalloc).2 }, [])
      else (b.alloc (newAttr h owner) (autoLoop rsv num b.unalloc).1 (autoLoop rsv num b.unalloc).2
          (setAll b.seqFor (autoLoop rsv num b.unalloc).1 (some b.seq)), (autoLoop rsv num b.unalloc).1) := by
  unfold Block.autoAssign; simp only []
  split
  · next he => rw [if_pos he]
  · next he => rw [if_neg (fun e => he e)]; rfl

theorem aa_result (b : Block) (num : Nat) (h : Option Handle) (owner : Nat) (rsv : List Nat) :
    (b.autoAssign num h owner rsv).2 = (autoLoop rsv num b.unalloc).1 := by
  rw [aa_eq]; split
  · next he => exact he.symm
  · rfl

theorem aa_unalloc (b : Block) (num : Nat) (h : Option Handle) (owner : Nat) (rsv : List Nat) :
    (b.autoAssign num h owner rsv).1.unalloc = (autoLoop rsv num b.unalloc).2 := by
  rw [aa_eq]; split <;> rfl

theorem aa_taken_free {b : Block} (hw : WF b) (num : Nat) (rsv : List Nat) (o : Nat)
    (h1 : o ∈ (autoLoop rsv num b.unalloc).1) : b.allocs[o]? = some none :=
  hw.free o ((autoLoop_perm rsv num b.unalloc).subset (List.mem_append_left _ h1))

theorem aa_attrAt {b : Block} (hw : WF b) (num : Nat) (h : Option Handle) (owner : Nat) (rsv : List Nat) (o : Nat) :
    (b.autoAssign num h owner rsv).1.attrAt o =
      if o ∈ (b.autoAssign num h owner rsv).2 then some (newAttr h owner) else b.attrAt o := by
  rw [aa_eq]; split
  · rfl
  · exact alloc_attrAt hw _ (aa_taken_free hw num rsv) _ _ o

theorem aa_WF {b : Block} (hw : WF b) (num : Nat) (h : Option Handle) (owner : Nat) (rsv : List Nat) :
    WF (b.autoAssign num h owner rsv).1 := by
  have hsub := autoLoop_kept_sublist rsv num b.unalloc
  rw [aa_eq]; split
  · exact ⟨hw.alen, hw.slen, hw.idx, fun o ho => hw.free o (hsub.subset ho), hsub.nodup hw.nodup, hw.cool⟩
  · refine alloc_WF hw rfl (aa_taken_free hw num rsv) hsub (fun o h2 h1 => ?_) (by rw [setAll_length]; exact hw.slen)
    -- taken and kept are the two halves of a duplicate-free queue
    have hn := (autoLoop_perm rsv num b.unalloc).nodup_iff.2 hw.nodup
    exact (List.nodup_append.1 hn).2.2 o h1 o h2 rfl

theorem assign_cases (b : Block) (o : Nat) (h : Option Handle) (owner : Nat) :
    (o ≥ b.n ∧ b.assign o h owner = (b, .range)) ∨
    (o < b.n ∧ (∃ i : Nat, b.allocs[o]? = some (some i)) ∧
        b.assign o h owner = ({ b with seqFor := b.seqFor.set o (some b.seq) }, .exists)) ∨
    (o < b.n ∧ (∀ i : Nat, b.allocs[o]? ≠ some (some i)) ∧
      b.assign o h owner =
        (b.alloc (newAttr h owner) [o] (b.unalloc.erase o) (b.seqFor.set o (some b.seq)), .ok)) := by
  unfold Block.assign Block.alloc newAttr
  by_cases hlt : o ≥ b.n
  · left; simp [hlt]
  · right
    simp only [hlt, if_false]
    cases hb : b.allocs[o]? with
    | none => right; exact ⟨by omega, by simp, rfl⟩
    | some v =>
      cases v with
      | none => right; exact ⟨by omega, by simp, rfl⟩
      | some i => left; exact ⟨by omega, ⟨i, rfl⟩, rfl⟩

theorem free_of_not_allocated {b : Block} (hw : WF b) {o : Nat} (hlt : o < b.n)
    (hno : ∀ i : Nat, b.allocs[o]? ≠ some (some i)) : ∀ o' ∈ [o], b.allocs[o']? = some none := by
  intro o' ho'
  rw [List.mem_singleton.1 ho']
  cases hb : b.allocs[o]? with
  | none => rw [List.getElem?_eq_none_iff, hw.alen] at hb; omega
  | some v =>
    cases v with
    | none => rfl
    | some i => exact absurd hb (hno i)

theorem assign_attrAt {b : Block} (hw : WF b) (o : Nat) (h : Option Handle) (owner : Nat) (o' : Nat) :
    (b.assign o h owner).1.attrAt o' =
      if (b.assign o h owner).2 = .ok ∧ o' = o then some (newAttr h owner) else b.attrAt o' := by
  rcases assign_cases b o h owner with ⟨_, hc⟩ | ⟨_, _, hc⟩ | ⟨hlt, hno, hc⟩
  · rw [hc]; simp
  · rw [hc]; simp [Block.attrAt]
  · rw [hc]
    simp only [true_and, alloc_attrAt hw _ (free_of_not_allocated hw hlt hno), List.mem_singleton]

theorem assign_unalloc_sublist (b : Block) (o : Nat) (h : Option Handle) (owner : Nat) :
    (b.assign o h owner).1.unalloc.Sublist b.unalloc := by
  rcases assign_cases b o h owner with ⟨_, hc⟩ | ⟨_, _, hc⟩ | ⟨hlt, hno, hc⟩
  · rw [hc]; exact List.Sublist.refl _
  · rw [hc]; exact List.Sublist.refl _
  · rw [hc]; exact List.erase_sublist

theorem assign_WF {b : Block} (hw : WF b) (o : Nat) (h : Option Handle) (owner : Nat) :
    WF (b.assign o h owner).1 := by
  rcases assign_cases b o h owner with ⟨_, hc⟩ | ⟨_, _, hc⟩ | ⟨hlt, hno, hc⟩
  · rw [hc]; exact hw
  · rw [hc]; exact ⟨hw.alen, by simp [hw.slen], hw.idx, hw.free, hw.nodup, hw.cool⟩
  · rw [hc]
    refine alloc_WF hw rfl (free_of_not_allocated hw hlt hno) List.erase_sublist (fun o' ho' h1 => ?_)
      (by simp [hw.slen])
    exact ((hw.nodup.mem_erase_iff).1 ho').1 (List.mem_singleton.1 h1)

theorem verdict2_rel {b : Block} {x : ROpt} {h : Handle} (hv : b.verdict2 x = .rel h) :
    ∃ a, b.attrAt x.ord = some a ∧ a.releasedAt = none ∧ (x.handle = [] ∨ a.hid = x.handle) ∧ h = a.hid := by
  unfold Block.verdict2 at hv
  split at hv
  · cases hv
  · next a ha =>
    split at hv
    · cases hv
    · next hr =>
      split at hv
      · cases hv
      · next hc =>
        cases hv
        refine ⟨a, ha, by simpa using hr, ?_, rfl⟩
        simp only [Bool.and_eq_true, bne_iff_ne, ne_eq, not_and, Decidable.not_not] at hc
        exact Decidable.or_iff_not_imp_left.2 hc

theorem verdict_cases (b : Block) (x : ROpt) :
    (b.n ≤ x.ord ∧ b.verdict x = .err .range) ∨
    (∃ s, x.seq = some s ∧ s ≠ b.getSeq x.ord ∧ b.verdict x = .err .seq) ∨
    (x.ord < b.n ∧ (∀ s, x.seq = some s → s = b.getSeq x.ord) ∧ b.verdict x = b.verdict2 x) := by
  unfold Block.verdict
  by_cases hlt : x.ord ≥ b.n
  · exact .inl ⟨hlt, if_pos hlt⟩
  · rw [if_neg hlt]
    cases hs : x.seq with
    | none => exact .inr (.inr ⟨Nat.lt_of_not_le hlt, nofun, rfl⟩)
    | some s =>
      by_cases hq : s = b.getSeq x.ord
      · exact .inr (.inr ⟨Nat.lt_of_not_le hlt, fun _ e => Option.some.inj e ▸ hq, by simp [hq]⟩)
      · exact .inr (.inl ⟨s, rfl, hq, by simp [hq]⟩)

theorem verdict_rel {b : Block} {x : ROpt} {h : Handle} (hv : b.verdict x = .rel h) : ∃ a, b.LiveAt x.ord a := by
  rcases verdict_cases b x with ⟨_, e⟩ | ⟨_, _, _, e⟩ | ⟨_, _, e⟩
  · rw [e] at hv; cases hv
  · rw [e] at hv; cases hv
  · obtain ⟨a, ha, hr, _⟩ := verdict2_rel (e ▸ hv)
    exact ⟨a, ha, hr⟩

def Block.relOrds (b : Block) (opts : List ROpt) : List Nat := (relsOf (b.verdicts opts)).map (·.1)

theorem mem_relOrds {b : Block} {opts : List ROpt} {o : Nat} :
    o ∈ b.relOrds opts ↔ ∃ x ∈ dedupe opts, x.ord = o ∧ ∃ h, b.verdict x = .rel h := by
  unfold Block.relOrds relsOf Block.verdicts
  simp only [List.mem_map, List.mem_filterMap, Prod.exists]
  constructor
  · rintro ⟨o', h, ⟨x, v, ⟨x', hx', hxe⟩, hm⟩, rfl⟩
    simp only [Prod.mk.injEq] at hxe
    obtain ⟨rfl, rfl⟩ := hxe
    cases hv : b.verdict x' with
    | err e => simp [hv] at hm
    | skip => simp [hv] at hm
    | rel h' =>
      simp only [hv, Option.some.injEq, Prod.mk.injEq] at hm
      exact ⟨x', hx', hm.1, h', hv⟩
  · rintro ⟨x, hx, rfl, h, hv⟩
    exact ⟨x.ord, h, ⟨x, .rel h, ⟨x, hx, by simp [hv]⟩, by simp⟩, rfl⟩

theorem relOrds_live {b : Block} {opts : List ROpt} : ∀ o ∈ b.relOrds opts, ∃ a, b.LiveAt o a := by
  intro o ho
  obtain ⟨x, _, rfl, h, hv⟩ := mem_relOrds.1 ho
  exact verdict_rel hv

inductive ReleaseCase (b : Block) (cd : Int) (now : Nat) (opts : List ROpt) : Prop
  | refused (p : ROpt × OptVerdict) (mem : p ∈ b.verdicts opts) (isErr : p.2.isErr = true)
      (blk : (b.release cd now opts).1 = b) (err : ∃ e, (b.release cd now opts).2 = .err e)
  | nothing (noErr : ∀ p ∈ b.verdicts opts, p.2.isErr = false) (nil : b.relOrds opts = [])
      (eq : b.release cd now opts = (b, .ok (skippedOf (b.verdicts opts)) (relsOf (b.verdicts opts))))
  | released (noErr : ∀ p ∈ b.verdicts opts, p.2.isErr = false) (ne : b.relOrds opts ≠ [])
      (eq : b.release cd now opts = (((b.markCooldown now (b.relOrds opts) true).gc cd now).1,
        .ok (skippedOf (b.verdicts opts)) (relsOf (b.verdicts opts))))

theorem release_cases (b : Block) (cd : Int) (now : Nat) (opts : List ROpt) : ReleaseCase b cd now opts := by
  cases hf : (b.verdicts opts).find? (fun p => p.2.isErr) with
  | some p =>
    have he := List.find?_some hf
    refine .refused p (List.mem_of_find?_eq_some hf) he ?_ ?_ <;>
      simp only [Block.release, hf] <;> exact ⟨_, rfl⟩
  | none =>
    have hne : ∀ p ∈ b.verdicts opts, p.2.isErr = false := fun p hp => by
      simpa using List.find?_eq_none.1 hf p hp
    by_cases he : b.relOrds opts = []
    · refine .nothing hne he ?_
      unfold Block.relOrds at he
      simp [Block.release, hf, he]
    · refine .released hne he ?_
      unfold Block.relOrds at he
      simp only [Block.release, hf, Block.relOrds]
      rw [if_neg (by rwa [List.isEmpty_iff])]

theorem mem_attrIdxs {b : Block} {h : Handle} {i : Nat} :
    i ∈ b.attrIdxsByHandle h ↔ ∃ a x, b.attrs[i]? = some a ∧ a.handle = some x ∧ sanitize x = h := by
  unfold Block.attrIdxsByHandle
  simp only [List.mem_filter, List.mem_range]
  constructor
  · rintro ⟨hlt, hm⟩
    cases ha : b.attrs[i]? with
    | none => simp [ha] at hm
    | some a =>
      cases hh : a.handle with
      | none => simp [ha, hh] at hm
      | some x => simp [ha, hh] at hm; exact ⟨a, x, rfl, hh, hm⟩
  · rintro ⟨a, x, ha, hh, hs⟩
    exact ⟨(List.getElem?_eq_some_iff.1 ha).1, by simp [ha, hh, hs]⟩

theorem mem_relhOrds {b : Block} {h : Handle} {seq : Option Nat} {o : Nat} :
    o ∈ b.relhOrds h seq ↔ o < b.n ∧ (∃ a x, b.attrAt o = some a ∧ a.handle = some x ∧ sanitize x = h) ∧
      (∀ s, seq = some s → s = b.getSeq o) := by
  have hseq : (match seq with | none => true | some s => s == b.getSeq o) = true ↔
      ∀ s, seq = some s → s = b.getSeq o := by
    cases seq with
    | none => simp
    | some s => simp
  unfold Block.relhOrds
  simp only [List.mem_filter, List.mem_range, attrAt_eq_some]
  refine and_congr_right fun _ => ?_
  cases hb : b.allocs[o]? with
  | none => simp
  | some v =>
    cases v with
    | none => simp
    | some i =>
      simp only [Bool.and_eq_true, List.contains_iff_mem, mem_attrIdxs, Option.some.injEq, exists_eq_left']
      exact and_congr Iff.rfl hseq

theorem relhOrds_live {b : Block} (hw : WF b) {h : Handle} {seq : Option Nat} :
    ∀ o ∈ b.relhOrds h seq, ∃ a, b.LiveAt o a := by
  intro o ho
  obtain ⟨_, ⟨a, x, ha, hh, _⟩, _⟩ := mem_relhOrds.1 ho
  refine ⟨a, ha, ?_⟩
  -- an attribute with a handle is not a cooldown attribute
  cases hr : a.releasedAt with
  | none => rfl
  | some r => rw [hw.cool a (attrAt_mem ha) (by rw [hr]; rfl)] at hh; cases hh

theorem relh_cases (b : Block) (cd : Int) (now : Nat) (h : Handle) (seq : Option Nat) :
    (b.attrIdxsByHandle h = [] ∧ b.releaseByHandle cd now h seq = (b, 0)) ∨
    (b.relhOrds h seq = [] ∧ b.releaseByHandle cd now h seq = ((b.gc cd now).1, 0)) ∨
    (b.relhOrds h seq ≠ [] ∧ b.releaseByHandle cd now h seq =
        (((b.markCooldown now (b.relhOrds h seq) false).gc cd now).1, (b.relhOrds h seq).length)) := by
  unfold Block.releaseByHandle
  cases hi : b.attrIdxsByHandle h with
  | nil => left; simp
  | cons i is =>
    right
    simp only [List.isEmpty_cons, Bool.false_eq_true, if_false]
    cases ho : b.relhOrds h seq with
    | nil => left; simp
    | cons o os => right; simp

theorem relhOrds_nil_of_idxs_nil {b : Block} {h : Handle} {seq : Option Nat} (hi : b.attrIdxsByHandle h = []) :
    b.relhOrds h seq = [] := by
  unfold Block.relhOrds
  rw [hi]
  apply List.filter_eq_nil_iff.2
  intro o _
  cases hb : b.allocs[o]? with
  | none => simp
  | some v => cases v <;> simp

/-- `b1` is what `release` / `releaseByHandle` garbage collect: `b`, possibly after `markCooldown` of some live
ordinals. -/
def Marked (now : Nat) (b b1 : Block) : Prop :=
  b1 = b ∨ ∃ ords s, (∀ o ∈ ords, ∃ a, b.LiveAt o a) ∧ b1 = b.markCooldown now ords s

theorem release_marked (b : Block) (cd : Int) (now : Nat) (opts : List ROpt) :
    (b.release cd now opts).1 = b ∨ ∃ b1, Marked now b b1 ∧ (b.release cd now opts).1 = (b1.gc cd now).1 := by
  cases release_cases b cd now opts with
  | refused _ _ _ hb => exact .inl hb
  | nothing _ _ hc => exact .inl (by rw [hc])
  | released _ _ hc => exact .inr ⟨_, .inr ⟨_, _, relOrds_live, rfl⟩, by rw [hc]⟩

theorem relh_marked {b : Block} (hw : WF b) (cd : Int) (now : Nat) (h : Handle) (seq : Option Nat) :
    (b.releaseByHandle cd now h seq).1 = b ∨
      ∃ b1, Marked now b b1 ∧ (b.releaseByHandle cd now h seq).1 = (b1.gc cd now).1 := by
  rcases relh_cases b cd now h seq with ⟨_, hc⟩ | ⟨_, hc⟩ | ⟨_, hc⟩
  · exact .inl (by rw [hc])
  · exact .inr ⟨b, .inl rfl, by rw [hc]⟩
  · exact .inr ⟨_, .inr ⟨_, _, relhOrds_live hw, rfl⟩, by rw [hc]⟩

theorem marked_WF {now : Nat} {b b1 : Block} (hw : WF b) (hm : Marked now b b1) : WF b1 := by
  rcases hm with rfl | ⟨ords, s, hall, rfl⟩
  · exact hw
  · exact mc_WF hw now ords s hall

theorem marked_unalloc_seq {now : Nat} {b b1 : Block} (hm : Marked now b b1) :
    b1.unalloc = b.unalloc ∧ b1.seq = b.seq := by
  rcases hm with rfl | ⟨ords, s, _, rfl⟩ <;> exact ⟨rfl, rfl⟩

theorem marked_cooling {now : Nat} {b b1 : Block} (hw : WF b) (hm : Marked now b b1) {o r : Nat}
    (hc : b.CoolingAt o r) : b1.CoolingAt o r := by
  rcases hm with rfl | ⟨ords, s, hall, rfl⟩
  · exact hc
  · obtain ⟨a, ha, hr⟩ := hc
    refine ⟨a, ?_, hr⟩
    rw [mc_attrAt hw _ _ _ hall, if_neg, ha]
    intro ho
    obtain ⟨a', ha', hr'⟩ := hall o ho
    rw [ha] at ha'; cases ha'; rw [hr] at hr'; cases hr'

/-- what `garbageCollect`, `release` and `releaseByHandle` with cooldown `cd` leave of `s.blk` -/
def Released (s : St) (cd : Int) (b' : Block) : Prop :=
  b' = s.blk ∨ ∃ b1, Marked s.now s.blk b1 ∧ b' = (b1.gc cd s.now).1

/-- the cooldown an operation garbage collects with, if it does -/
def Op.cd? : Op → Option Int
  | .gc cd | .release cd _ | .relh cd _ _ => some cd
  | _ => none

theorem step_released {s : St} (hw : WF s.blk) {op : Op} {cd : Int} (h : op.cd? = some cd) :
    Released s cd (step s op).blk := by
  cases op with
  | gc => cases h; exact .inr ⟨_, .inl rfl, rfl⟩
  | release => cases h; exact release_marked ..
  | relh => cases h; exact relh_marked hw ..
  | _ => cases h

theorem gc_cooling {b : Block} (hlen : b.allocs.length = b.n) {o r : Nat} (hc : b.CoolingAt o r) (c : Int) (hc0 : 0 ≤ c) (now : Nat) :
    (b.gc c now).1.CoolingAt o r ∨ (r : Int) + c ≤ now := by
  obtain ⟨a, ha, hr⟩ := hc
  by_cases hex : b.expired c now o = true
  · right
    unfold Block.expired at hex
    simp only [ha, hr, ge_iff_le, hc0, if_true, decide_eq_true_eq] at hex
    exact hex
  · left
    refine ⟨a, ?_, hr⟩
    rw [gc_attrAt b c now hlen]; simp [hex, ha]

theorem gc_live {b : Block} (hlen : b.allocs.length = b.n) {o : Nat} {a : Attr} (hl : b.LiveAt o a) (c : Int) (now : Nat) :
    (b.gc c now).1.LiveAt o a := by
  refine ⟨?_, hl.2⟩
  rw [gc_attrAt b c now hlen]
  have : b.expired c now o = false := by simp [Block.expired, hl.1, hl.2]
  simp [this, hl.1]

theorem gc_cooling_or_free {b : Block} (hlen : b.allocs.length = b.n) {o r : Nat} (hc : b.CoolingAt o r) (c : Int) (now : Nat) :
    (b.gc c now).1.attrAt o = none ∨ (b.gc c now).1.CoolingAt o r := by
  unfold Block.CoolingAt
  rw [gc_attrAt b c now hlen]
  split
  · exact .inl rfl
  · exact .inr hc

theorem mc_selected {b : Block} (hw : WF b) (now : Nat) {ords : List Nat} (s : Bool)
    (hlive : ∀ o ∈ ords, ∃ a, b.LiveAt o a) {o : Nat} (ho : o ∈ ords) :
    (b.markCooldown now ords s).CoolingAt o now :=
  ⟨coolAttr now, by rw [mc_attrAt hw _ _ _ hlive, if_pos ho], rfl⟩

theorem mc_live {b : Block} (hw : WF b) (now : Nat) {ords : List Nat} (s : Bool)
    (hlive : ∀ o ∈ ords, ∃ a, b.LiveAt o a) {o : Nat} {a : Attr} (hno : o ∉ ords) (hl : b.LiveAt o a) :
    (b.markCooldown now ords s).LiveAt o a :=
  ⟨by rw [mc_attrAt hw _ _ _ hlive, if_neg hno]; exact hl.1, hl.2⟩

theorem step_WF {s : St} (hw : WF s.blk) (op : Op) : WF (step s op).blk := by
  have rel : ∀ {b'} (cd : Int), Released s cd b' → WF b' := by
    rintro b' cd (rfl | ⟨b1, hm, rfl⟩)
    · exact hw
    · exact gc_WF cd s.now (marked_WF hw hm)
  cases op with
  | bump => exact ⟨hw.alen, hw.slen, hw.idx, hw.free, hw.nodup, hw.cool⟩
  | tick d => exact hw
  | auto num h owner rsv => exact aa_WF hw num h owner rsv
  | assign o h owner => exact assign_WF hw o h owner
  | gc cd | release cd _ | relh cd _ _ => exact rel cd (step_released hw rfl)

theorem run_WF {s : St} (hw : WF s.blk) (ops : List Op) : WF (run s ops).blk :=
  List.foldlRecOn (motive := fun s => WF s.blk) ops step hw fun _ h op _ => step_WF h op

theorem step_now_le (s : St) (op : Op) : s.now ≤ (step s op).now := by
  cases op <;> simp [step]

def Op.usesCd (c : Int) : Op → Prop
  | .gc cd => cd = c
  | .release cd _ => cd = c
  | .relh cd _ _ => cd = c
  | _ => True

theorem Op.usesCd_iff (c : Int) (op : Op) : op.usesCd c ↔ ∀ cd, op.cd? = some cd → cd = c := by
  cases op <;> simp [Op.usesCd, Op.cd?]

theorem cooling_step {s : St} (hw : WF s.blk) {c : Int} (hc0 : 0 ≤ c) {op : Op} (hop : op.usesCd c) {o r : Nat}
    (h : s.blk.CoolingAt o r ∨ (r : Int) + c ≤ s.now) :
    (step s op).blk.CoolingAt o r ∨ (r : Int) + c ≤ (step s op).now := by
  rcases h with h | h
  · have rel : ∀ {b'}, Released s c b' → b'.CoolingAt o r ∨ (r : Int) + c ≤ s.now := by
      rintro b' (rfl | ⟨b1, hm, rfl⟩)
      · exact .inl h
      · exact gc_cooling (marked_WF hw hm).alen (marked_cooling hw hm h) c hc0 s.now
    obtain ⟨a, ha, hr⟩ := h
    cases op with
    | bump => left; exact ⟨a, ha, hr⟩
    | tick d => left; exact ⟨a, ha, hr⟩
    | gc cd | release cd _ | relh cd _ _ => cases (Op.usesCd_iff ..).1 hop cd rfl; exact rel (step_released hw rfl)
    | auto num hd owner rsv =>
      left; refine ⟨a, ?_, hr⟩
      simp only [step]
      rw [aa_attrAt hw, aa_result, if_neg, ha]
      intro hm
      rw [attrAt_none_of_free (aa_taken_free hw num rsv o hm)] at ha; cases ha
    | assign o' hd owner =>
      left; refine ⟨a, ?_, hr⟩
      simp only [step]
      rw [assign_attrAt hw, if_neg, ha]
      rintro ⟨hok, rfl⟩
      rcases assign_cases s.blk o hd owner with ⟨_, hcs⟩ | ⟨_, _, hcs⟩ | ⟨_, hno, hcs⟩
      · rw [hcs] at hok; cases hok
      · rw [hcs] at hok; cases hok
      · obtain ⟨i, hi, _⟩ := attrAt_eq_some.1 ha
        exact hno i hi
  · right
    have := step_now_le s op
    omega

theorem cooling_run {s : St} (hw : WF s.blk) {c : Int} (hc0 : 0 ≤ c) (ops : List Op) (hops : ∀ op ∈ ops, op.usesCd c) {o r : Nat}
    (h : s.blk.CoolingAt o r ∨ (r : Int) + c ≤ s.now) :
    (run s ops).blk.CoolingAt o r ∨ (r : Int) + c ≤ (run s ops).now :=
  (List.foldlRecOn (motive := fun s => WF s.blk ∧ (s.blk.CoolingAt o r ∨ (r : Int) + c ≤ s.now)) ops step ⟨hw, h⟩
    fun _ hs op hm => ⟨step_WF hs.1 op, cooling_step hs.1 hc0 (hops op hm) hs.2⟩).2

theorem gc_unalloc_shape {b : Block} (hw : WF b) (cd : Int) (now : Nat) :
    ∃ ds, (b.gc cd now).1.unalloc = b.unalloc ++ ds ∧ ds.Pairwise (· < ·) ∧ ∀ o ∈ ds, o ∉ b.unalloc := by
  refine ⟨b.ds cd now, gc_unalloc b cd now, List.Pairwise.filter _ List.pairwise_lt_range, ?_⟩
  intro o ho hu
  have := (gc_WF cd now hw).nodup
  rw [gc_unalloc, List.nodup_append] at this
  exact this.2.2 o hu o ho rfl

def QueueStep (u u' : List Nat) : Prop :=
  ∃ sub ds, u' = sub ++ ds ∧ sub.Sublist u ∧ ds.Pairwise (· < ·) ∧ ∀ o ∈ ds, o ∉ u

theorem step_unalloc_shape {s : St} (hw : WF s.blk) (op : Op) :
    QueueStep s.blk.unalloc (step s op).blk.unalloc := by
  have sub : ∀ {b' : Block}, b'.unalloc.Sublist s.blk.unalloc → QueueStep s.blk.unalloc b'.unalloc :=
    fun h => ⟨_, [], by simp, h, List.Pairwise.nil, by simp⟩
  have rel : ∀ {b'} (cd : Int), Released s cd b' → QueueStep s.blk.unalloc b'.unalloc := by
    rintro b' cd (rfl | ⟨b1, hm, rfl⟩)
    · exact sub (.refl _)
    · obtain ⟨ds, h1, h2, h3⟩ := gc_unalloc_shape (marked_WF hw hm) cd s.now
      rw [(marked_unalloc_seq hm).1] at h1 h3
      exact ⟨_, ds, h1, .refl _, h2, h3⟩
  cases op with
  | bump => exact sub (.refl _)
  | tick d => exact sub (.refl _)
  | gc cd | release cd _ | relh cd _ _ => exact rel cd (step_released hw rfl)
  | auto num h owner rsv => exact sub (by simp only [step, aa_unalloc]; exact autoLoop_kept_sublist _ _ _)
  | assign o h owner => exact sub (assign_unalloc_sublist _ _ _ _)

/-- Ghost-instrumented history: `entered o` = index of the step at which `o` last entered the
free queue (`0` = it is there since the block was created). The instrumentation only observes. -/
structure G where
  st : St
  entered : Nat → Nat
  stepNo : Nat

def gstep (g : G) (op : Op) : G :=
  { st := step g.st op
    stepNo := g.stepNo + 1
    entered := fun o => if o ∈ (step g.st op).blk.unalloc ∧ o ∉ g.st.blk.unalloc then g.stepNo + 1 else g.entered o }

def grun (g : G) (ops : List Op) : G := ops.foldl gstep g
def ginit (s : St) : G := { st := s, entered := fun _ => 0, stepNo := 0 }

theorem grun_st (g : G) (ops : List Op) : (grun g ops).st = run g.st ops := by
  induction ops generalizing g with
  | nil => rfl
  | cons op ops ih => simp only [grun, run, List.foldl_cons] at ih ⊢; rw [ih]; rfl

/-- Entered at the same step = by the same garbage-collection pass (or both since creation): then the lower
ordinal is first in the queue. -/
def G.before (g : G) (y x : Nat) : Prop := g.entered y < g.entered x ∨ (g.entered y = g.entered x ∧ y < x)

structure GInv (g : G) : Prop where
  wf : WF g.st.blk
  sorted : g.st.blk.unalloc.Pairwise g.before
  bound : ∀ o ∈ g.st.blk.unalloc, g.entered o ≤ g.stepNo

theorem gstep_inv {g : G} (hi : GInv g) (op : Op) : GInv (gstep g op) := by
  obtain ⟨sub, ds, hsh, hsub, hds, hdis⟩ := step_unalloc_shape hi.wf op
  have hsubmem : ∀ o ∈ sub, o ∈ g.st.blk.unalloc := fun o ho => hsub.subset ho
  have hent_sub : ∀ o ∈ sub, (gstep g op).entered o = g.entered o := by
    intro o ho; simp [gstep, hsubmem o ho]
  have hent_ds : ∀ o ∈ ds, (gstep g op).entered o = g.stepNo + 1 := by
    intro o ho
    have h1 : o ∈ (step g.st op).blk.unalloc := by rw [hsh]; exact List.mem_append_right _ ho
    simp [gstep, h1, hdis o ho]
  refine ⟨step_WF hi.wf op, ?_, ?_⟩
  · show (step g.st op).blk.unalloc.Pairwise (gstep g op).before
    rw [hsh, List.pairwise_append]
    refine ⟨?_, ?_, ?_⟩
    · refine List.Pairwise.imp_of_mem ?_ (hi.sorted.sublist hsub)
      intro a b ha hb hab
      unfold G.before at hab ⊢
      rw [hent_sub a ha, hent_sub b hb]; exact hab
    · refine List.Pairwise.imp_of_mem ?_ hds
      intro a b ha hb hab
      right; rw [hent_ds a ha, hent_ds b hb]; exact ⟨rfl, hab⟩
    · intro a ha b hb
      left; rw [hent_sub a ha, hent_ds b hb]
      have := hi.bound a (hsubmem a ha); omega
  · intro o ho
    show (gstep g op).entered o ≤ g.stepNo + 1
    change o ∈ (step g.st op).blk.unalloc at ho
    rw [hsh, List.mem_append] at ho
    rcases ho with ho | ho
    · rw [hent_sub o ho]; have := hi.bound o (hsubmem o ho); omega
    · rw [hent_ds o ho]; omega

theorem grun_inv {g : G} (hi : GInv g) (ops : List Op) : GInv (grun g ops) :=
  List.foldlRecOn (motive := GInv) ops gstep hi fun _ h op _ => gstep_inv h op

theorem newBlock_WF (n seq0 : Nat) : WF (newBlock n seq0 none) := by
  refine ⟨by simp [newBlock], by simp [newBlock], ?_, ?_, List.nodup_range, by simp [newBlock]⟩
  · intro o i h
    simp only [newBlock, List.getElem?_replicate] at h
    split at h <;> cases h
  · intro o ho
    simp only [newBlock, List.mem_range] at ho
    simp [newBlock, ho]

theorem ginit_inv (n seq0 t : Nat) : GInv (ginit { blk := newBlock n seq0 none, now := t }) := by
  refine ⟨newBlock_WF n seq0, ?_, by simp [ginit]⟩
  show (List.range n).Pairwise _
  refine List.Pairwise.imp ?_ List.pairwise_lt_range
  intro a b hab; right; exact ⟨rfl, hab⟩

def Block.SeqLe (b : Block) : Prop := ∀ (o v : Nat), b.seqFor[o]? = some (some v) → v ≤ b.seq
/-- holds of every block a client has written -/
def Block.SeqLt (b : Block) : Prop := ∀ (o v : Nat), b.seqFor[o]? = some (some v) → v < b.seq

theorem setAll_seqLe {l : List (Option Nat)} {q : Nat} (idxs : List Nat) (v : Option Nat)
    (h : ∀ (o w : Nat), l[o]? = some (some w) → w ≤ q) (hv : ∀ w, v = some w → w ≤ q) :
    ∀ (o w : Nat), (setAll l idxs v)[o]? = some (some w) → w ≤ q := by
  intro o w how
  rw [setAll_getElem?] at how
  split at how
  · cases hl : l[o]? with
    | none => simp [hl] at how
    | some x => simp [hl] at how; exact hv w how
  · exact h o w how

theorem aa_seq (b : Block) (num : Nat) (h : Option Handle) (owner : Nat) (rsv : List Nat) :
    (b.autoAssign num h owner rsv).1.seq = b.seq := by
  rw [aa_eq]; split <;> rfl

theorem aa_seqFor (b : Block) (num : Nat) (h : Option Handle) (owner : Nat) (rsv : List Nat) :
    (b.autoAssign num h owner rsv).1.seqFor = setAll b.seqFor (b.autoAssign num h owner rsv).2 (some b.seq) := by
  rw [aa_eq]; split <;> rfl

theorem assign_seq (b : Block) (o : Nat) (h : Option Handle) (owner : Nat) : (b.assign o h owner).1.seq = b.seq := by
  rcases assign_cases b o h owner with ⟨_, hc⟩ | ⟨_, _, hc⟩ | ⟨_, _, hc⟩ <;> rw [hc] <;> rfl

theorem assign_seqFor (b : Block) (o : Nat) (h : Option Handle) (owner : Nat) :
    (b.assign o h owner).1.seqFor = b.seqFor ∨ (b.assign o h owner).1.seqFor = setAll b.seqFor [o] (some b.seq) := by
  rcases assign_cases b o h owner with ⟨_, hc⟩ | ⟨_, _, hc⟩ | ⟨_, _, hc⟩ <;> rw [hc]
  · exact .inl rfl
  · exact .inr rfl
  · exact .inr rfl

theorem gc_seqLe {b : Block} (h : b.SeqLe) (cd : Int) (now : Nat) : (b.gc cd now).1.SeqLe := by
  unfold Block.SeqLe
  rw [gc_seq, gc_seqFor]
  exact setAll_seqLe _ none h (by intro w hw; cases hw)

theorem marked_seqLe {now : Nat} {b b1 : Block} (h : b.SeqLe) (hm : Marked now b b1) : b1.SeqLe := by
  rcases hm with rfl | ⟨ords, s, _, rfl⟩
  · exact h
  · unfold Block.SeqLe
    rw [mc_seq]
    unfold Block.markCooldown Block.addCooldown; simp only []
    split
    · exact setAll_seqLe _ _ h (by intro w hw; cases hw; exact Nat.le_refl _)
    · exact h

theorem step_seqLe {s : St} (h : s.blk.SeqLe) (hw : WF s.blk) (op : Op) :
    (step s op).blk.SeqLe ∧ s.blk.seq ≤ (step s op).blk.seq := by
  have rel : ∀ {b'} (cd : Int), Released s cd b' → b'.SeqLe ∧ s.blk.seq ≤ b'.seq := by
    rintro b' cd (rfl | ⟨b1, hm, rfl⟩)
    · exact ⟨h, Nat.le_refl _⟩
    · exact ⟨gc_seqLe (marked_seqLe h hm) cd s.now, by rw [gc_seq, (marked_unalloc_seq hm).2]; exact Nat.le_refl _⟩
  have stamp : ∀ idxs, ∀ (o w : Nat), (setAll s.blk.seqFor idxs (some s.blk.seq))[o]? = some (some w) → w ≤ s.blk.seq :=
    fun idxs => setAll_seqLe idxs _ h (by intro w hw; cases hw; exact Nat.le_refl _)
  cases op with
  | bump => exact ⟨fun o v hov => Nat.le_succ_of_le (h o v hov), Nat.le_succ _⟩
  | tick d => exact ⟨h, Nat.le_refl _⟩
  | gc cd | release cd _ | relh cd _ _ => exact rel cd (step_released hw rfl)
  | auto num hd owner rsv =>
    refine ⟨?_, Nat.le_of_eq (aa_seq ..).symm⟩
    unfold Block.SeqLe
    simp only [step]
    rw [aa_seq, aa_seqFor]
    exact stamp _
  | assign o hd owner =>
    refine ⟨?_, Nat.le_of_eq (assign_seq ..).symm⟩
    unfold Block.SeqLe
    simp only [step]
    rw [assign_seq]
    rcases assign_seqFor s.blk o hd owner with e | e <;> rw [e]
    · exact h
    · exact stamp _

/-- One client-level operation on a block: read it and garbage collect (`blockFromBackend`), apply
`op`, and either write it back with `SequenceNumber++` (the flag `c.2.2`) or drop the in-memory copy. -/
def cstep (s : St) (c : Int × Op × Bool) : St :=
  if c.2.2 then step (step (step s (.gc c.1)) c.2.1) .bump else s

def crun (s : St) (cs : List (Int × Op × Bool)) : St := cs.foldl cstep s

theorem cstep_WF {s : St} (hw : WF s.blk) (c : Int × Op × Bool) : WF (cstep s c).blk := by
  unfold cstep; split
  · exact step_WF (step_WF (step_WF hw _) _) _
  · exact hw

theorem cstep_seqLt {s : St} (hw : WF s.blk) (h : s.blk.SeqLt) (c : Int × Op × Bool) :
    (cstep s c).blk.SeqLt ∧ s.blk.seq ≤ (cstep s c).blk.seq := by
  unfold cstep; split
  · have h1 := step_seqLe (fun o v hov => Nat.le_of_lt (h o v hov)) hw (.gc c.1)
    have h2 := step_seqLe h1.1 (step_WF hw _) c.2.1
    refine ⟨fun o v hov => Nat.lt_succ_of_le (h2.1 o v hov), ?_⟩
    exact Nat.le_trans (Nat.le_trans h1.2 h2.2) (Nat.le_succ _)
  · exact ⟨h, Nat.le_refl _⟩

theorem crun_inv {s : St} (hw : WF s.blk) (h : s.blk.SeqLt) (cs : List (Int × Op × Bool)) :
    WF (crun s cs).blk ∧ (crun s cs).blk.SeqLt ∧ s.blk.seq ≤ (crun s cs).blk.seq :=
  List.foldlRecOn (motive := fun s1 => WF s1.blk ∧ s1.blk.SeqLt ∧ s.blk.seq ≤ s1.blk.seq) cs cstep
    ⟨hw, h, Nat.le_refl _⟩ fun _ hs c _ =>
      have h1 := cstep_seqLt hs.1 hs.2.1 c
      ⟨cstep_WF hs.1 c, h1.1, Nat.le_trans hs.2.2 h1.2⟩

theorem aa_getSeq {b : Block} (hw : WF b) (num : Nat) (h : Option Handle) (owner : Nat) (rsv : List Nat) (o : Nat)
    (ho : o ∈ (b.autoAssign num h owner rsv).2) : (b.autoAssign num h owner rsv).1.getSeq o = b.seq := by
  have hfree : b.allocs[o]? = some none := by
    rw [aa_result] at ho; exact aa_taken_free hw num rsv o ho
  have hlt : o < b.seqFor.length := by
    rw [hw.slen, ← hw.alen]
    by_cases hh : o < b.allocs.length
    · exact hh
    · rw [List.getElem?_eq_none (Nat.le_of_not_lt hh)] at hfree; cases hfree
  unfold Block.getSeq
  rw [aa_seqFor, setAll_getElem?]
  simp [ho, List.getElem?_eq_getElem hlt]

theorem assign_ok_getSeq {b : Block} (hw : WF b) (o : Nat) (h : Option Handle) (owner : Nat)
    (hok : (b.assign o h owner).2 = .ok) : (b.assign o h owner).1.getSeq o = b.seq := by
  rcases assign_cases b o h owner with ⟨_, hc⟩ | ⟨_, _, hc⟩ | ⟨hlt, _, hc⟩
  · rw [hc] at hok; cases hok
  · rw [hc] at hok; cases hok
  · rw [hc]
    have : o < b.seqFor.length := by rw [hw.slen]; exact hlt
    simp [Block.getSeq, Block.alloc, List.getElem?_set_self this]

theorem isEmpty_attr {b : Block} (h : b.isEmpty = true) (o : Nat) (a : Attr) (ha : b.attrAt o = some a) :
    ∃ hd, a.handle = some hd ∧ lowerH hd = windowsReservedHandle := by
  unfold Block.isEmpty at h
  rw [List.all_eq_true] at h
  unfold Block.attrAt at ha
  cases hb : b.allocs[o]? with
  | none => simp [hb] at ha
  | some v =>
    cases v with
    | none => simp [hb] at ha
    | some i =>
      simp only [hb] at ha
      have := h (some i) (List.mem_of_getElem? hb)
      simp only [ha] at this
      cases hh : a.handle with
      | none => simp [hh] at this
      | some hd => simp [hh] at this; exact ⟨hd, rfl, this⟩

end CalicoVerif.C21
