import CalicoVerif.Model.C33
/-! C33: primality — trial division, a fast certificate for a whole table — and `sort.Search` / `NextPrimeUint16`. -/
namespace CalicoVerif.C33

/-- `p` is prime (stated from scratch; core Lean has no `Nat.Prime`). -/
def IsPrime (p : Nat) : Prop := 2 ≤ p ∧ ∀ d, d ∣ p → d = 1 ∨ d = p

/-- of two factors of `p` the smaller squares below `p` -/
theorem isPrime_of_no_small_factor {p : Nat} (h2 : 2 ≤ p) (h : ∀ k, 2 ≤ k → k * k ≤ p → ¬ k ∣ p) : IsPrime p := by
  refine ⟨h2, fun d ⟨e, he⟩ => ?_⟩
  by_cases hd1 : d = 1
  · exact Or.inl hd1
  by_cases he1 : e = 1
  · exact Or.inr (by rw [he, he1, Nat.mul_one])
  exfalso
  have hd0 : d ≠ 0 := by rintro rfl; rw [Nat.zero_mul] at he; omega
  have he0 : e ≠ 0 := by rintro rfl; rw [Nat.mul_zero] at he; omega
  by_cases hle : d ≤ e
  · exact h d (by omega) (he ▸ Nat.mul_le_mul_left d hle) ⟨e, he⟩
  · exact h e (by omega) (he ▸ Nat.mul_le_mul_right e (by omega)) ⟨d, by rw [he, Nat.mul_comm]⟩

theorem noDivisorsFrom_sound {p : Nat} : ∀ (fuel d : Nat), noDivisorsFrom p fuel d = true →
    ∀ k, d ≤ k → k * k ≤ p → ¬ k ∣ p := by
  intro fuel
  induction fuel with
  | zero => intro d h; cases h
  | succ fuel ih =>
    intro d h k hdk hkk hdvd
    unfold noDivisorsFrom at h
    split at h
    · rename_i h1
      have : d * d ≤ k * k := Nat.mul_le_mul hdk hdk
      omega
    · split at h
      · cases h
      · rename_i h2
        by_cases hk : k = d
        · subst hk; exact h2 (Nat.mod_eq_zero_of_dvd hdvd)
        · exact ih (d + 1) h k (by omega) hkk hdvd

theorem isPrimeB_sound {p : Nat} (h : isPrimeB p = true) : IsPrime p := by
  unfold isPrimeB at h
  rw [Bool.and_eq_true, decide_eq_true_eq] at h
  exact isPrime_of_no_small_factor h.1 (noDivisorsFrom_sound p 2 h.2)

/-! ### fast primality certificate: `gcd p n! = 1` and `p < (n+1)²` (kernel `Nat.gcd` is GMP-accelerated) -/

def fact : Nat → Nat
  | 0 => 1
  | n + 1 => (n + 1) * fact n

theorem dvd_fact : ∀ (n k : Nat), 1 ≤ k → k ≤ n → k ∣ fact n
  | 0, k, h1, h2 => by omega
  | n + 1, k, h1, h2 => by
    by_cases h : k = n + 1
    · subst h; exact ⟨fact n, rfl⟩
    · exact Nat.dvd_trans (dvd_fact n k h1 (by omega)) (Nat.dvd_mul_left _ _)

/-- written with `bif`, `Nat.ble`, `Nat.blt`, `Nat.beq`, which the kernel evaluates on binary numerals -/
def primeCertB (n F : Nat) (p : Nat) : Bool :=
  bif Nat.ble p n then isPrimeB p else Nat.blt p ((n + 1) * (n + 1)) && Nat.beq (Nat.gcd p F) 1

theorem primeCertB_sound {n p : Nat} (h : primeCertB n (fact n) p = true) : IsPrime p := by
  unfold primeCertB at h
  cases hpn : Nat.ble p n with
  | true => rw [hpn] at h; exact isPrimeB_sound h
  | false =>
    simp only [hpn, cond_false, Bool.and_eq_true, Nat.blt_eq] at h
    have hpn : n < p := Nat.lt_of_not_le fun hle => by rw [Nat.ble_eq_true_of_le hle] at hpn; cases hpn
    refine isPrime_of_no_small_factor (Nat.le_of_not_lt fun hp => ?_) fun k hk2 hkk hkp => ?_
    · have hn0 : n = 0 := by omega
      subst hn0; omega
    · -- a factor `k ≤ n` divides both `p` and `n!`
      have hkn : k ≤ n := Nat.le_of_not_lt fun hc => by
        have : (n + 1) * (n + 1) ≤ k * k := Nat.mul_le_mul hc hc
        omega
      have h1 : k ∣ Nat.gcd p (fact n) := Nat.dvd_gcd hkp (dvd_fact n k (by omega) hkn)
      rw [Nat.eq_of_beq_eq_true h.2] at h1
      have := Nat.le_of_dvd Nat.one_pos h1
      omega

def tableCertB (n F last : Nat) : Nat → List Nat → Bool
  | prev, [] => Nat.beq prev last
  | prev, p :: ps => Nat.ble prev p && primeCertB n F p && tableCertB n F last p ps

theorem tableCertB_sound {n last : Nat} : ∀ (prev : Nat) (l : List Nat), tableCertB n (fact n) last prev l = true →
    (prev :: l).Pairwise (· ≤ ·) ∧ (prev :: l).getLast? = some last ∧ ∀ p ∈ l, IsPrime p
  | prev, [], h => ⟨List.pairwise_singleton _ _, congrArg some (Nat.eq_of_beq_eq_true h), fun _ hp => nomatch hp⟩
  | prev, p :: ps, h => by
    simp only [tableCertB, Bool.and_eq_true, Nat.ble_eq] at h
    obtain ⟨hs, hl, hp⟩ := tableCertB_sound p ps h.2
    refine ⟨List.Pairwise.cons (fun x hx => ?_) hs, by rw [List.getLast?_cons_cons]; exact hl, fun q hq => ?_⟩
    · rcases List.mem_cons.1 hx with rfl | hx
      · exact h.1.1
      · exact Nat.le_trans h.1.1 (List.rel_of_pairwise_cons hs hx)
    · rcases List.mem_cons.1 hq with rfl | hq
      · exact primeCertB_sound h.1.2
      · exact hp q hq

theorem sortSearch_spec (f : Nat → Bool) (n : Nat)
    (mono : ∀ a b, a ≤ b → b < n → f a = true → f b = true) (fuel : Nat) :
    ∀ (i j : Nat), j - i ≤ fuel → i ≤ j → j ≤ n →
      (∀ x, x < i → f x = false) → (∀ x, j ≤ x → x < n → f x = true) →
      sortSearch f fuel i j ≤ j ∧ (∀ x, x < sortSearch f fuel i j → f x = false) ∧
      (∀ x, sortSearch f fuel i j ≤ x → x < n → f x = true) := by
  induction fuel with
  | zero =>
    intro i j hf hij _ hlo hhi
    have : i = j := Nat.le_antisymm hij (Nat.le_of_sub_eq_zero (Nat.le_zero.1 hf))
    subst this; exact ⟨Nat.le_refl _, hlo, hhi⟩
  | succ fuel ih =>
    intro i j hf hij hjn hlo hhi
    unfold sortSearch
    split
    · generalize hh : (i + j) / 2 = h
      have h1 : i ≤ h ∧ h < j ∧ j - (h + 1) ≤ fuel ∧ h - i ≤ fuel := by omega
      cases hfh : f h with
      | false =>
        simp only [hfh, Bool.not_false, if_true]
        exact ih (h + 1) j h1.2.2.1 h1.2.1 hjn
          (fun x hx => Bool.eq_false_iff.2 fun hfx =>
            Bool.false_ne_true (hfh.symm.trans (mono x h (Nat.le_of_lt_succ hx) (Nat.lt_of_lt_of_le h1.2.1 hjn) hfx))) hhi
      | true =>
        simp only [hfh, Bool.not_true, Bool.false_eq_true, if_false]
        have := ih i h h1.2.2.2 h1.1 (Nat.le_trans (Nat.le_of_lt h1.2.1) hjn) hlo
          (fun x hx hxn => mono h x hx hxn hfh)
        exact ⟨Nat.le_trans this.1 (Nat.le_of_lt h1.2.1), this.2⟩
    · have : i = j := Nat.le_antisymm hij (Nat.le_of_not_lt ‹_›)
      subst this; exact ⟨Nat.le_refl _, hlo, hhi⟩

theorem nextPrimeUint16_spec {pr : List Nat} {limit : Nat} (hs : pr.Pairwise (· ≤ ·))
    {last : Nat} (hlast : pr.getLast? = some last) (hlim : limit ≤ last)
    {i : Int} (hi : i ≤ (limit : Int)) :
    ∃ p, nextPrimeUint16 pr limit i = some p ∧ p ∈ pr ∧ i ≤ (p : Int) ∧
      ∀ q ∈ pr, i ≤ (q : Int) → p ≤ q := by
  have hget : ∀ k (hk : k < pr.length), pr.getD k 0 = pr[k] := fun k hk => by
    rw [List.getD_eq_getElem?_getD, List.getElem?_eq_getElem hk]; rfl
  have hmono : ∀ a b (hb : b < pr.length), a ≤ b → pr.getD a 0 ≤ pr.getD b 0 := fun a b hb hab => by
    rw [hget a (by omega), hget b hb]
    rcases Nat.eq_or_lt_of_le hab with rfl | hlt
    · exact Nat.le_refl _
    · exact List.pairwise_iff_getElem.1 hs a b (by omega) hb hlt
  have hl : 0 < pr.length ∧ pr.getD (pr.length - 1) 0 = last := by
    rw [List.getLast?_eq_getElem?] at hlast
    have := (List.getElem?_eq_some_iff.1 hlast).1
    exact ⟨by omega, by rw [List.getD_eq_getElem?_getD, hlast]; rfl⟩
  obtain ⟨hle, hlo, hhi⟩ := sortSearch_spec (fun x => decide ((pr.getD x 0 : Int) ≥ i)) pr.length
    (fun a b hab hb hfa => by have := hmono a b hb hab; simp only [decide_eq_true_eq] at hfa ⊢; omega)
    (pr.length + 1) 0 pr.length (by omega) (Nat.zero_le _) (Nat.le_refl _)
    (fun x hx => absurd hx (Nat.not_lt_zero x)) (fun x h1 h2 => absurd h2 (Nat.not_lt.2 h1))
  unfold nextPrimeUint16
  rw [if_neg (by omega)]
  simp only []
  generalize sortSearch _ _ _ _ = idx at hle hlo hhi
  -- the last entry satisfies the predicate, so `idx` is inside the table
  have hidx : idx < pr.length := by
    refine Nat.lt_of_le_of_ne hle fun h => ?_
    have := hlo (pr.length - 1) (by omega)
    rw [decide_eq_false_iff_not, hl.2] at this
    omega
  have hp := hhi idx (Nat.le_refl _) hidx
  rw [decide_eq_true_eq, hget idx hidx] at hp
  rw [if_neg (Nat.ne_of_lt hidx)]
  refine ⟨pr[idx], List.getElem?_eq_getElem hidx, List.getElem_mem hidx, hp, fun q hq hiq => ?_⟩
  obtain ⟨k, hk, rfl⟩ := List.getElem_of_mem hq
  rw [← hget idx hidx, ← hget k hk]
  refine hmono idx k hk (Nat.le_of_not_lt fun hlt => ?_)
  have := hlo k hlt
  rw [decide_eq_false_iff_not, hget k hk] at this
  omega

end CalicoVerif.C33
