import CalicoVerif.Proofs.C16State
/-!
C16 — the restore pass (`tryUpdates`): a group of lines is written per dirty set and the kernel runs
them.  All ways `tryUpdates` can end are in one statement (`tryUpdates_cases`); safety and the
post-condition of a successful pass are read off it.
-/
namespace CalicoVerif.C16

theorem createLine_names (t : String) (m : Meta) : (createLine t m).names = [t] := by
  unfold createLine; split <;> rfl

theorem writeUpdates_shape {c : Cfg} {ord : List String → List String}
    (hord : ∀ l x, x ∈ ord l → x ∈ l) {F F' : Felix} {n : String} {ls : List Line}
    (h : F.writeUpdates c ord n = some (F', ls)) :
    (∃ t, F.members.get n = some t ∧
      ((∀ l ∈ ls, (l.names = [n]) ∧ (∀ m, l = Line.add n m → m ∈ t.des) ∧ (∀ m, l = Line.del n m → m ∉ t.des)) ∨
       (∃ k body, ls = body ++ [Line.swap n (c.tempName k)] ∧ ∀ l ∈ body, l.names = [c.tempName k]))) := by
  obtain ⟨dm, t, _, ht, ⟨_, nt, k, _, rfl⟩ | ⟨_, _, rfl⟩⟩ := writeUpdates_eq h <;> refine ⟨t, ht, ?_⟩
  · refine Or.inr ⟨k, _, rfl, fun l hl => ?_⟩
    simp only [List.mem_append, List.mem_singleton, List.mem_map] at hl
    rcases hl with rfl | ⟨m, _, rfl⟩
    · exact createLine_names _ _
    · rfl
  · refine Or.inl fun l hl => ?_
    simp only [List.mem_append, List.mem_map] at hl
    rcases hl with (hl | ⟨m, hm, rfl⟩) | ⟨m, hm, rfl⟩
    · split at hl
      · cases List.mem_singleton.1 hl
        refine ⟨createLine_names _ _, ?_, ?_⟩ <;> (intro m hm; unfold createLine at hm; split at hm <;> cases hm)
      · cases hl
    · refine ⟨rfl, fun m' hm' => (by cases hm'), fun m' hm' => ?_⟩
      cases hm'
      exact (mem_pendingDel.1 (hord _ _ hm)).2
    · refine ⟨rfl, fun m' hm' => ?_, fun m' hm' => (by cases hm')⟩
      cases hm'
      exact (mem_pendingAdd.1 (hord _ _ hm)).1

theorem writeAll_names {c : Cfg} (hc : CfgOK c) {ord : List String → List String}
    (hord : ∀ l x, x ∈ ord l → x ∈ l) : ∀ (ns : List String) (F F' : Felix) (ls : List Line),
    (∀ n ∈ ns, c.owns n = true) → writeAll c ord F ns = some (F', ls) →
    ∀ l ∈ ls, ∀ x ∈ l.names, c.owns x = true := by
  intro ns
  induction ns with
  | nil => intro F F' ls _ h; cases h; simp
  | cons n ns ih =>
    intro F F' ls hown h l hl x hx
    obtain ⟨F1, l1, l2, h1, h2, rfl⟩ := writeAll_cons h
    have hn := hown n List.mem_cons_self
    have htmp := fun k => hc.tempOwned _ (hc.tempIsTemp k)
    rcases List.mem_append.1 hl with hl | hl
    · obtain ⟨t, _, hs | ⟨k, body, rfl, hb⟩⟩ := writeUpdates_shape hord h1
      · rw [(hs l hl).1] at hx
        cases List.mem_singleton.1 hx; exact hn
      · rcases List.mem_append.1 hl with hl | hl
        · rw [hb l hl] at hx
          cases List.mem_singleton.1 hx; exact htmp k
        · cases List.mem_singleton.1 hl
          simp only [Line.names, List.mem_cons, List.not_mem_nil, or_false] at hx
          rcases hx with rfl | rfl
          · exact hn
          · exact htmp k
    · exact ih F1 F' l2 (fun n' hn' => hown n' (List.mem_cons_of_mem _ hn')) h2 l hl x hx

theorem writeUpdates_grow {c : Cfg} (hc : CfgOK c) {ord : List String → List String} {F F' : Felix} {n : String}
    {ls : List Line} (h : F.writeUpdates c ord n = some (F', ls)) :
    Grow (fun b => b = n ∨ c.isTemp b = true) F F' := by
  obtain ⟨dm, t, _, _, ⟨_, nt, k, rfl, _⟩ | ⟨_, rfl, _⟩⟩ := writeUpdates_eq h <;>
    refine ⟨fun b hb => ?_, fun _ => Or.inl, fun _ => Or.inl⟩
  · simp only [Map.has_set, Bool.or_eq_true, beq_iff_eq] at hb
    rcases hb with rfl | rfl | hb
    · exact Or.inr (Or.inl rfl)
    · exact Or.inr (Or.inr (hc.tempIsTemp k))
    · exact Or.inl hb
  · split at hb
    · simp only [Map.has_set, Bool.or_eq_true, beq_iff_eq] at hb
      exact hb.elim (fun e => Or.inr (Or.inl e)) Or.inl
    · exact Or.inl hb

theorem writeAll_grow {c : Cfg} (hc : CfgOK c) {ord : List String → List String} {ns : List String}
    {F F' : Felix} {ls : List Line} (h : writeAll c ord F ns = some (F', ls)) :
    Grow (fun b => b ∈ ns ∨ c.isTemp b = true) F F' :=
  writeAll_rel (Grow.refl _) Grow.trans ns F F' ls
    (fun _ hn _ _ _ _ h => (writeUpdates_grow hc h).mono fun _ e => e.elim (fun e => Or.inl (e ▸ hn)) Or.inr) h

theorem ord_nil {ord : List String → List String} (hord : ∀ l x, x ∈ ord l ↔ x ∈ l) : ord [] = [] := by
  apply List.eq_nil_iff_forall_not_mem.2
  intro x hx
  have := (hord [] x).1 hx
  simp at this

structure GroupPost (c : Cfg) (F F' : Felix) (K K' : Kernel) (a : String) (dm : Meta) (t : MT) : Prop where
  exact : ∃ k, K'.get a = some k ∧ metaMatches k dm ∧ setEq k.members t.des
  dpA : F'.dp.get a = some dm
  trA : ∃ t', F'.members.get a = some t' ∧ t'.des = t.des ∧ setEq t'.dp t.des
  desired : F'.desired = F.desired
  allMeta : F'.allMeta = F.allMeta
  filter : F'.filter = F.filter
  fullReq : F'.fullReq = F.fullReq
  queues : F'.qMust = F.qMust ∧ F'.qBg = F.qBg ∧ F'.bgReq = F.bgReq
  other : ∀ b, b ≠ a → c.isTemp b = false →
    K'.get b = K.get b ∧ F'.dp.get b = F.dp.get b ∧ F'.members.get b = F.members.get b
  covK : ∀ b, K'.has b = true → K.has b = true ∨ F'.dp.has b = true
  covDp : ∀ b, F.dp.has b = true → F'.dp.has b = true
  dpNew : ∀ b, F'.dp.has b = true → F.dp.has b = true ∨ b = a ∨ c.isTemp b = true
  memOther : ∀ b, b ≠ a → F'.members.get b = F.members.get b

theorem group_step {c : Cfg} (hc : CfgOK c) {ord : List String → List String}
    (hord : ∀ l x, x ∈ ord l ↔ x ∈ l) {F F' : Felix} {K K' : Kernel} {a : String} {ls : List Line}
    {dm : Meta} {t : MT} (hd : F.desired.get a = some dm) (ht : F.members.get a = some t)
    (hnt : c.isTemp a = false) (hacc : Acc F K a)
    (hw : F.writeUpdates c ord a = some (F', ls)) (hk : kall K ls = some K') :
    GroupPost c F F' K K' a dm t := by
  have hacc' := hacc dm t hd ht
  have hdpNew := (writeUpdates_grow hc hw).dp
  obtain ⟨dm', t', hd', ht', hcase⟩ := writeUpdates_eq hw
  rw [hd] at hd'; cases hd'
  rw [ht] at ht'; cases ht'
  rcases hcase with ⟨_, nt, kidx, rfl, rfl⟩ | ⟨hneed, rfl, rfl⟩
  · -- metadata changes: build a temporary set with the desired members, swap it in
    have htmpT := hc.tempIsTemp kidx
    have hne : a ≠ c.tempName kidx := fun e => by rw [← e, hnt] at htmpT; cases htmpT
    have haddsEq : setEq (ord ({ t with dp := [] } : MT).pendingAdd) t.des := fun x => by
      rw [hord, mem_pendingAdd]; simp
    generalize ord ({ t with dp := [] } : MT).pendingAdd = adds at hk haddsEq hdpNew ⊢
    generalize c.tempName kidx = tmp at hk htmpT hne hdpNew ⊢
    rw [List.append_assoc, List.singleton_append] at hk
    obtain ⟨K1, h1, hk⟩ := kall_cons_some.1 hk
    obtain ⟨K2, h2, hk⟩ := kall_append_some.1 hk
    obtain ⟨_, ⟨k0, hk0, hm0, hmem0⟩, hoth1⟩ := kstep_create h1
    obtain ⟨hg2, hoth2⟩ := kall_adds tmp adds K1 K2 k0 hk0 h2
    have hoth : ∀ b, b ≠ tmp → K2.get b = K.get b := fun b hb => (hoth2 b hb).trans (hoth1 b hb)
    obtain ⟨_, hk, hnil⟩ := kall_cons_some.1 hk
    cases hnil
    simp only [kstep, hoth a hne, hg2] at hk
    cases hKa : K.get a with
    | none => simp [hKa] at hk
    | some sa =>
      simp only [hKa, Option.some.injEq] at hk
      subst hk
      refine ⟨⟨{ k0 with members := k0.members ++ adds }, by simp [Map.get_set, hne], hm0,
          fun x => by simpa [hmem0] using haddsEq x⟩,
        by simp [Map.get_set], ⟨{ t with dp := adds.foldl sAdd [] }, by simp [Map.get_set], rfl,
          fun x => by simpa [mem_foldl_sAdd] using haddsEq x⟩,
        rfl, rfl, rfl, rfl, ⟨rfl, rfl, rfl⟩, fun b hb hbt => ?_, fun b hb => ?_, fun b hb => ?_, hdpNew,
        fun b hb => by simp [Map.get_set, hb]⟩
      · have hbtmp : b ≠ tmp := fun e => by rw [e, htmpT] at hbt; cases hbt
        exact ⟨by simp [Map.get_set, hb, hbtmp, hoth b hbtmp], by simp [Map.get_set, hb, hbtmp],
          by simp [Map.get_set, hb]⟩
      · by_cases hba : b = a
        · exact Or.inr (by simp [Map.has_set, hba])
        · by_cases hbt : b = tmp
          · exact Or.inr (by simp [Map.has_set, hbt])
          · simp only [Map.has, Map.get_set, hba, hbt, if_false, hoth b hbt] at hb
            exact Or.inl hb
      · simp [Map.has_set, hb]
  · -- in place: optional create, then the deletions, then the additions
    have hdelsMem : ∀ x, x ∈ ord t.pendingDel ↔ x ∈ t.dp ∧ x ∉ t.des := fun x => by rw [hord, mem_pendingDel]
    have haddsMem : ∀ x, x ∈ ord t.pendingAdd ↔ x ∈ t.des ∧ x ∉ t.dp := fun x => by rw [hord, mem_pendingAdd]
    generalize ord t.pendingDel = dels at hk hdelsMem hdpNew ⊢
    generalize ord t.pendingAdd = adds at hk haddsMem hdpNew ⊢
    have htrEq : setEq (adds.foldl sAdd (dels.foldl sErase t.dp)) t.des := fun x => by
      simp only [mem_foldl_sAdd, mem_foldl_sErase, hdelsMem, haddsMem]
      by_cases hx1 : x ∈ t.dp <;> by_cases hx2 : x ∈ t.des <;> simp [hx1, hx2]
    rw [List.append_assoc] at hk
    obtain ⟨K0, h0, hk⟩ := kall_append_some.1 hk
    obtain ⟨K1, h1, hk⟩ := kall_append_some.1 hk
    -- after the optional `create` the kernel holds the set, with the right metadata and the members
    -- Felix believes it has; and the view maps the set to the desired metadata
    have base : (∃ k0, K0.get a = some k0 ∧ metaMatches k0 dm ∧ setEq t.dp k0.members ∧
        ∀ b, b ≠ a → K0.get b = K.get b) ∧
        ∀ b, (if (F.dp.get a).isNone then F.dp.set a dm else F.dp).get b = if b = a then some dm else F.dp.get b := by
      cases hdp : F.dp.get a with
      | none =>
        obtain ⟨K0', hc0, hk0⟩ := kall_cons_some.1 (by simpa [hdp] using h0)
        cases hk0
        obtain ⟨hKa, ⟨k0, hk0, hm0, hmem0⟩, hoth⟩ := kstep_create hc0
        rw [hKa] at hacc'
        exact ⟨⟨k0, hk0, hm0, fun x => by simp [hmem0, hacc'.2], hoth⟩, fun b => by simp [Map.get_set]⟩
      | some m' =>
        cases (show K = K0 by simpa [hdp, kall] using h0)
        cases (show m' = dm by simpa [hdp, needTemp] using hneed)
        cases hKa : K.get a with
        | none => simp [hKa, hdp] at hacc'
        | some k =>
          obtain ⟨m'', hm'', hrest⟩ := by simpa only [hKa] using hacc'
          cases hdp.symm.trans hm''
          exact ⟨⟨k, rfl, (hrest rfl).1, (hrest rfl).2, fun _ _ => rfl⟩, fun b => by
            by_cases hb : b = a <;> simp [hb, hdp]⟩
    obtain ⟨⟨k0, hk0, hm0, hview, hoth0⟩, hD⟩ := base
    generalize (if (F.dp.get a).isNone then F.dp.set a dm else F.dp) = D at hD hdpNew ⊢
    obtain ⟨hg1, hoth1⟩ := kall_dels a dels K0 K1 k0 hk0 h1
    obtain ⟨hg2, hoth2⟩ := kall_adds a adds K1 K' _ hg1 hk
    have hoth : ∀ b, b ≠ a → K'.get b = K.get b := fun b hb => ((hoth2 b hb).trans (hoth1 b hb)).trans (hoth0 b hb)
    have hDa : D.has a = true := by simp [Map.has, hD]
    refine ⟨⟨_, hg2, hm0, fun x => ?_⟩, by simp [hD],
      ⟨{ t with dp := adds.foldl sAdd (dels.foldl sErase t.dp) }, by simp [Map.get_set], rfl, htrEq⟩,
      rfl, rfl, rfl, rfl, ⟨rfl, rfl, rfl⟩, fun b hb _ => ⟨hoth b hb, by simp [hD, hb], by simp [Map.get_set, hb]⟩,
      fun b hb => ?_, fun b hb => ?_, hdpNew, fun b hb => by simp [Map.get_set, hb]⟩
    · simp only [List.mem_append, mem_foldl_sErase, hdelsMem, haddsMem, ← hview x]
      by_cases hx1 : x ∈ t.dp <;> by_cases hx2 : x ∈ t.des <;> simp [hx1, hx2]
    · by_cases hba : b = a
      · exact Or.inr (hba ▸ hDa)
      · rw [Map.has, hoth b hba] at hb; exact Or.inl hb
    · by_cases hba : b = a
      · exact hba ▸ hDa
      · rw [Map.has, hD, if_neg hba]; exact hb

/-- What a whole restore input establishes when every line succeeds (`writeAll_post`). -/
structure AllPost (c : Cfg) (F F' : Felix) (K K' : Kernel) (order : List String) : Prop where
  desired : F'.desired = F.desired
  allMeta : F'.allMeta = F.allMeta
  filter : F'.filter = F.filter
  fullReq : F'.fullReq = F.fullReq
  queues : F'.qMust = F.qMust ∧ F'.qBg = F.qBg ∧ F'.bgReq = F.bgReq
  inv : WInv c F' K'
  exactNew : ∀ n ∈ order, Exact F' K' n
  exactKeep : ∀ n, Exact F K n → Exact F' K' n
  covK : ∀ b, K'.has b = true → K.has b = true ∨ F'.dp.has b = true
  covDp : ∀ b, F.dp.has b = true → F'.dp.has b = true
  dpNew : ∀ b, F'.dp.has b = true → F.dp.has b = true ∨ b ∈ order ∨ c.isTemp b = true
  desKeep : ∀ n t, F.members.get n = some t → ∃ t', F'.members.get n = some t' ∧ t'.des = t.des

theorem writeAll_post {c : Cfg} (hc : CfgOK c) {ord : List String → List String}
    (hord : ∀ l x, x ∈ ord l ↔ x ∈ l) : ∀ (order : List String) (F F' : Felix) (K K' : Kernel) (lines : List Line),
    WInv c F K → (∀ n ∈ order, F.desired.has n = true) →
    writeAll c ord F order = some (F', lines) → kall K lines = some K' →
    AllPost c F F' K K' order := by
  intro order
  induction order with
  | nil =>
    intro F F' K K' lines hinv _ hw hk
    cases hw; cases hk
    exact ⟨rfl, rfl, rfl, rfl, ⟨rfl, rfl, rfl⟩, hinv, by simp, fun _ h => h, fun _ h => Or.inl h, fun _ h => h,
      fun _ h => Or.inl h, fun n t h => ⟨t, h, rfl⟩⟩
  | cons a rest ih =>
    intro F F' K K' lines hinv hdes hw hk
    obtain ⟨F1, l1, l2, hw1, hw2, rfl⟩ := writeAll_cons hw
    obtain ⟨K1, hk1, hk⟩ := kall_append_some.1 hk
    have hda := hdes a List.mem_cons_self
    obtain ⟨dm, hdm⟩ := Map.has_iff_get.1 hda
    obtain ⟨t, ht⟩ := Map.has_iff_get.1 (hinv.tracked a hda)
    have gp := group_step hc hord hdm ht (hinv.notTemp a hda) (hinv.acc a) hw1 hk1
    obtain ⟨k, hka, hkm, hkmem⟩ := gp.exact
    obtain ⟨ta, hta, htades, htadp⟩ := gp.trA
    -- the invariant holds again after the group: `a` has become exact, the other sets are untouched
    have hinv1 : WInv c F1 K1 := by
      refine ⟨fun n hn => hinv.notTemp n (gp.desired ▸ hn), fun n hn => ?_, fun n dm' t' hdm' ht' => ?_⟩ <;>
        by_cases hna : n = a
      · exact hna ▸ Map.has_of_get hta
      · rw [Map.has, (gp.other n hna (hinv.notTemp n (gp.desired ▸ hn))).2.2]
        exact hinv.tracked n (gp.desired ▸ hn)
      · subst hna
        rw [hta] at ht'; cases ht'
        rw [gp.desired, hdm] at hdm'; cases hdm'
        rw [hka]
        exact ⟨dm, gp.dpA, fun _ => ⟨hkm, htadp.trans hkmem.symm⟩⟩
      · rw [gp.desired] at hdm'
        obtain ⟨h1, h2, h3⟩ := gp.other n hna (hinv.notTemp n (Map.has_of_get hdm'))
        rw [h1, h2]
        exact hinv.acc n dm' t' hdm' (h3 ▸ ht')
    have post := ih F1 F' K1 K' l2 hinv1 (fun n hn => gp.desired ▸ hdes n (List.mem_cons_of_mem _ hn)) hw2 hk
    have hexA : Exact F1 K1 a := ⟨dm, ta, k, gp.desired ▸ hdm, hta, hka, hkm, htades ▸ hkmem⟩
    have keep1 : ∀ n, Exact F K n → Exact F1 K1 n := by
      intro n hex
      by_cases hna : n = a
      · exact hna ▸ hexA
      · obtain ⟨dm', t', k', h1, h2, h3, h4, h5⟩ := hex
        obtain ⟨g1, _, g3⟩ := gp.other n hna (hinv.notTemp n (Map.has_of_get h1))
        exact ⟨dm', t', k', gp.desired ▸ h1, g3 ▸ h2, g1 ▸ h3, h4, h5⟩
    refine ⟨post.desired.trans gp.desired, post.allMeta.trans gp.allMeta, post.filter.trans gp.filter,
      post.fullReq.trans gp.fullReq,
      ⟨post.queues.1.trans gp.queues.1, post.queues.2.1.trans gp.queues.2.1, post.queues.2.2.trans gp.queues.2.2⟩,
      post.inv, fun n hn => ?_, fun n hex => post.exactKeep n (keep1 n hex), fun b hb => ?_,
      fun b hb => post.covDp b (gp.covDp b hb), (writeAll_grow hc hw).dp, fun n t0 ht0 => ?_⟩
    · rcases List.mem_cons.1 hn with rfl | hn
      · exact post.exactKeep _ hexA
      · exact post.exactNew n hn
    · rcases post.covK b hb with h | h
      · exact (gp.covK b h).imp_right (post.covDp b)
      · exact Or.inr h
    · have h1 : ∃ t1, F1.members.get n = some t1 ∧ t1.des = t0.des := by
        by_cases hna : n = a
        · subst hna
          rw [ht] at ht0; cases ht0
          exact ⟨ta, hta, htades⟩
        · exact ⟨t0, gp.memOther n hna ▸ ht0, rfl⟩
      obtain ⟨t1, ht1, hd1⟩ := h1
      obtain ⟨t2, ht2, hd2⟩ := post.desKeep n t1 ht1
      exact ⟨t2, ht2, hd2.trans hd1⟩

theorem pickOrder_spec (w : W) (dirty : List String) :
    (w.pickOrder dirty).2.F = w.F ∧ (w.pickOrder dirty).2.K = w.K ∧ (w.pickOrder dirty).2.cfg = w.cfg ∧
    ∀ n, n ∈ (w.pickOrder dirty).1 ↔ n ∈ dirty := by
  unfold W.pickOrder
  split
  · exact ⟨rfl, rfl, rfl, fun _ => mem_sortS⟩
  · split
    · rename_i hs
      simp only [sameSet, Bool.and_eq_true, List.all_eq_true, List.contains_eq_mem, decide_eq_true_eq] at hs
      exact ⟨rfl, rfl, rfl, fun n => ⟨hs.1.1 n, hs.1.2 n⟩⟩
    · exact ⟨rfl, rfl, rfl, fun _ => mem_sortS⟩

theorem mem_linesToRun {rp : RPlan} {lines : List Line} {l : Line} (h : l ∈ linesToRun rp lines) : l ∈ lines := by
  unfold linesToRun at h
  split at h
  · exact List.mem_of_mem_take h
  · exact h

/-- The first alternative (nothing written) covers: nothing dirty, `ipset restore` does not start, a Panic. -/
theorem tryUpdates_cases (w : W) (dirty : List String) : ∃ w' e, w.tryUpdates dirty = (w', e) ∧ w'.cfg = w.cfg ∧
    ((w'.F = w.F ∧ w'.K = w.K ∧ (e = false → dirty = [])) ∨
     ∃ order F1 lines ran, (∀ n, n ∈ order ↔ n ∈ dirty) ∧ writeAll w.cfg sortS w.F order = some (F1, lines) ∧
       (∀ l ∈ ran, l ∈ lines) ∧ w'.K = (krun w.K ran).1 ∧
       ((w'.F = { F1 with dirty := [] } ∧ kall w.K lines = some w'.K ∧ e = false) ∨
        (w'.F = order.foldl (fun F n => F.qAdd n true) F1 ∧ e = true))) := by
  unfold W.tryUpdates
  by_cases hd : dirty.isEmpty = true
  · rw [if_pos hd]
    exact ⟨_, _, rfl, rfl, Or.inl ⟨rfl, rfl, fun _ => by simpa using hd⟩⟩
  · rw [if_neg hd]
    dsimp only
    by_cases hsf : ((popRPlan w.plan.restores).1 == RPlan.startFail) = true
    · rw [if_pos hsf]
      exact ⟨_, _, rfl, rfl, Or.inl ⟨rfl, rfl, fun h => by cases h⟩⟩
    · rw [if_neg hsf]
      generalize hw0 : ({ w with plan := { w.plan with restores := (popRPlan w.plan.restores).2 } } : W) = w0
      obtain ⟨hF, hK, hc, hmem⟩ := pickOrder_spec w0 dirty
      generalize w0.pickOrder dirty = po at hF hK hc hmem ⊢
      generalize (popRPlan w.plan.restores).1 = rp
      subst hw0
      change po.2.F = w.F at hF
      change po.2.K = w.K at hK
      change po.2.cfg = w.cfg at hc
      unfold W.runRestore
      rw [hc, hF, hK]
      cases hwa : writeAll w.cfg sortS w.F po.1 with
      | none => exact ⟨_, _, rfl, rfl, Or.inl ⟨rfl, rfl, fun h => by cases h⟩⟩
      | some r =>
        obtain ⟨F1, lines⟩ := r
        dsimp only
        by_cases hs : ((krun w.K (linesToRun rp lines)).2.2 && rp == RPlan.ok) = true
        · rw [if_pos hs]
          rw [Bool.and_eq_true, beq_iff_eq] at hs
          obtain ⟨hok, rfl⟩ := hs
          exact ⟨_, _, rfl, rfl, Or.inr ⟨_, F1, lines, lines, hmem, hwa, fun _ h => h, rfl,
            Or.inl ⟨rfl, krun_ok _ _ hok, rfl⟩⟩⟩
        · rw [if_neg hs]
          exact ⟨_, _, rfl, rfl, Or.inr ⟨_, F1, lines, _, hmem, hwa, fun _ => mem_linesToRun, rfl, Or.inr ⟨rfl, rfl⟩⟩⟩

theorem dirtyForUpdate_desired (F : Felix) : ∀ n ∈ F.dirtyForUpdate, F.desired.has n = true := by
  intro n hn
  unfold Felix.dirtyForUpdate at hn
  rcases List.mem_append.1 hn with hn | hn
  · exact (List.mem_filter.1 hn).2
  · have := (List.mem_filter.1 hn).1
    unfold Felix.pendingUpdates at this
    rw [List.mem_eraseDups] at this
    obtain ⟨p, hp, rfl⟩ := List.mem_map.1 this
    exact Map.has_of_mem (List.mem_filter.1 hp).1

theorem tryUpdates_pres (w : W) (dirty : List String) : WPres w (w.tryUpdates dirty).1 := by
  obtain ⟨w', e, he, hc, ⟨hF, _⟩ | ⟨order, F1, lines, ran, _, hwa, _, _, ⟨hF, _⟩ | ⟨hF, _⟩⟩⟩ :=
    tryUpdates_cases w dirty <;> rw [he] <;> refine ⟨hc, ?_⟩ <;> rw [show w'.F = _ from hF]
  · exact Pres.refl _
  · exact (writeAll_pres hwa).trans (Pres.of_members ⟨rfl, rfl, rfl, rfl⟩ rfl)
  · exact (writeAll_pres hwa).trans (qAddAll_pres true order F1)

/-- Restore lines never remove a set, and the lines written only name desired sets (owned, by the invariant) and
temporary sets. -/
theorem tryUpdates_safe (w : W) : Safe w (w.tryUpdates w.F.dirtyForUpdate).1 := by
  have hp := tryUpdates_pres w w.F.dirtyForUpdate
  obtain ⟨w', e, he, hc, hcase⟩ := tryUpdates_cases w w.F.dirtyForUpdate
  rw [he] at hp ⊢
  refine ⟨hp.keep, fun n _ hk => ?_, fun hcfg hi => ?_⟩
  · rcases hcase with ⟨_, hK, _⟩ | ⟨_, _, _, ran, _, _, _, hK, _⟩
    · exact hK ▸ hk
    · exact hK ▸ krun_has_mono ran w.K hk
  · rcases hcase with ⟨hF, hK, _⟩ | ⟨order, F1, lines, ran, hmem, hwa, hran, hK, hF⟩
    · exact ⟨hF ▸ hi.qd, fun _ _ => by rw [hK]⟩
    · have hown : ∀ n ∈ order, w.cfg.owns n = true := fun n hn =>
        hi.desOK.owned n (dirtyForUpdate_desired w.F n ((hmem n).1 hn))
      have hq1 : QD w.cfg F1 := (writeAll_grow hcfg hwa).QD
        (fun x hx => hx.elim (hown x) (hcfg.tempOwned x)) hi.qd
      refine ⟨?_, fun x hx => ?_⟩
      · rcases hF with ⟨hF, _⟩ | ⟨hF, _⟩ <;> rw [show w'.F = _ from hF]
        · exact hq1.of_eq rfl rfl rfl
        · exact (qAddAll_grow true order F1).QD hown hq1
      · rw [hK]
        refine krun_get_other ran w.K fun l hl hxl => ?_
        rw [writeAll_names hcfg (fun _ _ h => mem_sortS.1 h) order w.F F1 lines hown hwa l (hran l hl) x hxl] at hx
        cases hx

theorem not_pending_dp {F : Felix} {n : String} {dm : Meta} (hd : F.desired.get n = some dm)
    (h : n ∉ F.pendingUpdates) : F.dp.get n = some dm := by
  unfold Felix.pendingUpdates at h
  rw [List.mem_eraseDups] at h
  by_cases hdp : F.dp.get n = some dm
  · exact hdp
  · exact absurd (List.mem_map.2 ⟨(n, dm), List.mem_filter.2 ⟨Map.mem_of_get hd, by simpa using hdp⟩, rfl⟩) h

theorem clean_exact {c : Cfg} {F : Felix} {K : Kernel} (hinv : WInv c F K) (hdo : DirtyOK F) {n : String}
    (hdes : F.desired.has n = true) (hclean : n ∉ F.dirtyForUpdate) : Exact F K n := by
  obtain ⟨dm, hdm⟩ := Map.has_iff_get.1 hdes
  obtain ⟨t, ht⟩ := Map.has_iff_get.1 (hinv.tracked n hdes)
  simp only [Felix.dirtyForUpdate, List.mem_append, List.mem_filter, not_or, not_and] at hclean
  have hnd : n ∉ F.dirty := fun h => hclean.1 h hdes
  have hdp := not_pending_dp hdm fun h => by simpa [hnd] using hclean.2 h
  have hacc := hinv.acc n dm t hdm ht
  cases hK : K.get n with
  | none => simp [hK, hdp] at hacc
  | some k =>
    obtain ⟨m', hm', hrest⟩ := by simpa only [hK] using hacc
    cases hdp.symm.trans hm'
    exact ⟨dm, t, k, hdm, ht, hK, (hrest rfl).1, (hrest rfl).2.symm.trans (inSync_setEq (hdo n hdes hnd t ht))⟩

/-- What a `tryUpdates` that returns no error establishes (`tryUpdates_post`): `AllPost` for the dirty sets,
stated between worlds. -/
structure UpdPost (w w' : W) : Prop where
  cfg : w'.cfg = w.cfg
  desired : w'.F.desired = w.F.desired
  allMeta : w'.F.allMeta = w.F.allMeta
  filter : w'.F.filter = w.F.filter
  fullReq : w'.F.fullReq = w.F.fullReq
  queues : w'.F.qMust = w.F.qMust ∧ w'.F.qBg = w.F.qBg ∧ w'.F.bgReq = w.F.bgReq
  inv : WInv w.cfg w'.F w'.K
  exact : ∀ n, w.F.desired.has n = true → Exact w'.F w'.K n
  covK : ∀ b, w'.K.has b = true → w.K.has b = true ∨ w'.F.dp.has b = true
  covDp : ∀ b, w.F.dp.has b = true → w'.F.dp.has b = true
  dpNew : ∀ b, w'.F.dp.has b = true → w.F.dp.has b = true ∨ w.F.desired.has b = true ∨ w.cfg.isTemp b = true
  desKeep : ∀ n t, w.F.members.get n = some t → ∃ t', w'.F.members.get n = some t' ∧ t'.des = t.des

theorem tryUpdates_post (w : W) (hc : CfgOK w.cfg) (hinv : WInv w.cfg w.F w.K) (hdo : DirtyOK w.F)
    (h : (w.tryUpdates w.F.dirtyForUpdate).2 = false) :
    UpdPost w (w.tryUpdates w.F.dirtyForUpdate).1 := by
  obtain ⟨w', e, he, hcfg, hcase⟩ := tryUpdates_cases w w.F.dirtyForUpdate
  rw [he] at h ⊢
  cases (show e = false from h)
  obtain ⟨c', F', K', _, _, _, _, _, _, _⟩ := w'
  dsimp only at hcfg hcase ⊢
  rcases hcase with ⟨rfl, rfl, hnil⟩ | ⟨order, F1, lines, ran, hmem, hwa, _, _, ⟨rfl, hkall, _⟩ | ⟨_, he⟩⟩
  · -- nothing was dirty: nothing written, and every desired set is exact already
    refine ⟨hcfg, rfl, rfl, rfl, rfl, ⟨rfl, rfl, rfl⟩, hinv, fun n hn => ?_, fun _ h => Or.inl h, fun _ h => h,
      fun _ h => Or.inl h, fun n t h => ⟨t, h, rfl⟩⟩
    exact clean_exact hinv hdo hn (by simp [hnil rfl])
  · have hdesOrd : ∀ n ∈ order, w.F.desired.has n = true :=
      fun n hn => dirtyForUpdate_desired w.F n ((hmem n).1 hn)
    have post := writeAll_post hc (fun l x => mem_sortS) order w.F F1 w.K _ lines hinv hdesOrd hwa hkall
    refine ⟨hcfg, post.desired, post.allMeta, post.filter, post.fullReq, post.queues,
      ⟨post.inv.notTemp, post.inv.tracked, post.inv.acc⟩, fun n hn => ?_, post.covK, post.covDp,
      fun b hb => (post.dpNew b hb).imp_right (Or.imp_left (hdesOrd b)), post.desKeep⟩
    show Exact F1 K' n
    by_cases hd : n ∈ w.F.dirtyForUpdate
    · exact post.exactNew n ((hmem n).2 hd)
    · exact post.exactKeep n (clean_exact hinv hdo hn hd)
  · cases he

end CalicoVerif.C16
