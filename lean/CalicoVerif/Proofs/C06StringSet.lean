import CalicoVerif.Proofs.C06Basic
/-! C06 helper lemmas: Go string order and `ConvertToStringSetInPlace`. -/
namespace CalicoVerif.C06

theorem strLt_iff : ∀ a b : Str, strLt a b = true ↔ a.map Char.toNat < b.map Char.toNat
  | [], [] => by simp [strLt]
  | [], _ :: _ => by simp [strLt]
  | _ :: _, [] => by simp [strLt]
  | a :: as, b :: bs => by
    rw [strLt, List.map_cons, List.map_cons, List.cons_lt_cons_iff, ← strLt_iff as bs]
    by_cases h1 : a.toNat < b.toNat
    · simp [h1]
    · by_cases h2 : b.toNat < a.toNat
      · simp [h1, h2]; omega
      · have : a.toNat = b.toNat := by omega
        simp [this]

theorem strLt_irrefl (a : Str) : strLt a a = false :=
  Bool.eq_false_iff.2 fun h => List.lt_irrefl _ ((strLt_iff a a).1 h)

theorem strLt_asymm {a b : Str} (h : strLt a b = true) : strLt b a = false :=
  Bool.eq_false_iff.2 fun h' => List.lt_asymm ((strLt_iff a b).1 h) ((strLt_iff b a).1 h')

theorem strLt_trans {a b c : Str} (h1 : strLt a b = true) (h2 : strLt b c = true) : strLt a c = true :=
  (strLt_iff a c).2 (List.lt_trans ((strLt_iff a b).1 h1) ((strLt_iff b c).1 h2))

theorem strLt_connected {a b : Str} (h1 : strLt a b = false) (h2 : strLt b a = false) : a = b := by
  have e := List.le_antisymm (List.not_lt.1 fun h => Bool.eq_false_iff.1 h2 ((strLt_iff b a).2 h))
    (List.not_lt.1 fun h => Bool.eq_false_iff.1 h1 ((strLt_iff a b).2 h))
  exact (List.map_inj_right fun _ _ => Char.toNat_inj.1).1 e

theorem strictSorted_tail {a : Str} {l : List Str} (h : StrictSorted (a :: l)) : StrictSorted l := by
  cases l with
  | nil => trivial
  | cons b rest => exact h.2

theorem insertSorted_of_strictSorted {x : Str} {l : List Str} (h : StrictSorted (x :: l)) :
    insertSorted x l = x :: l := by
  cases l with
  | nil => rfl
  | cons y ys => simp [insertSorted, strLt_asymm h.1]

theorem sortStrs_of_strictSorted : ∀ {l : List Str}, StrictSorted l → sortStrs l = l
  | [], _ => rfl
  | x :: xs, h => by
    rw [sortStrs, sortStrs_of_strictSorted (strictSorted_tail h), insertSorted_of_strictSorted h]

theorem dedupAdjacent_of_strictSorted : ∀ {l : List Str}, StrictSorted l → dedupAdjacent l = l
  | [], _ => rfl
  | [_], _ => rfl
  | x :: y :: rest, h => by
    have hne : x ≠ y := by
      intro e; have := h.1; rw [e, strLt_irrefl] at this; cases this
    rw [dedupAdjacent, if_neg hne, dedupAdjacent_of_strictSorted h.2]

theorem convertToStringSet_of_strictSorted {vs : List Str} (h : StrictSorted vs) :
    convertToStringSet vs = vs := by
  unfold convertToStringSet
  split
  · rfl
  · rw [sortStrs_of_strictSorted h, dedupAdjacent_of_strictSorted h]

def WeakSorted : List Str → Prop
  | [] => True
  | [_] => True
  | a :: b :: rest => strLt b a = false ∧ WeakSorted (b :: rest)

theorem weakSorted_tail {a : Str} {l : List Str} (h : WeakSorted (a :: l)) : WeakSorted l := by
  cases l with
  | nil => trivial
  | cons b rest => exact h.2

theorem weakSorted_insertSorted (x : Str) : ∀ {l : List Str}, WeakSorted l → WeakSorted (insertSorted x l)
  | [], _ => trivial
  | [y], _ => by
    simp only [insertSorted]
    by_cases h : strLt y x = true
    · simp only [h, if_true]; exact ⟨strLt_asymm h, trivial⟩
    · simp only [h]; exact ⟨by simpa using h, trivial⟩
  | y :: z :: rest, hl => by
    have ih := weakSorted_insertSorted x (weakSorted_tail hl)
    simp only [insertSorted] at ih ⊢
    by_cases h : strLt y x = true
    · simp only [h, if_true]
      by_cases h2 : strLt z x = true
      · simp only [h2, if_true] at ih ⊢; exact ⟨hl.1, ih⟩
      · simp only [h2] at ih ⊢; exact ⟨strLt_asymm h, ih⟩
    · simp only [h]; exact ⟨by simpa using h, hl⟩

theorem weakSorted_sortStrs : ∀ l : List Str, WeakSorted (sortStrs l)
  | [] => trivial
  | x :: xs => weakSorted_insertSorted x (weakSorted_sortStrs xs)

theorem dedupAdjacent_head (y : Str) : ∀ rest : List Str, ∃ t, dedupAdjacent (y :: rest) = y :: t
  | [] => ⟨[], rfl⟩
  | z :: rest => by
    by_cases h : y = z
    · obtain ⟨t, ht⟩ := dedupAdjacent_head z rest
      exact ⟨t, by rw [dedupAdjacent, if_pos h, ht, h]⟩
    · exact ⟨_, by rw [dedupAdjacent, if_neg h]⟩

theorem strictSorted_dedupAdjacent : ∀ {l : List Str}, WeakSorted l → StrictSorted (dedupAdjacent l)
  | [], _ => trivial
  | [_], _ => trivial
  | x :: y :: rest, h => by
    have ih := strictSorted_dedupAdjacent h.2
    rw [dedupAdjacent]
    by_cases e : x = y
    · rw [if_pos e]; exact ih
    · rw [if_neg e]
      obtain ⟨t, ht⟩ := dedupAdjacent_head y rest
      rw [ht] at ih ⊢
      refine ⟨?_, ih⟩
      cases hxy : strLt x y with
      | true => rfl
      | false => exact absurd (strLt_connected hxy h.1) e

theorem strictSorted_convertToStringSet (vs : List Str) : StrictSorted (convertToStringSet vs) := by
  unfold convertToStringSet
  split
  · match vs with
    | [] => trivial
    | [_] => trivial
    | _ :: _ :: _ => rename_i h; simp at h
  · exact strictSorted_dedupAdjacent (weakSorted_sortStrs vs)

theorem mem_insertSorted {x y : Str} : ∀ {l : List Str}, y ∈ insertSorted x l ↔ y = x ∨ y ∈ l
  | [] => by simp [insertSorted]
  | z :: zs => by
    simp only [insertSorted]
    split
    · simp only [List.mem_cons, mem_insertSorted (l := zs)]
      constructor
      · rintro (h | h | h) <;> simp [h]
      · rintro (h | h | h) <;> simp [h]
    · simp

theorem mem_sortStrs {y : Str} : ∀ {l : List Str}, y ∈ sortStrs l ↔ y ∈ l
  | [] => by simp [sortStrs]
  | x :: xs => by simp [sortStrs, mem_insertSorted, mem_sortStrs (l := xs)]

theorem mem_dedupAdjacent {y : Str} : ∀ {l : List Str}, y ∈ dedupAdjacent l ↔ y ∈ l
  | [] => by simp [dedupAdjacent]
  | [_] => by simp [dedupAdjacent]
  | a :: b :: rest => by
    rw [dedupAdjacent]
    by_cases e : a = b
    · rw [if_pos e, mem_dedupAdjacent (l := b :: rest), e]; simp
    · rw [if_neg e, List.mem_cons, mem_dedupAdjacent (l := b :: rest)]; simp

theorem mem_convertToStringSet {x : Str} {vs : List Str} : x ∈ convertToStringSet vs ↔ x ∈ vs := by
  unfold convertToStringSet
  split
  · rfl
  · rw [mem_dedupAdjacent, mem_sortStrs]

theorem strictSorted_lt_of_mem {a : Str} : ∀ {l : List Str}, StrictSorted (a :: l) → ∀ x ∈ l, strLt a x = true
  | [], _, _, hx => by cases hx
  | b :: rest, h, x, hx => by
    rcases List.mem_cons.mp hx with rfl | hx
    · exact h.1
    · exact strLt_trans h.1 (strictSorted_lt_of_mem h.2 x hx)

theorem stringSetContains_iff_mem : ∀ {vs : List Str}, StrictSorted vs → ∀ x : Str,
    (stringSetContains vs x = true ↔ x ∈ vs)
  | [], _, x => by simp [stringSetContains]
  | v :: vs, h, x => by
    have ih := stringSetContains_iff_mem (strictSorted_tail h) x
    unfold stringSetContains at ih ⊢
    rw [List.find?_cons]
    cases hvx : strLt v x with
    | true =>
      simp only [Bool.not_true]
      rw [ih, List.mem_cons]
      constructor
      · exact Or.inr
      · rintro (rfl | hm)
        · rw [strLt_irrefl] at hvx; cases hvx
        · exact hm
    | false =>
      simp only [Bool.not_false, decide_eq_true_eq, List.mem_cons]
      constructor
      · intro e; exact Or.inl e.symm
      · rintro (rfl | hm)
        · rfl
        · have := strictSorted_lt_of_mem h x hm
          rw [this] at hvx; cases hvx

instance decStrictSorted : (vs : List Str) → Decidable (StrictSorted vs)
  | [] => isTrue trivial
  | [_] => isTrue trivial
  | a :: b :: rest =>
    match decStrictSorted (b :: rest) with
    | isTrue h => if h' : strLt a b = true then isTrue ⟨h', h⟩ else isFalse (fun hh => h' hh.1)
    | isFalse h => isFalse (fun hh => h hh.2)

example : StrictSorted [['a'], ['b']] := by decide +kernel
example : convertToStringSet [['b'], ['a'], ['b']] = [['a'], ['b']] := by decide +kernel

end CalicoVerif.C06
