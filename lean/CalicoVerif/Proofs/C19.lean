import CalicoVerif.Proofs.CasStep
/-!
C19 — every block function keeps `WF` (the `Unallocated` queue is exactly the free ordinals) and,
per handle, the balance `live after + debits created = live before + credit required`; the token operations keep the matching
equation on `credTot`.  Hence `AllWF` and `HEq` are kept by every step.  In between: what an allocating
read-modify-write says of an ordinal it takes (`rmw_got : Got`), that a thread's `got` grows only by its own
successful compare-and-swap (`got_grows_only_by_own_cas : OwnCas`), the ownership guard (`own_guard`), and what a
step does to a block's affinity (`owner_record_step`).  C20 takes the first three; C22 and C38 also use the
counting layer (`liveCount_*`, `liveAt_*`, `gc_keeps_live`, `rmw_count_eq`).
-/
open CalicoVerif.Cas
namespace CalicoVerif.C19

theorem length_setSlots (v : Slot) (os : List Nat) (s : List Slot) : (setSlots v os s).length = s.length :=
  length_foldl_set v os s

theorem lt_of_getElem? {α : Type} {l : List α} {i : Nat} {x : α} (h : l[i]? = some x) : i < l.length :=
  (List.getElem?_eq_some_iff.1 h).1

def WF (b : Blk) : Prop := b.unalloc.Nodup ∧ ∀ o, o ∈ b.unalloc ↔ b.slots[o]? = some Slot.free

theorem ascending_pairwise : ∀ l : List Nat, ascending l = true → l.Pairwise (· < ·)
  | [], _ => .nil
  | [_], _ => List.pairwise_singleton _ _
  | a :: b :: t, h => by
    simp only [ascending, Bool.and_eq_true, decide_eq_true_eq] at h
    have ih := ascending_pairwise (b :: t) h.2
    refine List.pairwise_cons.2 ⟨fun x hx => ?_, ih⟩
    rcases List.mem_cons.1 hx with rfl | hx
    · exact h.1
    · exact Nat.lt_trans h.1 ((List.pairwise_cons.1 ih).1 x hx)

theorem ascending_nodup (l : List Nat) (h : ascending l = true) : l.Nodup :=
  (ascending_pairwise l h).imp Nat.ne_of_lt

theorem wf_gc {F : List Nat} {b b' : Blk} (hw : WF b) (h : gc F b = some b') : WF b' := by
  have hs := gc_getElem? h
  obtain ⟨⟨ha, hc⟩, rfl⟩ := gc_eq_some.1 h
  refine ⟨List.nodup_append.2 ⟨hw.1, ascending_nodup F ha, ?_⟩, fun o => ?_⟩
  · rintro x hx _ hy rfl
    -- an ordinal of the queue is free, one that is collected is in cooldown
    cases ((hw.2 x).1 hx).symm.trans (hc x hy)
  · rw [hs o, List.mem_append, hw.2 o]
    by_cases ho : o ∈ F <;> simp [ho]

theorem takeFree_perm (rv : List Nat) (k : Nat) (u : List Nat) :
    ((takeFree rv k u).1 ++ (takeFree rv k u).2).Perm u := by
  fun_induction takeFree rv k u with
  | case1 u => exact .refl _
  | case2 k => exact .refl _
  | case3 k x u hx r ih => exact List.perm_middle.trans (ih.cons x)
  | case4 k x u hx r ih => exact ih.cons x

theorem takeFree_not_reserved (rv : List Nat) (k : Nat) (u : List Nat) :
    ∀ o ∈ (takeFree rv k u).1, o ∉ rv := by
  fun_induction takeFree rv k u with
  | case1 u => simp
  | case2 k => simp
  | case3 k x u hx r ih => exact ih
  | case4 k x u hx r ih =>
    intro o ho
    rcases List.mem_cons.1 ho with rfl | ho
    · simpa using hx
    · exact ih o ho

theorem autoAssign_picks (k h : Nat) (rv : List Nat) {b : Blk} (hw : WF b) :
    (autoAssign k h rv b).2.Nodup ∧ ∀ o ∈ (autoAssign k h rv b).2, b.slots[o]? = some Slot.free :=
  have hp := takeFree_perm rv k b.unalloc
  ⟨(List.nodup_append.1 (hp.nodup_iff.2 hw.1)).1,
   fun o ho => (hw.2 o).1 (hp.mem_iff.1 (List.mem_append_left _ ho))⟩

theorem wf_autoAssign {k h : Nat} {rv : List Nat} {b : Blk} (hw : WF b) : WF (autoAssign k h rv b).1 := by
  have hp := takeFree_perm rv k b.unalloc
  obtain ⟨_, hn2, hdis⟩ := List.nodup_append.1 (hp.nodup_iff.2 hw.1)
  refine ⟨hn2, fun o => ?_⟩
  simp only [autoAssign, getElem?_setSlots]
  by_cases h1 : o ∈ (takeFree rv k b.unalloc).1
  · have hl := lt_of_getElem? ((autoAssign_picks k h rv hw).2 o h1)
    simp only [h1, hl, and_self, if_true, Option.some.injEq, reduceCtorEq, iff_false]
    exact fun h2 => hdis o h1 o h2 rfl
  · simp only [h1, false_and, if_false, ← hw.2 o, ← hp.mem_iff, List.mem_append, false_or]

theorem relAux_free (R : List Nat) (i : Nat) (ss : List Slot) (j : Nat) :
    (relAux R i ss)[j]? = some Slot.free ↔ ss[j]? = some Slot.free := by
  induction ss generalizing i j with
  | nil => simp [relAux]
  | cons s ss ih =>
    cases j with
    | zero =>
      simp only [relAux, List.getElem?_cons_zero]
      cases s <;> simp [Slot.isLive] <;> split <;> simp_all
    | succ j => simp only [relAux, List.getElem?_cons_succ]; exact ih (i+1) j

theorem relhAux_free (h : Nat) (ss : List Slot) (j : Nat) :
    (relhAux h ss)[j]? = some Slot.free ↔ ss[j]? = some Slot.free := by
  unfold relhAux
  simp only [List.getElem?_map]
  cases hj : ss[j]? with
  | none => simp
  | some x => cases x <;> simp <;> split <;> simp_all

theorem wf_newBlk (a n : Nat) : WF (newBlk a n) := by
  refine ⟨List.nodup_range, fun o => ?_⟩
  simp only [newBlk, List.mem_range, List.getElem?_replicate]
  split <;> simp_all

theorem wf_applyBOp {op : BOp} {b : Blk} {r : BRes} (hw : WF b) (h : applyBOp op b = some r) : WF r.v := by
  cases op with
  | assign h' k rv => obtain ⟨_, rfl⟩ := applyBOp_assign.1 h; exact wf_autoAssign hw
  | assignIP h' o =>
    obtain ⟨hf, rfl⟩ := applyBOp_assignIP.1 h
    refine ⟨hw.1.erase o, fun x => ?_⟩
    simp only [hw.1.mem_erase_iff, List.getElem?_set, hw.2 x]
    by_cases e : o = x
    · subst e; simp [lt_of_getElem? hf]
    · simp [e, Ne.symm e]
  | release h' ords =>
    obtain ⟨_, rfl⟩ := applyBOp_release.1 h
    exact ⟨hw.1, fun o => by simp only [relAux_free]; exact hw.2 o⟩
  | relh h' =>
    obtain ⟨_, rfl⟩ := applyBOp_relh.1 h
    exact ⟨hw.1, fun o => by simp only [relhAux_free]; exact hw.2 o⟩
  | clearAff => obtain rfl := applyBOp_clearAff.1 h; exact hw
  | bump => obtain rfl := applyBOp_bump.1 h; exact hw

theorem wf_rmw {g1 g2 : List Nat} {op : BOp} {b : Blk} {r : BRes} (hw : WF b) (h : rmw g1 op g2 b = some r) : WF r.v := by
  obtain ⟨b1, r1, b2, h1, h2, h3, rfl⟩ := rmw_eq_some.1 h
  exact wf_gc (wf_applyBOp (wf_gc hw h1) h2) h3

def AllWF (s : St) : Prop := ∀ b r v, s.blk b = some (r, v) → WF v

theorem allWF_init (r nb : Nat) : AllWF (St.init r nb) := by
  intro b r' v h; cases h

theorem allWF_step {s s' : St} {e : Ev} (hw : AllWF s) (h : step s e = some s') : AllWF s' := by
  rcases step_cases h with rfl | ⟨t, _, rfl⟩ | ⟨c, _, ap⟩
  · exact hw
  · exact hw
  · intro b r v hb
    rcases ap.write.blk_cases b with e | on
    · exact hw b r v (e ▸ hb)
    · cases on with
      | create _ hb' => cases hb'.symm.trans hb; exact wf_newBlk _ _
      | rmw _ hb0 hr hb' => cases hb'.symm.trans hb; exact wf_rmw (hw _ _ _ hb0) hr
      | del _ _ _ hb' | delOp _ hb' => cases hb'.symm.trans hb

theorem allWF_run {s s' : St} {evs : List Ev} (hw : AllWF s) (h : run s evs = some s') : AllWF s' :=
  run_invariant allWF_step hw h

theorem gc_keeps_live {F : List Nat} {b b' : Blk} {o h : Nat} (hg : gc F b = some b')
    (hl : b.slots[o]? = some (Slot.live h)) : b'.slots[o]? = some (Slot.live h) := by
  rw [gc_getElem? hg, if_neg, hl]
  intro ho
  cases hl.symm.trans ((gc_eq_some.1 hg).1.2 o ho)

theorem gc_aff {F : List Nat} {b b' : Blk} (h : gc F b = some b') : b'.aff = b.aff := by
  obtain ⟨_, rfl⟩ := gc_eq_some.1 h; rfl

theorem applyBOp_aff {op : BOp} {b : Blk} {r : BRes} (h : applyBOp op b = some r) :
    r.v.aff = b.aff ∨ r.v.aff = none := by
  cases op with
  | assign => obtain ⟨_, rfl⟩ := applyBOp_assign.1 h; exact .inl rfl
  | assignIP => obtain ⟨_, rfl⟩ := applyBOp_assignIP.1 h; exact .inl rfl
  | release => obtain ⟨_, rfl⟩ := applyBOp_release.1 h; exact .inl rfl
  | relh => obtain ⟨_, rfl⟩ := applyBOp_relh.1 h; exact .inl rfl
  | clearAff => obtain rfl := applyBOp_clearAff.1 h; exact .inr rfl
  | bump => obtain rfl := applyBOp_bump.1 h; exact .inl rfl

theorem rmw_aff {g1 g2 : List Nat} {op : BOp} {v : Blk} {res : BRes} (h : rmw g1 op g2 v = some res) :
    res.v.aff = v.aff ∨ res.v.aff = none := by
  obtain ⟨b1, r1, b2, h1, h2, h3, rfl⟩ := rmw_eq_some.1 h
  have a := applyBOp_aff h2
  rwa [gc_aff h1, ← gc_aff h3] at a

theorem owner_record_step (s s' : St) (e : Ev) (h : step s e = some s')
    (b r r' : Nat) (v v' : Blk) (hb : s.blk b = some (r, v)) (hb' : s'.blk b = some (r', v')) :
    v'.aff = v.aff ∨ v'.aff = none := by
  have same : s'.blk b = s.blk b → v'.aff = v.aff ∨ v'.aff = none := fun e => by
    rw [e, hb] at hb'; cases hb'; exact .inl rfl
  rcases step_cases h with rfl | ⟨t, _, rfl⟩ | ⟨c, _, ap⟩
  · exact same rfl
  · exact same rfl
  · rcases ap.write.blk_cases b with e | on
    · exact same e
    · cases on with
      | create habs => cases habs.symm.trans hb
      | rmw _ hb0 hr hb1 => cases hb0.symm.trans hb; cases hb1.symm.trans hb'; exact rmw_aff hr
      | del _ _ _ hb1 | delOp _ hb1 => cases hb1.symm.trans hb'

def Allocates (op : BOp) (o : Nat) : Prop :=
  (∃ h' k rv, op = .assign h' k rv ∧ o ∉ rv) ∨ ∃ h', op = .assignIP h' o

theorem applyBOp_got {op : BOp} {b : Blk} {r : BRes} (hw : WF b) (h : applyBOp op b = some r)
    {o : Nat} (ho : o ∈ r.got) :
    b.slots[o]? = some Slot.free ∧ r.v.slots[o]? = some (Slot.live (opHandle op)) ∧ Allocates op o := by
  cases op with
  | assign h' k rv =>
    obtain ⟨_, rfl⟩ := applyBOp_assign.1 h
    have hf := (autoAssign_picks k h' rv hw).2 o ho
    refine ⟨hf, ?_, .inl ⟨h', k, rv, rfl, takeFree_not_reserved rv k b.unalloc o ho⟩⟩
    have ho' : o ∈ (takeFree rv k b.unalloc).1 := ho
    simp only [autoAssign, getElem?_setSlots, ho', lt_of_getElem? hf, and_self, if_true, opHandle]
  | assignIP h' o' =>
    obtain ⟨hf, rfl⟩ := applyBOp_assignIP.1 h
    obtain rfl := List.mem_singleton.1 ho
    exact ⟨hf, by simp [lt_of_getElem? hf, opHandle], .inr ⟨h', rfl⟩⟩
  | release h' ords => obtain ⟨_, rfl⟩ := applyBOp_release.1 h; cases ho
  | relh h' => obtain ⟨_, rfl⟩ := applyBOp_relh.1 h; cases ho
  | clearAff => obtain rfl := applyBOp_clearAff.1 h; cases ho
  | bump => obtain rfl := applyBOp_bump.1 h; cases ho

structure Got (op : BOp) (v : Blk) (res : BRes) (o : Nat) : Prop where
  /-- in the value read the address is free, or in cooldown and collected by the first garbage collection -/
  was : v.slots[o]? = some Slot.free ∨ v.slots[o]? = some Slot.cool
  live : res.v.slots[o]? = some (Slot.live (opHandle op))
  alloc : Allocates op o

theorem rmw_got {g1 g2 : List Nat} {op : BOp} {v : Blk} {res : BRes} (hw : WF v)
    (h : rmw g1 op g2 v = some res) {o : Nat} (ho : o ∈ res.got) : Got op v res o := by
  obtain ⟨b1, r1, b2, h1, h2, h3, rfl⟩ := rmw_eq_some.1 h
  obtain ⟨hf, hl, hop⟩ := applyBOp_got (wf_gc hw h1) h2 ho
  refine ⟨?_, gc_keeps_live h3 hl, hop⟩
  rw [gc_getElem? h1] at hf
  split at hf
  · rename_i hF; exact .inr ((gc_eq_some.1 h1).1.2 o hF)
  · exact .inl hf

theorem rmw_got_live {g1 g2 : List Nat} {op : BOp} {v : Blk} {res : BRes} (hw : WF v)
    (h : rmw g1 op g2 v = some res) {o : Nat} (ho : o ∈ res.got) :
    ∃ h', res.v.slots[o]? = some (Slot.live h') :=
  ⟨_, (rmw_got hw h ho).live⟩

structure OwnCas (s s' : St) (c : Call) (t b o : Nat) (g1 : List Nat) (op : BOp) (g2 : List Nat) (v : Blk) :
    Prop where
  thread : c.t = t
  key : c.key = Key.blk b
  ok : casOutcome (s.curRev c.key) c.verb c.rev c.fault = Outcome.ok
  verb : c.verb = Verb.update
  pl : c.pl = Payload.blkRmw g1 op g2
  stored : s'.blk b = some (s.rev + 1, v)
  live : v.slots[o]? = some (Slot.live (opHandle op))
  alloc : Allocates op o

theorem got_grows_only_by_own_cas {s s' : St} {e : Ev} (hw : AllWF s) (h : step s e = some s')
    {t b o : Nat} (hin : (b, o) ∈ s'.got t) (hnot : (b, o) ∉ s.got t) :
    ∃ c g1 op g2 v, e = Ev.call c ∧ OwnCas s s' c t b o g1 op g2 v := by
  rcases step_cases h with rfl | ⟨t', _, rfl⟩ | ⟨c, rfl, ap⟩
  · exact absurd hin hnot
  · simp only [upd_apply] at hin
    split at hin
    · cases hin
    · exact absurd hin hnot
  · cases ap.write with
    | @blkRmw b0 r0 g1 g2 op v0 res cs hk hv hp hb hr _ =>
      simp only [upd_apply] at hin
      split at hin
      · rename_i et
        rcases List.mem_append.1 hin with h1 | h1
        · exact absurd (et ▸ h1) hnot
        · obtain ⟨o', ho', heq⟩ := List.mem_map.1 h1
          cases heq
          have got := rmw_got (hw _ _ _ hb) hr ho'
          exact ⟨c, g1, op, g2, res.v, rfl, et.symm, hk, ap.ok, hv, hp, by simp [upd_apply], got.live, got.alloc⟩
      · exact absurd hin hnot
    | _ => exact absurd hin hnot

theorem own_guard {s s' : St} {c : Call} {x b : Nat}
    (h : step s (.call c) = some s') (hown : c.own = some x) (hk : c.key = Key.blk b)
    (hw : c.verb.isWrite = true)
    (hok : casOutcome (s.curRev c.key) c.verb c.rev c.fault = Outcome.ok) :
    ∃ r v, s.blk b = some (r, v) ∧ v.aff = some x :=
  ownOk_blk hown hk (step_call_ok hok hw h).own

theorem countP_set_le_of_false (p : Slot → Bool) (l : List Slot) (i : Nat) (v : Slot) (hv : p v = false) :
    (l.set i v).countP p ≤ l.countP p := by
  induction l generalizing i with
  | nil => simp
  | cons a l ih =>
    cases i with
    | zero => simp [List.countP_cons, hv]
    | succ i => simp only [List.set_cons_succ, List.countP_cons]; have := ih i; omega

theorem countP_set_eq (p : Slot → Bool) (l : List Slot) (i : Nat) (v x : Slot)
    (hx : l[i]? = some x) (hp : p x = false) :
    (l.set i v).countP p = l.countP p + (if p v then 1 else 0) := by
  obtain ⟨h, rfl⟩ := List.getElem?_eq_some_iff.1 hx
  rw [List.countP_set h, hp]
  rfl

theorem countP_setSlots (p : Slot → Bool) (v : Slot) :
    ∀ (os : List Nat) (s : List Slot), os.Nodup → (∀ o ∈ os, ∃ x, s[o]? = some x ∧ p x = false) →
      (setSlots v os s).countP p = s.countP p + (if p v then os.length else 0)
  | [], s, _, _ => by simp [setSlots]
  | o :: os, s, hn, hs => by
    have hn' := List.nodup_cons.1 hn
    obtain ⟨x, hx, hpx⟩ := hs o (List.mem_cons_self ..)
    have e : setSlots v (o :: os) s = setSlots v os (s.set o v) := rfl
    rw [e, countP_setSlots p v os _ hn'.2, countP_set_eq p s o v x hx hpx, List.length_cons]
    · split <;> omega
    · intro o' ho'
      have hne : o ≠ o' := fun e => hn'.1 (e ▸ ho')
      rw [List.getElem?_set_ne hne]
      exact hs o' (List.mem_cons_of_mem _ ho')

theorem liveCount_gc_eq {F : List Nat} {b b' : Blk} (h : Nat) (hg : gc F b = some b') :
    liveCount h b'.slots = liveCount h b.slots := by
  obtain ⟨⟨ha, hc⟩, rfl⟩ := gc_eq_some.1 hg
  exact (countP_setSlots _ _ F _ (ascending_nodup F ha) (fun o ho => ⟨_, hc o ho, rfl⟩)).trans (by simp [liveCount])

theorem liveCount_relAux (R : List Nat) (h : Nat) (i : Nat) (ss : List Slot) :
    liveCount h (relAux R i ss) + relCnt R h i ss = liveCount h ss := by
  induction ss generalizing i with
  | nil => simp [relAux, relCnt, liveCount]
  | cons s ss ih =>
    have ih' := ih (i + 1)
    unfold liveCount at ih' ⊢
    simp only [relAux, relCnt, List.countP_cons]
    generalize R.contains i = c
    cases c <;> cases s <;> simp [Slot.isLive] <;> (try split) <;> omega

theorem liveCount_relhAux (h h' : Nat) (ss : List Slot) :
    liveCount h' (relhAux h ss) = if h' = h then 0 else liveCount h' ss := by
  unfold liveCount relhAux
  rw [List.countP_map]
  by_cases e : h' = h
  · -- every slot live for `h` is overwritten
    subst e
    rw [if_pos rfl]
    refine List.countP_eq_zero.2 fun s _ => ?_
    by_cases hs : s = Slot.live h' <;> simp [hs]
  · -- slots live for another handle are left alone
    rw [if_neg e]
    refine List.countP_congr fun s _ => ?_
    by_cases hs : s = Slot.live h
    · simp [hs, Ne.symm e]
    · simp [hs]

theorem liveCount_eq_zero {ss : List Slot} (he : ss.all (· == Slot.free) = true) (h : Nat) : liveCount h ss = 0 := by
  simp only [List.all_eq_true, beq_iff_eq] at he
  exact List.countP_eq_zero.2 (fun a ha => by rw [he a ha]; simp)

theorem liveCount_pos {h : Nat} {ss : List Slot} {o : Nat} (hl : ss[o]? = some (Slot.live h)) : 1 ≤ liveCount h ss :=
  List.countP_pos_iff.2 ⟨_, List.mem_of_getElem? hl, by simp⟩

/-- debit total created for handle `h` -/
def sumFor (h : Nat) : List (Nat × Nat) → Nat
  | [] => 0
  | d :: ds => (if d.1 = h then d.2 else 0) + sumFor h ds

/-- credit required for handle `h` -/
def needFor (h : Nat) : Option (Nat × Nat) → Nat
  | some (h', k) => if h' = h then k else 0
  | none => 0

theorem needFor_alloc (h h' k : Nat) (hh : h ≠ 0) :
    needFor h (if h' = 0 then none else some (h', k)) = if h' = h then k else 0 := by
  by_cases e0 : h' = 0
  · subst e0; simp [needFor, Ne.symm hh]
  · simp [needFor, e0]

theorem liveHandles_nodup : ∀ ss : List Slot, (liveHandles ss).Nodup
  | [] => by simp [liveHandles]
  | .free :: ss => by simpa [liveHandles] using liveHandles_nodup ss
  | .cool :: ss => by simpa [liveHandles] using liveHandles_nodup ss
  | .live h :: ss => by
    simp only [liveHandles]
    split
    · rename_i hc
      simp only [Bool.and_eq_true, Bool.not_eq_true', List.contains_eq_mem, decide_eq_false_iff_not] at hc
      exact List.nodup_cons.2 ⟨hc.2, liveHandles_nodup ss⟩
    · exact liveHandles_nodup ss

theorem mem_liveHandles_of_relCnt (R : List Nat) (h : Nat) (hh : h ≠ 0) :
    ∀ (i : Nat) (ss : List Slot), relCnt R h i ss ≠ 0 → h ∈ liveHandles ss
  | _, [], hc => by simp [relCnt] at hc
  | i, s :: ss, hc => by
    simp only [relCnt] at hc
    cases s with
    | free => simp at hc; simpa [liveHandles] using mem_liveHandles_of_relCnt R h hh (i+1) ss hc
    | cool => simp at hc; simpa [liveHandles] using mem_liveHandles_of_relCnt R h hh (i+1) ss hc
    | live h' =>
      simp only [liveHandles]
      by_cases e : h' = h
      · subst e
        split
        · simp
        · rename_i hn
          simp only [Bool.and_eq_true, Bool.not_eq_true', List.contains_eq_mem, decide_eq_false_iff_not, not_and, Classical.not_not, bne_iff_ne, ne_eq] at hn
          exact hn hh
      · have hc' : relCnt R h (i+1) ss ≠ 0 := by
          intro h0; apply hc; simp [h0, e]
        have := mem_liveHandles_of_relCnt R h hh (i+1) ss hc'
        split
        · exact List.mem_cons_of_mem _ this
        · exact this

theorem sumFor_map_nodup_eq (h : Nat) (f : Nat → Nat) :
    ∀ hs : List Nat, hs.Nodup →
      sumFor h ((hs.map (fun x => (x, f x))).filter (fun p => p.2 != 0)) = (if h ∈ hs then f h else 0)
  | [], _ => by simp [sumFor]
  | x :: hs, hn => by
    have hn' := List.nodup_cons.1 hn
    have ih := sumFor_map_nodup_eq h f hs hn'.2
    simp only [List.map_cons, List.filter_cons]
    by_cases hx : x = h
    · subst hx
      have : x ∉ hs := hn'.1
      simp only [this, if_false] at ih
      by_cases hz : f x = 0
      · simp [hz, ih]
      · simp [hz, sumFor, ih]
    · have hne : ¬ h = x := fun e => hx e.symm
      split
      · simp [sumFor, hx, hne, ih]
      · simp [hne, ih]

theorem applyBOp_count_eq {op : BOp} {b : Blk} {r : BRes} (hw : WF b) (h : Nat) (hh : h ≠ 0)
    (ha : applyBOp op b = some r) :
    liveCount h r.v.slots + sumFor h r.debits = liveCount h b.slots + needFor h r.need := by
  cases op with
  | assign h' k rv =>
    obtain ⟨⟨_, hk⟩, rfl⟩ := applyBOp_assign.1 ha
    obtain ⟨hnd, hfree⟩ := autoAssign_picks k h' rv hw
    have := countP_setSlots (· == Slot.live h) (Slot.live h') _ b.slots hnd (fun o ho => ⟨_, hfree o ho, rfl⟩)
    simp only [autoAssign] at hk this
    simp only [needFor_alloc h h' k hh, sumFor, liveCount, autoAssign, this, hk, beq_iff_eq, Slot.live.injEq]
    omega
  | assignIP h' o =>
    obtain ⟨hf, rfl⟩ := applyBOp_assignIP.1 ha
    simp only [needFor_alloc h h' 1 hh, sumFor, liveCount, countP_set_eq (· == Slot.live h) _ _ _ Slot.free hf rfl,
      beq_iff_eq, Slot.live.injEq]
    omega
  | release h' ords =>
    obtain ⟨_, rfl⟩ := applyBOp_release.1 ha
    have h1 := liveCount_relAux ords h 0 b.slots
    simp only [needFor, Nat.add_zero,
      sumFor_map_nodup_eq h (fun x => relCnt ords x 0 b.slots) _ (liveHandles_nodup b.slots)]
    split
    · omega
    · rename_i hm
      -- a handle that is not live in the block has nothing released
      have : relCnt ords h 0 b.slots = 0 :=
        Decidable.byContradiction fun hz => hm (mem_liveHandles_of_relCnt ords h hh 0 b.slots hz)
      omega
  | relh h' =>
    obtain ⟨_, rfl⟩ := applyBOp_relh.1 ha
    simp only [sumFor, needFor, liveCount_relhAux]
    by_cases e : h = h'
    · subst e; simp
    · simp [e, Ne.symm e]
  | clearAff => obtain rfl := applyBOp_clearAff.1 ha; rfl
  | bump => obtain rfl := applyBOp_bump.1 ha; rfl

theorem rmw_count_eq {g1 g2 : List Nat} {op : BOp} {v : Blk} {res : BRes} (hw : WF v) (h : Nat) (hh : h ≠ 0)
    (hr : rmw g1 op g2 v = some res) :
    liveCount h res.v.slots + sumFor h res.debits = liveCount h v.slots + needFor h res.need := by
  obtain ⟨b1, r1, b2, h1, h2, h3, rfl⟩ := rmw_eq_some.1 hr
  have a2 := applyBOp_count_eq (wf_gc hw h1) h hh h2
  rw [liveCount_gc_eq h h1] at a2
  rw [liveCount_gc_eq h h3]
  exact a2

theorem credTot_erase (h b : Nat) (c : Cred) : ∀ cs : List Cred, c ∈ cs →
    credTot h b (cs.erase c) + (if c.h = h ∧ c.b = b then c.n else 0) = credTot h b cs
  | [], hm => by cases hm
  | x :: cs, hm => by
    by_cases e : x = c
    · subst e; simp [credTot]; omega
    · have hm' : c ∈ cs := (List.mem_cons.1 hm).resolve_left (Ne.symm e)
      have ih := credTot_erase h b c cs hm'
      rw [List.erase_cons_tail (by simpa using e)]
      simp only [credTot]; omega

theorem credTot_addDebits (h b' t b : Nat) (ds : List (Nat × Nat)) (cs : List Cred) :
    credTot h b' (addDebits t b ds cs) = (if b' = b then sumFor h ds else 0) + credTot h b' cs := by
  induction ds with
  | nil => simp [addDebits, sumFor]
  | cons d ds ih =>
    simp only [addDebits, List.map_cons, List.cons_append, credTot, sumFor] at ih ⊢
    rw [ih]
    by_cases e : b' = b
    · subst e; simp; split <;> omega
    · simp [e, Ne.symm e]

theorem spend_count_eq {t b : Nat} {need : Option (Nat × Nat)} {cs cs' : List Cred} (h b' : Nat)
    (hs : spend t b need cs = some cs') :
    credTot h b' cs' + (if b' = b then needFor h need else 0) = credTot h b' cs := by
  unfold spend at hs
  split at hs
  · cases hs; simp [needFor]
  · rename_i h' k
    split at hs
    · rename_i c hc
      cases hs
      have hp := List.find?_some hc
      simp only [Bool.and_eq_true, beq_iff_eq] at hp
      obtain ⟨⟨⟨_, hch⟩, hcb⟩, hcn⟩ := hp
      -- the token found is one for `(h', b)` with count `k`; erasing it lowers exactly that total
      have hcred := credTot_erase h b' c cs (List.mem_of_find?_eq_some hc)
      rw [hch, hcb, hcn] at hcred
      rw [← hcred]
      simp only [needFor]
      congr 1
      by_cases e : b' = b
      · subst e; by_cases e2 : h' = h <;> simp [e2]
      · simp [e, Ne.symm e]
    · cases hs

theorem cnt_set (m : List Nat) (b b' x : Nat) (hb : b < m.length) :
    cnt (m.set b x) b' = if b' = b then x else cnt m b' := by
  unfold cnt
  simp only [List.getElem?_set]
  by_cases e : b' = b
  · subst e; simp [hb]
  · simp [e, Ne.symm e]

theorem cnt_replicate (n b : Nat) : cnt (List.replicate n 0) b = 0 := by
  unfold cnt; simp [List.getElem?_replicate]; split <;> simp

theorem cnt_zero_of_zeroMap {m : List Nat} (hz : zeroMap m = true) (b : Nat) : cnt m b = 0 := by
  unfold zeroMap at hz
  unfold cnt
  simp only [List.all_eq_true, beq_iff_eq] at hz
  cases hb : m[b]? with
  | none => rfl
  | some x => simp; exact hz x (List.mem_of_getElem? hb)

def liveAt (s : St) (b h : Nat) : Nat :=
  match s.blk b with
  | some (_, v) => liveCount h v.slots
  | none => 0

theorem liveAt_of_blk {s s1 : St} {b : Nat} (h : s1.blk b = s.blk b) (h' : Nat) : liveAt s1 b h' = liveAt s b h' := by
  simp only [liveAt, h]

theorem liveAt_some {s : St} {b r : Nat} {v : Blk} (hb : s.blk b = some (r, v)) (h : Nat) :
    liveAt s b h = liveCount h v.slots := by
  simp only [liveAt, hb]

theorem liveAt_none {s : St} {b : Nat} (hb : s.blk b = none) (h : Nat) : liveAt s b h = 0 := by
  simp only [liveAt, hb]

/-- `credTot` counts the outstanding tokens: increments whose block write has not happened (yet, or ever: a
crash) and releases whose decrement has not happened. -/
def HEq (s : St) : Prop := ∀ h b, h ≠ 0 → hcount s h b = liveAt s b h + credTot h b s.creds

theorem heq_write {s s' : St} {c : Call} (hwf : AllWF s) (hi : HEq s) (hw : Write s c s') : HEq s' := by
  intro h b' hh
  have h0 := hi h b' hh
  cases hw with
  -- block writes: the balance of the block function and the credit spent
  | @blkCreate b a n _ _ _ habs =>
    have hz : liveCount h (newBlk a n).slots = 0 := liveCount_eq_zero (by simp [newBlk]) h
    simp only [liveAt, hcount, upd_apply] at h0 ⊢
    by_cases e : b' = b
    · subst e; simp only [habs] at h0; simp only [eq_self, if_true, hz]; exact h0
    · simp only [e, if_false]; exact h0
  | @blkRmw b r g1 g2 op v res cs _ _ _ hb hr hs =>
    have hbal := rmw_count_eq (hwf _ _ _ hb) h hh hr
    have hspend := spend_count_eq h b' hs
    simp only [liveAt, hcount, upd_apply, credTot_addDebits] at h0 ⊢
    by_cases e : b' = b
    · subst e; simp only [hb] at h0; simp only [eq_self, if_true] at hspend ⊢; omega
    · simp only [e, if_false] at hspend ⊢; omega
  | @blkDel b r g1 g2 v v1 _ _ _ hb hg he _ =>
    have hz : liveCount h v.slots = 0 := by
      rw [← liveCount_gc_eq h hg]; exact liveCount_eq_zero he h
    simp only [liveAt, hcount, upd_apply] at h0 ⊢
    by_cases e : b' = b
    · subst e; simp only [hb] at h0; simp only [eq_self, if_true]; omega
    · simp only [e, if_false]; exact h0
  | @blkDelOp b r g1 g2 op v res _ _ _ hb hr he _ hn =>
    have hbal := rmw_count_eq (hwf _ _ _ hb) h hh hr
    have hz := liveCount_eq_zero he h
    rw [hn] at hbal
    simp only [liveAt, hcount, upd_apply, credTot_addDebits, needFor] at h0 hbal ⊢
    by_cases e : b' = b
    · subst e; simp only [hb] at h0; simp only [eq_self, if_true]; omega
    · simp only [e, if_false]; omega
  -- handle writes: `cnt_set` on the new count against the token added or erased
  | @hCreate h1 b n _ _ _ habs _ hb =>
    have hlen : b < (List.replicate s.nb 0).length := by simpa using hb
    simp only [liveAt, hcount, upd_apply, credTot] at h0 ⊢
    by_cases e : h = h1
    · subst e
      simp only [habs] at h0
      simp only [eq_self, if_true, true_and, cnt_set _ _ _ _ hlen, cnt_replicate]
      by_cases e2 : b' = b
      · subst e2; simp only [eq_self, if_true]; omega
      · simp only [e2, Ne.symm e2, if_false]; omega
    · simp only [e, Ne.symm e, false_and, if_false, Nat.zero_add]; exact h0
  | @hInc h1 b n r m _ _ _ hm _ hb =>
    simp only [liveAt, hcount, upd_apply, credTot] at h0 ⊢
    by_cases e : h = h1
    · subst e
      simp only [hm] at h0
      simp only [eq_self, if_true, true_and, cnt_set _ _ _ _ hb]
      by_cases e2 : b' = b
      · subst e2; simp only [eq_self, if_true]; omega
      · simp only [e2, Ne.symm e2, if_false]; omega
    · simp only [e, Ne.symm e, false_and, if_false, Nat.zero_add]; exact h0
  | @hDec h1 b n r m _ _ _ hm hn hb hc _ =>
    have hcred := credTot_erase h b' { t := c.t, h := h1, b := b, n := n } s.creds hc
    simp only [liveAt, hcount, upd_apply] at h0 hcred ⊢
    by_cases e : h = h1
    · subst e
      simp only [hm] at h0
      simp only [eq_self, if_true, true_and, cnt_set _ _ _ _ hb] at hcred ⊢
      by_cases e2 : b' = b
      · subst e2; simp only [eq_self, if_true] at hcred ⊢; omega
      · simp only [e2, Ne.symm e2, if_false] at hcred ⊢; omega
    · simp only [e, Ne.symm e, false_and, if_false] at hcred ⊢; omega
  | @hDel h1 b n r m _ _ _ hm hn hb hc hz =>
    have hcred := credTot_erase h b' { t := c.t, h := h1, b := b, n := n } s.creds hc
    have hzero := cnt_zero_of_zeroMap hz b'
    rw [cnt_set _ _ _ _ hb] at hzero
    simp only [liveAt, hcount, upd_apply] at h0 hcred ⊢
    by_cases e : h = h1
    · subst e
      simp only [hm] at h0
      simp only [eq_self, if_true, true_and] at hcred ⊢
      by_cases e2 : b' = b
      · subst e2; simp only [eq_self, if_true] at hcred hzero; omega
      · simp only [e2, Ne.symm e2, if_false] at hcred hzero; omega
    · simp only [e, Ne.symm e, false_and, if_false] at hcred ⊢; omega
  | aff => exact h0

def Inv (s : St) : Prop := AllWF s ∧ HEq s

theorem inv_init (r nb : Nat) : Inv (St.init r nb) :=
  ⟨allWF_init r nb, fun h b _ => by simp [liveAt, hcount, St.init, credTot]⟩

theorem inv_step {s s' : St} {e : Ev} (hi : Inv s) (h : step s e = some s') : Inv s' := by
  refine ⟨allWF_step hi.1 h, ?_⟩
  rcases step_cases h with rfl | ⟨t, _, rfl⟩ | ⟨c, _, ap⟩
  · exact hi.2
  · exact hi.2
  · exact heq_write hi.1 hi.2 ap.write

theorem inv_run {s s' : St} {evs : List Ev} (hi : Inv s) (h : run s evs = some s') : Inv s' :=
  run_invariant inv_step hi h

end CalicoVerif.C19
