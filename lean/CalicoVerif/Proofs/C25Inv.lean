import CalicoVerif.Proofs.C25
/-!
C25 — the inductive invariant of the DedupeBuffer system, its preservation by every op, and hence its validity
after every run.
-/
namespace CalicoVerif.C25

theorem retype_key (l : List Key) (u : Upd) : (retype l u).key = u.key := by
  unfold retype; split <;> rfl
theorem retype_val (l : List Key) (u : Upd) : (retype l u).val = u.val := by
  unfold retype; split <;> rfl
theorem retype_rev (l : List Key) (u : Upd) : (retype l u).rev = u.rev := by
  unfold retype; split <;> rfl
theorem retype_entry (l : List Key) (u : Upd) : (retype l u).entry = u.entry := by
  simp [Upd.entry, retype_val, retype_rev]
theorem retype_ut (l : List Key) (u : Upd) (h : u.val.isSome = true) :
    (retype l u).ut = if u.key ∈ l then utUpdated else utNew := by
  unfold retype
  split
  · simp
  · rename_i hn; simp [hn] at h

theorem queueUpdate_cases (b : Buf) (u : Upd) :
    (isPending b.pending u.key = true ∧ u.val = none ∧ u.key ∉ b.live ∧
      queueUpdate b u = { b with pending := removeKey b.pending u.key }) ∨
    (isPending b.pending u.key = true ∧ ¬(u.val = none ∧ u.key ∉ b.live) ∧
      queueUpdate b u = { b with pending := replaceKey b.pending (retype b.live u) }) ∨
    (isPending b.pending u.key = false ∧
      queueUpdate b u = { b with pending := b.pending ++ [Item.up (retype b.live u)] }) := by
  unfold queueUpdate
  simp only [retype_key, retype_val]
  by_cases hp : isPending b.pending u.key = true
  · by_cases hd : u.val = none ∧ u.key ∉ b.live
    · exact Or.inl ⟨hp, hd.1, hd.2, by simp [hp, hd.1, hd.2]⟩
    · refine Or.inr (Or.inl ⟨hp, hd, ?_⟩)
      have : (u.val.isNone && !b.live.contains u.key) = false := by
        cases hv : u.val with
        | some v => rfl
        | none => simpa [hv] using hd
      rw [if_pos hp, this]
      rfl
  · have hp' : isPending b.pending u.key = false := Bool.not_eq_true _ ▸ hp
    exact Or.inr (Or.inr ⟨hp', by simp [hp']⟩)

theorem queueUpdate_live (b : Buf) (u : Upd) : (queueUpdate b u).live = b.live := by
  rcases queueUpdate_cases b u with ⟨_, _, _, h⟩ | ⟨_, _, h⟩ | ⟨_, h⟩ <;> rw [h]
theorem queueUpdate_notSeen (b : Buf) (u : Upd) : (queueUpdate b u).notSeen = b.notSeen := by
  rcases queueUpdate_cases b u with ⟨_, _, _, h⟩ | ⟨_, _, h⟩ | ⟨_, h⟩ <;> rw [h]
theorem queueUpdate_mostRecent (b : Buf) (u : Upd) : (queueUpdate b u).mostRecent = b.mostRecent := by
  rcases queueUpdate_cases b u with ⟨_, _, _, h⟩ | ⟨_, _, h⟩ | ⟨_, h⟩ <;> rw [h]

theorem effU_queueUpdate (b : Buf) (u : Upd) (k : Key) (a : Option V)
    (hl : k = u.key → (u.key ∈ b.live ↔ a.isSome = true)) :
    effU k a (ups (queueUpdate b u).pending) =
      if k = u.key then u.entry else effU k a (ups b.pending) := by
  rcases queueUpdate_cases b u with ⟨hp, hv, hnl, h⟩ | ⟨hp, _, h⟩ | ⟨hp, h⟩ <;> rw [h]
  · simp only [ups_removeKey, effU_filter]
    by_cases hk : k = u.key
    · have : ¬ a.isSome = true := fun h => hnl ((hl hk).mpr h)
      have ha : a = none := by simpa using this
      simp [hk, ha, Upd.entry, hv]
    · simp [hk]
  · rw [ups_replaceKey, effU_replace]
    simp only [retype_key, retype_entry]
    have : ∃ x ∈ ups b.pending, x.key = u.key := (isPending_iff _ _).mp hp
    simp [this]
  · simp only [ups_append, effU_append]
    simp only [ups, List.filterMap_cons, List.filterMap_nil, effU, List.foldl_cons, List.foldl_nil,
      retype_key, retype_entry]
    by_cases hk : k = u.key
    · simp [hk]
    · have : ¬ u.key = k := fun e => hk e.symm
      simp [hk, this]

theorem mem_ups_queueUpdate (b : Buf) (u x : Upd) (hx : x ∈ ups (queueUpdate b u).pending) :
    (x ∈ ups b.pending ∧ x.key ≠ u.key) ∨
      (x = retype b.live u ∧ ¬(u.val = none ∧ u.key ∉ b.live ∧ isPending b.pending u.key = true)) := by
  rcases queueUpdate_cases b u with ⟨_, _, _, h⟩ | ⟨hp, hd, h⟩ | ⟨hp, h⟩ <;> rw [h] at hx
  · simp only [ups_removeKey, List.mem_filter] at hx
    left; exact ⟨hx.1, by simpa using hx.2⟩
  · simp only [ups_replaceKey, List.mem_map] at hx
    obtain ⟨y, hy, e⟩ := hx
    rw [retype_key] at e
    by_cases hyk : y.key = u.key
    · simp only [hyk, if_true] at e
      right; exact ⟨e.symm, fun h => hd ⟨h.1, h.2.1⟩⟩
    · simp only [hyk, if_false] at e
      subst e
      left; exact ⟨hy, hyk⟩
  · simp only [ups_append, List.mem_append] at hx
    rcases hx with hx | hx
    · left
      exact ⟨hx, (isPending_false_iff _ _).mp hp x hx⟩
    · simp only [ups, List.filterMap_cons, List.filterMap_nil, List.mem_singleton] at hx
      right; exact ⟨hx, fun h => by simp [hp] at h⟩

theorem nodup_queueUpdate (b : Buf) (u : Upd) (h : ((ups b.pending).map (·.key)).Nodup) :
    ((ups (queueUpdate b u).pending).map (·.key)).Nodup := by
  rcases queueUpdate_cases b u with ⟨_, _, _, e⟩ | ⟨_, _, e⟩ | ⟨hp, e⟩ <;> rw [e]
  · simp only [ups_removeKey]
    exact List.Nodup.sublist (List.Sublist.map _ List.filter_sublist) h
  · simp only [ups_replaceKey, List.map_map]
    have : ((fun x : Upd => x.key) ∘ fun x => if x.key = (retype b.live u).key then retype b.live u else x)
        = fun x : Upd => x.key := by
      funext x
      simp only [Function.comp]
      split
      · rename_i hx; exact hx.symm
      · rfl
    rw [this]; exact h
  · simp only [ups_append, List.map_append]
    simp only [ups, List.filterMap_cons, List.filterMap_nil, List.map_cons, List.map_nil, retype_key]
    rw [List.nodup_append]
    refine ⟨h, by simp, ?_⟩
    intro a ha c hc
    simp only [List.mem_singleton] at hc
    subst hc
    obtain ⟨x, hx, e⟩ := List.mem_map.mp ha
    exact fun hac => (isPending_false_iff _ _).mp hp x hx (by rw [e, hac])

structure Inv (s : Sys) : Prop where
  /-- liveResourceKeys is exactly the key set downstream holds -/
  live_iff : ∀ k, k ∈ s.buf.live ↔ (s.down k).isSome = true
  /-- outside the not-yet-seen set, downstream-after-the-queue-drains equals the connection's view -/
  eff : ∀ k, (∀ n, s.buf.notSeen = some n → k ∉ n) →
    effU k (s.down k) (ups s.buf.pending) = s.view k
  /-- the resync argument: a key the new connection has not yet mentioned has nothing queued, is held downstream
  (so the InSync sweep may delete it) and is absent from the connection's view (so deleting it is right) -/
  ns : ∀ n, s.buf.notSeen = some n → ∀ k ∈ n,
    (∀ x ∈ ups s.buf.pending, x.key ≠ k) ∧ k ∈ s.buf.live ∧ s.view k = none
  /-- once the latest connection reported InSync the resync tracking is finished -/
  insync : s.insync = true → s.buf.notSeen = none
  nodup : ((ups s.buf.pending).map (·.key)).Nodup
  typed : ∀ x ∈ ups s.buf.pending, x.val.isSome = true →
    x.ut = if x.key ∈ s.buf.live then utUpdated else utNew
  dels : s.wf = true → ∀ x ∈ ups s.buf.pending, x.val = none → x.key ∈ s.buf.live
  logT : ∀ e ∈ s.log, e.1.val.isSome = true → e.1.ut = if e.2 = true then utUpdated else utNew
  logD : s.wf = true → ∀ e ∈ s.log, e.1.val = none → e.2 = true

theorem Inv.init : Inv Sys.init := by
  refine ⟨?_, ?_, ?_, ?_, ?_, ?_, ?_, ?_, ?_⟩ <;> simp [Sys.init, Buf.new, ups, effU]

theorem Inv.down_eq_view {s : Sys} (h : Inv s) (k : Key)
    (hn : ∀ n, s.buf.notSeen = some n → k ∉ n) (hq : ∀ x ∈ ups s.buf.pending, x.key ≠ k) :
    s.down k = s.view k := by
  rw [← h.eff k hn, effU_not_mem _ _ _ hq]

theorem Inv.upd1 {s : Sys} (h : Inv s) (u : Upd) : Inv (s.upd1 u) := by
  let b1 : Buf := { s.buf with notSeen := s.buf.notSeen.map (fun n => setDiscard n u.key) }
  have hbuf : (s.upd1 u).buf = queueUpdate b1 u := rfl
  have hlive : (s.upd1 u).buf.live = s.buf.live := by rw [hbuf, queueUpdate_live]
  have hns : (s.upd1 u).buf.notSeen = s.buf.notSeen.map (fun n => setDiscard n u.key) := by
    rw [hbuf, queueUpdate_notSeen]
  have hdown : (s.upd1 u).down = s.down := rfl
  have hview : (s.upd1 u).view = applyUpd s.view u := rfl
  have hlog : (s.upd1 u).log = s.log := rfl
  have hwf : (s.upd1 u).wf = true → s.wf = true ∧ (u.val.isSome = true ∨ (s.view u.key).isSome = true) := by
    intro hw
    simp only [Sys.upd1, Bool.and_eq_true, Bool.or_eq_true] at hw
    exact hw
  have hb1p : b1.pending = s.buf.pending := rfl
  have hb1l : b1.live = s.buf.live := rfl
  refine ⟨?_, ?_, ?_, ?_, ?_, ?_, ?_, ?_, ?_⟩
  · intro k; rw [hlive, hdown]; exact h.live_iff k
  · intro k hk
    rw [hbuf, hdown, hview, effU_queueUpdate b1 u k (s.down k) (fun e => by rw [hb1l, e]; exact h.live_iff _)]
    by_cases e : k = u.key
    · subst e; simp [applyUpd]
    · have e' : ¬ u.key = k := fun x => e x.symm
      simp only [e, if_false, applyUpd, e', hb1p]
      apply h.eff k
      intro n hn hkn
      apply hk (setDiscard n u.key) (by rw [hns, hn]; rfl)
      exact (mem_setDiscard _ _ _).mpr ⟨hkn, e⟩
  · intro n' hn' k hk
    rw [hns] at hn'
    cases hn : s.buf.notSeen with
    | none => simp [hn] at hn'
    | some n =>
      simp only [hn, Option.map_some, Option.some.injEq] at hn'
      subst hn'
      obtain ⟨hkn, hku⟩ := (mem_setDiscard _ _ _).mp hk
      obtain ⟨h1, h2, h3⟩ := h.ns n hn k hkn
      refine ⟨?_, by rw [hlive]; exact h2, ?_⟩
      · intro x hx e
        rcases mem_ups_queueUpdate b1 u x hx with ⟨hx', _⟩ | ⟨ex, _⟩
        · exact h1 x hx' e
        · exact hku (by rw [← e, ex, retype_key])
      · have : ¬ u.key = k := fun x => hku x.symm
        simp [hview, applyUpd, this, h3]
  · intro hi
    rw [hns, h.insync hi]; rfl
  · rw [hbuf]; exact nodup_queueUpdate b1 u h.nodup
  · intro x hx hv
    rw [hbuf] at hx
    rw [hlive]
    rcases mem_ups_queueUpdate b1 u x hx with ⟨hx', _⟩ | ⟨e, _⟩
    · exact h.typed x hx' hv
    · subst e
      rw [retype_val] at hv
      rw [retype_ut _ _ hv, retype_key]
  · intro hw x hx hv
    obtain ⟨hw1, hw2⟩ := hwf hw
    rw [hbuf] at hx
    rw [hlive]
    rcases mem_ups_queueUpdate b1 u x hx with ⟨hx', _⟩ | ⟨e, hne⟩
    · exact h.dels hw1 x hx' hv
    · subst e
      rw [retype_val] at hv
      rw [retype_key]
      have hvw : (s.view u.key).isSome = true := by
        rcases hw2 with h' | h'
        · simp [hv] at h'
        · exact h'
      -- either the key is queued (then the deletion stays only if the key is live) or it is not
      -- (then downstream already agrees with the view, which holds the key)
      by_cases hp : isPending s.buf.pending u.key = true
      · by_cases hl : u.key ∈ s.buf.live
        · exact hl
        · exact absurd ⟨hv, hl, hp⟩ hne
      · have hp' : ∀ x ∈ ups s.buf.pending, x.key ≠ u.key :=
          (isPending_false_iff _ _).mp (by simpa using hp)
        have hnn : ∀ n, s.buf.notSeen = some n → u.key ∉ n := by
          intro n hn hk
          have := (h.ns n hn _ hk).2.2
          simp [this] at hvw
        have := h.down_eq_view u.key hnn hp'
        exact (h.live_iff _).mpr (by rw [this]; exact hvw)
  · intro e he; rw [hlog] at he; exact h.logT e he
  · intro hw e he; rw [hlog] at he; exact h.logD (hwf hw).1 e he

theorem Inv.upds {s : Sys} (h : Inv s) (us : List Upd) : Inv (us.foldl Sys.upd1 s) :=
  List.foldlRecOn us Sys.upd1 h fun _ hb u _ => hb.upd1 u

theorem Inv.restart {s : Sys} (h : Inv s) : Inv (s.step .restart) := by
  refine ⟨h.live_iff, fun k hk => ?_, fun n hn k hk => ?_, (fun hi => by cases hi), List.nodup_nil,
    (fun x hx => by cases hx), (fun _ x hx => by cases hx), h.logT, h.logD⟩
  · -- the queue is emptied, and a key outside the new not-seen set (the live keys) is not held downstream
    show s.down k = none
    exact Option.not_isSome_iff_eq_none.mp fun e => hk s.buf.live rfl ((h.live_iff k).mpr e)
  · cases hn
    exact ⟨(fun x hx => by cases hx), hk, rfl⟩

theorem ups_dropLast_st (p : List Item) (x s : Nat) (h : p.getLast? = some (Item.st x)) :
    ups (p.dropLast ++ [Item.st s]) = ups p := by
  have hne : p ≠ [] := by intro c; simp [c] at h
  have h2 := List.dropLast_concat_getLast hne
  have h3 : p.getLast hne = Item.st x := by
    have := List.getLast?_eq_some_getLast hne
    rw [this] at h
    exact Option.some.inj h
  rw [h3] at h2
  conv => rhs; rw [← h2]
  simp [ups]

theorem pushStatus_ups (b : Buf) (s : Nat) : ups (pushStatus b s).pending = ups b.pending := by
  unfold pushStatus
  split
  · rfl
  · simp only
    split
    · rename_i x hx
      exact ups_dropLast_st _ _ _ hx
    · simp [ups]

theorem pushStatus_live (b : Buf) (s : Nat) : (pushStatus b s).live = b.live := by
  unfold pushStatus; split
  · rfl
  · simp only; split <;> rfl

theorem pushStatus_notSeen (b : Buf) (s : Nat) : (pushStatus b s).notSeen = b.notSeen := by
  unfold pushStatus; split
  · rfl
  · simp only; split <;> rfl

/-- The synthesised-deletion loop of `onInSyncAfterReconnection`. -/
def synthLoop (b : Buf) (keys : List Key) : Buf := keys.foldl (fun b k => queueUpdate b (synthDel k)) b

theorem synthLoop_live (b : Buf) (keys : List Key) : (synthLoop b keys).live = b.live :=
  List.foldlRecOn keys _ (motive := fun b' : Buf => b'.live = b.live) rfl fun _ hb _ _ => (queueUpdate_live _ _).trans hb

theorem synthLoop_eff (b : Buf) (keys : List Key) (k : Key) (a : Option V)
    (hl : k ∈ keys → (k ∈ b.live ↔ a.isSome = true)) :
    effU k a (ups (synthLoop b keys).pending) = if k ∈ keys then none else effU k a (ups b.pending) := by
  induction keys generalizing b with
  | nil => simp [synthLoop]
  | cons x ks ih =>
    simp only [synthLoop, List.foldl_cons] at ih ⊢
    by_cases hk : k ∈ ks
    · rw [ih _ (fun _ => by rw [queueUpdate_live]; exact hl (List.mem_cons_of_mem _ hk))]
      simp [hk]
    · rw [ih _ (fun m => absurd m hk)]
      simp only [hk, if_false]
      rw [effU_queueUpdate b (synthDel x) k a
        (fun e => by
          have : (synthDel x).key = x := rfl
          rw [this] at e ⊢
          subst e
          exact hl (List.mem_cons_self ..))]
      have hx : (synthDel x).key = x := rfl
      by_cases e : k = x
      · simp [e, Upd.entry, synthDel]
      · simp [e, hx, hk]

theorem synthLoop_nodup (b : Buf) (keys : List Key) (h : ((ups b.pending).map (·.key)).Nodup) :
    ((ups (synthLoop b keys).pending).map (·.key)).Nodup :=
  List.foldlRecOn keys _ (motive := fun b' : Buf => ((ups b'.pending).map (·.key)).Nodup) h
    fun b' hb _ _ => nodup_queueUpdate b' _ hb

theorem synthLoop_mem (b : Buf) (keys : List Key) (x : Upd) (hx : x ∈ ups (synthLoop b keys).pending) :
    x ∈ ups b.pending ∨ ∃ k ∈ keys, x = synthDel k := by
  induction keys generalizing b with
  | nil => exact Or.inl hx
  | cons k ks ih =>
    simp only [synthLoop, List.foldl_cons] at ih hx
    rcases ih _ hx with h1 | ⟨k', hk', e⟩
    · rcases mem_ups_queueUpdate b (synthDel k) x h1 with ⟨h2, _⟩ | ⟨e, _⟩
      · exact Or.inl h2
      · right
        refine ⟨k, List.mem_cons_self .., ?_⟩
        rw [e]; rfl
    · exact Or.inr ⟨k', List.mem_cons_of_mem _ hk', e⟩

def synthKeys (b : Buf) (st : Nat) (order : List Key) : List Key :=
  if st = inSync then
    match b.notSeen with
    | some n => synthOrder n order
    | none => []
  else []

theorem synthOrder_perm (n order : List Key) : (synthOrder n order).Perm n := by
  unfold synthOrder
  split
  · next h => exact List.isPerm_iff.mp h
  · exact List.Perm.refl _

theorem mem_synthKeys (b : Buf) (st : Nat) (order : List Key) (k : Key) :
    k ∈ synthKeys b st order ↔ st = inSync ∧ ∃ n, b.notSeen = some n ∧ k ∈ n := by
  unfold synthKeys
  split
  · next hst =>
    cases hn : b.notSeen with
    | none => simp
    | some n =>
      simp [hst, (synthOrder_perm n order).mem_iff]
  · next hst => simp [hst]

theorem onStatus_eq (b : Buf) (st : Nat) (order : List Key) :
    onStatus b st order = pushStatus
      { synthLoop b (synthKeys b st order) with notSeen := if st = inSync then none else b.notSeen } st := by
  unfold onStatus synthKeys
  congr 1
  by_cases hst : st = inSync
  · simp only [hst, beq_self_eq_true, if_true]
    cases hn : b.notSeen with
    | none => cases b; cases hn; rfl
    | some n => rfl
  · simp only [hst, beq_iff_eq, if_false]
    rfl

theorem Inv.status {s : Sys} (h : Inv s) (st : Nat) (order : List Key) :
    Inv (s.step (.status st order)) := by
  have hbuf : (s.step (.status st order)).buf = onStatus s.buf st order := rfl
  have hlive : (s.step (.status st order)).buf.live = s.buf.live := by
    rw [hbuf, onStatus_eq, pushStatus_live]; exact synthLoop_live _ _
  have hups : ups (s.step (.status st order)).buf.pending =
      ups (synthLoop s.buf (synthKeys s.buf st order)).pending := by
    rw [hbuf, onStatus_eq, pushStatus_ups]
  have hns : (s.step (.status st order)).buf.notSeen = if st = inSync then none else s.buf.notSeen := by
    rw [hbuf, onStatus_eq, pushStatus_notSeen]
  have hmem := mem_synthKeys s.buf st order
  refine ⟨fun k => hlive ▸ h.live_iff k, fun k hk => ?_, fun n hn k hk => ?_, fun hi => ?_, ?_,
    fun x hx hv => ?_, fun hw x hx hv => ?_, h.logT, h.logD⟩
  · show effU k (s.down k) (ups (s.step (.status st order)).buf.pending) = s.view k
    rw [hups, synthLoop_eff _ _ _ _ (fun _ => h.live_iff k)]
    split
    · next hkn =>
      obtain ⟨_, n, hn, hkn⟩ := (hmem k).mp hkn
      exact ((h.ns n hn k hkn).2.2).symm
    · next hkn =>
      refine h.eff k fun n hn hkn' => ?_
      by_cases hst : st = inSync
      · exact hkn ((hmem k).mpr ⟨hst, n, hn, hkn'⟩)
      · exact hk n (by rw [hns, if_neg hst, hn]) hkn'
  · -- a not-seen set survives only a status other than InSync, which synthesises nothing
    have hst : st ≠ inSync := fun e => by rw [hns, if_pos e] at hn; cases hn
    rw [hns, if_neg hst] at hn
    have hk0 : synthKeys s.buf st order = [] := by rw [synthKeys, if_neg hst]
    rw [hups, hlive, hk0]
    exact h.ns n hn k hk
  · rw [hns]
    split
    · rfl
    · next hst =>
      refine h.insync ?_
      rcases Bool.or_eq_true_iff.mp hi with hi | hi
      · exact hi
      · exact absurd (beq_iff_eq.mp hi) hst
  · rw [hups]; exact synthLoop_nodup _ _ h.nodup
  · rw [hups] at hx
    rw [hlive]
    rcases synthLoop_mem _ _ x hx with h1 | ⟨k, _, e⟩
    · exact h.typed x h1 hv
    · subst e; cases hv
  · rw [hups] at hx
    rw [hlive]
    rcases synthLoop_mem _ _ x hx with h1 | ⟨k, hk, e⟩
    · exact h.dels hw x h1 hv
    · obtain ⟨_, n, hn, hkn⟩ := (hmem k).mp hk
      subst e
      exact (h.ns n hn k hkn).2.1

theorem deliver_down (down : View) (log : List (Upd × Bool)) (batch : List Item) (k : Key) :
    (deliver down log batch).1 k = effU k (down k) (ups batch) := by
  induction batch generalizing down log with
  | nil => rfl
  | cons i r ih =>
    cases i with
    | st s => simpa [deliver, ups] using ih down log
    | up u =>
      simp only [deliver, ups, List.filterMap_cons, effU, List.foldl_cons]
      rw [ih]
      simp [applyUpd, effU, ups]

theorem pullLive_mem (k : Key) (batch : List Item) (live : List Key) (a : Option V)
    (h : k ∈ live ↔ a.isSome = true) :
    k ∈ batch.foldl pullLive live ↔ (effU k a (ups batch)).isSome = true := by
  induction batch generalizing live a with
  | nil => simpa [ups, effU] using h
  | cons i r ih =>
    cases i with
    | st s => simpa [pullLive, ups] using ih live a h
    | up u =>
      simp only [List.foldl_cons, ups, List.filterMap_cons, effU]
      apply ih
      cases hv : u.val with
      | none =>
        simp only [pullLive, hv, mem_setDiscard, Upd.entry, Option.map_none]
        by_cases e : u.key = k
        · simp [e]
        · have : k ≠ u.key := fun x => e x.symm
          simp [e, this, h]
      | some v =>
        simp only [pullLive, hv, mem_setAdd, Upd.entry, Option.map_some]
        by_cases e : u.key = k
        · simp [e]
        · have : k ≠ u.key := fun x => e x.symm
          simp [e, this, h]

theorem deliver_log (down : View) (log : List (Upd × Bool)) (batch : List Item)
    (hnd : ((ups batch).map (·.key)).Nodup) :
    ∀ e ∈ (deliver down log batch).2, e ∈ log ∨ (e.1 ∈ ups batch ∧ e.2 = (down e.1.key).isSome) := by
  induction batch generalizing down log with
  | nil => intro e he; exact Or.inl he
  | cons i r ih =>
    cases i with
    | st s =>
      intro e he
      simpa [ups] using ih down log (by simpa [ups] using hnd) e he
    | up u =>
      intro e he
      simp only [ups, List.filterMap_cons, List.map_cons, List.nodup_cons] at hnd
      rcases ih (applyUpd down u) (log ++ [(u, (down u.key).isSome)]) hnd.2 e he with h1 | ⟨h1, h2⟩
      · rcases List.mem_append.mp h1 with h1 | h1
        · exact Or.inl h1
        · simp only [List.mem_singleton] at h1
          subst h1
          right; simp [ups]
      · right
        refine ⟨by simp only [ups, List.filterMap_cons, List.mem_cons]; exact Or.inr h1, ?_⟩
        have : u.key ≠ e.1.key := by
          intro c
          exact hnd.1 (List.mem_map.mpr ⟨e.1, h1, c.symm⟩)
        simp [h2, applyUpd, this]

theorem Inv.pull {s : Sys} (h : Inv s) (n : Nat) : Inv (s.step (.pull n)) := by
  have hsplit : ups s.buf.pending = ups (s.buf.pending.take n) ++ ups (s.buf.pending.drop n) := by
    rw [← ups_append, List.take_append_drop]
  have hnd := h.nodup
  rw [hsplit, List.map_append, List.nodup_append] at hnd
  obtain ⟨ndT, ndD, disj⟩ := hnd
  have hpend : (s.step (.pull n)).buf.pending = s.buf.pending.drop n := rfl
  have hlive : (s.step (.pull n)).buf.live = (s.buf.pending.take n).foldl pullLive s.buf.live := rfl
  have hns : (s.step (.pull n)).buf.notSeen = s.buf.notSeen := rfl
  have hview : (s.step (.pull n)).view = s.view := rfl
  have hdown : ∀ k, (s.step (.pull n)).down k = effU k (s.down k) (ups (s.buf.pending.take n)) :=
    fun k => deliver_down _ _ _ k
  have hlog : (s.step (.pull n)).log = (deliver s.down s.log (s.buf.pending.take n)).2 := rfl
  have hliveiff : ∀ k, k ∈ (s.step (.pull n)).buf.live ↔ ((s.step (.pull n)).down k).isSome = true := by
    intro k; rw [hlive, hdown]; exact pullLive_mem k _ _ _ (h.live_iff k)
  -- a key not in the pulled batch keeps its downstream entry and its liveness
  have hother : ∀ k, (∀ x ∈ ups (s.buf.pending.take n), x.key ≠ k) →
      (k ∈ (s.step (.pull n)).buf.live ↔ k ∈ s.buf.live) := by
    intro k hk
    rw [hliveiff, hdown, effU_not_mem _ _ _ hk]
    exact (h.live_iff k).symm
  have hdropkey : ∀ x ∈ ups (s.buf.pending.drop n), ∀ y ∈ ups (s.buf.pending.take n), y.key ≠ x.key := by
    intro x hx y hy e
    exact disj y.key (List.mem_map.mpr ⟨y, hy, rfl⟩) x.key (List.mem_map.mpr ⟨x, hx, rfl⟩) e
  have hmemD : ∀ x ∈ ups (s.buf.pending.drop n), x ∈ ups s.buf.pending := by
    intro x hx; rw [hsplit]; exact List.mem_append.mpr (Or.inr hx)
  have hmemT : ∀ x ∈ ups (s.buf.pending.take n), x ∈ ups s.buf.pending := by
    intro x hx; rw [hsplit]; exact List.mem_append.mpr (Or.inl hx)
  refine ⟨hliveiff, ?_, ?_, ?_, ?_, ?_, ?_, ?_, ?_⟩
  · intro k hk
    rw [hpend, hdown, hview, ← effU_append, ← hsplit]
    exact h.eff k hk
  · intro m hm k hk
    obtain ⟨h1, h2, h3⟩ := h.ns m hm k hk
    refine ⟨fun x hx => h1 x (hmemD x (by rw [← hpend]; exact hx)), ?_, h3⟩
    exact (hother k (fun x hx => h1 x (hmemT x hx))).mpr h2
  · exact h.insync
  · rw [hpend]; exact ndD
  · intro x hx hv
    rw [hpend] at hx
    have := h.typed x (hmemD x hx) hv
    rw [this]
    have hiff := hother x.key (hdropkey x hx)
    by_cases hl : x.key ∈ s.buf.live
    · simp [hl, hiff.mpr hl]
    · have : x.key ∉ (s.step (.pull n)).buf.live := fun c => hl (hiff.mp c)
      simp [hl, this]
  · intro hw x hx hv
    rw [hpend] at hx
    exact (hother x.key (hdropkey x hx)).mpr (h.dels hw x (hmemD x hx) hv)
  · intro e he hv
    rw [hlog] at he
    rcases deliver_log _ _ _ ndT e he with h1 | ⟨h1, h2⟩
    · exact h.logT e h1 hv
    · rw [h.typed e.1 (hmemT _ h1) hv, h2]
      by_cases hl : e.1.key ∈ s.buf.live
      · simp [hl, (h.live_iff _).mp hl]
      · have : ¬ (s.down e.1.key).isSome = true := fun c => hl ((h.live_iff _).mpr c)
        simp [hl, this]
  · intro hw e he hv
    rw [hlog] at he
    rcases deliver_log _ _ _ ndT e he with h1 | ⟨h1, h2⟩
    · exact h.logD hw e h1 hv
    · rw [h2]
      exact (h.live_iff _).mp (h.dels hw e.1 (hmemT _ h1) hv)

theorem Inv.step {s : Sys} (h : Inv s) (op : Op) : Inv (s.step op) := by
  cases op with
  | upd us => exact h.upds us
  | status st order => exact h.status st order
  | restart => exact h.restart
  | pull n => exact h.pull n

theorem Inv.run {s : Sys} (h : Inv s) (ops : List Op) : Inv (s.run ops) :=
  List.foldlRecOn ops Sys.step h fun _ hb op _ => hb.step op

end CalicoVerif.C25
