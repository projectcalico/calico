import CalicoVerif.Model.C04
import CalicoVerif.Proofs.Assoc
/-! C04, first the list facts the family uses (the `alGet_*` lemmas, one-line instances of `Assoc` through `alGet_eq`;
what `alMod`, `alErase`, `alSet` do to keys, members and permutations, proved on the lists; `count_cons_eq`, `setAdd`)
and the order of CIDRs (`Cidr.canon`, `Cidr.sc` is a strict order
whose predecessors of a point are comparable: `sc_comparable`); then the consumer's side.  The overlap suppressor is
analysed on a stored set of CIDRs (`vis`: stored and not strictly inside another stored one), callbacks are replayed
strictly, and `EInv` says that what the consumer holds after the replay is the visible part of the refcounted members;
the callbacks made for the one member whose refcount changes sign keep it (`einv_plain`, `einv_sup`). -/
namespace CalicoVerif.C04

section AL
variable {κ β : Type} [DecidableEq κ]
@[simp] theorem alGet_nil (k : κ) : alGet k ([] : List (κ × β)) = none := rfl

theorem alGet_cons (k k' : κ) (v : β) (l : List (κ × β)) :
    alGet k ((k', v) :: l) = if k' = k then some v else alGet k l := rfl

theorem alGet_eq (k : κ) (l : List (κ × β)) : alGet k l = Assoc.get l k := by
  induction l with
  | nil => rfl
  | cons p l ih => obtain ⟨a, b⟩ := p; simp only [alGet, Assoc.get, ih]

theorem alGet_alErase (k k' : κ) (l : List (κ × β)) :
    alGet k' (alErase k l) = if k' = k then none else alGet k' l := by
  rw [alGet_eq, alGet_eq]; exact Assoc.get_del l k k'

theorem alGet_alSet (k k' : κ) (v : β) (l : List (κ × β)) :
    alGet k' (alSet k v l) = if k' = k then some v else alGet k' l := by
  rw [alGet_eq, alGet_eq]; exact Assoc.get_set l k k' v

theorem alGet_alMod (k k' : κ) (f : β → β) (l : List (κ × β)) :
    alGet k' (alMod k f l) = if k' = k then (alGet k l).map f else alGet k' l := by
  have : alMod k f l = l.map (fun p => (p.1, (if p.1 = k then f else id) p.2)) :=
    List.map_congr_left fun p _ => by split <;> rfl
  rw [alGet_eq, alGet_eq, alGet_eq, this, Assoc.get_map_val (fun a => if a = k then f else id)]
  by_cases h : k' = k
  · simp [h]
  · simp [h]

theorem alGet_map_val {γ : Type} (f : β → γ) (l : List (κ × β)) (k : κ) :
    alGet k (l.map fun p => (p.1, f p.2)) = (alGet k l).map f := by
  rw [alGet_eq, alGet_eq]; exact Assoc.get_map_val (fun _ => f) l k

theorem alGet_eq_none_iff {k : κ} {l : List (κ × β)} : alGet k l = none ↔ k ∉ l.map (·.1) :=
  alGet_eq k l ▸ Assoc.get_eq_none_iff l k

theorem alMod_keys (k : κ) (f : β → β) (l : List (κ × β)) :
    (alMod k f l).map (·.1) = l.map (·.1) := by
  unfold alMod
  rw [List.map_map]
  apply List.map_congr_left
  intro p _
  by_cases h : p.1 = k <;> simp [h]

theorem alGet_some_mem {k : κ} {v : β} {l : List (κ × β)} (h : alGet k l = some v) : (k, v) ∈ l :=
  Assoc.mem_of_get (alGet_eq k l ▸ h)

theorem alGet_isSome_iff {k : κ} {l : List (κ × β)} : (alGet k l).isSome ↔ k ∈ l.map (·.1) := by
  rw [alGet_eq]; exact Assoc.get_isSome_iff l k

theorem alGet_of_mem {k : κ} {v : β} {l : List (κ × β)} (nd : (l.map (·.1)).Nodup) (h : (k, v) ∈ l) :
    alGet k l = some v := by
  rw [alGet_eq]; exact Assoc.get_of_mem nd h

theorem mem_alMod {k : κ} {f : β → β} {l : List (κ × β)} {p : κ × β}
    (h : p ∈ alMod k f l) : (p ∈ l ∧ p.1 ≠ k) ∨ ∃ v, (k, v) ∈ l ∧ p = (k, f v) := by
  unfold alMod at h
  obtain ⟨q, hq, rfl⟩ := List.mem_map.1 h
  by_cases hk : q.1 = k
  · right; refine ⟨q.2, ?_, by simp [hk]⟩
    rw [← hk]; exact hq
  · left; simp [hk, hq]

theorem mem_alErase {k : κ} {l : List (κ × β)} {p : κ × β} (h : p ∈ alErase k l) : p ∈ l :=
  (Assoc.mem_del.1 h).1

theorem mem_alSet {k : κ} {v : β} {l : List (κ × β)} {p : κ × β} (h : p ∈ alSet k v l) :
    p = (k, v) ∨ p ∈ l :=
  (Assoc.mem_set h).imp_right And.left

theorem keys_alErase_nodup {k : κ} {l : List (κ × β)} (h : (l.map (·.1)).Nodup) :
    ((alErase k l).map (·.1)).Nodup :=
  Assoc.nodup_del k h

theorem keys_alSet_nodup {k : κ} {v : β} {l : List (κ × β)} (h : (l.map (·.1)).Nodup) :
    ((alSet k v l).map (·.1)).Nodup :=
  Assoc.nodup_set k v h

theorem not_mem_keys_alErase (k : κ) (l : List (κ × β)) : k ∉ (alErase k l).map (·.1) := by
  rw [← alGet_isSome_iff, alGet_alErase, if_pos rfl]; exact Bool.noConfusion

theorem alErase_absent {k : κ} {l : List (κ × β)} (h : k ∉ l.map (·.1)) : alErase k l = l :=
  List.filter_eq_self.2 fun p hp => decide_eq_true fun e => h (List.mem_map.2 ⟨p, hp, e⟩)

theorem alErase_idem (k : κ) (l : List (κ × β)) :
    alErase k (alErase k l) = alErase k l := by
  unfold alErase; rw [List.filter_filter]; simp

theorem alMod_absent {k : κ} {f : β → β} {l : List (κ × β)} (h : k ∉ l.map (·.1)) : alMod k f l = l := by
  unfold alMod
  conv => rhs; rw [← List.map_id l]
  exact List.map_congr_left fun p hp => if_neg fun e => h (List.mem_map.2 ⟨p, hp, e⟩)

theorem perm_alGet_erase {κ β : Type} [DecidableEq κ] {k : κ} {l : List (κ × β)} {v : β}
    (nd : (l.map (·.1)).Nodup) (h : alGet k l = some v) : l.Perm ((k, v) :: alErase k l) := by
  induction l with
  | nil => simp at h
  | cons p l ih =>
    obtain ⟨a, b⟩ := p
    simp only [List.map_cons, List.nodup_cons] at nd
    rw [alGet_cons] at h
    by_cases hk : a = k
    · subst hk
      simp only [if_true, Option.some.injEq] at h
      subst h
      rw [show alErase a ((a, b) :: l) = alErase a l by simp [alErase], alErase_absent nd.1]
    · rw [if_neg hk] at h
      rw [show alErase k ((a, b) :: l) = (a, b) :: alErase k l by simp [alErase, hk]]
      exact ((ih nd.2 h).cons (a, b)).trans (List.Perm.swap _ _ _)

theorem perm_alMod {k : κ} {f : β → β} {l : List (κ × β)} {v : β}
    (nd : (l.map (·.1)).Nodup) (h : alGet k l = some v) :
    (alMod k f l).Perm ((k, f v) :: alErase k l) := by
  have := (perm_alGet_erase nd h).map (fun p => if p.1 = k then (p.1, f p.2) else p)
  rwa [List.map_cons, if_pos rfl, ← alMod, ← alMod, alMod_absent (not_mem_keys_alErase k l)] at this

theorem alGet_perm {l l' : List (κ × β)} (nd : (l.map (·.1)).Nodup) (hp : l'.Perm l) (k : κ) :
    alGet k l' = alGet k l := by
  rw [alGet_eq, alGet_eq]; exact Assoc.perm_get hp nd k

end AL

theorem count_cons_eq {α : Type} [DecidableEq α] (a b : α) (l : List α) :
    (b :: l).count a = l.count a + if a = b then 1 else 0 := by
  rw [List.count_cons]
  by_cases h : a = b
  · subst h; simp
  · have : ¬ b = a := fun e => h e.symm
    simp [h, this]

theorem mem_setAdd {α : Type} [DecidableEq α] {a b : α} {l : List α} : b ∈ setAdd a l ↔ b = a ∨ b ∈ l := by
  unfold setAdd
  split
  · exact ⟨Or.inr, fun h => h.elim (fun e => e ▸ ‹a ∈ l›) id⟩
  · exact List.mem_cons

theorem setAdd_nodup {α : Type} [DecidableEq α] {a : α} {l : List α} (h : l.Nodup) : (setAdd a l).Nodup := by
  unfold setAdd
  split
  · exact h
  · exact List.nodup_cons.2 ⟨‹_›, h⟩

/-- Canonical (masked) CIDR, as built by `ip.CIDRFrom…`. -/
def Cidr.canon (c : Cidr) : Prop :=
  c.len ≤ width c.v6 ∧ c.addr % 2 ^ (width c.v6 - c.len) = 0

instance (c : Cidr) : Decidable c.canon := by unfold Cidr.canon; exact inferInstance

theorem shiftRight_mono_eq {x y i j : Nat} (h : x >>> i = y >>> i) (hij : i ≤ j) : x >>> j = y >>> j := by
  have : j = i + (j - i) := by omega
  rw [this, Nat.shiftRight_add, Nat.shiftRight_add, h]

theorem canon_addr_eq {w l x y : Nat} (hx : x % 2 ^ (w - l) = 0) (hy : y % 2 ^ (w - l) = 0)
    (h : x >>> (w - l) = y >>> (w - l)) : x = y := by
  rw [Nat.shiftRight_eq_div_pow, Nat.shiftRight_eq_div_pow] at h
  have e1 := Nat.div_add_mod x (2 ^ (w - l))
  have e2 := Nat.div_add_mod y (2 ^ (w - l))
  rw [hx] at e1; rw [hy] at e2
  rw [← e1, ← e2, h]

namespace Cidr

theorem sc_iff {a b : Cidr} :
    a.sc b = true ↔ a.v6 = b.v6 ∧ a.len < b.len ∧
      a.addr >>> (width a.v6 - a.len) = b.addr >>> (width a.v6 - a.len) := by
  unfold Cidr.sc Cidr.pfx
  constructor
  · intro h
    simp only [Bool.and_eq_true, beq_iff_eq, decide_eq_true_eq] at h
    obtain ⟨⟨h1, h2⟩, h3⟩ := h
    rw [← h1] at h3
    exact ⟨h1, h2, h3⟩
  · rintro ⟨h1, h2, h3⟩
    simp only [Bool.and_eq_true, beq_iff_eq, decide_eq_true_eq]
    refine ⟨⟨h1, h2⟩, ?_⟩
    rw [← h1]
    exact h3

theorem sc_irrefl (a : Cidr) : a.sc a = false := by
  cases h : a.sc a
  · rfl
  · have := (Cidr.sc_iff.1 h).2.1; omega

theorem sc_trans {a b c : Cidr} (h1 : a.sc b = true) (h2 : b.sc c = true) : a.sc c = true := by
  obtain ⟨v1, l1, p1⟩ := Cidr.sc_iff.1 h1
  obtain ⟨v2, l2, p2⟩ := Cidr.sc_iff.1 h2
  apply Cidr.sc_iff.2
  refine ⟨v1.trans v2, by omega, ?_⟩
  rw [p1]
  rw [← v1] at p2
  exact shiftRight_mono_eq p2 (by omega)

theorem sc_comparable {a b x : Cidr} (ca : a.canon) (cb : b.canon)
    (h1 : a.sc x = true) (h2 : b.sc x = true) : a.sc b = true ∨ a = b ∨ b.sc a = true := by
  obtain ⟨v1, l1, p1⟩ := Cidr.sc_iff.1 h1
  obtain ⟨v2, l2, p2⟩ := Cidr.sc_iff.1 h2
  have vab : a.v6 = b.v6 := v1.trans v2.symm
  rw [← vab] at p2
  rcases Nat.lt_trichotomy a.len b.len with h | h | h
  · left
    apply Cidr.sc_iff.2
    refine ⟨vab, h, ?_⟩
    rw [p1]
    exact (shiftRight_mono_eq p2 (by omega)).symm
  · right; left
    have : a.addr = b.addr := by
      apply canon_addr_eq (w := width a.v6) (l := a.len) ca.2
      · have := cb.2; rw [← vab, ← h] at this; exact this
      · rw [p1, h, p2]
    cases a; cases b; simp_all
  · right; right
    apply Cidr.sc_iff.2
    refine ⟨vab.symm, h, ?_⟩
    rw [← vab, p2]
    exact (shiftRight_mono_eq p1 (by omega)).symm

end Cidr

/-- address `x` lies in `c`; the family is not part of the test (statements add `c.v6 = v6`) -/
def Cidr.hasAddr (c : Cidr) (x : Nat) : Prop :=
  x >>> (width c.v6 - c.len) = c.addr >>> (width c.v6 - c.len)

theorem Cidr.hasAddr_of_sc {c d : Cidr} (h : c.sc d = true) {x : Nat} (hx : d.hasAddr x) : c.hasAddr x := by
  obtain ⟨v, l, p⟩ := Cidr.sc_iff.1 h
  unfold Cidr.hasAddr at hx ⊢
  rw [p]
  rw [← v] at hx
  exact shiftRight_mono_eq hx (by omega)

/-- What the consumer should hold of a stored set. -/
def vis (t : List Cidr) (x : Cidr) : Prop := x ∈ t ∧ ∀ d ∈ t, d.sc x = false

theorem covers_iff {t : List Cidr} {c : Cidr} : covers t c = true ↔ ∃ d ∈ t, d = c ∨ d.sc c = true := by
  simp [covers]

theorem mem_closestDesc {t : List Cidr} {c x : Cidr} :
    x ∈ closestDesc t c ↔ x ∈ t ∧ c.sc x = true ∧ ∀ e ∈ t, c.sc e = true → e.sc x = false := by
  simp only [closestDesc, List.mem_filter, Bool.and_eq_true, Bool.not_eq_true', List.any_eq_false,
    Bool.and_eq_true, not_and, Bool.not_eq_true]

theorem closestDesc_nodup {t : List Cidr} (nd : t.Nodup) (c : Cidr) : (closestDesc t c).Nodup :=
  nd.filter _

theorem supAdd_covered {t : List Cidr} {c : Cidr} (hc : c ∉ t) (hcov : covers t c = true) (x : Cidr) :
    vis (c :: t) x ↔ vis t x := by
  obtain ⟨d, hd, hdc⟩ := covers_iff.1 hcov
  have hdc' : d.sc c = true := by
    rcases hdc with rfl | h
    · exact absurd hd hc
    · exact h
  constructor
  · rintro ⟨h1, h2⟩
    rcases List.mem_cons.1 h1 with rfl | h1
    · have := h2 d (List.mem_cons_of_mem _ hd); rw [hdc'] at this; cases this
    · exact ⟨h1, fun e he => h2 e (List.mem_cons_of_mem _ he)⟩
  · rintro ⟨h1, h2⟩
    refine ⟨List.mem_cons_of_mem _ h1, ?_⟩
    intro e he
    rcases List.mem_cons.1 he with rfl | he
    · cases h : e.sc x
      · rfl
      · have := h2 d hd; rw [Cidr.sc_trans hdc' h] at this; cases this
    · exact h2 e he

/-- `Add` of an absent CIDR `c` that no stored CIDR contains: `c` becomes visible, and exactly its closest
descendants (all visible before) stop being visible. -/
theorem supAdd_uncovered {t : List Cidr} {c : Cidr} (ct : ∀ d ∈ t, d.canon) (cc : c.canon)
    (hc : c ∉ t) (hcov : covers t c = false) :
    (∀ x ∈ closestDesc (c :: t) c, vis t x) ∧
    (∀ x, vis (c :: t) x ↔ (x = c ∨ vis t x) ∧ x ∉ closestDesc (c :: t) c) := by
  have hnc : ∀ d ∈ t, d.sc c = false := by
    intro d hd
    cases h : d.sc c
    · rfl
    · have : covers t c = true := covers_iff.2 ⟨d, hd, Or.inr h⟩
      rw [hcov] at this; cases this
  constructor
  · intro x hx
    obtain ⟨h1, h2, h3⟩ := mem_closestDesc.1 hx
    have hxt : x ∈ t := by
      rcases List.mem_cons.1 h1 with rfl | h
      · rw [Cidr.sc_irrefl] at h2; cases h2
      · exact h
    refine ⟨hxt, ?_⟩
    intro d hd
    cases h : d.sc x
    · rfl
    · -- `d` and `c` both contain `x`, so they are comparable
      rcases Cidr.sc_comparable (ct d hd) cc h h2 with h' | h' | h'
      · -- `d` above `c`: but `c` is uncovered
        rw [hnc d hd] at h'; cases h'
      · -- `d = c`: but `c` is not stored
        subst h'; exact absurd hd hc
      · -- `d` strictly between `c` and `x`: but `x` is a closest descendant
        have := h3 d (List.mem_cons_of_mem _ hd) h'; rw [h] at this; cases this
  · intro x
    constructor
    · rintro ⟨h1, h2⟩
      constructor
      · rcases List.mem_cons.1 h1 with rfl | h1
        · exact Or.inl rfl
        · exact Or.inr ⟨h1, fun e he => h2 e (List.mem_cons_of_mem _ he)⟩
      · intro hx
        have := (mem_closestDesc.1 hx).2.1
        rw [h2 c (List.mem_cons_self ..)] at this; cases this
    · rintro ⟨h1, h2⟩
      rcases h1 with rfl | ⟨h1, h1'⟩
      · refine ⟨List.mem_cons_self .., ?_⟩
        intro e he
        rcases List.mem_cons.1 he with rfl | he
        · exact Cidr.sc_irrefl _
        · exact hnc e he
      · refine ⟨List.mem_cons_of_mem _ h1, ?_⟩
        intro e he
        rcases List.mem_cons.1 he with rfl | he
        · cases h : e.sc x
          · rfl
          · exfalso
            apply h2
            apply mem_closestDesc.2
            refine ⟨List.mem_cons_of_mem _ h1, h, ?_⟩
            intro f hf hef
            rcases List.mem_cons.1 hf with rfl | hf
            · rw [Cidr.sc_irrefl] at hef; cases hef
            · exact h1' f hf
        · exact h1' e he

theorem mem_filter_ne {α : Type} [DecidableEq α] {t : List α} {c x : α} :
    x ∈ t.filter (fun d => d ≠ c) ↔ x ∈ t ∧ x ≠ c := by
  simp

theorem vis_ext {t t' : List Cidr} (h : ∀ x, x ∈ t ↔ x ∈ t') (x : Cidr) : vis t x ↔ vis t' x := by
  simp only [vis, h]

theorem mem_closestDesc_ext {t t' : List Cidr} (h : ∀ x, x ∈ t ↔ x ∈ t') (c x : Cidr) :
    x ∈ closestDesc t c ↔ x ∈ closestDesc t' c := by
  simp only [mem_closestDesc, h]

/-- A stored set is its member `c` put back on top of the rest, so `Remove c` is `Add c` to the rest read backwards
(`vis` and `closestDesc` look at the stored list through membership only). -/
theorem mem_cons_filter_ne {t : List Cidr} {c : Cidr} (hc : c ∈ t) (x : Cidr) :
    x ∈ t ↔ x ∈ c :: t.filter (fun d => d ≠ c) := by
  rw [List.mem_cons, mem_filter_ne]
  by_cases h : x = c
  · simp [h, hc]
  · simp [h]

theorem replayFrom_append (d : Down) (a b : List Event) :
    replayFrom d (a ++ b) = (replayFrom d a).bind (fun d' => replayFrom d' b) := by
  induction a generalizing d with
  | nil => simp [replayFrom]
  | cons e a ih =>
    simp only [List.cons_append, replayFrom]
    cases applyEvent d e with
    | none => simp
    | some d' => simp [ih]

theorem replay_append {out evs : List Event} {D D' : Down} (h : replay out = some D)
    (h' : replayFrom D evs = some D') : replay (out ++ evs) = some D' := by
  unfold replay at h ⊢
  rw [replayFrom_append, h]; simpa using h'

theorem replayFrom_removes (s : String) (xs : List Cidr) (D : Down) (nd : xs.Nodup)
    (h : ∀ x ∈ xs, (s, Member.cidr x) ∈ D) :
    ∃ D', replayFrom D (xs.map fun x => .removed s (.cidr x)) = some D' ∧
      ∀ p, p ∈ D' ↔ p ∈ D ∧ ∀ x ∈ xs, p ≠ (s, .cidr x) := by
  induction xs generalizing D with
  | nil => exact ⟨D, rfl, by simp⟩
  | cons x xs ih =>
    obtain ⟨hxn, nd'⟩ := List.nodup_cons.1 nd
    obtain ⟨D', hD', hmem⟩ := ih (D.filter (fun p => p ≠ (s, .cidr x))) nd' (fun y hy =>
      List.mem_filter.2 ⟨h y (List.mem_cons_of_mem _ hy), decide_eq_true fun e => by cases e; exact hxn hy⟩)
    refine ⟨D', ?_, fun p => ?_⟩
    · simpa only [List.map_cons, replayFrom, applyEvent, h x (List.mem_cons_self ..), if_true] using hD'
    · simp [hmem, and_assoc]

theorem replayFrom_adds (s : String) (xs : List Cidr) (D : Down) (nd : xs.Nodup)
    (h : ∀ x ∈ xs, (s, Member.cidr x) ∉ D) :
    ∃ D', replayFrom D (xs.map fun x => .added s (.cidr x)) = some D' ∧
      ∀ p, p ∈ D' ↔ p ∈ D ∨ ∃ x ∈ xs, p = (s, .cidr x) := by
  induction xs generalizing D with
  | nil => exact ⟨D, rfl, by simp⟩
  | cons x xs ih =>
    obtain ⟨hxn, nd'⟩ := List.nodup_cons.1 nd
    obtain ⟨D', hD', hmem⟩ := ih ((s, .cidr x) :: D) nd' (fun y hy hm => by
      rcases List.mem_cons.1 hm with e | hm
      · cases e; exact hxn hy
      · exact h y (List.mem_cons_of_mem _ hy) hm)
    refine ⟨D', ?_, fun p => ?_⟩
    · simpa only [List.map_cons, replayFrom, applyEvent, h x (List.mem_cons_self ..), if_false] using hD'
    · simp [hmem, or_comm, or_assoc]

theorem replayFrom_nodup {d d' : Down} {es : List Event} (h : replayFrom d es = some d') (nd : d.Nodup) :
    d'.Nodup := by
  induction es generalizing d with
  | nil => simp [replayFrom] at h; subst h; exact nd
  | cons e es ih =>
    simp only [replayFrom] at h
    cases he : applyEvent d e with
    | none => rw [he] at h; cases h
    | some d1 =>
      rw [he] at h
      apply ih h
      cases e with
      | added s m =>
        simp only [applyEvent] at he
        split at he
        · cases he
        · cases he; exact List.nodup_cons.2 ⟨by assumption, nd⟩
      | removed s m =>
        simp only [applyEvent] at he
        split at he
        · cases he; exact nd.filter _
        · cases he
      | cleared s =>
        simp only [applyEvent] at he
        cases he; exact nd.filter _

-- many lemmas of the section do not need `DecidableEq Sel`
set_option linter.unusedSectionVars false
section Emission
variable {Sel : Type} [DecidableEq Sel]

theorem foldl_emit {α : Type} (f : α → Event) (xs : List α) (st : Idx Sel) :
    xs.foldl (fun st x => emit (f x) st) st = { st with out := st.out ++ xs.map f } := by
  induction xs generalizing st with
  | nil => simp
  | cons x xs ih =>
    rw [List.foldl_cons, ih]
    simp [emit, List.append_assoc]

/-- What the consumer should hold for set `s`. -/
def visible (st : Idx Sel) (s : String) (m : Member) : Prop :=
  0 < refCount st s m ∧
  (st.suppress = true → ∀ c, m = .cidr c → ∀ c', 0 < refCount st s (.cidr c') → c'.sc c = false)

/-- Invariant tying callbacks and suppressor tries to the refcount maps. -/
structure EInv (st : Idx Sel) : Prop where
  down : ∃ D, replay st.out = some D ∧ ∀ s m, (s, m) ∈ D ↔ visible st s m
  trie : st.suppress = true → ∀ s c, c ∈ trieOf st s ↔ 0 < refCount st s (.cidr c)
  trieNodup : ∀ s, (trieOf st s).Nodup
  canon : ∀ s c, 0 < refCount st s (.cidr c) → c.canon

theorem visible_cidr_vis {st : Idx Sel} {T : List Cidr} {s : String} (hs : st.suppress = true)
    (hT : ∀ c, c ∈ T ↔ 0 < refCount st s (.cidr c)) (x : Cidr) :
    visible st s (.cidr x) ↔ vis T x := by
  unfold visible vis
  rw [hT]
  constructor
  · rintro ⟨h1, h2⟩
    refine ⟨h1, fun d hd => h2 hs x rfl d ((hT d).1 hd)⟩
  · rintro ⟨h1, h2⟩
    refine ⟨h1, fun _ c hc c' hc' => ?_⟩
    cases hc
    exact h2 c' ((hT c').2 hc')

theorem visible_ipp (st : Idx Sel) (s : String) (v : Bool) (a po pr : Nat) :
    visible st s (.ipp v a po pr) ↔ 0 < refCount st s (.ipp v a po pr) := by
  unfold visible
  constructor
  · exact fun h => h.1
  · exact fun h => ⟨h, fun _ c hc => by cases hc⟩

theorem visible_noop {st : Idx Sel} (hs : st.suppress = false) (s : String) (m : Member) :
    visible st s m ↔ 0 < refCount st s m := by
  unfold visible
  simp [hs]

theorem visible_congr {st st' : Idx Sel} {s : String} (hsup : st'.suppress = st.suppress)
    (h : ∀ m, 0 < refCount st' s m ↔ 0 < refCount st s m) (m : Member) :
    visible st' s m ↔ visible st s m := by
  unfold visible
  rw [hsup, h]
  constructor
  · rintro ⟨h1, h2⟩; exact ⟨h1, fun hs c hc c' hc' => h2 hs c hc c' ((h _).2 hc')⟩
  · rintro ⟨h1, h2⟩; exact ⟨h1, fun hs c hc c' hc' => h2 hs c hc c' ((h _).1 hc')⟩

theorem onMemberAdded_sup {st : Idx Sel} (hs : st.suppress = true) (s : String) (c : Cidr) :
    onMemberAdded s (.cidr c) st =
      { st with
        tries := alSet s (setAdd c (trieOf st s)) st.tries
        out := st.out ++ (if covers (trieOf st s) c then []
          else .added s (.cidr c) ::
            (closestDesc (setAdd c (trieOf st s)) c).map (fun x => Event.removed s (.cidr x))) } := by
  simp only [onMemberAdded, supAdd, hs, if_true]
  by_cases hc : covers (trieOf st s) c = true
  · simp [hc]
  · simp only [hc, Bool.false_eq_true, if_false, if_true]
    rw [foldl_emit]
    simp [emit]

theorem onMemberRemoved_sup {st : Idx Sel} (hs : st.suppress = true) (s : String) (c : Cidr) :
    onMemberRemoved s (.cidr c) st =
      { st with
        tries := alSet s ((trieOf st s).filter (fun d => d ≠ c)) st.tries
        out := st.out ++ (if covers ((trieOf st s).filter (fun d => d ≠ c)) c then []
          else .removed s (.cidr c) ::
            (closestDesc (trieOf st s) c).map (fun x => Event.added s (.cidr x))) } := by
  simp only [onMemberRemoved, supRemove, hs, if_true]
  generalize (trieOf st s).filter (fun d => d ≠ c) = t'
  by_cases hc : covers t' c = true
  · simp [hc]
  · simp only [hc, Bool.false_eq_true, if_false, if_true]
    rw [foldl_emit]
    simp [emit]

theorem onMemberAdded_plain {st : Idx Sel} {m : Member} (h : st.suppress = true → ∀ c, m ≠ .cidr c) (s : String) :
    onMemberAdded s m st = emit (.added s m) st := by
  cases m with
  | ipp => rfl
  | cidr c =>
    have hs : st.suppress = false := by simpa using fun hs => h hs c rfl
    simp [onMemberAdded, supAdd, hs]

theorem onMemberRemoved_plain {st : Idx Sel} {m : Member} (h : st.suppress = true → ∀ c, m ≠ .cidr c) (s : String) :
    onMemberRemoved s m st = emit (.removed s m) st := by
  cases m with
  | ipp => rfl
  | cidr c =>
    have hs : st.suppress = false := by simpa using fun hs => h hs c rfl
    simp [onMemberRemoved, supRemove, hs]

theorem trieOf_of_tries {st st' : Idx Sel} {s : String} {t : List Cidr} (h : st'.tries = alSet s t st.tries)
    (s' : String) : trieOf st' s' = if s' = s then t else trieOf st s' := by
  unfold trieOf; rw [h, alGet_alSet]; split <;> rfl

theorem trieOf_alSet (st : Idx Sel) (s s' : String) (t : List Cidr) (o : List Event) :
    trieOf { st with tries := alSet s t st.tries, out := o } s' = if s' = s then t else trieOf st s' :=
  trieOf_of_tries rfl s'

theorem trieOf_congr {st st' : Idx Sel} (h : st'.tries = st.tries) (s : String) :
    trieOf st' s = trieOf st s := by
  unfold trieOf; rw [h]

theorem einv_congr {st st' : Idx Sel} (hE : EInv st) (hsup : st'.suppress = st.suppress)
    (hout : st'.out = st.out) (htr : ∀ s, trieOf st' s = trieOf st s)
    (hpos : ∀ s m, 0 < refCount st' s m ↔ 0 < refCount st s m) : EInv st' := by
  obtain ⟨D, hD, hmem⟩ := hE.down
  refine ⟨⟨D, by rw [hout]; exact hD, fun s m => ?_⟩, ?_, ?_, ?_⟩
  · rw [hmem, visible_congr hsup (hpos s)]
  · intro hs s c
    rw [htr, hpos]
    exact hE.trie (hsup ▸ hs) s c
  · intro s; rw [htr]; exact hE.trieNodup s
  · intro s c h; exact hE.canon s c ((hpos _ _).1 h)

theorem replay_supAdd {D : Down} {s : String} {t : List Cidr} {c : Cidr}
    (hD : ∀ x, (s, Member.cidr x) ∈ D ↔ vis t x) (ct : ∀ d ∈ t, d.canon) (cc : c.canon)
    (nd : t.Nodup) (hc : c ∉ t) :
    ∃ D', replayFrom D (if covers t c then [] else
        .added s (.cidr c) :: (closestDesc (c :: t) c).map (fun x => Event.removed s (.cidr x))) = some D' ∧
      (∀ x, (s, Member.cidr x) ∈ D' ↔ vis (c :: t) x) ∧
      ∀ p, (∀ x, p ≠ (s, Member.cidr x)) → (p ∈ D' ↔ p ∈ D) := by
  by_cases hcov : covers t c = true
  · rw [if_pos hcov]
    exact ⟨D, rfl, fun x => (hD x).trans (supAdd_covered hc hcov x).symm, fun _ _ => Iff.rfl⟩
  · obtain ⟨hA, hB⟩ := supAdd_uncovered ct cc hc (by simpa using hcov)
    have hnv : (s, Member.cidr c) ∉ D := fun h => hc ((hD c).1 h).1
    obtain ⟨D', hD', hmem⟩ := replayFrom_removes s (closestDesc (c :: t) c) ((s, .cidr c) :: D)
      (closestDesc_nodup (List.nodup_cons.2 ⟨hc, nd⟩) c)
      (fun x hx => List.mem_cons_of_mem _ ((hD x).2 (hA x hx)))
    refine ⟨D', ?_, fun x => ?_, fun p hp => ?_⟩
    · simpa only [if_neg hcov, replayFrom, applyEvent, hnv, if_false] using hD'
    · rw [hmem, hB, List.mem_cons, hD]
      simp only [Prod.mk.injEq, Member.cidr.injEq, true_and, ne_eq]
      exact and_congr_right fun _ => ⟨fun h hx => h x hx rfl, fun h y hy e => h (e ▸ hy)⟩
    · rw [hmem, List.mem_cons]
      exact ⟨fun h => h.1.resolve_left (hp c), fun h => ⟨Or.inr h, fun x _ => hp x⟩⟩

theorem replay_supRemove {D : Down} {s : String} {t : List Cidr} {c : Cidr}
    (hD : ∀ x, (s, Member.cidr x) ∈ D ↔ vis t x) (ct : ∀ d ∈ t, d.canon) (nd : t.Nodup) (hc : c ∈ t) :
    ∃ D', replayFrom D (if covers (t.filter (fun d => d ≠ c)) c then [] else
        .removed s (.cidr c) :: (closestDesc t c).map (fun x => Event.added s (.cidr x))) = some D' ∧
      (∀ x, (s, Member.cidr x) ∈ D' ↔ vis (t.filter (fun d => d ≠ c)) x) ∧
      ∀ p, (∀ x, p ≠ (s, Member.cidr x)) → (p ∈ D' ↔ p ∈ D) := by
  -- `t` is `c` added to the rest `t'`: use the two `Add` lemmas for `t'`
  have hnc : c ∉ t.filter (fun d => d ≠ c) := fun h => (mem_filter_ne.1 h).2 rfl
  have hvis := vis_ext (mem_cons_filter_ne hc)
  have hcd := mem_closestDesc_ext (mem_cons_filter_ne hc) c
  have ct' : ∀ d ∈ t.filter (fun d => d ≠ c), d.canon := fun d hd => ct d (mem_filter_ne.1 hd).1
  generalize t.filter (fun d => d ≠ c) = t' at *
  by_cases hcov : covers t' c = true
  · rw [if_pos hcov]
    exact ⟨D, rfl, fun x => by rw [hD, hvis, supAdd_covered hnc hcov], fun _ _ => Iff.rfl⟩
  · obtain ⟨hA, hB⟩ := supAdd_uncovered ct' (ct c hc) hnc (by simpa using hcov)
    have hcc : c ∉ closestDesc (c :: t') c := fun h => by
      have := (mem_closestDesc.1 h).2.1; rw [Cidr.sc_irrefl] at this; cases this
    obtain ⟨D', hD', hmem⟩ := replayFrom_adds s (closestDesc t c) (D.filter (fun p => p ≠ (s, .cidr c)))
      (closestDesc_nodup nd c)
      (fun x hx h => ((hB x).1 ((hvis x).1 ((hD x).1 (List.mem_filter.1 h).1))).2 ((hcd x).1 hx))
    refine ⟨D', ?_, fun x => ?_, fun p hp => ?_⟩
    · have : (s, Member.cidr c) ∈ D := (hD c).2 ((hvis c).2 ((hB c).2 ⟨Or.inl rfl, hcc⟩))
      simpa only [if_neg hcov, replayFrom, applyEvent, this, if_true] using hD'
    · rw [hmem, List.mem_filter, hD, hvis, hB]
      simp only [decide_eq_true_eq, ne_eq, Prod.mk.injEq, Member.cidr.injEq, true_and, exists_eq_right', hcd]
      constructor
      · rintro (⟨⟨h | h, _⟩, hne⟩ | h)
        · exact absurd h hne
        · exact h
        · exact hA x h
      · intro h
        by_cases hx : x ∈ closestDesc (c :: t') c
        · exact Or.inr hx
        · exact Or.inl ⟨⟨Or.inr h, hx⟩, fun e => hnc (e ▸ h.1)⟩
    · rw [hmem, List.mem_filter]
      refine ⟨fun h => h.elim And.left fun ⟨x, _, e⟩ => absurd e (hp x), fun h => Or.inl ⟨h, ?_⟩⟩
      exact decide_eq_true (hp c)

/-- A plain (unsuppressed) callback for `(s, m)`: added if its refcount was 0, removed otherwise; every other
member keeps the sign of its refcount. -/
theorem einv_plain {st st' : Idx Sel} {s : String} {m : Member} (hE : EInv st)
    (hm : refCount st s m = 0 → ∀ c, m = .cidr c → c.canon) (hsup : st'.suppress = st.suppress)
    (hoth : ∀ s' m', (s' = s ∧ m' = m) ∨ (0 < refCount st' s' m' ↔ 0 < refCount st s' m'))
    (hflip : 0 < refCount st' s m ↔ refCount st s m = 0)
    (hplain : st.suppress = true → ∀ c, m ≠ .cidr c)
    (hout : st'.out = st.out ++ [if refCount st s m = 0 then .added s m else .removed s m])
    (htr : ∀ s, trieOf st' s = trieOf st s) : EInv st' := by
  obtain ⟨D, hD, hmem⟩ := hE.down
  have hposc : st.suppress = true → ∀ s' c, 0 < refCount st' s' (.cidr c) ↔ 0 < refCount st s' (.cidr c) :=
    fun hs s' c => (hoth s' _).resolve_left fun h => hplain hs c h.2.symm
  have hvis : ∀ s' m', visible st' s' m' ↔ if s' = s ∧ m' = m then refCount st s m = 0 else visible st s' m' := by
    intro s' m'
    unfold visible
    rw [hsup]
    have hX : (st.suppress = true → ∀ c, m' = .cidr c → ∀ c', 0 < refCount st' s' (.cidr c') → c'.sc c = false) ↔
        (st.suppress = true → ∀ c, m' = .cidr c → ∀ c', 0 < refCount st s' (.cidr c') → c'.sc c = false) :=
      forall_congr' fun hs => by simp only [hposc hs]
    rw [hX]
    by_cases h : s' = s ∧ m' = m
    · obtain ⟨rfl, rfl⟩ := h
      rw [if_pos ⟨rfl, rfl⟩, hflip]
      exact ⟨And.left, fun h0 => ⟨h0, fun hs c hc => absurd hc (hplain hs c)⟩⟩
    · rw [if_neg h, (hoth s' m').resolve_left h]
  refine ⟨?_, fun hs s' c => ?_, fun s' => by rw [htr]; exact hE.trieNodup s', fun s' c h => ?_⟩
  · by_cases h0 : refCount st s m = 0
    · have hnv : (s, m) ∉ D := fun h => by have := ((hmem s m).1 h).1; omega
      refine ⟨(s, m) :: D, ?_, fun s' m' => ?_⟩
      · rw [hout, if_pos h0]
        apply replay_append hD
        simp [replayFrom, applyEvent, hnv]
      · rw [hvis, List.mem_cons, hmem, Prod.mk.injEq]
        by_cases h : s' = s ∧ m' = m <;> simp [h, h0]
    · have hv : (s, m) ∈ D := (hmem s m).2 ⟨by omega, fun hs c hc => absurd hc (hplain hs c)⟩
      refine ⟨D.filter (fun p => p ≠ (s, m)), ?_, fun s' m' => ?_⟩
      · rw [hout, if_neg h0]
        apply replay_append hD
        simp [replayFrom, applyEvent, hv]
      · rw [hvis, List.mem_filter, hmem, decide_eq_true_eq, ne_eq, Prod.mk.injEq]
        by_cases h : s' = s ∧ m' = m <;> simp [h, h0]
  · rw [htr, hposc (hsup ▸ hs)]
    exact hE.trie (hsup ▸ hs) s' c
  · rcases hoth s' (.cidr c) with ⟨rfl, e⟩ | e
    · exact hm (hflip.1 (e ▸ h)) c e.symm
    · exact hE.canon s' c (e.1 h)

/-- The suppressor registers or drops CIDR `c` of set `s` (the only member whose refcount changes sign): the stored
set of `s` becomes `T'`, and the callbacks `evs` take the consumer's CIDRs of `s` from the visible ones of the old
stored set to those of `T'`, leaving everything else alone. -/
theorem einv_sup {st st' : Idx Sel} {s : String} {c : Cidr} {T' : List Cidr} {evs : List Event} (hE : EInv st)
    (hs : st.suppress = true) (hsup : st'.suppress = st.suppress)
    (hoth : ∀ s' m', (s' = s ∧ m' = .cidr c) ∨ (0 < refCount st' s' m' ↔ 0 < refCount st s' m'))
    (hout : st'.out = st.out ++ evs) (htr : st'.tries = alSet s T' st.tries)
    (hT' : ∀ x, x ∈ T' ↔ 0 < refCount st' s (.cidr x)) (hnd : T'.Nodup)
    (hcan : 0 < refCount st' s (.cidr c) → c.canon)
    (hrep : ∀ D, (∀ x, (s, Member.cidr x) ∈ D ↔ vis (trieOf st s) x) →
      ∃ D', replayFrom D evs = some D' ∧ (∀ x, (s, Member.cidr x) ∈ D' ↔ vis T' x) ∧
        ∀ p, (∀ x, p ≠ (s, Member.cidr x)) → (p ∈ D' ↔ p ∈ D)) : EInv st' := by
  have htrie := trieOf_of_tries htr
  obtain ⟨D, hD, hmem⟩ := hE.down
  obtain ⟨D', hD', hvis, hoD⟩ := hrep D fun x => (hmem s _).trans (visible_cidr_vis hs (hE.trie hs s) x)
  refine ⟨⟨D', hout ▸ replay_append hD hD', fun s' m' => ?_⟩, fun _ s' x => ?_, fun s' => ?_, fun s' x h => ?_⟩
  · cases m' with
    | ipp v a po pr =>
      rw [hoD _ (fun x e => by cases e), hmem, visible_ipp, visible_ipp,
        (hoth s' _).resolve_left (fun h => by cases h.2)]
    | cidr x =>
      by_cases h : s' = s
      · subst h; rw [hvis, visible_cidr_vis (hsup.trans hs) hT']
      · rw [hoD _ (fun y e => h (by cases e; rfl)), hmem]
        exact (visible_congr hsup (fun m'' => (hoth s' m'').resolve_left fun e => h e.1) _).symm
  · rw [htrie]
    by_cases h : s' = s
    · subst h; rw [if_pos rfl]; exact hT' x
    · rw [if_neg h, hE.trie hs, (hoth s' _).resolve_left fun e => h e.1]
  · rw [htrie]; split
    · exact hnd
    · exact hE.trieNodup s'
  · rcases hoth s' (.cidr x) with ⟨rfl, e⟩ | e
    · cases e; exact hcan h
    · exact hE.canon s' x (e.1 h)

end Emission

end CalicoVerif.C04
