import CalicoVerif.Proofs.C03Dirty
import CalicoVerif.Proofs.C01Mirror
import CalicoVerif.Proofs.C01Arc
import CalicoVerif.Proofs.C06Wf
import CalicoVerif.Proofs.C06Roundtrip
/-! The ActiveRulesCalculator's label index (C07 model) and the PolicyResolver's match relation versus
the DATASTORE: the resolver's match relation is the image of `policyIDToEndpointKeys` under the numbering (`MInv`, kept
by every action that finds its number registered: `mInv_act`), the label index's tables and the ARC's `allPolicies`
are the datastore's (`LTab`, from their closed form after a step: `lTab_step`; `LInv` says both); with C07's `Inv.sound`
the resolver's match relation is the specification's `DS.matched` (`matched_eq_ds`).
This file has the steps; the run of `LInv` and the final theorem `resolver_matched_eq_datastore` stand in C01PolAct,
because `MInv` is kept along an update only together with `PolAct` (`ArcP`, `arcP_step`). -/
namespace CalicoVerif.C01
open CalicoVerif C02

theorem updateMatches_ids (st : C07.Idx) (ms : C07.MS) (s : Nat) (n : C06.Node) (i : Nat) (it : C07.Item) :
    ∀ e ∈ (C07.updateMatches st ms s n i it).2, evSel e = s ∧ evItem e = i := by
  intro e he
  unfold C07.updateMatches C07.storeMatch C07.deleteMatch at he
  split at he <;> split at he <;> simp at he <;> (subst he; exact ⟨rfl, rfl⟩)

theorem scanSelectors_ids (st : C07.Idx) (i : Nat) (it : C07.Item) : ∀ (sels : List (Nat × C06.Node)) (ms : C07.MS),
    ∀ e ∈ (C07.scanSelectors st i it sels ms).2, evSel e ∈ sels.map (·.1) ∧ evItem e = i
  | [], ms => by intro e he; simp [C07.scanSelectors] at he
  | (s, n) :: rest, ms => by
    intro e he
    simp only [C07.scanSelectors, List.mem_append] at he
    rcases he with he | he
    · obtain ⟨h1, h2⟩ := updateMatches_ids st ms s n i it e he
      exact ⟨by simp [h1], h2⟩
    · obtain ⟨h1, h2⟩ := scanSelectors_ids st i it rest _ e he
      exact ⟨List.mem_cons_of_mem _ h1, h2⟩

theorem scanItems_ids (st : C07.Idx) (s : Nat) (n : C06.Node) : ∀ (items : List (Nat × C07.Item)) (ms : C07.MS),
    ∀ e ∈ (C07.scanItems st s n items ms).2, evSel e = s ∧ evItem e ∈ items.map (·.1)
  | [], ms => by intro e he; simp [C07.scanItems] at he
  | (i, it) :: rest, ms => by
    intro e he
    simp only [C07.scanItems, List.mem_append] at he
    rcases he with he | he
    · obtain ⟨h1, h2⟩ := updateMatches_ids st ms s n i it e he
      exact ⟨h1, by simp [h2]⟩
    · obtain ⟨h1, h2⟩ := scanItems_ids st s n rest _ e he
      exact ⟨h1, List.mem_cons_of_mem _ h2⟩

theorem flushItems_ids (st : C07.Idx) : ∀ (items : List (Nat × C07.Item)) (ms : C07.MS),
    ∀ e ∈ (C07.flushItems st items ms).2, evSel e ∈ st.sels.map (·.1) ∧ evItem e ∈ items.map (·.1)
  | [], ms => by intro e he; simp [C07.flushItems] at he
  | (i, it) :: rest, ms => by
    intro e he
    simp only [C07.flushItems, List.mem_append] at he
    rcases he with he | he
    · obtain ⟨h1, h2⟩ := scanSelectors_ids st i it st.sels ms e he
      exact ⟨h1, by simp [h2]⟩
    · obtain ⟨h1, h2⟩ := flushItems_ids st rest _ e he
      exact ⟨h1, List.mem_cons_of_mem _ h2⟩

theorem dropMatches_ids (p : Nat × Nat → Bool) (ms : C07.MS) :
    ∀ e ∈ (C07.dropMatches p ms).2, (evSel e, evItem e) ∈ ms := by
  intro e he
  simp only [C07.dropMatches, List.mem_map, List.mem_filter] at he
  obtain ⟨m, ⟨hm, _⟩, rfl⟩ := he
  exact hm

theorem apply_ids {st : C07.Idx} (h : C07.Inv st) (op : C07.Op) : ∀ e ∈ (op.apply st).2,
    ((C07.lookup (evSel e) st.sels).isSome = true ∨ (C07.lookup (evSel e) (op.apply st).1.sels).isSome = true) ∧
    ((C07.lookup (evItem e) st.items).isSome = true ∨ (C07.lookup (evItem e) (op.apply st).1.items).isSome = true) := by
  intro e he
  have ofMatched : (evSel e, evItem e) ∈ st.matched →
      (C07.lookup (evSel e) st.sels).isSome = true ∧ (C07.lookup (evItem e) st.items).isSome = true := by
    intro hm
    obtain ⟨n, it, h1, h2, _⟩ := (h.sound _).mp hm
    simp only [] at h1 h2
    exact ⟨by rw [h1]; rfl, by rw [h2]; rfl⟩
  cases op with
  | updateLabels id l ps =>
    obtain ⟨h1, h2⟩ := scanSelectors_ids _ id ⟨l, ps⟩ _ _ e he
    refine ⟨Or.inl (C07.lookup_isSome_of_mem h1), Or.inr ?_⟩
    show (C07.lookup (evItem e) (C07.insert id ⟨l, ps⟩ st.items)).isSome = true
    rw [h2, C07.lookup_insert]; simp
  | deleteLabels id =>
    obtain ⟨a, b⟩ := ofMatched (dropMatches_ids _ _ e he)
    exact ⟨Or.inl a, Or.inl b⟩
  | updateParentLabels p l =>
    obtain ⟨h1, h2⟩ := flushItems_ids _ _ _ e he
    exact ⟨Or.inl (C07.lookup_isSome_of_mem h1), Or.inl (C07.lookup_isSome_of_mem (C07.children_keys _ p _ h2))⟩
  | deleteParentLabels p =>
    obtain ⟨h1, h2⟩ := flushItems_ids _ _ _ e he
    exact ⟨Or.inl (C07.lookup_isSome_of_mem h1), Or.inl (C07.lookup_isSome_of_mem (C07.children_keys _ p _ h2))⟩
  | updateSelector id n =>
    -- unless the selector is unchanged (no callback), the items are re-scanned under the new selector
    have go : e ∈ (C07.scanItems st id n st.items st.matched).2 →
        (C07.lookup (evSel e) (C07.insert id n st.sels)).isSome = true ∧ (C07.lookup (evItem e) st.items).isSome = true := by
      intro he'
      obtain ⟨h1, h2⟩ := scanItems_ids st id n st.items st.matched e he'
      exact ⟨by rw [h1, C07.lookup_insert]; simp, C07.lookup_isSome_of_mem h2⟩
    simp only [C07.Op.apply, C07.updateSelector] at he ⊢
    split at he
    · split at he
      · cases he
      · rename_i hne
        simp only [hne, if_false]
        exact ⟨Or.inr (go he).1, Or.inl (go he).2⟩
    · exact ⟨Or.inr (go he).1, Or.inl (go he).2⟩
  | deleteSelector id =>
    obtain ⟨a, b⟩ := ofMatched (dropMatches_ids _ _ e he)
    exact ⟨Or.inl a, Or.inl b⟩

theorem step_matchStarted_matched (r : C03.Resolver) (p : PolicyKey) (e : EpKey) :
    (r.step (.matchStarted p e)).matched = sadd (p, e) r.matched := (C03.step_folds r _).matched

theorem step_matchStopped_matched (r : C03.Resolver) (p : PolicyKey) (e : EpKey) :
    (r.step (.matchStopped p e)).matched = sdel (p, e) r.matched := (C03.step_folds r _).matched

def MM (N : Numbering) (g : Graph) : Prop :=
  ∀ p e, (p, e) ∈ g.res.matched ↔ ∃ n i, (n, i) ∈ g.polEps ∧ p = N.pk n ∧ e = N.ek i

theorem mm_onMatchEvent (H : IdFn) (N : Numbering) (g : Graph) (ev : C07.Event) (hm : MM N g)
    (hp : g.polKey (evSel ev) = N.pk (evSel ev)) (he : g.epKey (evItem ev) = N.ek (evItem ev)) :
    MM N (g.onMatchEvent H ev) := by
  intro p e
  rw [onMatchEvent_res]
  cases ev with
  | started s i =>
    simp only [evSel, evItem] at hp he
    simp only [matchEv, hp, he]
    rw [step_matchStarted_matched, mem_sadd, hm p e]
    have h2 : ∀ q, q ∈ (g.onMatchEvent H (.started s i)).polEps ↔ q = (s, i) ∨ q ∈ g.polEps := fun q => by
      rw [onMatchEvent_polEps]; exact mem_sadd
    constructor
    · rintro (h | ⟨n, j, h1, h2', h3⟩)
      · simp only [Prod.mk.injEq] at h
        exact ⟨s, i, (h2 (s, i)).mpr (Or.inl rfl), h.1, h.2⟩
      · exact ⟨n, j, (h2 (n, j)).mpr (Or.inr h1), h2', h3⟩
    · rintro ⟨n, j, h1, rfl, rfl⟩
      rcases (h2 (n, j)).mp h1 with h | h
      · simp only [Prod.mk.injEq] at h
        exact Or.inl (by rw [h.1, h.2])
      · exact Or.inr ⟨n, j, h, rfl, rfl⟩
  | stopped s i =>
    simp only [evSel, evItem] at hp he
    simp only [matchEv, hp, he]
    rw [step_matchStopped_matched, mem_sdel, hm p e]
    have h2 : ∀ q, q ∈ (g.onMatchEvent H (.stopped s i)).polEps ↔ q ∈ g.polEps ∧ q ≠ (s, i) := fun q => by
      rw [onMatchEvent_polEps]; exact mem_sdel
    constructor
    · rintro ⟨⟨n, j, h1, rfl, rfl⟩, hne⟩
      refine ⟨n, j, (h2 (n, j)).mpr ⟨h1, ?_⟩, rfl, rfl⟩
      intro h
      simp only [Prod.mk.injEq] at h
      exact hne (by rw [h.1, h.2])
    · rintro ⟨n, j, h1, rfl, rfl⟩
      obtain ⟨h3, h4⟩ := (h2 (n, j)).mp h1
      refine ⟨⟨n, j, h3, rfl, rfl⟩, ?_⟩
      intro h
      simp only [Prod.mk.injEq] at h
      exact h4 (by rw [N.pkInj _ _ h.1, N.ekInj _ _ h.2])

structure MInv (N : Numbering) (g : Graph) : Prop where
  arc : ArcInv g
  regP : ∀ n, (C07.lookup n g.lbl.sels).isSome = true → mget g.polKeys n = some (N.pk n)
  regE : ∀ i, (C07.lookup i g.lbl.items).isSome = true → mget g.epKeys i = some (N.ek i)
  mm : MM N g

theorem polKey_of {g : Graph} {n : Nat} {k : PolicyKey} (h : mget g.polKeys n = some k) : g.polKey n = k := by
  unfold Graph.polKey; rw [h]; rfl
theorem epKey_of {g : Graph} {n : Nat} {k : EpKey} (h : mget g.epKeys n = some k) : g.epKey n = k := by
  unfold Graph.epKey; rw [h]; rfl

theorem mInv_lblStep (H : IdFn) {N : Numbering} {g : Graph} (hi : MInv N g) (op : C07.Op)
    (hP' : ∀ n sel, op = .updateSelector n sel → mget g.polKeys n = some (N.pk n))
    (hE' : ∀ i l ps, op = .updateLabels i l ps → mget g.epKeys i = some (N.ek i)) :
    MInv N (g.lblStep H (op.apply g.lbl)) := by
  have hP : ∀ n, (C07.lookup n (op.apply g.lbl).1.sels).isSome = true → mget g.polKeys n = some (N.pk n) :=
    fun n hn => ((C07.apply_known g.lbl op).1 n hn).elim (hi.regP n) (fun ⟨sel, e⟩ => hP' n sel e)
  have hE : ∀ i, (C07.lookup i (op.apply g.lbl).1.items).isSome = true → mget g.epKeys i = some (N.ek i) :=
    fun i hn => ((C07.apply_known g.lbl op).2 i hn).elim (hi.regE i) (fun ⟨l, ps, e⟩ => hE' i l ps e)
  have k := lblStep_up H g (op.apply g.lbl)
  refine ⟨arcInv_lblStep H hi.arc op, by rw [k.lbl, k.polKeys]; exact hP, by rw [k.lbl, k.epKeys]; exact hE, ?_⟩
  refine (foldl_onMatchEvent_keep H { g with lbl := (op.apply g.lbl).1 } (op.apply g.lbl).2 (fun g' ev hev k' hm => ?_) hi.mm).2
  obtain ⟨hs, hit⟩ := apply_ids hi.arc.idx op ev hev
  exact mm_onMatchEvent H N g' ev hm ((polKey_congr k'.polKeys _).trans (polKey_of (hs.elim (hi.regP _) (hP _))))
    ((epKey_congr k'.epKeys _).trans (epKey_of (hit.elim (hi.regE _) (hE _))))

def selOf (t : Str) : Option C06.Node :=
  match C06.parse t with
  | .ok n => some n
  | .error _ => none

def itemOf (v : EpVal) : C07.Item := ⟨strLabels v.labels, v.profiles.map String.toList⟩

def selParses : Upd → Prop
  | .policy _ _ (some pv) => (selOf pv.sel).isSome = true
  | _ => True

structure LInv (N : Numbering) (g : Graph) (ds : DS) : Prop where
  m : MInv N g
  sels : ∀ n, C07.lookup n g.lbl.sels = (mget ds.pols n).bind (fun x => selOf x.2.sel)
  items : ∀ i, C07.lookup i g.lbl.items = if N.lc i then (mget ds.eps i).map (fun x => itemOf x.2.2) else none
  parents : ∀ pid : String, C07.lookup pid.toList g.lbl.parents = (mget ds.profLabels pid).map strLabels
  arcPols : ∀ n, mget g.allPolicies n = (mget ds.pols n).map (·.2)

theorem mInv_frame {N : Numbering} {g g' : Graph} (hi : MInv N g) (hMatched : g'.res.matched = g.res.matched)
    (hPolKeys : g'.polKeys = g.polKeys) (hEpKeys : g'.epKeys = g.epKeys) (hPolEps : g'.polEps = g.polEps)
    (hLbl : g'.lbl = g.lbl) : MInv N g' :=
  ⟨arcInv_frame hi.arc hPolEps hLbl, by rw [hLbl, hPolKeys]; exact hi.regP, by rw [hLbl, hEpKeys]; exact hi.regE,
    by intro p e; rw [hMatched, hPolEps]; exact hi.mm p e⟩

theorem mInv_regE {N : Numbering} {g : Graph} (hi : MInv N g) (nid : Nat) :
    MInv N { g with epKeys := C02.mset nid (N.ek nid) g.epKeys } := by
  refine ⟨arcInv_frame hi.arc rfl rfl, hi.regP, fun i hsome => ?_, hi.mm⟩
  show mget (C02.mset nid (N.ek nid) g.epKeys) i = _
  rw [mget_mset]
  split
  · rename_i h; rw [h]
  · exact hi.regE i hsome

theorem mInv_regP {N : Numbering} {g : Graph} (hi : MInv N g) (nid : Nat) :
    MInv N { g with polKeys := C02.mset nid (N.pk nid) g.polKeys } := by
  refine ⟨arcInv_frame hi.arc rfl rfl, fun i hsome => ?_, hi.regE, hi.mm⟩
  show mget (C02.mset nid (N.pk nid) g.polKeys) i = _
  rw [mget_mset]
  split
  · rename_i h; rw [h]
  · exact hi.regP i hsome

theorem selOf_some {t : Str} {n : C06.Node} (h : selOf t = some n) : C06.parse t = .ok n := by
  unfold selOf at h
  cases hq : C06.parse t with
  | error e => rw [hq] at h; cases h
  | ok m => rw [hq] at h; rw [Option.some.inj h]

theorem mInv_keep {N : Numbering} {g g' : Graph} (k : Keep g g') (hi : MInv N g) : MInv N g' :=
  mInv_frame hi (by rw [k.res]) k.polKeys k.epKeys k.polEps k.lbl

theorem step_other_matched (r : C03.Resolver) (e : C03.Event)
    (h : match e with
      | .matchStarted _ _ => False
      | .matchStopped _ _ => False
      | _ => True) : (r.step e).matched = r.matched :=
  (C03.step_folds r e).matched.trans (by cases e <;> first | rfl | cases h)

theorem flushResolver_matched (g : Graph) : g.flushResolver.res.matched = g.res.matched :=
  flushResolver_res_cases (P := fun r => r.matched = g.res.matched) g rfl (fun _ _ => C03.flush_matched)

/-- what `MInv` asks of an action: a number is registered under the numbering's key, and before the label index
learns it; the resolver hears of matches from the label index's callbacks only -/
def Act.reg (N : Numbering) (g : Graph) : Act → Prop
  | .regEp nid key => key = N.ek nid
  | .regPol nid key => key = N.pk nid
  | .lbl (.updateSelector n _) => mget g.polKeys n = some (N.pk n)
  | .lbl (.updateLabels i _ _) => mget g.epKeys i = some (N.ek i)
  | .res (.matchStarted ..) | .res (.matchStopped ..) => False
  | _ => True

theorem mInv_act (H : IdFn) {N : Numbering} {g : Graph} (hi : MInv N g) : ∀ a : Act, a.reg N g → MInv N (g.act H a)
  | .regEp nid _, h => h ▸ mInv_regE hi nid
  | .regPol nid _, h => h ▸ mInv_regP hi nid
  | .prof u, _ => mInv_keep (keep_arcProfStep H g u) (mInv_frame hi rfl rfl rfl rfl rfl)
  | .lbl op, h => mInv_lblStep H hi op (fun _ _ e => by subst e; exact h) (fun _ _ _ e => by subst e; exact h)
  | .setPol .., _ | .panic, _ => mInv_frame hi rfl rfl rfl rfl rfl
  | .resend n, _ => mInv_keep (keep_sendIf H _ g n) hi
  | .res e, h => mInv_frame hi (step_other_matched g.res e (by cases e <;> first | trivial | exact h)) rfl rfl rfl rfl
  | .idx op, _ => mInv_keep (keep_idxOp g op) hi
  | .emit cs, _ => mInv_keep (keep_emit g cs) hi
  | .flushRes, _ => mInv_keep (keep_flushResolver g) (mInv_frame hi (flushResolver_matched g) rfl rfl rfl rfl)

/-- `UpdateSelector`'s table effect, given that both selectors are parser outputs -/
theorem updateSelector_sels (st : C07.Idx) (id : Nat) (n : C06.Node) (hn : C06.WF n)
    (hold : ∀ old, C07.lookup id st.sels = some old → C06.WF old) (k : Nat) :
    C07.lookup k (C07.updateSelector st id n).1.sels = if k = id then some n else C07.lookup k st.sels := by
  unfold C07.updateSelector
  cases ho : C07.lookup id st.sels with
  | none => exact C07.lookup_insert ..
  | some old =>
    simp only []
    by_cases ht : old.text = n.text
    · -- the old object is kept: it is the new one, both being parser outputs with the same text
      simp only [ht, if_true]
      have : old = n := C06.WF.text_inj (hold old ho) hn ht
      by_cases hk : k = id
      · subst hk; simp only [if_true]; rw [ho, this]
      · simp [hk]
    · simp only [ht, if_false]
      exact C07.lookup_insert ..

theorem selOf_wf {t : Str} {n : C06.Node} (h : selOf t = some n) : C06.WF n := C06.WF.of_parse (selOf_some h)

/-- `Cells` and not `Mirror`: these tables are only ever read by key, never enumerated, so no `range` is needed. -/
structure LTab (N : Numbering) (lbl : C07.Idx) (pols : List (Nat × PolVal)) (ds : DS) : Prop where
  sels : Cells id (fun _ (x : PolicyKey × PolVal) => selOf x.2.sel) (fun n => C07.lookup n lbl.sels) ds.pols
  items : Cells id (fun i (x : EpKey × Bool × EpVal) => if N.lc i then some (itemOf x.2.2) else none)
    (fun i => C07.lookup i lbl.items) ds.eps
  parents : Cells String.toList (fun _ ls => some (strLabels ls)) (fun k => C07.lookup k lbl.parents) ds.profLabels
  arcPols : Cells id (fun _ (x : PolicyKey × PolVal) => some x.2) (mget pols) ds.pols

theorem LInv.tab {N : Numbering} {g : Graph} {ds : DS} (hi : LInv N g ds) : LTab N g.lbl g.allPolicies ds :=
  ⟨hi.sels, fun i => (hi.items i).trans (by cases h : N.lc i <;> cases mget ds.eps i <;> simp [h]),
    fun p => (hi.parents p).trans (by cases mget ds.profLabels p <;> rfl),
    fun n => (hi.arcPols n).trans (by cases mget ds.pols n <;> rfl)⟩

theorem LTab.inv {N : Numbering} {g : Graph} {ds : DS} (ht : LTab N g.lbl g.allPolicies ds) (hm : MInv N g) : LInv N g ds :=
  ⟨hm, ht.sels, fun i => (ht.items i).trans (by cases h : N.lc i <;> cases mget ds.eps i <;> simp [h]),
    fun p => (ht.parents p).trans (by cases mget ds.profLabels p <;> rfl),
    fun n => (ht.arcPols n).trans (by cases mget ds.pols n <;> rfl)⟩

def lblAct (x : C07.Idx × List (Nat × PolVal)) : Act → C07.Idx × List (Nat × PolVal)
  | .lbl op => ((op.apply x.1).1, x.2)
  | .setPol nid v => (x.1, setOrDel nid v x.2)
  | _ => x

theorem lbl_act (H : IdFn) (g : Graph) : ∀ a : Act, ((g.act H a).lbl, (g.act H a).allPolicies) = lblAct (g.lbl, g.allPolicies) a
  | .regEp .. | .regPol .. | .setPol .. | .res _ | .panic => rfl
  | .prof u => Prod.ext (keep_arcProfStep H g u).lbl (keep_arcProfStep H g u).allPolicies
  | .lbl _ => Prod.ext (lblStep_up H g _).lbl (lblStep_up H g _).allPolicies
  | .resend n => Prod.ext (keep_sendIf H _ g n).lbl (keep_sendIf H _ g n).allPolicies
  | .idx op => Prod.ext (keep_idxOp g op).lbl (keep_idxOp g op).allPolicies
  | .emit cs => Prod.ext (keep_emit g cs).lbl (keep_emit g cs).allPolicies
  | .flushRes => Prod.ext (keep_flushResolver g).lbl (keep_flushResolver g).allPolicies

theorem lTab_step (H : IdFn) {N : Numbering} {g : Graph} {ds : DS} (ht : LTab N g.lbl g.allPolicies ds) (u : Upd)
    (hu : N.updOk u) (hp : selParses u) : LTab N (g.step H u).lbl (g.step H u).allPolicies (ds.apply u) := by
  have hcf := acts_proj (H := H) (fun g => (g.lbl, g.allPolicies)) lblAct (lbl_act H) (prog g u) g
  rw [← step_eq, foldl_prog _ (fun _ _ => rfl) (fun _ _ => rfl)] at hcf
  rw [show (g.step H u).lbl = _ from congrArg Prod.fst hcf, show (g.step H u).allPolicies = _ from congrArg Prod.snd hcf]
  clear hcf
  have idInj : ∀ a b : Nat, id a = id b → a = b := fun _ _ e => e
  cases u with
  | endpoint nid key isLocal v =>
    obtain ⟨rfl, rfl⟩ := hu
    cases hl : N.lc nid with
    | true =>
      show LTab N ((epLblOp nid v).apply g.lbl).1 g.allPolicies _
      refine ⟨by cases v <;> exact ht.sels, ht.items.write idInj nid _ fun k => ?_, by cases v <;> exact ht.parents, ht.arcPols⟩
      cases v with
      | none => exact C07.lookup_erase ..
      | some e => exact (C07.lookup_insert ..).trans (by simp only [Option.map_some, Option.bind_some, hl, if_true]; rfl)
    | false =>
      exact ⟨ht.sels, ht.items.skip nid _ fun _ => by simp only [hl, Bool.false_eq_true, if_false], ht.parents, ht.arcPols⟩
  | profLabels pid v =>
    show LTab N ((profLblOp pid v).apply g.lbl).1 g.allPolicies _
    refine ⟨by cases v <;> exact ht.sels, by cases v <;> exact ht.items,
      ht.parents.write (fun _ _ e => String.toList_inj.1 e) pid v fun k => ?_, ht.arcPols⟩
    cases v with
    | none => exact C07.lookup_erase ..
    | some ls => exact C07.lookup_insert ..
  | policy nid key v =>
    have hk : key = N.pk nid := hu
    subst hk
    rw [foldl_upper_policy]
    show LTab N ((polProg g nid v).foldl lblAct (g.lbl, g.allPolicies)).1 ((polProg g nid v).foldl lblAct (g.lbl, g.allPolicies)).2 _
    cases v with
    | none =>
      exact ⟨ht.sels.write idInj nid none fun k => C07.lookup_erase .., ht.items, ht.parents,
        ht.arcPols.write idInj nid none fun k => mget_mdel ..⟩
    | some pv =>
      have hsel : (selOf pv.sel).isSome = true := hp
      simp only [polProg]
      split
      · -- reflect.DeepEqual: nothing happens; the datastore writes what the two tables hold already
        next hsame =>
        have hold := ht.arcPols nid
        rw [show mget g.allPolicies (id nid) = some pv from hsame] at hold
        obtain ⟨x, hx, hxv⟩ := Option.bind_eq_some_iff.1 hold.symm
        cases hxv
        refine ⟨ht.sels.write idInj nid (some (N.pk nid, x.2)) fun k => ?_, ht.items, ht.parents,
          ht.arcPols.write idInj nid (some (N.pk nid, x.2)) fun k => ?_⟩
        · split
          · next e => rw [e]; exact (ht.sels nid).trans (by rw [hx]; rfl)
          · rfl
        · split
          · next e => rw [e]; exact hsame
          · rfl
      · obtain ⟨sel, hsl⟩ := Option.isSome_iff_exists.1 hsel
        have hparse : C06.parse pv.sel = .ok sel := selOf_some hsl
        simp only [hparse, List.foldl_cons, List.foldl_nil, lblAct]
        have hold : ∀ old, C07.lookup nid g.lbl.sels = some old → C06.WF old := fun old ho => by
          obtain ⟨x, _, hxs⟩ := Option.bind_eq_some_iff.1 ((ht.sels nid).symm.trans ho)
          exact selOf_wf hxs
        refine ⟨ht.sels.write idInj nid (some (N.pk nid, pv)) fun k => ?_, ?_, ?_,
          ht.arcPols.write idInj nid (some (N.pk nid, pv)) fun k => mget_mset ..⟩
        · exact (updateSelector_sels g.lbl nid sel (C06.WF.of_parse hparse) hold k).trans (by rw [← hsl]; rfl)
        · exact fun i => (congrArg (C07.lookup i) (C07.updateSelector_other g.lbl nid sel).1).trans (ht.items i)
        · exact fun q => (congrArg (C07.lookup q.toList) (C07.updateSelector_other g.lbl nid sel).2).trans (ht.parents q)
  | _ => exact ⟨ht.sels, ht.items, ht.parents, ht.arcPols⟩

def Numbering.stOk (N : Numbering) : HStep → Prop
  | .upd u => N.updOk u ∧ selParses u
  | _ => True

def Numbering.histOk (N : Numbering) (h : List HStep) : Prop := ∀ st ∈ h, N.stOk st

theorem Numbering.histOk.stepOk {N : Numbering} {h : List HStep} (hN : N.histOk h) : ∀ st ∈ h, N.stepOk st := by
  intro st hst
  have := hN st hst
  cases st with
  | upd u => exact this.1
  | inSync => trivial
  | flush => trivial

theorem mInv_new (N : Numbering) (s : Bool) : MInv N (Graph.new s) :=
  ⟨arcInv_new s, fun _ h => (nomatch h), fun _ h => (nomatch h), fun p e => by simp [Graph.new]⟩

theorem lTab_new (N : Numbering) (s : Bool) : LTab N (Graph.new s).lbl (Graph.new s).allPolicies {} :=
  ⟨fun _ => rfl, fun _ => rfl, fun _ => rfl, fun _ => rfl⟩

theorem lookup_strLabels (ls : C04.Labels) (k : Str) : C07.lookup k (strLabels ls) = labelsFn ls k := by
  induction ls with
  | nil => rfl
  | cons kv t ih =>
    simp only [strLabels, List.map_cons, C07.lookup, labelsFn, List.find?_cons]
    by_cases hk : kv.1.toList = k
    · simp [hk]
    · simp only [hk, if_false, decide_false]
      exact ih

theorem labelsFn_append (a b : C04.Labels) (k : Str) :
    labelsFn (a ++ b) k = match labelsFn a k with
      | some v => some v
      | none => labelsFn b k := by
  unfold labelsFn
  rw [List.find?_append]
  cases List.find? (fun kv => decide (kv.1.toList = k)) a <;> rfl

theorem firstParent_ds {st : C07.Idx} {ds : DS}
    (hp : ∀ pid : String, C07.lookup pid.toList st.parents = (mget ds.profLabels pid).map strLabels) (k : Str) :
    ∀ ps : List String, C07.firstParent st k (ps.map String.toList) =
      labelsFn (ps.flatMap (fun p => (mget ds.profLabels p).getD [])) k
  | [] => rfl
  | p :: rest => by
    simp only [List.map_cons, C07.firstParent, List.flatMap_cons]
    rw [labelsFn_append, firstParent_ds hp k rest]
    have : C07.parentLabels st p.toList = strLabels ((mget ds.profLabels p).getD []) := by
      unfold C07.parentLabels
      rw [hp p]
      cases mget ds.profLabels p <;> rfl
    rw [this, lookup_strLabels]
    cases labelsFn ((mget ds.profLabels p).getD []) k <;> rfl

theorem effLabels_ds {st : C07.Idx} {ds : DS}
    (hp : ∀ pid : String, C07.lookup pid.toList st.parents = (mget ds.profLabels pid).map strLabels) (v : EpVal) :
    C07.effLabels st (itemOf v) = labelsFn (ds.effLabels v.labels v.profiles) := by
  funext k
  unfold C07.effLabels DS.effLabels itemOf
  simp only []
  rw [labelsFn_append, lookup_strLabels, firstParent_ds hp k v.profiles]
  cases labelsFn v.labels k <;> rfl

theorem mem_matched {ds : DS} {p : PolicyKey} {e : EpKey} : (p, e) ∈ ds.matched ↔
    ∃ px ∈ ds.pols, ∃ ey ∈ ds.eps, ey.2.2.1 = true ∧
      matchSrc px.2.2.sel (ds.effLabels ey.2.2.2.labels ey.2.2.2.profiles) = true ∧ p = px.2.1 ∧ e = ey.2.1 := by
  simp only [DS.matched, DS.localEps, List.mem_flatMap, List.mem_filterMap, Option.ite_none_right_eq_some,
    Option.some.injEq, Prod.mk.injEq]
  constructor
  · rintro ⟨px, hpx, _, ⟨ey, hey, hl, rfl⟩, hm, rfl, rfl⟩
    exact ⟨px, hpx, ey, hey, hl, hm, rfl, rfl⟩
  · rintro ⟨px, hpx, ey, hey, hl, hm, rfl, rfl⟩
    exact ⟨px, hpx, _, ⟨ey, hey, hl, rfl⟩, hm, rfl, rfl⟩

theorem matchSrc_iff {t : Str} {ls : C04.Labels} :
    matchSrc t ls = true ↔ ∃ n, selOf t = some n ∧ n.eval (labelsFn ls) = true := by
  unfold matchSrc selOf
  cases C06.parse t <;> simp

theorem polEps_ds {N : Numbering} {g : Graph} {ds : DS} (hi : LInv N g ds) (n i : Nat) : (n, i) ∈ g.polEps ↔
    ∃ x y, mget ds.pols n = some x ∧ mget ds.eps i = some y ∧ N.lc i = true ∧
      matchSrc x.2.sel (ds.effLabels y.2.2.labels y.2.2.profiles) = true := by
  rw [hi.m.arc.mirrors (n, i), hi.m.arc.idx.sound (n, i)]
  show (∃ sel it, C07.lookup n g.lbl.sels = some sel ∧ C07.lookup i g.lbl.items = some it ∧ _) ↔ _
  rw [hi.sels n, hi.items i]
  constructor
  · rintro ⟨sel, it, hs, hit, hev⟩
    obtain ⟨x, hx, hsx⟩ := Option.bind_eq_some_iff.1 hs
    cases hl : N.lc i with
    | false => rw [hl] at hit; cases hit
    | true =>
      rw [hl] at hit
      obtain ⟨y, hy, rfl⟩ := Option.map_eq_some_iff.1 hit
      exact ⟨x, y, hx, hy, rfl, matchSrc_iff.2 ⟨sel, hsx, effLabels_ds hi.parents y.2.2 ▸ hev⟩⟩
  · rintro ⟨x, y, hx, hy, hl, hm⟩
    obtain ⟨sel, hsx, hev⟩ := matchSrc_iff.1 hm
    exact ⟨sel, itemOf y.2.2, by rw [hx]; exact hsx, by rw [hl, hy]; rfl, (effLabels_ds hi.parents y.2.2).symm ▸ hev⟩

theorem matched_eq_ds {N : Numbering} {g : Graph} {ds : DS} (hi : LInv N g ds) (hd : DSOk N ds)
    (p : PolicyKey) (e : EpKey) : (p, e) ∈ g.res.matched ↔ (p, e) ∈ ds.matched := by
  rw [hi.m.mm p e, mem_matched]
  constructor
  · rintro ⟨n, i, hq, rfl, rfl⟩
    obtain ⟨x, y, hx, hy, hl, hm⟩ := (polEps_ds hi n i).1 hq
    have hxm := mem_of_mget hx
    have hym := mem_of_mget hy
    exact ⟨_, hxm, _, hym, ((hd.epsConf _ hym).2).trans hl, hm, (hd.polsConf _ hxm).symm, (hd.epsConf _ hym).1.symm⟩
  · rintro ⟨⟨n, x⟩, hxm, ⟨i, y⟩, hym, hl, hm, rfl, rfl⟩
    exact ⟨n, i, (polEps_ds hi n i).2 ⟨x, y, mget_of_mem hd.pols hxm, mget_of_mem hd.eps hym,
      ((hd.epsConf _ hym).2).symm.trans hl, hm⟩, hd.polsConf _ hxm, (hd.epsConf _ hym).1⟩

end CalicoVerif.C01
