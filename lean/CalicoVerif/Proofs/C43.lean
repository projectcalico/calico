import CalicoVerif.Model.C43
import CalicoVerif.Proofs.Assoc
/-!
C43 — association lists, and the `accStep` fold of `routeOfPath` over the lookup path of a block route.
-/
namespace CalicoVerif.C43

theorem aget_eq {κ α} [BEq κ] [LawfulBEq κ] [DecidableEq κ] (m : List (κ × α)) (k : κ) : aget m k = Assoc.get m k :=
  Assoc.lookup_eq m k

theorem aget_cons {κ α} [BEq κ] [LawfulBEq κ] [DecidableEq κ] (p : κ × α) (m : List (κ × α)) (k : κ) :
    aget (p :: m) k = if p.1 = k then some p.2 else aget m k := by
  rw [aget_eq, aget_eq]; rfl

theorem aget_aset {κ α} [BEq κ] [LawfulBEq κ] [DecidableEq κ] (m : List (κ × α)) (k k' : κ) (v : α) :
    aget (aset m k v) k' = if k = k' then some v else aget m k' := by
  induction m with
  | nil => rw [aset, aget_cons]
  | cons p m ih =>
    rw [aset]
    by_cases h0 : p.1 = k
    · rw [if_pos (beq_iff_eq.2 h0), aget_cons, aget_cons, h0]; split <;> rfl
    · rw [if_neg (by simpa using h0), aget_cons, aget_cons, ih]
      split
      · rw [if_neg (by rintro rfl; contradiction)]
      · rfl

theorem aget_adel {κ α} [BEq κ] [LawfulBEq κ] [DecidableEq κ] (m : List (κ × α)) (k k' : κ) :
    aget (adel m k) k' = if k = k' then none else aget m k' := by
  rw [aget_eq, aget_eq, adel, Assoc.get_filter m (fun x => !(x == k))]
  by_cases h : k = k'
  · simp [h]
  · simp [h, Ne.symm h]

theorem aget_some_mem {κ α} [BEq κ] [LawfulBEq κ] [DecidableEq κ] (m : List (κ × α)) (k : κ) (v : α)
    (h : aget m k = some v) : (k, v) ∈ m :=
  Assoc.mem_of_get (aget_eq m k ▸ h)

theorem mem_aset {κ α} [BEq κ] (m : List (κ × α)) (k : κ) (v : α) (e : κ × α) (h : e ∈ aset m k v) :
    e = (k, v) ∨ e ∈ m := by
  induction m with
  | nil => simpa [aset] using h
  | cons p m ih =>
    simp only [aset] at h
    split at h
    · exact (List.mem_cons.1 h).imp_right (List.mem_cons_of_mem _)
    · rcases List.mem_cons.1 h with h | h
      · exact Or.inr (h ▸ List.mem_cons_self)
      · exact (ih h).imp_right (List.mem_cons_of_mem _)

theorem mem_adel {κ α} [BEq κ] (m : List (κ × α)) (k : κ) (e : κ × α) (h : e ∈ adel m k) : e ∈ m :=
  (List.mem_filter.1 h).1

theorem aset_nodup {κ α} [BEq κ] [LawfulBEq κ] (m : List (κ × α)) (k : κ) (v : α)
    (h : (m.map Prod.fst).Nodup) : ((aset m k v).map Prod.fst).Nodup := by
  induction m with
  | nil => simp [aset]
  | cons p m ih =>
    rw [List.map_cons, List.nodup_cons] at h
    rw [aset]
    split
    · rename_i hk; rw [List.map_cons, List.nodup_cons, ← eq_of_beq hk]; exact h
    · rename_i hk
      rw [List.map_cons, List.nodup_cons]
      refine ⟨fun hm => ?_, ih h.2⟩
      obtain ⟨e, he, hp⟩ := List.mem_map.1 hm
      rcases mem_aset _ _ _ _ he with rfl | he
      · exact hk (by simpa using hp.symm)
      · exact h.1 (List.mem_map.2 ⟨e, he, hp⟩)

theorem mem_aget_of_nodup {κ α} [BEq κ] [LawfulBEq κ] [DecidableEq κ] (m : List (κ × α)) (k : κ) (v : α)
    (hn : (m.map Prod.fst).Nodup) (h : (k, v) ∈ m) : aget m k = some v :=
  (aget_eq m k).trans (Assoc.get_of_mem hn h)

theorem ite_ite_same {α} (c : Prop) [Decidable c] (a b x : α) :
    (if c then a else if c then b else x) = if c then a else x := by
  split <;> rfl

theorem applyEvents_append (sent : List (Cidr × RouteUpdate)) (a b : List Event) :
    applyEvents sent (a ++ b) = applyEvents (applyEvents sent a) b := by
  simp [applyEvents, List.foldl_append]

theorem aget_applyEvents_one (sent : List (Cidr × RouteUpdate)) (e : Event) (c : Cidr) :
    aget (applyEvents sent [e]) c =
      if e.dst = c then (match e with | .update r => some r | .remove _ => none) else aget sent c := by
  cases e with
  | update r => exact aget_aset sent r.dst c r
  | remove d => exact aget_adel sent d c

/-- used for the entries above a block route, where `Aux` gives it. -/
def PlainAncestors (pre : List (Cidr × RouteInfo)) : Prop :=
  ∀ e ∈ pre, e.2.hosts = [] ∧ e.2.refs = []

def poolCross (e : Cidr × RouteInfo) : Bool := match e.2.pool with | some p => p.cross | none => false

def pathCross (path : List (Cidr × RouteInfo)) : Bool := path.any poolCross

/-- the values `blockTypes` takes: a subset of LOCAL_WORKLOAD | REMOTE_WORKLOAD. -/
def BT (x : Nat) : Prop :=
  x = 0 ∨ x = tRemoteWorkload ∨ x = tLocalWorkload ∨ x = tRemoteWorkload ||| tLocalWorkload

theorem BT.or (x : Nat) (h : BT x) (b : Bool) : BT (x ||| (if b then tLocalWorkload else tRemoteWorkload)) := by
  rcases h with h | h | h | h <;> subst h <;> cases b <;> simp [BT, tLocalWorkload, tRemoteWorkload]

theorem BT.isType {t : Nat} (h : BT t) (b : Bool) :
    ((t ||| (if b then tLocalWorkload else tRemoteWorkload)) &&& (if b then tLocalWorkload else tRemoteWorkload)
      == (if b then tLocalWorkload else tRemoteWorkload)) = true ∧
    ((t ||| (if b then tLocalWorkload else tRemoteWorkload)) &&& tRemoteTunnel == tRemoteTunnel) = false := by
  rcases h with rfl | rfl | rfl | rfl <;> cases b <;> decide

theorem accStep_plain (me : Nat) (c : Cidr) (a : Acc) (e : Cidr × RouteInfo)
    (hh : e.2.hosts = []) (hr : e.2.refs = []) :
    accStep me c a e = accBlock me c (accPool a e.2) e := by
  simp [accStep, accHost, accRefs, hh, hr]

/-- What a run of host-free path entries does to the accumulator, as far as a block route reads it;
`x` = one of the entries is a cross-subnet pool. -/
structure PlainRun (x : Bool) (a b : Acc) : Prop where
  cross : b.cross = (a.cross || x)
  types : b.types = a.types
  hasHostRef : b.hasHostRef = a.hasHostRef
  localWorkload : b.localWorkload = a.localWorkload
  bt : BT a.blockTypes → BT b.blockTypes

theorem PlainRun.refl (a : Acc) : PlainRun false a a := ⟨(Bool.or_false _).symm, rfl, rfl, rfl, id⟩

theorem PlainRun.trans {x y : Bool} {a b c : Acc} (h1 : PlainRun x a b) (h2 : PlainRun y b c) :
    PlainRun (x || y) a c :=
  ⟨by rw [h2.cross, h1.cross, Bool.or_assoc], h2.types.trans h1.types, h2.hasHostRef.trans h1.hasHostRef,
    h2.localWorkload.trans h1.localWorkload, fun h => h2.bt (h1.bt h)⟩

theorem accPool_blockTypes (a : Acc) (ri : RouteInfo) : (accPool a ri).blockTypes = a.blockTypes := by
  unfold accPool; cases ri.pool <;> rfl

theorem accPool_run (a : Acc) (e : Cidr × RouteInfo) : PlainRun (poolCross e) a (accPool a e.2) := by
  unfold accPool poolCross
  cases e.2.pool with
  | none => exact PlainRun.refl a
  | some p => exact ⟨rfl, rfl, rfl, rfl, id⟩

theorem accHost_poolType (me : Nat) (a : Acc) (ri : RouteInfo) : (accHost me a ri).poolType = a.poolType := by
  unfold accHost
  cases ri.hosts <;> rfl

theorem accRefs_poolType (me : Nat) (a : Acc) (ri : RouteInfo) : (accRefs me a ri).poolType = a.poolType := by
  unfold accRefs
  cases ri.refs with
  | nil => rfl
  | cons r0 rs =>
    simp only []
    split
    · split <;> rfl
    · rfl

theorem accBlock_poolType (me : Nat) (c : Cidr) (a : Acc) (e : Cidr × RouteInfo) :
    (accBlock me c a e).poolType = a.poolType := by
  unfold accBlock
  cases e.2.block with
  | none => rfl
  | some n => simp only []; split <;> rfl

theorem accBlock_run (me : Nat) (c : Cidr) (a : Acc) (e : Cidr × RouteInfo) :
    PlainRun false a (accBlock me c a e) := by
  unfold accBlock
  cases e.2.block with
  | none => exact PlainRun.refl a
  | some n =>
    simp only []
    split <;> exact ⟨(Bool.or_false _).symm, rfl, rfl, rfl, fun hbt => BT.or _ hbt _⟩

theorem accStep_run (me : Nat) (c : Cidr) (a : Acc) (e : Cidr × RouteInfo)
    (hh : e.2.hosts = []) (hr : e.2.refs = []) : PlainRun (poolCross e) a (accStep me c a e) := by
  rw [accStep_plain me c a e hh hr]
  have := (accPool_run a e).trans (accBlock_run me c (accPool a e.2) e)
  rwa [Bool.or_false] at this

theorem fold_plain (me : Nat) (c : Cidr) (pre : List (Cidr × RouteInfo)) (hp : PlainAncestors pre) (a : Acc) :
    PlainRun (pathCross pre) a (pre.foldl (accStep me c) a) := by
  induction pre generalizing a with
  | nil => exact PlainRun.refl a
  | cons e pre ih =>
    exact (accStep_run me c a e (hp e List.mem_cons_self).1 (hp e List.mem_cons_self).2).trans
      (ih (fun x hx => hp x (List.mem_cons_of_mem _ hx)) (accStep me c a e))

theorem pathCross_append (p q : List (Cidr × RouteInfo)) : pathCross (p ++ q) = (pathCross p || pathCross q) := by
  simp [pathCross]

/-- what the entry of the block itself (owner `n`, no host, no ref) does to the accumulator `A`. -/
structure BlockStep (me : Nat) (A B : Acc) (n : Nat) : Prop where
  dstNode : B.dstNode = some n
  blockSeen : B.blockSeen = true
  blockMatches : B.blockMatches = true
  blockTypes : B.blockTypes = (A.blockTypes ||| (if n == me then tLocalWorkload else tRemoteWorkload))

theorem last_block (me : Nat) (c : Cidr) (A : Acc) (ri : RouteInfo) (n : Nat)
    (hb : ri.block = some n) (hh : ri.hosts = []) (hr : ri.refs = []) :
    BlockStep me A (accStep me c A (c, ri)) n := by
  rw [accStep_plain me c A (c, ri) hh hr]
  have p5 := accPool_blockTypes A ri
  unfold accBlock
  simp only [hb]
  split <;> (constructor <;> simp_all)

/-- what the resolver computes for a block (or borrowed address) `c` of node `n` over the lookup path `path`. -/
structure BlockRoute (me : Nat) (nodes : List (Nat × NodeInfo)) (c : Cidr) (path : List (Cidr × RouteInfo))
    (n : Nat) (r : RouteUpdate) : Prop where
  dst : r.dst = c
  dstNode : r.dstNode = some n
  ofNode : isType r (if n == me then tLocalWorkload else tRemoteWorkload) = true
  notTunnel : isType r tRemoteTunnel = false
  localWorkload : r.localWorkload = false
  dstNodeIp : r.dstNodeIp = (match aget nodes n with | some ni => ni.addrOf c.v6 | none => 0)
  sameSubnet : r.sameSubnet = (pathCross path && (aget nodes n).isSome && nodeInOurSubnet c.v6 me nodes n)

theorem routeOfPath_block (me : Nat) (nodes : List (Nat × NodeInfo)) (c : Cidr)
    (pre : List (Cidr × RouteInfo)) (ri : RouteInfo) (n : Nat)
    (hpre : PlainAncestors pre) (hb : ri.block = some n) (hh : ri.hosts = []) (hr : ri.refs = []) :
    BlockRoute me nodes c (pre ++ [(c, ri)]) n (routeOfPath me nodes c (pre ++ [(c, ri)])) := by
  have hf := fold_plain me c pre hpre {}
  have hs := accStep_run me c (pre.foldl (accStep me c) {}) (c, ri) hh hr
  have hl := last_block me c (pre.foldl (accStep me c) {}) ri n hb hh hr
  have hty := (hf.bt (Or.inl rfl)).isType (n == me)
  have htypes : (routeOfPath me nodes c (pre ++ [(c, ri)])).types =
      (pre.foldl (accStep me c) {}).blockTypes ||| (if n == me then tLocalWorkload else tRemoteWorkload) := by
    unfold routeOfPath
    simp only [List.foldl_append, List.foldl_cons, List.foldl_nil]
    simp [hl.blockSeen, hl.blockMatches, hl.blockTypes, hs.types, hs.hasHostRef, hf.types, hf.hasHostRef]
  refine ⟨rfl, ?_, ?_, ?_, ?_, ?_, ?_⟩
  · unfold routeOfPath
    simp only [List.foldl_append, List.foldl_cons, List.foldl_nil, hl.dstNode]
  · unfold isType; rw [htypes]; exact hty.1
  · unfold isType; rw [htypes]; exact hty.2
  · unfold routeOfPath
    simp only [List.foldl_append, List.foldl_cons, List.foldl_nil, hs.localWorkload, hf.localWorkload]
  · unfold routeOfPath
    simp only [List.foldl_append, List.foldl_cons, List.foldl_nil, hl.dstNode]
    rfl
  · unfold routeOfPath
    simp only [List.foldl_append, List.foldl_cons, List.foldl_nil, hl.dstNode, hs.cross, hf.cross, pathCross_append]
    simp [pathCross, Bool.and_assoc]

end CalicoVerif.C43
