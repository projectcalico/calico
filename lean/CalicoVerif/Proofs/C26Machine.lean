import CalicoVerif.Proofs.C26Inv
/-!
C26 — the invariant through each primitive of the cache model: the status primitives (`_cases` where there is a case
split, then `_told`), the parts of a List step (put together in `listStep_spec` in `C26Loop`), the Watch-create step of
`maybeResyncAndCreateWatcher`, and the watch-event loop, which is the fold a List runs (`eventLoop_eq`).
-/
namespace CalicoVerif.C26

/-- Between list processings `oldResources` is nil. -/
structure Good (m0 : View) (st0 : Nat) (wc : WC) : Prop where
  inv : Inv m0 st0 wc
  idle : wc.old = none

theorem Good.view_eq {m0 : View} {st0 : Nat} {wc : WC} (h : Good m0 st0 wc) (k : Nat) : view wc k = lookup wc.res k :=
  view_idle h.idle k

theorem Good.send_status {m0 : View} {st0 : Nat} {wc : WC} (h : Good m0 st0 wc) (s : Nat) :
    Good m0 st0 (wc.send (.status s)) :=
  ⟨h.inv.send_status s, by rw [send_old]; exact h.idle⟩

theorem Good.send_backendErr {m0 : View} {st0 : Nat} {wc : WC} (h : Good m0 st0 wc) :
    Good m0 st0 (wc.send .backendErr) :=
  ⟨h.inv.send _ fun _ e => Res.noConfusion e, by rw [send_old]; exact h.idle⟩

theorem Good.same {m0 : View} {st0 : Nat} {wc w : WC} (h : Good m0 st0 wc) (s : Same wc w) : Good m0 st0 w :=
  ⟨h.inv.same s, s.old.trans h.idle⟩

theorem Told.good {m0 : View} {st0 : Nat} {wc w : WC} (t : Told wc w) (h : Good m0 st0 wc) : Good m0 st0 w :=
  ⟨t.inv h.inv, t.old.trans h.idle⟩

theorem leaveWait_cases (wc : WC) :
    (wc.status ≠ stWait ∧ wc.leaveWait = wc) ∨ wc.leaveWait = wc.send (.status stResync) := by
  unfold WC.leaveWait; split
  · exact Or.inr rfl
  · next h => exact Or.inl ⟨h, rfl⟩

theorem leaveWait_told (wc : WC) : Told wc wc.leaveWait := by
  rcases leaveWait_cases wc with ⟨_, e⟩ | e
  · exact ⟨wc, Same.refl wc, Or.inl e⟩
  · exact ⟨wc, Same.refl wc, Or.inr ⟨stResync, by decide, e⟩⟩

theorem leaveWait_status (wc : WC) : wc.leaveWait.status ≠ stWait := by
  rcases leaveWait_cases wc with ⟨h, e⟩ | e <;> rw [e]
  · exact h
  · rw [send_status]; decide

theorem leaveWait_view (wc : WC) (k : Nat) : view wc.leaveWait k = view wc k :=
  view_congr (leaveWait_told wc).res (leaveWait_told wc).old k

theorem leaveWait_oldLookup (wc : WC) (k : Nat) : oldLookup wc.leaveWait k = oldLookup wc k := by
  rw [oldLookup, (leaveWait_told wc).old]; rfl

structure SweepOK (m0 : View) (st0 : Nat) (wc w : WC) : Prop where
  good : Good m0 st0 w
  res : w.res = wc.res
  keeps : Keeps wc w

theorem sweep_ok {m0 : View} {st0 : Nat} {wc : WC} (h : Inv m0 st0 wc) (hs : wc.status ≠ stWait) :
    SweepOK m0 st0 wc wc.sweep := by
  -- nothing left to sweep: dropping `oldResources` changes nothing
  have same : (∀ k, oldLookup wc k = none) → Inv m0 st0 { wc with old := none } := fun hn =>
    h.rearrange _ rfl rfl (fun k hk => absurd (oldLookup_idle rfl k) hk) fun k => by rw [view, view, hn k, oldLookup_idle rfl k]
  unfold WC.sweep
  cases ho : wc.old with
  | none => exact ⟨⟨same (oldLookup_idle ho), rfl⟩, rfl, ⟨rfl, rfl⟩⟩
  | some o =>
    simp only
    split
    · next hoe =>
      refine ⟨⟨same fun k => ?_, rfl⟩, rfl, ⟨rfl, rfl⟩⟩
      rw [oldLookup, ho, List.isEmpty_iff.mp hoe]; rfl
    · refine ⟨⟨h.emits (onlyUpdates_singleton _) (Or.inl hs) _ rfl rfl (fun k hk => absurd (oldLookup_idle rfl k) hk)
        (fun k => ?_), rfl⟩, rfl, ⟨rfl, rfl⟩⟩
      show _ = ((sortKeys (keysOf o)).map delUpd).foldl applyUpd (view wc) k
      simp only [foldl_delUpd, mem_sortKeys, mem_keysOf]
      by_cases c : lookup o k = none
      · rw [if_neg fun h => h c]
        simp only [view, WC.send, oldLookup, ho, Option.bind_some, c, Option.bind_none]
      · rw [if_pos c]
        have := h.disj k (by rw [oldLookup, ho]; exact c)
        simp only [view, WC.send, this, oldLookup, Option.bind_none]

/-- What `finishResync` does to a cache `wc`, giving `w`. -/
structure FinishOK (m0 : View) (st0 : Nat) (wc w : WC) : Prop where
  inv : Inv m0 st0 w
  idle : w.old = none
  status : w.status = stInSync
  view : ∀ k, view w k = if oldLookup wc k ≠ none then none else view wc k
  mode : w.proc = wc.proc

theorem FinishOK.good {m0 : View} {st0 : Nat} {wc w : WC} (f : FinishOK m0 st0 wc w) : Good m0 st0 w :=
  ⟨f.inv, f.idle⟩

theorem finishResync_ok {m0 : View} {st0 : Nat} {wc : WC} (h : Inv m0 st0 wc) :
    FinishOK m0 st0 wc wc.finishResync ∧ Keeps wc wc.finishResync := by
  have lw := leaveWait_told wc
  have sw := sweep_ok (lw.inv h) (leaveWait_status wc)
  have kp : Keeps wc wc.finishResync := (lw.keeps.trans sw.keeps).trans (send_keeps _ _)
  unfold WC.finishResync at kp ⊢
  refine ⟨⟨sw.good.inv.send_status _, by rw [send_old]; exact sw.good.idle, send_status _ _, fun k => ?_, kp.proc⟩, kp⟩
  have : view (wc.leaveWait.sweep.send (.status stInSync)) k = lookup wc.res k := by
    simp only [view, oldLookup, send_res, send_old, sw.good.idle, sw.res, lw.res, Option.bind_none]
    cases lookup wc.res k <;> rfl
  rw [this]
  by_cases c : oldLookup wc k = none
  · simp only [c, ne_eq, not_true_eq_false, if_false, view]
    cases lookup wc.res k <;> rfl
  · simp only [c, ne_eq, not_false_eq_true, if_true]
    exact h.disj k c

theorem finishResync_status (wc : WC) : wc.finishResync.status = stInSync ∧ wc.finishResync.old = none := by
  unfold WC.finishResync
  refine ⟨send_status _ _, ?_⟩
  rw [send_old]
  unfold WC.sweep
  split
  · split <;> rfl
  · rfl

def delResults (ks : List Nat) : List Res := ks.map (fun k => Res.updates [delUpd k])

structure Sent (wc w : WC) (ext : List Res) : Prop where
  out : w.out = wc.out ++ ext
  status : w.status = wc.status
  old : w.old = wc.old
  keeps : Keeps wc w

theorem sendDels_fields (ks : List Nat) (wc : WC) :
    Sent wc (ks.foldl (fun wc k => wc.send (.updates [delUpd k])) wc) (delResults ks) := by
  induction ks generalizing wc with
  | nil => exact ⟨(List.append_nil _).symm, rfl, rfl, Keeps.refl _⟩
  | cons k ks ih =>
    have t := ih (wc.send (.updates [delUpd k]))
    exact ⟨by rw [List.foldl_cons, t.out]; simp [delResults, WC.send], t.status, t.old,
      (send_keeps _ _).trans t.keeps⟩

theorem downFrom_delResults (m : View) (ks : List Nat) :
    downFrom m (delResults ks) = (ks.map delUpd).foldl applyUpd m := by
  induction ks generalizing m with
  | nil => rfl
  | cons x xs ih => exact ih _

theorem leaveWaitIfAny_cases (wc : WC) :
    ((wc.status ≠ stWait ∨ wc.res = []) ∧ wc.leaveWaitIfAny = wc) ∨
      wc.leaveWaitIfAny = wc.send (.status stResync) := by
  unfold WC.leaveWaitIfAny
  split
  · exact Or.inr rfl
  · next hc =>
    refine Or.inl ⟨?_, rfl⟩
    simp only [Bool.and_eq_true, Bool.not_eq_true', decide_eq_true_eq, not_and] at hc
    by_cases he : wc.res.isEmpty = true
    · right; simpa using he
    · left; exact hc (by simpa using he)

theorem leaveWaitIfAny_told (wc : WC) : Told wc wc.leaveWaitIfAny := by
  rcases leaveWaitIfAny_cases wc with ⟨_, e⟩ | e
  · exact ⟨wc, Same.refl wc, Or.inl e⟩
  · exact ⟨wc, Same.refl wc, Or.inr ⟨stResync, by decide, e⟩⟩

theorem leaveWaitIfAny_status (wc : WC) : wc.leaveWaitIfAny.status ≠ stWait ∨ wc.res = [] := by
  rcases leaveWaitIfAny_cases wc with ⟨h, e⟩ | e <;> rw [e]
  · exact h
  · rw [send_status]; exact Or.inl (by decide)

structure ClearedOK (m0 : View) (st0 : Nat) (wc w : WC) : Prop where
  good : Good m0 st0 w
  res : w.res = []
  rev : w.rev = 0
  keeps : Keeps wc w

theorem sendDeletionsForAll_ok {m0 : View} {st0 : Nat} {wc : WC} (h : Good m0 st0 wc) :
    ClearedOK m0 st0 wc wc.sendDeletionsForAll := by
  have h1 := (leaveWaitIfAny_told wc).good h
  have r1 := (leaveWaitIfAny_told wc).res
  have hs1 := leaveWaitIfAny_status wc
  have k1 := (leaveWaitIfAny_told wc).keeps
  unfold WC.sendDeletionsForAll
  generalize wc.leaveWaitIfAny = w1 at h1 r1 hs1 k1
  have sd : Sent w1 w1.sendDels (delResults (sortKeys (keysOf w1.res))) := sendDels_fields _ w1
  have hidle : w1.sendDels.clearAll.old = none := sd.old.trans h1.idle
  refine ⟨⟨h1.inv.emits (fun r hr => ?_) (hs1.imp id fun e => by rw [r1, e]; rfl) _ sd.out sd.status
    (fun k hk => absurd (oldLookup_idle hidle k) hk) fun k => ?_, hidle⟩, rfl, rfl, (k1.trans sd.keeps).trans ⟨rfl, rfl⟩⟩
  · obtain ⟨k, _, rfl⟩ := List.mem_map.mp hr; exact ⟨_, rfl⟩
  · -- every key of `resources` is deleted downstream, and there are no others
    rw [downFrom_delResults, foldl_delUpd, h1.view_eq]
    have hv : view w1.sendDels.clearAll k = none := by rw [view_idle hidle]; rfl
    rw [hv]
    split
    · rfl
    · next c => exact (Decidable.not_not.mp fun e => c ((mem_sortKeys _ _).mpr ((mem_keysOf _ _).mpr e))).symm

/-- What a successful List of `kvs` does to a cache `wc` between calls, giving `w`. -/
structure ListOK (m0 : View) (st0 : Nat) (wc w : WC) (kvs : List KV) : Prop where
  good : Good m0 st0 w
  status : w.status = stInSync
  /-- whatever the cache held before, it now holds exactly the list as converted by the processor from its state
  at the start of the list (fresh, since `OnSyncerStarting` is called just before every List) -/
  view : ∀ k, view w k = (convSeq wc.proc wc.pst kvs).foldl applyKV emptyView k
  mode : w.proc = wc.proc
  pst : w.pst = convState wc.proc wc.pst kvs

theorem processList_ok {m0 : View} {st0 : Nat} {wc : WC} (h : Good m0 st0 wc) (kvs : List KV) :
    ListOK m0 st0 wc (wc.processList kvs) kvs := by
  -- mark connected, then leave WaitForDatastore
  have hConn : Good m0 st0 wc.listSucceeded := h.same ⟨rfl, rfl, rfl, rfl, ⟨rfl, rfl⟩⟩
  have hGood := (leaveWait_told _).good hConn
  have hAwake := leaveWait_status wc.listSucceeded
  have hProc : wc.listSucceeded.leaveWait.proc = wc.proc := (leaveWait_told _).keeps.proc
  have hPst : wc.listSucceeded.leaveWait.pst = wc.pst := (leaveWait_told _).keeps.pst
  unfold WC.processList
  generalize wc.listSucceeded.leaveWait = w1 at hGood hAwake hProc hPst
  have hInv := hGood.inv
  -- `startSweep` moves everything to `oldResources`: the view is unchanged
  have hView : ∀ k, view w1.startSweep k = lookup w1.res k := fun k => by
    simp [view, oldLookup, lookup, WC.startSweep]
  have hSweep : Inv m0 st0 w1.startSweep :=
    hInv.rearrange _ rfl rfl (fun k _ => rfl) fun k => (hView k).trans (hGood.view_eq k).symm
  -- the listed KVs are processed, then `finishResync` sweeps what was not revalidated
  obtain ⟨hStep, hStepPst⟩ := foldl_handleWatchListEvent_ok kvs hSweep (show w1.startSweep.status ≠ stWait from hAwake)
  obtain ⟨hFin, hFinKeeps⟩ := finishResync_ok hStep.inv
  rw [show w1.startSweep.proc = wc.proc from hProc, show w1.startSweep.pst = wc.pst from hPst] at hStep hStepPst
  refine ⟨hFin.good, hFin.status, fun k => ?_, by rw [hFin.mode, hStep.mode]; exact hProc,
    hFinKeeps.pst.trans hStepPst⟩
  rw [hFin.view, hStep.old, hStep.view]
  have hOld : oldLookup w1.startSweep k = lookup w1.res k := by simp [oldLookup, WC.startSweep]
  rw [hOld]
  cases hm : mentions (convSeq wc.proc wc.pst kvs) k with
  | true =>
    -- a mentioned key was revalidated: its entry does not depend on what the cache held before
    simp only [if_true, ne_eq, not_true_eq_false, if_false]
    exact foldl_applyKV_mem _ _ _ _ ((mentions_iff _ _).mp hm)
  | false =>
    -- an unmentioned key keeps its old entry through the fold and is then swept
    have hn := (mentions_false_iff _ _).mp hm
    simp only [Bool.false_eq_true, if_false]
    rw [foldl_applyKV_not_mem _ _ _ hn, foldl_applyKV_not_mem _ _ _ hn, hView]
    cases lookup w1.res k <;> simp [emptyView]

theorem notifyConverter_good {m0 : View} {st0 : Nat} {wc : WC} (h : Good m0 st0 wc) :
    Good m0 st0 wc.notifyConverter := ⟨h.inv.of_eq rfl rfl rfl rfl, h.idle⟩

theorem beginFull_told (wc : WC) : Told wc wc.beginFull := by
  unfold WC.beginFull
  simp only
  refine ⟨{ wc with listPolling := false, watchPolling := false }, ⟨rfl, rfl, rfl, rfl, ⟨rfl, rfl⟩⟩, ?_⟩
  split
  · split
    · exact Or.inr ⟨stResync, by decide, rfl⟩
    · exact Or.inr ⟨stWait, by decide, rfl⟩
  · exact Or.inl rfl

theorem onListOther_cases (wc : WC) (elapsed : Bool) :
    ∃ w0, Same wc w0 ∧ (wc.onListOther elapsed = w0 ∨ wc.onListOther elapsed = w0.send .backendErr ∨
      wc.onListOther elapsed = (w0.send .backendErr).sendDeletionsForAll) := by
  unfold WC.onListOther
  simp only
  split
  · refine ⟨{ wc with crdInstalled := true, connected := false, listPolling := false, watchPolling := false },
      ⟨rfl, rfl, rfl, rfl, ⟨rfl, rfl⟩⟩, Or.inr ?_⟩
    split
    · exact Or.inr rfl
    · exact Or.inl rfl
  · exact ⟨{ wc with crdInstalled := true }, ⟨rfl, rfl, rfl, rfl, ⟨rfl, rfl⟩⟩, Or.inl rfl⟩

theorem onListOther_ok {m0 : View} {st0 : Nat} {wc : WC} (h : Good m0 st0 wc) (elapsed : Bool) :
    Good m0 st0 (wc.onListOther elapsed) ∧ Keeps wc (wc.onListOther elapsed) := by
  obtain ⟨w0, s, e | e | e⟩ := onListOther_cases wc elapsed <;> rw [e]
  · exact ⟨h.same s, s.keeps⟩
  · exact ⟨(h.same s).send_backendErr, s.keeps.trans (send_keeps _ _)⟩
  · have c := sendDeletionsForAll_ok (h.same s).send_backendErr
    exact ⟨c.good, (s.keeps.trans (send_keeps _ _)).trans c.keeps⟩

/-- The Watch-create step touches only the watch revision, the error count and the connection flags. -/
theorem watchStep_same (wc : WC) (full : Bool) (wo : WatchOut) : Same wc (watchStep wc full wo).1 := by
  unfold watchStep
  cases wo with
  | connRefused e => simp only; split <;> exact ⟨rfl, rfl, rfl, rfl, ⟨rfl, rfl⟩⟩
  | _ => exact ⟨rfl, rfl, rfl, rfl, ⟨rfl, rfl⟩⟩

/-- The (raw) KVs the event loop processes: everything before the first error event. -/
def processed : List Ev → List KV
  | [] => []
  | .upsert kv :: r => kv :: processed r
  | .delete kv :: r => { kv with del := true } :: processed r
  | .bookmark _ :: r => processed r
  | .unknown :: r => processed r
  | .errExpired :: _ => []
  | .errOther :: _ => []

theorem eventLoop_eq (evs : List Ev) (wc : WC) :
    ∃ r e, eventLoop wc evs = { (processed evs).foldl WC.handleWatchListEvent wc with rev := r, errCount := e } := by
  suffices key : ∀ (wc w : WC), (∃ r e, wc = { w with rev := r, errCount := e }) →
      ∃ r e, eventLoop wc evs = { (processed evs).foldl WC.handleWatchListEvent w with rev := r, errCount := e } from
    key wc wc ⟨_, _, rfl⟩
  induction evs with
  | nil => exact fun _ _ h => h
  | cons ev evs ih =>
    rintro _ w ⟨r, e, rfl⟩
    -- `handleWatchListEvent` overwrites both fields before it reads anything
    have kv : ∀ kv : KV, ∃ r' e', ({ w with rev := r, errCount := e } : WC).handleWatchListEvent kv =
        { w.handleWatchListEvent kv with rev := r', errCount := e' } := fun kv => ⟨_, _, rfl⟩
    cases ev with
    | upsert x => exact ih _ _ (kv x)
    | delete x => exact ih _ _ (kv _)
    | bookmark b => exact ih _ w ⟨_, _, rfl⟩
    | errExpired => exact ⟨_, _, rfl⟩
    | errOther => simp only [eventLoop, processed, List.foldl_nil]; split <;> exact ⟨_, _, rfl⟩
    | unknown => exact ih _ w ⟨_, _, rfl⟩

theorem eventLoop_spec {m0 : View} {st0 : Nat} (evs : List Ev) {wc : WC} (h : Inv m0 st0 wc) (hs : wc.status ≠ stWait) :
    StepOK m0 st0 wc (eventLoop wc evs) (convSeq wc.proc wc.pst (processed evs)) ∧
      (eventLoop wc evs).pst = convState wc.proc wc.pst (processed evs) := by
  obtain ⟨r, e, he⟩ := eventLoop_eq evs wc
  obtain ⟨s, p⟩ := foldl_handleWatchListEvent_ok (processed evs) h hs
  rw [he]
  exact ⟨⟨s.inv.same ⟨rfl, rfl, rfl, rfl, ⟨rfl, rfl⟩⟩, s.view, s.old, s.status, s.idle, s.mode⟩, p⟩

theorem StepOK.good {m0 : View} {st0 : Nat} {wc w : WC} {c : List KV} (s : StepOK m0 st0 wc w c)
    (h : wc.old = none) : Good m0 st0 w :=
  ⟨s.inv, s.idle h⟩

theorem eventLoop_ok {m0 : View} {st0 : Nat} (evs : List Ev) {wc : WC} (h : Good m0 st0 wc) (hs : wc.status ≠ stWait) :
    Good m0 st0 (eventLoop wc evs) ∧ (eventLoop wc evs).status = wc.status ∧
      ∀ k, view (eventLoop wc evs) k = (convSeq wc.proc wc.pst (processed evs)).foldl applyKV (view wc) k :=
  have s := (eventLoop_spec evs h.inv hs).1
  ⟨s.good h.idle, s.status, s.view⟩

end CalicoVerif.C26
