import CalicoVerif.Proofs.C03Sorter
/-! C03: the PolicyResolver, one event or one `Flush` at a time: the equations of each event (`step_…`) and of `Flush`
(`flush_cases`), and the invariants read off them — the sorter's (`SInv`, `TiersOK`, `TierAttr`) and the resolver's own `RInv`.

`RInv r` is what holds of the resolver between two calls.  `held` (`HeldOK r r.sorter`): a policy the sorter holds matches
some endpoint now and is stored with the metadata the datastore has for it, in the tier that metadata names.  `pend`: a
policy waiting in `pendingPolicyUpdates` still matches.  `compl`: a matching policy the datastore knows is held or waiting.
After a flush in sync nothing waits that the datastore knows, so `compl` becomes "held" (`RInv.flush_held`). -/
namespace CalicoVerif.C03
open CalicoVerif.C02

theorem polHasMatch_iff (r : Resolver) (k : PolicyKey) : r.polHasMatch k = true ↔ ∃ e, (k, e) ∈ r.matched := by
  simp [Resolver.polHasMatch]

theorem mem_matchingEps (r : Resolver) (k : PolicyKey) (e : EpKey) : e ∈ r.matchingEps k ↔ (k, e) ∈ r.matched := by
  simp [Resolver.matchingEps]

theorem mem_matchedEps (r : Resolver) (e : EpKey) : e ∈ r.matchedEps ↔ ∃ p, (p, e) ∈ r.matched := by
  simp [Resolver.matchedEps]

theorem mem_addAll {α : Type} [DecidableEq α] (xs s : List α) (x : α) : x ∈ addAll xs s ↔ x ∈ xs ∨ x ∈ s :=
  mem_foldl_sadd

theorem step_status (r : Resolver) (b : Bool) : r.step (.status b) = { r with inSync := r.inSync || b } := by
  obtain ⟨_, _, _, _, _, i, _⟩ := r
  cases b <;> cases i <;> rfl

theorem step_matchStarted (r : Resolver) (p : PolicyKey) (e : EpKey) :
    r.step (.matchStarted p e) =
      { r with pending := if r.sorter.hasPolicy p then r.pending else sadd p r.pending,
               matched := sadd (p, e) r.matched, dirty := sadd e r.dirty } := by
  simp only [Resolver.step]; cases r.sorter.hasPolicy p <;> rfl

theorem step_matchStopped (r : Resolver) (p : PolicyKey) (e : EpKey) :
    r.step (.matchStopped p e) =
      { r with matched := sdel (p, e) r.matched,
               sorter := if Resolver.polHasMatch { r with matched := sdel (p, e) r.matched } p then r.sorter
                 else (r.sorter.updatePolicy p none).1,
               pending := if Resolver.polHasMatch { r with matched := sdel (p, e) r.matched } p then r.pending
                 else sdel p r.pending,
               dirty := sadd e r.dirty } := by
  cases hm : Resolver.polHasMatch { r with matched := sdel (p, e) r.matched } p <;>
    simp only [Resolver.step, hm] <;> rfl

theorem applyPolicy_eq (r : Resolver) (k : PolicyKey) (m : Option PolMeta) :
    r.applyPolicy k m =
      { r with sorter := if r.polHasMatch k then (r.sorter.updatePolicy k m).1 else r.sorter,
               dirty := if r.polHasMatch k && (r.sorter.updatePolicy k m).2
                 then addAll (r.matchingEps k) r.dirty else r.dirty } := by
  unfold Resolver.applyPolicy
  cases r.polHasMatch k
  · rfl
  · rcases r.sorter.updatePolicy k m with ⟨s', d⟩
    cases d <;> rfl

theorem step_policy (r : Resolver) (k : PolicyKey) (v : Option PolicyIn) :
    r.step (.policy k v) =
      { r with allPolicies := (match v with
                 | some p => mset k (extractPolicyMetadata p) r.allPolicies
                 | none => mdel k r.allPolicies),
               pending := if v.isSome then r.pending else sdel k r.pending,
               sorter := if r.polHasMatch k then (r.sorter.updatePolicy k (v.map extractPolicyMetadata)).1
                 else r.sorter,
               dirty := if r.polHasMatch k && (r.sorter.updatePolicy k (v.map extractPolicyMetadata)).2
                 then addAll (r.matchingEps k) r.dirty else r.dirty } := by
  simp only [Resolver.step, applyPolicy_eq]
  cases v <;> rfl

theorem mget_step_policy (r : Resolver) (k : PolicyKey) (v : Option PolicyIn) (q : PolicyKey) :
    mget (r.step (.policy k v)).allPolicies q =
      if q = k then v.map extractPolicyMetadata else mget r.allPolicies q := by
  rw [step_policy]
  cases v <;> simp only [mget_mset, mget_mdel, Option.map]

def Event.polKey? : Event → Option PolicyKey
  | .policy k _ => some k
  | .matchStarted p _ => some p
  | .matchStopped p _ => some p
  | _ => none

def EventIn (K : PolicyKey → Prop) : Event → Prop
  | .policy k _ => K k
  | .matchStarted p _ => K p
  | .matchStopped p _ => K p
  | _ => True

theorem eventIn_iff {K : PolicyKey → Prop} {e : Event} : EventIn K e ↔ ∀ k, e.polKey? = some k → K k := by
  cases e <;> simp [EventIn, Event.polKey?]

theorem eventIn_mono {K1 K2 : PolicyKey → Prop} (hk : ∀ k, K1 k → K2 k) {e : Event} (h : EventIn K1 e) : EventIn K2 e :=
  eventIn_iff.2 fun k he => hk k (eventIn_iff.1 h k he)

/-- An event changes the sorter by one `OnUpdate(TierKey)`, by one `UpdatePolicy` for the policy key of
the event, or not at all. -/
theorem sorter_step {P : Sorter → Prop} {r : Resolver} (e : Event) (hP : P r.sorter)
    (hupd : ∀ k v, e.polKey? = some k → P (r.sorter.updatePolicy k v).1)
    (htier : ∀ n v, e = .tier n v → P (r.sorter.onTierUpdate n v).1) : P (r.step e).sorter := by
  cases e with
  | endpoint k v => cases v <;> exact hP
  | policy k v => rw [step_policy]; dsimp only; split; exact hupd k _ rfl; exact hP
  | tier name v => exact htier name v rfl
  | status b => rw [step_status]; exact hP
  | matchStarted p e => rw [step_matchStarted]; exact hP
  | matchStopped p e => rw [step_matchStopped]; dsimp only; split; exact hP; exact hupd p none rfl

theorem SInv.step {r : Resolver} (h : SInv r.sorter) (e : Event) : SInv (r.step e).sorter :=
  sorter_step e h (fun k v _ => h.updatePolicy k v) fun n v _ => h.onTierUpdate n v

def HeldOK (r : Resolver) (s : Sorter) : Prop :=
  ∀ p n m, holdsIn s p n m → r.polHasMatch p = true ∧ mget r.allPolicies p = some m ∧ m.tier = n

structure RInv (r : Resolver) : Prop where
  sinv : SInv r.sorter
  held : HeldOK r r.sorter
  pend : ∀ p, p ∈ r.pending → r.polHasMatch p = true
  compl : ∀ p, r.polHasMatch p = true → (mget r.allPolicies p).isSome → Held r.sorter p ∨ p ∈ r.pending

theorem RInv.init : RInv {} :=
  ⟨SInv.init, fun _ _ _ ⟨_, ht, _⟩ => (by cases ht), (by simp), fun p h1 => (by simp [Resolver.polHasMatch] at h1)⟩

theorem uniq_of_held {all : List (PolicyKey × PolMeta)} {s : Sorter}
    (hh : ∀ p n m, holdsIn s p n m → mget all p = some m ∧ m.tier = n) : Uniq s := by
  intro p n n' m m' h1 h2
  obtain ⟨a1, b1⟩ := hh p n m h1
  obtain ⟨a2, b2⟩ := hh p n' m' h2
  rw [a1] at a2; cases a2
  exact b1.symm.trans b2

theorem RInv.uniq {r : Resolver} (h : RInv r) : Uniq r.sorter :=
  uniq_of_held fun p n m hx => (h.held p n m hx).2

theorem RInv.step {r : Resolver} (h : RInv r) (e : Event) : RInv (r.step e) := by
  cases e with
  | endpoint k v => cases v <;> exact ⟨h.sinv, h.held, h.pend, h.compl⟩
  | status b => rw [step_status]; exact ⟨h.sinv, h.held, h.pend, h.compl⟩
  | tier name v =>
    exact ⟨h.sinv.onTierUpdate name v, fun p n m hx => h.held p n m ((holdsIn_onTierUpdate ..).1 hx), h.pend,
      fun p h1 h2 => (h.compl p h1 h2).imp_left (held_onTierUpdate ..).2⟩
  | matchStarted p e =>
    have hm : ∀ q, (r.step (.matchStarted p e)).polHasMatch q = true ↔ q = p ∨ r.polHasMatch q = true := by
      intro q
      simp only [polHasMatch_iff, step_matchStarted, mem_sadd, Prod.mk.injEq]
      exact ⟨fun ⟨e', x⟩ => x.imp And.left fun y => ⟨e', y⟩, fun x => x.elim (fun y => ⟨e, Or.inl ⟨y, rfl⟩⟩)
        fun ⟨e', y⟩ => ⟨e', Or.inr y⟩⟩
    rw [step_matchStarted] at hm ⊢
    refine ⟨h.sinv, fun q n m hx => ?_, fun q hq => ?_, fun q h1 h2 => ?_⟩
    · obtain ⟨a, b⟩ := h.held q n m hx
      exact ⟨(hm q).2 (Or.inr a), b⟩
    · dsimp only at hq
      split at hq
      · exact (hm q).2 (Or.inr (h.pend q hq))
      · exact (hm q).2 ((mem_sadd.1 hq).imp_right (h.pend q))
    · dsimp only
      rcases (hm q).1 h1 with rfl | h1'
      · -- a new match of a policy the sorter does not hold makes it wait for the flush
        by_cases hp : r.sorter.hasPolicy q = true
        · exact Or.inl ((hasPolicy_iff h.sinv q).1 hp)
        · right; rw [if_neg hp]; exact mem_sadd.2 (Or.inl rfl)
      · refine (h.compl q h1' h2).imp_right fun hq => ?_
        split
        · exact hq
        · exact mem_sadd.2 (Or.inr hq)
  | matchStopped p e =>
    have down : ∀ q, (∃ e', (q, e') ∈ sdel (p, e) r.matched) → r.polHasMatch q = true :=
      fun q ⟨e', he'⟩ => (polHasMatch_iff r q).2 ⟨e', (mem_sdel.1 he').1⟩
    have other : ∀ q, q ≠ p → r.polHasMatch q = true → ∃ e', (q, e') ∈ sdel (p, e) r.matched := fun q hq hm =>
      let ⟨e', he'⟩ := (polHasMatch_iff r q).1 hm
      ⟨e', mem_sdel.2 ⟨he', fun x => hq (Prod.mk.inj x).1⟩⟩
    rw [step_matchStopped]
    by_cases hm : ∃ e', (p, e') ∈ sdel (p, e) r.matched
    · have hb := (polHasMatch_iff { r with matched := sdel (p, e) r.matched } p).2 hm
      rw [if_pos hb, if_pos hb]
      have all : ∀ q, r.polHasMatch q = true → ∃ e', (q, e') ∈ sdel (p, e) r.matched := fun q hq => by
        by_cases hqp : q = p
        · exact hqp ▸ hm
        · exact other q hqp hq
      refine ⟨h.sinv, fun q n m hx => ?_, fun q hq => ?_, fun q h1 h2 => ?_⟩
      · obtain ⟨a, b⟩ := h.held q n m hx
        exact ⟨(polHasMatch_iff _ q).2 (all q a), b⟩
      · exact (polHasMatch_iff _ q).2 (all q (h.pend q hq))
      · exact h.compl q (down q ((polHasMatch_iff _ q).1 h1)) h2
    · have hb := mt (polHasMatch_iff { r with matched := sdel (p, e) r.matched } p).1 hm
      rw [if_neg hb, if_neg hb]
      refine ⟨h.sinv.updatePolicy p none, fun q n m hx => ?_, fun q hq => ?_, fun q h1 h2 => ?_⟩
      · rcases (holdsIn_updatePolicy h.sinv h.uniq ..).1 hx with ⟨_, x, _⟩ | ⟨hx, hqp⟩
        · cases x
        · obtain ⟨a, b⟩ := h.held q n m hx
          exact ⟨(polHasMatch_iff _ q).2 (other q hqp a), b⟩
      · obtain ⟨hq, hqp⟩ := mem_sdel.1 hq
        exact (polHasMatch_iff _ q).2 (other q hqp (h.pend q hq))
      · have h1' := (polHasMatch_iff _ q).1 h1
        have hqp : q ≠ p := fun e => hm (e ▸ h1')
        exact (h.compl q (down q h1') h2).imp (held_updatePolicy_other h.sinv h.uniq p none hqp).2
          fun x => mem_sdel.2 ⟨x, hqp⟩
  | policy k v =>
    have hall := mget_step_policy r k v
    rw [step_policy] at hall ⊢
    have hpend : ∀ q, q ∈ (if v.isSome then r.pending else sdel k r.pending) → q ∈ r.pending := by
      intro q hq
      split at hq
      · exact hq
      · exact (mem_sdel.1 hq).1
    have hpend' : ∀ q, q ≠ k → q ∈ r.pending → q ∈ (if v.isSome then r.pending else sdel k r.pending) := by
      intro q hqk hq
      split
      · exact hq
      · exact mem_sdel.2 ⟨hq, hqk⟩
    by_cases hm : r.polHasMatch k = true
    · -- matched: the sorter entry is refreshed (or dropped) from the new datastore value
      simp only [hm, if_true] at hall ⊢
      refine ⟨h.sinv.updatePolicy k _, fun q n m hx => ?_, fun q hq => h.pend q (hpend q hq), fun q h1 h2 => ?_⟩
      · rcases (holdsIn_updatePolicy h.sinv h.uniq ..).1 hx with ⟨rfl, hv, hn⟩ | ⟨hx, hqk⟩
        · exact ⟨hm, by rw [hall, if_pos rfl, hv], hn.symm⟩
        · obtain ⟨a, b, c⟩ := h.held q n m hx
          exact ⟨a, by rw [hall, if_neg hqk]; exact b, c⟩
      · rw [hall] at h2
        by_cases hqk : q = k
        · subst hqk
          rw [if_pos rfl] at h2
          obtain ⟨m, hv⟩ := Option.isSome_iff_exists.1 h2
          rw [hv]
          exact Or.inl (held_updatePolicy_self h.sinv h.uniq q m)
        · rw [if_neg hqk] at h2
          exact (h.compl q h1 h2).imp (held_updatePolicy_other h.sinv h.uniq k _ hqk).2 (hpend' q hqk)
    · -- not matched: the sorter does not hold `k`, nothing to do
      simp only [hm, Bool.false_eq_true, if_false] at hall ⊢
      have hne : ∀ q, r.polHasMatch q = true → q ≠ k := fun q hq e => hm (e ▸ hq)
      refine ⟨h.sinv, fun q n m hx => ?_, fun q hq => h.pend q (hpend q hq), fun q h1 h2 => ?_⟩
      · obtain ⟨a, b, c⟩ := h.held q n m hx
        exact ⟨a, by rw [hall, if_neg (hne q a)]; exact b, c⟩
      · rw [hall, if_neg (hne q h1)] at h2
        exact (h.compl q h1 h2).imp_right (hpend' q (hne q h1))

/-- the sorter after the `pendingPolicyUpdates` loop of `Flush` -/
def Resolver.flushSorter (r : Resolver) : Sorter :=
  (r.pending.filter fun k => (mget r.allPolicies k).isSome).foldl (Sorter.resolvePending r.allPolicies) r.sorter

theorem flush_cases {r r' : Resolver} {calls : List Call} (hf : r.flush = some (r', calls)) :
    (r.inSync = false ∧ r' = r ∧ calls = []) ∨
    (r.inSync = true ∧ ∃ ts, r.flushSorter.sortedOut = some ts ∧
      r' = { r with sorter := r.flushSorter, dirty := [],
                    pending := r.pending.filter fun k => (mget r.allPolicies k).isNone } ∧
      calls = r.dirty.map fun e =>
        Call.endpointUpdate e ((mget r.endpoints e).map fun ep => ⟨ep, filterTiers r.matched e ts⟩)) := by
  unfold Resolver.flush at hf
  cases hs : r.inSync
  · simp only [hs, Bool.not_false, if_true, Option.some.injEq, Prod.mk.injEq] at hf
    exact Or.inl ⟨rfl, hf.1.symm, hf.2.symm⟩
  · simp only [hs, Bool.not_true, Bool.false_eq_true, if_false] at hf
    split at hf
    · cases hf
    · next ts hts =>
      cases hf
      refine Or.inr ⟨rfl, ts, hts, rfl, List.map_congr_left fun e _ => ?_⟩
      unfold Resolver.sendEndpointUpdate
      cases mget r.endpoints e <;> rfl

theorem flush_endpoints {r r' : Resolver} {calls : List Call} (hf : r.flush = some (r', calls)) : r'.endpoints = r.endpoints := by
  rcases flush_cases hf with ⟨_, rfl, _⟩ | ⟨_, _, _, rfl, _⟩ <;> rfl

theorem flush_matched {r r' : Resolver} {calls : List Call} (hf : r.flush = some (r', calls)) : r'.matched = r.matched := by
  rcases flush_cases hf with ⟨_, rfl, _⟩ | ⟨_, _, _, rfl, _⟩ <;> rfl

theorem flush_allPolicies {r r' : Resolver} {calls : List Call} (hf : r.flush = some (r', calls)) :
    r'.allPolicies = r.allPolicies := by
  rcases flush_cases hf with ⟨_, rfl, _⟩ | ⟨_, _, _, rfl, _⟩ <;> rfl

theorem flush_inSync {r r' : Resolver} {calls : List Call} (hf : r.flush = some (r', calls)) : r'.inSync = r.inSync := by
  rcases flush_cases hf with ⟨_, rfl, _⟩ | ⟨_, _, _, rfl, _⟩ <;> rfl

theorem flush_notSync {r r' : Resolver} {calls : List Call} (hf : r.flush = some (r', calls)) (hs : r.inSync = false) :
    r' = r ∧ calls = [] := by
  rcases flush_cases hf with ⟨_, rfl, rfl⟩ | ⟨hs', _⟩
  · exact ⟨rfl, rfl⟩
  · rw [hs] at hs'; cases hs'

theorem flush_dirty {r r' : Resolver} {calls : List Call} (hf : r.flush = some (r', calls)) (hs : r.inSync = true) :
    r'.dirty = [] := by
  rcases flush_cases hf with ⟨hs', _⟩ | ⟨_, _, _, rfl, _⟩
  · rw [hs] at hs'; cases hs'
  · rfl

theorem flush_pending {r r' : Resolver} {calls : List Call} (hf : r.flush = some (r', calls)) (hs : r.inSync = true)
    {p : PolicyKey} (hp : p ∈ r'.pending) : mget r.allPolicies p = none := by
  rcases flush_cases hf with ⟨hs', _⟩ | ⟨_, _, _, rfl, _⟩
  · rw [hs] at hs'; cases hs'
  · exact Option.isNone_iff_eq_none.1 (List.mem_filter.1 hp).2

theorem foldPending_induct {P : Sorter → Prop} (all : List (PolicyKey × PolMeta)) (l : List PolicyKey)
    (hstep : ∀ s k m, k ∈ l → mget all k = some m → P s → P (s.updatePolicy k (some m)).1) {s : Sorter}
    (hP : P s) : P (l.foldl (Sorter.resolvePending all) s) :=
  List.foldlRecOn l _ hP fun s hs k hk => by
    unfold Sorter.resolvePending
    cases hm : mget all k with
    | none => exact hs
    | some m => exact hstep s k m hk hm hs

theorem SInv.flushSorter {r : Resolver} (h : SInv r.sorter) : SInv r.flushSorter :=
  foldPending_induct _ _ (fun _ k _ _ _ hs => hs.updatePolicy k _) h

/-- `flush_cases` for a well-formed sorter: `Sorted()` does not panic, its result is `outTiers` -/
theorem SInv.flush_cases {r r' : Resolver} {calls : List Call} (h : SInv r.sorter) (hf : r.flush = some (r', calls)) :
    (r.inSync = false ∧ r' = r ∧ calls = []) ∨
    (r.inSync = true ∧
      r' = { r with sorter := r.flushSorter, dirty := [],
                    pending := r.pending.filter fun k => (mget r.allPolicies k).isNone } ∧
      calls = r.dirty.map fun e => Call.endpointUpdate e
        ((mget r.endpoints e).map fun ep => ⟨ep, filterTiers r.matched e r.flushSorter.outTiers⟩)) := by
  rcases C03.flush_cases hf with hn | ⟨hs, ts, hts, hr, hc⟩
  · exact Or.inl hn
  · rw [sortedOut_eq h.flushSorter] at hts
    cases hts
    exact Or.inr ⟨hs, hr, hc⟩

/-- `Flush` never hits the `Sorted()` panic. -/
theorem flush_some {r : Resolver} (h : SInv r.sorter) : ∃ r' calls, r.flush = some (r', calls) := by
  unfold Resolver.flush
  split
  · exact ⟨_, _, rfl⟩
  · have := sortedOut_eq h.flushSorter
    unfold Resolver.flushSorter at this
    simp only [this]
    exact ⟨_, _, rfl⟩

/-- the twin of `sorter_step`: `Flush` changes the sorter by the `UpdatePolicy`s of its pending loop, or not at all -/
theorem flush_sorter {P : Sorter → Prop} {r r' : Resolver} {calls : List Call} (h : SInv r.sorter) (hP : P r.sorter)
    (hupd : ∀ s k m, k ∈ r.pending → SInv s → P s → P (s.updatePolicy k (some m)).1)
    (hf : r.flush = some (r', calls)) : P r'.sorter := by
  rcases flush_cases hf with ⟨_, rfl, _⟩ | ⟨_, _, _, rfl, _⟩
  · exact hP
  · exact (foldPending_induct (P := fun s => SInv s ∧ P s) _ _ (fun s k m hk _ hs =>
      ⟨hs.1.updatePolicy k _, hupd s k m (List.mem_filter.1 hk).1 hs.1 hs.2⟩) ⟨h, hP⟩).2

theorem SInv.flush {r r' : Resolver} {calls : List Call} (h : SInv r.sorter) (hf : r.flush = some (r', calls)) :
    SInv r'.sorter :=
  flush_sorter h h (fun _ k _ _ hs _ => hs.updatePolicy k _) hf

/-- own induction: the keys already resolved are not something `foldPending_induct`'s motive can speak of -/
theorem foldPending_content {r : Resolver} (l : List PolicyKey)
    (hl : ∀ k ∈ l, r.polHasMatch k = true ∧ (mget r.allPolicies k).isSome) (s : Sorter) (hs : SInv s)
    (hh : HeldOK r s) : HeldOK r (l.foldl (Sorter.resolvePending r.allPolicies) s) ∧
    ∀ q, q ∈ l ∨ Held s q → Held (l.foldl (Sorter.resolvePending r.allPolicies) s) q := by
  induction l generalizing s with
  | nil => exact ⟨hh, fun q hq => hq.resolve_left (by simp)⟩
  | cons k t ih =>
    obtain ⟨hm, hk⟩ := hl k (List.mem_cons_self ..)
    obtain ⟨mk, hmk⟩ := Option.isSome_iff_exists.1 hk
    have hu : Uniq s := uniq_of_held fun p n m hx => (hh p n m hx).2
    have e : Sorter.resolvePending r.allPolicies s k = (s.updatePolicy k (some mk)).1 := by
      unfold Sorter.resolvePending; rw [hmk]
    rw [List.foldl_cons, e]
    obtain ⟨b, c⟩ := ih (fun k' hk' => hl k' (List.mem_cons_of_mem _ hk')) _ (hs.updatePolicy k _) (by
      intro p n m hx
      rcases (holdsIn_updatePolicy hs hu k (some mk) p n m).1 hx with ⟨rfl, hv, hn⟩ | ⟨hx, _⟩
      · cases hv; exact ⟨hm, hmk, hn.symm⟩
      · exact hh p n m hx)
    refine ⟨b, fun q hq => c q ?_⟩
    by_cases hqk : q = k
    · subst hqk; exact Or.inr (held_updatePolicy_self hs hu q mk)
    · exact hq.imp (fun x => (List.mem_cons.1 x).resolve_left hqk) (held_updatePolicy_other hs hu k _ hqk).2

theorem RInv.flush {r r' : Resolver} {calls : List Call} (h : RInv r) (hf : r.flush = some (r', calls)) : RInv r' := by
  rcases flush_cases hf with ⟨_, rfl, _⟩ | ⟨_, _, _, rfl, _⟩
  · exact h
  · obtain ⟨b, c⟩ := foldPending_content (r := r) _
      (fun k hk => ⟨h.pend k (List.mem_filter.1 hk).1, (List.mem_filter.1 hk).2⟩) r.sorter h.sinv h.held
    exact ⟨h.sinv.flushSorter, b, fun p hp => h.pend p (List.mem_filter.1 hp).1, fun p h1 h2 =>
      Or.inl (c p ((h.compl p h1 h2).symm.imp_left fun x => List.mem_filter.2 ⟨x, h2⟩))⟩

theorem RInv.flush_held {r r' : Resolver} {calls : List Call} (h : RInv r) (hf : r.flush = some (r', calls))
    (hs : r.inSync = true) (p : PolicyKey) (h1 : r'.polHasMatch p = true) (h2 : (mget r'.allPolicies p).isSome) :
    Held r'.sorter p := by
  refine ((h.flush hf).compl p h1 h2).resolve_right fun hp => ?_
  rw [flush_allPolicies hf, flush_pending hf hs hp] at h2
  cases h2

theorem TiersOK.step {K : PolicyKey → Prop} (hK : KeyU K) {r : Resolver} (h : SInv r.sorter) (tc : TiersOK K r.sorter)
    (e : Event) (he : EventIn K e) : TiersOK K (r.step e).sorter :=
  sorter_step e tc (fun k v hk => tc.updatePolicy hK h k (eventIn_iff.1 he k hk) v) fun n v _ => tc.onTierUpdate n v

theorem pending_step {r : Resolver} {e : Event} {q : PolicyKey} (hq : q ∈ (r.step e).pending) :
    q ∈ r.pending ∨ ∃ ep, e = .matchStarted q ep ∧ r.sorter.hasPolicy q = false := by
  cases e with
  | endpoint k v => cases v <;> exact Or.inl hq
  | policy k v =>
    rw [step_policy] at hq
    dsimp only at hq
    split at hq
    · exact Or.inl hq
    · exact Or.inl (mem_sdel.1 hq).1
  | tier name v => exact Or.inl hq
  | status b => rw [step_status] at hq; exact Or.inl hq
  | matchStarted p e =>
    rw [step_matchStarted] at hq
    dsimp only at hq
    split at hq
    · exact Or.inl hq
    · next hp =>
      rcases mem_sadd.1 hq with rfl | hq
      · exact Or.inr ⟨e, rfl, by simpa using hp⟩
      · exact Or.inl hq
  | matchStopped p e =>
    rw [step_matchStopped] at hq
    dsimp only at hq
    split at hq
    · exact Or.inl hq
    · exact Or.inl (mem_sdel.1 hq).1

theorem TiersOK.flush {K : PolicyKey → Prop} (hK : KeyU K) {r r' : Resolver} {calls : List Call} (h : SInv r.sorter)
    (tc : TiersOK K r.sorter) (hpk : ∀ p, p ∈ r.pending → K p) (hf : r.flush = some (r', calls)) :
    TiersOK K r'.sorter :=
  flush_sorter h tc (fun _ k _ hk hs tc => tc.updatePolicy hK hs k (hpk k hk) _) hf

def dsEvent (ds : TierDS) : Event → TierDS
  | .tier name v => dsTier ds name v
  | _ => ds

theorem TierAttr.step {ds : TierDS} {r : Resolver} (h : SInv r.sorter) (ta : TierAttr ds r.sorter) (e : Event) :
    TierAttr (dsEvent ds e) (r.step e).sorter := by
  cases e with
  | tier name v => exact ta.onTierUpdate name v
  | _ => exact sorter_step _ ta (fun k v _ => ta.updatePolicy h k v) fun _ _ he => by cases he

theorem TierAttr.flush {ds : TierDS} {r r' : Resolver} {calls : List Call} (h : SInv r.sorter)
    (ta : TierAttr ds r.sorter) (hf : r.flush = some (r', calls)) : TierAttr ds r'.sorter :=
  flush_sorter h ta (fun _ k _ _ hs ta => ta.updatePolicy hs k _) hf

theorem mem_flush_calls {r r' : Resolver} {calls : List Call} (h : SInv r.sorter)
    (hf : r.flush = some (r', calls)) {e : EpKey} {u : EpUpd} (hu : Call.endpointUpdate e (some u) ∈ calls) :
    ∃ ep, mget r.endpoints e = some ep ∧ u = ⟨ep, filterTiers r.matched e r'.sorter.outTiers⟩ := by
  rcases h.flush_cases hf with ⟨_, _, rfl⟩ | ⟨_, rfl, rfl⟩
  · cases hu
  · obtain ⟨e', _, he'⟩ := List.mem_map.1 hu
    cases hep : mget r.endpoints e' with
    | none => rw [hep] at he'; cases he'
    | some ep => rw [hep] at he'; cases he'; exact ⟨ep, hep, rfl⟩

theorem emitted_exact {K : PolicyKey → Prop} {r' : Resolver} (hi : RInv r') (tc : TiersOK K r'.sorter)
    (hcomp : ∀ p, r'.polHasMatch p = true → (mget r'.allPolicies p).isSome → Held r'.sorter p)
    (e : EpKey) (p : PolicyKey) (m : PolMeta) :
    (∃ t' ∈ filterTiers r'.matched e r'.sorter.outTiers, t'.name = m.tier ∧ ⟨p, m⟩ ∈ t'.policies) ↔
      ((p, e) ∈ r'.matched ∧ mget r'.allPolicies p = some m) := by
  constructor
  · rintro ⟨t', ht', _, hkv⟩
    obtain ⟨_, t, ht, rfl⟩ := mem_filterTiers.1 ht'
    obtain ⟨n, T, hT, rfl⟩ := (mem_outTiers hi.sinv t).1 ht
    obtain ⟨hin, hm⟩ := List.mem_filter.1 hkv
    exact ⟨by simpa using hm, (hi.held p n m ⟨T, hT, ((tc n T hT).1 ⟨p, m⟩).1 hin⟩).2.1⟩
  · rintro ⟨hm, hall⟩
    obtain ⟨n, m', T, hT, hin⟩ := hcomp p ((polHasMatch_iff r' p).2 ⟨e, hm⟩) (by simp [hall])
    obtain ⟨_, hm', hn⟩ := hi.held p n m' ⟨T, hT, hin⟩
    rw [hall] at hm'; cases hm'
    have hkv : (⟨p, m⟩ : PolKV) ∈ (keepMatching r'.matched e (tierInfoOf T)).policies :=
      List.mem_filter.2 ⟨((tc n T hT).1 ⟨p, m⟩).2 hin, by simpa using hm⟩
    exact ⟨_, mem_filterTiers.2 ⟨List.ne_nil_of_mem hkv, _, (mem_outTiers hi.sinv _).2 ⟨n, T, hT, rfl⟩, rfl⟩,
      (hi.sinv.tiers n T hT).1.trans hn.symm, hkv⟩

/-- The attributes of every tier a flush emits are those of the datastore's tier resource of that name;
a tier that does not exist in the datastore (deleted, or only named by a policy) is listed with no order and
an empty default action. -/
theorem emitted_tier_attrs {ds : TierDS} {r r' : Resolver} {calls : List Call} (h : SInv r.sorter) (ta : TierAttr ds r.sorter)
    (hf : r.flush = some (r', calls)) (e : EpKey) (u : EpUpd)
    (hu : Call.endpointUpdate e (some u) ∈ calls) (t' : TierInfo) (ht' : t' ∈ u.tiers) :
    match mget ds t'.name with
    | some (o, a) => t'.order = o ∧ t'.defaultAction = a
    | none => t'.order = none ∧ t'.defaultAction = "" := by
  obtain ⟨_, _, rfl⟩ := mem_flush_calls h hf hu
  obtain ⟨_, t, ht, rfl⟩ := mem_filterTiers.1 ht'
  obtain ⟨n, T, hT, rfl⟩ := (mem_outTiers (h.flush hf) t).1 ht
  rw [show (keepMatching r.matched e (tierInfoOf T)).name = n from ((h.flush hf).tiers n T hT).1]
  exact (attrs_match_iff ds n T.order T.defaultAction).2 ((ta.flush h hf).attrs n T hT).2

end CalicoVerif.C03
