import CalicoVerif.Model.C12
/-!
C12 — the app-policy checker against the reference (`refMatch`, `refVerdict`).  The checker's rule / policy / profile / tier loops
compute the reference decision for whatever rule match function agrees with the reference `ruleMatch`
(`RuleRef`; section `loops`, stated from the loops' equations, so the model's two copies of the loops are
both instances); on rules whose only criteria are protocol / not-protocol, `matchL4Protocol` is such a
function (`ruleRef_l4`).
-/
namespace CalicoVerif.C12
open CalicoVerif.C11

def ProtoOnly (r : Rule) : Prop :=
  r = { action := r.action, matchID := r.matchID, protocol := r.protocol, notProtocol := r.notProtocol }

theorem filterRule_protoOnly (v6 : Bool) (r : Rule) (h : ProtoOnly r) : filterRule v6 r = some r := by
  unfold ProtoOnly at h
  rw [h]
  simp [filterRule, filterNets]

theorem stringToProto_ref (s : String) :
    stringToProto s = (match protoNumberRef (.name s) with | some k => some (Int.ofNat k) | none => none) := by
  unfold stringToProto protoNumberRef
  simp only
  generalize asciiLower s = l
  by_cases h1 : l = "icmp" <;> by_cases h2 : l = "icmpv6" <;> by_cases h3 : l = "tcp" <;> by_cases h4 : l = "udp" <;>
    by_cases h5 : l = "udplite" <;> by_cases h6 : l = "sctp" <;> simp_all

theorem checkProto_none (n : Int) (dflt : Bool) : checkProto none n dflt = dflt := rfl

theorem checkProto_some (p : Pkt) (n : Nat) (hn : 1 ≤ n) (hp : p.proto.toNat = n) (pr : Proto) (dflt : Bool) :
    checkProto (some pr) (n : Int) dflt = protoIs p pr := by
  have hn255 : n ≤ 255 := by have := p.proto.isLt; omega
  cases pr with
  | num k =>
    simp only [checkProto, protoIs, protoNumberRef, hp]
    by_cases e : k = (n : Int)
    · subst e
      have hk : (0 : Int) ≤ (n : Int) ∧ (n : Int) ≤ 255 := by omega
      simp [hk]
    · have h1 : (k == (n : Int)) = false := by simpa using e
      rw [h1]
      by_cases hk : 0 ≤ k ∧ k ≤ 255
      · simp only [hk, and_self, if_true]
        have : ¬ (n = k.toNat) := by omega
        simp [this]
      · simp [hk]
  | name s =>
    simp only [checkProto, protoIs, hp]
    by_cases hs : s = ""
    · subst hs
      have : protoNumberRef (.name "") = none := by decide
      rw [this]
      have h0 : ((0 : Int) == (n : Int)) = false := by
        have : ¬ ((0 : Int) = (n : Int)) := by omega
        simpa using this
      simp [h0]
    · have hs' : (s == "") = false := by simpa using hs
      simp only [hs', Bool.false_eq_true, if_false, stringToProto_ref]
      cases protoNumberRef (.name s) with
      | none => rfl
      | some k =>
        simp only [Int.ofNat_eq_natCast]
        by_cases e : k = n
        · subst e; simp
        · have h1 : (((k : Nat) : Int) == (n : Int)) = false := by
            have : ¬ (((k : Nat) : Int) = (n : Int)) := by omega
            simpa using this
          have h2 : (n == k) = false := by
            have : ¬ (n = k) := fun h => e h.symm
            simpa using this
          rw [h1, h2]

theorem match_protoOnly (env : Env) (p : Pkt) (n : Nat) (hn : 1 ≤ n) (hp : p.proto.toNat = n) (r : Rule)
    (h : ProtoOnly r) : ruleMatch env p .dest r = matchL4Protocol r (n : Int) := by
  have hn255 : n ≤ 255 := by have := p.proto.isLt; omega
  unfold ProtoOnly at h
  rw [h]
  unfold matchL4Protocol
  have hr : ¬ ((n : Int) > 255 ∨ (n : Int) < 1) := by omega
  simp only [hr, if_false, ruleMatch, icmpIs]
  cases r.protocol <;> cases r.notProtocol <;>
    simp [checkProto_some p n hn hp, checkProto_none]

def RulesL4 (rs : List Rule) : Prop := ∀ r ∈ rs, ProtoOnly r ∧ actOf r.action ≠ .invalid

def decToCAct : Dec → CAct
  | .allow => .allow | .deny => .deny | .pass => .pass | .noMatch => .noMatch

theorem actionFromString_actOf (a : String) :
    actionFromString a = match actOf a with
      | .allow => some .allow | .deny => some .deny | .log => some .log | .pass => some .pass | .invalid => none := by
  unfold actionFromString actOf
  simp only
  generalize asciiLower a = s
  by_cases h1 : s = "allow"
  · subst h1; rfl
  by_cases h2 : s = "deny"
  · subst h2; rfl
  by_cases h3 : s = "log"
  · subst h3; rfl
  by_cases h4 : s = "pass"
  · subst h4; rfl
  by_cases h5 : s = "next-tier"
  · subst h5; rfl
  simp [h1, h2, h3, h4, h5]

def decToTierRes : Dec → TierRes
  | .allow => .allow | .deny => .deny | .pass => .passed | .noMatch => .noMatch

/-- The reference's match of a rule as `evalRules` takes it (`RuleBridge.mat`, `checker_match_nets_ref` spell it out). -/
def refMatch (env : Env) (p : Pkt) (r : Rule) : Bool :=
  match filterRule env.c.v6 r with
  | none => false
  | some fr => ruleMatch env p .dest fr

/-- `C11.workloadVerdict` on a workload interface (`endpointVerdict_bridge`, `references_agree_full_partial` spell it out). -/
def refVerdict (env : Env) (p : Pkt) (tiers : List Tier) (profiles : List Policy) : Verdict :=
  match evalTiers env p .dest tiers with
  | .allow => .allow
  | .deny => .deny
  | _ => match evalProfiles true env p profiles with
    | .allow => .allow
    | _ => .deny

theorem bpfVerdict_eq (env : Env) (r : Rules) (p : Pkt) : bpfVerdict env r p = refVerdict env p r.tiers r.profiles := by
  simp only [bpfVerdict, workloadVerdict, Bool.false_eq_true, if_false]
  rfl

section loops
variable {env : Env} {p : Pkt}

/-- What the checker's loops need of a rule and its match function `m`. -/
def RuleRef (env : Env) (p : Pkt) (m : Rule → Bool) (r : Rule) : Prop :=
  m r = refMatch env p r ∧ actOf r.action ≠ .invalid

theorem rulesLoop_ref {f : List Rule → Option CAct} {m : Rule → Bool} (hnil : f [] = some .noMatch)
    (hcons : ∀ r rs, f (r :: rs) =
      if m r then (match actionFromString r.action with | none => none | some .log => f rs | some a => some a) else f rs) :
    ∀ rs : List Rule, (∀ r ∈ rs, RuleRef env p m r) → f rs = some (decToCAct (evalRules env p .dest rs)) := by
  intro rs
  induction rs with
  | nil => intro _; exact hnil
  | cons r rs ih =>
    intro h
    have ih' := ih (fun r' hr' => h r' (List.mem_cons_of_mem _ hr'))
    obtain ⟨hm, ha⟩ := h r (List.mem_cons_self)
    rw [hcons, evalRules, hm, refMatch]
    cases filterRule env.c.v6 r with
    | none => exact ih'
    | some fr =>
      simp only
      split
      · rw [actionFromString_actOf]
        cases hact : actOf r.action <;> first | exact absurd hact ha | exact ih' | rfl
      · exact ih'

theorem policiesLoop_ref {f : List Policy → TierRes} {g : List Rule → Option CAct} (hnil : f [] = .noMatch)
    (hcons : ∀ pol ps, f (pol :: ps) = match g pol.rules with
      | none => .invalid | some .noMatch => f ps | some .allow => .allow | some .deny => .deny | some .pass => .passed
      | some .log => .invalid) :
    ∀ ps : List Policy, (∀ pol ∈ ps, g pol.rules = some (decToCAct (evalRules env p .dest pol.rules))) →
      f ps = decToTierRes (evalPolicies env p .dest ps) := by
  intro ps
  induction ps with
  | nil => intro _; exact hnil
  | cons pol ps ih =>
    intro h
    have ih' := ih (fun q hq => h q (List.mem_cons_of_mem _ hq))
    simp only [hcons, evalPolicies, h pol (List.mem_cons_self)]
    cases evalRules env p .dest pol.rules <;> simp [decToCAct, decToTierRes, ih']

theorem profilesLoop_ref {f : List Policy → Option Bool} {g : List Rule → Option CAct} (hnil : f [] = some false)
    (hcons : ∀ pr ps, f (pr :: ps) = match g pr.rules with
      | none => none | some .noMatch => f ps | some .allow => some true | some .deny => some false | some .pass => some false
      | some .log => none) :
    ∀ ps : List Policy, (∀ pol ∈ ps, g pol.rules = some (decToCAct (evalRules env p .dest pol.rules))) →
      f ps = some (evalProfiles true env p ps == .allow) := by
  intro ps
  induction ps with
  | nil => intro _; exact hnil
  | cons pr ps ih =>
    intro h
    have ih' := ih (fun q hq => h q (List.mem_cons_of_mem _ hq))
    simp only [hcons, evalProfiles, h pr (List.mem_cons_self)]
    cases evalRules env p .dest pr.rules <;> simp [decToCAct, ih']

theorem tiersLoop_ref {f : List Tier → Option Bool} {g : List Policy → TierRes} {profiles : List Policy}
    (hnil : f [] = some (evalProfiles true env p profiles == .allow))
    (hcons : ∀ t ts, f (t :: ts) = if t.policies.isEmpty then f ts else
      match g t.policies with
      | .allow => some true | .deny => some false | .invalid => none | .passed => f ts
      | .noMatch => match t.endAction with | .pass => f ts | _ => some false) :
    ∀ ts : List Tier, (∀ t ∈ ts, t.policies ≠ [] ∧ g t.policies = decToTierRes (evalPolicies env p .dest t.policies)) →
      f ts = some (refVerdict env p ts profiles == .allow) := by
  intro ts
  induction ts with
  | nil =>
    intro _
    simp only [hnil, refVerdict, evalTiers]
    cases evalProfiles true env p profiles <;> rfl
  | cons t ts ih =>
    intro h
    have ih' := ih (fun q hq => h q (List.mem_cons_of_mem _ hq))
    obtain ⟨hne, h1⟩ := h t (List.mem_cons_self)
    have he : t.policies.isEmpty = false := by
      cases hq : t.policies with
      | nil => exact absurd hq hne
      | cons _ _ => rfl
    simp only [hcons, refVerdict, evalTiers, he, Bool.false_eq_true, if_false, h1]
    cases evalPolicies env p .dest t.policies <;> simp only [decToTierRes]
    · rfl
    · rfl
    · exact ih'
    · cases t.endAction <;> first | exact ih' | rfl

end loops

theorem ruleRef_l4 (env : Env) (p : Pkt) (n : Nat) (hn : 1 ≤ n) (hp : p.proto.toNat = n) {rs : List Rule} (h : RulesL4 rs) :
    ∀ r ∈ rs, RuleRef env p (fun r => matchL4Protocol r n) r := fun r hr =>
  ⟨by rw [refMatch, filterRule_protoOnly env.c.v6 r (h r hr).1]; exact (match_protoOnly env p n hn hp r (h r hr).1).symm, (h r hr).2⟩

def PoliciesL4 (ps : List Policy) : Prop := ∀ pol ∈ ps, RulesL4 pol.rules

/-- Tiers as the endpoint carries them: every tier has at least one policy in this direction. -/
def TiersL4 (ts : List Tier) : Prop := ∀ t ∈ ts, t.policies ≠ [] ∧ PoliciesL4 t.policies

end CalicoVerif.C12
