import CalicoVerif.Proofs.C11Comp
/-!
C11 — the protocol and ICMP fragments of `writeRule` are guards for the corresponding clauses of the
reference `ruleMatch` (IPv4 or IPv6 programs: these clauses do not depend on the IP version), by way of
the smallest fragment there is: one load and one conditional jump (`guard_load_jcond64`).
-/
namespace CalicoVerif.C11

theorem guard_load_jcond64 (env : Env) (st : List Byte) (L : Label)
    (ldop n k jop : Nat) (imm : Int) (c : Bool)
    (hld : LdOp ldop n)
    (hk : k + n ≤ 512) (hstab : ∀ j, k ≤ j → j < k + n → Stable j)
    (hj : JOp64 jop)
    (hc : cond (jop / 16) (BitVec.ofNat 64 (fieldN st k n)) (sext32 imm) = some c) :
    Guard env st L [.ins ⟨ldop, 1, 9, (k : Int), 0⟩, .jmp ⟨jop, 1, 0, 0, imm⟩ L] (!c) :=
  guard_iff.2 ((Decides.line_then (B := [_]) (J := [_]) fun _ _ =>
    ⟨_, Line.ldxField ldop 1 k n hld (by omega) hk hstab, Exits.jcondV64 jop 1 imm L hj rfl hc⟩).congr
    (by cases c <;> rfl))

theorem guard_field_eq (env : Env) (st : List Byte) (L : Label)
    (ldop n k : Nat) (v : Nat) (neg : Bool) (hld : LdOp ldop n) (hn : n ≤ 8)
    (hk : k + n ≤ 512) (hstab : ∀ j, k ≤ j → j < k + n → Stable j) (hv : v < 2 ^ 64) :
    Guard env st L [.ins ⟨ldop, 1, 9, (k : Int), 0⟩,
      if neg then jumpEqImm64 R1 (v : Int) L else jumpNEImm64 R1 (v : Int) L]
      (if neg then !(fieldN st k n == v) else fieldN st k n == v) := by
  have hf : fieldN st k n < 2 ^ 64 :=
    Nat.lt_of_lt_of_le (fieldN_lt st k n) (Nat.le_trans (Nat.pow_le_pow_right (by decide) hn) (by decide))
  cases neg with
  | true =>
    have := guard_load_jcond64 env st L ldop n k opJumpEqImm64 (v : Int) (fieldN st k n == v) hld hk hstab
      JOp64.eq (cond_nat _ hf hv)
    simpa [jumpEqImm64, mkJ, R1] using this
  | false =>
    have := guard_load_jcond64 env st L ldop n k opJumpNEImm64 (v : Int) (fieldN st k n != v) hld hk hstab
      JOp64.ne (cond_nat _ hf hv)
    simpa [jumpNEImm64, mkJ, R1, bne] using this

def ProtoOK (pr : Proto) : Prop :=
  ∃ k : Nat, k < 256 ∧ protoNumberRef pr = some k ∧ protocolToNumber pr = (k : Int)

/-- **The builder's protocol table agrees with the API names**: every protocol the reference knows
(tcp, udp, icmp, sctp, icmpv6, udplite, numbers 0..255) is compiled to its IANA number. -/
theorem protoOK_of_ref (pr : Proto) (k : Nat) (h : protoNumberRef pr = some k) : ProtoOK pr := by
  cases pr with
  | num n =>
    simp only [protoNumberRef] at h
    split at h
    · rename_i hn
      cases h
      exact ⟨n.toNat, by omega, by simp [protoNumberRef, hn], by simp only [protocolToNumber, toUint8]; omega⟩
    · cases h
  | name s =>
    -- the two tables test the same names in the same order
    have key : k < 256 ∧ protocolToNumber (.name s) = (k : Int) := by
      unfold protoNumberRef at h
      unfold protocolToNumber
      dsimp only at h ⊢
      generalize asciiLower s = l at h ⊢
      by_cases c0 : (l == "tcp") = true
      · rw [if_pos c0] at h ⊢; cases h; exact ⟨by decide, rfl⟩
      rw [if_neg c0] at h ⊢
      by_cases c1 : (l == "udp") = true
      · rw [if_pos c1] at h ⊢; cases h; exact ⟨by decide, rfl⟩
      rw [if_neg c1] at h ⊢
      by_cases c2 : (l == "icmp") = true
      · rw [if_pos c2] at h ⊢; cases h; exact ⟨by decide, rfl⟩
      rw [if_neg c2] at h ⊢
      by_cases c3 : (l == "sctp") = true
      · rw [if_pos c3] at h ⊢; cases h; exact ⟨by decide, rfl⟩
      rw [if_neg c3] at h ⊢
      by_cases c4 : (l == "icmpv6") = true
      · rw [if_pos c4] at h ⊢; cases h; exact ⟨by decide, rfl⟩
      rw [if_neg c4] at h ⊢
      by_cases c5 : (l == "udplite") = true
      · rw [if_pos c5] at h ⊢; cases h; exact ⟨by decide, rfl⟩
      rw [if_neg c5] at h ⊢
      cases h
    exact ⟨k, key.1, h, key.2⟩

theorem pkt_proto_toNat (st : List Byte) : (pktOfD st).proto.toNat = fieldN st 104 1 := by
  have := fieldN_lt st 104 1
  simp only [pktOfD, BitVec.toNat_ofNat]
  omega

theorem guard_proto (env : Env) (st : List Byte) (rid : Nat) (neg : Bool) (pr : Proto)
    (hp : ProtoOK pr) :
    Guard env st (.ruleNoMatch rid) (protoMatch rid neg pr)
      (if neg then !(protoIs (pktOfD st) pr) else protoIs (pktOfD st) pr) := by
  -- `href`: the reference's number for `pr`; `hbld`: the builder's; 104 = `stateOffIPProto`
  obtain ⟨k, hk, href, hbld⟩ := hp
  have hb : protoIs (pktOfD st) pr = (fieldN st 104 1 == k) := by
    simp only [protoIs, href, pkt_proto_toNat]
  have := guard_field_eq env st (.ruleNoMatch rid) opLoadReg8 1 104 k neg LdOp.b (by omega)
    (by omega) (Stable.of_range (Or.inr (by omega))) (by omega)
  rw [hb]
  unfold protoMatch
  rw [hbld]
  exact this

theorem pkt_icmpW_toNat (st : List Byte) : (pktOfD st).icmpW.toNat = fieldN st 98 2 := by
  have := fieldN_lt st 98 2
  simp only [pktOfD, BitVec.toNat_ofNat]
  omega

/-- Go's `uint8(x)` as a natural number. -/
theorem toUint8_nat (t : Int) : ∃ a : Nat, a < 256 ∧ t % 256 = (a : Int) := ⟨(t % 256).toNat, by omega, by omega⟩

/-- 98 = `stateOffICMPType`: the type byte, the code byte after it (read together as one 16-bit field). -/
theorem guard_icmp (env : Env) (st : List Byte) (rid : Nat) (neg : Bool) (ic : Icmp) (hlen : st.length = 512) :
    Guard env st (.ruleNoMatch rid) (icmpMatch rid neg ic)
      (if neg then (ic == .none || !(icmpIs (pktOfD st) ic)) else icmpIs (pktOfD st) ic) := by
  have h98 : fieldN st 98 2 = fieldN st 98 1 + 256 * fieldN st 99 1 := fieldN_succ st 98 1 (by omega)
  have hlo := fieldN_lt st 98 1
  have hhi := fieldN_lt st 99 1
  cases ic with
  | none =>
    have : (if neg then ((Icmp.none == Icmp.none) || !(icmpIs (pktOfD st) .none)) else icmpIs (pktOfD st) .none) = true := by
      cases neg <;> simp [icmpIs]
    rw [this]
    exact Guard.nil env st _
  | type t =>
    obtain ⟨a, ha, hta⟩ := toUint8_nat t
    have hb : icmpIs (pktOfD st) (.type t) = (fieldN st 98 1 == a) := by
      simp only [icmpIs, pkt_icmpW_toNat, h98, hta]
      rw [Bool.eq_iff_iff]
      simp only [beq_iff_eq]
      omega
    have := guard_field_eq env st (.ruleNoMatch rid) opLoadReg8 1 98 a neg LdOp.b (by omega)
      (by omega) (Stable.of_range (Or.inr (by omega))) (by omega)
    have hn : ((Icmp.type t == Icmp.none) = false) := by simp
    simp only [icmpMatch, icmpTypeMatch, hb, hn, Bool.false_or, toUint8, hta]
    exact this
  | typeCode t c =>
    obtain ⟨a, ha, hta⟩ := toUint8_nat t
    obtain ⟨b, hb', hcb⟩ := toUint8_nat c
    have hv : (b : Int) * 256 + a = ((b * 256 + a : Nat) : Int) := by omega
    have hb : icmpIs (pktOfD st) (.typeCode t c) = (fieldN st 98 2 == b * 256 + a) := by
      simp only [icmpIs, pkt_icmpW_toNat, h98, hta, hcb]
      rw [Bool.eq_iff_iff]
      simp only [Bool.and_eq_true, beq_iff_eq]
      omega
    have := guard_field_eq env st (.ruleNoMatch rid) opLoadReg16 2 98 (b * 256 + a) neg
      LdOp.h (by omega) (by omega) (Stable.of_range (Or.inr (by omega))) (by omega)
    have hn : ((Icmp.typeCode t c == Icmp.none) = false) := by simp
    simp only [icmpMatch, icmpTypeCodeMatch, hb, hn, Bool.false_or, toUint8, hta, hcb, hv]
    exact this

theorem gl_proto (env : Env) (st : List Byte) (rid : Nat) (neg : Bool) (o : Option Proto)
    (h : ∀ pr, o = some pr → ProtoOK pr) :
    GL env st rid (optList o (protoMatch rid neg))
      (o.all (fun pr => if neg then !(protoIs (pktOfD st) pr) else protoIs (pktOfD st) pr)) := by
  cases o with
  | none => exact GL.nil env st rid
  | some pr =>
    refine ⟨by simpa [optList] using guard_proto env st rid neg pr (h pr rfl), ?_⟩
    intro l hl
    simp [optList, protoMatch, labelsOf, load8, mk, jumpEqImm64, jumpNEImm64, mkJ] at hl
    cases neg <;> simp [labelsOf] at hl

theorem gl_icmp (env : Env) (st : List Byte) (rid : Nat) (neg : Bool) (ic : Icmp) (hlen : st.length = 512) :
    GL env st rid (icmpMatch rid neg ic)
      (if neg then (ic == .none || !(icmpIs (pktOfD st) ic)) else icmpIs (pktOfD st) ic) := by
  refine ⟨guard_icmp env st rid neg ic hlen, ?_⟩
  intro l hl
  cases ic <;> cases neg <;>
    simp [icmpMatch, icmpTypeMatch, icmpTypeCodeMatch, labelsOf, load8, load16, mk, jumpEqImm64, jumpNEImm64, mkJ] at hl

end CalicoVerif.C11
