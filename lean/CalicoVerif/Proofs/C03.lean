import CalicoVerif.Model.C03
import CalicoVerif.Proofs.CoreFacts
/-! C03, the pure parts of the model: the btree stand-in (a list kept sorted under a strict weak order),
the two comparators (their meaning, `tierLess_meaning` / `polKVLess_meaning`, is what makes them strict weak orders, so the two
property theorems stand here), and the output filter `filterTiers`. -/
namespace CalicoVerif.C03
open CalicoVerif.C02

/-- What `google/btree` needs from its comparator. -/
structure SWO {α : Type} (less : α → α → Bool) : Prop where
  irrefl : ∀ a, less a a = false
  trans : ∀ a b c, less a b = true → less b c = true → less a c = true
  negTrans : ∀ a b c, less a b = false → less b c = false → less a c = false

def Sorted {α : Type} (less : α → α → Bool) (l : List α) : Prop := l.Pairwise (fun a b => less a b = true)

section bt
variable {α : Type} {less : α → α → Bool}

theorem SWO.lt_of_not_lt (hs : SWO less) {h x a : α} (hx : less h x = false) (ha : less h a = true) :
    less x a = true := by
  cases hxa : less x a with
  | true => rfl
  | false => rw [hs.negTrans h x a hx hxa] at ha; cases ha

theorem btDelete_sublist (x : α) (l : List α) : (btDelete less x l).Sublist l := by
  induction l with
  | nil => exact .slnil
  | cons h t ih =>
    simp only [btDelete]
    split
    · exact .refl _
    · split
      · exact ih.cons_cons h
      · exact List.sublist_cons_self h t

theorem mem_btDelete (x y : α) (l : List α) : y ∈ btDelete less x l → y ∈ l :=
  fun h => (btDelete_sublist x l).subset h

theorem sorted_btDelete (x : α) (l : List α) (hl : Sorted less l) : Sorted less (btDelete less x l) :=
  List.Pairwise.sublist (btDelete_sublist x l) hl

theorem mem_btInsert_iff_delete (x y : α) (l : List α) :
    y ∈ btInsert less x l ↔ y = x ∨ y ∈ btDelete less x l := by
  induction l with
  | nil => simp [btInsert, btDelete]
  | cons h t ih =>
    simp only [btInsert, btDelete]
    split
    · exact List.mem_cons
    · split
      · simp only [List.mem_cons, ih]; exact or_left_comm
      · exact List.mem_cons

theorem mem_btInsert (x y : α) (l : List α) : y ∈ btInsert less x l → y = x ∨ y ∈ l :=
  fun h => ((mem_btInsert_iff_delete x y l).1 h).imp_right (mem_btDelete x y l)

theorem mem_btInsert_self (x : α) (l : List α) : x ∈ btInsert less x l :=
  (mem_btInsert_iff_delete x x l).2 (Or.inl rfl)

theorem sorted_btInsert (hs : SWO less) (x : α) (l : List α) (hl : Sorted less l) : Sorted less (btInsert less x l) := by
  induction l with
  | nil => simp [btInsert, Sorted]
  | cons h t ih =>
    obtain ⟨hh, ht⟩ := List.pairwise_cons.1 hl
    simp only [btInsert]
    cases h1 : less x h with
    | true =>
      refine List.pairwise_cons.2 ⟨?_, hl⟩
      rintro a (_ | ⟨_, a1⟩)
      · exact h1
      · exact hs.trans _ _ _ h1 (hh a a1)
    | false =>
      cases h2 : less h x with
      | true =>
        refine List.pairwise_cons.2 ⟨fun a ha => ?_, ih ht⟩
        rcases mem_btInsert x a t ha with rfl | a1
        · exact h2
        · exact hh a a1
      | false => exact List.pairwise_cons.2 ⟨fun a ha => hs.lt_of_not_lt h2 (hh a ha), ht⟩

theorem mem_btDelete_iff (hs : SWO less) (x y : α) (l : List α) (hl : Sorted less l) :
    y ∈ btDelete less x l ↔ y ∈ l ∧ (less x y = true ∨ less y x = true) := by
  induction l with
  | nil => simp [btDelete]
  | cons h t ih =>
    obtain ⟨hh, ht⟩ := List.pairwise_cons.1 hl
    -- everything in the tail is above `h`, hence above whatever is not above `h`
    have tail : less h x = false → y ∈ t → less x y = true := fun h2 a => hs.lt_of_not_lt h2 (hh y a)
    simp only [btDelete]
    cases h1 : less x h with
    | true =>
      refine ⟨fun a => ⟨a, ?_⟩, fun a => a.1⟩
      rcases List.mem_cons.1 a with rfl | a
      · exact Or.inl h1
      · exact Or.inl (hs.trans _ _ _ h1 (hh y a))
    | false =>
      cases h2 : less h x with
      | true =>
        simp only [if_true, Bool.false_eq_true, if_false, List.mem_cons, ih ht]
        constructor
        · rintro (rfl | ⟨a, b⟩)
          · exact ⟨Or.inl rfl, Or.inr h2⟩
          · exact ⟨Or.inr a, b⟩
        · rintro ⟨rfl | a, b⟩
          · exact Or.inl rfl
          · exact Or.inr ⟨a, b⟩
      | false =>
        simp only [Bool.false_eq_true, if_false, List.mem_cons]
        constructor
        · exact fun a => ⟨Or.inr a, Or.inl (tail h2 a)⟩
        · rintro ⟨rfl | a, b⟩
          · rw [h1, h2] at b; simp at b
          · exact a

theorem mem_btInsert_iff (hs : SWO less) (x y : α) (l : List α) (hl : Sorted less l) :
    y ∈ btInsert less x l ↔ y = x ∨ (y ∈ l ∧ (less x y = true ∨ less y x = true)) := by
  rw [mem_btInsert_iff_delete, mem_btDelete_iff hs x y l hl]

theorem sorted_ext (hs : SWO less) {l₁ l₂ : List α}
    (h1 : Sorted less l₁) (h2 : Sorted less l₂) (hm : ∀ x, x ∈ l₁ ↔ x ∈ l₂) : l₁ = l₂ :=
  pairwise_ext (fun a b hab hba => by have := hs.trans _ _ _ hab hba; rw [hs.irrefl] at this; cases this) h1 h2 hm

end bt

/-- a strict total order: what both comparators compare their keys by -/
structure STO {κ : Type} (r : κ → κ → Prop) : Prop where
  irrefl : ∀ a, ¬ r a a
  trans : ∀ a b c, r a b → r b c → r a c
  tri : ∀ a b, r a b ∨ a = b ∨ r b a

theorem STO.lex {κ κ' : Type} {r : κ → κ → Prop} {s : κ' → κ' → Prop} (hr : STO r) (hs : STO s) :
    STO (fun p q : κ × κ' => r p.1 q.1 ∨ (p.1 = q.1 ∧ s p.2 q.2)) := by
  refine ⟨?_, ?_, ?_⟩
  · rintro a (h | ⟨_, h⟩)
    · exact hr.irrefl _ h
    · exact hs.irrefl _ h
  · rintro a b c (h1 | ⟨e1, h1⟩) (h2 | ⟨e2, h2⟩)
    · exact Or.inl (hr.trans _ _ _ h1 h2)
    · exact Or.inl (e2 ▸ h1)
    · exact Or.inl (e1 ▸ h2)
    · exact Or.inr ⟨e1.trans e2, hs.trans _ _ _ h1 h2⟩
  · intro a b
    rcases hr.tri a.1 b.1 with h | h | h
    · exact Or.inl (Or.inl h)
    · rcases hs.tri a.2 b.2 with h' | h' | h'
      · exact Or.inl (Or.inr ⟨h, h'⟩)
      · exact Or.inr (Or.inl (Prod.ext h h'))
      · exact Or.inr (Or.inr (Or.inr ⟨h.symm, h'⟩))
    · exact Or.inr (Or.inr (Or.inl h))

section key
variable {α κ : Type} {r : κ → κ → Prop} {less : α → α → Bool}

theorem swo_of_key (hr : STO r) (key : α → κ) (h : ∀ a b, less a b = true ↔ r (key a) (key b)) : SWO less := by
  have hf : ∀ {a b}, less a b = false → ¬ r (key a) (key b) := fun hab x => by
    rw [(h _ _).2 x] at hab; cases hab
  refine ⟨fun a => ?_, fun a b c h1 h2 => (h a c).2 (hr.trans _ _ _ ((h a b).1 h1) ((h b c).1 h2)),
    fun a b c h1 h2 => ?_⟩
  · exact Bool.eq_false_iff.2 fun x => hr.irrefl _ ((h a a).1 x)
  · refine Bool.eq_false_iff.2 fun x => ?_
    have hac := (h a c).1 x
    rcases hr.tri (key a) (key b) with y | y | y
    · exact hf h1 y
    · exact hf h2 (y ▸ hac)
    · exact hf h2 (hr.trans _ _ _ y hac)

theorem comparable_of_key (hr : STO r) (key : α → κ) (h : ∀ a b, less a b = true ↔ r (key a) (key b))
    {a b : α} (hne : key a ≠ key b) : less a b = true ∨ less b a = true := by
  rcases hr.tri (key a) (key b) with x | x | x
  · exact Or.inl ((h a b).2 x)
  · exact absurd x hne
  · exact Or.inr ((h b a).2 x)

end key

theorem sto_string : STO (fun a b : String => a < b) :=
  ⟨String.lt_irrefl, fun _ _ _ => String.lt_trans, Std.lt_trichotomy⟩

def rlt (p q : Nat × Int) : Prop := p.1 < q.1 ∨ (p.1 = q.1 ∧ p.2 < q.2)

theorem sto_rlt : STO rlt :=
  STO.lex ⟨Nat.lt_irrefl, fun _ _ _ => Nat.lt_trans, Nat.lt_trichotomy⟩
    ⟨Int.lt_irrefl, fun _ _ _ => Int.lt_trans, Int.lt_trichotomy⟩

/-- What `TierLess` compares before the name: the class 0 valid with an order < 1 valid without <
2 invalid with an order < 3 invalid without, then the order value (0 if unset). -/
def tierRank (k : TierKey) : Nat × Int :=
  ((if k.valid then 0 else 2) + (if k.order.isSome then 0 else 1), k.order.getD 0)

/-- `TierLess`: the rank (valid first, then those with an order, by order), then the name.  An unset order is `none`. -/
theorem tierLess_meaning (a b : TierKey) : tierLess a b = true ↔
    (rlt (tierRank a) (tierRank b) ∨ (tierRank a = tierRank b ∧ a.name < b.name)) := by
  obtain ⟨an, av, ao⟩ := a
  obtain ⟨bn, bv, bo⟩ := b
  cases av <;> cases bv <;> cases ao <;> cases bo <;>
    simp [tierLess, tierRank, rlt, Prod.ext_iff] <;> (try omega)
  all_goals
    rename_i x y
    by_cases hxy : x = y
    · subst hxy; simp
    · simp [hxy]

theorem swo_tierLess : SWO tierLess :=
  swo_of_key (sto_rlt.lex sto_string) (fun k => (tierRank k, k.name)) tierLess_meaning

theorem tier_comparable {a b : TierKey} (h : a.name ≠ b.name) : tierLess a b = true ∨ tierLess b a = true :=
  comparable_of_key (sto_rlt.lex sto_string) (fun k => (tierRank k, k.name)) tierLess_meaning
    fun e => h (Prod.mk.inj e).2

theorem sto_orderLt : STO (fun a b : Option Int => orderLt a b = true) := by
  refine ⟨fun a => ?_, fun a b c => ?_, fun a b => ?_⟩
  · cases a <;> simp [orderLt]
  · cases a <;> cases b <;> cases c <;> simp [orderLt]; omega
  · cases a <;> cases b <;> simp [orderLt]; omega

/-- `PolKVLess`: the order (default `+Inf` last), then the tie-break string. -/
theorem polKVLess_meaning (a b : PolKV) : polKVLess a b = true ↔
    (orderLt a.val.order b.val.order = true ∨ (a.val.order = b.val.order ∧ tieStr a.key < tieStr b.key)) := by
  unfold polKVLess
  by_cases h : a.val.order = b.val.order
  · simp [h, sto_orderLt.irrefl]
  · simp [h]

theorem swo_polKVLess : SWO polKVLess :=
  swo_of_key (sto_orderLt.lex sto_string) (fun p => (p.val.order, tieStr p.key)) polKVLess_meaning

/-- The policy keys in play: their tie-break strings `name/namespace/kind` are pairwise different
(true for validated Calico names, which contain no '/'). -/
structure KeyU (K : PolicyKey → Prop) : Prop where
  inj : ∀ a b, K a → K b → tieStr a = tieStr b → a = b

theorem pol_comparable {K : PolicyKey → Prop} (hK : KeyU K) {a b : PolKV} (ha : K a.key) (hb : K b.key)
    (hne : a.key ≠ b.key) : polKVLess a b = true ∨ polKVLess b a = true := by
  refine comparable_of_key (sto_orderLt.lex sto_string) (fun p => (p.val.order, tieStr p.key)) polKVLess_meaning ?_
  intro e
  exact hne (hK.inj _ _ ha hb (Prod.mk.inj e).2)

def keepMatching (m : List (PolicyKey × EpKey)) (e : EpKey) (t : TierInfo) : TierInfo :=
  { name := t.name, order := t.order, defaultAction := t.defaultAction, valid := true,
    policies := t.policies.filter (fun kv => decide ((kv.key, e) ∈ m)) }

theorem filterTiers_eq (m : List (PolicyKey × EpKey)) (e : EpKey) (ts : List TierInfo) :
    filterTiers m e ts = (ts.map (keepMatching m e)).filter (fun t => !t.policies.isEmpty) := by
  induction ts with
  | nil => rfl
  | cons t ts ih =>
    simp only [filterTiers, List.map_cons, List.filter_cons, keepMatching, ih]
    split <;> simp [*]

theorem mem_filterTiers {m : List (PolicyKey × EpKey)} {e : EpKey} {ts : List TierInfo} {t' : TierInfo} :
    t' ∈ filterTiers m e ts ↔ t'.policies ≠ [] ∧ ∃ t ∈ ts, keepMatching m e t = t' := by
  simp [filterTiers_eq, and_comm]

end CalicoVerif.C03
