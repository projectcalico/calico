import CalicoVerif.Proofs.C11Total
import CalicoVerif.Proofs.C11Comp
import CalicoVerif.Proofs.C11Asm
/-!
C11 — programs split into a CHAIN (`maybeSplitProgram`), generic part (over the split fold `cont` of `C11Split`):
what the block bookkeeping knows of unresolved jump targets, the label-level semantics of the rest of the chain
(`chainK`), and the backward simulation invariant `GA` between the split and the unsplit program.

How the chain proof goes. `GA env st xdp nmax E c S` speaks of a suffix `S` of the builder's output (`bodyB`: all
of `compile` behind the header) and relates two label-level runs of it from machines that satisfy `InvC st c`:
the CHAIN run — the current block `(cont … S s).1` for ANY state `s` of the split fold, continued by `chainK`
through the later blocks `(cont … S s).2` — and the UNSPLIT run `lrun env (flat S)`. It says only that both end
as SOME verdict `V` demands (`Both`: `agreesV … V` of either outcome, and `V = .xdpPass` only in XDP programs,
which `agreesV_unique` needs); which verdict is not its business. The reference verdict enters once, at the very
end (`polprog_chain`, `C11ChainTop`): `lrun_program` gives it for the unsplit run, `agreesV_unique` carries it over.
* `start` (`GoodAt`): control falls into `S`. `lab` (`GoodL`): control arrives by a jump to a label `l ∈ E`;
  `E` lists the labels defined in `S` that code BEFORE `S` may still jump to. The premises `l ∈ s.cur.fix`,
  `l ∈ s.cur.use` say that the current block holds such a jump, not yet resolved: this is what makes a split point
  give `l` a landing pad. `foot`: the unsplit run from a footer label in `E` ends as that label's verdict (`vOf`)
  demands — needed where the chain run leaves through the block's own copy of the footer.
* `nmax` bounds the number of programs (`s.done.length` + the blocks still to come); `ChainEnv env nmax`
  (`C11ChainGlue`) makes the policy-jump slots up to it well-formed. `ShortBlocks`: no block reaches the
  trampoline stride. `Carry`/`InvC`: what code behind a split point may rely on besides `Inv` (R1 = the port, inside
  the port loop). `DecidesC` is `Decides` with a carry before and behind the fragment (`decidesC_iff`: the triple `Tri`
  over `InvC`); like `Decides` it is eliminated by applying it to the rest of the program, a machine and its
  invariant. `GoodAt`, `GoodL` only name the types of `GA`'s fields.
* `GA` is proved from the footer backwards by prepending: `GA.pieceL`/`GA.piece` a label-free fragment with a
  `DecidesC` lemma (`Live`: every event is emitted when the block's next instruction is reachable; `MayFall`: so
  is the instruction behind it) and the labels private to it, `GA.label` the definition of a label (which joins
  `E`), `GA.marker` (`C11ChainGlue`) a `maybeSplitProgram` call site. `C11ChainB` packages these as `GT` and walks
  the builder.
-/
namespace CalicoVerif.C11

theorem seek_append_some {l : Label} {a r : List Ev} (b : List Ev) (h : seek l a = some r) :
    seek l (a ++ b) = some (r ++ b) := by
  induction a with
  | nil => simp [seek] at h
  | cons e es ih =>
    cases e with
    | label l' =>
      simp only [seek] at h
      simp only [List.cons_append, seek]
      split at h
      · rename_i hl; cases h; simp [hl]
      · rename_i hl; simp only [hl, if_false]; exact ih h
    | ins i => simp only [seek] at h; simp only [List.cons_append, seek]; exact ih h
    | jmp i l' => simp only [seek] at h; simp only [List.cons_append, seek]; exact ih h

theorem step_append (env : Env) (i : Insn) (r tl : List Ev) (m : Mach) (h : step env i (nextIns r) m ≠ .fault) :
    step env i (nextIns (r ++ tl)) m = step env i (nextIns r) m := by
  cases r with
  | nil =>
    by_cases hop : i.op = opLoadImm64
    · exact absurd (step_loadImm64_fault hop (by intro j hj; cases hj)) h
    · exact step_nxt _ _ hop
  | cons e r2 => cases e <;> rfl

theorem lrun_append_nofault (env : Env) (tl : List Ev) (a : List Ev) (m : Mach)
    (hnf : (lrun env a m).isFault = false) : lrun env (a ++ tl) m = lrun env a m := by
  induction a, m using lrun.induct env with
  | case1 m => simp [lrun, Outcome.isFault] at hnf
  | case2 l r m ih => rw [List.cons_append, lrun_label, lrun_label]; rw [lrun_label] at hnf; exact ih hnf
  | case3 i r m m' hs ih =>
    rw [lrun_ins_next hs] at hnf ⊢
    rw [List.cons_append, lrun_ins_next ((step_append env i r tl m (by rw [hs]; nofun)).trans hs)]
    exact ih hnf
  | case4 i r m m' hs ih =>
    -- the second slot is there
    obtain ⟨_, j, hj, _⟩ := step_next2 hs
    obtain ⟨r2, rfl⟩ := nextIns_eq_some hj
    rw [lrun_ins_next2 hs] at hnf ⊢
    rw [List.cons_append, List.cons_append, lrun_ins_next2 hs]
    exact ih hnf
  | case5 i r m m' hs | case6 i r m r0 m' hs | case7 i r m fd idx m' hs =>
    rw [List.cons_append, lrun_ins_eq, lrun_ins_eq, step_append env i r tl m (by rw [hs]; nofun), hs]
  | case8 i r m hs => rw [lrun_ins_eq, hs] at hnf; cases hnf
  | case9 i l r m hj => rw [lrun_jmp_eq, if_pos hj] at hnf; cases hnf
  | case10 i l r m hj m' hs ih =>
    have hj' : i.isJumpOp = true := by simpa using hj
    rw [lrun_jmp_next hj' hs] at hnf ⊢
    rw [List.cons_append, lrun_jmp_next hj' hs]
    exact ih hnf
  | case11 i l r m hj m' hs r' hk ih =>
    have hj' : i.isJumpOp = true := by simpa using hj
    rw [lrun_jmp_taken hj' hs] at hnf ⊢
    rw [List.cons_append, lrun_jmp_taken hj' hs]
    simp only [goto, hk, seek_append_some tl hk] at hnf ⊢
    exact ih hnf
  | case12 i l r m hj m' hs hk =>
    rw [lrun_jmp_taken (by simpa using hj) hs] at hnf
    simp [goto, hk, Outcome.isFault] at hnf
  | case13 i l r m hj h1 h2 =>
    rw [lrun_jmp_eq, if_neg hj] at hnf
    cases hs : step env i none m <;> rw [hs] at hnf <;> first | exact absurd hs (h1 _) | exact absurd hs (h2 _) | cases hnf

theorem goto_append_nofault (env : Env) (l : Label) (a tl : List Ev) (m : Mach)
    (hnf : (goto env l a m).isFault = false) : goto env l (a ++ tl) m = goto env l a m := by
  unfold goto at hnf ⊢
  cases hk : seek l a with
  | none => rw [hk] at hnf; simp [Outcome.isFault] at hnf
  | some r =>
    rw [hk] at hnf
    rw [seek_append_some tl hk]
    exact lrun_append_nofault env tl r m hnf

theorem labelsOf_landingPads : ∀ (T : List Label) (j : Nat), labelsOf (landingPads T j) = T := by
  intro T
  induction T with
  | nil => intro j; rfl
  | cons t ts ih =>
    intro j
    cases ts with
    | nil => simp [landingPads, labelsOf, movImm64, mk]
    | cons t2 ts2 =>
      have := ih (j + 1)
      simp only [landingPads, List.cons_append, List.nil_append, labelsOf, movImm64, mk, jump, mkJ, this]

theorem flat_evs (B : List Ev) (S : List BEv) : flat (B.map BEv.ev ++ S) = B ++ flat S := by
  rw [flat_append, flat_map_ev]

/-- the model's `stops`, on an event -/
def Ev.uncond : Ev → Bool
  | .ins i => i.op == opJumpA || i.op == opExit
  | .jmp i _ => i.op == opJumpA || i.op == opExit
  | .label _ => false

def Ev.isLabel : Ev → Bool
  | .label _ => true
  | _ => false

/-- Label-free, and no `JumpA`/`Exit` except possibly as the very last event: fed to a block whose next
instruction is reachable, every event is emitted. -/
def Live : List Ev → Bool
  | [] => true
  | [e] => !e.isLabel
  | e :: r => !e.isLabel && !e.uncond && Live r

def MayFall (B : List Ev) : Bool :=
  match B.getLast? with
  | none => true
  | some e => !e.uncond

theorem live_of_all : ∀ B : List Ev, B.all (fun e => !e.isLabel && !e.uncond) = true → Live B = true ∧ MayFall B = true
  | [], _ => ⟨rfl, rfl⟩
  | [e], h => by
    simp only [List.all_cons, List.all_nil, Bool.and_true, Bool.and_eq_true, Bool.not_eq_true'] at h
    exact ⟨by simp [Live, h.1], by simp [MayFall, h.2]⟩
  | e :: e2 :: r, h => by
    simp only [List.all_cons, Bool.and_eq_true, Bool.not_eq_true'] at h
    obtain ⟨h1, h2⟩ := live_of_all (e2 :: r) (by simpa only [List.all_cons, Bool.and_eq_true, Bool.not_eq_true'] using h.2)
    exact ⟨by simp only [Live, h.1.1, h.1.2, Bool.not_false, Bool.true_and]; exact h1, by simpa [MayFall] using h2⟩

theorem raw_reach (b : BlockSt) (e : Ev) (hr : b.reach = true) (hl : e.isLabel = false) (hu : e.uncond = false) :
    (b.raw e).reach = true := by
  unfold BlockSt.reach at hr ⊢
  cases e with
  | label l => simp [Ev.isLabel] at hl
  | ins i =>
    simp only [BlockSt.raw]
    rw [if_pos hr]
    simp only [Ev.uncond] at hu
    simp [reachable, stops, hu]
  | jmp i l =>
    simp only [BlockSt.raw]
    rw [if_pos hr]
    simp only [Ev.uncond] at hu
    simp [reachable, stops, hu]

theorem labelsOf_of_live : ∀ B : List Ev, Live B = true → labelsOf B = [] := by
  intro B
  induction B with
  | nil => intro _; rfl
  | cons e r ih =>
    intro h
    cases r with
    | nil => cases e <;> simp_all [Live, Ev.isLabel, labelsOf]
    | cons e2 r2 =>
      simp only [Live, Bool.and_eq_true, Bool.not_eq_true'] at h
      have := ih h.2
      cases e <;> simp_all [Ev.isLabel, labelsOf]

theorem rawAll_live : ∀ (B : List Ev) (b : BlockSt), b.reach = true → Live B = true →
    (MayFall B = true → (rawAll b B).reach = true) ∧
    (∀ i l, Ev.jmp i l ∈ B → l ∈ (rawAll b B).fix ∧ l ∈ (rawAll b B).use) := by
  intro B
  induction B with
  | nil => intro b hr _; exact ⟨fun _ => hr, by intro i l h; cases h⟩
  | cons e r ih =>
    intro b hr hl
    cases r with
    | nil =>
      simp only [Live, Bool.not_eq_true'] at hl
      refine ⟨?_, ?_⟩
      · intro hm
        simp only [MayFall, List.getLast?_singleton, Bool.not_eq_true'] at hm
        exact raw_reach b e hr hl hm
      · intro i l hm
        simp only [List.mem_singleton] at hm
        subst hm
        exact raw_jmp_fix b i l hr
    | cons e2 r2 =>
      simp only [Live, Bool.and_eq_true, Bool.not_eq_true'] at hl
      obtain ⟨⟨hl1, hl2⟩, hl3⟩ := hl
      have hr' := raw_reach b e hr hl1 hl2
      obtain ⟨h1, h2⟩ := ih (b.raw e) hr' hl3
      refine ⟨?_, ?_⟩
      · intro hm
        apply h1
        simpa [MayFall] using hm
      · intro i l hm
        rcases List.mem_cons.1 hm with rfl | hm
        · obtain ⟨a, c⟩ := raw_jmp_fix b i l hr
          have hlab : l ∉ labelsOf (e2 :: r2) := by rw [labelsOf_of_live _ hl3]; simp
          exact ⟨rawAll_fix_mono (e2 :: r2) l hlab (b.raw (.jmp i l)) a, rawAll_use_mono (e2 :: r2) (b.raw (.jmp i l)) l c⟩
        · exact h2 i l hm

theorem cl_glueHead (ext : List Label) (c : Cfg) (xdp : Bool) (hnp : Label.nextProgram ∈ ext) : CL ext (glueHead c xdp) := by
  have h1 : CL ext [movImm64 R0 0, jump .nextProgram] := by
    simp only [CL, closedIn, movImm64, mk, jump, mkJ, Bool.and_eq_true, Bool.or_eq_true]
    exact ⟨Or.inr (List.contains_iff_mem.2 hnp), trivial⟩
  exact h1.append ((cl_footer c xdp).mono (fun _ h => by cases h))

theorem labelsOf_glueHead (c : Cfg) (xdp : Bool) : labelsOf (glueHead c xdp) = footerLabels xdp := by
  rw [glueHead, labelsOf_append, labelsOf_footer]; rfl

theorem mem_splitTargets {c : Cfg} {xdp : Bool} {s : SplitSt} {l : Label} :
    l ∈ splitTargets c xdp s ↔ l ∈ s.cur.fix ∧ l ∉ footerLabels xdp ∧ l ≠ .nextProgram := by
  simp only [splitTargets, List.mem_filter, mem_sortLabels, bne_iff_ne, ne_eq]
  constructor
  · rintro ⟨h, hnp⟩
    rcases fix_closed (glueHead c xdp) _ [.nextProgram] (cl_glueHead _ c xdp List.mem_cons_self) l h with ⟨h1, h2⟩ | h1
    · exact ⟨h1, labelsOf_glueHead c xdp ▸ h2, hnp⟩
    · exact absurd (List.mem_singleton.1 h1) hnp
  · rintro ⟨hf, hnf, hnp⟩
    exact ⟨rawAll_fix_mono _ l (by rw [labelsOf_glueHead]; exact hnf) _ hf, hnp⟩

/-- The rest of the chain: a policy-jump tail call to slot `base + j` continues in the `j`-th later
block with fresh registers and stack (and the same state); every other outcome is final. -/
def chainK (env : Env) : List (List Ev) → Nat → Outcome → Outcome
  | [], _, o =>
    match o with
    | .tail fd idx m =>
      if fd = env.c.policyJumpMapFD ∧ fd ≠ env.c.staticJumpMapFD then .fault else .tail fd idx m
    | o => o
  | b :: bs, base, o =>
    match o with
    | .tail fd idx m =>
      if fd = env.c.policyJumpMapFD ∧ fd ≠ env.c.staticJumpMapFD then
        match slotToProg env.c idx with
        | some k' =>
          if k' = base then chainK env bs (base + 1) (lrun env b (Mach.init m.st))
          else if base < k' then chainK env bs (base + 1) (.tail fd idx m)
          else .fault
        | none => .fault
      else .tail fd idx m
    | o => o

theorem chainK_stop (env : Env) (bs : List (List Ev)) (base : Nat) (o : Outcome)
    (h : ∀ fd idx m, o = .tail fd idx m → ¬ (fd = env.c.policyJumpMapFD ∧ fd ≠ env.c.staticJumpMapFD)) :
    chainK env bs base o = o := by
  cases bs <;> cases o <;> simp_all [chainK]

theorem chainK_final (env : Env) (bs : List (List Ev)) (base : Nat) (o : Outcome) (h : o.final env) :
    chainK env bs base o = o :=
  chainK_stop env bs base o fun _ _ _ e hp => by subst e; exact hp.2 h

/-- Both runs end as ONE verdict demands (the one the label names, if it is a footer label). -/
def Both (env : Env) (xdp : Bool) (l : Option Label) (oC oF : Outcome) : Prop :=
  ∃ V, (∀ l' V', l = some l' → vOf l' = some V' → V = V') ∧ (V = .xdpPass → xdp = true) ∧
    agreesV env xdp V oC ∧ agreesV env xdp V oF

theorem Both.weaken {env : Env} {xdp : Bool} {l : Option Label} {oC oF : Outcome} (h : Both env xdp l oC oF) :
    Both env xdp none oC oF := by
  obtain ⟨V, _, hx, h2, h3⟩ := h
  exact ⟨V, (by intro l' V' h; cases h), hx, h2, h3⟩

theorem Both.ofLabel {env : Env} {xdp : Bool} {l : Label} {V : Verdict} {oC oF : Outcome} (hv : vOf l = some V)
    (hx : l = .xdpPass → xdp = true) (hC : agreesV env xdp V oC) (hF : agreesV env xdp V oF) :
    Both env xdp (some l) oC oF := by
  refine ⟨V, ?_, ?_, hC, hF⟩
  · intro l' V' e hv'
    cases e
    rw [hv] at hv'; cases hv'; rfl
  · intro e
    subst e
    exact hx (by cases l <;> simp [vOf] at hv <;> rfl)

/-- What code after a split point may rely on besides `Inv`: nothing, or R1 = the leg's port. -/
inductive Carry
  | none
  | port (leg : Leg)
deriving DecidableEq

def InvC (st : List Byte) (c : Carry) (m : Mach) : Prop :=
  Inv st m ∧ ∀ leg, c = .port leg → m.reg 1 = some (BitVec.ofNat 64 (fieldN st leg.pto 2))

theorem InvC.inv {st : List Byte} {c : Carry} {m : Mach} (h : InvC st c m) : Inv st m := h.1
theorem InvC.none {st : List Byte} {m : Mach} (h : Inv st m) : InvC st .none m := ⟨h, by intro leg e; cases e⟩
theorem InvC.drop {st : List Byte} {c : Carry} {m : Mach} (h : InvC st c m) : InvC st .none m := InvC.none h.1

/-- `Decides` with a carry: needs `pre`, establishes `post` when control falls through. -/
def DecidesC (env : Env) (st : List Byte) (pre post : Carry) (B : List Ev) (t : Option Label) : Prop :=
  ∀ rest m, InvC st pre m → ∃ m', Inv st m' ∧ (t = none → InvC st post m') ∧
    lrun env (B ++ rest) m = match t with
      | some l => goto env l rest m'
      | none => lrun env rest m'

theorem decidesC_iff {env : Env} {st : List Byte} {pre post : Carry} {B : List Ev} {t : Option Label} :
    DecidesC env st pre post B t ↔
      Tri env (InvC st pre) B (fun t' m => t' = t ∧ Inv st m ∧ (t = none → InvC st post m)) := by
  constructor
  · intro h rest m hI
    obtain ⟨m', hI', hc, e⟩ := h rest m hI
    exact ⟨t, m', ⟨rfl, hI', hc⟩, by rw [e]; cases t <;> rfl⟩
  · intro h rest m hI
    obtain ⟨t', m', ⟨rfl, hI', hc⟩, e⟩ := h rest m hI
    exact ⟨m', hI', hc, by rw [e]; cases t' <;> rfl⟩

theorem Decides.toC {env : Env} {st : List Byte} {B : List Ev} {t : Option Label} (h : Decides env st B t) (pre : Carry) :
    DecidesC env st pre .none B t :=
  decidesC_iff.2 ((decides_iff.1 h).conseq (fun _ hI => hI.inv) fun _ _ hq => ⟨hq.1, hq.2, fun _ => InvC.none hq.2⟩)

/-- The simulation statement at a builder position: `S` = the remaining builder events (to the end of the
program), `s` = the split fold's state there. -/
def GoodAt (env : Env) (st : List Byte) (xdp : Bool) (nmax : Nat) (c : Carry) (S : List BEv) (s : SplitSt) : Prop :=
  s.cur.reach = true → s.done.length + (cont env.c xdp S s).2.length ≤ nmax → ShortBlocks env.c xdp S s →
  ∀ mC mF, InvC st c mC → InvC st c mF →
    Both env xdp none
      (chainK env (cont env.c xdp S s).2 (s.done.length + 1) (lrun env (cont env.c xdp S s).1 mC))
      (lrun env (flat S) mF)

/-- ... and for control arriving by a jump to `l` that is still unresolved in the current block. -/
def GoodL (env : Env) (st : List Byte) (xdp : Bool) (nmax : Nat) (S : List BEv) (s : SplitSt) (l : Label) : Prop :=
  l ∈ s.cur.fix → l ∈ s.cur.use → s.done.length + (cont env.c xdp S s).2.length ≤ nmax → ShortBlocks env.c xdp S s →
  ∀ mC mF, Inv st mC → Inv st mF →
    Both env xdp (some l)
      (chainK env (cont env.c xdp S s).2 (s.done.length + 1) (goto env l (cont env.c xdp S s).1 mC))
      (goto env l (flat S) mF)

structure GA (env : Env) (st : List Byte) (xdp : Bool) (nmax : Nat) (E : List Label) (c : Carry) (S : List BEv) : Prop where
  start : ∀ s : SplitSt, GoodAt env st xdp nmax c S s
  lab : ∀ s : SplitSt, ∀ l ∈ E, GoodL env st xdp nmax S s l
  foot : ∀ l ∈ E, ∀ V, vOf l = some V → ∀ mF, Inv st mF → agreesV env xdp V (goto env l (flat S) mF)

theorem GA.mono {env : Env} {st : List Byte} {xdp : Bool} {nmax : Nat} {E E' : List Label} {c : Carry} {S : List BEv}
    (h : GA env st xdp nmax E c S) (hsub : ∀ l ∈ E', l ∈ E) : GA env st xdp nmax E' c S :=
  ⟨h.start, fun s l hl => h.lab s l (hsub l hl), fun l hl => h.foot l (hsub l hl)⟩

theorem Both.retag {env : Env} {xdp : Bool} {l : Label} {oC oF : Outcome} (h : Both env xdp none oC oF)
    (hv : vOf l = none) : Both env xdp (some l) oC oF := by
  obtain ⟨V, _, hx, h2, h3⟩ := h
  refine ⟨V, ?_, hx, h2, h3⟩
  intro l' V' e hv'
  cases e
  rw [hv] at hv'; cases hv'

theorem labelsOf_map_label (Ls : List Label) : labelsOf (Ls.map Ev.label) = Ls := by
  induction Ls with
  | nil => rfl
  | cons l ls ih => simp only [List.map_cons, labelsOf, ih]

theorem rawAll_labels_reach (Ls : List Label) (b : BlockSt) (h : b.reach = true) :
    (rawAll b (Ls.map Ev.label)).reach = true := by
  induction Ls generalizing b with
  | nil => exact h
  | cons l ls ih => exact ih _ (reachable_cons l h)

/-- Prepend a fragment with a `DecidesC` lemma: label-free code `B`, then the definitions of labels
`Ls` private to it (jumps of `B` may target them; the carry survives them). -/
theorem GA.pieceL {env : Env} {st : List Byte} {xdp : Bool} {nmax : Nat} {E : List Label} {pre post : Carry}
    {S : List BEv} (B : List Ev) (Ls : List Label) (t : Option Label)
    (hd : DecidesC env st pre post (B ++ Ls.map Ev.label) t) (hlive : Live B = true)
    (hfall : t = none → MayFall B = true)
    (htgt : ∀ l, t = some l → (∃ i, Ev.jmp i l ∈ B) ∧ l ∈ E) (hLE : ∀ L ∈ Ls, L ∉ E)
    (h : GA env st xdp nmax E post S) : GA env st xdp nmax E pre ((B ++ Ls.map Ev.label).map BEv.ev ++ S) := by
  have hlab : labelsOf (B ++ Ls.map Ev.label) = Ls := by
    rw [labelsOf_append, labelsOf_of_live B hlive, labelsOf_map_label]; rfl
  have hne : ∀ l ∈ E, l ∉ labelsOf (B ++ Ls.map Ev.label) := fun l hl hm => hLE l (hlab ▸ hm) hl
  refine ⟨?_, ?_, ?_⟩
  · intro s hreach hn hsb mC mF hC hF
    have hsb' := hsb.evs
    rw [cont_evs] at hn ⊢
    rw [flat_evs]
    simp only at hn ⊢
    obtain ⟨mC', hIC, hcC, eC⟩ := hd (cont env.c xdp S { s with cur := rawAll s.cur (B ++ Ls.map Ev.label) }).1 mC hC
    obtain ⟨mF', hIF, hcF, eF⟩ := hd (flat S) mF hF
    rw [eC, eF]
    obtain ⟨hl1, hl2⟩ := rawAll_live B s.cur hreach hlive
    cases t with
    | none =>
      refine h.start { s with cur := rawAll s.cur (B ++ Ls.map Ev.label) } ?_ hn hsb' mC' mF' (hcC rfl) (hcF rfl)
      rw [rawAll_append]
      exact rawAll_labels_reach Ls _ (hl1 (hfall rfl))
    | some l =>
      obtain ⟨⟨i, hi⟩, hE⟩ := htgt l rfl
      obtain ⟨hf, hu⟩ := hl2 i l hi
      have hnl : l ∉ labelsOf (Ls.map Ev.label) := by rw [labelsOf_map_label]; exact fun hm => hLE l hm hE
      refine (h.lab { s with cur := rawAll s.cur (B ++ Ls.map Ev.label) } l hE ?_ ?_ hn hsb' mC' mF' hIC hIF).weaken
      · rw [rawAll_append]; exact rawAll_fix_mono _ l hnl _ hf
      · rw [rawAll_append]; exact rawAll_use_mono _ _ l hu
  · intro s l hl hfix huse hn hsb mC mF hC hF
    have hsb' := hsb.evs
    rw [cont_evs] at hn ⊢
    rw [flat_evs]
    simp only at hn ⊢
    rw [goto_append _ mC (hne l hl), goto_append _ mF (hne l hl)]
    exact h.lab { s with cur := rawAll s.cur (B ++ Ls.map Ev.label) } l hl (rawAll_fix_mono _ l (hne l hl) s.cur hfix)
      (rawAll_use_mono _ s.cur l huse) hn hsb' mC mF hC hF
  · intro l hl V hV mF hF
    rw [flat_evs, goto_append _ mF (hne l hl)]
    exact h.foot l hl V hV mF hF

theorem GA.piece {env : Env} {st : List Byte} {xdp : Bool} {nmax : Nat} {E : List Label} {pre post : Carry}
    {S : List BEv} (B : List Ev) (t : Option Label)
    (hd : DecidesC env st pre post B t) (hlive : Live B = true) (hfall : t = none → MayFall B = true)
    (htgt : ∀ l, t = some l → (∃ i, Ev.jmp i l ∈ B) ∧ l ∈ E)
    (h : GA env st xdp nmax E post S) : GA env st xdp nmax E pre (B.map BEv.ev ++ S) := by
  have := GA.pieceL B [] t (by simpa using hd) hlive hfall htgt (by intro L hL; cases hL) h
  simpa using this

theorem GA.label {env : Env} {st : List Byte} {xdp : Bool} {nmax : Nat} {E : List Label} {c : Carry}
    {S : List BEv} (l : Label) (hv : vOf l = none)
    (h : GA env st xdp nmax E .none S) : GA env st xdp nmax (l :: E) c (BEv.ev (.label l) :: S) := by
  have hcont : ∀ s, cont env.c xdp (BEv.ev (.label l) :: S) s =
      (Ev.label l :: (cont env.c xdp S { s with cur := s.cur.raw (.label l) }).1,
        (cont env.c xdp S { s with cur := s.cur.raw (.label l) }).2) := fun _ => rfl
  have hsb' : ∀ s, ShortBlocks env.c xdp (BEv.ev (.label l) :: S) s →
      ShortBlocks env.c xdp S { s with cur := s.cur.raw (.label l) } := fun s hsb =>
    ShortBlocks.evs (B := [.label l]) hsb
  refine ⟨?_, ?_, ?_⟩
  · intro s hreach hn hsb mC mF hC hF
    rw [hcont] at hn ⊢
    simp only [flat] at hn ⊢
    rw [lrun_label, lrun_label]
    exact h.start { s with cur := s.cur.raw (.label l) } (reachable_cons l hreach) hn (hsb' s hsb) mC mF hC.drop hF.drop
  · intro s l' hl' hfix huse hn hsb mC mF hC hF
    rw [hcont] at hn ⊢
    simp only [flat] at hn ⊢
    by_cases hll : l = l'
    · subst hll
      rw [goto_label_self, goto_label_self]
      exact (h.start { s with cur := s.cur.raw (.label l) } (reachable_label huse) hn (hsb' s hsb) mC mF (InvC.none hC)
        (InvC.none hF)).retag hv
    · rw [goto_cons_label_ne env _ mC hll, goto_cons_label_ne env _ mF hll]
      have hE : l' ∈ E := (List.mem_cons.1 hl').resolve_left fun e => hll e.symm
      exact h.lab { s with cur := s.cur.raw (.label l) } l' hE
        (raw_fix_mono s.cur (.label l) l' (by intro e; cases e; exact hll rfl) hfix)
        (raw_use_mono s.cur (.label l) l' huse) hn (hsb' s hsb) mC mF hC hF
  · intro l' hl' V hV mF hF
    have hll : l ≠ l' := by intro e; subst e; rw [hv] at hV; cases hV
    have hE : l' ∈ E := (List.mem_cons.1 hl').resolve_left fun e => hll e.symm
    simp only [flat]
    rw [goto_cons_label_ne env _ mF hll]
    exact h.foot l' hE V hV mF hF

end CalicoVerif.C11
