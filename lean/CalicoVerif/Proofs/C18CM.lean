import CalicoVerif.Model.C18CM
import CalicoVerif.Proofs.C18
/-! C18, the caching map: `CInv` (the tracker invariants, and once the cache is loaded the tracker's dataplane view is
the backing map), what the mock backing map holds after a pass of writes (`get_realAfterUpdates`,
`get_realAfterDeletes`), and the one step lemma `cinv_op`: a tracker operation together with any change of the backing
map that equals what the specification says the dataplane becomes keeps `CInv`. -/
namespace CalicoVerif.C18
variable {K V : Type} [DecidableEq K]

structure CInv (eqv : V → V → Bool) (c : CM K V) : Prop where
  inv : Inv eqv c.t
  wf : WF3 c.t
  nr : NodupKeys c.real
  sync : c.loaded = true → ∀ k, dataplaneGet c.t k = get c.real k

theorem get_fold_del (ks : List K) (r : GoMap K V) (k : K) :
    get (ks.foldl (fun r k => del r k) r) k = if k ∈ ks then none else get r k := by
  rw [get_eq, get_eq]; exact Assoc.get_foldl_del ks r k

theorem get_realAfterUpdates (real du : GoMap K V) (F : K → Bool) (hn : NodupKeys du) (k : K) :
    get (realAfterUpdates real du F) k = if F k then get real k else
      (match get du k with
       | some v => some v
       | none => get real k) := by
  have h := get_copyInto real (du.filter (fun kv => !F kv.1)) (Assoc.nodup_filter _ hn) k
  unfold copyInto at h
  unfold realAfterUpdates
  rw [h, get_filter du (fun x => !F x) k]
  cases F k <;> rfl

theorem get_realAfterDeletes (real : GoMap K V) (ks : List K) (F : K → Bool) (k : K) :
    get (realAfterDeletes real ks F) k = if k ∈ ks ∧ F k = false then none else get real k := by
  unfold realAfterDeletes
  rw [get_fold_del]
  simp only [List.mem_filter, Bool.not_eq_true']

theorem nodup_realAfterUpdates (real du : GoMap K V) (F : K → Bool) (h : NodupKeys real) :
    NodupKeys (realAfterUpdates real du F) :=
  nodupKeys_copyInto real _ h

theorem nodup_realAfterDeletes (real : GoMap K V) (ks : List K) (F : K → Bool) (h : NodupKeys real) :
    NodupKeys (realAfterDeletes real ks F) :=
  List.foldlRecOn (motive := NodupKeys) _ _ h fun _ hs _ _ => nodupKeys_del _ _ hs

theorem cinv_op (eqv : V → V → Bool) (hs : Sym eqv) (hr : Refl eqv) (c : CM K V) (op : Op K V) (hop : op.WF)
    (real' : GoMap K V) (loaded' : Bool) (hnr : NodupKeys real') (h : CInv eqv c)
    (hsync : loaded' = true → ∀ k, (specAt eqv op k (desiredGet c.t k, dataplaneGet c.t k)).2 = get real' k) :
    CInv eqv { c with t := step eqv c.t op, real := real', loaded := loaded' } := by
  have hk := step_keeps eqv hs hr c.t op h.inv h.wf hop
  exact ⟨hk.1, hk.2, hnr, fun hl k => (congrArg Prod.snd (abs_step eqv hs hr c.t op h.inv h.wf hop k)).trans (hsync hl k)⟩

theorem cinv_trackerOp (eqv : V → V → Bool) (hs : Sym eqv) (hr : Refl eqv) (c : CM K V) (op : Op K V)
    (hop : op.WF) (hdp : ∀ k x, (specAt eqv op k x).2 = x.2) (h : CInv eqv c) :
    CInv eqv { c with t := step eqv c.t op } :=
  cinv_op eqv hs hr c op hop c.real c.loaded h.nr h fun hl k => (hdp k _).trans (h.sync hl k)

theorem cinv_load (eqv : V → V → Bool) (hs : Sym eqv) (hr : Refl eqv) (c : CM K V) (f : Bool) (h : CInv eqv c) :
    CInv eqv (c.load eqv f).1 ∧ ((c.load eqv f).2 = false → (c.load eqv f).1.loaded = true) := by
  unfold CM.load
  cases f
  · refine ⟨cinv_op eqv hs hr c (.repl c.real false) h.nr c.real true h.nr h fun _ k => ?_, fun _ => rfl⟩
    simp only [specAt, sRepl]; cases get c.real k <;> rfl
  · exact ⟨h, fun e => by cases e⟩

theorem maybeLoad_loaded (eqv : V → V → Bool) (c : CM K V) (f : Bool) (hl : c.loaded = true) :
    c.maybeLoad eqv f = (c, false) := by
  unfold CM.maybeLoad; rw [if_pos hl]

theorem cinv_maybeLoad (eqv : V → V → Bool) (hs : Sym eqv) (hr : Refl eqv) (c : CM K V) (f : Bool) (h : CInv eqv c) :
    CInv eqv (c.maybeLoad eqv f).1 ∧ ((c.maybeLoad eqv f).2 = false → (c.maybeLoad eqv f).1.loaded = true) := by
  unfold CM.maybeLoad
  cases hl : c.loaded
  · exact cinv_load eqv hs hr c f h
  · exact ⟨h, fun _ => hl⟩

theorem applyUpdates_eq (eqv : V → V → Bool) (c : CM K V) (f : Bool) (F : K → Bool) :
    c.applyUpdates eqv f F = if (c.maybeLoad eqv f).2 then ((c.maybeLoad eqv f).1, true)
      else (c.maybeLoad eqv f).1.applyUpdates eqv f F := by
  by_cases hl : c.loaded = true
  · rw [maybeLoad_loaded eqv c f hl]; rfl
  · cases f <;> simp [CM.applyUpdates, CM.maybeLoad, CM.load, hl]

theorem applyDeletions_eq (eqv : V → V → Bool) (c : CM K V) (f : Bool) (F : K → Bool) :
    c.applyDeletions eqv f F = if (c.maybeLoad eqv f).2 then ((c.maybeLoad eqv f).1, true)
      else (c.maybeLoad eqv f).1.applyDeletions eqv f F := by
  by_cases hl : c.loaded = true
  · rw [maybeLoad_loaded eqv c f hl]; rfl
  · cases f <;> simp [CM.applyDeletions, CM.maybeLoad, CM.load, hl]

theorem sXIter_of_imp (b : Bool) (x : S1 V) (h : pendX x = true → b = true) : sXIter b x = sXIter true x := by
  unfold sXIter
  cases hp : pendX x
  · simp
  · rw [h hp]

theorem sUIter_of_imp (eqv : V → V → Bool) (b : Bool) (x : S1 V) (h : pendU eqv x = true → b = true) :
    sUIter eqv b x = sUIter eqv true x := by
  unfold sUIter
  cases hp : pendU eqv x
  · simp
  · rw [h hp]

end CalicoVerif.C18
