import CalicoVerif.Model.C01
import CalicoVerif.Proofs.C02
/-! The RuleScanner's reference counting (felix/calc/rule_scanner.go `updateRules`): the events of one call are a
legal `EvReplay` between the in-use sets before and after; after a run of calls, references and in-use sets are those
of each key's last call (`rulescanner_eq_spec`). -/
namespace CalicoVerif.C01
open CalicoVerif C02

abbrev InUse := String → Bool

/-- A legal sequence of OnIPSetActive / OnIPSetInactive events from the in-use set `f` to `f'`:
a set is activated only when no policy/profile uses it, deactivated only when one did. -/
inductive EvReplay : InUse → List RsEvent → InUse → Prop
  | nil (f) : EvReplay f [] f
  | active {f uid d evs f'} : f uid = false →
      EvReplay (fun u => if u = uid then true else f u) evs f' → EvReplay f (.ipsetActive uid d :: evs) f'
  | inactive {f uid evs f'} : f uid = true →
      EvReplay (fun u => if u = uid then false else f u) evs f' → EvReplay f (.ipsetInactive uid :: evs) f'

theorem EvReplay.append {a b c : InUse} {e1 e2 : List RsEvent} (h1 : EvReplay a e1 b) (h2 : EvReplay b e2 c) :
    EvReplay a (e1 ++ e2) c := by
  induction h1 with
  | nil => exact h2
  | active hn _ ih => exact .active hn (ih h2)
  | inactive hm _ ih => exact .inactive hm (ih h2)

theorem EvReplay.congr {a a' b : InUse} {e : List RsEvent} (h : EvReplay a e b) (ha : a = a') : EvReplay a' e b := ha ▸ h

def RuleScanner.inUse (rs : RuleScanner) : InUse := fun u => rs.uidInUse u

theorem uidInUse_iff (rs : RuleScanner) (u : String) : rs.uidInUse u = true ↔ ∃ k, (k, u) ∈ rs.refs := by
  unfold RuleScanner.uidInUse
  simp only [List.any_eq_true, decide_eq_true_eq]
  constructor
  · rintro ⟨p, hp, rfl⟩; exact ⟨p.1, hp⟩
  · rintro ⟨k, hk⟩; exact ⟨(k, u), hk, rfl⟩

theorem inUse_iff (rs : RuleScanner) (u : String) : rs.inUse u = true ↔ ∃ k, (k, u) ∈ rs.refs := uidInUse_iff rs u

theorem inUse_snoc (rs : RuleScanner) (sets : List (String × IpSetDef)) (key : RulesId) (uid : String) :
    RuleScanner.inUse { refs := rs.refs ++ [(key, uid)], sets := sets } = fun u => if u = uid then true else rs.inUse u := by
  funext u
  simp only [RuleScanner.inUse, RuleScanner.uidInUse, List.any_append, List.any_cons, List.any_nil, Bool.or_false]
  by_cases h : u = uid
  · subst h; simp
  · have : ¬ uid = u := fun e => h e.symm
    simp [h, this]

theorem inUse_filter (rs : RuleScanner) (sets : List (String × IpSetDef)) (key : RulesId) {uid u : String} (h : u ≠ uid) :
    RuleScanner.inUse { refs := rs.refs.filter (fun p => p ≠ (key, uid)), sets := sets } u = rs.inUse u := by
  apply Bool.eq_iff_iff.mpr
  simp only [RuleScanner.inUse, uidInUse_iff, List.mem_filter, ne_eq, decide_eq_true_eq, Prod.mk.injEq, not_and]
  exact ⟨fun ⟨k, h', _⟩ => ⟨k, h'⟩, fun ⟨k, h'⟩ => ⟨k, h', fun _ => h⟩⟩

section
variable (key : RulesId) (cur : List (String × IpSetDef))

/-- body of the "add the new" loop -/
def addOne (acc : RuleScanner × List RsEvent) (uid : String) : RuleScanner × List RsEvent :=
  let rs := acc.1
  match C02.mget cur uid with
  | none => acc
  | some d =>
    if !rs.uidInUse uid then
      ({ refs := rs.refs ++ [(key, uid)], sets := C02.mset uid d rs.sets }, acc.2 ++ [.ipsetActive uid d])
    else ({ rs with refs := rs.refs ++ [(key, uid)] }, acc.2)

/-- body of the "remove the old" loop -/
def delOne (acc : RuleScanner × List RsEvent) (uid : String) : RuleScanner × List RsEvent :=
  let rs := { acc.1 with refs := acc.1.refs.filter (fun p => p ≠ (key, uid)) }
  if !rs.uidInUse uid then ({ rs with sets := C02.mdel uid rs.sets }, acc.2 ++ [.ipsetInactive uid])
  else (rs, acc.2)

theorem addOne_spec (acc : RuleScanner × List RsEvent) (uid : String) (d : IpSetDef)
    (hd : C02.mget cur uid = some d) :
    (addOne key cur acc uid).1.refs = acc.1.refs ++ [(key, uid)] ∧
    ∃ evs, (addOne key cur acc uid).2 = acc.2 ++ evs ∧
      EvReplay acc.1.inUse evs (addOne key cur acc uid).1.inUse := by
  unfold addOne
  simp only [hd]
  by_cases hu : acc.1.uidInUse uid = true
  · simp only [hu, Bool.not_true, Bool.false_eq_true, if_false, true_and]
    refine ⟨[], by simp, ?_⟩
    have : (RuleScanner.inUse { acc.1 with refs := acc.1.refs ++ [(key, uid)] }) = acc.1.inUse := by
      rw [inUse_snoc]
      funext u
      split
      · rename_i h; rw [h]; exact hu.symm
      · rfl
    rw [this]
    exact .nil _
  · have hu' : acc.1.uidInUse uid = false := by simpa using hu
    simp only [hu', Bool.not_false, if_true, true_and]
    refine ⟨[.ipsetActive uid d], rfl, ?_⟩
    refine .active hu' ?_
    have : (RuleScanner.inUse { refs := acc.1.refs ++ [(key, uid)], sets := C02.mset uid d acc.1.sets }) =
        (fun u => if u = uid then true else acc.1.inUse u) := inUse_snoc acc.1 _ key uid
    rw [this]
    exact .nil _

theorem foldl_addOne_spec : ∀ (l : List String) (acc : RuleScanner × List RsEvent),
    (∀ u ∈ l, (C02.mget cur u).isSome) →
    (l.foldl (addOne key cur) acc).1.refs = acc.1.refs ++ l.map (fun u => (key, u)) ∧
    ∃ evs, (l.foldl (addOne key cur) acc).2 = acc.2 ++ evs ∧
      EvReplay acc.1.inUse evs (l.foldl (addOne key cur) acc).1.inUse
  | [], acc, _ => ⟨by simp, [], by simp, .nil _⟩
  | u :: l, acc, h => by
    obtain ⟨d, hd⟩ := Option.isSome_iff_exists.mp (h u (List.mem_cons_self ..))
    obtain ⟨r1, e1, h1, p1⟩ := addOne_spec key cur acc u d hd
    obtain ⟨r2, e2, h2, p2⟩ := foldl_addOne_spec l (addOne key cur acc u) (fun x hx => h x (List.mem_cons_of_mem _ hx))
    simp only [List.foldl_cons]
    refine ⟨by rw [r2, r1]; simp, e1 ++ e2, by rw [h2, h1, List.append_assoc], p1.append p2⟩

theorem delOne_spec (acc : RuleScanner × List RsEvent) (uid : String) (hin : (key, uid) ∈ acc.1.refs) :
    (delOne key acc uid).1.refs = acc.1.refs.filter (fun p => p ≠ (key, uid)) ∧
    ∃ evs, (delOne key acc uid).2 = acc.2 ++ evs ∧
      EvReplay acc.1.inUse evs (delOne key acc uid).1.inUse := by
  unfold delOne
  simp only []
  have hwas : acc.1.inUse uid = true := (inUse_iff _ _).mpr ⟨key, hin⟩
  by_cases hu : (RuleScanner.uidInUse { acc.1 with refs := acc.1.refs.filter (fun p => p ≠ (key, uid)) } uid) = true
  · simp only [hu, Bool.not_true, Bool.false_eq_true, if_false, true_and]
    refine ⟨[], by simp, ?_⟩
    have : (RuleScanner.inUse { acc.1 with refs := acc.1.refs.filter (fun p => p ≠ (key, uid)) }) = acc.1.inUse := by
      funext u
      by_cases h : u = uid
      · subst h; rw [hwas]; exact hu
      · exact inUse_filter acc.1 _ key h
    rw [this]
    exact .nil _
  · have hu' : (RuleScanner.uidInUse { acc.1 with refs := acc.1.refs.filter (fun p => p ≠ (key, uid)) } uid) = false := by
      simpa using hu
    simp only [hu', Bool.not_false, if_true, true_and]
    refine ⟨[.ipsetInactive uid], rfl, ?_⟩
    refine .inactive hwas ?_
    have : (RuleScanner.inUse { refs := acc.1.refs.filter (fun p => p ≠ (key, uid)), sets := C02.mdel uid acc.1.sets }) =
        (fun u => if u = uid then false else acc.1.inUse u) := by
      funext u
      by_cases h : u = uid
      · subst h
        simp only [if_true]
        exact hu'
      · simp only [h, if_false]
        exact inUse_filter acc.1 _ key h
    rw [this]
    exact .nil _

theorem foldl_delOne_spec : ∀ (l : List String) (acc : RuleScanner × List RsEvent),
    l.Nodup → (∀ u ∈ l, (key, u) ∈ acc.1.refs) →
    (l.foldl (delOne key) acc).1.refs = acc.1.refs.filter (fun p => decide (¬ (p.1 = key ∧ p.2 ∈ l))) ∧
    ∃ evs, (l.foldl (delOne key) acc).2 = acc.2 ++ evs ∧
      EvReplay acc.1.inUse evs (l.foldl (delOne key) acc).1.inUse
  | [], acc, _, _ => ⟨(List.filter_eq_self.mpr (fun _ _ => by simp)).symm, [], by simp, .nil _⟩
  | u :: l, acc, hnd, h => by
    have hnd' := List.nodup_cons.mp hnd
    obtain ⟨r1, e1, h1, p1⟩ := delOne_spec key acc u (h u (List.mem_cons_self ..))
    have hsub : ∀ x ∈ l, (key, x) ∈ (delOne key acc u).1.refs := by
      intro x hx
      rw [r1]
      refine List.mem_filter.mpr ⟨h x (List.mem_cons_of_mem _ hx), ?_⟩
      have : x ≠ u := fun e => hnd'.1 (e ▸ hx)
      simp [this]
    obtain ⟨r2, e2, h2, p2⟩ := foldl_delOne_spec l (delOne key acc u) hnd'.2 hsub
    simp only [List.foldl_cons]
    refine ⟨?_, e1 ++ e2, by rw [h2, h1, List.append_assoc], p1.append p2⟩
    rw [r2, r1, List.filter_filter]
    apply List.filter_congr
    intro p _
    obtain ⟨pk, pu⟩ := p
    by_cases hk : pk = key
    · subst hk
      by_cases hpu : pu = u
      · subst hpu; simp
      · simp [hpu]
    · simp [hk]

end

section
variable (rs : RuleScanner) (key : RulesId) (cur : List (String × IpSetDef))

def addedOf : List String := (C02.mkeys cur).filter (fun uid => decide ((key, uid) ∉ rs.refs))
def removedOf : List String :=
  ((rs.refs.filter (fun p => p.1 = key)).map (·.2)).filter (fun uid => (C02.mget cur uid).isNone)

theorem updateRules_eq :
    rs.updateRules key cur =
      (removedOf rs key cur).foldl (delOne key) ((addedOf rs key cur).foldl (addOne key cur) (rs, [])) := rfl

theorem mem_addedOf {x : String} : x ∈ addedOf rs key cur ↔ (C02.mget cur x).isSome = true ∧ (key, x) ∉ rs.refs := by
  simp only [addedOf, List.mem_filter, mem_mkeys_iff, decide_eq_true_eq]

theorem mem_removedOf {x : String} : x ∈ removedOf rs key cur ↔ (key, x) ∈ rs.refs ∧ C02.mget cur x = none := by
  simp only [removedOf, List.mem_filter, List.mem_map, Option.isNone_iff_eq_none, decide_eq_true_eq]
  exact ⟨fun ⟨⟨p, ⟨hp, hk⟩, e⟩, hc⟩ => ⟨by rw [← hk, ← e]; exact hp, hc⟩, fun ⟨h, hc⟩ => ⟨⟨(key, x), ⟨h, rfl⟩, rfl⟩, hc⟩⟩

theorem updateRules_refs (hnd : rs.refs.Nodup) :
    (rs.updateRules key cur).1.refs = (rs.refs ++ (addedOf rs key cur).map (fun u => (key, u))).filter
      (fun p => decide (¬ (p.1 = key ∧ p.2 ∈ removedOf rs key cur))) ∧
    EvReplay rs.inUse (rs.updateRules key cur).2 (rs.updateRules key cur).1.inUse := by
  rw [updateRules_eq]
  obtain ⟨r1, e1, h1, p1⟩ := foldl_addOne_spec key cur (addedOf rs key cur) (rs, [])
    (fun u hu => ((mem_addedOf rs key cur).mp hu).1)
  have hrem_nd : (removedOf rs key cur).Nodup :=
    List.Pairwise.filter _ (List.pairwise_map.2 ((List.Pairwise.filter _ hnd).imp_of_mem fun {a b} ha hb hne e =>
      hne (Prod.ext ((of_decide_eq_true (List.mem_filter.mp ha).2).trans (of_decide_eq_true (List.mem_filter.mp hb).2).symm) e)))
  obtain ⟨r2, e2, h2, p2⟩ := foldl_delOne_spec key (removedOf rs key cur) _ hrem_nd fun u hu => by
    rw [r1]; exact List.mem_append_left _ ((mem_removedOf rs key cur).mp hu).1
  refine ⟨by rw [← r1]; exact r2, ?_⟩
  rw [h2, h1]
  simpa using p1.append p2

end

theorem updateRules_spec (rs : RuleScanner) (key : RulesId) (cur : List (String × IpSetDef))
    (hnd : rs.refs.Nodup) :
    (∀ k u, (k, u) ∈ (rs.updateRules key cur).1.refs ↔
      if k = key then (C02.mget cur u).isSome = true else (k, u) ∈ rs.refs) ∧
    EvReplay rs.inUse (rs.updateRules key cur).2 (rs.updateRules key cur).1.inUse := by
  obtain ⟨hrefs, hev⟩ := updateRules_refs rs key cur hnd
  refine ⟨fun k u => ?_, hev⟩
  rw [hrefs]
  simp only [List.mem_filter, List.mem_append, List.mem_map, Prod.mk.injEq, decide_eq_true_eq, mem_addedOf, mem_removedOf]
  by_cases hk : k = key
  · -- `key`'s own references: kept if still current, added if new
    subst hk
    rw [if_pos rfl]
    cases hc : C02.mget cur u with
    | none => simp [hc]
    | some d => by_cases hin : (k, u) ∈ rs.refs <;> simp [hc, hin]
  · rw [if_neg hk]
    simp [hk, Ne.symm hk]

theorem updateRules_nodup (rs : RuleScanner) (key : RulesId) (cur : List (String × IpSetDef))
    (hnd : rs.refs.Nodup) (hcur : (C02.mkeys cur).Nodup) : (rs.updateRules key cur).1.refs.Nodup := by
  rw [(updateRules_refs rs key cur hnd).1]
  refine List.Pairwise.filter _ (List.nodup_append.mpr ⟨hnd, ?_, ?_⟩)
  · exact List.pairwise_map.2 ((List.Pairwise.filter _ hcur).imp fun hne e => hne (Prod.mk.inj e).2)
  · intro a ha b hb hab
    subst hab
    obtain ⟨x, hx, rfl⟩ := List.mem_map.mp hb
    exact ((mem_addedOf rs key cur).mp hx).2 ha

def rsRun : List (RulesId × List (String × IpSetDef)) → RuleScanner × List RsEvent
  | [] => ({}, [])
  | l => l.foldl (fun acc c => let r := acc.1.updateRules c.1 c.2; (r.1, acc.2 ++ r.2)) ({}, [])

/-- the sets `key` currently references: those of its LAST call -/
def lastCur (key : RulesId) : List (RulesId × List (String × IpSetDef)) → List (String × IpSetDef)
  | [] => []
  | l => l.foldl (fun acc c => if c.1 = key then c.2 else acc) []

theorem rulescanner_eq_spec (l : List (RulesId × List (String × IpSetDef)))
    (hcur : ∀ c ∈ l, (C02.mkeys c.2).Nodup) :
    (∀ k u, (k, u) ∈ (rsRun l).1.refs ↔ (C02.mget (lastCur k l) u).isSome = true) ∧
    EvReplay (fun _ => false) (rsRun l).2 (rsRun l).1.inUse ∧
    (∀ u, (rsRun l).1.inUse u = true ↔ ∃ k, (C02.mget (lastCur k l) u).isSome = true) := by
  have step : ∀ (l : List (RulesId × List (String × IpSetDef))) (acc : RuleScanner × List RsEvent)
      (A : RulesId → List (String × IpSetDef)),
      (∀ c ∈ l, (C02.mkeys c.2).Nodup) → acc.1.refs.Nodup →
      (∀ k u, (k, u) ∈ acc.1.refs ↔ (C02.mget (A k) u).isSome = true) →
      EvReplay (fun _ => false) acc.2 acc.1.inUse →
      let r := l.foldl (fun acc c => let r := acc.1.updateRules c.1 c.2; (r.1, acc.2 ++ r.2)) acc
      let A' := fun k => l.foldl (fun a c => if c.1 = k then c.2 else a) (A k)
      r.1.refs.Nodup ∧ (∀ k u, (k, u) ∈ r.1.refs ↔ (C02.mget (A' k) u).isSome = true) ∧
        EvReplay (fun _ => false) r.2 r.1.inUse := by
    intro l
    induction l with
    | nil => intro acc A _ h1 h2 h3; exact ⟨h1, h2, h3⟩
    | cons c l ih =>
      intro acc A hc h1 h2 h3
      simp only [List.foldl_cons]
      have hs := updateRules_spec acc.1 c.1 c.2 h1
      have hn := updateRules_nodup acc.1 c.1 c.2 h1 (hc c (List.mem_cons_self ..))
      refine ih _ (fun k => if c.1 = k then c.2 else A k) (fun x hx => hc x (List.mem_cons_of_mem _ hx)) hn ?_ (h3.append hs.2)
      intro k u
      rw [hs.1 k u]
      by_cases hk : k = c.1
      · subst hk; simp
      · have : ¬ c.1 = k := fun e => hk e.symm
        simp [hk, this, h2 k u]
  have h0 := step l ({}, []) (fun _ => []) hcur (by simp) (by intro k u; simp [C02.mget]) (.nil _)
  have hrun : rsRun l = l.foldl (fun acc c => let r := acc.1.updateRules c.1 c.2; (r.1, acc.2 ++ r.2)) ({}, []) := by
    cases l <;> rfl
  have hlast : ∀ k, lastCur k l = l.foldl (fun a c => if c.1 = k then c.2 else a) [] := by
    intro k; cases l <;> rfl
  rw [hrun]
  simp only [hlast]
  refine ⟨h0.2.1, h0.2.2, ?_⟩
  intro u
  rw [inUse_iff]
  constructor
  · rintro ⟨k, hk⟩; exact ⟨k, (h0.2.1 k u).mp hk⟩
  · rintro ⟨k, hk⟩; exact ⟨k, (h0.2.1 k u).mpr hk⟩

end CalicoVerif.C01
