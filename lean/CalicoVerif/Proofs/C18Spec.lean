import CalicoVerif.Model.C18
/-! C18, the vocabulary of the statements in `Props/C18*`, definitions only.  The tracker read at one key: `proj t k : P V`
(the three maps at `k`), its desired and dataplane views `P.des`/`P.dp`, the partition invariant `P.Inv`/`Inv`, duplicate-free
maps `NodupKeys`/`WF3`.  The specification at one key: a pair `S1 V` = (desired[k], dataplane[k]), what is pending in it
(`pendU`, `pendX`), what each operation does to it (`sDSet … sXIter`, gathered in `specAt`), and the precondition `Op.WF`.
`valuesEqual` is assumed `Sym` and `Refl` only. -/
namespace CalicoVerif.C18
variable {K V : Type} [DecidableEq K]

def NodupKeys (m : GoMap K V) : Prop := (keys m).Nodup

/-- (inDataplaneAndDesired[k], inDataplaneNotDesired[k], desiredUpdates[k]). -/
structure P (V : Type) where
  a : Option V
  b : Option V
  c : Option V

def proj (t : Tracker K V) (k : K) : P V := ⟨get t.dd k, get t.dn k, get t.du k⟩

def P.des (p : P V) : Option V := match p.c with
  | some v => some v
  | none => p.a

def P.dp (p : P V) : Option V := match p.a with
  | some v => some v
  | none => p.b

def Sym (eqv : V → V → Bool) : Prop := ∀ a b, eqv a b = eqv b a

def Refl (eqv : V → V → Bool) : Prop := ∀ a, eqv a a = true

def P.Inv (eqv : V → V → Bool) (p : P V) : Prop :=
  (p.a ≠ none → p.b = none) ∧ (p.c ≠ none → p.b = none) ∧
  (∀ v w, p.c = some v → p.a = some w → eqv v w = false)

/-- The specification state at one key: (desired[k], dataplane[k]). -/
abbrev S1 (V : Type) := Option V × Option V

def P.abs (p : P V) : S1 V := (p.des, p.dp)

def pendU (eqv : V → V → Bool) (s : S1 V) : Bool :=
  match s.1 with
  | some v => (match s.2 with
    | some w => !eqv v w
    | none => true)
  | none => false

def pendX (s : S1 V) : Bool := s.2.isSome && s.1.isNone

def sDSet (eqv : V → V → Bool) (s : S1 V) (v : V) : S1 V :=
  ((match s.2 with
    | some w => if eqv w v then some w else some v
    | none => some v), s.2)

def sDDel (s : S1 V) : S1 V := (none, s.2)

def sPSet (eqv : V → V → Bool) (s : S1 V) (v : V) : S1 V :=
  ((match s.1 with
    | some dv => if eqv dv v then some v else some dv
    | none => none), some v)

def sPDel (s : S1 V) : S1 V := (s.1, none)

def sRepl (eqv : V → V → Bool) (fail : Bool) (s : S1 V) (item : Option V) : S1 V :=
  ((match s.1, item with
    | some dv, some v => if eqv dv v then some v else some dv
    | d, _ => d),
   (match item with
    | some v => some v
    | none => if fail then s.2 else none))

def sUIter (eqv : V → V → Bool) (upd : Bool) (s : S1 V) : S1 V :=
  if upd && pendU eqv s then (s.1, s.1) else s

def sXIter (upd : Bool) (s : S1 V) : S1 V :=
  if upd && pendX s then (s.1, none) else s

def WF3 (t : Tracker K V) : Prop := NodupKeys t.dd ∧ NodupKeys t.dn ∧ NodupKeys t.du

def Op.WF : Op K V → Prop
  | .repl items _ => NodupKeys items
  | _ => True

def specAt (eqv : V → V → Bool) : Op K V → K → S1 V → S1 V
  | .dSet k v, k', x => if k = k' then sDSet eqv x v else x
  | .dDel k, k', x => if k = k' then sDDel x else x
  | .dDelAll, _, x => sDDel x
  | .pSet k v, k', x => if k = k' then sPSet eqv x v else x
  | .pDel k, k', x => if k = k' then sPDel x else x
  | .repl items fail, k', x => sRepl eqv fail x (get items k')
  | .uIter act, k', x => sUIter eqv (decide (act k' = .update)) x
  | .xIter act, k', x => sXIter (decide (act k' = .update)) x
  | .uBatched F _, k', x => sUIter eqv (!F k') x
  | .xBatched F _, k', x => sXIter (!F k') x

def Inv (eqv : V → V → Bool) (t : Tracker K V) : Prop := ∀ k, (proj t k).Inv eqv

end CalicoVerif.C18
