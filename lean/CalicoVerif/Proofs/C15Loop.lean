import CalicoVerif.Proofs.C15Refs
/-! The retry loop of `Apply` and whole histories: what the loop preserves (`ApplyInv`), how a loop that starts with
the cache out of date can end (`applyLoop_outcome`: it gives up with the kernel table as it was, or one transaction
is `Committed`), and the invariant `PInv` along histories of well-formed calls (`Op.wf`, `run_pinv`).  From these, under
hash soundness (`HashSound`), the two statements about a whole `Apply` that `Props/C15` instantiates at histories:
`apply_converges_loop` (owned chains) and `apply_foreign` (other software's rules). -/
namespace CalicoVerif.C15

theorem save_frame : ∀ (n : Nat) (w : W), (W.save n w).1.t = w.t ∧ (W.save n w).1.K = w.K ∧ (W.save n w).1.pre = w.pre
  | 0, _ => ⟨rfl, rfl, rfl⟩
  | n + 1, w => by
    unfold W.save
    dsimp only
    split
    · split
      · exact ⟨rfl, rfl, rfl⟩
      · exact save_frame n _
    · exact ⟨rfl, rfl, rfl⟩

theorem ensureLoaded_spec (w : W) :
    w.ensureLoaded.1.K = w.K ∧ w.ensureLoaded.1.pre = w.pre ∧
    ((w.ensureLoaded.1.t = w.t ∧ (w.t.inSync = false → w.ensureLoaded.2 = false)) ∨
     (w.ensureLoaded.2 = true ∧ w.ensureLoaded.1.t = w.t.load w.K)) := by
  obtain ⟨h1, h2, h3⟩ := save_frame 4 w
  cases hs : w.t.inSync
  · cases hr : (W.save 4 w).2
    · have e : w.ensureLoaded = ((W.save 4 w).1, false) := by
        simp only [W.ensureLoaded, hs, hr, Bool.not_false, if_true, Bool.false_eq_true, if_false]
      rw [e]; exact ⟨h2, h3, Or.inl ⟨h1, fun _ => rfl⟩⟩
    · have e : w.ensureLoaded = ({ (W.save 4 w).1 with t := (W.save 4 w).1.t.load (W.save 4 w).1.K }, true) := by
        simp only [W.ensureLoaded, hs, hr, Bool.not_false, if_true]
      rw [e]; exact ⟨h2, h3, Or.inr ⟨rfl, by rw [h1, h2]⟩⟩
  · have e : w.ensureLoaded = (w, true) := by
      simp only [W.ensureLoaded, hs, Bool.not_true, Bool.false_eq_true, if_false]
    rw [e]; exact ⟨rfl, rfl, Or.inl ⟨rfl, fun h => nomatch h⟩⟩

theorem applyPre_t (w : W) : w.applyPre.t = w.t := by
  unfold W.applyPre
  split
  · rfl
  · dsimp only
    split
    · split <;> rfl
    · rfl

theorem applyUpdates_t (w : W) :
    w.applyUpdates.1.t = w.t ∨ w.applyUpdates.1.t = w.t.invalidate ∨
    ∃ lines newH newFull, w.t.plan = some (lines, newH, newFull) ∧ w.applyUpdates.1.t = w.t.commit newH newFull := by
  unfold W.applyUpdates
  cases hp : w.t.plan with
  | none => exact Or.inl rfl
  | some v =>
    obtain ⟨lines, newH, newFull⟩ := v
    dsimp only
    split
    · exact Or.inr (Or.inr ⟨lines, newH, newFull, rfl, rfl⟩)
    · split
      · exact Or.inr (Or.inl (congrArg T.invalidate (applyPre_t w)))
      · exact Or.inr (Or.inr ⟨lines, newH, newFull, rfl, congrArg (T.commit · newH newFull) (applyPre_t w)⟩)

def Committed (t : T) (K : Kernel) (w' : W) : Prop :=
  ∃ lines newH newFull, t.plan = some (lines, newH, newFull) ∧ krestore K lines = some w'.K

theorem applyUpdates_spec (w : W) (hpre : w.pre = none) :
    w.applyUpdates.1.pre = none ∧
    ((w.applyUpdates.2 = true ∧ w.applyUpdates.1.K = w.K ∧
        ((w.t.plan = none ∧ w.applyUpdates.1.t = w.t) ∨ (w.t.plan ≠ none ∧ w.applyUpdates.1.t = w.t.invalidate))) ∨
     (w.applyUpdates.2 = false ∧ Committed w.t w.K w.applyUpdates.1)) := by
  have hap : w.applyPre = w := by unfold W.applyPre; rw [hpre]
  unfold W.applyUpdates
  cases hp : w.t.plan with
  | none => exact ⟨hpre, Or.inl ⟨rfl, rfl, Or.inl ⟨rfl, rfl⟩⟩⟩
  | some v =>
    obtain ⟨lines, newH, newFull⟩ := v
    dsimp only
    by_cases he : lines.isEmpty = true
    · rw [if_pos he]
      cases List.isEmpty_iff.1 he
      exact ⟨hpre, Or.inr ⟨rfl, [], newH, newFull, hp, rfl⟩⟩
    · rw [if_neg he, hap]
      cases hk : (if (popB w.restoreFails).1 = true then none else krestore w.K lines) with
      | none => exact ⟨hpre, Or.inl ⟨rfl, rfl, Or.inr ⟨fun h => (nomatch h), rfl⟩⟩⟩
      | some K' =>
        refine ⟨hpre, Or.inr ⟨rfl, lines, newH, newFull, hp, ?_⟩⟩
        split at hk
        · cases hk
        · exact hk

theorem applyLoop_succ (n : Nat) (w : W) :
    W.applyLoop (n + 1) w =
      if w.ensureLoaded.2 then
        if w.ensureLoaded.1.applyUpdates.2 then
          if n == 0 then (w.ensureLoaded.1.applyUpdates.1, false)
          else W.applyLoop n { w.ensureLoaded.1.applyUpdates.1 with sleeps := w.ensureLoaded.1.applyUpdates.1.sleeps + 1 }
        else (w.ensureLoaded.1.applyUpdates.1, true)
      else (w.ensureLoaded.1, false) := by
  rw [W.applyLoop]
  cases w.ensureLoaded.2 <;> rfl

theorem apply_eq (w : W) :
    w.apply = if (W.applyLoop 11 w).2 then ((W.applyLoop 11 w).1, true)
      else ({ (W.applyLoop 11 w).1 with dead := true }, false) := rfl

structure ApplyInv (I : T → Prop) : Prop where
  load : ∀ t K, I t → I (t.load K)
  invalidate : ∀ t, I t → I t.invalidate
  commit : ∀ t lines newH newFull, t.plan = some (lines, newH, newFull) → I t → I (t.commit newH newFull)

theorem ApplyInv.ensureLoaded {I : T → Prop} (hI : ApplyInv I) (w : W) (h : I w.t) : I w.ensureLoaded.1.t := by
  rcases (ensureLoaded_spec w).2.2 with ⟨e, _⟩ | ⟨_, e⟩
  · rw [e]; exact h
  · rw [e]; exact hI.load _ _ h

theorem ApplyInv.applyUpdates {I : T → Prop} (hI : ApplyInv I) (w : W) (h : I w.t) : I w.applyUpdates.1.t := by
  rcases applyUpdates_t w with e | e | ⟨lines, newH, newFull, hp, e⟩
  · rw [e]; exact h
  · rw [e]; exact hI.invalidate _ h
  · rw [e]; exact hI.commit _ _ _ _ hp h

theorem ApplyInv.applyLoop {I : T → Prop} (hI : ApplyInv I) : ∀ (n : Nat) (w : W), I w.t → I (W.applyLoop n w).1.t
  | 0, _, h => h
  | n + 1, w, h => by
    have hl := hI.ensureLoaded w h
    have hu := hI.applyUpdates _ hl
    rw [applyLoop_succ]
    exact iteInduction (motive := fun r : W × Bool => I r.1.t)
      (fun _ => iteInduction (motive := fun r : W × Bool => I r.1.t)
        (fun _ => iteInduction (motive := fun r : W × Bool => I r.1.t) (fun _ => hu) fun _ => ApplyInv.applyLoop hI n _ hu)
        fun _ => hu) fun _ => hl

theorem ApplyInv.apply {I : T → Prop} (hI : ApplyInv I) (w : W) (h : I w.t) : I w.apply.1.t := by
  rw [apply_eq]
  split <;> exact hI.applyLoop 11 w h

theorem run_induct {I : W → Prop} (ops : List Op) (w : W) (hstep : ∀ o ∈ ops, ∀ w, I w → I (w.stepOp o).1)
    (h : I w) : I (w.run ops) :=
  List.foldlRecOn ops _ h fun w h o ho => iteInduction (fun _ => h) fun _ => hstep o ho w h

theorem pinv_applyInv (P : List String) : ApplyInv (PInv P) :=
  ⟨fun _ K h => h.load K, fun _ h => h.invalidate, fun _ _ _ _ hp h => h.commit hp⟩

/-- Well-formed calls (the conventions of Felix's callers): chains that are created, updated or removed carry one of
Felix's prefixes; hook rules are only put into chains outside Felix's name space (the kernel's chains); and every
rule only jumps to one of Felix's chains. -/
def Op.wf (P : List String) : Op → Prop
  | .chain c ch => oursP P c = true ∧ ∀ x ∈ refsOf ch.rules, oursP P x = true
  | .rmchain c => oursP P c = true
  | .ins c rs => oursP P c = false ∧ ∀ x ∈ refsOf rs, oursP P x = true
  | .app c rs => oursP P c = false ∧ ∀ x ∈ refsOf rs, oursP P x = true
  | _ => True

theorem stepOp_pinv {P : List String} (hk : ∀ c ∈ kernelChains, oursP P c = false) (w : W) (o : Op) (hwf : o.wf P)
    (h : PInv P w.t) : PInv P (w.stepOp o).1.t := by
  cases o with
  | restart m => exact h.prefixes ▸ PInv.new _ m (h.prefixes ▸ hk)
  | kchain n rs => exact h
  | kdelchain n => exact h
  | chain n ch =>
    exact ⟨h.tinv.updateChain n ch, (updateChain_grow w.t n ch).prefixes.trans h.prefixes,
      h.dinv.updateChain n ch hwf.1 hwf.2⟩
  | rmchain n =>
    exact ⟨h.tinv.removeChain n, (removeChain_grow w.t n).prefixes.trans h.prefixes, h.dinv.removeChain n hwf⟩
  | ins c rs =>
    exact ⟨h.tinv.setInserts c rs ((h.ours c).trans hwf.1), (hooks_grow _ c rs _).prefixes.trans h.prefixes,
      h.dinv.setInserts c rs hwf.2⟩
  | app c rs =>
    exact ⟨h.tinv.setAppends c rs ((h.ours c).trans hwf.1), (hooks_grow _ c rs _).prefixes.trans h.prefixes,
      h.dinv.setAppends c rs hwf.2⟩
  | invalidate => exact h.invalidate
  | apply sf rf pre => exact (pinv_applyInv P).apply { w with saveFails := sf, restoreFails := rf, pre := pre, trace := [] } h

theorem run_pinv {P : List String} (hk : ∀ c ∈ kernelChains, oursP P c = false) (ops : List Op) (w : W)
    (hwf : ∀ o ∈ ops, o.wf P) (h : PInv P w.t) : PInv P (w.run ops).t :=
  run_induct (I := fun w => PInv P w.t) ops w (fun o ho w => stepOp_pinv hk w o (hwf o ho)) h

/-- `J` holds of the table state the successful transaction was planned from (the start state up to failed
iterations).  The loop may also start in sync with a state
from which nothing can be planned: that is what an iteration that cannot render its deletions leaves. -/
theorem applyLoop_outcome {J : T → Prop} (hJ : ApplyInv J) (K : Kernel) :
    ∀ (n : Nat) (w : W), w.K = K → J w.t → (w.t.inSync = true → w.t.plan = none) → w.pre = none →
    ((W.applyLoop n w).2 = false ∧ (W.applyLoop n w).1.K = K) ∨
    ((W.applyLoop n w).2 = true ∧ ∃ t, J t ∧ Committed (t.load K) K (W.applyLoop n w).1)
  | 0, _, hK, _, _, _ => Or.inl ⟨rfl, hK⟩
  | n + 1, w, hK, hj, hns, hpre => by
    obtain ⟨lK, lpre, hl⟩ := ensureLoaded_spec w
    rw [applyLoop_succ]
    obtain ⟨h5, hu⟩ := applyUpdates_spec w.ensureLoaded.1 (lpre.trans hpre)
    rw [hK] at lK
    cases hb : w.ensureLoaded.2
    · rw [if_neg (by decide)]; exact Or.inl ⟨rfl, lK⟩
    rw [if_pos rfl]
    -- the iteration plans from the table just read, or is in sync with nothing it can plan
    have lt : w.ensureLoaded.1.t = w.t.load K ∨ w.ensureLoaded.1.t = w.t ∧ w.t.plan = none := by
      rcases hl with ⟨e, hl⟩ | ⟨_, lt⟩
      · cases hs : w.t.inSync
        · rw [hl hs] at hb; cases hb
        · exact Or.inr ⟨e, hns hs⟩
      · exact Or.inl (hK ▸ lt)
    have hjl : J w.ensureLoaded.1.t := by
      rcases lt with e | ⟨e, _⟩ <;> rw [e]
      · exact hJ.load _ _ hj
      · exact hj
    rcases hu with ⟨h2, h4, hcase⟩ | ⟨h2, lines, newH, newFull, hp, hres⟩
    · -- no transaction, or a failed one: the kernel table is as it was
      rw [h2, if_pos rfl]
      split
      · exact Or.inl ⟨rfl, h4.trans lK⟩
      refine applyLoop_outcome hJ K n _ (h4.trans lK) ?_ ?_ h5
      · show J w.ensureLoaded.1.applyUpdates.1.t
        rcases hcase with ⟨_, h3⟩ | ⟨_, h3⟩ <;> rw [h3]
        · exact hjl
        · exact hJ.invalidate _ hjl
      · show w.ensureLoaded.1.applyUpdates.1.t.inSync = true → w.ensureLoaded.1.applyUpdates.1.t.plan = none
        rcases hcase with ⟨hp, h3⟩ | ⟨_, h3⟩ <;> rw [h3]
        · exact fun _ => hp
        · exact fun h => nomatch h
    · rw [h2, if_neg (by decide)]
      rcases lt with lt | ⟨lt, hpn⟩
      · rw [lt] at hp
        rw [lK] at hres
        exact Or.inr ⟨rfl, w.t, hj, lines, newH, newFull, hp, hres⟩
      · rw [lt, hpn] at hp; cases hp

/-- Hash soundness, position-free: in a chain Felix wants, a kernel rule carrying the hash of one of the desired
rules IS that rule (hashes are collision-free tags: the chained hash covers chain name, position and all earlier
rules).  This is the one assumption the owned-chain theorems make about the kernel's contents; it survives deleting
rules. -/
def HashSound (t : T) (K : Kernel) : Prop :=
  ∀ c ch rs, t.ours c = true → t.desiredChain c = some ch → K.get c = some rs →
    ∀ r ∈ rs, ∀ d ∈ ch.rules, r.hash = d.hash → r = d.k

theorem apply_converges_loop (w : W) (hinv : TInv w.t) (hs : HashSound w.t w.K) (hns : w.t.inSync = false)
    (hpre : w.pre = none) (hok : w.apply.2 = true) (c : String) (ho : w.t.ours c = true) :
    w.apply.1.K.get c = (w.t.desiredChain c).map (fun ch => ch.rules.map DRule.k) := by
  rw [apply_eq] at hok ⊢
  -- along the loop the invariant holds and the chains Felix owns and wants are those of `w.t`
  have hJ : ApplyInv fun t => TInv t ∧ (∀ c, t.ours c = w.t.ours c) ∧ ∀ c, t.desiredChain c = w.t.desiredChain c :=
    ⟨fun t K ⟨h1, h2, h3⟩ => ⟨h1.load K, fun c => (load_ours t K c).trans (h2 c),
        fun c => (load_desired t K c).trans (h3 c)⟩,
      fun t ⟨h1, h2, h3⟩ => ⟨h1.invalidate, h2, h3⟩,
      fun t _ _ _ hp ⟨h1, h2, h3⟩ => ⟨h1.commit hp, h2, h3⟩⟩
  rcases applyLoop_outcome hJ w.K 11 w rfl ⟨hinv, fun _ => rfl, fun _ => rfl⟩ (fun h => nomatch hns.symm.trans h)
      hpre with ⟨hf, _⟩ | ⟨hok', t, ⟨ht, hto, htd⟩, lines, newH, newFull, hp, hres⟩
  · rw [hf] at hok; cases hok
  · rw [hok', if_pos rfl, ← htd c]
    exact apply_converges_owned t w.K _ ht
      (fun c ch rs ho hd hk => sound_of_mem rs ch.rules (hs c ch rs (hto c ▸ ho) (htd c ▸ hd) hk))
      hp hres c (by rw [hto]; exact ho)

theorem apply_foreign {P : List String} (w : W) (hinv : PInv P w.t) (hns : w.t.inSync = false) (hpre : w.pre = none)
    (x : String) (hx : oursP P x = false) :
    (w.apply.1.K.get x).map foreignSub = (w.K.get x).map foreignSub := by
  have hK : w.apply.1.K = (W.applyLoop 11 w).1.K := by rw [apply_eq]; split <;> rfl
  rw [hK]
  rcases applyLoop_outcome (pinv_applyInv P) w.K 11 w rfl hinv (fun h => nomatch hns.symm.trans h) hpre with
    ⟨_, e⟩ | ⟨_, t, ht, lines, newH, newFull, hp, hres⟩
  · rw [e]
  · refine foreign_unchanged (load_FullOK t w.K) hp w.K _ hres x fun hd => ?_
    have := (ht.load w.K).dinv.dirty x hd
    rw [hx] at this; cases this

end CalicoVerif.C15
