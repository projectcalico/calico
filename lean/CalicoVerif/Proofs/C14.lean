import CalicoVerif.Model.C14
import CalicoVerif.Proofs.Assoc
/-! C14 proofs.  Cleaner: a step deletes only on a matching time stamp, and an entry whose item still matches is
gone after the pass.  Scanner: every queue item of a scan — atomic, or with the map changing between the visits of
the iteration (`scanI`) — is backed by judgements on maps the scan saw (`ScanInv`); the atomic scan is the case of
one map.  Liveness of an atomic scan: an expired normal entry and an expired NAT pair (`PairInv`) end up queued. -/
namespace CalicoVerif.C14

namespace AMap
variable {K V : Type} [DecidableEq K]

theorem get_eq (m : AMap K V) (k : K) : m.get k = Assoc.get m k := by
  induction m with
  | nil => rfl
  | cons p r ih => simp only [get, Assoc.get, ih]

theorem get_del (m : AMap K V) (k k' : K) :
    (del m k).get k' = if k' = k then none else m.get k' := by
  rw [get_eq, get_eq]; exact Assoc.get_del m k k'

theorem get_del_self (m : AMap K V) (k : K) : (del m k).get k = none := by
  rw [get_del, if_pos rfl]

theorem get_del_ne (m : AMap K V) {k k' : K} (h : k' ≠ k) : (del m k).get k' = m.get k' := by
  rw [get_del, if_neg h]

theorem get_set (m : AMap K V) (k k' : K) (v : V) :
    (set m k v).get k' = if k' = k then some v else m.get k' := by
  rw [get_eq, get_eq]; exact Assoc.get_set m k k' v

theorem mem_del {m : AMap K V} {k : K} {p : K × V} (h : p ∈ del m k) : p ∈ m ∧ p.1 ≠ k := Assoc.mem_del.1 h

theorem mem_set {m : AMap K V} {k : K} {v : V} {p : K × V} (h : p ∈ set m k v) : p = (k, v) ∨ (p ∈ m ∧ p.1 ≠ k) :=
  Assoc.mem_set h

theorem mem_set_of_ne {m : AMap K V} {p : K × V} {k : K} (v : V) (h : p ∈ m) (hne : p.1 ≠ k) : p ∈ set m k v :=
  Assoc.mem_set_of_ne v h hne

theorem mem_set_self (m : AMap K V) (k : K) (v : V) : (k, v) ∈ set m k v := List.mem_cons_self ..

theorem mem_of_get {m : AMap K V} {k : K} {v : V} (h : m.get k = some v) : (k, v) ∈ m :=
  Assoc.mem_of_get (get_eq m k ▸ h)

theorem get_of_mem_nodup {m : AMap K V} {k : K} {v : V} (h : (m.map (·.1)).Nodup) (hm : (k, v) ∈ m) :
    m.get k = some v := by
  rw [get_eq]; exact Assoc.get_of_mem h hm

theorem keys_del (m : AMap K V) (k : K) (h : (m.map (·.1)).Nodup) : ((del m k).map (·.1)).Nodup :=
  Assoc.nodup_del k h

theorem keys_set (m : AMap K V) (k : K) (v : V) (h : (m.map (·.1)).Nodup) : ((set m k v).map (·.1)).Nodup :=
  Assoc.nodup_set k v h

end AMap

def Sub (a b : AMap Key Entry) : Prop := ∀ k e, a.get k = some e → b.get k = some e

theorem Sub.refl (a : AMap Key Entry) : Sub a a := fun _ _ h => h
theorem Sub.trans {a b c : AMap Key Entry} (h1 : Sub a b) (h2 : Sub b c) : Sub a c := fun k e h => h2 k e (h1 k e h)

theorem Sub.get_none {a b : AMap Key Entry} (h : Sub a b) {x : Key} (hx : b.get x = none) : a.get x = none := by
  cases h2 : a.get x with
  | none => rfl
  | some e => rw [h x e h2] at hx; cases hx

theorem sub_del (ct : AMap Key Entry) (k : Key) : Sub (ct.del k) ct := by
  intro x e h
  rw [AMap.get_del] at h
  split at h
  · simp at h
  · exact h

theorem cleanEntry_sub (ct : AMap Key Entry) (k : Key) (q : QVal) : Sub (cleanEntry ct k q) ct := by
  unfold cleanEntry
  split
  · split
    · split
      · exact sub_del _ _
      · exact Sub.refl _
    · exact Sub.refl _
  · split
    · exact Sub.refl _
    · split
      · split
        · exact (sub_del _ _).trans (sub_del _ _)
        · exact Sub.refl _
      · exact Sub.refl _

/-- the cleaner tells a plain item from a pair item by `other.proto = 0`, the scanner by `other = dummyKey`. -/
theorem other_ne_dummy {q : QVal} (h : q.other.proto ≠ 0) : q.other ≠ dummyKey := fun e => h (e ▸ rfl)

/-- why one cleaner step (`process_ccq_entry`) removed the entry `e` stored under `x`. -/
def StepReason (ct : AMap Key Entry) (k : Key) (q : QVal) (x : Key) (e : Entry) : Prop :=
  (q.other.proto = 0 ∧ x = k ∧ e.lastSeen = q.ts) ∨
  (q.other.proto ≠ 0 ∧ ∃ r, ct.get q.other = some r ∧ r.lastSeen = q.revTs ∧
      (x = q.other ∨ (x = k ∧ e.revKey = q.other)))

/-- **compare-then-delete**: a step deletes an entry only if the recorded time stamp still matches —
its own for a plain queue item, the reverse entry's for a NAT pair (and the forward entry must still
point at that reverse entry). -/
theorem cleanEntry_deleted (ct : AMap Key Entry) (k : Key) (q : QVal) (x : Key) (e : Entry)
    (hx : ct.get x = some e) (hd : (cleanEntry ct k q).get x = none) : StepReason ct k q x e := by
  unfold cleanEntry at hd
  split at hd
  · rename_i hp
    split at hd
    · rename_i e0 hk
      split at hd
      · rename_i hl
        rw [AMap.get_del] at hd
        split at hd
        · rename_i hxk; subst hxk
          rw [hk] at hx; cases hx
          exact Or.inl ⟨hp, rfl, hl⟩
        · rw [hx] at hd; cases hd
      · rw [hx] at hd; cases hd
    · rw [hx] at hd; cases hd
  · rename_i hp
    split at hd
    · rw [hx] at hd; cases hd
    · rename_i hmis
      split at hd
      · rename_i r hr
        split at hd
        · rename_i hl
          refine Or.inr ⟨hp, r, hr, hl, ?_⟩
          rw [AMap.get_del, AMap.get_del] at hd
          by_cases hxk : x = k
          · subst hxk
            by_cases hxo : x = q.other
            · exact Or.inl hxo
            · refine Or.inr ⟨rfl, ?_⟩
              unfold fwdMismatch at hmis
              rw [hx] at hmis
              simpa using hmis
          · by_cases hxo : x = q.other
            · exact Or.inl hxo
            · simp [hxk, hxo, hx] at hd
        · rw [hx] at hd; cases hd
      · rw [hx] at hd; cases hd

theorem clean_sub (queue : AMap Key QVal) (ct : AMap Key Entry) : Sub (clean ct queue) ct := by
  induction queue generalizing ct with
  | nil => exact Sub.refl _
  | cons kq rest ih =>
    simp only [clean, List.foldl_cons]
    exact (ih (cleanEntry ct kq.1 kq.2)).trans (cleanEntry_sub _ _ _)

theorem clean_deleted_step (queue : AMap Key QVal) (ct : AMap Key Entry) (x : Key) (e : Entry)
    (hx : ct.get x = some e) (hd : (clean ct queue).get x = none) :
    ∃ kq ∈ queue, ∃ ct1, Sub ct1 ct ∧ ct1.get x = some e ∧ (cleanEntry ct1 kq.1 kq.2).get x = none := by
  induction queue generalizing ct with
  | nil => simp [clean] at hd; rw [hx] at hd; cases hd
  | cons kq rest ih =>
    simp only [clean, List.foldl_cons] at hd
    cases hstep : (cleanEntry ct kq.1 kq.2).get x with
    | none => exact ⟨kq, List.mem_cons_self .., ct, Sub.refl _, hx, hstep⟩
    | some e' =>
      have he' : e' = e := by
        have := cleanEntry_sub ct kq.1 kq.2 x e' hstep
        rw [hx] at this; cases this; rfl
      subst he'
      obtain ⟨kq', hm, ct1, hs, hg, hr⟩ := ih (cleanEntry ct kq.1 kq.2) hstep hd
      exact ⟨kq', List.mem_cons_of_mem _ hm, ct1, hs.trans (cleanEntry_sub _ _ _), hg, hr⟩

theorem clean_deleted (queue : AMap Key QVal) (ct : AMap Key Entry) (x : Key) (e : Entry)
    (hx : ct.get x = some e) (hd : (clean ct queue).get x = none) :
    ∃ kq ∈ queue, ∃ ct1, Sub ct1 ct ∧ ct1.get x = some e ∧ StepReason ct1 kq.1 kq.2 x e := by
  obtain ⟨kq, hm, ct1, hs, hg, hstep⟩ := clean_deleted_step queue ct x e hx hd
  exact ⟨kq, hm, ct1, hs, hg, cleanEntry_deleted ct1 kq.1 kq.2 x e hg hstep⟩

theorem clean_removes (order : AMap Key QVal) (ct : AMap Key Entry) (x : Key) (kq : Key × QVal) (hm : kq ∈ order)
    (hstep : ∀ ct1, Sub ct1 ct → (cleanEntry ct1 kq.1 kq.2).get x = none) : (clean ct order).get x = none := by
  induction order generalizing ct with
  | nil => cases hm
  | cons a rest ih =>
    simp only [clean, List.foldl_cons]
    rcases List.mem_cons.1 hm with rfl | hm
    · exact (clean_sub rest _).get_none (hstep ct (Sub.refl _))
    · exact ih _ hm fun ct1 hs => hstep ct1 (hs.trans (cleanEntry_sub _ _ _))

theorem cleanEntry_removes_plain (ct : AMap Key Entry) (k : Key) (q : QVal) (hq : q.other.proto = 0)
    (hm : ∀ e, ct.get k = some e → e.lastSeen = q.ts) : (cleanEntry ct k q).get k = none := by
  cases hk : ct.get k with
  | none => exact (cleanEntry_sub ct k q).get_none hk
  | some e => unfold cleanEntry; simp [hq, hk, hm e hk, AMap.get_del_self]

theorem cleanEntry_removes_rev (ct : AMap Key Entry) (k : Key) (q : QVal) (hp : q.other.proto ≠ 0)
    (hF : ∀ f, ct.get k = some f → f.revKey = q.other)
    (hR : ∀ r, ct.get q.other = some r → r.lastSeen = q.revTs) : (cleanEntry ct k q).get q.other = none := by
  cases hk : ct.get q.other with
  | none => exact (cleanEntry_sub ct k q).get_none hk
  | some r =>
    have hmis : fwdMismatch ct k q.other = false := by
      unfold fwdMismatch
      cases hf : ct.get k with
      | none => rfl
      | some f => simp [hF f hf]
    unfold cleanEntry
    simp only [hp, if_false, hmis, Bool.false_eq_true, hk, hR r hk, if_true]
    rw [AMap.get_del]; split
    · rfl
    · exact AMap.get_del_self _ _

theorem clean_live (order : AMap Key QVal) (ct : AMap Key Entry) (k : Key) (v : QVal)
    (hv : (k, v) ∈ order) (hp : v.other.proto = 0)
    (hm : ∀ e, ct.get k = some e → e.lastSeen = v.ts) : (clean ct order).get k = none :=
  clean_removes order ct k (k, v) hv fun ct1 hs =>
    cleanEntry_removes_plain ct1 k v hp fun e he => hm e (hs k e he)

theorem clean_live_pair (order : AMap Key QVal) (ct : AMap Key Entry) (kF kR : Key) (tsF tsR : Nat)
    (hv : (kF, (⟨kR, tsF, tsR⟩ : QVal)) ∈ order) (hp : kR.proto ≠ 0)
    (hF : ∀ e, ct.get kF = some e → e.revKey = kR)
    (hR : ∀ e, ct.get kR = some e → e.lastSeen = tsR) : (clean ct order).get kR = none :=
  clean_removes order ct kR _ hv fun ct1 hs =>
    cleanEntry_removes_rev ct1 kF ⟨kR, tsF, tsR⟩ hp (fun f hf => hF f (hs kF f hf)) (fun r hr => hR r (hs kR r hr))

/-- what `LivenessScanner.Check` found when it let a plain item (no reverse key) for the entry `e0` under `k`
through. -/
def Judged (t : Timeouts) (now : Nat) (ct : AMap Key Entry) (k : Key) (e0 : Entry) : Prop :=
  match e0.typ with
  | .fwd => ct.get e0.revKey = none ∨
      ∃ r, ct.get e0.revKey = some r ∧ expired t now k.proto r = true ∧ r.lastSeen = e0.lastSeen
  | _ => expired t now k.proto e0 = true

/-! A queue item `(k, ⟨other, ts, revTs⟩)` is *plain* when `other = dummyKey` (the cleaner compares `k`'s own time
stamp `ts`) and a *pair* item otherwise (`k` a forward key, `other` its reverse key; the cleaner compares the reverse
entry's `revTs` and deletes both).  `pend` (`revNATKeyToFwdNATInfo`) is keyed by REVERSE key: `⟨dummyKey, ts, 0⟩`
under `kR` = the reverse entry was visited first and found expired; `⟨kF, tsF, tsR⟩` under `kR` = the forward entry
`kF` was visited first and judged through its reverse entry.  The second of the two visits turns the record into a
pair item; `scanEnd` queues what is left. -/

/-- a queue item is backed by a judgement on the ONE map `ct` an atomic scan read. -/
def QSound (t : Timeouts) (now : Nat) (ct : AMap Key Entry) (kq : Key × QVal) : Prop :=
  if kq.2.other = dummyKey then
    ∃ e0, ct.get kq.1 = some e0 ∧ e0.lastSeen = kq.2.ts ∧ Judged t now ct kq.1 e0
  else
    ∃ f r, ct.get kq.1 = some f ∧ f.typ = .fwd ∧ f.revKey = kq.2.other ∧
      ct.get kq.2.other = some r ∧ r.lastSeen = kq.2.revTs ∧ expired t now kq.1.proto r = true

/-- `M`: the maps the scan saw.  A pair item is backed by the visit `ctF` that read the forward entry and by the
visit `ctR` that read the recorded reverse time stamp — the same visit, or one that judged the reverse entry itself. -/
def QBacked (t : Timeouts) (now : Nat) (M : AMap Key Entry → Prop) (kq : Key × QVal) : Prop :=
  if kq.2.other = dummyKey then
    ∃ ct, M ct ∧ ∃ e0, ct.get kq.1 = some e0 ∧ e0.lastSeen = kq.2.ts ∧ Judged t now ct kq.1 e0
  else
    ∃ ctF ctR, M ctF ∧ M ctR ∧ ∃ f r0 r, ctF.get kq.1 = some f ∧ f.typ = .fwd ∧ f.revKey = kq.2.other ∧
      ctF.get kq.2.other = some r0 ∧ expired t now kq.1.proto r0 = true ∧
      ctR.get kq.2.other = some r ∧ r.lastSeen = kq.2.revTs ∧
      (ctR = ctF ∨ (r.typ ≠ .fwd ∧ expired t now kq.2.other.proto r = true))

/-- invariant of `revNATKeyToFwdNATInfo`. -/
def PSound (t : Timeouts) (now : Nat) (M : AMap Key Entry → Prop) (done : List Key) (kp : Key × QVal) : Prop :=
  if kp.2.other = dummyKey then
    kp.1 ∈ done ∧ ∃ ct, M ct ∧ ∃ e0, ct.get kp.1 = some e0 ∧ e0.typ = .rev ∧ e0.lastSeen = kp.2.ts ∧
      expired t now kp.1.proto e0 = true
  else
    kp.1 ≠ dummyKey ∧ ∃ ct, M ct ∧ ∃ f r, ct.get kp.2.other = some f ∧ f.typ = .fwd ∧ f.revKey = kp.1 ∧
      f.lastSeen = kp.2.ts ∧ ct.get kp.1 = some r ∧ r.lastSeen = kp.2.revTs ∧ expired t now kp.2.other.proto r = true

structure ScanInv (t : Timeouts) (now : Nat) (M : AMap Key Entry → Prop) (done : List Key) (sc : ScanSt) : Prop where
  q : ∀ kq ∈ sc.queue, QBacked t now M kq
  p : ∀ kp ∈ sc.pend, PSound t now M done kp

theorem PSound.mono {t : Timeouts} {now : Nat} {M : AMap Key Entry → Prop} {done : List Key} {kp : Key × QVal} (k : Key)
    (h : PSound t now M done kp) : PSound t now M (k :: done) kp := by
  unfold PSound at *
  split
  · rename_i hd; rw [if_pos hd] at h; exact ⟨List.mem_cons_of_mem _ h.1, h.2⟩
  · rename_i hd; rw [if_neg hd] at h; exact h

theorem PSound.atomic {t : Timeouts} {now : Nat} {ct : AMap Key Entry} {done : List Key} {kp : Key × QVal}
    (h : PSound t now (· = ct) done kp) :
    (kp.2.other = dummyKey ∧ kp.1 ∈ done ∧ ∃ e0, ct.get kp.1 = some e0 ∧ e0.typ = .rev ∧ e0.lastSeen = kp.2.ts) ∨
    (kp.2.other ≠ dummyKey ∧ ∃ f, ct.get kp.2.other = some f ∧ f.typ = .fwd ∧ f.revKey = kp.1) := by
  unfold PSound at h
  by_cases hd : kp.2.other = dummyKey
  · rw [if_pos hd] at h
    obtain ⟨h1, _, rfl, e0, he, het, hel, _⟩ := h
    exact Or.inl ⟨hd, h1, e0, he, het, hel⟩
  · rw [if_neg hd] at h
    obtain ⟨_, _, rfl, f, _, hf, hft, hfr, _⟩ := h
    exact Or.inr ⟨hd, f, hf, hft, hfr⟩

theorem forall_mem_set {V : Type} {P : Key × V → Prop} {m : AMap Key V} {k : Key} {v : V}
    (hm : ∀ p ∈ m, P p) (hv : P (k, v)) : ∀ p ∈ m.set k v, P p := by
  intro p hp
  rcases AMap.mem_set hp with h | h
  · rw [h]; exact hv
  · exact hm p h.1

theorem scanEntry_keep {t : Timeouts} {now : Nat} {ct : AMap Key Entry} {sc : ScanSt} {k : Key} {e : Entry}
    (h : (check t now ct k e).1 = false) : scanEntry t now ct sc k e = sc := by
  unfold scanEntry; simp [h]

theorem scanEntry_normal {t : Timeouts} {now : Nat} {ct : AMap Key Entry} {sc : ScanSt} {k : Key} {e : Entry}
    (h : (check t now ct k e).1 = true) (ht : e.typ = .normal) :
    scanEntry t now ct sc k e =
      { sc with queue := sc.queue.set k ⟨dummyKey, (check t now ct k e).2, (check t now ct k e).2⟩ } := by
  unfold scanEntry; simp [h, ht]

theorem scanEntry_nat {t : Timeouts} {now : Nat} {ct : AMap Key Entry} {sc : ScanSt} {k : Key} {e : Entry}
    (h : (check t now ct k e).1 = true) (ht : e.typ ≠ .normal) :
    scanEntry t now ct sc k e = handleNAT sc k e (check t now ct k e).2 := by
  unfold scanEntry
  cases hte : e.typ <;> simp_all

theorem check_fwd {t : Timeouts} {now : Nat} {ct : AMap Key Entry} {k : Key} {e : Entry} (htyp : e.typ = .fwd)
    (hdel : (check t now ct k e).1 = true) :
    (ct.get e.revKey = none ∧ (check t now ct k e).2 = e.lastSeen) ∨
      ∃ r, ct.get e.revKey = some r ∧ expired t now k.proto r = true ∧ (check t now ct k e).2 = r.lastSeen := by
  unfold check at hdel ⊢
  simp only [htyp] at hdel ⊢
  cases hr : ct.get e.revKey with
  | none => left; simp
  | some r =>
    right
    simp only [hr] at hdel ⊢
    by_cases hx : expired t now k.proto r = true
    · exact ⟨r, rfl, hx, by simp [hx]⟩
    · simp [hx] at hdel

@[elab_as_elim]
theorem scanEntry_cases {motive : ScanSt → Prop} (t : Timeouts) (now : Nat) (ct : AMap Key Entry) (sc : ScanSt)
    (k : Key) (e : Entry)
    (keep : (check t now ct k e).1 = false → motive sc)
    (plain : e.typ ≠ .rev → Judged t now ct k e →
      motive { sc with queue := sc.queue.set k ⟨dummyKey, e.lastSeen, e.lastSeen⟩ })
    (revNew : e.typ = .rev → expired t now k.proto e = true → sc.pend.get k = none →
      motive { sc with pend := sc.pend.set k ⟨dummyKey, e.lastSeen, 0⟩ })
    (revPair : ∀ pv, e.typ = .rev → expired t now k.proto e = true → sc.pend.get k = some pv →
      motive { queue := sc.queue.set pv.other ⟨k, pv.ts, e.lastSeen⟩, pend := sc.pend.del k })
    (fwdNew : ∀ r, e.typ = .fwd → ct.get e.revKey = some r → expired t now k.proto r = true →
      e.lastSeen ≠ r.lastSeen → sc.pend.get e.revKey = none →
      motive { sc with pend := sc.pend.set e.revKey ⟨k, e.lastSeen, r.lastSeen⟩ })
    (fwdPair : ∀ r pv, e.typ = .fwd → ct.get e.revKey = some r → expired t now k.proto r = true →
      e.lastSeen ≠ r.lastSeen → sc.pend.get e.revKey = some pv →
      motive { queue := sc.queue.set k ⟨e.revKey, e.lastSeen, r.lastSeen⟩, pend := sc.pend.del e.revKey }) :
    motive (scanEntry t now ct sc k e) := by
  cases hdel : (check t now ct k e).1 with
  | false => rw [scanEntry_keep hdel]; exact keep hdel
  | true =>
    cases htyp : e.typ with
    | normal =>
      rw [scanEntry_normal hdel htyp, show (check t now ct k e).2 = e.lastSeen by simp [check, htyp]]
      refine plain (by simp [htyp]) ?_
      unfold Judged; simp only [htyp]
      simpa [check, htyp] using hdel
    | rev =>
      rw [scanEntry_nat hdel (by simp [htyp]), show (check t now ct k e).2 = e.lastSeen by simp [check, htyp]]
      have hexp : expired t now k.proto e = true := by simpa [check, htyp] using hdel
      simp only [handleNAT, htyp]
      cases hpk : sc.pend.get k with
      | none => exact revNew htyp hexp hpk
      | some pv => exact revPair pv htyp hexp hpk
    | fwd =>
      rw [scanEntry_nat hdel (by simp [htyp])]
      simp only [handleNAT, htyp]
      have hchk := check_fwd htyp hdel
      split
      · rename_i hts
        rw [← hts]
        refine plain (by simp [htyp]) ?_
        unfold Judged; simp only [htyp]
        rcases hchk with ⟨hn, _⟩ | ⟨r, hr, hx, hl⟩
        · exact Or.inl hn
        · exact Or.inr ⟨r, hr, hx, by omega⟩
      · rename_i hts
        -- the time stamps differ, so the reverse entry exists
        obtain ⟨r, hr, hx, hl⟩ : ∃ r, ct.get e.revKey = some r ∧ expired t now k.proto r = true ∧
            (check t now ct k e).2 = r.lastSeen := by
          rcases hchk with ⟨_, hl⟩ | h
          · exact absurd hl.symm hts
          · exact h
        rw [hl] at hts ⊢
        cases hpk : sc.pend.get e.revKey with
        | none => exact fwdNew r htyp hr hx hts hpk
        | some pv => exact fwdPair r pv htyp hr hx hts hpk

/-- `hnew`: a map iteration visits each key once. -/
theorem scanEntry_inv {t : Timeouts} {now : Nat} {M : AMap Key Entry → Prop} {done : List Key} {sc : ScanSt}
    (inv : ScanInv t now M done sc) (ct : AMap Key Entry) (hM : M ct) (k : Key) (e : Entry) (hk : ct.get k = some e)
    (hnew : k ∉ done) (hkd : k ≠ dummyKey) (hrd : e.typ = .fwd → e.revKey ≠ dummyKey) :
    ScanInv t now M (k :: done) (scanEntry t now ct sc k e) := by
  have mono : ∀ kp ∈ sc.pend, PSound t now M (k :: done) kp := fun kp h => (inv.p kp h).mono k
  refine scanEntry_cases t now ct sc k e ?_ ?_ ?_ ?_ ?_ ?_
  · intro _; exact ⟨inv.q, mono⟩
  · intro _ hj
    refine ⟨forall_mem_set inv.q ?_, mono⟩
    unfold QBacked; rw [if_pos rfl]
    exact ⟨ct, hM, e, hk, rfl, hj⟩
  · intro htyp hexp _
    refine ⟨inv.q, forall_mem_set mono ?_⟩
    unfold PSound; rw [if_pos rfl]
    exact ⟨List.mem_cons_self .., ct, hM, e, hk, htyp, rfl, hexp⟩
  · intro pv htyp hexp hpk
    have hps := inv.p (k, pv) (AMap.mem_of_get hpk)
    unfold PSound at hps
    by_cases hpd : pv.other = dummyKey
    · rw [if_pos hpd] at hps; exact absurd hps.1 hnew
    · -- the forward entry was read on an earlier visit's map `ct0`, the reverse entry is read now
      rw [if_neg hpd] at hps
      obtain ⟨_, ct0, hM0, f, r0, hf, hft, hfr, _, hr0, _, hre⟩ := hps
      refine ⟨forall_mem_set inv.q ?_, fun kp hm => mono kp (AMap.mem_del hm).1⟩
      unfold QBacked; rw [if_neg hkd]
      exact ⟨ct0, ct, hM0, hM, f, r0, e, hf, hft, hfr, hr0, hre, hk, rfl, Or.inr ⟨by simp [htyp], hexp⟩⟩
  · intro r htyp hr hx _ _
    refine ⟨inv.q, forall_mem_set mono ?_⟩
    unfold PSound; rw [if_neg hkd]
    exact ⟨hrd htyp, ct, hM, e, r, hk, htyp, rfl, rfl, hr, rfl, hx⟩
  · intro r pv htyp hr hx _ _
    refine ⟨forall_mem_set inv.q ?_, fun kp hm => mono kp (AMap.mem_del hm).1⟩
    unfold QBacked; rw [if_neg (hrd htyp)]
    exact ⟨ct, ct, hM, hM, e, r, r, hk, htyp, rfl, hr, hx, hr, rfl, Or.inl rfl⟩

def endKey (kp : Key × QVal) : Key := if kp.2.other ≠ dummyKey then kp.2.other else kp.1
def endVal (kp : Key × QVal) : QVal :=
  if kp.2.other ≠ dummyKey then ⟨kp.1, kp.2.ts, kp.2.revTs⟩ else ⟨kp.2.other, kp.2.ts, kp.2.revTs⟩

theorem scanEnd_eq (sc : ScanSt) : scanEnd sc = sc.pend.foldl (fun q kp => q.set (endKey kp) (endVal kp)) sc.queue := by
  unfold scanEnd endKey endVal
  congr 1
  funext q kp
  split <;> rfl

theorem scanEnd_all (Q : Key × QVal → Prop) (sc : ScanSt) (hq : ∀ kq ∈ sc.queue, Q kq)
    (hp : ∀ kp ∈ sc.pend, Q (endKey kp, endVal kp)) : ∀ kq ∈ scanEnd sc, Q kq := by
  rw [scanEnd_eq]
  obtain ⟨queue, pend⟩ := sc
  dsimp only at hq hp ⊢
  induction pend generalizing queue with
  | nil => exact hq
  | cons kp rest ih =>
    refine ih _ (fun kq hm => ?_) (fun x hx => hp x (List.mem_cons_of_mem _ hx))
    rcases AMap.mem_set hm with h | h
    · rw [h]; exact hp kp (List.mem_cons_self ..)
    · exact hq kq h.1

theorem endFold_has (P : QVal → Prop) (key : Key) (pend : AMap Key QVal)
    (hstep : ∀ kp ∈ pend, endKey kp = key → P (endVal kp)) (q : AMap Key QVal)
    (h : (∃ v, (key, v) ∈ q ∧ P v) ∨ ∃ kp ∈ pend, endKey kp = key) :
    ∃ v, (key, v) ∈ pend.foldl (fun q kp => q.set (endKey kp) (endVal kp)) q ∧ P v := by
  induction pend generalizing q with
  | nil => exact h.resolve_right fun ⟨_, hm, _⟩ => by cases hm
  | cons kp rest ih =>
    refine ih (fun x hx => hstep x (List.mem_cons_of_mem _ hx)) _ ?_
    by_cases hk : endKey kp = key
    · exact Or.inl ⟨endVal kp, hk ▸ AMap.mem_set_self _ _ _, hstep kp (List.mem_cons_self ..) hk⟩
    · rcases h with ⟨v, hm, hp⟩ | ⟨kp0, h0, hk0⟩
      · exact Or.inl ⟨v, AMap.mem_set_of_ne _ hm (fun e => hk e.symm), hp⟩
      · exact Or.inr ⟨kp0, (List.mem_cons.1 h0).resolve_left fun e => hk (e ▸ hk0), hk0⟩

theorem scanEnd_backed {t : Timeouts} {now : Nat} {M : AMap Key Entry → Prop} {done : List Key} {sc : ScanSt}
    (inv : ScanInv t now M done sc) : ∀ kq ∈ scanEnd sc, QBacked t now M kq := by
  refine scanEnd_all _ sc inv.q (fun kp hm => ?_)
  have hps := inv.p kp hm
  unfold PSound at hps
  unfold QBacked endKey endVal
  by_cases hd : kp.2.other = dummyKey
  · rw [if_pos hd] at hps
    obtain ⟨_, ct, hM, e0, he, het, hel, hex⟩ := hps
    simp only [hd, ne_eq, not_true_eq_false, if_false, if_true]
    refine ⟨ct, hM, e0, he, hel, ?_⟩
    unfold Judged; simp only [het]; exact hex
  · rw [if_neg hd] at hps
    obtain ⟨hkd, ct, hM, f, r, hf, hft, hfr, _, hr, hrl, hre⟩ := hps
    simp only [hd, ne_eq, not_false_eq_true, if_true, hkd, if_false]
    exact ⟨ct, ct, hM, hM, f, r, r, hf, hft, hfr, hr, hre, hr, hrl, Or.inl rfl⟩

/-! ## The scan loop, with packets interleaved INSIDE the map iteration

Visit `j` of the iteration reads the entry `(k, e)` and (for a forward entry) looks its reverse entry
up in the map `ct_j` as it is at that moment; between visits the map changes arbitrarily.  A queue
item is then backed by judgements made on the maps of one or two of the visits (`QBacked` above). -/

/-- `QBacked` seen from the one visit `ct` that read the recorded (reverse) time stamp. -/
def QSoundI (t : Timeouts) (now : Nat) (ct : AMap Key Entry) (kq : Key × QVal) : Prop :=
  if kq.2.other = dummyKey then
    ∃ e0, ct.get kq.1 = some e0 ∧ e0.lastSeen = kq.2.ts ∧ Judged t now ct kq.1 e0
  else
    ∃ r, ct.get kq.2.other = some r ∧ r.lastSeen = kq.2.revTs ∧
      ((r.typ ≠ .fwd ∧ expired t now kq.2.other.proto r = true) ∨
       (∃ f, ct.get kq.1 = some f ∧ f.typ = .fwd ∧ f.revKey = kq.2.other ∧ expired t now kq.1.proto r = true))

/-- the visits of one scan: the map as it was at the visit, and the entry read. -/
abbrev Visit := AMap Key Entry × Key × Entry

def scanI (t : Timeouts) (now : Nat) (visits : List Visit) : AMap Key QVal :=
  scanEnd (visits.foldl (fun sc v => scanEntry t now v.1 sc v.2.1 v.2.2) ⟨[], []⟩)

structure VisitsOK (visits : List Visit) : Prop where
  mem : ∀ v ∈ visits, v.1.get v.2.1 = some v.2.2
  nodup : (visits.map (·.2.1)).Nodup
  keys : ∀ v ∈ visits, v.2.1 ≠ dummyKey
  revs : ∀ v ∈ visits, v.2.2.typ = .fwd → v.2.2.revKey ≠ dummyKey

theorem scanI_loop {t : Timeouts} {now : Nat} {M : AMap Key Entry → Prop} {J : List Key → ScanSt → Prop}
    (visits : List Visit) (ok : VisitsOK visits) (hM : ∀ v ∈ visits, M v.1) (h0 : J [] ⟨[], []⟩)
    (hJ : ∀ done sc, ∀ v ∈ visits, v.2.1 ∉ done → ScanInv t now M done sc → J done sc →
      J (v.2.1 :: done) (scanEntry t now v.1 sc v.2.1 v.2.2)) :
    ∃ done, ScanInv t now M done (visits.foldl (fun sc v => scanEntry t now v.1 sc v.2.1 v.2.2) ⟨[], []⟩) ∧
      J done (visits.foldl (fun sc v => scanEntry t now v.1 sc v.2.1 v.2.2) ⟨[], []⟩) ∧ ∀ v ∈ visits, v.2.1 ∈ done := by
  have key : ∀ (rest : List Visit) (done : List Key) (sc : ScanSt), (∀ v ∈ rest, v ∈ visits) →
      ScanInv t now M done sc → J done sc → (rest.map (·.2.1)).Nodup → (∀ v ∈ rest, v.2.1 ∉ done) →
      ∃ done', ScanInv t now M done' (rest.foldl (fun sc v => scanEntry t now v.1 sc v.2.1 v.2.2) sc) ∧
        J done' (rest.foldl (fun sc v => scanEntry t now v.1 sc v.2.1 v.2.2) sc) ∧
        (∀ v ∈ rest, v.2.1 ∈ done') ∧ ∀ k ∈ done, k ∈ done' := by
    intro rest
    induction rest with
    | nil => exact fun done sc _ inv j _ _ => ⟨done, inv, j, fun _ h => by simp at h, fun _ h => h⟩
    | cons v rest ih =>
      intro done sc hsub inv j nd hdisj
      simp only [List.map_cons, List.nodup_cons] at nd
      have hv := hsub v (List.mem_cons_self ..)
      have hn := hdisj v (List.mem_cons_self ..)
      obtain ⟨done', i2, j2, m2, d2⟩ := ih (v.2.1 :: done) _ (fun x hx => hsub x (List.mem_cons_of_mem _ hx))
        (scanEntry_inv inv v.1 (hM v hv) v.2.1 v.2.2 (ok.mem v hv) hn (ok.keys v hv) (ok.revs v hv))
        (hJ done sc v hv hn inv j) nd.2 (fun x hx => by
          simp only [List.mem_cons, not_or]
          exact ⟨fun e => nd.1 (List.mem_map.2 ⟨x, hx, e⟩), hdisj x (List.mem_cons_of_mem _ hx)⟩)
      refine ⟨done', i2, j2, fun x hx => ?_, fun k hk => d2 k (List.mem_cons_of_mem _ hk)⟩
      rcases List.mem_cons.1 hx with rfl | hx
      · exact d2 _ (List.mem_cons_self ..)
      · exact m2 x hx
  obtain ⟨done, i, j, m, -⟩ := key visits [] ⟨[], []⟩ (fun _ h => h)
    ⟨fun _ h => by simp at h, fun _ h => by simp at h⟩ h0 ok.nodup (fun _ _ => by simp)
  exact ⟨done, i, j, m⟩

theorem scanI_queue_backed {t : Timeouts} {now : Nat} {M : AMap Key Entry → Prop} (visits : List Visit)
    (ok : VisitsOK visits) (hM : ∀ v ∈ visits, M v.1) : ∀ kq ∈ scanI t now visits, QBacked t now M kq := by
  obtain ⟨done, inv, -⟩ := scanI_loop (t := t) (now := now) (J := fun _ _ => True) visits ok hM trivial
    (fun _ _ _ _ _ _ _ => trivial)
  exact scanEnd_backed inv

/-- one map: the two visits of a pair item read the same reverse entry. -/
theorem QBacked.atomic {t : Timeouts} {now : Nat} {ct : AMap Key Entry} {kq : Key × QVal}
    (h : QBacked t now (· = ct) kq) : QSound t now ct kq := by
  unfold QBacked at h; unfold QSound
  split
  · rename_i hd; rw [if_pos hd] at h
    obtain ⟨_, rfl, h⟩ := h; exact h
  · rename_i hd; rw [if_neg hd] at h
    obtain ⟨_, _, rfl, rfl, f, r0, r, hf, hft, hfr, hr0, hx, hr, hrl, _⟩ := h
    rw [hr0] at hr; cases hr
    exact ⟨f, r0, hf, hft, hfr, hr0, hrl, hx⟩

/-- seen from the visit that read the recorded reverse time stamp. -/
theorem QBacked.visit {t : Timeouts} {now : Nat} {M : AMap Key Entry → Prop} {kq : Key × QVal}
    (h : QBacked t now M kq) : ∃ ct, M ct ∧ QSoundI t now ct kq := by
  unfold QBacked at h; unfold QSoundI
  by_cases hd : kq.2.other = dummyKey
  · simp only [hd, if_true] at h ⊢; exact h
  · simp only [hd, if_false] at h ⊢
    obtain ⟨ctF, ctR, _, hR, f, r0, r, hf, hft, hfr, hr0, hx, hr, hrl, hor⟩ := h
    refine ⟨ctR, hR, r, hr, hrl, ?_⟩
    rcases hor with rfl | h2
    · rw [hr0] at hr; cases hr
      exact Or.inr ⟨f, hf, hft, hfr, hx⟩
    · exact Or.inl h2

theorem scanI_queue_sound (t : Timeouts) (now : Nat) (visits : List Visit) (ok : VisitsOK visits) :
    ∀ kq ∈ scanI t now visits, ∃ v ∈ visits, QSoundI t now v.1 kq := by
  intro kq h
  obtain ⟨_, ⟨v, hv, rfl⟩, hs⟩ := (scanI_queue_backed (M := fun ct => ∃ v ∈ visits, v.1 = ct) visits ok
    (fun v hv => ⟨v, hv, rfl⟩) kq h).visit
  exact ⟨v, hv, hs⟩

/-! ## The atomic scan: all visits see one map `ct`; its liveness

`ItemsOK ct items` says of `items` what `VisitsOK` says of `items.map (ct, ·)` (`ItemsOK.visits`). -/

/-- the entries an atomic scan visits. -/
structure ItemsOK (ct : AMap Key Entry) (items : List (Key × Entry)) : Prop where
  mem : ∀ kv ∈ items, ct.get kv.1 = some kv.2
  nodup : (items.map (·.1)).Nodup
  keys : ∀ kv ∈ items, kv.1 ≠ dummyKey
  revs : ∀ kv ∈ items, kv.2.typ = .fwd → kv.2.revKey ≠ dummyKey

theorem scan_eq_scanI (t : Timeouts) (now : Nat) (ct : AMap Key Entry) (items : List (Key × Entry)) :
    scan t now ct items = scanI t now (items.map fun kv => (ct, kv)) := by
  simp only [scan, scanI, List.foldl_map]

theorem ItemsOK.visits {ct : AMap Key Entry} {items : List (Key × Entry)} (ok : ItemsOK ct items) :
    VisitsOK (items.map fun kv => (ct, kv)) := by
  refine ⟨?_, ?_, ?_, ?_⟩
  · intro v hv; obtain ⟨kv, hkv, rfl⟩ := List.mem_map.1 hv; exact ok.mem kv hkv
  · simpa [List.map_map, Function.comp_def] using ok.nodup
  · intro v hv; obtain ⟨kv, hkv, rfl⟩ := List.mem_map.1 hv; exact ok.keys kv hkv
  · intro v hv; obtain ⟨kv, hkv, rfl⟩ := List.mem_map.1 hv; exact ok.revs kv hkv

theorem scanEntry_keeps {t : Timeouts} {now : Nat} {ct : AMap Key Entry} {done : List Key} {sc : ScanSt}
    (inv : ScanInv t now (· = ct) done sc) {k : Key} {e : Entry} {v : QVal}
    (hk : ct.get k = some e) (hn : e.typ = .normal) (hv : (k, v) ∈ sc.queue)
    (k' : Key) (e' : Entry) (hne : k' ≠ k) (hnew : k' ∉ done) :
    (k, v) ∈ (scanEntry t now ct sc k' e').queue := by
  have hne' : (k, v).1 ≠ k' := fun h => hne h.symm
  refine scanEntry_cases t now ct sc k' e' (fun _ => hv) (fun _ _ => AMap.mem_set_of_ne _ hv hne') (fun _ _ _ => hv)
    (fun pv _ _ hpk => ?_) (fun _ _ _ _ _ _ => hv) (fun _ _ _ _ _ _ _ => AMap.mem_set_of_ne _ hv hne')
  -- the pending record that `k'` completes belongs to a forward entry, not to the normal entry `k`
  apply AMap.mem_set_of_ne _ hv
  rcases (inv.p (k', pv) (AMap.mem_of_get hpk)).atomic with ⟨_, hd, _⟩ | ⟨_, f, hf, hft, _⟩
  · exact absurd hd hnew
  · intro h
    simp only at h
    rw [← h, hk] at hf; cases hf
    rw [hn] at hft; cases hft

theorem scan_loop {t : Timeouts} {now : Nat} {ct : AMap Key Entry} {J : List Key → ScanSt → Prop}
    (items : List (Key × Entry)) (ok : ItemsOK ct items) (h0 : J [] ⟨[], []⟩)
    (hJ : ∀ done sc k e, (k, e) ∈ items → k ∉ done → ScanInv t now (· = ct) done sc → J done sc →
      J (k :: done) (scanEntry t now ct sc k e)) :
    ∃ done, ScanInv t now (· = ct) done (items.foldl (fun sc kv => scanEntry t now ct sc kv.1 kv.2) ⟨[], []⟩) ∧
      J done (items.foldl (fun sc kv => scanEntry t now ct sc kv.1 kv.2) ⟨[], []⟩) ∧ ∀ kv ∈ items, kv.1 ∈ done := by
  obtain ⟨done, i, j, m⟩ := scanI_loop (t := t) (now := now) (M := (· = ct)) (J := J) _ ok.visits
    (fun v hv => by obtain ⟨kv, _, rfl⟩ := List.mem_map.1 hv; rfl) h0
    (fun done sc v hv => by obtain ⟨kv, hkv, rfl⟩ := List.mem_map.1 hv; exact hJ done sc kv.1 kv.2 hkv)
  rw [List.foldl_map] at i j
  exact ⟨done, i, j, fun kv hkv => m _ (List.mem_map_of_mem hkv)⟩

theorem visit_normal {t : Timeouts} {now : Nat} {ct : AMap Key Entry} {k : Key} {e : Entry}
    (hk : ct.get k = some e) (hn : e.typ = .normal) (hexp : expired t now k.proto e = true)
    (done : List Key) (sc : ScanSt) (k' : Key) (e' : Entry) (hk' : ct.get k' = some e') (hnew : k' ∉ done)
    (inv : ScanInv t now (· = ct) done sc)
    (j : k ∈ done → (k, (⟨dummyKey, e.lastSeen, e.lastSeen⟩ : QVal)) ∈ sc.queue) (hd : k ∈ k' :: done) :
    (k, (⟨dummyKey, e.lastSeen, e.lastSeen⟩ : QVal)) ∈ (scanEntry t now ct sc k' e').queue := by
  by_cases hkk : k' = k
  · subst hkk
    rw [hk] at hk'; cases hk'
    have hc : (check t now ct k' e).1 = true := by simp [check, hn, hexp]
    rw [scanEntry_normal hc hn, show (check t now ct k' e).2 = e.lastSeen by simp [check, hn]]
    exact AMap.mem_set_self _ _ _
  · exact scanEntry_keeps inv hk hn (j ((List.mem_cons.1 hd).resolve_left fun h => hkk h.symm)) k' e' hkk hnew

theorem endKey_entry {t : Timeouts} {now : Nat} {ct : AMap Key Entry} {done : List Key} {kp : Key × QVal}
    (h : PSound t now (· = ct) done kp) : ∃ e, ct.get (endKey kp) = some e ∧
      ((e.typ = .rev ∧ kp.2.other = dummyKey ∧ e.lastSeen = kp.2.ts) ∨
       (e.typ = .fwd ∧ kp.2.other ≠ dummyKey ∧ e.revKey = kp.1)) := by
  unfold endKey
  rcases h.atomic with ⟨hd, _, e0, he0, het, hel⟩ | ⟨hd, f, hf, hft, hfr⟩
  · exact ⟨e0, by simpa [hd] using he0, Or.inl ⟨het, hd, hel⟩⟩
  · exact ⟨f, by simpa [hd] using hf, Or.inr ⟨hft, hd, hfr⟩⟩

theorem scanEnd_keeps {sc : ScanSt} {k : Key} {v : QVal} (hne : ∀ kp ∈ sc.pend, endKey kp ≠ k)
    (hv : (k, v) ∈ sc.queue) : (k, v) ∈ scanEnd sc := by
  rw [scanEnd_eq]
  obtain ⟨v', hm, rfl⟩ := endFold_has (fun v' => v' = v) k sc.pend (fun kp hm he => absurd he (hne kp hm))
    sc.queue (Or.inl ⟨v, hv, rfl⟩)
  exact hm

theorem scanEnd_has {t : Timeouts} {now : Nat} {ct : AMap Key Entry} {done : List Key} {sc : ScanSt}
    (inv : ScanInv t now (· = ct) done sc) {k : Key} {e : Entry} {v : QVal}
    (hk : ct.get k = some e) (hn : e.typ = .normal) (hv : (k, v) ∈ sc.queue) : (k, v) ∈ scanEnd sc := by
  -- a pending record turns into an item for a forward or a reverse entry, never for the normal entry `k`
  refine scanEnd_keeps (fun kp hm he => ?_) hv
  obtain ⟨e', he', h⟩ := endKey_entry (inv.p kp hm)
  rw [he, hk] at he'; cases he'
  rcases h with ⟨h, _⟩ | ⟨h, _⟩ <;> rw [hn] at h <;> cases h

structure Pair (t : Timeouts) (now : Nat) (ct : AMap Key Entry) (items : List (Key × Entry))
    (kF kR : Key) (f r : Entry) : Prop where
  hf : ct.get kF = some f
  hr : ct.get kR = some r
  tf : f.typ = .fwd
  tr : r.typ = .rev
  rk : f.revKey = kR
  ef : expired t now kF.proto r = true
  er : expired t now kR.proto r = true
  uniq : ∀ kv ∈ items, kv.2.typ = .fwd → kv.2.revKey = kR → kv.1 = kF

/-- What the scanner state holds for the pair after the keys in `done`.  When the time stamps are equal the
reverse-first record `⟨dummyKey, tsR, 0⟩` stays under `kR` for ever, because the forward entry is then queued plain
without touching `pend`. -/
structure PairInv (kF kR : Key) (f r : Entry) (done : List Key) (sc : ScanSt) : Prop where
  pn : (sc.pend.map (·.1)).Nodup
  pend : sc.pend.get kR =
    if f.lastSeen = r.lastSeen then (if kR ∈ done then some ⟨dummyKey, r.lastSeen, 0⟩ else none)
    else if kF ∈ done then (if kR ∈ done then none else some ⟨kF, f.lastSeen, r.lastSeen⟩)
    else (if kR ∈ done then some ⟨dummyKey, r.lastSeen, 0⟩ else none)
  qeq : f.lastSeen = r.lastSeen → kF ∈ done → (kF, (⟨dummyKey, f.lastSeen, f.lastSeen⟩ : QVal)) ∈ sc.queue
  qne : f.lastSeen ≠ r.lastSeen → kF ∈ done → kR ∈ done → (kF, (⟨kR, f.lastSeen, r.lastSeen⟩ : QVal)) ∈ sc.queue

theorem scanEntry_pn {t : Timeouts} {now : Nat} {ct : AMap Key Entry} {sc : ScanSt} (k : Key) (e : Entry)
    (h : (sc.pend.map (·.1)).Nodup) : ((scanEntry t now ct sc k e).pend.map (·.1)).Nodup := by
  exact scanEntry_cases t now ct sc k e (fun _ => h) (fun _ _ => h) (fun _ _ _ => AMap.keys_set _ _ _ h)
    (fun _ _ _ _ => AMap.keys_del _ _ h) (fun _ _ _ _ _ _ => AMap.keys_set _ _ _ h)
    (fun _ _ _ _ _ _ _ => AMap.keys_del _ _ h)

theorem other_visit {t : Timeouts} {now : Nat} {ct : AMap Key Entry} {items : List (Key × Entry)} {kF kR : Key} {f r : Entry}
    (pr : Pair t now ct items kF kR f r) {done : List Key} {sc : ScanSt} (inv : ScanInv t now (· = ct) done sc)
    (k : Key) (e : Entry) (hmem : (k, e) ∈ items) (hnew : k ∉ done) (h1 : k ≠ kF) (h2 : k ≠ kR) :
    (scanEntry t now ct sc k e).pend.get kR = sc.pend.get kR ∧
    ∀ v, (kF, v) ∈ sc.queue → (kF, v) ∈ (scanEntry t now ct sc k e).queue := by
  have hne : ∀ v : QVal, (kF, v).1 ≠ k := fun v h => h1 h.symm
  have k2 : kR ≠ k := fun e => h2 e.symm
  refine scanEntry_cases t now ct sc k e (fun _ => ⟨rfl, fun v h => h⟩)
    (fun _ _ => ⟨rfl, fun v h => AMap.mem_set_of_ne _ h (hne v)⟩)
    (fun _ _ _ => ⟨(AMap.get_set _ _ _ _).trans (if_neg k2), fun v h => h⟩)
    (fun pv _ _ hpk => ⟨AMap.get_del_ne _ k2, fun v h => ?_⟩)
    (fun r htyp _ _ _ _ => ⟨(AMap.get_set _ _ _ _).trans (if_neg fun e' => h1 (pr.uniq (k, e) hmem htyp e'.symm)),
      fun v h => h⟩)
    (fun r pv htyp _ _ _ _ => ⟨AMap.get_del_ne _ fun e' => h1 (pr.uniq (k, e) hmem htyp e'.symm),
      fun v h => AMap.mem_set_of_ne _ h (hne v)⟩)
  -- the pending record that `k` completes belongs to another forward entry
  apply AMap.mem_set_of_ne _ h
  rcases (inv.p (k, pv) (AMap.mem_of_get hpk)).atomic with ⟨_, hd, _⟩ | ⟨_, f', hf', _, hfr'⟩
  · exact absurd hd hnew
  · intro he; simp only at he
    rw [← he, pr.hf] at hf'; cases hf'
    exact h2 (by have := hfr'; simp only at this; rw [← this, pr.rk])

theorem mem_cons_ne {k x : Key} {done : List Key} (h : x ≠ k) : x ∈ k :: done ↔ x ∈ done := by
  simp [List.mem_cons, h]

theorem pair_visit {t : Timeouts} {now : Nat} {ct : AMap Key Entry} {items : List (Key × Entry)} {kF kR : Key} {f r : Entry}
    (pr : Pair t now ct items kF kR f r) {done : List Key} {sc : ScanSt} (inv : ScanInv t now (· = ct) done sc)
    (pi : PairInv kF kR f r done sc) (k : Key) (e : Entry) (hk : ct.get k = some e) (hmem : (k, e) ∈ items)
    (hnew : k ∉ done) : PairInv kF kR f r (k :: done) (scanEntry t now ct sc k e) := by
  have hFR : kF ≠ kR := by
    intro h; have := pr.hf; rw [h, pr.hr] at this; cases this
    have := pr.tf; rw [pr.tr] at this; cases this
  by_cases hkF : k = kF
  · -- the forward entry is visited
    subst hkF
    have he : e = f := by rw [pr.hf] at hk; cases hk; rfl
    rw [he]
    have hRk : kR ≠ k := fun h => hFR h.symm
    have hc1 : (check t now ct k f).1 = true := by simp [check, pr.tf, pr.rk, pr.hr, pr.ef]
    have hc2 : (check t now ct k f).2 = r.lastSeen := by simp [check, pr.tf, pr.rk, pr.hr, pr.ef]
    have hpend := pi.pend
    simp only [hnew, if_false] at hpend
    rw [scanEntry_nat hc1 (by simp [pr.tf])]
    simp only [handleNAT, pr.tf, hc2, pr.rk]
    by_cases heq : f.lastSeen = r.lastSeen
    · simp only [heq, if_true]
      refine ⟨pi.pn, ?_, ?_, fun h => absurd heq h⟩
      · simp only [heq, if_true, mem_cons_ne hRk] at hpend ⊢; exact hpend
      · intro _ _; rw [← heq]; exact AMap.mem_set_self _ _ _
    · simp only [heq, if_false] at hpend ⊢
      by_cases hR : kR ∈ done
      · simp only [hR, if_true] at hpend
        simp only [hpend]
        refine ⟨AMap.keys_del _ _ pi.pn, ?_, fun h => absurd h heq, fun _ _ _ => AMap.mem_set_self _ _ _⟩
        simp [heq, hR, AMap.get_del_self]
      · simp only [hR, if_false] at hpend
        simp only [hpend]
        refine ⟨AMap.keys_set _ _ _ pi.pn, ?_, fun h => absurd h heq, fun _ _ h => absurd ((mem_cons_ne hRk).1 h) hR⟩
        simp [heq, hR, mem_cons_ne hRk, AMap.get_set]
  · by_cases hkR : k = kR
    · -- the reverse entry is visited
      subst hkR
      have he : e = r := by rw [pr.hr] at hk; cases hk; rfl
      rw [he]
      have hFk : kF ≠ k := hFR
      have hc1 : (check t now ct k r).1 = true := by simp [check, pr.tr, pr.er]
      have hpend := pi.pend
      simp only [hnew, if_false] at hpend
      rw [scanEntry_nat hc1 (by simp [pr.tr])]
      simp only [handleNAT, pr.tr]
      by_cases heq : f.lastSeen = r.lastSeen
      · simp only [heq, if_true] at hpend
        simp only [hpend]
        refine ⟨AMap.keys_set _ _ _ pi.pn, ?_, ?_, fun h => absurd heq h⟩
        · simp [heq, AMap.get_set]
        · intro h hm; exact pi.qeq h ((mem_cons_ne hFk).1 hm)
      · simp only [heq, if_false] at hpend
        by_cases hF : kF ∈ done
        · simp only [hF, if_true] at hpend
          simp only [hpend]
          refine ⟨AMap.keys_del _ _ pi.pn, ?_, fun h => absurd h heq, fun _ _ _ => AMap.mem_set_self _ _ _⟩
          simp [heq, hF, mem_cons_ne hFk, AMap.get_del_self]
        · simp only [hF, if_false] at hpend
          simp only [hpend]
          refine ⟨AMap.keys_set _ _ _ pi.pn, ?_, fun h => absurd h heq, fun _ h _ => absurd ((mem_cons_ne hFk).1 h) hF⟩
          simp [heq, hF, mem_cons_ne hFk, AMap.get_set]
    · -- some other entry is visited
      obtain ⟨hp, hq⟩ := other_visit pr inv k e hmem hnew hkF hkR
      have m1 : kF ∈ k :: done ↔ kF ∈ done := mem_cons_ne (fun h => hkF h.symm)
      have m2 : kR ∈ k :: done ↔ kR ∈ done := mem_cons_ne (fun h => hkR h.symm)
      refine ⟨scanEntry_pn k e pi.pn, ?_, ?_, ?_⟩
      · rw [hp, pi.pend]; simp only [m1, m2]
      · intro h hm; exact hq _ (pi.qeq h (m1.1 hm))
      · intro h hm1 hm2; exact hq _ (pi.qne h (m1.1 hm1) (m2.1 hm2))

end CalicoVerif.C14
