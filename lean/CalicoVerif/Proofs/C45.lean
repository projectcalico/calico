import CalicoVerif.Model.C45
import CalicoVerif.Proofs.Assoc
/-!
C45 — the invariant `Inv` of reachable rings (entries are a permutation of the virtual nodes of the
keys in `members`; pending deletes are members; `sorted` ⇒ entries sorted) and the effect of every
operation on the live member map `Ring.live`.  Two sorted permutations of one list are equal, so after
the sweep and sort inside `Lookup` the entry table is a function of the live key set only.
-/
namespace CalicoVerif.C45

variable {V : Type}

def keys (m : List (Key × V)) : List Key := m.map (·.1)

theorem mget_eq (m : List (Key × V)) (k : Key) : mget m k = Assoc.get m k := by
  induction m with
  | nil => rfl
  | cons kv rest ih => simp only [mget, Assoc.get, ih]

theorem mget_isSome_iff (m : List (Key × V)) (k : Key) : (mget m k).isSome ↔ k ∈ keys m :=
  mget_eq m k ▸ Assoc.get_isSome_iff m k

theorem mget_none_iff (m : List (Key × V)) (k : Key) : mget m k = none ↔ k ∉ keys m := by
  rw [← mget_isSome_iff]; cases mget m k <;> simp

theorem mget_mset (m : List (Key × V)) (k k' : Key) (v : V) :
    mget (mset m k v) k' = if k = k' then some v else mget m k' := by
  induction m with
  | nil => simp [mset, mget]
  | cons kv rest ih =>
    obtain ⟨k0, v0⟩ := kv
    simp only [mset]
    by_cases h0 : k0 = k
    · subst h0
      by_cases h1 : k0 = k' <;> simp [mget, h1]
    · simp only [h0, if_false, mget, ih]
      by_cases h1 : k0 = k'
      · have : ¬ k = k' := fun e => h0 (h1.trans e.symm)
        simp [h1, this]
      · simp [h1]

theorem keys_mset_of_mem (m : List (Key × V)) (k : Key) (v : V) (h : k ∈ keys m) :
    keys (mset m k v) = keys m := by
  induction m with
  | nil => simp [keys] at h
  | cons kv rest ih =>
    obtain ⟨k0, v0⟩ := kv
    simp only [mset]
    by_cases h0 : k0 = k
    · simp [h0, keys]
    · simp only [h0, if_false, keys, List.map_cons, List.cons.injEq, true_and]
      have : k ∈ keys rest := by
        simp only [keys, List.map_cons, List.mem_cons] at h
        rcases h with h | h
        · exact absurd h.symm h0
        · exact h
      exact ih this

theorem keys_mset_of_not_mem (m : List (Key × V)) (k : Key) (v : V) (h : k ∉ keys m) :
    keys (mset m k v) = keys m ++ [k] := by
  induction m with
  | nil => simp [keys, mset]
  | cons kv rest ih =>
    obtain ⟨k0, v0⟩ := kv
    simp only [keys, List.map_cons, List.mem_cons, not_or] at h
    have h0 : ¬ k0 = k := fun e => h.1 e.symm
    simp only [mset, h0, if_false, keys, List.map_cons, List.cons_append, List.cons.injEq, true_and]
    exact ih h.2

theorem mget_filter_key (m : List (Key × V)) (p : Key → Bool) (k : Key) :
    mget (m.filter (fun kv => p kv.1)) k = if p k then mget m k else none := by
  rw [mget_eq, mget_eq]; exact Assoc.get_filter m p k

theorem keys_filter_key (m : List (Key × V)) (p : Key → Bool) :
    keys (m.filter (fun kv => p kv.1)) = (keys m).filter p :=
  List.filter_map.symm

namespace Entry

theorem le_total (a b : Entry) : (Entry.le a b || Entry.le b a) = true := by
  simp only [Entry.le, Bool.or_eq_true, Bool.and_eq_true, decide_eq_true_eq]
  rcases Nat.lt_trichotomy a.hash b.hash with h | h | h
  · exact Or.inl (Or.inl h)
  · rcases List.le_total a.key b.key with hk | hk
    · exact Or.inl (Or.inr ⟨h, hk⟩)
    · exact Or.inr (Or.inr ⟨h.symm, hk⟩)
  · exact Or.inr (Or.inl h)

theorem le_trans (a b c : Entry) (h1 : Entry.le a b = true) (h2 : Entry.le b c = true) :
    Entry.le a c = true := by
  simp only [Entry.le, Bool.or_eq_true, Bool.and_eq_true, decide_eq_true_eq] at *
  rcases h1 with h1 | ⟨h1, k1⟩
  · rcases h2 with h2 | ⟨h2, _⟩
    · exact Or.inl (Nat.lt_trans h1 h2)
    · exact Or.inl (h2 ▸ h1)
  · rcases h2 with h2 | ⟨h2, k2⟩
    · exact Or.inl (h1 ▸ h2)
    · exact Or.inr ⟨h1.trans h2, List.le_trans k1 k2⟩

theorem le_antisymm {a b : Entry} (h1 : Entry.le a b = true) (h2 : Entry.le b a = true) :
    a = b := by
  simp only [Entry.le, Bool.or_eq_true, Bool.and_eq_true, decide_eq_true_eq] at *
  obtain ⟨ha, ka⟩ := a
  obtain ⟨hb, kb⟩ := b
  simp only at h1 h2
  rcases h1 with h1 | ⟨h1, k1⟩
  · rcases h2 with h2 | ⟨h2, _⟩ <;> omega
  · rcases h2 with h2 | ⟨_, k2⟩
    · omega
    · rw [h1, List.le_antisymm k1 k2]

end Entry

theorem mergeSort_sorted (l : List Entry) :
    (l.mergeSort Entry.le).Pairwise (fun a b => Entry.le a b = true) :=
  List.pairwise_mergeSort Entry.le_trans Entry.le_total l

def vnodes (H : List Nat → Nat) (R : Nat) (ks : List Key) : List Entry :=
  ks.flatMap (replicaEntries H R)

theorem mem_replicaEntries {H : List Nat → Nat} {R : Nat} {k : Key} {e : Entry}
    (h : e ∈ replicaEntries H R k) : e.key = k := by
  simp only [replicaEntries, List.mem_map] at h
  obtain ⟨i, -, rfl⟩ := h
  rfl

theorem mem_vnodes {H : List Nat → Nat} {R : Nat} {ks : List Key} {e : Entry}
    (h : e ∈ vnodes H R ks) : e.key ∈ ks := by
  simp only [vnodes, List.mem_flatMap] at h
  obtain ⟨k, hk, he⟩ := h
  rw [mem_replicaEntries he]; exact hk

theorem vnodes_filter (H : List Nat → Nat) (R : Nat) (ks : List Key) (p : Key → Bool) :
    (vnodes H R ks).filter (fun e => p e.key) = vnodes H R (ks.filter p) := by
  induction ks with
  | nil => rfl
  | cons k rest ih =>
    have hk : (replicaEntries H R k).filter (fun e => p e.key) = if p k then replicaEntries H R k else [] := by
      unfold replicaEntries
      rw [List.filter_map]
      cases h : p k
      · simp [Function.comp_def, h]
      · exact congrArg _ (List.filter_eq_self.2 fun _ _ => h)
    simp only [vnodes, List.flatMap_cons, List.filter_append, List.filter_cons] at ih ⊢
    rw [ih, hk]
    cases p k <;> rfl

theorem vnodes_ne_nil {H : List Nat → Nat} {R : Nat} {ks : List Key} (hR : 1 ≤ R) (hk : ks ≠ []) :
    vnodes H R ks ≠ [] := by
  cases ks with
  | nil => exact absurd rfl hk
  | cons k rest =>
    intro h
    have : replicaEntries H R k = [] := by
      simp only [vnodes, List.flatMap_cons, List.append_eq_nil_iff] at h; exact h.1
    simp only [replicaEntries, List.map_eq_nil_iff, List.range_eq_nil] at this
    omega

structure Inv (H : List Nat → Nat) (r : Ring V) : Prop where
  nodupKeys : (keys r.members).Nodup
  nodupDel : r.deleted.Nodup
  delSub : ∀ k ∈ r.deleted, k ∈ keys r.members
  perm : r.entries.Perm (vnodes H r.replicas (keys r.members))
  sorted : r.sorted = true → r.entries.Pairwise (fun a b => Entry.le a b = true)
  pos : 1 ≤ r.replicas ∧ 1 ≤ r.probes

theorem inv_new (H : List Nat → Nat) {R P : Int} {r : Ring V} (h : Ring.new R P = some r) : Inv H r := by
  unfold Ring.new at h
  split at h
  · cases h
  · obtain rfl := Option.some.inj h
    exact ⟨List.nodup_nil, List.nodup_nil, nofun, .refl _, nofun, by simp only; omega⟩

theorem live_new {R P : Int} {r : Ring V} (h : Ring.new R P = some r) (k : Key) : r.live k = none := by
  unfold Ring.new at h
  split at h
  · cases h
  · obtain rfl := Option.some.inj h; rfl

theorem inv_insert (H : List Nat → Nat) {r : Ring V} (hi : Inv H r) (k : Key) (v : V) :
    Inv H (r.insert H k v) := by
  unfold Ring.insert
  by_cases hk : k ∈ keys r.members
  · -- a known key, pending delete or not: key list and entry table stay as they are
    have hkeys : keys (mset r.members k v) = keys r.members := keys_mset_of_mem _ _ _ hk
    split
    · exact ⟨hkeys ▸ hi.nodupKeys, List.Pairwise.filter _ hi.nodupDel,
        fun k' hk' => hkeys ▸ hi.delSub k' (List.mem_filter.1 hk').1, hkeys ▸ hi.perm, hi.sorted, hi.pos⟩
    · rw [if_pos ((mget_isSome_iff _ _).2 hk)]
      exact ⟨hkeys ▸ hi.nodupKeys, hi.nodupDel, fun k' hk' => hkeys ▸ hi.delSub k' hk', hkeys ▸ hi.perm,
        hi.sorted, hi.pos⟩
  · have hkeys : keys (mset r.members k v) = keys r.members ++ [k] := keys_mset_of_not_mem _ _ _ hk
    rw [if_neg fun h => hk (hi.delSub k h), if_neg fun h => hk ((mget_isSome_iff _ _).1 h)]
    refine ⟨hkeys ▸ ?_, hi.nodupDel, fun k' hk' => hkeys ▸ List.mem_append_left _ (hi.delSub k' hk'),
      hkeys ▸ ?_, nofun, hi.pos⟩
    · refine List.nodup_append.2 ⟨hi.nodupKeys, List.pairwise_singleton _ _, fun a ha b hb e => hk ?_⟩
      rw [← List.mem_singleton.1 hb, ← e]; exact ha
    · rw [vnodes, List.flatMap_append, List.flatMap_singleton]
      exact List.Perm.append_right _ hi.perm

theorem inv_remove (H : List Nat → Nat) {r : Ring V} (hi : Inv H r) (k : Key) :
    Inv H (r.remove k) := by
  unfold Ring.remove
  split
  · exact hi
  split
  · exact hi
  rename_i hm hd
  have hk : k ∈ keys r.members := by
    rw [← mget_isSome_iff]
    cases h : mget r.members k with
    | none => rw [h] at hm; exact absurd rfl hm
    | some _ => rfl
  exact ⟨hi.nodupKeys, List.nodup_cons.2 ⟨hd, hi.nodupDel⟩,
    fun k' hk' => (List.mem_cons.1 hk').elim (fun e => e ▸ hk) (hi.delSub k'), hi.perm, hi.sorted, hi.pos⟩

/-- The sweep, without the `len(deletedKeys) > 0` shortcut (which changes nothing). -/
theorem sweep_eq (r : Ring V) :
    r.sweep = { r with entries := r.entries.filter (fun e => !(r.deleted.contains e.key)),
                       members := r.members.filter (fun kv => !(r.deleted.contains kv.1)),
                       deleted := [] } := by
  unfold Ring.sweep
  split
  · rfl
  · obtain ⟨_, _, _, d, _, _⟩ := r
    obtain rfl : d = [] := List.eq_nil_of_length_eq_zero (Nat.eq_zero_of_not_pos ‹_›)
    simp
    exact ⟨(List.filter_eq_self.2 fun _ _ => rfl).symm, (List.filter_eq_self.2 fun _ _ => rfl).symm⟩

theorem inv_sweep (H : List Nat → Nat) {r : Ring V} (hi : Inv H r) : Inv H r.sweep := by
  rw [sweep_eq]
  have hk : keys (r.members.filter (fun kv => !(r.deleted.contains kv.1))) =
      (keys r.members).filter (fun k => !(r.deleted.contains k)) :=
    keys_filter_key r.members (fun k => !(r.deleted.contains k))
  refine ⟨?_, by simp, by simp, ?_, ?_, hi.pos⟩
  · show (keys (r.members.filter _)).Nodup
    rw [hk]; exact List.Pairwise.filter _ hi.nodupKeys
  · show (r.entries.filter _).Perm (vnodes H r.replicas (keys (r.members.filter _)))
    rw [hk, ← vnodes_filter]
    exact List.Perm.filter _ hi.perm
  · intro hs
    exact List.Pairwise.filter _ (hi.sorted hs)

theorem inv_sort (H : List Nat → Nat) {r : Ring V} (hi : Inv H r) :
    Inv H r.sort ∧ r.sort.sorted = true := by
  unfold Ring.sort
  cases hs : r.sorted
  · exact ⟨⟨hi.nodupKeys, hi.nodupDel, hi.delSub, (List.mergeSort_perm _ _).trans hi.perm,
      fun _ => mergeSort_sorted _, hi.pos⟩, rfl⟩
  · exact ⟨hi, hs⟩

theorem sort_deleted (r : Ring V) : r.sort.deleted = r.deleted := by unfold Ring.sort; split <;> rfl
theorem sort_replicas (r : Ring V) : r.sort.replicas = r.replicas := by unfold Ring.sort; split <;> rfl
theorem sort_probes (r : Ring V) : r.sort.probes = r.probes := by unfold Ring.sort; split <;> rfl

theorem sweep_deleted (r : Ring V) : r.sweep.deleted = [] := by rw [sweep_eq]
theorem sweep_replicas (r : Ring V) : r.sweep.replicas = r.replicas := by rw [sweep_eq]
theorem sweep_probes (r : Ring V) : r.sweep.probes = r.probes := by rw [sweep_eq]

theorem live_insert (H : List Nat → Nat) (r : Ring V) (k k' : Key) (v : V) :
    (r.insert H k v).live k' = if k' = k then some v else r.live k' := by
  unfold Ring.insert
  by_cases hd : k ∈ r.deleted
  · simp only [hd, if_true, Ring.live, List.mem_filter, mget_mset]
    by_cases hk : k' = k
    · subst hk; simp
    · have : ¬ k = k' := fun e => hk e.symm
      simp [hk, this]
  · simp only [hd, if_false]
    by_cases hk : k' = k
    · subst hk
      split <;> simp [Ring.live, hd, mget_mset]
    · have : ¬ k = k' := fun e => hk e.symm
      split <;> simp [Ring.live, mget_mset, this]

theorem live_remove (r : Ring V) (k k' : Key) :
    (r.remove k).live k' = if k' = k then none else r.live k' := by
  unfold Ring.remove
  split
  · rename_i hm
    split
    · subst k'; rw [Ring.live, Option.isNone_iff_eq_none.1 hm, ite_self]
    · rfl
  split
  · rename_i hd
    split
    · subst k'; exact if_pos hd
    · rfl
  · unfold Ring.live
    by_cases hk : k' = k <;> simp [hk]

theorem live_sweep (r : Ring V) (k : Key) : r.sweep.live k = r.live k := by
  rw [sweep_eq]
  simp only [Ring.live, List.not_mem_nil, if_false]
  rw [mget_filter_key r.members (fun k => !(r.deleted.contains k)) k]
  by_cases hd : k ∈ r.deleted <;> simp [hd]

theorem live_sort (r : Ring V) (k : Key) : r.sort.live k = r.live k := by
  unfold Ring.sort; split <;> rfl

theorem lookup_state (H : List Nat → Nat) (r : Ring V) (q : Key) :
    (r.lookup H q).1 = r ∨ (r.lookup H q).1 = r.sweep.sort := by
  unfold Ring.lookup
  split
  · exact Or.inl rfl
  · exact Or.inr rfl

theorem inv_step (H : List Nat → Nat) {r : Ring V} (hi : Inv H r) (op : Op V) :
    Inv H (r.step H op) := by
  cases op with
  | insert k v => exact inv_insert H hi k v
  | remove k => exact inv_remove H hi k
  | lookup q =>
    rcases lookup_state H r q with h | h
    · simp only [Ring.step, h]; exact hi
    · simp only [Ring.step, h]; exact (inv_sort H (inv_sweep H hi)).1

theorem live_lookup (H : List Nat → Nat) (r : Ring V) (q k : Key) :
    (r.lookup H q).1.live k = r.live k := by
  rcases lookup_state H r q with h | h
  · rw [h]
  · rw [h, live_sort, live_sweep]

theorem step_fields (H : List Nat → Nat) (r : Ring V) (op : Op V) :
    (r.step H op).replicas = r.replicas ∧ (r.step H op).probes = r.probes := by
  cases op with
  | insert k v =>
    rw [Ring.step, Ring.insert]
    split
    · exact ⟨rfl, rfl⟩
    · split <;> exact ⟨rfl, rfl⟩
  | remove k =>
    rw [Ring.step, Ring.remove]
    split
    · exact ⟨rfl, rfl⟩
    · split <;> exact ⟨rfl, rfl⟩
  | lookup q =>
    rcases lookup_state H r q with h | h
    · rw [Ring.step, h]; exact ⟨rfl, rfl⟩
    · rw [Ring.step, h]
      exact ⟨(sort_replicas _).trans (sweep_replicas r), (sort_probes _).trans (sweep_probes r)⟩

theorem inv_run (H : List Nat → Nat) (ops : List (Op V)) {r : Ring V} (hi : Inv H r) :
    Inv H (r.run H ops) ∧ (r.run H ops).replicas = r.replicas ∧ (r.run H ops).probes = r.probes :=
  List.foldlRecOn (motive := fun r' => Inv H r' ∧ r'.replicas = r.replicas ∧ r'.probes = r.probes) ops _
    ⟨hi, rfl, rfl⟩ fun r' h op _ =>
    ⟨inv_step H h.1 op, (step_fields H r' op).1.trans h.2.1, (step_fields H r' op).2.trans h.2.2⟩

def liveKeys (r : Ring V) : List Key := (keys r.members).filter (fun k => !(r.deleted.contains k))

theorem mem_liveKeys (r : Ring V) (k : Key) : k ∈ liveKeys r ↔ (r.live k).isSome = true := by
  simp only [liveKeys, List.mem_filter, Ring.live, Bool.not_eq_true', List.contains_eq_mem,
    decide_eq_false_iff_not]
  by_cases hd : k ∈ r.deleted
  · simp [hd]
  · simp [hd, mget_isSome_iff]

theorem len_eq (H : List Nat → Nat) {r : Ring V} (hi : Inv H r) :
    r.len = ((liveKeys r).length : Int) := by
  have hperm : ((keys r.members).filter (fun k => r.deleted.contains k)).Perm r.deleted := by
    rw [List.perm_ext_iff_of_nodup (List.Pairwise.filter _ hi.nodupKeys) hi.nodupDel]
    intro a
    simp only [List.mem_filter, List.contains_eq_mem, decide_eq_true_eq]
    exact ⟨fun h => h.2, fun h => ⟨hi.delSub a h, h⟩⟩
  have h1 := (List.filter_append_perm (fun k => r.deleted.contains k) (keys r.members)).length_eq
  rw [List.length_append] at h1
  have h2 := hperm.length_eq
  have h3 : (keys r.members).length = r.members.length := by simp [keys]
  unfold Ring.len liveKeys
  omega

theorem len_zero_iff (H : List Nat → Nat) {r : Ring V} (hi : Inv H r) :
    r.len = 0 ↔ ∀ k, r.live k = none := by
  rw [len_eq H hi, Int.natCast_eq_zero, List.length_eq_zero_iff, List.eq_nil_iff_forall_not_mem]
  exact forall_congr' fun k => by rw [mem_liveKeys]; cases r.live k <;> simp

/-- `n` is `r` as `Lookup` works on it after its sweep and sort. -/
structure Swept (H : List Nat → Nat) (r n : Ring V) : Prop where
  inv : Inv H n
  deleted : n.deleted = []
  sorted : n.sorted = true
  replicas : n.replicas = r.replicas
  probes : n.probes = r.probes
  live : ∀ k, n.live k = r.live k

theorem swept (H : List Nat → Nat) {r : Ring V} (hi : Inv H r) : Swept H r r.sweep.sort := by
  obtain ⟨h1, h2⟩ := inv_sort H (inv_sweep H hi)
  exact ⟨h1, (sort_deleted _).trans (sweep_deleted r), h2, (sort_replicas _).trans (sweep_replicas r),
    (sort_probes _).trans (sweep_probes r), fun k => by rw [live_sort, live_sweep]⟩

theorem Swept.mget {H : List Nat → Nat} {r n : Ring V} (s : Swept H r n) (k : Key) : mget n.members k = r.live k := by
  rw [← s.live k, Ring.live, s.deleted]; rfl

theorem canon (H : List Nat → Nat) {r1 r2 n1 n2 : Ring V} (s1 : Swept H r1 n1) (s2 : Swept H r2 n2)
    (hR : r1.replicas = r2.replicas) (hl : ∀ k, r1.live k = r2.live k) :
    n1.entries = n2.entries ∧ ∀ k, mget n1.members k = mget n2.members k := by
  have hm : ∀ k, mget n1.members k = mget n2.members k := fun k => by rw [s1.mget, s2.mget, hl]
  refine ⟨?_, hm⟩
  have hkeys : (keys n1.members).Perm (keys n2.members) := by
    rw [List.perm_ext_iff_of_nodup s1.inv.nodupKeys s2.inv.nodupKeys]
    intro a
    rw [← mget_isSome_iff, ← mget_isSome_iff, hm a]
  apply List.Perm.eq_of_pairwise (fun _ _ _ _ => Entry.le_antisymm) (s1.inv.sorted s1.sorted) (s2.inv.sorted s2.sorted)
  refine s1.inv.perm.trans (List.Perm.trans ?_ s2.inv.perm.symm)
  rw [s1.replicas, s2.replicas, hR]
  exact List.Perm.flatMap_right _ hkeys

theorem searchIdx_le (E : List Entry) (p : Nat) : searchIdx E p ≤ E.length := by
  induction E with
  | nil => simp [searchIdx]
  | cons e rest ih =>
    simp only [searchIdx, List.length_cons]
    split <;> omega

theorem probeStep_ok (H : List Nat → Nat) {E : List Entry} (q : Key) (d i j : Nat) (hi : i < E.length) :
    ∃ d' i', probeStep H E q (some (d, i)) j = some (d', i') ∧ i' < E.length := by
  have hle := searchIdx_le E (saltedHash H q j)
  have hidx : (if searchIdx E (saltedHash H q j) = E.length then 0 else searchIdx E (saltedHash H q j))
      < E.length := by
    split
    · exact Nat.zero_lt_of_lt hi
    · exact Nat.lt_of_le_of_ne hle ‹_›
  simp only [probeStep]
  generalize (if searchIdx E (saltedHash H q j) = E.length then 0
    else searchIdx E (saltedHash H q j)) = idx at hidx ⊢
  rw [List.getElem?_eq_getElem hidx]
  by_cases hlt : (E[idx].hash + 2 ^ 64 - saltedHash H q j) % 2 ^ 64 < d
  · exact ⟨_, idx, if_pos hlt, hidx⟩
  · exact ⟨d, i, if_neg hlt, hi⟩

theorem fold_ok (H : List Nat → Nat) {E : List Entry} (q : Key) (js : List Nat) (d i : Nat) (hi : i < E.length) :
    ∃ d' i', js.foldl (probeStep H E q) (some (d, i)) = some (d', i') ∧ i' < E.length :=
  List.foldlRecOn (motive := fun st => ∃ d' i', st = some (d', i') ∧ i' < E.length) js _ ⟨d, i, rfl, hi⟩
    fun _ ⟨d1, i1, e, h1⟩ j _ => e ▸ probeStep_ok H q d1 i1 j h1

theorem lookup_eq (H : List Nat → Nat) (r : Ring V) (q : Key) :
    (r.lookup H q).2 = if r.len = 0 then Res.absent else
      lookupRes H r.sweep.sort.entries r.sweep.sort.probes (mget r.sweep.sort.members) q := by
  unfold Ring.lookup
  by_cases h : r.len = 0 <;> simp [h]

theorem lookupRes_owner (H : List Nat → Nat) {E : List Entry} (hE : E ≠ []) (P : Nat)
    (mg : Key → Option V) (q : Key) : ∃ e ∈ E, lookupRes H E P mg q = .owner (mg e.key) := by
  have hpos : 0 < E.length := List.length_pos_iff.2 hE
  obtain ⟨d, i, hf, hi⟩ := fold_ok H q (List.range P) (2 ^ 64 - 1) 0 hpos
  refine ⟨E[i], List.getElem_mem hi, ?_⟩
  simp only [lookupRes, hf, List.getElem?_eq_getElem hi]

theorem lookupRes_ne_absent (H : List Nat → Nat) (E : List Entry) (P : Nat) (mg : Key → Option V)
    (q : Key) : lookupRes H E P mg q ≠ .absent := by
  unfold lookupRes
  split
  · simp
  · split <;> simp

/-- `.owner`, not `.panic`: `Lookup` does not index out of range. -/
theorem lookup_owner (H : List Nat → Nat) {r : Ring V} (hi : Inv H r) (hz : r.len ≠ 0) (q : Key) :
    ∃ k v, r.live k = some v ∧ (r.lookup H q).2 = .owner (some v) := by
  have s := swept H hi
  -- some member is live, so the swept entry table is not empty
  have hne : r.sweep.sort.entries ≠ [] := by
    intro hnil
    refine hz ((len_zero_iff H hi).2 fun k => ?_)
    rw [← s.mget, mget_none_iff]
    intro hk
    exact vnodes_ne_nil s.inv.pos.1 (List.ne_nil_of_mem hk) (hnil ▸ s.inv.perm).symm.eq_nil
  obtain ⟨e, he, hres⟩ := lookupRes_owner H hne r.sweep.sort.probes (mget r.sweep.sort.members) q
  obtain ⟨v, hv⟩ := Option.isSome_iff_exists.1
    ((mget_isSome_iff _ _).2 (mem_vnodes (s.inv.perm.mem_iff.1 he)))
  exact ⟨e.key, v, by rw [← s.mget, hv], by rw [lookup_eq, if_neg hz, hres, hv]⟩

theorem lookup_canonical (H : List Nat → Nat) {r1 r2 : Ring V} (hi1 : Inv H r1) (hi2 : Inv H r2)
    (hR : r1.replicas = r2.replicas) (hP : r1.probes = r2.probes) (hl : ∀ k, r1.live k = r2.live k)
    (q : Key) : (r1.lookup H q).2 = (r2.lookup H q).2 := by
  rw [lookup_eq, lookup_eq]
  have hz : r1.len = 0 ↔ r2.len = 0 := by
    rw [len_zero_iff H hi1, len_zero_iff H hi2]
    exact forall_congr' fun k => by rw [hl]
  by_cases h1 : r1.len = 0
  · rw [if_pos h1, if_pos (hz.1 h1)]
  · rw [if_neg h1, if_neg (mt hz.2 h1)]
    have s1 := swept H hi1
    have s2 := swept H hi2
    obtain ⟨hE, hmg⟩ := canon H s1 s2 hR hl
    rw [hE, s1.probes, s2.probes, hP, funext hmg]

theorem foldl_insertAll (kvs : List (Key × V)) (hn : (keys kvs).Nodup) (m : Key → Option V) (k : Key) :
    (insertAll kvs).foldl Op.apply m k = (mget kvs k).or (m k) := by
  induction kvs generalizing m with
  | nil => rfl
  | cons kv rest ih =>
    obtain ⟨hk0, hn⟩ := List.nodup_cons.1 hn
    rw [insertAll, List.map_cons, List.foldl_cons, ← insertAll, ih hn, mget, Op.apply]
    show (mget rest k).or (if k = kv.1 then some kv.2 else m k) = _
    by_cases e : kv.1 = k
    · rw [if_pos e, if_pos e.symm, (mget_none_iff rest k).2 (e ▸ hk0)]; rfl
    · rw [if_neg e, if_neg (Ne.symm e)]

theorem live_step (H : List Nat → Nat) (r : Ring V) (op : Op V) :
    (r.step H op).live = Op.apply r.live op := by
  funext k
  cases op with
  | insert k0 v => simp only [Ring.step, Op.apply, live_insert]
  | remove k0 => simp only [Ring.step, Op.apply, live_remove]
  | lookup q => simp only [Ring.step, Op.apply, live_lookup]

theorem live_run (H : List Nat → Nat) (ops : List (Op V)) (r : Ring V) :
    (r.run H ops).live = ops.foldl Op.apply r.live :=
  (List.foldl_hom Ring.live fun r op => (live_step H r op).symm).symm

theorem inv_of_new (H : List Nat → Nat) {R P : Int} {r0 : Ring V} (h0 : Ring.new R P = some r0)
    (ops : List (Op V)) :
    Inv H (r0.run H ops) ∧ (r0.run H ops).replicas = r0.replicas ∧ (r0.run H ops).probes = r0.probes :=
  inv_run H ops (inv_new H h0)

theorem live_eq_memberMap (H : List Nat → Nat) {R P : Int} {r0 : Ring V}
    (h0 : Ring.new R P = some r0) (ops : List (Op V)) (k : Key) :
    (r0.run H ops).live k = memberMap ops k := by
  rw [live_run]
  have : r0.live = fun _ => none := funext (live_new h0)
  rw [this]; rfl

theorem memberMap_append (a b : List (Op V)) :
    memberMap (a ++ b) = b.foldl Op.apply (memberMap a) :=
  List.foldl_append

theorem foldl_lookups (qs : List Key) (m : Key → Option V) : (qs.map Op.lookup).foldl Op.apply m = m := by
  induction qs with
  | nil => rfl
  | cons a l ih => exact ih

end CalicoVerif.C45
