import CalicoVerif.Model.C35
import CalicoVerif.Proofs.CoreFacts
/-!
C35: allocation is expressed over the list of positions that are still free (`Mgr.rem`:
`(positions mask).drop numBitsAllocated`).  `m.Took m' k` says that `m'` is `m` after the first `k` of them were handed
out (fewer if not enough were left); one call, a block and a history are `Took`s composed by `Took.trans`, and the
events of a history are `specRun m.rem ops` (`run_spec`).  The two number ↔ mark loops are read over the quotient
`number / 2^i` (`markOf`, `numOf`).
-/
namespace CalicoVerif.C35

theorem mem_positionsBelow {mask w p : Nat} :
    p ∈ positionsBelow mask w ↔ p < w ∧ mask.testBit p = true := by
  induction w with
  | zero => simp [positionsBelow]
  | succ w ih =>
    rw [positionsBelow, List.mem_append, ih, Nat.lt_succ_iff_lt_or_eq, or_and_right]
    refine or_congr Iff.rfl ?_
    split
    · rename_i h
      rw [List.mem_singleton]
      exact ⟨fun e => ⟨e, e ▸ h⟩, And.left⟩
    · rename_i h
      exact ⟨nofun, fun ⟨e, hp⟩ => absurd (e ▸ hp) h⟩

theorem mem_positions {mask p : Nat} : p ∈ positions mask ↔ p < 32 ∧ mask.testBit p = true :=
  mem_positionsBelow

theorem positionsBelow_sorted (mask w : Nat) : (positionsBelow mask w).Pairwise (· < ·) := by
  induction w with
  | zero => simp [positionsBelow]
  | succ w ih =>
    simp only [positionsBelow]
    rw [List.pairwise_append]
    refine ⟨ih, ?_, ?_⟩
    · split <;> simp
    · intro a ha b hb
      have h1 := (mem_positionsBelow.1 ha).1
      split at hb
      · simp at hb; omega
      · simp at hb

theorem positions_sorted (mask : Nat) : (positions mask).Pairwise (· < ·) :=
  positionsBelow_sorted mask 32

theorem positionsBelow_congr {a b w : Nat} (h : ∀ p, p < w → a.testBit p = b.testBit p) :
    positionsBelow a w = positionsBelow b w := by
  induction w with
  | zero => rfl
  | succ w ih =>
    simp only [positionsBelow]
    rw [ih (fun p hp => h p (by omega)), h w (by omega)]

theorem positions_mod (mask : Nat) : positions (mask % 2 ^ 32) = positions mask := by
  apply positionsBelow_congr
  intro p hp
  rw [Nat.testBit_mod_two_pow]
  simp [hp]

theorem popcount_mod (mask : Nat) : popcount (mask % 2 ^ 32) = popcount mask :=
  congrArg List.length (positions_mod mask)

theorem popcount_le (mask : Nat) : popcount mask ≤ 32 := by
  have : ∀ w, (positionsBelow mask w).length ≤ w := by
    intro w
    induction w with
    | zero => simp [positionsBelow]
    | succ w ih =>
      simp only [positionsBelow, List.length_append]
      split <;> simp <;> omega
  exact this 32

theorem testBit_orBits (L : List Nat) (x : Nat) : (orBits L).testBit x = decide (x ∈ L) := by
  induction L with
  | nil => simp [orBits]
  | cons p ps ih =>
    simp only [orBits, Nat.testBit_or, Nat.testBit_two_pow, ih, List.mem_cons]
    by_cases h : p = x
    · subst h; simp
    · have : ¬ x = p := fun e => h e.symm
      simp [h, this]

theorem positions_orBits {L : List Nat} (hs : L.Pairwise (· < ·)) (hb : ∀ x ∈ L, x < 32) :
    positions (orBits L) = L := by
  apply pairwise_ext (fun _ _ h h' => Nat.lt_asymm h h') (positions_sorted _) hs
  intro x
  rw [mem_positions, testBit_orBits]
  constructor
  · rintro ⟨_, h⟩; simpa using h
  · intro h; exact ⟨hb x h, by simpa using h⟩

theorem orBits_append (L1 L2 : List Nat) : orBits (L1 ++ L2) = orBits L1 ||| orBits L2 := by
  induction L1 with
  | nil => simp [orBits]
  | cons p ps ih => simp [orBits, ih, Nat.or_assoc]

/-- The Go test `mark & mask == mark`. -/
theorem and_eq_left_iff {a m : Nat} : a &&& m = a ↔ ∀ i, a.testBit i = true → m.testBit i = true := by
  constructor
  · intro h i hi
    have := congrArg (·.testBit i) h
    simpa [hi] using this
  · intro h
    apply Nat.eq_of_testBit_eq
    intro i
    rw [Nat.testBit_and]
    cases hi : a.testBit i
    · rfl
    · rw [h i hi]; rfl

theorem orBits_disjoint {L1 L2 : List Nat} (h : ∀ x ∈ L1, x ∉ L2) : orBits L1 &&& orBits L2 = 0 := by
  apply Nat.eq_of_testBit_eq
  intro i
  rw [Nat.testBit_and, testBit_orBits, testBit_orBits, Nat.zero_testBit]
  by_cases hi : i ∈ L1
  · simp [hi, h i hi]
  · simp [hi]


/-- The positions of the mask not handed out yet; every allocation takes a prefix of this list. -/
def Mgr.rem (m : Mgr) : List Nat := (positions m.mask).drop m.numBitsAllocated

def Mgr.WF (m : Mgr) : Prop := m.numBitsAllocated + m.numFreeBits = popcount m.mask

theorem Mgr.new_mask (mask : Nat) : (Mgr.new mask).mask = mask % 2 ^ 32 := rfl

theorem Mgr.new_rem (mask : Nat) : (Mgr.new mask).rem = positions mask := by
  simp [Mgr.rem, Mgr.new, positions_mod]

theorem Mgr.new_WF (mask : Nat) : (Mgr.new mask).WF := by
  simp [Mgr.WF, Mgr.new, popcount]

theorem rem_length (m : Mgr) (h : m.WF) : m.rem.length = m.numFreeBits := by
  unfold Mgr.WF popcount at h
  simp only [Mgr.rem, List.length_drop]
  omega

theorem nextSingle_nil {m : Mgr} (h : m.rem = []) : m.nextSingle = (m, none) := by
  have : (positions m.mask)[m.numBitsAllocated]? = none := by
    rw [← List.head?_drop]; simp [Mgr.rem] at h; simp [h]
  simp [Mgr.nextSingle, nthMark, this]

/-- State after a successful `NextSingleBitMark`. -/
def Mgr.succ (m : Mgr) : Mgr :=
  { m with numFreeBits := m.numFreeBits - 1, numBitsAllocated := m.numBitsAllocated + 1 }

theorem Mgr.succ_mask (m : Mgr) : m.succ.mask = m.mask := rfl
theorem Mgr.succ_alloc (m : Mgr) : m.succ.numBitsAllocated = m.numBitsAllocated + 1 := rfl
theorem Mgr.succ_free (m : Mgr) : m.succ.numFreeBits = m.numFreeBits - 1 := rfl

theorem nextSingle_cons {m : Mgr} {p : Nat} {rest : List Nat} (h : m.rem = p :: rest) :
    m.nextSingle = (m.succ, some (2 ^ p)) := by
  have : (positions m.mask)[m.numBitsAllocated]? = some p := by
    rw [← List.head?_drop]; unfold Mgr.rem at h; rw [h]; rfl
  simp [Mgr.nextSingle, nthMark, this, Mgr.succ]

theorem rem_succ {m : Mgr} {p : Nat} {rest : List Nat} (h : m.rem = p :: rest) :
    m.succ.rem = rest := by
  unfold Mgr.rem at h ⊢
  rw [Mgr.succ_mask, Mgr.succ_alloc, ← List.drop_drop, h]; rfl

theorem succ_WF {m : Mgr} {p : Nat} {rest : List Nat} (h : m.WF) (hr : m.rem = p :: rest) :
    m.succ.WF := by
  have hlen := rem_length m h
  rw [hr] at hlen
  simp only [List.length_cons] at hlen
  unfold Mgr.WF at h ⊢
  rw [Mgr.succ_mask, Mgr.succ_alloc, Mgr.succ_free]
  omega

structure Mgr.Took (m m' : Mgr) (k : Nat) : Prop where
  wf : m'.WF
  mask : m'.mask = m.mask
  rem : m'.rem = m.rem.drop k
  alloc : m'.numBitsAllocated = m.numBitsAllocated + (m.rem.take k).length

theorem min_add_min_sub (a b n : Nat) : min a n + min b (n - a) = min (a + b) n := by
  rcases Nat.le_total a n with h | h
  · rw [Nat.min_eq_left h, ← Nat.add_min_add_left, Nat.add_sub_cancel' h]
  · rw [Nat.min_eq_right h, Nat.sub_eq_zero_of_le h, Nat.min_zero, Nat.add_zero,
      Nat.min_eq_right (Nat.le_trans h (Nat.le_add_right ..))]

theorem Mgr.Took.refl {m : Mgr} (h : m.WF) : m.Took m 0 := ⟨h, rfl, rfl, rfl⟩

theorem Mgr.Took.trans {m m1 m2 : Mgr} {a b : Nat} (h1 : m.Took m1 a) (h2 : m1.Took m2 b) : m.Took m2 (a + b) where
  wf := h2.wf
  mask := h2.mask.trans h1.mask
  rem := by rw [h2.rem, h1.rem, List.drop_drop]
  alloc := by
    rw [h2.alloc, h1.alloc, h1.rem, Nat.add_assoc, List.length_take, List.length_take, List.length_take,
      List.length_drop, min_add_min_sub]

theorem Mgr.Took.nil {m : Mgr} (h : m.WF) (hr : m.rem = []) (k : Nat) : m.Took m k :=
  ⟨h, rfl, by rw [hr, List.drop_nil], by rw [hr, List.take_nil]; rfl⟩

theorem Mgr.Took.succ {m : Mgr} {p : Nat} {rest : List Nat} (h : m.WF) (hr : m.rem = p :: rest) : m.Took m.succ 1 :=
  ⟨succ_WF h hr, rfl, by rw [rem_succ hr, hr]; rfl, by rw [Mgr.succ_alloc, hr]; rfl⟩

theorem nextBlock_spec : ∀ (size : Nat) (m : Mgr) (mark alloc : Nat), m.WF →
    ∃ m', m.nextBlock size mark alloc =
        (m', mark ||| orBits (m.rem.take size), alloc + (m.rem.take size).length) ∧ m.Took m' size
  | 0, m, mark, alloc, h => ⟨m, by simp [Mgr.nextBlock, orBits], .refl h⟩
  | size + 1, m, mark, alloc, h => by
    cases hr : m.rem with
    | nil => exact ⟨m, by simp [Mgr.nextBlock, nextSingle_nil hr, orBits], Mgr.Took.nil h hr _⟩
    | cons p rest =>
      obtain ⟨m', e, t⟩ := nextBlock_spec size m.succ (mark ||| 2 ^ p) (alloc + 1) (succ_WF h hr)
      rw [rem_succ hr] at e
      refine ⟨m', ?_, Nat.add_comm 1 size ▸ (Mgr.Took.succ h hr).trans t⟩
      simp only [Mgr.nextBlock, nextSingle_cons hr]
      rw [e]
      simp only [List.take_succ_cons, orBits, List.length_cons, Nat.or_assoc]
      congr 2
      omega

def AllocOp.size : AllocOp → Nat
  | .single => 1
  | .block k => k

/-- The event an operation produces when it is given the positions `t`. -/
def evOf : AllocOp → List Nat → Event
  | .single, t => .single (t.head?.map (2 ^ ·))
  | .block k, t => .block k (orBits t) t.length

/-- Specification of an allocation history: every operation takes the first
`size` free positions (fewer if not enough are left). -/
def specRun (rem : List Nat) : List AllocOp → List Event
  | [] => []
  | op :: ops => evOf op (rem.take op.size) :: specRun (rem.drop op.size) ops

theorem step_spec (m : Mgr) (op : AllocOp) (h : m.WF) :
    (m.step op).2 = evOf op (m.rem.take op.size) ∧ m.Took (m.step op).1 op.size := by
  cases op with
  | single =>
    cases hr : m.rem with
    | nil =>
      simp only [Mgr.step, nextSingle_nil hr, evOf, AllocOp.size]
      exact ⟨by simp, Mgr.Took.nil h hr _⟩
    | cons p rest =>
      simp only [Mgr.step, nextSingle_cons hr, evOf, AllocOp.size]
      exact ⟨by simp, Mgr.Took.succ h hr⟩
  | block k =>
    obtain ⟨m', e, t⟩ := nextBlock_spec k m 0 0 h
    simp only [Mgr.step, e, evOf, AllocOp.size]
    exact ⟨by simp, t⟩

theorem evOf_count (op : AllocOp) (rem : List Nat) :
    (evOf op (rem.take op.size)).count = (rem.take op.size).length := by
  cases op with
  | single => cases rem <;> simp [evOf, AllocOp.size, Event.count]
  | block k => simp [evOf, Event.count]

theorem evOf_mark (op : AllocOp) (rem : List Nat) :
    (evOf op (rem.take op.size)).mark = orBits (rem.take op.size) := by
  cases op with
  | single => cases rem <;> simp [evOf, AllocOp.size, Event.mark, orBits]
  | block k => simp [evOf, Event.mark]

theorem run_spec : ∀ (ops : List AllocOp) (m : Mgr), m.WF →
    (m.run ops).2 = specRun m.rem ops ∧ m.Took (m.run ops).1 (ops.map AllocOp.size).sum
  | [], m, h => ⟨rfl, .refl h⟩
  | op :: ops, m, h => by
    obtain ⟨he, t⟩ := step_spec m op h
    obtain ⟨ie, it⟩ := run_spec ops (m.step op).1 t.wf
    refine ⟨?_, by rw [List.map_cons, List.sum_cons]; exact t.trans it⟩
    simp only [Mgr.run, specRun]; rw [ie, he, t.rem]

theorem specRun_count_sum : ∀ (ops : List AllocOp) (rem : List Nat),
    ((specRun rem ops).map Event.count).sum = min (ops.map AllocOp.size).sum rem.length
  | [], rem => by simp [specRun]
  | op :: ops, rem => by
    simp only [specRun, List.map_cons, List.sum_cons, evOf_count, specRun_count_sum ops,
      List.length_take, List.length_drop]
    exact min_add_min_sub ..

theorem mem_specRun : ∀ (ops : List AllocOp) (rem : List Nat) {e : Event}, e ∈ specRun rem ops →
    ∃ op t, t.Sublist rem ∧ e = evOf op t ∧ e.mark = orBits t
  | op :: ops, rem, e, he => by
    rcases List.mem_cons.1 he with rfl | he
    · exact ⟨op, _, List.take_sublist _ _, rfl, evOf_mark op rem⟩
    · obtain ⟨op', t, ht, hm⟩ := mem_specRun ops _ he
      exact ⟨op', t, ht.trans (List.drop_sublist _ _), hm⟩

theorem specRun_disjoint : ∀ (ops : List AllocOp) (rem : List Nat), rem.Pairwise (· < ·) →
    (specRun rem ops).Pairwise (fun e1 e2 => e1.mark &&& e2.mark = 0)
  | [], _, _ => List.Pairwise.nil
  | op :: ops, rem, hs => by
    rw [← List.take_append_drop op.size rem, List.pairwise_append] at hs
    refine List.pairwise_cons.2 ⟨fun e he => ?_, specRun_disjoint ops _ hs.2.1⟩
    -- a later event takes its positions from what the first one left
    obtain ⟨_, t, ht, _, hm⟩ := mem_specRun ops _ he
    rw [evOf_mark, hm]
    refine orBits_disjoint fun x hx hxt => ?_
    have := hs.2.2 x hx x (ht.subset hxt)
    omega

/-- The mark `MapNumberToMark` builds from the quotient `q = number / 2^i`:
bit `j` of `q` selects position `ps[j]`. -/
def markOf : List Nat → Nat → Nat
  | [], _ => 0
  | p :: ps, q => (if q % 2 = 1 then 2 ^ p else 0) ||| markOf ps (q / 2)

/-- The number `MapMarkToNumber` builds: bit `j` is set iff `mark` has bit `ps[j]`. -/
def numOf (mark : Nat) : List Nat → Nat
  | [] => 0
  | p :: ps => (if mark.testBit p then 1 else 0) + 2 * numOf mark ps

theorem numToMarkLoop_eq : ∀ (ps : List Nat) (i q mark : Nat),
    numToMarkLoop ps i (2 ^ i * q) mark =
      (2 ^ (i + ps.length) * (q / 2 ^ ps.length), mark ||| markOf ps q)
  | [], i, q, mark => by simp [numToMarkLoop, markOf]
  | p :: ps, i, q, mark => by
    have htb : (2 ^ i * q).testBit i = decide (q % 2 = 1) := by
      rw [Nat.testBit_two_pow_mul]; simp [Nat.testBit_zero]
    have hdiv : q / 2 / 2 ^ ps.length = q / 2 ^ (ps.length + 1) := by
      rw [Nat.div_div_eq_div_mul, Nat.pow_succ, Nat.mul_comm]
    have hexp : i + 1 + ps.length = i + (ps.length + 1) := by omega
    simp only [numToMarkLoop, and_two_pow, htb, List.length_cons]
    by_cases hq : q % 2 = 1
    · have hpos : 2 ^ i > 0 := Nat.pow_pos (by omega)
      have hnum : 2 ^ i * q - 2 ^ i = 2 ^ (i + 1) * (q / 2) := by
        have h2 : q = 2 * (q / 2) + 1 := by rw [← hq]; exact (Nat.div_add_mod q 2).symm
        have : 2 ^ i * q = 2 ^ (i + 1) * (q / 2) + 2 ^ i := by
          rw [Nat.pow_succ, Nat.mul_assoc, ← Nat.mul_succ]; congr 1
        omega
      simp only [hq, decide_true, if_true, hpos, hnum]
      rw [numToMarkLoop_eq ps (i + 1) (q / 2), hdiv, hexp]
      simp [markOf, hq, Nat.or_assoc]
    · have hnum : 2 ^ i * q = 2 ^ (i + 1) * (q / 2) := by
        have h2 : q = 2 * (q / 2) := by omega
        rw [Nat.pow_succ, Nat.mul_assoc]; congr 1
      simp only [hq, decide_false, Bool.false_eq_true, if_false, Nat.lt_irrefl]
      rw [hnum, numToMarkLoop_eq ps (i + 1) (q / 2), hdiv, hexp]
      simp [markOf, hq]

theorem mapNumberToMark_eq (mask : Nat) (n : Int) :
    mapNumberToMark mask n =
      if (n % (2 ^ 32 : Int)).toNat < 2 ^ popcount mask
      then some (markOf (positions mask) (n % (2 ^ 32 : Int)).toNat) else none := by
  simp only [mapNumberToMark, W, popcount]
  generalize (n % (2 ^ 32 : Int)).toNat = q
  have h := numToMarkLoop_eq (positions mask) 0 q 0
  simp only [Nat.pow_zero, Nat.one_mul, Nat.zero_add, Nat.zero_or] at h
  rw [h]
  have hp : 0 < 2 ^ (positions mask).length := Nat.pow_pos (by omega)
  by_cases hlt : q < 2 ^ (positions mask).length
  · simp [hlt, Nat.div_eq_of_lt hlt]
  · have h1 : 0 < q / 2 ^ (positions mask).length := Nat.div_pos (by omega) hp
    have h2 : 0 < 2 ^ (positions mask).length * (q / 2 ^ (positions mask).length) :=
      Nat.mul_pos hp h1
    simp [hlt, h2]

theorem testBit_markOf_mem : ∀ (ps : List Nat) (q x : Nat), (markOf ps q).testBit x = true → x ∈ ps
  | [], q, x, h => by simp [markOf] at h
  | p :: ps, q, x, h => by
    simp only [markOf, Nat.testBit_or, Bool.or_eq_true] at h
    rcases h with h | h
    · split at h
      · rw [Nat.testBit_two_pow] at h; simp at h; simp [h]
      · simp at h
    · exact List.mem_cons_of_mem _ (testBit_markOf_mem ps _ x h)

theorem markToNumLoop_eq (mark : Nat) : ∀ (ps : List Nat) (i num : Nat),
    markToNumLoop mark ps i num = num + 2 ^ i * numOf mark ps
  | [], i, num => by simp [markToNumLoop, numOf]
  | p :: ps, i, num => by
    simp only [markToNumLoop, numOf]
    split
    · rw [markToNumLoop_eq mark ps, Nat.mul_add, Nat.pow_succ]
      simp only [Nat.mul_one, Nat.mul_assoc, Nat.add_assoc]
    · rw [markToNumLoop_eq mark ps, Nat.pow_succ]
      simp only [Nat.mul_assoc, Nat.zero_add]

theorem mapMarkToNumber_eq (mask mark : Nat) :
    mapMarkToNumber mask mark = if mark &&& mask = mark then some (numOf mark (positions mask)) else none := by
  unfold mapMarkToNumber
  by_cases h : mark &&& mask = mark
  · rw [if_neg (not_not_intro h), if_pos h, markToNumLoop_eq, Nat.pow_zero, Nat.one_mul, Nat.zero_add]
  · rw [if_pos h, if_neg h]

theorem markOf_positions_and (mask q : Nat) : markOf (positions mask) q &&& mask = markOf (positions mask) q :=
  and_eq_left_iff.2 fun x hx => (mem_positions.1 (testBit_markOf_mem _ _ x hx)).2

theorem numOf_congr {a b : Nat} : ∀ {ps : List Nat}, (∀ x ∈ ps, a.testBit x = b.testBit x) →
    numOf a ps = numOf b ps
  | [], _ => rfl
  | p :: ps, h => by
    simp only [numOf]
    rw [h p (by simp), numOf_congr (fun x hx => h x (by simp [hx]))]

theorem numOf_lt (mark : Nat) : ∀ (ps : List Nat), numOf mark ps < 2 ^ ps.length
  | [] => by simp [numOf]
  | p :: ps => by
    have := numOf_lt mark ps
    simp only [numOf, List.length_cons, Nat.pow_succ]
    split <;> omega

theorem numOf_markOf : ∀ (ps : List Nat) (q : Nat), ps.Pairwise (· < ·) →
    numOf (markOf ps q) ps = q % 2 ^ ps.length
  | [], q, _ => by simp [numOf, Nat.mod_one]
  | p :: ps, q, hs => by
    rw [List.pairwise_cons] at hs
    have hp : (markOf ps (q / 2)).testBit p = false := by
      cases hb : (markOf ps (q / 2)).testBit p with
      | false => rfl
      | true => have := hs.1 p (testBit_markOf_mem ps _ p hb); omega
    have hcong : numOf (markOf (p :: ps) q) ps = numOf (markOf ps (q / 2)) ps := by
      apply numOf_congr
      intro x hx
      have : p ≠ x := by have := hs.1 x hx; omega
      simp only [markOf, Nat.testBit_or]
      split <;> simp [this]
    have hbit : (markOf (p :: ps) q).testBit p = decide (q % 2 = 1) := by
      simp only [markOf, Nat.testBit_or, hp, Bool.or_false]
      split <;> simp [*]
    simp only [numOf, hcong, hbit, numOf_markOf ps (q / 2) hs.2, List.length_cons]
    have hmod : q % 2 ^ (ps.length + 1) = q % 2 + 2 * (q / 2 % 2 ^ ps.length) := by
      rw [Nat.pow_succ, Nat.mul_comm, Nat.mod_mul]
    rw [hmod]
    by_cases hq : q % 2 = 1
    · simp [hq]
    · have : q % 2 = 0 := by omega
      simp [this]

theorem testBit_markOf_numOf (mark : Nat) : ∀ (ps : List Nat) (x : Nat),
    (markOf ps (numOf mark ps)).testBit x = (decide (x ∈ ps) && mark.testBit x)
  | [], x => by simp [markOf]
  | p :: ps, x => by
    have ih := testBit_markOf_numOf mark ps x
    by_cases hxp : x = p
    · subst hxp
      cases hb : mark.testBit x <;>
        simp [markOf, numOf, hb, ih, Nat.add_mul_div_left, Nat.add_mul_mod_self_left]
    · have : ¬ p = x := fun e => hxp e.symm
      cases hb : mark.testBit p <;>
        simp [markOf, numOf, hb, ih, hxp, this, Nat.add_mul_div_left, Nat.add_mul_mod_self_left]

end CalicoVerif.C35
