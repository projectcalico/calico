import CalicoVerif.Model.C37Ident
/-! C37: the identity strings.  A separator byte that occurs in no field splits a string uniquely (`split_unique`);
from it the injectivity of each format (`policyString_injective`, `policyID_injective`, `joinSep_injective`).  The
formats are those the translator found: `policyString_shape` and `kindShortTable_facts` are read by the format lemmas
here (`PolicyID.string` is built from the generated segments); `policyID_shape` and `groupWrite_shape` stand beside
them as tie theorems only (`PolicyID.id` is written by hand in the model; `groupWrite_shape` is read by
`Props.C37.group_prehash_injective`).  Core Lean only. -/
namespace CalicoVerif.C37

theorem split_unique (c : Nat) : ∀ {a a' r r' : Bytes}, c ∉ a → c ∉ a' →
    a ++ c :: r = a' ++ c :: r' → a = a' ∧ r = r'
  | [], [], _, _, _, _, h => by simpa using h
  | [], y :: a', _, _, _, h2, h => by
    simp only [List.nil_append, List.cons_append, List.cons.injEq] at h
    exact absurd (by simp [h.1]) h2
  | x :: a, [], _, _, h1, _, h => by
    simp only [List.nil_append, List.cons_append, List.cons.injEq] at h
    exact absurd (by simp [h.1]) h1
  | x :: a, y :: a', r, r', h1, h2, h => by
    simp only [List.cons_append, List.cons.injEq] at h
    have := split_unique c (a := a) (a' := a') (by intro m; exact h1 (by simp [m]))
      (by intro m; exact h2 (by simp [m])) h.2
    exact ⟨by rw [h.1, this.1], this.2⟩

/-- Characters allowed in names and namespaces by the v3 validation (DNS-1123
subdomain / label alphabet): `a-z`, `0-9`, `-`, `.`. -/
def dnsChar (c : Nat) : Prop := (97 ≤ c ∧ c ≤ 122) ∨ (48 ≤ c ∧ c ≤ 57) ∨ c = 45 ∨ c = 46

def validName (s : Bytes) : Prop := ∀ c ∈ s, dnsChar c

theorem validName_not_mem {s : Bytes} (h : validName s) {c : Nat}
    (hc : ¬ dnsChar c) : c ∉ s := fun m => hc (h c m)

theorem not_dns_10 : ¬ dnsChar 10 := by unfold dnsChar; omega
theorem not_dns_44 : ¬ dnsChar 44 := by unfold dnsChar; omega
theorem not_dns_47 : ¬ dnsChar 47 := by unfold dnsChar; omega

theorem PolicyID.ext' {p q : PolicyID} (hn : p.name = q.name) (hs : p.namespace_ = q.namespace_)
    (hk : p.kind = q.kind) : p = q := by
  cases p; cases q
  simp only [PolicyID.mk.injEq]
  exact ⟨hn, hs, hk⟩

/-- The format of `PolicyID.String()` as the translator found it: a change of
the format in the source makes this fail (broken tie). -/
theorem policyString_shape :
    Gen.policyStringSegments =
      [[123, 78, 97, 109, 101, 58, 32],                                            -- "{Name: "
       [44, 32, 78, 97, 109, 101, 115, 112, 97, 99, 101, 58, 32],                  -- ", Namespace: "
       [44, 32, 75, 105, 110, 100, 58, 32],                                        -- ", Kind: "
       [125]] ∧                                                                    -- "}"
    Gen.policyStringArgs = ["p.Name", "p.Namespace", "p.Kind"] := ⟨rfl, rfl⟩

theorem policyString_eq (p : PolicyID) :
    p.string = [123, 78, 97, 109, 101, 58, 32] ++ (p.name ++ 44 ::
      ([32, 78, 97, 109, 101, 115, 112, 97, 99, 101, 58, 32] ++ (p.namespace_ ++ 44 ::
        ([32, 75, 105, 110, 100, 58, 32] ++ (p.kind ++ [125]))))) := by
  simp [PolicyID.string, policyString_shape.1, sprintf]

theorem policyString_injective {p q : PolicyID}
    (hp : 44 ∉ p.name ∧ 44 ∉ p.namespace_) (hq : 44 ∉ q.name ∧ 44 ∉ q.namespace_)
    (h : p.string = q.string) : p = q := by
  rw [policyString_eq, policyString_eq] at h
  have h1 := List.append_cancel_left h
  obtain ⟨en, h2⟩ := split_unique 44 hp.1 hq.1 h1
  have h3 := List.append_cancel_left h2
  obtain ⟨ens, h4⟩ := split_unique 44 hp.2 hq.2 h3
  have h5 := List.append_cancel_left h4
  have ek := List.append_cancel_right h5
  exact PolicyID.ext' en ens ek

theorem policyString_no_newline {p : PolicyID}
    (h : 10 ∉ p.name ∧ 10 ∉ p.namespace_ ∧ 10 ∉ p.kind) : 10 ∉ p.string := by
  rw [policyString_eq]
  simp only [List.mem_append, List.mem_cons, not_or]
  simp [h.1, h.2.1, h.2.2]

theorem kindShortTable_facts :
    (∀ a ∈ Gen.kindShortTable, tableLookup Gen.kindShortTable a.1 = some a.2) ∧
    (∀ a ∈ Gen.kindShortTable, ∀ b ∈ Gen.kindShortTable, a.2 = b.2 → a.1 = b.1) ∧
    (∀ a ∈ Gen.kindShortTable, 47 ∉ a.2) := by decide +kernel

def knownKind (k : Bytes) : Prop := ∃ a ∈ Gen.kindShortTable, a.1 = k

theorem kindShortName_known {k : Bytes} (h : knownKind k) :
    ∃ a ∈ Gen.kindShortTable, a.1 = k ∧ kindShortName k = a.2 := by
  obtain ⟨a, ha, e⟩ := h
  refine ⟨a, ha, e, ?_⟩
  unfold kindShortName
  rw [← e, kindShortTable_facts.1 a ha]; rfl

theorem policyID_shape :
    Gen.policyIDShape = ["if-namespace-set", "%s/%s/%s <- p.KindShortName(),p.Namespace,p.Name",
      "%s/%s <- p.KindShortName(),p.Name"] := rfl

theorem policyID_injective {p q : PolicyID} (kp : knownKind p.kind) (kq : knownKind q.kind)
    (hp : 47 ∉ p.name ∧ 47 ∉ p.namespace_) (hq : 47 ∉ q.name ∧ 47 ∉ q.namespace_)
    (h : p.id = q.id) : p = q := by
  obtain ⟨a, ha, ea, sa⟩ := kindShortName_known kp
  obtain ⟨b, hb, eb, sb⟩ := kindShortName_known kq
  have na := kindShortTable_facts.2.2 a ha
  have nb := kindShortTable_facts.2.2 b hb
  have key : ∀ (r r' : Bytes), kindShortName p.kind ++ [47] ++ r = kindShortName q.kind ++ [47] ++ r' →
      p.kind = q.kind ∧ r = r' := by
    intro r r' e
    rw [sa, sb] at e
    simp only [List.append_assoc, List.singleton_append] at e
    obtain ⟨e1, e2⟩ := split_unique 47 na nb e
    exact ⟨by rw [← ea, ← eb, kindShortTable_facts.2.1 a ha b hb e1], e2⟩
  unfold PolicyID.id at h
  by_cases h1 : p.namespace_ = [] <;> by_cases h2 : q.namespace_ = []
  · simp only [h1, h2, ne_eq, not_true_eq_false, if_false] at h
    obtain ⟨ek, en⟩ := key _ _ h
    exact PolicyID.ext' en (h1.trans h2.symm) ek
  · simp only [h1, h2, ne_eq, not_true_eq_false, not_false_eq_true, if_true, if_false] at h
    have := (key p.name (q.namespace_ ++ [47] ++ q.name) (by simpa [List.append_assoc] using h)).2
    exact absurd (by rw [this]; simp) hp.1
  · simp only [h1, h2, ne_eq, not_true_eq_false, not_false_eq_true, if_true, if_false] at h
    have := (key (p.namespace_ ++ [47] ++ p.name) q.name (by simpa [List.append_assoc] using h)).2
    exact absurd (by rw [← this]; simp) hq.1
  · simp only [h1, h2, ne_eq, not_false_eq_true, if_true] at h
    obtain ⟨ek, er⟩ := key (p.namespace_ ++ [47] ++ p.name) (q.namespace_ ++ [47] ++ q.name)
      (by simpa [List.append_assoc] using h)
    simp only [List.append_assoc, List.singleton_append] at er
    obtain ⟨ens, en⟩ := split_unique 47 hp.2 hq.2 er
    exact PolicyID.ext' en ens ek

theorem natDigits_range (n : Nat) : ∀ d ∈ natDigits n, 48 ≤ d ∧ d ≤ 57 := by
  induction n using Nat.strongRecOn with
  | _ n ih =>
    intro d hd
    rw [natDigits] at hd
    split at hd
    · simp at hd; omega
    · rw [List.mem_append] at hd
      rcases hd with hd | hd
      · exact ih (n / 10) (by omega) d hd
      · simp at hd; omega

theorem groupWrite_shape :
    Gen.groupWrites = ["g.Selector", "fmt.Sprint(g.Direction)", "strconv.Itoa(len(g.Policies))",
      "<for policy in g.Policies>", "policy.String()"] ∧
    Gen.groupWriteSeparator = [10] ∧ Gen.groupHasher = "sha3.New224" ∧
    Gen.profileIDExpr = "p.Name" := ⟨rfl, rfl, rfl, rfl⟩

theorem joinSep_injective {c : Nat} : ∀ {xs ys : List Bytes}, (∀ x ∈ xs, c ∉ x) → (∀ y ∈ ys, c ∉ y) →
    joinSep [c] xs = joinSep [c] ys → xs = ys
  | [], [], _, _, _ => rfl
  | [], y :: ys, _, _, h => by simp [joinSep] at h
  | x :: xs, [], _, _, h => by simp [joinSep] at h
  | x :: xs, y :: ys, hx, hy, h => by
    simp only [joinSep, List.append_assoc, List.singleton_append] at h
    obtain ⟨e1, e2⟩ := split_unique c (hx x (by simp)) (hy y (by simp)) h
    rw [e1, joinSep_injective (fun a ha => hx a (by simp [ha])) (fun a ha => hy a (by simp [ha])) e2]

theorem map_string_injective : ∀ {ps qs : List PolicyID},
    (∀ p ∈ ps, 44 ∉ p.name ∧ 44 ∉ p.namespace_) → (∀ q ∈ qs, 44 ∉ q.name ∧ 44 ∉ q.namespace_) →
    ps.map PolicyID.string = qs.map PolicyID.string → ps = qs
  | [], [], _, _, _ => rfl
  | [], q :: qs, _, _, h => by simp at h
  | p :: ps, [], _, _, h => by simp at h
  | p :: ps, q :: qs, hp, hq, h => by
    simp only [List.map_cons, List.cons.injEq] at h
    rw [policyString_injective (hp p (by simp)) (hq q (by simp)) h.1,
      map_string_injective (fun a ha => hp a (by simp [ha])) (fun a ha => hq a (by simp [ha])) h.2]

end CalicoVerif.C37
