import CalicoVerif.Proofs.C01Graph
import CalicoVerif.Proofs.C05
/-! The two paths of the ActiveRulesCalculator inside the composed graph.  Policy path:
`policyIDToEndpointKeys` mirrors the label index's match set and C07's invariant holds along every history.  Profile
path: it is the C05 model run on the projection of the history, and the `.prof` half of the RuleScanner's `active`
table is that model's view of its own output log. -/
namespace CalicoVerif.C01
open CalicoVerif C02

/-- not C01Mirror's `Mirror`, which is about datastore tables -/
def Mirrors (g : Graph) (ms : C07.MS) : Prop := ∀ q, q ∈ g.polEps ↔ q ∈ ms

theorem foldl_onMatchEvent (H : IdFn) {ms ms' : C07.MS} {evs : List C07.Event} (hr : C07.Replay ms evs ms') :
    ∀ g : Graph, Mirrors g ms → Mirrors (evs.foldl (Graph.onMatchEvent H) g) ms' := by
  induction hr with
  | nil ms => intro g hm; exact hm
  | @start ms s i evs ms' hn _ ih =>
    intro g hm
    refine ih (g.onMatchEvent H (.started s i)) (fun q => ?_)
    rw [onMatchEvent_polEps, evWrite, mem_sadd, List.mem_cons, hm q]
  | @stop ms s i evs ms' hm' _ ih =>
    intro g hm
    refine ih (g.onMatchEvent H (.stopped s i)) (fun q => ?_)
    rw [onMatchEvent_polEps, evWrite, mem_sdel, hm q]; simp

structure ArcInv (g : Graph) : Prop where
  idx : C07.Inv g.lbl
  mirrors : Mirrors g g.lbl.matched

theorem arcInv_frame {g g' : Graph} (hi : ArcInv g) (h1 : g'.polEps = g.polEps) (h2 : g'.lbl = g.lbl) : ArcInv g' :=
  ⟨h2 ▸ hi.idx, by intro q; rw [h1, h2]; exact hi.mirrors q⟩

theorem arcInv_keep {g g' : Graph} (k : Keep g g') (hi : ArcInv g) : ArcInv g' := arcInv_frame hi k.polEps k.lbl

theorem arcInv_lblStep (H : IdFn) {g : Graph} (hi : ArcInv g) (op : C07.Op) :
    ArcInv (g.lblStep H (op.apply g.lbl)) := by
  have hl : (g.lblStep H (op.apply g.lbl)).lbl = (op.apply g.lbl).1 := (lblStep_up H g _).lbl
  refine ⟨hl ▸ C07.apply_inv hi.idx op, fun q => ?_⟩
  rw [hl]
  exact foldl_onMatchEvent H (C07.apply_replay hi.idx op) { g with lbl := (op.apply g.lbl).1 } hi.mirrors q

theorem arcInv_new (s : Bool) : ArcInv (Graph.new s) :=
  ⟨C07.inv_empty, by intro q; simp [Graph.new]⟩

theorem arcInv_act (H : IdFn) {g : Graph} (hi : ArcInv g) : ∀ a, ArcInv (g.act H a)
  | .regEp .. | .regPol .. | .setPol .. | .res _ | .panic => arcInv_frame hi rfl rfl
  | .prof u => arcInv_keep (keep_arcProfStep H g u) (arcInv_frame hi rfl rfl)
  | .lbl op => arcInv_lblStep H hi op
  | .resend n => arcInv_keep (keep_sendIf H _ g n) hi
  | .idx op => arcInv_keep (keep_idxOp g op) hi
  | .emit cs => arcInv_keep (keep_emit g cs) hi
  | .flushRes => arcInv_keep (keep_flushResolver g) (arcInv_frame hi rfl rfl)

theorem arcInv_run (H : IdFn) (h : List HStep) {g : Graph} (hi : ArcInv g) : ArcInv (run H g h).1 :=
  acts_run (P := ArcInv) (A := fun _ => True) (fun _ a _ hi => arcInv_act H hi a) (fun _ hi => arcInv_frame hi rfl rfl) h
    (fun _ _ _ _ _ => trivial) hi

theorem arcProf_arcProfStep (H : IdFn) (g : Graph) (u : C05.Upd RulesIn) :
    (g.arcProfStep H u).arcProf = C05.step g.arcProf u := (keep_arcProfStep H g u).arcProf

def profUpd : Upd → Option (C05.Upd RulesIn)
  | .endpoint _ key true v => some (.endpoint (epKeyStr key) (v.map (·.profiles)))
  | .profRules pid v => some (.profileRules pid v)
  | _ => none

def profAct (a : C05.Arc RulesIn) : Act → C05.Arc RulesIn
  | .prof u => C05.step a u
  | _ => a

theorem arcProf_act (H : IdFn) (g : Graph) : ∀ a : Act, (g.act H a).arcProf = profAct g.arcProf a
  | .regEp .. | .regPol .. | .setPol .. | .res _ | .panic => rfl
  | .prof u => arcProf_arcProfStep H g u
  | .lbl _ => (lblStep_up H g _).arcProf
  | .resend n => (keep_sendIf H _ g n).arcProf
  | .idx op => (keep_idxOp g op).arcProf
  | .emit cs => (keep_emit g cs).arcProf
  | .flushRes => (keep_flushResolver g).arcProf

theorem arcProf_step (H : IdFn) (g : Graph) (u : Upd) :
    (g.step H u).arcProf = match profUpd u with
      | some pu => C05.step g.arcProf pu
      | none => g.arcProf := by
  rw [step_eq, acts_proj _ _ (arcProf_act H), foldl_prog _ (fun _ _ => rfl) (fun _ _ => rfl)]
  cases u with
  | endpoint nid key l v => cases l <;> rfl
  | policy nid key v =>
    rw [foldl_upper_policy]
    show (polProg g nid v).foldl profAct g.arcProf = g.arcProf
    cases v with
    | none => rfl
    | some pv =>
      simp only [polProg]
      split
      · rfl
      · simp only [List.foldl_cons, profAct]; split <;> rfl
  | _ => rfl

def profUpds : List HStep → List (C05.Upd RulesIn)
  | [] => []
  | .upd u :: t => (match profUpd u with | some pu => [pu] | none => []) ++ profUpds t
  | _ :: t => profUpds t

theorem arcProf_flush (g : Graph) : g.flush.1.arcProf = g.arcProf := by
  rw [flush_eq]; exact (keep_flushResolver g).arcProf

theorem arcProf_run (H : IdFn) : ∀ (h : List HStep) (g : Graph),
    (run H g h).1.arcProf = C05.run g.arcProf (profUpds h)
  | [], g => rfl
  | .upd u :: t, g => by
    simp only [run, profUpds]
    rw [arcProf_run H t, arcProf_step]
    cases profUpd u <;> simp [C05.run]
  | .inSync :: t, g => by simp only [run, profUpds]; exact arcProf_run H t _
  | .flush :: t, g => by
    simp only [run, profUpds]
    rw [arcProf_run H t, arcProf_flush]

def profActive (g : Graph) (p : String) : Option RulesIn := mget g.active (.prof p)

theorem profActive_scanRules_pol (H : IdFn) (g : Graph) (k : PolicyKey) (r : Option RulesIn) :
    profActive (g.scanRules H (.pol k) r) = profActive g := by
  funext p
  unfold profActive
  rw [scanRules_active, mget_setOrDel]
  simp

theorem profActive_scanRules_prof (H : IdFn) (g : Graph) (p0 : String) (r : Option RulesIn) (p : String) :
    profActive (g.scanRules H (.prof p0) r) p = if p = p0 then r else profActive g p := by
  unfold profActive
  rw [scanRules_active, mget_setOrDel]
  simp

/-- how the deny stand-in reaches the scanner -/
def outRules : C05.OutRules RulesIn → RulesIn
  | .real r => r
  | .dummyDrop => dummyDropRules

def applyProfEvent (t : String → Option RulesIn) : C05.Event RulesIn → (String → Option RulesIn)
  | .active p r => fun q => if q = p then some (outRules r) else t q
  | .inactive p => fun q => if q = p then none else t q

theorem profActive_profEvents (H : IdFn) : ∀ (evs : List (C05.Event RulesIn)) (g : Graph),
    profActive (g.profEvents H evs) = evs.foldl applyProfEvent (profActive g)
  | [], _ => rfl
  | e :: evs, g => by
    unfold Graph.profEvents
    simp only [List.foldl_cons]
    have ih := profActive_profEvents H evs
    unfold Graph.profEvents at ih
    rw [ih]
    congr 1
    funext q
    cases e with
    | active p r => cases r <;> simp [applyProfEvent, outRules, profActive_scanRules_prof]
    | inactive p => simp [applyProfEvent, profActive_scanRules_prof]

def viewFn (es : List (C05.Event RulesIn)) (p : String) : Option RulesIn :=
  (C05.alGet p (C05.view es)).map outRules

theorem viewFn_append (es evs : List (C05.Event RulesIn)) :
    viewFn (es ++ evs) = evs.foldl applyProfEvent (viewFn es) := by
  induction evs generalizing es with
  | nil => simp
  | cons e evs ih =>
    have : es ++ e :: evs = (es ++ [e]) ++ evs := by simp
    rw [this, ih, List.foldl_cons]
    congr 1
    funext q
    unfold viewFn
    rw [C05.view_append]
    cases e with
    | active p r =>
      simp only [C05.applyEvent, applyProfEvent, C05.alGet_alSet]
      by_cases h : q = p <;> simp [h]
    | inactive p =>
      simp only [C05.applyEvent, applyProfEvent, C05.alGet_alErase]
      by_cases h : q = p <;> simp [h]

def ProfActInv (g : Graph) : Prop := profActive g = viewFn g.arcProf.out

theorem profActInv_arcProfStep (H : IdFn) {g : Graph} (hi : ProfActInv g) (u : C05.Upd RulesIn) :
    ProfActInv (g.arcProfStep H u) := by
  unfold ProfActInv
  rw [arcProf_arcProfStep]
  unfold Graph.arcProfStep
  simp only []
  rw [profActive_profEvents]
  obtain ⟨evs, he⟩ := C05.step_out g.arcProf u
  rw [he, List.drop_left, viewFn_append]
  congr 1

theorem profActInv_frame {g g' : Graph} (hi : ProfActInv g) (h1 : g'.active = g.active) (h2 : g'.arcProf = g.arcProf) :
    ProfActInv g' := by
  unfold ProfActInv profActive at *
  rw [h1, h2]; exact hi

theorem profActInv_tower (H : IdFn) : Tower H (fun _ => True) (fun _ => True) ProfActInv where
  frame hi h1 _ h3 _ _ _ := profActInv_frame hi h3 h1
  scanPol k rules hi := by
    unfold ProfActInv
    rw [profActive_scanRules_pol, (keep_scanRules H _ _ _).arcProf]; exact hi
  arcProfStep u hi := profActInv_arcProfStep H hi u
  idxOp op _ hi := profActInv_frame hi (idxOp_active _ op) (keep_idxOp _ op).arcProf
  emit cs _ hi := profActInv_frame hi (emit_active _ cs) (keep_emit _ cs).arcProf

theorem profActInv_new (s : Bool) : ProfActInv (Graph.new s) := by
  unfold ProfActInv
  funext p
  simp [profActive, viewFn, Graph.new, C05.Arc.new, C05.view]

theorem profActInv_run (H : IdFn) (h : List HStep) {g : Graph} (hi : ProfActInv g) : ProfActInv (run H g h).1 :=
  (profActInv_tower H).run (fun hi => profActInv_frame hi rfl rfl) (fun _ _ _ => trivial) (fun _ _ => trivial)
    h (fun st _ => okStep_true st) hi

end CalicoVerif.C01
