import CalicoVerif.Proofs.C11Whole
import CalicoVerif.Proofs.C11Total
import CalicoVerif.Proofs.C11Tramp
/-!
C11 — ONE program: below the trampoline stride the block the builder assembles is the plain event list
(`polprog_verdict`); at ANY length it is that list with trampolines inserted, which preserves the semantics
(`compile_noSkipJ`: no jump of the builder targets a trampoline-skip label; `expand_long`, `polprog_verdict_long`);
and the failing state-map lookup (`polprog_stateFail`).  Also here: `exCfg`, the configuration of the test vectors
of `Props/C11` and `Props/C12`.
-/
namespace CalicoVerif.C11

theorem execL_single {env : Env} {r : Rules} {n : List Ev} {prog : List Insn}
    (he : expand env.c r.forXDP (compile env.c r) = [n]) (hi : instructions env.c r = some (some [prog]))
    (m : Mach) (hnf : (lrun env n m).isFault = false) : execL env prog m = lrun env n m := by
  have h := instructions_blocks hi
  rw [he] at h
  cases ha : assemble n with
  | none => simp [ha] at h
  | some p =>
    simp only [List.mapM_cons, List.mapM_nil, ha] at h
    cases h
    exact assemble_sound env n prog m ha hnf

theorem polprog_verdict (env : Env) (st : List Byte) (r : Rules) (hok : ProgOK env st r)
    (hs : env.stateOK = true) (hnosplit : NoSplit env.c (flat (compile env.c r)))
    (hshort : (flat (compile env.c r)).length < env.c.trampolineStride)
    (prog : List Insn) (hi : instructions env.c r = some (some [prog])) :
    agreesV env r.forXDP (verdict env r (pktOfD st)) (execL env prog (Mach.init st)) := by
  obtain ⟨o, ho, hag⟩ := lrun_program env st r hok hs
  rw [execL_single (expand_one env.c r.forXDP (compile env.c r) hnosplit hshort) hi _ (Outcome.nofault_of_obs ho)]
  exact ⟨o, ho, hag⟩

/-- The configuration the test vectors of `Props/C11` and `Props/C12` are built with: distinct map FDs, fixed
allow / deny jump indices. -/
def exCfg : Cfg := { ipSetMapFD := 11, stateMapFD := 12, staticJumpMapFD := 13, policyJumpMapFD := 14,
                     useJmps := true, allowJmp := 5, denyJmp := 9 }

theorem TiersGood.act {ts : List Tier} (h : TiersGood ts) : TiersAct ts :=
  fun t ht pol hp r hr => (h t ht pol hp r hr).1
theorem ProfsGood.act {ps : List Policy} (h : ProfsGood ps) : ProfsAct ps :=
  fun pol hp r hr => (h pol hp r hr).1

theorem ProgOK.act {env : Env} {st : List Byte} {r : Rules} (hok : ProgOK env st r) : RulesAct r :=
  ⟨hok.gT.act, hok.gHP.act, hok.gHF.act, hok.gHN.act, hok.gP.act, hok.gHPR.act⟩

theorem bodyish_not_skip {l : Label} (h : l.bodyish = true) : l.isSkip = false := by
  cases l <;> first | rfl | cases h

/-- No label of the builder's program is a trampoline-skip label, hence no jump targets one. -/
theorem compile_noSkipJ (env : Env) (st : List Byte) (r : Rules) (hok : ProgOK env st r) :
    NoSkipJ (flat (compile env.c r)) := by
  intro i l hj
  have hl := (closed_jump_mem _ [] (compile_closed_act env.c r hok.act) i l hj).resolve_right (by simp)
  rw [compile_flat, bodyB_flat] at hl
  simp only [labelsOf_append, List.mem_append, labelsOf_footer, labelsOf_headerEvs] at hl
  rcases hl with h | h | h
  · have : ∀ l ∈ [Label.start, .policy], l.isSkip = false := by decide
    exact this l h
  · exact bodyish_not_skip ((decides_body env st r hok).2 l h)
  · have : ∀ xdp, ∀ l ∈ footerLabels xdp, l.isSkip = false := by decide
    exact this _ l h

theorem expand_long (env : Env) (st : List Byte) (r : Rules) (hok : ProgOK env st r)
    (hnosplit : env.c.policyMapStride = 0) :
    ∃ n, expand env.c r.forXDP (compile env.c r) = [n] ∧ ∀ m, lrun env n m = lrun env (flat (compile env.c r)) m := by
  have hn := compile_noSkipJ env st r hok
  obtain ⟨n, he, hr⟩ := expand_relayed env.c r.forXDP (compile env.c r) hnosplit hn
  exact ⟨n, he, (relayed_sound env hr hn).1⟩

theorem lrun_program_long (env : Env) (st : List Byte) (r : Rules) (hok : ProgOK env st r) (hs : env.stateOK = true)
    (hnosplit : env.c.policyMapStride = 0) :
    ∃ n, expand env.c r.forXDP (compile env.c r) = [n] ∧
      agreesV env r.forXDP (verdict env r (pktOfD st)) (lrun env n (Mach.init st)) := by
  obtain ⟨n, he, hr⟩ := expand_long env st r hok hnosplit
  refine ⟨n, he, ?_⟩
  rw [hr]
  exact lrun_program env st r hok hs

theorem polprog_verdict_long (env : Env) (st : List Byte) (r : Rules) (hok : ProgOK env st r)
    (hs : env.stateOK = true) (hnosplit : env.c.policyMapStride = 0)
    (prog : List Insn) (hi : instructions env.c r = some (some [prog])) :
    agreesV env r.forXDP (verdict env r (pktOfD st)) (execL env prog (Mach.init st)) := by
  obtain ⟨n, he, o, ho, hag⟩ := lrun_program_long env st r hok hs hnosplit
  rw [execL_single he hi _ (Outcome.nofault_of_obs ho)]
  exact ⟨o, ho, hag⟩

/-- **State lookup fails ⇒ drop**: the program exits with TC_ACT_SHOT (XDP: XDP_DROP) and leaves the
state value (hence `pol_rc`) untouched. -/
theorem lrun_program_stateFail (env : Env) (st : List Byte) (r : Rules) (hok : ProgOK env st r)
    (hs : env.stateOK = false) :
    ∃ m, m.st = st ∧ lrun env (flat (compile env.c r)) (Mach.init st) =
      .exit (sext32 (if r.forXDP then 1 else 2)) m := by
  rw [compile_flat, bodyB_flat]
  obtain ⟨m0, hl0, hst0, e0⟩ := lrun_header_fail env st hs (policyEvs env.c r ++ footerEvs env.c r.forXDP)
  rw [e0, goto_cons_label_ne env _ m0 (by decide)]
  have hb : Label.exit ∉ labelsOf (policyEvs env.c r) := fun h =>
    absurd ((decides_body env st r hok).2 _ h) (by decide)
  rw [goto_append _ m0 hb, footerEvs_eq, goto_cons_label_ne env _ m0 (by decide),
    goto_append _ m0 (by rw [labelsOf_verdictBlock]; simp)]
  simp only [exitTargetEvs, List.cons_append, List.nil_append]
  rw [goto_label_self, lrun_set_exit env m0 _ _ hl0]
  exact ⟨m0.setReg 0 (sext32 (if r.forXDP then 1 else 2)), hst0, rfl⟩

theorem polprog_stateFail (env : Env) (st : List Byte) (r : Rules) (hok : ProgOK env st r)
    (hs : env.stateOK = false) (hnosplit : env.c.policyMapStride = 0)
    (prog : List Insn) (hi : instructions env.c r = some (some [prog])) :
    ∃ m, m.st = st ∧ execL env prog (Mach.init st) = .exit (sext32 (if r.forXDP then 1 else 2)) m := by
  obtain ⟨n, he, hr⟩ := expand_long env st r hok hnosplit
  obtain ⟨m, hm, hl⟩ := lrun_program_stateFail env st r hok hs
  rw [← hr] at hl
  exact ⟨m, hm, by rw [execL_single he hi _ (by rw [hl]; rfl), hl]⟩

end CalicoVerif.C11
