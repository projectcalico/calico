import CalicoVerif.Model.C11Builder
/-! C11 — byte-reversal lemmas (`bits.ReverseBytes32/64`), by the bytes. -/
namespace CalicoVerif.C11

theorem rev32bv_and (x y : BitVec 32) : rev32bv (x &&& y) = rev32bv x &&& rev32bv y := by
  unfold rev32bv
  simp only [BitVec.extractLsb'_and]
  rw [← BitVec.and_append, ← BitVec.and_append, ← BitVec.and_append]

theorem rev32bv_append (a b c d : BitVec 8) : rev32bv (a ++ b ++ c ++ d) = d ++ c ++ b ++ a := by
  have h1 : (a ++ b ++ c ++ d).extractLsb' 8 8 = c := by
    rw [BitVec.extractLsb'_append_eq_of_le (Nat.le_refl 8)]; exact BitVec.extractLsb'_append_eq_right
  have h2 : (a ++ b ++ c ++ d).extractLsb' 16 8 = b := by
    rw [BitVec.extractLsb'_append_eq_of_le (by decide), BitVec.extractLsb'_append_eq_of_le (by decide)]
    exact BitVec.extractLsb'_append_eq_right
  have h3 : (a ++ b ++ c ++ d).extractLsb' 24 8 = a := by
    rw [BitVec.extractLsb'_append_eq_of_le (by decide), BitVec.extractLsb'_append_eq_of_le (by decide)]
    exact BitVec.extractLsb'_append_eq_left
  unfold rev32bv
  rw [h1, h2, h3, BitVec.extractLsb'_append_eq_right]

theorem rev32bv_rev32bv (x : BitVec 32) : rev32bv (rev32bv x) = x := by
  conv => lhs; arg 1; unfold rev32bv
  rw [rev32bv_append, BitVec.extractLsb'_append_extractLsb'_eq_extractLsb' (start₁ := 16) (start₂ := 24) rfl,
    BitVec.extractLsb'_append_extractLsb'_eq_extractLsb' (start₁ := 8) (start₂ := 16) rfl,
    BitVec.extractLsb'_append_extractLsb'_eq_extractLsb' (start₁ := 0) (start₂ := 8) rfl]
  exact BitVec.extractLsb'_eq_self

theorem rev64bv_rev64bv (x : BitVec 64) : rev64bv (rev64bv x) = x := by
  conv => lhs; arg 1; unfold rev64bv
  unfold rev64bv
  rw [BitVec.extractLsb'_append_eq_right, BitVec.extractLsb'_append_eq_left, rev32bv_rev32bv, rev32bv_rev32bv,
    BitVec.extractLsb'_append_extractLsb'_eq_extractLsb' (start₁ := 0) (start₂ := 32) rfl]
  exact BitVec.extractLsb'_eq_self

theorem rev32bv_inj {x y : BitVec 32} (h : rev32bv x = rev32bv y) : x = y := by
  rw [← rev32bv_rev32bv x, ← rev32bv_rev32bv y, h]

end CalicoVerif.C11
