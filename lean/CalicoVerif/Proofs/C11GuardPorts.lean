import CalicoVerif.Proofs.C11IpSet
/-!
C11 — guard for the ports fragment (`writePortsMatch`): numeric ranges
(single-port compare, `< first` skip + `≤ last` hit) and named-port IP sets.
-/
namespace CalicoVerif.C11

/-- A port range as the API allows it. -/
def PortOK (r : PortRange) : Prop := 0 ≤ r.first ∧ r.first ≤ r.last ∧ r.last ≤ 65535

def portInNat (v : Nat) (r : PortRange) : Bool := r.first ≤ (v : Int) && (v : Int) ≤ r.last

theorem exits_portHere {env : Env} {P : Mach → Prop} (rid : Nat) (onMatch : Label) {v : Nat} (hv : v < 65536)
    (pr : PortRange) (part : Nat) (hok : PortOK pr) (h1 : ∀ m, P m → m.reg 1 = some (BitVec.ofNat 64 v))
    (hne : onMatch ≠ .rulePart rid part) :
    Exits env P (portHere rid onMatch pr part).1 (if portInNat v pr then some onMatch else none) P := by
  obtain ⟨hf0, hfl, hl⟩ := hok
  obtain ⟨f, hf⟩ : ∃ f : Nat, pr.first = (f : Int) := ⟨pr.first.toNat, by omega⟩
  obtain ⟨la, hla⟩ : ∃ la : Nat, pr.last = (la : Int) := ⟨pr.last.toNat, by omega⟩
  have hv64 : v < 2 ^ 64 := by omega
  have hf64 : f < 2 ^ 64 := by omega
  have hl64 : la < 2 ^ 64 := by omega
  have jle : Exits env P [jumpLEImm64 R1 la onMatch] _ P :=
    Exits.jcond64 opJumpLEImm64 1 la onMatch JOp64.le h1 (cond_nat _ hv64 hl64)
  unfold portHere
  by_cases c1 : pr.first = pr.last
  · -- a single port: one comparison
    have hin : portInNat v pr = (v == la) := by
      unfold portInNat; rw [c1, hla, Bool.eq_iff_iff]; simp only [Bool.and_eq_true, decide_eq_true_eq, beq_iff_eq]; omega
    simp only [c1, if_true]
    rw [hin, hla]
    exact Exits.jcond64 opJumpEqImm64 1 la onMatch JOp64.eq h1 (cond_nat _ hv64 hl64)
  · by_cases c2 : pr.first > 0
    · -- `< first` skips to the fresh part label, else `≤ last` hits
      have hin : portInNat v pr = (decide (f ≤ v) && decide (v ≤ la)) := by
        unfold portInNat; rw [hf, hla]; simp
      simp only [c1, c2, if_false, if_true]
      rw [hin, hf, hla]
      refine (((Exits.jcond64 opJumpLTImm64 1 f (.rulePart rid part) JOp64.lt h1
        (cond_nat _ hv64 hf64)).seq (fun _ => jle) fun _ _ => ⟨List.not_mem_nil, fun _ h => h⟩).label
          (.rulePart rid part)).congr ?_
      by_cases hlt : v < f <;> by_cases hle : v ≤ la <;> simp [hlt, hle, hne] <;> omega
    · -- a range from 0: one comparison
      have hin : portInNat v pr = decide (v ≤ la) := by
        unfold portInNat; rw [hf, hla, show f = 0 by omega]; simp
      simp only [c1, c2, if_false]
      rw [hin, hla]
      exact jle

theorem lrun_portHere (env : Env) (rid : Nat) (onMatch : Label) (v : Nat) (hv : v < 65536) (pr : PortRange) (part : Nat)
    (rest : List Ev) (m : Mach) (hok : PortOK pr) (h1 : m.reg 1 = some (BitVec.ofNat 64 v))
    (hne : onMatch ≠ .rulePart rid part) :
    lrun env ((portHere rid onMatch pr part).1 ++ rest) m =
      if portInNat v pr then goto env onMatch rest m else lrun env rest m := by
  obtain ⟨_, _, ⟨rfl, rfl⟩, e⟩ := exits_portHere (P := (· = m)) rid onMatch hv pr part hok (fun _ h => h ▸ h1) hne rest m rfl
  rw [e]; cases portInNat v pr <;> rfl

theorem exits_portLoop {env : Env} {P : Mach → Prop} (rid : Nat) (leg : Leg) (onMatch : Label) {v : Nat} (hv : v < 65536)
    (h1 : ∀ m, P m → m.reg 1 = some (BitVec.ofNat 64 v)) :
    ∀ (rs : List PortRange) (part : Nat), (∀ r ∈ rs, PortOK r) → (∀ k, part ≤ k → onMatch ≠ .rulePart rid k) →
      Exits env P (flat (portLoop rid leg onMatch rs part).1) (if rs.any (portInNat v) then some onMatch else none) P
  | [], _, _, _ => by simpa [portLoop, flat] using Exits.nil
  | pr :: rs, part, hok, hne => by
    have hne' : ∀ k, (portHere rid onMatch pr part).2 ≤ k → onMatch ≠ .rulePart rid k := fun k hk =>
      hne k (Nat.le_trans (portHere_snd_le rid onMatch pr part) hk)
    rw [(portLoop_cons_flat rid leg onMatch pr rs part).1]
    refine ((exits_portHere rid onMatch hv pr part (hok pr List.mem_cons_self) h1 (hne part (Nat.le_refl _))).seq
      (fun _ => exits_portLoop rid leg onMatch hv h1 rs _ (fun r hr => hok r (List.mem_cons_of_mem _ hr)) hne')
      fun l e => ⟨fun hmem => ?_, fun _ h => h⟩).congr (by rw [List.any_cons]; cases portInNat v pr <;> rfl)
    obtain ⟨k, hk, e'⟩ := (labelsOf_portLoop rid leg onMatch rs _).1 _ hmem
    split at e <;> cases e
    exact hne' k hk e'

theorem pkt_port (st : List Byte) (leg : Leg) : (pktOfD st).port leg = BitVec.ofNat 16 (fieldN st leg.pto 2) := by
  cases leg <;> rfl

theorem portIn_nat (v : Nat) (hv : v < 65536) (r : PortRange) : portIn (BitVec.ofNat 16 v) r = portInNat v r := by
  unfold portIn portInNat
  simp only [BitVec.toNat_ofNat]
  have : v % 2 ^ 16 = v := Nat.mod_eq_of_lt (by omega)
  rw [this]

/-- The reference's ports clause for a leg. -/
def portsRef (env : Env) (p : Pkt) (leg : Leg) (rs : List PortRange) (named : List Nat) : Bool :=
  rs.any (portIn (p.port leg)) || named.any (memRef env p leg)

theorem decides_ports (env : Env) (st : List Byte) (hc : SetCtx env st) (rid : Nat) (leg : Leg) (onMatch : Label)
    (part1 : Nat) (ports : List PortRange) (named : List Nat)
    (hp : ∀ r ∈ ports, PortOK r) (hn : ∀ id ∈ named, id < 2 ^ 64)
    (hne : ∀ k, part1 ≤ k → onMatch ≠ .rulePart rid k) :
    Decides env st (load16 R1 R9 leg.portOff :: flat (portLoop rid leg onMatch ports part1).1 ++
        named.flatMap (fun id => ipSetLookup env.c id leg ++ [jumpNEImm64 R0 0 onMatch]))
      (if portsRef env (pktOfD st) leg ports named then some onMatch else none) := by
  have hv : fieldN st leg.pto 2 < 65536 := by have := fieldN_lt st leg.pto 2; omega
  have dn := decides_ipset_tests (Q := fun _ => false) env st hc onMatch leg named hn
  have hany : ports.any (portIn ((pktOfD st).port leg)) = ports.any (portInNat (fieldN st leg.pto 2)) := by
    rw [pkt_port]
    congr 1
    funext r
    exact portIn_nat _ hv r
  -- the load leaves the port in R1; then the numeric ranges, then the named-port sets
  refine Decides.congr (t := ?t) (Decides.of_view fun m hI => ?h) ?e
  case h =>
    have L : Line env st (View.ofInv m) [load16 R1 R9 leg.portOff]
        ((View.ofInv m).set 1 (BitVec.ofNat 64 (fieldN st leg.pto 2))) := by
      rw [leg.portOff_eq]; exact Line.ldxField opLoadReg16 1 leg.pto 2 LdOp.h (by omega) leg.pto_le leg.pto_stable
    exact Exits.seq L (fun _ => (exits_portLoop rid leg onMatch hv (fun _ h => Sees.reg h 1 _ rfl) ports part1 hp hne).seq
      (fun _ => (decides_iff.1 dn.1).weaken (fun _ h => Sees.inv h) fun _ h => h)
      fun _ _ => ⟨fun hm => Bool.noConfusion (dn.2 _ hm), fun _ h => Sees.inv h⟩) fun _ e => nomatch e
  case e =>
    unfold portsRef
    rw [hany]
    cases ports.any (portInNat (fieldN st leg.pto 2)) <;> cases named.any (memRef env (pktOfD st) leg) <;> rfl

/-- `writePortsMatch`. -/
theorem gl_ports (env : Env) (st : List Byte) (hc : SetCtx env st) (rid part : Nat) (neg : Bool) (leg : Leg)
    (ports : List PortRange) (named : List Nat) (hp : ∀ r ∈ ports, PortOK r) (hn : ∀ id ∈ named, id < 2 ^ 64) :
    GL env st rid (flat (portsMatch env.c rid part neg leg ports named).1)
      (if neg then !(portsRef env (pktOfD st) leg ports named) else portsRef env (pktOfD st) leg ports named) := by
  -- the tests (load, numeric ranges, named-port sets) for a match label `onMatch`: only fresh part labels are defined
  have d : ∀ (onMatch : Label) (part1 : Nat), (∀ k, part1 ≤ k → onMatch ≠ .rulePart rid k) →
      DecidesIn env st Label.isPart (load16 R1 R9 leg.portOff :: flat (portLoop rid leg onMatch ports part1).1 ++
        named.flatMap (fun id => ipSetLookup env.c id leg ++ [jumpNEImm64 R0 0 onMatch]))
        (if portsRef env (pktOfD st) leg ports named then some onMatch else none) := fun onMatch part1 hne => by
    refine ⟨decides_ports env st hc rid leg onMatch part1 ports named hp hn hne, fun l hmem => ?_⟩
    simp only [load16, mk, List.cons_append, labelsOf, labelsOf_append, List.mem_append] at hmem
    rcases hmem with hmem | hmem
    · obtain ⟨k, _, e⟩ := (labelsOf_portLoop rid leg onMatch ports part1).1 l hmem
      rw [e]; rfl
    · exact (decides_ipset_tests env st hc onMatch leg named hn).2 l hmem
  rw [portsMatch_flat]
  cases neg
  · simp only [Bool.false_eq_true, if_false]
    exact GL.of_pos (d (.rulePart rid part) (part + 1) (by intro k hk e; simp at e; omega)) rfl
  · simp only [if_true, List.append_nil]
    exact GL.of_neg (d (.ruleNoMatch rid) part (by intro k _; simp))

end CalicoVerif.C11
