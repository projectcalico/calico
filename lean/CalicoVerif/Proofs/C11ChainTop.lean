import CalicoVerif.Proofs.C11ChainB
import CalicoVerif.Proofs.C11ChainAsm
import CalicoVerif.Proofs.C11Whole
/-!
C11 — the chain theorem: the programs of a split build, run as a chain, end as the reference verdict
demands.
-/
namespace CalicoVerif.C11

theorem GA.wholeBody (env : Env) (st : List Byte) (nmax : Nat) (he : ChainEnv env nmax) (r : Rules) (hok : ProgOK env st r) :
    GA env st r.forXDP nmax (verdictLabels r.forXDP) .none (bodyB env.c r) := by
  have hE : EOK r.forXDP (verdictLabels r.forXDP) := by
    refine ⟨?_, ?_, ?_⟩ <;> cases r.forXDP <;> simp [verdictLabels]
  have hNP : NoPart (verdictLabels r.forXDP) := by
    intro r' k; cases r.forXDP <;> simp [verdictLabels]
  have hd : Label.deny ∈ verdictLabels r.forXDP := by simp [verdictLabels]
  have ha : Label.allow ∈ verdictLabels r.forXDP := by simp [verdictLabels]
  have hx : r.forXDP = true → Label.xdpPass ∈ verdictLabels r.forXDP := by intro h; simp [verdictLabels, h]
  unfold bodyB
  exact GT.host he hok.ctx hE hNP r hd hx hok.gHP hok.gHF hok.gHN hok.gHPR _
    (GT.workload he hok.ctx hE hNP r _ _ ha hd hok.gT hok.gP _ (GA.footer env st r.forXDP nmax))

theorem agrees_fields {e1 e2 o : Obs} (h1 : e1.agrees o = true) (h2 : e2.agrees o = true) :
    e1.kind = e2.kind ∧ e1.target = e2.target ∧ (e1.rc = none ∨ e2.rc = none ∨ e1.rc = e2.rc) := by
  simp only [Obs.agrees, Bool.and_eq_true, beq_iff_eq, Bool.or_eq_true, Option.isNone_iff_eq_none] at h1 h2
  refine ⟨h1.1.1.trans h2.1.1.symm, h1.1.2.trans h2.1.2.symm, ?_⟩
  rcases h1.2 with a | a
  · exact Or.inl a
  · rcases h2.2 with b | b
    · exact Or.inr (Or.inl b)
    · exact Or.inr (Or.inr (a.trans b.symm))

theorem agreesV_unique {env : Env} {xdp : Bool} {V v : Verdict} {o : Outcome}
    (h1 : agreesV env xdp V o) (h2 : agreesV env xdp v o) (hV : V = .xdpPass → xdp = true) (hv : v = .xdpPass → xdp = true) :
    expectedObs env xdp V = expectedObs env xdp v := by
  obtain ⟨o1, e1, a1⟩ := h1
  obtain ⟨o2, e2, a2⟩ := h2
  rw [e1] at e2; cases e2
  obtain ⟨hk, ht, hr⟩ := agrees_fields a1 a2
  by_cases htl : env.tailOK = true <;> cases V <;> cases v <;>
    first
    | rfl
    | (have hx := hV rfl; subst hx; simp [expectedObs, htl] at hk ht hr)
    | (have hx := hv rfl; subst hx; simp [expectedObs, htl] at hk ht hr)
    | (simp [expectedObs, htl] at hk ht hr)

theorem polprog_chain (env : Env) (st : List Byte) (r : Rules) (hok : ProgOK env st r) (nmax : Nat)
    (he : ChainEnv env nmax) (hsb : ShortBlocks env.c r.forXDP (compile env.c r) {})
    (hnb : (cont env.c r.forXDP (compile env.c r) {}).2.length ≤ nmax)
    (progs : List (List Insn)) (hi : instructions env.c r = some (some progs)) :
    agreesV env r.forXDP (verdict env r (pktOfD st)) (runChain env progs 0 st) := by
  have hexp := expand_cont env.c r.forXDP (compile env.c r) hsb
  have hasm := instructions_blocks hi
  rw [hexp] at hasm
  -- the first block starts with the header
  have hcomp := compile_bodyB env.c r
  have hc1 := cont_evs env.c r.forXDP (bodyB env.c r) (headerEvs env.c) {}
  rw [← hcomp] at hc1
  generalize hsh : ({ ({} : SplitSt) with cur := rawAll ({} : SplitSt).cur (headerEvs env.c) } : SplitSt) = sh at hc1
  have hsb' : ShortBlocks env.c r.forXDP (bodyB env.c r) sh := by
    rw [← hsh]; rw [hcomp] at hsb; exact hsb.evs
  have hreach : sh.cur.reach = true := by rw [← hsh]; exact header_reach env.c
  have hdone : sh.done.length = 0 := by rw [← hsh]; rfl
  have hnb' : sh.done.length + (cont env.c r.forXDP (bodyB env.c r) sh).2.length ≤ nmax := by
    rw [hdone, Nat.zero_add]; rw [hc1] at hnb; exact hnb
  obtain ⟨mC, hIC, eC⟩ := lrun_header env st hok.ctx.len he.stateOK (cont env.c r.forXDP (bodyB env.c r) sh).1
  obtain ⟨mF, hIF, eF⟩ := lrun_header env st hok.ctx.len he.stateOK (flat (bodyB env.c r))
  obtain ⟨V, _, hVx, hCh, hFl⟩ := (GA.wholeBody env st nmax he r hok).start sh hreach hnb' hsb' mC mF
    (InvC.none hIC) (InvC.none hIF)
  have hv := lrun_program env st r hok he.stateOK
  rw [compile_flat, eF] at hv
  have heq := agreesV_unique hFl hv hVx (fun e => verdict_xdpPass env r _ e)
  obtain ⟨oc, hoc, hagc⟩ := hCh
  rw [heq] at hagc
  have hrun := runChain_chainK env _ progs hasm 0 st (by simp)
  simp only [List.drop_one, List.tail_cons, List.getElem_cons_zero, Nat.zero_add] at hrun
  have hch : chainK env (cont env.c r.forXDP (compile env.c r) {}).2 1
      (lrun env (cont env.c r.forXDP (compile env.c r) {}).1 (Mach.init st)) =
      chainK env (cont env.c r.forXDP (bodyB env.c r) sh).2 (0 + 1) (lrun env (cont env.c r.forXDP (bodyB env.c r) sh).1 mC) := by
    rw [hc1]; simp only; rw [eC]
  rw [hdone] at hoc
  rw [hch] at hrun
  rw [hrun (Outcome.nofault_of_obs hoc)]
  exact ⟨oc, hoc, hagc⟩

theorem polprog_chain_built (env : Env) (st : List Byte) (r : Rules) (hok : ProgOK env st r) (hb : Buildable r)
    (nmax : Nat) (he : ChainEnv env nmax) (hsb : ShortBlocks env.c r.forXDP (compile env.c r) {})
    (hnb : (cont env.c r.forXDP (compile env.c r) {}).2.length ≤ nmax) (hstride : env.c.trampolineStride ≤ 32767) :
    ∃ progs, instructions env.c r = some (some progs) ∧
      agreesV env r.forXDP (verdict env r (pktOfD st)) (runChain env progs 0 st) := by
  obtain ⟨progs, hi⟩ := instructions_total_split env.c r hb hsb hstride
  exact ⟨progs, hi, polprog_chain env st r hok nmax he hsb hnb progs hi⟩

end CalicoVerif.C11
