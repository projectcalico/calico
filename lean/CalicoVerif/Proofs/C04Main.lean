import CalicoVerif.Proofs.C04Sum
/-! C04: the IP set operations (`DeleteIPSet`, `UpdateIPSet`) and the map-iteration-order permutations keep
the invariant; hence every operation does (`step_inv`), along whole histories (`run_inv`). -/
namespace CalicoVerif.C04

-- many lemmas of a section need neither `DecidableEq Sel` nor `matchSel`
set_option linter.unusedSectionVars false

section Main
variable {Sel : Type} [DecidableEq Sel] (matchSel : Sel → Labels → Bool)

/-- Dropping set `s` (refcounts of `s` become 0, its trie goes) keeps the emission invariant if
either the consumer is told (`cleared s`) or it holds nothing of `s` anyway. -/
theorem einv_remove_set {st st' : Idx Sel} {s : String} (hE : EInv st)
    (hsup : st'.suppress = st.suppress)
    (hrc : ∀ s' m, refCount st' s' m = if s' = s then 0 else refCount st s' m)
    (htr : ∀ s', s' ≠ s → trieOf st' s' = trieOf st s')
    (htrs : trieOf st' s = [] ∨ (trieOf st' s = trieOf st s ∧ ∀ m, refCount st s m = 0))
    (hout : st'.out = st.out ++ [.cleared s] ∨ (st'.out = st.out ∧ ∀ m, refCount st s m = 0)) :
    EInv st' := by
  obtain ⟨D, hD, hmem⟩ := hE.down
  have hvis : ∀ s' m, visible st' s' m ↔ (s' ≠ s ∧ visible st s' m) := by
    intro s' m
    by_cases hs : s' = s
    · subst hs
      unfold visible
      rw [hrc]; simp
    · have := visible_congr (st := st) (st' := st') (s := s') hsup (fun m => by rw [hrc]; simp [hs]) m
      rw [this]; simp [hs]
  refine ⟨?_, ?_, ?_, ?_⟩
  · rcases hout with ho | ⟨ho, hz⟩
    · refine ⟨D.filter (fun x => x.1 ≠ s), ?_, fun s' m => ?_⟩
      · rw [ho]; apply replay_append hD; simp [replayFrom, applyEvent]
      · rw [hvis, ← hmem]; simp [List.mem_filter]; exact And.comm
    · refine ⟨D, by rw [ho]; exact hD, fun s' m => ?_⟩
      rw [hvis, hmem]
      constructor
      · intro h
        refine ⟨?_, h⟩
        rintro rfl
        have := h.1; rw [hz] at this; cases this
      · exact fun h => h.2
  · intro hs s' c
    have hs0 : st.suppress = true := hsup ▸ hs
    by_cases h : s' = s
    · subst h
      rw [hrc]; simp only [if_true]
      rcases htrs with ht | ⟨ht, hz⟩
      · rw [ht]; simp
      · rw [ht, hE.trie hs0, hz]
    · rw [htr s' h, hrc]; simp only [h, if_false]; exact hE.trie hs0 s' c
  · intro s'
    by_cases h : s' = s
    · subst h
      rcases htrs with ht | ⟨ht, _⟩
      · rw [ht]; exact List.nodup_nil
      · rw [ht]; exact hE.trieNodup s'
    · rw [htr s' h]; exact hE.trieNodup s'
  · intro s' c hc
    rw [hrc] at hc
    by_cases h : s' = s
    · simp [h] at hc
    · simp only [h, if_false] at hc; exact hE.canon s' c hc

/-- `einv_remove_set` at the record update `deleteIPSetCore` makes -/
theorem einv_deleted {st : Idx Sel} {s : String} (eps' : List (String × EpData)) (hE : EInv st) (o : List Event)
    (ho : o = st.out ++ [.cleared s] ∨ (o = st.out ∧ ∀ m, refCount st s m = 0)) :
    EInv { st with eps := eps', ipsets := alErase s st.ipsets, tries := alErase s st.tries, out := o } := by
  refine einv_remove_set (st := st) (s := s) hE rfl ?_ ?_ (Or.inl ?_) ho
  · exact refCount_alErase rfl
  · intro s' hs
    show (alGet s' (alErase s st.tries)).getD [] = trieOf st s'
    rw [alGet_alErase]; simp [hs, trieOf]
  · show (alGet s (alErase s st.tries)).getD [] = []
    rw [alGet_alErase]; simp

/-- the state after `DeleteIPSet`'s data changes (callbacks/tries aside) -/
structure Deleted (s : String) (st st' : Idx Sel) : Prop where
  eps : st'.eps = st.eps.map (fun p => (p.1, { p.2 with cached := p.2.cached.filter (fun x => x ≠ s) }))
  ipsets : st'.ipsets = alErase s st.ipsets
  suppress : st'.suppress = st.suppress
  parents : st'.parents = st.parents
  panicked : st'.panicked = st.panicked
  underflow : st'.underflow = st.underflow

/-- The invariant in a state `st'` that is `st` with set `s` deleted (`Deleted`: `s` erased from the IP sets and from
every match cache), given the emission invariant of `st'`.  Of `st` only the refcount equation of the OTHER sets is
needed, so the lemma also serves `UpdateIPSet` after the forced removals. -/
theorem inv_after_delete {s : String} {st st' : Idx Sel} (hd : Deleted s st st') (hE : EInv st')
    (hw : WF st) (hb : bad st = false) (hen : (st.eps.map (·.1)).Nodup) (hep : ∀ p ∈ st.eps, EpWF st p.2)
    (hrefc : ∀ s', s' ≠ s → ∀ m, refCount st s' m = sumBy (term st s' m) st.eps)
    (hlab : Lab matchSel st) : Inv matchSel st' := by
  have hget : ∀ s', alGet s' st'.ipsets = if s' = s then none else alGet s' st.ipsets := by
    intro s'; rw [hd.ipsets, alGet_alErase]
  have hmem : ∀ p' ∈ st'.eps, ∃ p ∈ st.eps,
      p' = (p.1, { p.2 with cached := p.2.cached.filter (fun x => x ≠ s) }) := by
    intro p' hp'
    rw [hd.eps] at hp'
    obtain ⟨p, hp, rfl⟩ := List.mem_map.1 hp'
    exact ⟨p, hp, rfl⟩
  have hrc := refCount_alErase hd.ipsets
  have hcfg : ∀ s', s' ≠ s → cfgAt st' s' = cfgAt st s' := fun s' hne => cfgAt_congr_get (by rw [hget, if_neg hne])
  have hcontrib : ∀ (e : EpData) (c : List String) (s' : String), s' ≠ s →
      contribAt st' { e with cached := c } s' = contribAt st e s' :=
    fun e c s' hne => contribAt_congr (hcfg s' hne) rfl
  have hmatch : ∀ (e : EpData) (c : List String) (s' : String), s' ≠ s →
      matchAt matchSel st' { e with cached := c } s' = matchAt matchSel st e s' :=
    fun e c s' hne => matchAt_congr matchSel (hcfg s' hne) hd.parents rfl
  have hiff : ∀ (c : List String) (s' : String), s' ≠ s → (s' ∈ c.filter (fun x => x ≠ s) ↔ s' ∈ c) := by
    intro c s' h
    simp only [List.mem_filter, decide_eq_true_eq]
    exact ⟨And.left, fun x => ⟨x, h⟩⟩
  refine {
    core := {
      wf := { e := hE, nets := ?nets, sets := ?sets, refwf := ?refwf }
      nb := ?nb
      epsNodup := ?epsNodup
      ep := ?ep
      refc := ?refc }
    lab := ?lab }
  case nets =>
    intro p' hp' c hc
    obtain ⟨p, hp, rfl⟩ := hmem p' hp'
    exact hw.nets p hp c hc
  case sets => unfold SetsNodup; rw [hd.ipsets]; exact keys_alErase_nodup hw.sets
  case refwf => unfold RefWF; rw [hd.ipsets]; intro p hp; exact hw.refwf p (mem_alErase hp)
  case nb => unfold bad; rw [hd.panicked, hd.underflow]; exact hb
  case epsNodup => rw [hd.eps, List.map_map]; exact hen
  case ep =>
    -- `s` has left the cache, everything else cached is still there
    intro p' hp'
    obtain ⟨p, hp, rfl⟩ := hmem p' hp'
    refine ⟨(hep p hp).cachedNodup.filter _, fun x hx => ?_, (hep p hp).parentsNodup⟩
    simp only [List.mem_filter, decide_eq_true_eq] at hx
    rw [hget, if_neg hx.2]
    exact (hep p hp).cachedPresent x hx.1
  case refc =>
    -- `s` is cached nowhere; other sets count as before
    intro s' m
    rw [hrc, hd.eps, sumBy_map]
    by_cases h : s' = s
    · subst h
      simp only [if_true]
      symm
      apply sumBy_zero
      intro p _
      simp [term]
    · simp only [h, if_false]
      rw [hrefc s' h]
      apply sumBy_congr
      intro p _
      unfold term
      simp only [hiff _ s' h]
      rw [hcontrib p.2 _ s' h]
  case lab =>
    intro p' hp' s'
    obtain ⟨p, hp, rfl⟩ := hmem p' hp'
    by_cases h : s' = s
    · subst h
      have hM : ∀ c, matchAt matchSel st' { p.2 with cached := c } s' = false :=
        fun c => matchAt_of_none matchSel (by rw [hget, if_pos rfl]) _
      unfold CacheOK
      constructor
      · intro hx
        have := (List.mem_filter.1 hx).2
        simp at this
      · intro hm
        rw [hM] at hm; cases hm
    · have := hlab p hp s'
      unfold CacheOK at this ⊢
      simp only [hiff _ s' h]
      rw [hmatch p.2 _ s' h, hcontrib p.2 _ s' h]
      exact this

theorem deleteIPSet_inv {st : Idx Sel} (s : String) (h : Inv matchSel st) :
    Inv matchSel (deleteIPSet s st) := by
  have hc := h.core
  unfold deleteIPSet deleteIPSetCore
  cases hget : alGet s st.ipsets with
  | none =>
    simp only
    have hE : EInv (emit (.cleared s) st) := by
      refine einv_remove_set (st' := emit (.cleared s) st) (s := s) hc.wf.e rfl ?_ (fun _ _ => rfl)
        (Or.inr ⟨rfl, refCount_of_none hget⟩) (Or.inl rfl)
      intro s' m
      by_cases hs : s' = s
      · subst hs; simp only [if_true]; exact refCount_of_none hget m
      · simp only [hs, if_false]; rfl
    exact ⟨hc.of_eqs hE rfl rfl hc.wf.sets hc.wf.refwf (fun _ => rfl) fun _ _ => rfl, fun p hp s' => h.lab p hp s'⟩
  | some d0 =>
    simp only
    refine inv_after_delete matchSel (s := s) (st := st) ?_ ?_ hc.wf hc.nb hc.epsNodup hc.ep
      (fun s' _ m => hc.refc s' m) h.lab
    · -- data: `Deleted`
      exact ⟨rfl, rfl, rfl, rfl, rfl, rfl⟩
    · -- emission: the consumer is told `cleared s`
      exact einv_deleted _ hc.wf.e _ (Or.inl rfl)

theorem forceRemoveAll_spec (s : String) (ks : List Member) {st : Idx Sel} (hw : WF st) (nd : ks.Nodup)
    (hpos : ∀ m ∈ ks, 0 < refCount st s m) :
    WF (ks.foldl (fun st m => forceRemove s m st) st) ∧
    Counted st (ks.foldl (fun st m => forceRemove s m st) st)
      fun s' m' => if s' = s ∧ m' ∈ ks then 0 else refCount st s' m' := by
  induction ks generalizing st with
  | nil => exact ⟨hw, Eff.refl st, fun s' m' => by simp⟩
  | cons k ks ih =>
    rw [List.foldl_cons]
    obtain ⟨hk, nd'⟩ := List.nodup_cons.1 nd
    have hk0 := hpos k (List.mem_cons_self ..)
    have hp := refCount_pos_present hk0
    rw [forceRemove_pos hk0]
    have w1 := setRef_wf (m := k) (n := 0) hw hp fun _ h => absurd h (Nat.lt_irrefl 0)
    have e1 := setRef_eff s k 0 st
    have r1 := refCount_setRef hp k 0
    have hpos' : ∀ m ∈ ks, 0 < refCount (setRef s k 0 st) s m := by
      intro m hm
      rw [r1]
      have : m ≠ k := fun e => hk (e ▸ hm)
      simp only [this, and_false, if_false]
      exact hpos m (List.mem_cons_of_mem _ hm)
    obtain ⟨w2, c2⟩ := ih w1 nd' hpos'
    refine ⟨w2, e1.trans c2.eff, fun s' m' => ?_⟩
    rw [c2.refc, r1]
    by_cases hs : s' = s
    · subst hs
      by_cases hm : m' ∈ ks
      · simp [hm]
      · by_cases hmk : m' = k
        · simp [hmk]
        · simp [hm, hmk]
    · simp [hs]

/-- `epData.AddMatchingIPSetID(s)` for endpoint `id` -/
def addCached (s id : String) (st : Idx Sel) : Idx Sel :=
  { st with eps := alMod id (fun e => { e with cached := setAdd s e.cached }) st.eps }

theorem addCached_eps (s id : String) (st : Idx Sel) :
    (addCached s id st).eps = alMod id (fun e => { e with cached := setAdd s e.cached }) st.eps := rfl

/-- the scan loop of `UpdateIPSet`, one endpoint that matches and contributes -/
theorem addScan_hit {st : Idx Sel} {s id : String} {e : EpData} {d : IpSetData Sel}
    (hc : Core st) (hget : alGet id st.eps = some e) (hs : alGet s st.ipsets = some d)
    (hns : s ∉ e.cached) :
    Core (increfAll s (contrib e d) (addCached s id st)) ∧
    Eff (addCached s id st) (increfAll s (contrib e d) (addCached s id st)) := by
  have hmem : (id, e) ∈ st.eps := alGet_some_mem hget
  have hpres : (alGet s (addCached s id st).ipsets).isSome = true := by
    show (alGet s st.ipsets).isSome = true; rw [hs]; rfl
  have ia := increfAll_counted (s := s) (contrib e d) (st := addCached s id st) hpres
  have eff := ia.eff
  have wf_addCached : WF (addCached s id st) := wf_of_sameButEps hc.wf (.of_eps _ _) fun p hp c hcn => by
    rcases mem_alMod (addCached_eps s id st ▸ hp) with ⟨h, _⟩ | ⟨v, hv, rfl⟩
    · exact hc.wf.nets p h c hcn
    · exact hc.wf.nets _ hv c hcn
  have hgood := increfAll_good (s := s) (ms := contrib e d) (Or.inr wf_addCached)
    (contrib_canon (fun c hcn => hc.wf.nets (id, e) hmem c hcn))
  have hb : bad (increfAll s (contrib e d) (addCached s id st)) = false := by rw [eff.bad]; exact hc.nb
  refine ⟨core_replace hc id (some { e with cached := setAdd s e.cached }) (wf_of_good hgood hb) hb
    (.of_eps _ _) eff.cfg (by rw [eff.eps]; exact perm_alMod (f := fun e => { e with cached := setAdd s e.cached }) hc.epsNodup hget)
    ?_ fun s' m => ?_, eff⟩
  · rintro _ ⟨⟩
    refine ⟨⟨setAdd_nodup (hc.ep _ hmem).cachedNodup, fun x hx => ?_, (hc.ep _ hmem).parentsNodup⟩, hc.wf.nets _ hmem⟩
    rw [eff.present]
    rcases mem_setAdd.1 hx with rfl | hx
    · exact hpres
    · exact (hc.ep _ hmem).cachedPresent x hx
  · -- the new term of `id` is the old one plus exactly what `increfAll` added
    have hC : contribAt st e s = contrib e d := contribAt_of_some hs e
    have hrc0 : refCount (addCached s id st) s' m = refCount st s' m := rfl
    rw [ia.refc, hrc0, hget]
    unfold term
    simp only [Option.elim]
    rw [contribAt_congr (st := st) (st' := st) (e := e) (e' := { e with cached := setAdd s e.cached }) rfl rfl]
    by_cases h : s' = s
    · subst h
      simp only [hns, if_false, mem_setAdd, true_or, if_true, hC]
      omega
    · have : s' ∈ setAdd s e.cached ↔ s' ∈ e.cached := by rw [mem_setAdd]; simp [h]
      simp only [this, h, if_false]
      omega

/-- what one iteration of the `UpdateIPSet` scan loop guarantees about the endpoints -/
def ScanStep (s id : String) (st st' : Idx Sel) : Prop :=
  ∀ p' ∈ st'.eps, (p' ∈ st.eps ∧ p'.1 ≠ id) ∨
    (p'.1 = id ∧ CacheOK matchSel st' p'.2 s ∧ ∃ e, (id, e) ∈ st.eps ∧ p'.2.input = e.input ∧
      ∀ x, x ≠ s → (x ∈ p'.2.cached ↔ x ∈ e.cached))

theorem addScanOne_spec {st : Idx Sel} {s : String} {sel : Sel} (id : String) (hc : Core st)
    (hcfg0 : ∃ d, alGet s st.ipsets = some d ∧ d.sel = sel)
    (hq : ∀ e, alGet id st.eps = some e → s ∉ e.cached) :
    CoreKept st (addIPSetScanOne matchSel s sel id st) ∧
    ScanStep matchSel s id st (addIPSetScanOne matchSel s sel id st) := by
  obtain ⟨d, hs, hsel⟩ := hcfg0
  unfold addIPSetScanOne
  cases hget : alGet id st.eps with
  | none =>
    simp only
    exact ⟨.refl hc, fun p' hp' => Or.inl ⟨hp', fun hk => alGet_eq_none_iff.1 hget (List.mem_map.2 ⟨p', hp', hk⟩)⟩⟩
  | some e =>
    have hmem : (id, e) ∈ st.eps := alGet_some_mem hget
    have hns := hq e hget
    have hM : matchAt matchSel st e s = matchSel sel (effLabels st e) := by rw [matchAt_of_some matchSel hs, hsel]
    have hC : contribAt st e s = contrib e d := contribAt_of_some hs e
    have hsame : (matchAt matchSel st e s = true → contribAt st e s = []) →
        ScanStep matchSel s id st st := by
      intro hno p' hp'
      by_cases hk : p'.1 = id
      · right
        obtain ⟨a, b⟩ := p'
        simp only at hk; subst hk
        have : alGet a st.eps = some b := alGet_of_mem hc.epsNodup hp'
        rw [hget] at this; cases this
        refine ⟨rfl, ⟨fun h => absurd h hns, fun hm hne => absurd (hno hm) hne⟩, e, hmem, rfl,
          fun _ _ => Iff.rfl⟩
      · exact Or.inl ⟨hp', hk⟩
    simp only [hs]
    by_cases hm : matchSel sel (effLabels st e) = true
    · simp only [hm, if_true]
      by_cases hc0 : contrib e d = []
      · simp only [hc0, if_true]
        exact ⟨.refl hc, hsame (fun _ => by rw [hC]; exact hc0)⟩
      · simp only [hc0, if_false]
        obtain ⟨c1, eff⟩ := addScan_hit (s := s) (id := id) hc hget hs hns
        refine ⟨⟨c1, eff.cfg, eff.parents⟩, ?_⟩
        intro p' hp'
        have hp2 : p' ∈ (addCached s id st).eps := by rw [← eff.eps]; exact hp'
        rw [addCached_eps] at hp2
        rcases mem_alMod hp2 with h | ⟨v, hv, rfl⟩
        · exact Or.inl h
        · right
          have : alGet id st.eps = some v := alGet_of_mem hc.epsNodup hv
          rw [hget] at this; cases this
          refine ⟨rfl, ?_, e, hmem, rfl, ?_⟩
          · have hM' : matchAt matchSel (increfAll s (contrib e d) (addCached s id st))
                { e with cached := setAdd s e.cached } s = true := by
              rw [matchAt_congr matchSel (e := e) (e' := { e with cached := setAdd s e.cached }) (st := st)
                (eff.cfg s) eff.parents rfl, hM]; exact hm
            exact ⟨fun _ => hM', fun _ _ => mem_setAdd.2 (Or.inl rfl)⟩
          · intro x hx
            show x ∈ setAdd s e.cached ↔ x ∈ e.cached
            rw [mem_setAdd]; simp [hx]
    · simp only [hm]
      refine ⟨.refl hc, hsame (fun h => ?_)⟩
      rw [hM] at h; exact absurd h hm

theorem addFold_inv {s : String} {sel : Sel} (rem : List String) (st : Idx Sel) (nd : rem.Nodup)
    (hc : Core st) (hcfg0 : ∃ d, alGet s st.ipsets = some d ∧ d.sel = sel)
    (hq : ∀ p ∈ st.eps, (p.1 ∈ rem → s ∉ p.2.cached) ∧ (p.1 ∉ rem → CacheOK matchSel st p.2 s))
    (ho : ∀ p ∈ st.eps, ∀ s', s' ≠ s → CacheOK matchSel st p.2 s') :
    Inv matchSel (rem.foldl (fun st id => addIPSetScanOne matchSel s sel id st) st) := by
  induction rem generalizing st with
  | nil =>
    refine ⟨hc, fun p hp s' => ?_⟩
    by_cases h : s' = s
    · subst h; exact (hq p hp).2 (by simp)
    · exact ho p hp s' h
  | cons id rem ih =>
    rw [List.foldl_cons]
    obtain ⟨hid, nd'⟩ := List.nodup_cons.1 nd
    have hq0 : ∀ e, alGet id st.eps = some e → s ∉ e.cached :=
      fun e he => (hq _ (alGet_some_mem he)).1 (List.mem_cons_self ..)
    obtain ⟨k, hstep⟩ := addScanOne_spec matchSel id hc hcfg0 hq0
    have hcfg0' : ∃ d, alGet s (addIPSetScanOne matchSel s sel id st).ipsets = some d ∧ d.sel = sel := by
      obtain ⟨d, hs, hsel⟩ := hcfg0
      rcases cfgAt_cases (k.cfg s) with ⟨_, h2⟩ | ⟨d0, d', h1, h2, hcf⟩
      · rw [hs] at h2; cases h2
      · rw [hs] at h2; cases h2
        simp only [cfgOf, Prod.mk.injEq] at hcf
        exact ⟨d', h1, hcf.1.trans hsel⟩
    apply ih _ nd' k.core hcfg0'
    · intro p' hp'
      rcases hstep p' hp' with ⟨h0, hne⟩ | ⟨hk, hok, _⟩
      · refine ⟨fun hr => (hq p' h0).1 (List.mem_cons_of_mem _ hr), fun hr => ?_⟩
        have : p'.1 ∉ id :: rem := by
          intro h; rcases List.mem_cons.1 h with h | h
          · exact hne h
          · exact hr h
        exact k.cacheOK matchSel ((hq p' h0).2 this)
      · exact ⟨fun hr => absurd (hk ▸ hr) hid, fun _ => hok⟩
    · intro p' hp' s' hs'
      rcases hstep p' hp' with ⟨h0, _⟩ | ⟨_, _, e, he, hi, hmemc⟩
      · exact k.cacheOK matchSel (ho p' h0 s' hs')
      · exact (CacheOK_congr matchSel (k.cfg s') k.parents hi (hmemc s' hs')).2 (ho (id, e) he s' hs')

/-- second half of `UpdateIPSet` (the set id is not in use) -/
theorem addIPSet_inv {st : Idx Sel} (s : String) (sel : Sel) (proto : Nat) (port : String)
    (h : Inv matchSel st) (habs : alGet s st.ipsets = none) :
    Inv matchSel (addIPSet matchSel s sel proto port st) := by
  have hc := h.core
  unfold addIPSet
  simp only
  have hget : ∀ s', alGet s' (alSet s (⟨sel, proto, port, []⟩ : IpSetData Sel) st.ipsets) =
      if s' = s then some ⟨sel, proto, port, []⟩ else alGet s' st.ipsets := fun s' => alGet_alSet _ _ _ _
  have hrc : ∀ s' m, refCount ({ st with ipsets := alSet s (⟨sel, proto, port, []⟩ : IpSetData Sel) st.ipsets } : Idx Sel) s' m
      = refCount st s' m := by
    intro s' m
    unfold refCount
    simp only [hget]
    by_cases hs : s' = s
    · subst hs; simp [habs, refOf]
    · simp [hs]
  have hnotc : ∀ p ∈ st.eps, s ∉ p.2.cached := by
    intro p hp hx
    have := (hc.ep p hp).cachedPresent s hx
    rw [habs] at this; cases this
  have hcfg : ∀ s', s' ≠ s →
      cfgAt ({ st with ipsets := alSet s (⟨sel, proto, port, []⟩ : IpSetData Sel) st.ipsets } : Idx Sel) s' = cfgAt st s' :=
    fun s' hne => cfgAt_congr_get (by rw [hget, if_neg hne])
  have hcontrib : ∀ (e : EpData) (s' : String), s' ≠ s →
      contribAt ({ st with ipsets := alSet s (⟨sel, proto, port, []⟩ : IpSetData Sel) st.ipsets } : Idx Sel) e s'
        = contribAt st e s' := fun e s' hne => contribAt_congr (hcfg s' hne) rfl
  have hmatch : ∀ (e : EpData) (s' : String), s' ≠ s →
      matchAt matchSel ({ st with ipsets := alSet s (⟨sel, proto, port, []⟩ : IpSetData Sel) st.ipsets } : Idx Sel) e s'
        = matchAt matchSel st e s' := fun e s' hne => matchAt_congr matchSel (hcfg s' hne) rfl rfl
  apply addFold_inv matchSel _ _ hc.epsNodup
  · -- `Core` of the state with `s` installed (empty refcount map: no refcount changes)
    refine ⟨⟨einv_congr hc.wf.e rfl rfl (fun _ => rfl) (fun s' m => by rw [hrc]), hc.wf.nets, ?_, ?_⟩,
      hc.nb, hc.epsNodup, fun p hp => (hc.ep p hp).of_present fun x hx => ?_, ?_⟩
    · exact keys_alSet_nodup hc.wf.sets
    · intro p hp
      rcases mem_alSet hp with rfl | hp
      · exact ⟨List.nodup_nil, fun q hq => by cases hq⟩
      · exact hc.wf.refwf p hp
    · show (alGet x (alSet s _ st.ipsets)).isSome = true
      rw [hget]
      split
      · rfl
      · exact hx
    · intro s' m
      rw [hrc, hc.refc]
      apply sumBy_congr
      intro p hp
      unfold term
      by_cases hs : s' = s
      · subst hs; simp [hnotc p hp]
      · rw [hcontrib p.2 s' hs]
  · exact ⟨⟨sel, proto, port, []⟩, by rw [hget]; simp, rfl⟩
  · -- nobody caches `s` yet, and every endpoint is still to be scanned
    intro p hp
    refine ⟨fun _ => hnotc p hp, fun hn => ?_⟩
    exact absurd (List.mem_map.2 ⟨p, hp, rfl⟩) hn
  · -- the other sets' `CacheOK` is transported
    intro p hp s' hs'
    have := h.lab p hp s'
    unfold CacheOK at this ⊢
    rw [hmatch p.2 s' hs', hcontrib p.2 s' hs']
    exact this

theorem updateIPSet_inv {st : Idx Sel} (s : String) (sel : Sel) (proto : Nat) (port : String)
    (h : Inv matchSel st) : Inv matchSel (updateIPSet matchSel s sel proto port st) := by
  have hc := h.core
  unfold updateIPSet
  cases hget : alGet s st.ipsets with
  | none => exact addIPSet_inv matchSel s sel proto port h hget
  | some d =>
    simp only
    split
    · exact h
    · have hmemd : (s, d) ∈ st.ipsets := alGet_some_mem hget
      obtain ⟨knd, kpos⟩ := hc.wf.refwf _ hmemd
      have hpos : ∀ m ∈ d.refc.map (fun (q : Member × Nat) => q.1), 0 < refCount st s m := by
        intro m hm
        obtain ⟨q, hq, rfl⟩ := List.mem_map.1 hm
        rw [refCount_of_some hget]
        unfold refOf
        rw [alGet_of_mem knd (show (q.1, q.2) ∈ d.refc from hq)]
        exact kpos q hq
      obtain ⟨wL, cL⟩ := forceRemoveAll_spec s (d.refc.map (fun (q : Member × Nat) => q.1)) hc.wf knd hpos
      generalize hL : (d.refc.map (fun (q : Member × Nat) => q.1)).foldl (fun st m => forceRemove s m st) st = stL at *
      have effL := cL.eff
      have hzero : ∀ m, refCount stL s m = 0 := by
        intro m
        rw [cL.refc]
        by_cases hm : m ∈ d.refc.map (fun (q : Member × Nat) => q.1)
        · simp [hm]
        · simp only [hm, and_false, if_false]
          rw [refCount_of_some hget]
          unfold refOf
          cases hx : alGet m d.refc with
          | none => rfl
          | some v => exact absurd (List.mem_map.2 ⟨_, alGet_some_mem hx, rfl⟩) hm
      have hpresL : (alGet s stL.ipsets).isSome = true := by rw [effL.present, hget]; rfl
      obtain ⟨dL, hgetL⟩ := Option.isSome_iff_exists.1 hpresL
      simp only [deleteIPSetCore, hgetL]
      apply addIPSet_inv
      · refine inv_after_delete matchSel (s := s) (st := stL) ⟨rfl, rfl, rfl, rfl, rfl, rfl⟩ ?_ wL
          (by rw [effL.bad]; exact hc.nb) (by rw [effL.eps]; exact hc.epsNodup)
          (fun p hp => (hc.ep p (effL.eps ▸ hp)).of_present fun x hx => by rwa [effL.present])
          (fun s' hs' m => by
            rw [cL.refc, effL.eps, sumBy_congr (fun p _ => term_congr (effL.cfg s') m p)]
            simp only [hs', false_and, if_false]
            exact hc.refc s' m)
          (lab_transfer matchSel h.lab (fun p hp => effL.eps ▸ hp) effL.cfg effL.parents)
        -- emission: after the forced removals the consumer holds nothing of `s`
        exact einv_deleted _ wL.e _ (Or.inr ⟨rfl, hzero⟩)
      · show alGet s (alErase s stL.ipsets) = none
        rw [alGet_alErase]; simp

theorem permEps_inv {st : Idx Sel} (l : List (String × EpData)) (hp : l.Perm st.eps) (h : Inv matchSel st) :
    Inv matchSel ({ st with eps := l } : Idx Sel) := by
  have hc := h.core
  have hm : ∀ p, p ∈ l ↔ p ∈ st.eps := fun p => hp.mem_iff
  refine ⟨⟨wf_of_sameButEps hc.wf (.of_eps _ _) (fun p hp' => hc.wf.nets p ((hm p).1 hp')),
    hc.nb, (hp.map (fun (q : String × EpData) => q.1)).nodup_iff.2 hc.epsNodup,
    fun p hp' => (hc.ep p ((hm p).1 hp')).of_present fun _ h => h, ?_⟩, fun p hp' s => h.lab p ((hm p).1 hp') s⟩
  intro s m
  show refCount st s m = sumBy (term st s m) l
  rw [sumBy_perm _ hp]; exact hc.refc s m

theorem inv_of_same_lookups {st : Idx Sel} (l : List (String × IpSetData Sel)) (h : Inv matchSel st)
    (hcfg : ∀ s, cfgAt ({ st with ipsets := l } : Idx Sel) s = cfgAt st s)
    (hrc : ∀ s m, refCount ({ st with ipsets := l } : Idx Sel) s m = refCount st s m)
    (hk : (l.map (·.1)).Nodup) (hr : RefWF ({ st with ipsets := l } : Idx Sel)) :
    Inv matchSel ({ st with ipsets := l } : Idx Sel) :=
  ⟨h.core.of_eqs (einv_congr h.core.wf.e rfl rfl (fun _ => rfl) (fun s m => by rw [hrc])) rfl rfl hk hr hcfg hrc,
    lab_transfer matchSel h.lab (fun p hp => hp) hcfg rfl⟩

theorem permIPSets_inv {st : Idx Sel} (l : List (String × IpSetData Sel)) (hp : l.Perm st.ipsets)
    (h : Inv matchSel st) : Inv matchSel ({ st with ipsets := l } : Idx Sel) := by
  have hget : ∀ k, alGet k l = alGet k st.ipsets := alGet_perm h.core.wf.sets hp
  exact inv_of_same_lookups matchSel l h (fun s => cfgAt_congr_get (hget s)) (fun s m => refCount_congr_get (hget s) m)
    ((hp.map (fun (q : String × IpSetData Sel) => q.1)).nodup_iff.2 h.core.wf.sets)
    (fun p hp' => h.core.wf.refwf p (hp.mem_iff.1 hp'))

def permCachedFn (l : List String) (e : EpData) : EpData :=
  if l.Perm e.cached then { e with cached := l } else e

theorem permCachedFn_input (l : List String) (e : EpData) : (permCachedFn l e).input = e.input := by
  unfold permCachedFn; split <;> rfl

theorem mem_permCachedFn (l : List String) (e : EpData) (x : String) :
    x ∈ (permCachedFn l e).cached ↔ x ∈ e.cached := by
  unfold permCachedFn
  split
  · exact List.Perm.mem_iff ‹_›
  · rfl

theorem permCachedFn_nodup (l : List String) {e : EpData} (h : e.cached.Nodup) : (permCachedFn l e).cached.Nodup := by
  unfold permCachedFn
  split
  · exact (List.Perm.nodup_iff ‹_›).2 h
  · exact h

theorem permCached_inv {st : Idx Sel} (id : String) (l : List String) (h : Inv matchSel st) :
    Inv matchSel ({ st with eps := alMod id (permCachedFn l) st.eps } : Idx Sel) := by
  have hc := h.core
  cases hget : alGet id st.eps with
  | none =>
    rw [alMod_absent (alGet_eq_none_iff.1 hget)]
    exact h
  | some e =>
    have hi := permCachedFn_input l e
    have hmemc := mem_permCachedFn l e
    have hmem := alGet_some_mem hget
    have hterm : ∀ s m, term st s m (id, permCachedFn l e) = term st s m (id, e) := fun s m => by
      unfold term; simp only [hmemc]; rw [contribAt_congr rfl hi]
    obtain ⟨_, n1, _, q1⟩ := EpData.input_eq.1 hi
    refine ⟨core_replace hc id (some (permCachedFn l e)) hc.wf hc.nb (.of_eps _ _) (fun _ => rfl)
      (perm_alMod hc.epsNodup hget) ?_ (fun s m => by rw [hget]; simp only [Option.elim, hterm]), fun p' hp' s => ?_⟩
    · rintro _ ⟨⟩
      exact ⟨⟨permCachedFn_nodup l (hc.ep _ hmem).cachedNodup, fun x hx => (hc.ep _ hmem).cachedPresent x ((hmemc x).1 hx),
        q1 ▸ (hc.ep _ hmem).parentsNodup⟩, n1 ▸ hc.wf.nets _ hmem⟩
    · rcases mem_alMod hp' with ⟨h1, _⟩ | ⟨v, hv, rfl⟩
      · exact h.lab _ h1 s
      · cases (alGet_of_mem hc.epsNodup hv).symm.trans hget
        exact (CacheOK_congr matchSel rfl rfl hi (hmemc s)).2 (h.lab _ hmem s)

def permRefcFn (l : List (Member × Nat)) (d : IpSetData Sel) : IpSetData Sel :=
  if l.Perm d.refc then { d with refc := l } else d

theorem permRefc_inv {st : Idx Sel} (s : String) (l : List (Member × Nat)) (h : Inv matchSel st) :
    Inv matchSel ({ st with ipsets := alMod s (permRefcFn l) st.ipsets } : Idx Sel) := by
  have hc := h.core
  have hips : ({ st with ipsets := alMod s (permRefcFn l) st.ipsets } : Idx Sel).ipsets
      = alMod s (permRefcFn l) st.ipsets := rfl
  have hcfgf : ∀ d : IpSetData Sel, cfgOf (permRefcFn l d) = cfgOf d := by
    intro d; unfold permRefcFn; by_cases hp : l.Perm d.refc <;> simp [hp, cfgOf]
  have hcfg := cfgAt_alMod hips hcfgf
  have hrc : ∀ s' m, refCount ({ st with ipsets := alMod s (permRefcFn l) st.ipsets } : Idx Sel) s' m
      = refCount st s' m := by
    intro s' m
    cases hg : alGet s st.ipsets with
    | none => exact refCount_congr_get (by rw [hips, alGet_alMod, hg]; split <;> simp [*]) m
    | some d =>
      rw [refCount_alMod hg hips]
      split
      · next e =>
        rw [e, refCount_of_some hg]
        unfold permRefcFn refOf
        split
        · next hp => rw [alGet_perm (hc.wf.refwf _ (alGet_some_mem hg)).1 hp]
        · rfl
      · rfl
  refine inv_of_same_lookups matchSel _ h hcfg hrc (by rw [alMod_keys]; exact hc.wf.sets)
    (refwf_alMod hc.wf.refwf hips ?_)
  rintro d ⟨h1, h2⟩
  by_cases hp : l.Perm d.refc
  · simp only [permRefcFn, hp, if_true]
    exact ⟨(hp.map (fun (q : Member × Nat) => q.1)).nodup_iff.2 h1, fun q hq => h2 q (hp.mem_iff.1 hq)⟩
  · simp only [permRefcFn, hp, if_false]; exact ⟨h1, h2⟩

/-- what an operation must satisfy: CIDRs are canonical (every `ip.CIDRFrom…` constructor masks). -/
def Op.ok : Op Sel → Prop
  | .updateEndpoint _ _ nets _ _ => ∀ c ∈ nets, c.canon
  | _ => True

theorem step_inv {st : Idx Sel} (op : Op Sel) (hop : op.ok) (h : Inv matchSel st) :
    Inv matchSel (step matchSel st op) := by
  cases op with
  | updateIPSet s sel proto port => exact updateIPSet_inv matchSel s sel proto port h
  | deleteIPSet s => exact deleteIPSet_inv matchSel s h
  | updateEndpoint id labels nets ports parents =>
    exact updateEndpoint_inv matchSel id labels nets ports parents h hop
  | deleteEndpoint id => exact deleteEndpoint_inv matchSel id h
  | updateParentLabels pid labels => exact updateParentLabels_inv matchSel pid labels h
  | deleteParentLabels pid => exact deleteParentLabels_inv matchSel pid h
  | permEps l =>
    simp only [step]
    split
    · rename_i hp; exact permEps_inv matchSel l hp h
    · exact h
  | permIPSets l =>
    simp only [step]
    split
    · rename_i hp; exact permIPSets_inv matchSel l hp h
    · exact h
  | permCached id l => exact permCached_inv matchSel id l h
  | permRefc s l => exact permRefc_inv matchSel s l h

theorem run_inv {st : Idx Sel} (ops : List (Op Sel)) (hops : ∀ op ∈ ops, op.ok) (h : Inv matchSel st) :
    Inv matchSel (run matchSel st ops) :=
  List.foldlRecOn ops _ h fun _ h op ho => step_inv matchSel op (hops op ho) h

end Main
end CalicoVerif.C04
