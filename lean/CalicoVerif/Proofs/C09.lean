import CalicoVerif.Model.C09
import CalicoVerif.Proofs.C08
/-! Lemmas and intermediate theorems for C09 (policy-group chain, tier loop, profile section,
composition into the endpoint verdict), in three layers.

1. `seqEval`, `profSeq`, `targetsSeq`, `tiersSeq` are reference programs at the level of chains, over an abstract
   `call` for the chains jumped to; the `*_exact` theorems say the rendered rules run like them; the only hypothesis
   on the mark is that a group chain is entered with the accept and pass bits clear (`groupRulesFrom_exact`,
   `policy_group_chain_exact`).
2. `Behaves` / `BehavesP` say what the result of a `call` tells about a `PolOutcome`, given the state of the verdict
   bits on entry (`clearAP`, `hasA`, `hasP`: none set, accept only, pass only; all three include "drop clear"); `Shape`, `ContShape`, `TShape`, `VShape`, `PShape` are the forms of
   result at the level of a policy, a list of targets, the tiers, the endpoint and a profile.
3. The `*_shape` theorems: a reference program of layer 1 whose calls behave as in layer 2 gives the result of
   `tierResult` / `endpointVerdict`; `*_behave` discharge layer 2 for the chains of a chain set.

Fuel is `F + 4` at the endpoint chain because the calls nest four deep: endpoint chain, group chain, policy chain,
the `call` inside a rendered rule. -/
namespace CalicoVerif.C09
open CalicoVerif.Netfilter CalicoVerif.Policy CalicoVerif.C08

/-- reference behaviour of a policy group: enforced policies in order, stop at the first verdict -/
def seqEval (cfg : Cfg) (call : String → Mark → Result) : List Pol → Mark → Result
  | [], m => .returned m
  | p :: ps, m =>
    if p.staged then seqEval cfg call ps m
    else if m &&& (cfg.markPass ||| cfg.markAccept) ≠ 0 then .returned m
    else match call p.chain m with
      | .returned m' => seqEval cfg call ps m'
      | other => other

theorem seqEval_of_verdict (cfg : Cfg) (call : String → Mark → Result) (ps : List Pol) (m : Mark)
    (h : m &&& (cfg.markPass ||| cfg.markAccept) ≠ 0) : seqEval cfg call ps m = .returned m := by
  induction ps with
  | nil => rfl
  | cons p ps ih =>
    rw [seqEval, ih, if_pos h]
    exact ite_self _

section groupChain
variable (cfg : Cfg) (env : Env) (pkt : Packet) (m : Mark)

theorem returnOnVerdict_matches :
    (returnOnVerdict cfg).matches env pkt m = !(m &&& (cfg.markPass ||| cfg.markAccept) == 0) :=
  matches_mark_ne _ _ _ _

theorem groupJump_matches (k : Nat) (c : String) :
    (groupJump cfg k c).matches env pkt m =
      (k % 5 == 0 || m &&& (cfg.markPass ||| cfg.markAccept) == 0) := by
  unfold groupJump Rule.matches
  split <;> simp [Clause.matches, xorb, *]

end groupChain

theorem groupRulesFrom_exact (cfg : Cfg) (env : Env) (call : String → Mark → Result) (pkt : Packet)
    (ps : List Pol) (k : Nat) (m : Mark)
    (h0 : k = 0 → m &&& (cfg.markPass ||| cfg.markAccept) = 0) :
    runRules env call pkt (groupRulesFrom cfg k ps) m = seqEval cfg call ps m := by
  induction ps generalizing k m with
  | nil => rfl
  | cons p ps ih =>
    rw [groupRulesFrom, seqEval]
    cases p.staged
    · simp only [Bool.false_eq_true, if_false, List.append_assoc, List.singleton_append]
      by_cases hm : m &&& (cfg.markPass ||| cfg.markAccept) = 0
      · -- no verdict yet: the return rule (if any) is passed over, the jump is taken
        rw [runRules_ite_of_not_matches, runRules_cons_jump rfl, groupJump_matches, hm, beq_self_eq_true,
          Bool.or_true, if_pos rfl, if_neg (fun h => h rfl)]
        · cases call p.chain m <;> first | rfl | exact ih _ _ (fun h => absurd h (Nat.succ_ne_zero k))
        · intro; rw [returnOnVerdict_matches, hm]; rfl
      · -- a verdict bit is set (so `k ≠ 0`): every 5th policy a RETURN rule fires, the others' jumps are guarded
        have hk0 : k ≠ 0 := fun hk => hm (h0 hk)
        have hb : (m &&& (cfg.markPass ||| cfg.markAccept) == 0) = false := beq_false_of_ne hm
        rw [if_pos hm]
        by_cases hk : k % 5 = 0
        · rw [if_pos ⟨hk0, hk⟩, List.singleton_append, runRules_cons_ret rfl, returnOnVerdict_matches, hb]; rfl
        · rw [if_neg (fun h => hk h.2), List.nil_append, runRules_cons_of_not_matches, ih _ _ (fun h => absurd h (Nat.succ_ne_zero k)),
            seqEval_of_verdict cfg call ps m hm]
          rw [groupJump_matches, hb, Bool.or_false]; exact beq_false_of_ne hk
    · exact ih k m h0

/-- **The policy-group chain is exact for groups of any length**: entered with the accept and pass
bits clear (as the endpoint chain guarantees), it runs the enforced policies in order and stops
at the first one that sets a verdict bit or terminates the packet; staged policies never run. -/
theorem policy_group_chain_exact (cfg : Cfg) (env : Env) (call : String → Mark → Result) (pkt : Packet)
    (g : Group) (m : Mark) (h0 : m &&& (cfg.markPass ||| cfg.markAccept) = 0) :
    runRules env call pkt (policyGroupChain cfg g).rules m = seqEval cfg call g.pols m :=
  groupRulesFrom_exact cfg env call pkt g.pols 0 m (fun _ => h0)

theorem seqEval_ignores_staged (cfg : Cfg) (call : String → Mark → Result) (ps : List Pol) (m : Mark) :
    seqEval cfg call ps m = seqEval cfg call (ps.filter (!·.staged)) m := by
  induction ps generalizing m with
  | nil => rfl
  | cons p ps ih =>
    cases hs : p.staged
    · simp only [seqEval, hs, Bool.false_eq_true, if_false, List.filter_cons, Bool.not_false, if_true]
      split
      · rfl
      · cases call p.chain m <;> simp only [ih]
    · simp only [seqEval, hs, if_true, List.filter_cons, Bool.not_true, Bool.false_eq_true, if_false, ih]

def denyV (cfg : Cfg) : Netfilter.Verdict := if cfg.reject then .reject else .drop

/-- reference behaviour of the profile section (fail closed) -/
def profSeq (cfg : Cfg) (call : String → Mark → Result) : List String → Mark → Result
  | [], m => .verdict (denyV cfg) m
  | p :: ps, m =>
    match call p m with
    | .returned m' => if m' &&& cfg.markAccept == cfg.markAccept then .returned m' else profSeq cfg call ps m'
    | other => other

/-- **The profile section of the endpoint chain is exact for any number of profiles**: anything
no profile accepts is denied (fail closed). -/
theorem profile_section_exact (cfg : Cfg) (e : EpCfg) (env : Env) (call : String → Mark → Result)
    (pkt : Packet) (profiles : List String) (m : Mark) :
    runRules env call pkt (profileRules cfg e profiles) m = profSeq cfg call profiles m := by
  induction profiles generalizing m with
  | nil =>
    simp only [profileRules, List.flatMap_nil, List.nil_append]
    rw [runRules_ite_inert rfl (fun _ => rfl), runRules_cons_verdict (denyAction_verdict cfg)]; rfl
  | cons p ps ih =>
    have hcons : profileRules cfg e (p :: ps) =
        ({ action := .jump p } : Netfilter.Rule) ::
        { clauses := [.mark false cfg.markAccept cfg.markAccept], action := .ret,
          comments := ["Return if profile accepted"] } :: profileRules cfg e ps := by
      simp only [profileRules, List.flatMap_cons, List.cons_append, List.nil_append, List.append_assoc]
    rw [hcons, runRules_bare_jump, profSeq]
    cases call p m <;> first | rfl | skip
    simp only
    rw [runRules_cons_ret rfl, matches_mark_eq, ih]

def tierTargets (t : Tier) : List (String × Bool) :=
  t.groups.flatMap fun g => g.jumpTargets.map fun c => (c, g.hasNonStaged)

def returnRules (cfg : Cfg) (e : EpCfg) (hns : Bool) : List Netfilter.Rule :=
  if hns then
    (if e.chainType = .untracked then
      [({ clauses := [.mark false cfg.markAccept cfg.markAccept], action := .notrack } : Netfilter.Rule)] else [])
    ++ [{ clauses := [.mark false cfg.markAccept cfg.markAccept], action := .ret,
          comments := ["Return if policy accepted"] }]
  else []

/-- what `groupEpRules` renders per jump target -/
def targetRules (cfg : Cfg) (e : EpCfg) (th : String × Bool) : List Netfilter.Rule :=
  [({ clauses := [.mark false 0 cfg.markPass], action := .jump th.1 } : Netfilter.Rule)] ++ returnRules cfg e th.2

theorem groups_flatMap_eq (cfg : Cfg) (e : EpCfg) (t : Tier) :
    t.groups.flatMap (groupEpRules cfg e) = (tierTargets t).flatMap (targetRules cfg e) := by
  unfold tierTargets
  induction t.groups with
  | nil => rfl
  | cons g gs ih =>
    simp only [List.flatMap_cons, List.flatMap_append, ih]
    congr 1
    simp only [groupEpRules, List.flatMap_map, targetRules, returnRules]

/-- reference behaviour of the policy jumps of a tier: each policy (or group) chain is entered only
while the pass bit is clear; after a group with enforced policies an accept bit returns. -/
def targetsSeq (cfg : Cfg) (call : String → Mark → Result) (cont : Mark → Result) :
    List (String × Bool) → Mark → Result
  | [], m => cont m
  | th :: ts, m =>
    match (if m &&& cfg.markPass == 0 then call th.1 m else .returned m) with
    | .returned m' =>
      if th.2 && (m' &&& cfg.markAccept == cfg.markAccept) then .returned m'
      else targetsSeq cfg call cont ts m'
    | other => other

theorem targets_exact (cfg : Cfg) (e : EpCfg) (env : Env) (call : String → Mark → Result) (pkt : Packet)
    (rest : List Netfilter.Rule) (ts : List (String × Bool)) (m : Mark) :
    runRules env call pkt (ts.flatMap (targetRules cfg e) ++ rest) m =
      targetsSeq cfg call (fun m' => runRules env call pkt rest m') ts m := by
  induction ts generalizing m with
  | nil => rfl
  | cons th ts ih =>
    obtain ⟨c, hns⟩ := th
    rw [List.flatMap_cons, targetRules, List.append_assoc, List.append_assoc, List.singleton_append,
      runRules_cons_jump rfl, matches_mark_eq, targetsSeq]
    -- after the (possibly skipped) jump we are at the return rule(s) with some mark m'
    have hret : ∀ m', runRules env call pkt
        (returnRules cfg e hns ++ (ts.flatMap (targetRules cfg e) ++ rest)) m' =
        if hns && (m' &&& cfg.markAccept == cfg.markAccept) then .returned m'
        else targetsSeq cfg call (fun m' => runRules env call pkt rest m') ts m' := by
      intro m'
      cases hns
      · exact ih m'
      · simp only [returnRules, if_true, List.append_assoc, Bool.true_and]
        rw [runRules_ite_inert rfl (fun _ => rfl), List.singleton_append, runRules_cons_ret rfl, matches_mark_eq, ih]
    cases m &&& cfg.markPass == 0
    · exact hret m
    · simp only [if_true]
      cases call c m <;> first | rfl | exact hret _

def endOfTier (cfg : Cfg) (e : EpCfg) (t : Tier) (next : Mark → Result) (m : Mark) : Result :=
  if (e.chainType = .normal ∨ e.chainType = .forward) ∧ t.groups.any (·.hasNonStaged) = true ∧ ¬ t.defaultPass then
    if m &&& cfg.markPass == 0 then .verdict (denyV cfg) m else next m
  else next m

/-- **One tier of the endpoint chain is exact** (any number of groups and policies, any chain
type, flow logs on or off): the pass bit is cleared, the policy / group chains are entered in
order while no policy has passed, an accept returns, and at the end a tier that holds an enforced
policy and whose default action is not Pass denies the packet unless a policy passed it —
otherwise evaluation continues with the next tier / the profiles (`rest`). A tier without
policies renders nothing. -/
theorem tier_rules_exact (cfg : Cfg) (e : EpCfg) (env : Env) (call : String → Mark → Result) (pkt : Packet)
    (t : Tier) (rest : List Netfilter.Rule) (m : Mark) :
    runRules env call pkt (tierRules cfg e t ++ rest) m =
      if t.groups.isEmpty then runRules env call pkt rest m
      else targetsSeq cfg call (endOfTier cfg e t (fun m' => runRules env call pkt rest m'))
        (tierTargets t) (m &&& ~~~ cfg.markPass) := by
  unfold tierRules
  split
  · rfl
  · simp only [List.append_assoc, List.cons_append, List.nil_append]
    rw [runRules_bare_continues rfl, groups_flatMap_eq, targets_exact]
    congr 1
    funext m'
    -- the end-of-tier rules: the NFLOG ones are inert, the deny one fires while the pass bit is clear
    unfold endOfTier
    by_cases hct : e.chainType = .normal ∨ e.chainType = .forward
    · rw [if_pos hct]
      by_cases hd : t.groups.any (·.hasNonStaged) = true ∧ ¬ t.defaultPass = true
      · rw [if_pos hd, List.append_assoc, runRules_ite_inert rfl (fun _ => rfl), List.singleton_append,
          runRules_cons_verdict (denyAction_verdict cfg), matches_mark_eq]
        exact (if_pos ⟨hct, hd⟩).symm
      · rw [if_neg hd, runRules_ite_inert rfl (fun _ => rfl)]
        exact (if_neg (fun h => hd h.2)).symm
    · rw [if_neg hct]
      exact (if_neg (fun h => hct h.1)).symm

def tiersSeq (cfg : Cfg) (e : EpCfg) (call : String → Mark → Result) (final : Mark → Result) :
    List Tier → Mark → Result
  | [], m => final m
  | t :: ts, m =>
    if t.groups.isEmpty then tiersSeq cfg e call final ts m
    else targetsSeq cfg call (endOfTier cfg e t (tiersSeq cfg e call final ts)) (tierTargets t)
      (m &&& ~~~ cfg.markPass)

/-- **The tier loop of the endpoint chain is exact for any number of tiers, groups and policies**:
tiers are evaluated in order; within a tier see `tier_rules_exact`; after the last tier the
profile section / end of chain (`rest`) follows. -/
theorem tiers_exact (cfg : Cfg) (e : EpCfg) (env : Env) (call : String → Mark → Result) (pkt : Packet)
    (tiers : List Tier) (rest : List Netfilter.Rule) (m : Mark) :
    runRules env call pkt (tiers.flatMap (tierRules cfg e) ++ rest) m =
      tiersSeq cfg e call (fun m' => runRules env call pkt rest m') tiers m := by
  induction tiers generalizing m with
  | nil => rfl
  | cons t ts ih =>
    rw [List.flatMap_cons, List.append_assoc, tiersSeq, tier_rules_exact]
    have : (fun m' => runRules env call pkt (ts.flatMap (tierRules cfg e) ++ rest) m') =
        tiersSeq cfg e call (fun m' => runRules env call pkt rest m') ts := funext ih
    rw [this, ih]

structure VBits (cfg : Cfg) : Prop where
  aNe : cfg.markAccept ≠ 0
  pNe : cfg.markPass ≠ 0
  ap : cfg.markAccept &&& cfg.markPass = 0

/-- non-vacuity: a 7-policy group (two staged) crosses the return stride -/
example : (groupRulesFrom {} 0 ((List.range 7).map fun i => { chain := s!"p{i}", staged := i = 2 ∨ i = 3 })).length = 5 := by
  decide
example : (0 : Mark) &&& (({} : Cfg).markPass ||| ({} : Cfg).markAccept) = 0 := by decide

def clearAP (cfg : Cfg) (m : Mark) : Prop :=
  m &&& cfg.markAccept = 0 ∧ m &&& cfg.markPass = 0 ∧ m &&& cfg.markDrop = 0
def hasA (cfg : Cfg) (m : Mark) : Prop :=
  m &&& cfg.markAccept = cfg.markAccept ∧ m &&& cfg.markPass = 0 ∧ m &&& cfg.markDrop = 0
def hasP (cfg : Cfg) (m : Mark) : Prop :=
  m &&& cfg.markPass = cfg.markPass ∧ m &&& cfg.markAccept = 0 ∧ m &&& cfg.markDrop = 0

theorem or_eq_zero {x y : Mark} : x ||| y = 0 ↔ x = 0 ∧ y = 0 := BitVec.or_eq_zero_iff

/-! what the three mark tests of the endpoint and group chains (`mark & (pass|accept) == 0`,
`mark & pass == 0`, `mark & accept == accept`) give in the three states of the mark -/
section tests
variable {cfg : Cfg} (vb : VBits cfg) {m : Mark}
include vb

theorem clear_tests (h : clearAP cfg m) :
    (m &&& (cfg.markPass ||| cfg.markAccept) == 0) = true ∧ (m &&& cfg.markPass == 0) = true ∧
    (m &&& cfg.markAccept == cfg.markAccept) = false := by
  obtain ⟨ha, hp, _⟩ := h
  refine ⟨?_, ?_, test_eq_false ha vb.aNe⟩
  · rw [BitVec.and_or_distrib_left, ha, hp]; rfl
  · rw [hp]; rfl

theorem hasA_tests (h : hasA cfg m) :
    (m &&& (cfg.markPass ||| cfg.markAccept) == 0) = false ∧ (m &&& cfg.markPass == 0) = true ∧
    (m &&& cfg.markAccept == cfg.markAccept) = true := by
  obtain ⟨ha, hp, _⟩ := h
  refine ⟨beq_false_of_ne fun h0 => vb.aNe ?_, by rw [hp]; rfl, by rw [ha]; exact beq_self_eq_true _⟩
  rw [BitVec.and_or_distrib_left, ha] at h0
  exact (or_eq_zero.1 h0).2

theorem hasP_tests (h : hasP cfg m) :
    (m &&& (cfg.markPass ||| cfg.markAccept) == 0) = false ∧ (m &&& cfg.markPass == 0) = false ∧
    (m &&& cfg.markAccept == cfg.markAccept) = false := by
  obtain ⟨hp, ha, _⟩ := h
  refine ⟨beq_false_of_ne fun h0 => vb.pNe ?_, by rw [hp]; exact beq_false_of_ne vb.pNe, test_eq_false ha vb.aNe⟩
  rw [BitVec.and_or_distrib_left, hp] at h0
  exact (or_eq_zero.1 h0).1

end tests

theorem clearP_of_A0 {cfg : Cfg} {m : Mark} (h : m &&& cfg.markAccept = 0) (hd : m &&& cfg.markDrop = 0) :
    clearAP cfg (m &&& ~~~ cfg.markPass) :=
  ⟨and_not_and_eq_zero _ h, and_not_and_self _ _, and_not_and_eq_zero _ hd⟩

def Shape (cfg : Cfg) (o : PolOutcome) (r : Result) : Prop :=
  match o with
  | .allow => ∃ m', r = .returned m' ∧ hasA cfg m'
  | .pass => ∃ m', r = .returned m' ∧ hasP cfg m'
  | .deny => ∃ m', r = .verdict (denyV cfg) m'
  | .noMatch => ∃ m', r = .returned m' ∧ clearAP cfg m'

def Behaves (cfg : Cfg) (call : String → Mark → Result) (c : String) (o : PolOutcome) : Prop :=
  ∀ m, clearAP cfg m → Shape cfg o (call c m)

def firstDecision (l : List PolOutcome) : PolOutcome := (l.find? (· ≠ .noMatch)).getD .noMatch

theorem firstDecision_cons (o : PolOutcome) (l : List PolOutcome) :
    firstDecision (o :: l) = if o = .noMatch then firstDecision l else o := by
  cases o <;> rfl

theorem firstDecision_append (a b : List PolOutcome) :
    firstDecision (a ++ b) = if firstDecision a = .noMatch then firstDecision b else firstDecision a := by
  induction a with
  | nil => rfl
  | cons o os ih =>
    rw [List.cons_append, firstDecision_cons, firstDecision_cons, ih]
    cases o <;> rfl

theorem seq_shape (cfg : Cfg) (vb : VBits cfg) (call : String → Mark → Result) (out : String → PolOutcome)
    (ps : List Pol) (hb : ∀ p ∈ ps, p.staged = false → Behaves cfg call p.chain (out p.chain))
    (m : Mark) (hm : clearAP cfg m) :
    Shape cfg (firstDecision ((ps.filter (!·.staged)).map (fun p => out p.chain))) (seqEval cfg call ps m) := by
  induction ps generalizing m with
  | nil => exact ⟨m, rfl, hm⟩
  | cons p ps ih =>
    have ih' := ih (fun q hq => hb q (List.mem_cons_of_mem _ hq))
    rw [seqEval, List.filter_cons]
    cases hs : p.staged
    · have hbp := hb p List.mem_cons_self hs m hm
      have hne : ¬ (m &&& (cfg.markPass ||| cfg.markAccept) ≠ 0) := fun h => h (eq_of_beq (clear_tests vb hm).1)
      simp only [Bool.not_false, if_true, List.map_cons, Bool.false_eq_true, if_false, hne, firstDecision_cons]
      -- a deciding policy leaves a verdict bit, at which the rest of the group is skipped
      cases ho : out p.chain <;> simp only [ho, Shape] at hbp ⊢
      · obtain ⟨m', hc, hm'⟩ := hbp
        rw [hc]; simp only [reduceCtorEq, if_false]
        rw [seqEval_of_verdict cfg call ps m' (ne_of_beq_false (hasA_tests vb hm').1)]
        exact ⟨m', rfl, hm'⟩
      · obtain ⟨m', hc⟩ := hbp
        rw [hc]; simp only [reduceCtorEq, if_false]
        exact ⟨m', rfl⟩
      · obtain ⟨m', hc, hm'⟩ := hbp
        rw [hc]; simp only [reduceCtorEq, if_false]
        rw [seqEval_of_verdict cfg call ps m' (ne_of_beq_false (hasP_tests vb hm').1)]
        exact ⟨m', rfl, hm'⟩
      · obtain ⟨m', hc, hm'⟩ := hbp
        rw [hc]; simp only [if_true]
        exact ih' m' hm'
    · exact ih' m hm

def ContShape (cfg : Cfg) (d : PolOutcome) (cont : Mark → Result) (r : Result) : Prop :=
  match d with
  | .allow => Shape cfg .allow r
  | .deny => Shape cfg .deny r
  | .pass => ∃ m', hasP cfg m' ∧ r = cont m'
  | .noMatch => ∃ m', clearAP cfg m' ∧ r = cont m'

theorem targetsSeq_skip (cfg : Cfg) (vb : VBits cfg) (call : String → Mark → Result) (cont : Mark → Result)
    (ts : List (String × Bool)) (m : Mark) (hm : hasP cfg m) :
    targetsSeq cfg call cont ts m = cont m := by
  induction ts with
  | nil => rfl
  | cons th ts ih =>
    obtain ⟨_, h2, h3⟩ := hasP_tests vb hm
    simp only [targetsSeq, h2, h3, Bool.false_eq_true, if_false, Bool.and_false]
    exact ih

/-- the jump targets of a group, each with the outcome it stands for, given the outcome `po` of every policy chain -/
def Group.targetOuts (po : String → PolOutcome) (g : Group) : List ((String × Bool) × PolOutcome) :=
  if g.inlined then g.nonStaged.map fun p => ((p.chain, g.hasNonStaged), po p.chain)
  else [((g.chain, g.hasNonStaged), firstDecision (g.nonStaged.map fun p => po p.chain))]

def tierTargetOuts (po : String → PolOutcome) (t : Tier) : List ((String × Bool) × PolOutcome) :=
  t.groups.flatMap (Group.targetOuts po)

theorem tierTargetOuts_fst (po : String → PolOutcome) (t : Tier) :
    (tierTargetOuts po t).map (·.1) = tierTargets t := by
  unfold tierTargetOuts tierTargets
  induction t.groups with
  | nil => rfl
  | cons g gs ih =>
    rw [List.flatMap_cons, List.flatMap_cons, List.map_append, ih]
    congr 1
    unfold Group.targetOuts Group.jumpTargets
    split
    · rw [List.map_map, List.map_map]; rfl
    · rfl

theorem tierTargetOuts_decision (po : String → PolOutcome) (t : Tier) :
    firstDecision ((tierTargetOuts po t).map (·.2)) =
      firstDecision ((t.groups.flatMap (·.nonStaged)).map fun p => po p.chain) := by
  unfold tierTargetOuts
  induction t.groups with
  | nil => rfl
  | cons g gs ih =>
    rw [List.flatMap_cons, List.flatMap_cons, List.map_append, List.map_append, firstDecision_append,
      firstDecision_append, ih]
    have : firstDecision ((g.targetOuts po).map (·.2)) = firstDecision (g.nonStaged.map fun p => po p.chain) := by
      unfold Group.targetOuts
      split
      · rw [List.map_map]; rfl
      · -- a group chain already reports the first decision of its members
        show firstDecision [firstDecision _] = _
        rw [firstDecision_cons]
        split
        · rename_i h; rw [h]; rfl
        · rfl
    rw [this]

theorem targets_shape (cfg : Cfg) (vb : VBits cfg) (call : String → Mark → Result) (cont : Mark → Result)
    (tos : List ((String × Bool) × PolOutcome)) (hns : ∀ x ∈ tos, x.1.2 = true)
    (hb : ∀ x ∈ tos, Behaves cfg call x.1.1 x.2) (m : Mark) (hm : clearAP cfg m) :
    ContShape cfg (firstDecision (tos.map (·.2))) cont (targetsSeq cfg call cont (tos.map (·.1)) m) := by
  induction tos generalizing m with
  | nil => exact ⟨m, hm, rfl⟩
  | cons x tos ih =>
    have ih' := ih (fun q hq => hns q (List.mem_cons_of_mem _ hq)) (fun q hq => hb q (List.mem_cons_of_mem _ hq))
    have hbt := hb x List.mem_cons_self m hm
    simp only [List.map_cons, targetsSeq, (clear_tests vb hm).2.1, if_true, firstDecision_cons,
      hns x List.mem_cons_self, Bool.true_and]
    cases ho : x.2 <;> simp only [ho, Shape] at hbt ⊢
    · obtain ⟨m', hc, hm'⟩ := hbt
      rw [hc]
      simp only [reduceCtorEq, if_false, (hasA_tests vb hm').2.2, if_true]
      exact ⟨m', rfl, hm'⟩
    · obtain ⟨m', hc⟩ := hbt
      rw [hc]
      simp only [reduceCtorEq, if_false]
      exact ⟨m', rfl⟩
    · obtain ⟨m', hc, hm'⟩ := hbt
      rw [hc]
      simp only [reduceCtorEq, if_false, (hasP_tests vb hm').2.2, Bool.false_eq_true]
      exact ⟨m', hm', targetsSeq_skip cfg vb call cont _ m' hm'⟩
    · obtain ⟨m', hc, hm'⟩ := hbt
      rw [hc]
      simp only [if_true, (clear_tests vb hm').2.2, Bool.false_eq_true, if_false]
      exact ih' m' hm'

theorem jumpTargets_nil_of (g : Group) (h : g.hasNonStaged = false) : g.jumpTargets = [] := by
  have hn : g.nonStaged = [] := by simpa [Group.hasNonStaged] using h
  simp [Group.jumpTargets, Group.inlined, hn]

theorem jumpTargets_ne_nil (g : Group) (h : g.hasNonStaged = true) : g.jumpTargets ≠ [] := by
  unfold Group.jumpTargets
  split
  · intro hn
    have : g.nonStaged = [] := by simpa using hn
    simp [Group.hasNonStaged, this] at h
  · exact List.cons_ne_nil _ _

theorem tierTargets_hns (t : Tier) : ∀ th ∈ tierTargets t, th.2 = true := by
  intro th hth
  simp only [tierTargets, List.mem_flatMap, List.mem_map] at hth
  obtain ⟨g, _, c, hc, rfl⟩ := hth
  cases h : g.hasNonStaged
  · rw [jumpTargets_nil_of g h] at hc; exact absurd hc List.not_mem_nil
  · rfl

theorem tierTargets_isEmpty (t : Tier) : (tierTargets t).isEmpty = !t.groups.any (·.hasNonStaged) := by
  unfold tierTargets
  induction t.groups with
  | nil => rfl
  | cons g gs ih =>
    simp only [List.flatMap_cons, List.any_cons, Bool.not_or]
    rw [← ih]
    cases h : g.hasNonStaged
    · simp [jumpTargets_nil_of g h]
    · have := jumpTargets_ne_nil g h
      cases hj : g.jumpTargets with
      | nil => exact absurd hj this
      | cons a as => rfl

theorem groups_empty (gs : List Group) :
    (!gs.any (·.hasNonStaged)) = (gs.flatMap (·.nonStaged)).isEmpty := by
  induction gs with
  | nil => rfl
  | cons g gs ih =>
    simp only [List.flatMap_cons, List.any_cons, Bool.not_or]
    rw [ih]
    cases hn : g.nonStaged <;> simp [Group.hasNonStaged, hn]

def VShape (cfg : Cfg) (v : C09.Verdict) (r : Result) : Prop :=
  match v with
  | .allow => ∃ m', r = .returned m' ∧ m' &&& cfg.markAccept = cfg.markAccept
  | .deny => ∃ m', r = .verdict (denyV cfg) m'

/-- `none`: no tier decided -/
def tiersVerdict : List (List PolOutcome × Bool) → Option C09.Verdict
  | [] => none
  | (outs, dp) :: rest =>
    match tierResult outs dp with
    | .allow => some .allow
    | .deny => some .deny
    | .nextTier => tiersVerdict rest

theorem endpointVerdict_eq (ts : List (List PolOutcome × Bool)) (ps : List PolOutcome) :
    endpointVerdict ts ps = (tiersVerdict ts).getD (profilesVerdict ps) := by
  induction ts with
  | nil => rfl
  | cons t ts ih =>
    obtain ⟨outs, dp⟩ := t
    simp only [endpointVerdict, tiersVerdict]
    cases tierResult outs dp <;> simp only [ih, Option.getD_some]

def TShape (cfg : Cfg) (v : Option C09.Verdict) (final : Mark → Result) (r : Result) : Prop :=
  match v with
  | some .allow => ∃ m', r = .returned m' ∧ m' &&& cfg.markAccept = cfg.markAccept
  | some .deny => ∃ m', r = .verdict (denyV cfg) m'
  | none => ∃ m', r = final m' ∧ m' &&& cfg.markAccept = 0 ∧ m' &&& cfg.markDrop = 0

theorem TShape_some {cfg : Cfg} {v : C09.Verdict} {final : Mark → Result} {r : Result} :
    TShape cfg (some v) final r ↔ VShape cfg v r := by cases v <;> exact Iff.rfl

theorem tierResult_eq (l : List PolOutcome) (dp : Bool) :
    tierResult l dp =
      match firstDecision l with
      | .allow => .allow
      | .deny => .deny
      | .pass => .nextTier
      | .noMatch => if l.isEmpty ∨ dp then .nextTier else .deny := by
  unfold tierResult firstDecision
  cases hfind : l.find? (· ≠ PolOutcome.noMatch) with
  | none => rfl
  | some x =>
    have hx : x ≠ .noMatch := by simpa using List.find?_some hfind
    cases x <;> first | rfl | exact absurd rfl hx

theorem endOfTier_of_pass {cfg : Cfg} {m : Mark} (e : EpCfg) (t : Tier) (next : Mark → Result)
    (h : (m &&& cfg.markPass == 0) = false) : endOfTier cfg e t next m = next m := by
  unfold endOfTier; rw [h]; split <;> rfl

/-- the tier loop for ANY chain type, at policy level: `endDrop` says whether this chain type has the
end-of-tier drop (normal and forward chains do; untracked and pre-DNAT chains do not — there an undecided
tier always continues, as if its default action were Pass) -/
theorem tiers_shape (cfg : Cfg) (vb : VBits cfg) (e : EpCfg) (endDrop : Bool)
    (hend : (e.chainType = .normal ∨ e.chainType = .forward) ↔ endDrop = true)
    (call : String → Mark → Result) (final : Mark → Result) (po : String → PolOutcome)
    (tiers : List Tier)
    (hb : ∀ t ∈ tiers, ∀ x ∈ tierTargetOuts po t, Behaves cfg call x.1.1 x.2)
    (m : Mark) (hm : m &&& cfg.markAccept = 0) (hmD : m &&& cfg.markDrop = 0) :
    TShape cfg
      (tiersVerdict (tiers.map fun t =>
        ((t.groups.flatMap (·.nonStaged)).map (fun p => po p.chain), t.defaultPass || !endDrop)))
      final (tiersSeq cfg e call final tiers m) := by
  induction tiers generalizing m with
  | nil => exact ⟨m, rfl, hm, hmD⟩
  | cons t ts ih =>
    have ih' := ih (fun t' ht' => hb t' (List.mem_cons_of_mem _ ht'))
    rw [tiersSeq, List.map_cons, tiersVerdict]
    by_cases hg : t.groups.isEmpty = true
    · rw [if_pos hg, List.isEmpty_iff.1 hg]
      exact ih' m hm hmD
    · rw [if_neg hg, tierResult_eq, ← tierTargetOuts_decision po t, ← tierTargetOuts_fst po t]
      have hts := targets_shape cfg vb call (endOfTier cfg e t (tiersSeq cfg e call final ts)) (tierTargetOuts po t)
        (fun x hx => tierTargets_hns t x.1 (by rw [← tierTargetOuts_fst po t]; exact List.mem_map_of_mem hx))
        (hb t List.mem_cons_self) _ (clearP_of_A0 hm hmD)
      cases hd : firstDecision ((tierTargetOuts po t).map (·.2)) <;> simp only [hd, ContShape] at hts ⊢
      · obtain ⟨m', hr, hm'⟩ := hts
        exact ⟨m', hr, hm'.1⟩
      · exact hts
      · obtain ⟨m', hm', hr⟩ := hts
        rw [hr, endOfTier_of_pass e t _ (hasP_tests vb hm').2.1]
        exact ih' m' hm'.2.1 hm'.2.2
      · obtain ⟨m', hm', hr⟩ := hts
        rw [hr, endOfTier, (clear_tests vb hm').2.1, List.isEmpty_map, ← groups_empty]
        by_cases hdeny : (e.chainType = .normal ∨ e.chainType = .forward) ∧
            t.groups.any (·.hasNonStaged) = true ∧ ¬ t.defaultPass = true
        · rw [if_pos hdeny, if_pos rfl, if_neg]
          · exact ⟨m', rfl⟩
          · simp [hdeny.2.1, hdeny.2.2, hend.1 hdeny.1]
        · rw [if_neg hdeny, if_pos]
          · exact ih' m' hm'.1 hm'.2.2
          · cases ha : t.groups.any (·.hasNonStaged)
            · exact Or.inl rfl
            · refine Or.inr ?_
              cases hdp : t.defaultPass
              · cases he : endDrop
                · rfl
                · exact absurd ⟨hend.2 he, ha, by simp [hdp]⟩ hdeny
              · rfl

def PShape (cfg : Cfg) (o : PolOutcome) (r : Result) : Prop :=
  match o with
  | .allow => VShape cfg .allow r
  | .deny => VShape cfg .deny r
  | _ => ∃ m', r = .returned m' ∧ m' &&& cfg.markAccept = 0 ∧ m' &&& cfg.markDrop = 0

/-- profile chains are entered with the accept bit clear (the pass bit may be set) -/
def BehavesP (cfg : Cfg) (call : String → Mark → Result) (c : String) (o : PolOutcome) : Prop :=
  ∀ m, m &&& cfg.markAccept = 0 → m &&& cfg.markDrop = 0 → PShape cfg o (call c m)

theorem profiles_shape (cfg : Cfg) (vb : VBits cfg) (call : String → Mark → Result) (out : String → PolOutcome)
    (profiles : List String) (hb : ∀ p ∈ profiles, BehavesP cfg call p (out p)) (m : Mark)
    (hm : m &&& cfg.markAccept = 0) (hmD : m &&& cfg.markDrop = 0) :
    VShape cfg (profilesVerdict (profiles.map out)) (profSeq cfg call profiles m) := by
  induction profiles generalizing m with
  | nil => exact ⟨m, rfl⟩
  | cons p ps ih =>
    have ih' := ih (fun q hq => hb q (List.mem_cons_of_mem _ hq))
    have hbp := hb p List.mem_cons_self m hm hmD
    rw [List.map_cons, profSeq]
    cases ho : out p <;> simp only [ho, PShape, VShape] at hbp <;> simp only [profilesVerdict]
    · obtain ⟨m', hc, hm'⟩ := hbp
      rw [hc]; simp only [hm', beq_self_eq_true, if_true]
      exact ⟨m', rfl, hm'⟩
    · obtain ⟨m', hc⟩ := hbp
      rw [hc]; exact ⟨m', rfl⟩
    all_goals
      obtain ⟨m', hc, hm'⟩ := hbp
      rw [hc]; simp only [test_eq_false hm'.1 vb.aNe, Bool.false_eq_true, if_false]
      exact ih' m' hm'.1 hm'.2

/-- what `endpointChain` renders after the tiers -/
def endpointTail (cfg : Cfg) (e : EpCfg) (tiers : List Tier) (profiles : List String) : List Netfilter.Rule :=
  (if tiers.isEmpty ∧ e.chainType = .forward then
      [({ action := .setMark cfg.markAccept, comments := ["Allow forwarded traffic by default"] } : Netfilter.Rule),
       { action := .ret, comments := ["Return for accepted forward traffic"] }] else [])
  ++ (if e.chainType = .normal then profileRules cfg e profiles else [])

theorem conntrackRules_not_matches (cfg : Cfg) (e : EpCfg) (env : Env) (pkt : Packet) (m : Mark)
    (hct : pkt.ctState ≠ "RELATED" ∧ pkt.ctState ≠ "ESTABLISHED" ∧ pkt.ctState ≠ "INVALID") :
    ∀ r ∈ conntrackRules cfg e, r.matches env pkt m = false := by
  have h1 : (Clause.ctState false ["RELATED", "ESTABLISHED"]).matches env pkt m = false := by
    simp [Clause.matches, xorb, hct.1, hct.2.1]
  have h2 : (Clause.ctState false ["INVALID"]).matches env pkt m = false := by
    simp [Clause.matches, xorb, hct.2.2]
  intro r hr
  simp only [conntrackRules, List.mem_append, List.mem_singleton] at hr
  rcases hr with (hr | rfl) | hr
  · split at hr
    · rw [List.mem_singleton.1 hr]; exact (Bool.and_true _).trans h1
    · exact absurd hr List.not_mem_nil
  · exact (Bool.and_true _).trans h1
  · split at hr
    · exact absurd hr List.not_mem_nil
    · rw [List.mem_singleton.1 hr]; exact (Bool.and_true _).trans h2

/-- the preamble of an admin-up endpoint chain: conntrack rules, failsafe jump, clearing of the accept and pass bits,
encap drops -/
theorem endpointChain_preamble (cfg : Cfg) (e : EpCfg) (env : Env) (call : String → Mark → Result) (pkt : Packet)
    (name : String) (tiers : List Tier) (profiles : List String) (m : Mark)
    (hup : e.adminUp = true)
    (hfs : e.failsafe ≠ "" → ∀ m', call e.failsafe m' = .returned m')
    (hct : pkt.ctState ≠ "RELATED" ∧ pkt.ctState ≠ "ESTABLISHED" ∧ pkt.ctState ≠ "INVALID")
    (henc : (e.dropVXLAN = true → pkt.proto ≠ 17) ∧ (e.dropIPIP = true → pkt.proto ≠ 4)) :
    runRules env call pkt (endpointChain cfg e name tiers profiles).rules m =
      runRules env call pkt (tiers.flatMap (tierRules cfg e) ++ endpointTail cfg e tiers profiles)
        (m &&& ~~~ (cfg.markAccept ||| cfg.markPass)) := by
  have hconn : ∀ rest, runRules env call pkt
      ((if e.chainType ≠ .untracked then conntrackRules cfg e else []) ++ rest) m = runRules env call pkt rest m :=
    fun rest => runRules_ite_append_of_not_matches fun _ => conntrackRules_not_matches cfg e env pkt m hct
  have hfail : ∀ rest, runRules env call pkt
      ((if e.failsafe ≠ "" then [({ action := .jump e.failsafe } : Netfilter.Rule)] else []) ++ rest) m =
        runRules env call pkt rest m := by
    intro rest
    split
    · rename_i h
      rw [List.singleton_append, runRules_bare_jump, hfs h]
    · rfl
  simp only [endpointChain, hup, not_true_eq_false, if_false, List.append_assoc, endpointTail]
  rw [hconn, hfail, List.singleton_append, runRules_bare_continues rfl,
    runRules_ite_of_not_matches, runRules_ite_of_not_matches]
  · rfl
  · intro h
    simp [Rule.matches, Clause.matches, xorb, protoIs, Ne.symm (henc.2 h)]
  · intro h
    simp [Rule.matches, Clause.matches, xorb, protoIs, Ne.symm (henc.1 h)]

/-- C08's per-rule theorem, as a hypothesis about one rule (discharged by
`C08.render_exact_le2` for every rule with at most two positive match blocks). -/
def RuleExact (cfg : Cfg) (env : Env) (pkt : Packet) (r : Policy.Rule) : Prop :=
  ∀ (ctx : Ctx) (call : String → Mark → Result) (rest : List Netfilter.Rule) (mark : Mark) (act : RuleAction),
    parseAction r.action = some act →
    (act = .allow → mark &&& cfg.markAccept = 0) → (act = .pass → mark &&& cfg.markPass = 0) →
    (act = .deny → mark &&& cfg.markDrop = 0) →
    ∃ rs mark', protoRuleToRules cfg ctx (setNameFor pkt.v6) pkt.v6 r = some rs ∧
      baseOf cfg.markScratch0 cfg.markScratch1 mark' = baseOf cfg.markScratch0 cfg.markScratch1 mark ∧
      runRules env call pkt (rs ++ rest) mark =
        if ruleMatches env (setNameFor pkt.v6) r pkt then actionOutcome cfg env call pkt rest mark' act
        else runRules env call pkt rest mark'

theorem ruleExact_of_le2 (cfg : Cfg) (env : Env) (pkt : Packet) (r : Policy.Rule)
    (mo : MarksOK cfg) (henv : EnvCatchAll env)
    (hi : env.dp = .ipt ∨ ∀ t c, r.notIcmp ≠ .typeCode t c)
    (hpos : ∀ rc, filterRuleToIPVersion pkt.v6 r = some rc → numPositive rc ≤ 2) :
    RuleExact cfg env pkt r := by
  intro ctx call rest mark act hact hA hP hD
  exact render_exact_le2 cfg ctx env call pkt _ r rest mark act mo henv hi hpos hact hA hP hD

structure VD (cfg : Cfg) : Prop where
  ad : cfg.markAccept &&& cfg.markDrop = 0
  pd : cfg.markPass &&& cfg.markDrop = 0

def SameV (cfg : Cfg) (m m' : Mark) : Prop :=
  m' &&& cfg.markAccept = m &&& cfg.markAccept ∧ m' &&& cfg.markPass = m &&& cfg.markPass ∧
    m' &&& cfg.markDrop = m &&& cfg.markDrop

theorem sameV_of_baseOf {cfg : Cfg} (mo : MarksOK cfg) {m m' : Mark}
    (h : baseOf cfg.markScratch0 cfg.markScratch1 m' = baseOf cfg.markScratch0 cfg.markScratch1 m) :
    SameV cfg m m' := by
  have key : ∀ x : Mark, x &&& cfg.markScratch0 = 0 → x &&& cfg.markScratch1 = 0 → m' &&& x = m &&& x :=
    fun x h0 h1 => by rw [← baseOf_and_other _ _ m' x h0 h1, ← baseOf_and_other _ _ m x h0 h1, h]
  exact ⟨key _ mo.accA mo.accT, key _ mo.passA mo.passT, key _ mo.dropA mo.dropT⟩

/-- Concatenated rule renderings act like the first matching deciding rule (`policyOutcome`); each rule needs only
the bit of its own action clear on entry, and the rules that follow see the verdict bits of the entry mark. -/
theorem go_exact (cfg : Cfg) (mo : MarksOK cfg) (env : Env) (pkt : Packet)
    (call : String → Mark → Result) (ctx : Ctx)
    (rules : List Policy.Rule) (hre : ∀ r ∈ rules, RuleExact cfg env pkt r)
    (idx : Nat) (body rest : List Netfilter.Rule)
    (hgo : protoRulesToRules.go cfg ctx pkt.v6 idx rules = some body) (m : Mark)
    (hacts : ∀ r ∈ rules, ∃ act, parseAction r.action = some act ∧
      (act = .allow → m &&& cfg.markAccept = 0) ∧ (act = .pass → m &&& cfg.markPass = 0) ∧
      (act = .deny → m &&& cfg.markDrop = 0)) :
    ∃ m1, SameV cfg m m1 ∧ runRules env call pkt (body ++ rest) m =
      match policyOutcome env pkt.v6 pkt rules with
      | .allow => .returned (m1 ||| cfg.markAccept)
      | .pass => .returned (m1 ||| cfg.markPass)
      | .deny => .verdict (denyV cfg) (m1 ||| cfg.markDrop)
      | .noMatch => runRules env call pkt rest m1 := by
  induction rules generalizing idx body m with
  | nil =>
    cases hgo
    exact ⟨m, ⟨rfl, rfl, rfl⟩, rfl⟩
  | cons r rs ih =>
    rw [protoRulesToRules.go] at hgo
    cases h1 : protoRuleToRules cfg { ctx with idx := idx } (setNameFor pkt.v6) pkt.v6 r with
    | none => simp [h1] at hgo
    | some a =>
      cases h2 : protoRulesToRules.go cfg ctx pkt.v6 (idx + 1) rs with
      | none => simp [h1, h2] at hgo
      | some b =>
        simp only [h1, h2] at hgo
        cases hgo
        obtain ⟨act, hact, hA, hP, hD⟩ := hacts r List.mem_cons_self
        obtain ⟨rsr, m1, hr1, hbase, hrun⟩ :=
          hre r List.mem_cons_self { ctx with idx := idx } call (b ++ rest) m act hact hA hP hD
        rw [h1] at hr1; cases hr1
        have hs := sameV_of_baseOf mo hbase
        -- the rules that follow see the same verdict bits
        obtain ⟨m2, hs2, hrest⟩ := ih (fun q hq => hre q (List.mem_cons_of_mem _ hq)) (idx + 1) b h2 m1
          (fun q hq => by
            obtain ⟨act', h, hA', hP', hD'⟩ := hacts q (List.mem_cons_of_mem _ hq)
            exact ⟨act', h, fun e => hs.1 ▸ hA' e, fun e => hs.2.1 ▸ hP' e, fun e => hs.2.2 ▸ hD' e⟩)
        have hs12 : SameV cfg m m2 := ⟨hs2.1.trans hs.1, hs2.2.1.trans hs.2.1, hs2.2.2.trans hs.2.2⟩
        rw [List.append_assoc, hrun, policyOutcome, hact]
        cases ruleMatches env (setNameFor pkt.v6) r pkt
        · exact ⟨m2, hs12, hrest⟩
        · cases act
          · exact ⟨m1, hs, rfl⟩
          · exact ⟨m1, hs, rfl⟩
          · exact ⟨m1, hs, rfl⟩
          · exact ⟨m2, hs12, hrest⟩

theorem runRules_strip (env : Env) (call : String → Mark → Result) (pkt : Packet) (l : List Netfilter.Rule) (m : Mark) :
    runRules env call pkt (stripTrailingReturns l) m = runRules env call pkt l m := by
  have aux : ∀ rl : List Netfilter.Rule,
      runRules env call pkt ((rl.dropWhile (fun r => r.action == .ret)).reverse) m =
        runRules env call pkt rl.reverse m := by
    intro rl
    induction rl with
    | nil => rfl
    | cons r rl ih =>
      rw [List.dropWhile_cons, List.reverse_cons]
      split
      · rw [ih, runRules_snoc_ret (eq_of_beq ‹_›)]
      · rw [List.reverse_cons]
  rw [stripTrailingReturns, aux, List.reverse_reverse]

/-- a rendered policy / profile chain runs like the concatenation of its rules' renderings: stripped
trailing RETURNs and the chain comment change nothing -/
theorem run_protoRulesToRules {cfg : Cfg} {ctx : Ctx} {v6 : Bool} {rules : List Policy.Rule} {comment : String}
    {rs : List Netfilter.Rule} (hrs : protoRulesToRules cfg ctx v6 rules comment = some rs)
    (env : Env) (call : String → Mark → Result) (pkt : Packet) :
    ∃ body, protoRulesToRules.go cfg ctx v6 0 rules = some body ∧
      ∀ m, runRules env call pkt rs m = runRules env call pkt body m := by
  unfold protoRulesToRules at hrs
  cases hgo : protoRulesToRules.go cfg ctx v6 0 rules with
  | none => simp [hgo] at hrs
  | some body =>
    refine ⟨body, rfl, fun m => ?_⟩
    simp only [hgo] at hrs
    rw [← runRules_strip env call pkt body m]
    cases hst : stripTrailingReturns body with
    | nil =>
      simp only [hst] at hrs; cases hrs
      exact runRules_cons_inert rfl (fun _ => rfl)
    | cons r rest =>
      simp only [hst] at hrs; cases hrs
      exact runRules_comment _

/-- a policy chain, entered with the three verdict bits clear, behaves like its first matching rule (log rules do not
decide) -/
theorem policy_chain_shape (cfg : Cfg) (mo : MarksOK cfg) (vb : VBits cfg) (vd : VD cfg) (env : Env)
    (pkt : Packet) (call : String → Mark → Result) (ctx : Ctx) (rules : List Policy.Rule) (comment : String)
    (hre : ∀ r ∈ rules, RuleExact cfg env pkt r)
    (hacts : ∀ r ∈ rules, (parseAction r.action).isSome = true)
    (rs : List Netfilter.Rule) (hrs : protoRulesToRules cfg ctx pkt.v6 rules comment = some rs)
    (m : Mark) (hm : clearAP cfg m) :
    Shape cfg (policyOutcome env pkt.v6 pkt rules) (runRules env call pkt rs m) := by
  obtain ⟨body, hgo, hbody⟩ := run_protoRulesToRules hrs env call pkt
  obtain ⟨m1, ⟨hA, hP, hD⟩, hrun⟩ := go_exact cfg mo env pkt call ctx rules hre 0 body [] hgo m (fun r hr => by
    obtain ⟨act, hact⟩ := Option.isSome_iff_exists.1 (hacts r hr)
    exact ⟨act, hact, fun _ => hm.1, fun _ => hm.2.1, fun _ => hm.2.2⟩)
  rw [hm.1] at hA; rw [hm.2.1] at hP; rw [hm.2.2] at hD
  have hpa : cfg.markPass &&& cfg.markAccept = 0 := by rw [BitVec.and_comm]; exact vb.ap
  rw [hbody, ← List.append_nil body, hrun]
  cases policyOutcome env pkt.v6 pkt rules
  · exact ⟨_, rfl, or_and_self _ _, or_and_eq_zero vb.ap hP, or_and_eq_zero vd.ad hD⟩
  · exact ⟨_, rfl⟩
  · exact ⟨_, rfl, or_and_self _ _, or_and_eq_zero hpa hA, or_and_eq_zero vd.pd hD⟩
  · exact ⟨m1, rfl, hA, hP, hD⟩

theorem policyOutcome_pass (env : Env) (pkt : Packet) (rules : List Policy.Rule)
    (h : policyOutcome env pkt.v6 pkt rules = .pass) : ∃ r ∈ rules, parseAction r.action = some .pass := by
  induction rules with
  | nil => cases h
  | cons r rs ih =>
    rw [policyOutcome] at h
    split at h
    · split at h
      · cases h
      · cases h
      · exact ⟨r, List.mem_cons_self, ‹_›⟩
      · obtain ⟨q, hq, hp⟩ := ih h; exact ⟨q, List.mem_cons_of_mem _ hq, hp⟩
    · obtain ⟨q, hq, hp⟩ := ih h; exact ⟨q, List.mem_cons_of_mem _ hq, hp⟩

/-- profile chains (entered with accept and drop clear, the pass bit possibly still set by the
last tier): rules other than `pass` behave like the first matching rule -/
theorem profile_chain_shape (cfg : Cfg) (mo : MarksOK cfg) (env : Env)
    (pkt : Packet) (call : String → Mark → Result) (ctx : Ctx) (rules : List Policy.Rule) (comment : String)
    (hre : ∀ r ∈ rules, RuleExact cfg env pkt r)
    (hacts : ∀ r ∈ rules, ∃ act, parseAction r.action = some act ∧ act ≠ .pass)
    (rs : List Netfilter.Rule) (hrs : protoRulesToRules cfg ctx pkt.v6 rules comment = some rs)
    (m : Mark) (hA : m &&& cfg.markAccept = 0) (hD : m &&& cfg.markDrop = 0) :
    PShape cfg (policyOutcome env pkt.v6 pkt rules) (runRules env call pkt rs m) := by
  obtain ⟨body, hgo, hbody⟩ := run_protoRulesToRules hrs env call pkt
  obtain ⟨m1, ⟨hA1, _, hD1⟩, hrun⟩ := go_exact cfg mo env pkt call ctx rules hre 0 body [] hgo m (fun r hr => by
    obtain ⟨act, hact, hnp⟩ := hacts r hr
    exact ⟨act, hact, fun _ => hA, fun h => absurd h hnp, fun _ => hD⟩)
  rw [hbody, ← List.append_nil body, hrun]
  cases ho : policyOutcome env pkt.v6 pkt rules
  · exact ⟨_, rfl, or_and_self _ _⟩
  · exact ⟨_, rfl⟩
  · obtain ⟨r, hr, hp⟩ := policyOutcome_pass env pkt rules ho
    obtain ⟨act, hact, hnp⟩ := hacts r hr
    rw [hp] at hact; cases hact; exact absurd rfl hnp
  · exact ⟨m1, rfl, hA1.trans hA, hD1.trans hD⟩

/-- the chain set holds a faithful rendering of policy chain `c` whose rules are all rendered exactly -/
def PolicyChainOK (cfg : Cfg) (env : Env) (pkt : Packet) (chains : List Chain) (rules : List Policy.Rule)
    (c : String) : Prop :=
  ∃ ctx comment rs, protoRulesToRules cfg ctx pkt.v6 rules comment = some rs ∧ lookupChain chains c = some rs ∧
    (∀ r ∈ rules, RuleExact cfg env pkt r) ∧ (∀ r ∈ rules, (parseAction r.action).isSome = true)

/-- same for a profile chain, whose rules must not use the `pass` action -/
def ProfileChainOK (cfg : Cfg) (env : Env) (pkt : Packet) (chains : List Chain) (rules : List Policy.Rule)
    (c : String) : Prop :=
  ∃ ctx comment rs, protoRulesToRules cfg ctx pkt.v6 rules comment = some rs ∧ lookupChain chains c = some rs ∧
    (∀ r ∈ rules, RuleExact cfg env pkt r) ∧ (∀ r ∈ rules, ∃ act, parseAction r.action = some act ∧ act ≠ .pass)

theorem policy_behaves (cfg : Cfg) (mo : MarksOK cfg) (vb : VBits cfg) (vd : VD cfg) (env : Env) (pkt : Packet)
    (chains : List Chain) (rules : List Policy.Rule) (c : String) (fuel : Nat)
    (h : PolicyChainOK cfg env pkt chains rules c) :
    Behaves cfg (evalChain env chains pkt (fuel + 1)) c (policyOutcome env pkt.v6 pkt rules) := by
  obtain ⟨ctx, comment, rs, hrs, hl, hre, hacts⟩ := h
  intro m hm
  rw [evalChain_of_lookup hl]
  exact policy_chain_shape cfg mo vb vd env pkt _ ctx rules comment hre hacts rs hrs m hm

theorem group_behaves (cfg : Cfg) (mo : MarksOK cfg) (vb : VBits cfg) (vd : VD cfg) (env : Env)
    (pkt : Packet) (chains : List Chain) (polRules : String → List Policy.Rule) (g : Group) (F : Nat)
    (hgrp : lookupChain chains g.chain = some (policyGroupChain cfg g).rules)
    (hpol : ∀ p ∈ g.pols, p.staged = false → PolicyChainOK cfg env pkt chains (polRules p.chain) p.chain) :
    Behaves cfg (evalChain env chains pkt (F + 3)) g.chain
      (firstDecision (g.nonStaged.map fun p => policyOutcome env pkt.v6 pkt (polRules p.chain))) := by
  intro m' hm'
  rw [evalChain_of_lookup hgrp, policy_group_chain_exact cfg env _ pkt g m' (eq_of_beq (clear_tests vb hm').1)]
  exact seq_shape cfg vb (evalChain env chains pkt (F + 2))
    (fun c => policyOutcome env pkt.v6 pkt (polRules c)) g.pols
    (fun p hp hs => policy_behaves cfg mo vb vd env pkt chains _ p.chain (F + 1) (hpol p hp hs)) m' hm'

theorem targets_behave (cfg : Cfg) (mo : MarksOK cfg) (vb : VBits cfg) (vd : VD cfg) (env : Env)
    (pkt : Packet) (chains : List Chain) (tiers : List Tier)
    (polRules : String → List Policy.Rule) (F : Nat)
    (hgrp : ∀ t ∈ tiers, ∀ g ∈ t.groups, g.inlined = false →
      lookupChain chains g.chain = some (policyGroupChain cfg g).rules)
    (hpol : ∀ t ∈ tiers, ∀ g ∈ t.groups, ∀ p ∈ g.pols, p.staged = false →
      PolicyChainOK cfg env pkt chains (polRules p.chain) p.chain) :
    ∀ t ∈ tiers, ∀ x ∈ tierTargetOuts (fun c => policyOutcome env pkt.v6 pkt (polRules c)) t,
      Behaves cfg (evalChain env chains pkt (F + 3)) x.1.1 x.2 := by
  intro t ht x hx
  obtain ⟨g, hg, hx⟩ := List.mem_flatMap.1 hx
  unfold Group.targetOuts at hx
  cases hin : g.inlined
  · rw [hin, if_neg Bool.false_ne_true, List.mem_singleton] at hx
    subst hx
    exact group_behaves cfg mo vb vd env pkt chains polRules g F (hgrp t ht g hg hin) (hpol t ht g hg)
  · rw [hin, if_pos rfl, List.mem_map] at hx
    obtain ⟨p, hp, rfl⟩ := hx
    have hpm : p ∈ g.pols ∧ p.staged = false := by
      simpa only [Group.nonStaged, List.mem_filter, Bool.not_eq_true'] using hp
    exact policy_behaves cfg mo vb vd env pkt chains _ p.chain (F + 2) (hpol t ht g hg p hpm.1 hpm.2)

theorem profiles_behave (cfg : Cfg) (mo : MarksOK cfg) (env : Env) (pkt : Packet) (chains : List Chain)
    (profiles : List String) (polRules : String → List Policy.Rule) (F : Nat)
    (hprof : ∀ p ∈ profiles, ProfileChainOK cfg env pkt chains (polRules p) p) :
    ∀ p ∈ profiles, BehavesP cfg (evalChain env chains pkt (F + 3)) p (policyOutcome env pkt.v6 pkt (polRules p)) := by
  intro p hp
  obtain ⟨ctx, comment, rs, hrs, hl, hre, hacts⟩ := hprof p hp
  intro m' hA hD
  rw [evalChain_of_lookup hl]
  exact profile_chain_shape cfg mo env pkt (evalChain env chains pkt (F + 2)) ctx (polRules p) comment hre hacts
    rs hrs m' hA hD

/-- per-tier enforced policy outcomes, in evaluation order, with the effective default action -/
def policyTiers (env : Env) (pkt : Packet) (polRules : String → List Policy.Rule) (tiers : List Tier)
    (endDrop : Bool) : List (List PolOutcome × Bool) :=
  tiers.map fun t =>
    ((t.groups.flatMap (·.nonStaged)).map (fun p => policyOutcome env pkt.v6 pkt (polRules p.chain)),
     t.defaultPass || !endDrop)

/-- Endpoint chains of every chain type decide like the tier loop at policy level (`endDrop` as in `tiers_shape`); an
undecided packet goes on to the tail of the chain with the accept bit clear. -/
theorem endpoint_chain_tiers (cfg : Cfg) (mo : MarksOK cfg) (vb : VBits cfg) (vd : VD cfg) (e : EpCfg)
    (env : Env) (pkt : Packet) (chains : List Chain) (name : String) (tiers : List Tier) (profiles : List String)
    (polRules : String → List Policy.Rule) (F : Nat) (m : Mark) (endDrop : Bool)
    (hend : (e.chainType = .normal ∨ e.chainType = .forward) ↔ endDrop = true)
    (hup : e.adminUp = true)
    (hfs : e.failsafe ≠ "" → ∀ m', evalChain env chains pkt (F + 3) e.failsafe m' = .returned m')
    (hct : pkt.ctState ≠ "RELATED" ∧ pkt.ctState ≠ "ESTABLISHED" ∧ pkt.ctState ≠ "INVALID")
    (henc : (e.dropVXLAN = true → pkt.proto ≠ 17) ∧ (e.dropIPIP = true → pkt.proto ≠ 4))
    (hmD : m &&& cfg.markDrop = 0)
    (hep : lookupChain chains name = some (endpointChain cfg e name tiers profiles).rules)
    (hgrp : ∀ t ∈ tiers, ∀ g ∈ t.groups, g.inlined = false →
      lookupChain chains g.chain = some (policyGroupChain cfg g).rules)
    (hpol : ∀ t ∈ tiers, ∀ g ∈ t.groups, ∀ p ∈ g.pols, p.staged = false →
      PolicyChainOK cfg env pkt chains (polRules p.chain) p.chain) :
    TShape cfg (tiersVerdict (policyTiers env pkt polRules tiers endDrop))
      (fun m' => runRules env (evalChain env chains pkt (F + 3)) pkt (endpointTail cfg e tiers profiles) m')
      (evalChain env chains pkt (F + 4) name m) := by
  rw [evalChain_of_lookup hep, endpointChain_preamble cfg e env _ pkt name tiers profiles m hup hfs hct henc, tiers_exact]
  refine tiers_shape cfg vb e endDrop hend _ _ (fun c => policyOutcome env pkt.v6 pkt (polRules c)) tiers
    (targets_behave cfg mo vb vd env pkt chains tiers polRules F hgrp hpol) _ ?_ (and_not_and_eq_zero _ hmD)
  rw [BitVec.not_or, ← BitVec.and_assoc]
  exact and_not_and_eq_zero _ (and_not_and_self _ _)

/-- **Rendered endpoint chain = reference verdict at policy level, every chain type**: normal chains
go on to the profile section (RETURN with the accept bit iff `endpointVerdict` = allow, DROP/REJECT iff
deny), forward chains without tiers allow, the others return undecided packets with the accept bit clear.
Nothing is asked of the chain names: each jump target is judged by the chain the chain set holds under
its name. -/
theorem endpoint_chain_verdict (cfg : Cfg) (mo : MarksOK cfg) (vb : VBits cfg) (vd : VD cfg) (e : EpCfg)
    (env : Env) (pkt : Packet) (chains : List Chain) (name : String) (tiers : List Tier) (profiles : List String)
    (polRules : String → List Policy.Rule) (F : Nat) (m : Mark)
    (hup : e.adminUp = true)
    (hfs : e.failsafe ≠ "" → ∀ m', evalChain env chains pkt (F + 3) e.failsafe m' = .returned m')
    (hct : pkt.ctState ≠ "RELATED" ∧ pkt.ctState ≠ "ESTABLISHED" ∧ pkt.ctState ≠ "INVALID")
    (henc : (e.dropVXLAN = true → pkt.proto ≠ 17) ∧ (e.dropIPIP = true → pkt.proto ≠ 4))
    (hmD : m &&& cfg.markDrop = 0)
    (hep : lookupChain chains name = some (endpointChain cfg e name tiers profiles).rules)
    (hgrp : ∀ t ∈ tiers, ∀ g ∈ t.groups, g.inlined = false →
      lookupChain chains g.chain = some (policyGroupChain cfg g).rules)
    (hpol : ∀ t ∈ tiers, ∀ g ∈ t.groups, ∀ p ∈ g.pols, p.staged = false →
      PolicyChainOK cfg env pkt chains (polRules p.chain) p.chain)
    (hprof : ∀ p ∈ profiles, ProfileChainOK cfg env pkt chains (polRules p) p) :
    let r := evalChain env chains pkt (F + 4) name m
    match e.chainType with
    | .normal =>
      VShape cfg (endpointVerdict (policyTiers env pkt polRules tiers true)
        (profiles.map fun p => policyOutcome env pkt.v6 pkt (polRules p))) r
    | .forward =>
      if tiers.isEmpty then ∃ m', r = .returned m' ∧ m' &&& cfg.markAccept = cfg.markAccept
      else TShape cfg (tiersVerdict (policyTiers env pkt polRules tiers true)) (fun m' => .returned m') r
    | _ => TShape cfg (tiersVerdict (policyTiers env pkt polRules tiers false)) (fun m' => .returned m') r := by
  intro r
  have hts := fun endDrop hend => endpoint_chain_tiers cfg mo vb vd e env pkt chains name tiers profiles polRules F m
    endDrop hend hup hfs hct henc hmD hep hgrp hpol
  cases hty : e.chainType
  · have h := hts true (by simp [hty])
    rw [endpointVerdict_eq]
    cases htv : tiersVerdict (policyTiers env pkt polRules tiers true) with
    | none =>
      rw [htv] at h
      obtain ⟨m', hr, hA, hD⟩ := h
      rw [show endpointTail cfg e tiers profiles = profileRules cfg e profiles by simp [endpointTail, hty]] at hr
      show VShape cfg _ r
      rw [show r = _ from hr]
      show VShape cfg _ (runRules env _ pkt (profileRules cfg e profiles) m')
      rw [profile_section_exact]
      exact profiles_shape cfg vb _ (fun c => policyOutcome env pkt.v6 pkt (polRules c)) profiles
        (profiles_behave cfg mo env pkt chains profiles polRules F hprof) m' hA hD
    | some v =>
      rw [htv] at h
      exact TShape_some.1 h
  · have h := hts false (by simp [hty])
    rwa [show endpointTail cfg e tiers profiles = [] by simp [endpointTail, hty]] at h
  · have h := hts false (by simp [hty])
    rwa [show endpointTail cfg e tiers profiles = [] by simp [endpointTail, hty]] at h
  · have h := hts true (by simp [hty])
    cases tiers with
    | nil =>
      obtain ⟨m', hm', _⟩ := h
      refine ⟨m' ||| cfg.markAccept, hm'.trans ?_, or_and_self _ _⟩
      simp only [endpointTail, hty, List.isEmpty_nil, and_self, if_true, reduceCtorEq, if_false, List.append_nil]
      rw [runRules_bare_continues rfl, runRules_cons_ret rfl, matches_no_clause]
      rfl
    | cons t ts =>
      rwa [show endpointTail cfg e (t :: ts) profiles = [] by simp [endpointTail, hty]] at h

/-! `endpoint_chain_verdict_core` speaks of the jump targets and of an outcome function `out` on chain names that
agrees with the outcomes the targets stand for: that is the policy level read through `tierTargetOuts`. -/

theorem tierResult_targetOuts (po : String → PolOutcome) (t : Tier) (dp : Bool) :
    tierResult ((tierTargetOuts po t).map (·.2)) dp =
      tierResult ((t.groups.flatMap (·.nonStaged)).map fun p => po p.chain) dp := by
  rw [tierResult_eq, tierResult_eq, tierTargetOuts_decision, List.isEmpty_map, List.isEmpty_map, ← groups_empty,
    ← tierTargets_isEmpty, ← tierTargetOuts_fst po t, List.isEmpty_map]

theorem targetOuts_congr (out po : String → PolOutcome) (t : Tier)
    (o1 : ∀ g ∈ t.groups, g.inlined = true → ∀ p ∈ g.nonStaged, out p.chain = po p.chain)
    (o2 : ∀ g ∈ t.groups, g.inlined = false → out g.chain = firstDecision (g.nonStaged.map fun p => po p.chain)) :
    (tierTargets t).map (fun th => out th.1) = (tierTargetOuts po t).map (·.2) := by
  unfold tierTargets tierTargetOuts
  generalize t.groups = gs at o1 o2 ⊢
  induction gs with
  | nil => rfl
  | cons g gs ih =>
    rw [List.flatMap_cons, List.flatMap_cons, List.map_append, List.map_append,
      ih (fun g' hg' => o1 g' (List.mem_cons_of_mem _ hg')) (fun g' hg' => o2 g' (List.mem_cons_of_mem _ hg'))]
    congr 1
    unfold Group.targetOuts Group.jumpTargets
    cases hin : g.inlined
    · simp only [Bool.false_eq_true, if_false, List.map_cons, List.map_nil, o2 g List.mem_cons_self hin]
    · simp only [if_true, List.map_map]
      exact List.map_congr_left fun p hp => o1 g List.mem_cons_self hin p hp

theorem tiersVerdict_congr {α : Type} (l : List α) (f g : α → List PolOutcome) (d d' : α → Bool)
    (h : ∀ a ∈ l, tierResult (f a) (d a) = tierResult (g a) (d' a)) :
    tiersVerdict (l.map fun a => (f a, d a)) = tiersVerdict (l.map fun a => (g a, d' a)) := by
  induction l with
  | nil => rfl
  | cons a l ih =>
    rw [List.map_cons, List.map_cons, tiersVerdict, tiersVerdict, h a List.mem_cons_self,
      ih fun b hb => h b (List.mem_cons_of_mem _ hb)]

/-- **Rendered endpoint chain = reference verdict**, end to end over a chain set: the workload
("normal") endpoint chain, the policy-group chains of its non-inlined groups, the policy chains of
its enforced policies and its profile chains, each rule of which is rendered exactly (C08's
per-rule theorem as hypothesis `RuleExact`, discharged by `ruleExact_of_le2` for every rule with at
most two positive match blocks).  For any number of tiers / groups / policies / profiles and any
packet not handled by the conntrack / encap preamble, evaluation of the endpoint chain ends in
RETURN with the accept bit set iff `endpointVerdict` = allow, and in DROP/REJECT iff deny.
`out` gives the outcome per jump target: a policy's `policyOutcome`, or for a group chain the first
deciding enforced member. -/
theorem endpoint_chain_verdict_core (cfg : Cfg) (mo : MarksOK cfg) (vb : VBits cfg) (vd : VD cfg) (e : EpCfg) (env : Env)
    (pkt : Packet) (chains : List Chain) (name : String) (tiers : List Tier) (profiles : List String)
    (polRules : String → List Policy.Rule) (out : String → PolOutcome) (F : Nat) (m : Mark)
    (hn : e.chainType = .normal) (hup : e.adminUp = true) (hfs : e.failsafe = "")
    (hct : pkt.ctState ≠ "RELATED" ∧ pkt.ctState ≠ "ESTABLISHED" ∧ pkt.ctState ≠ "INVALID")
    (henc : (e.dropVXLAN = true → pkt.proto ≠ 17) ∧ (e.dropIPIP = true → pkt.proto ≠ 4))
    (hmD : m &&& cfg.markDrop = 0)
    (hep : lookupChain chains name = some (endpointChain cfg e name tiers profiles).rules)
    (hgrp : ∀ t ∈ tiers, ∀ g ∈ t.groups, g.inlined = false →
      lookupChain chains g.chain = some (policyGroupChain cfg g).rules)
    (hpol : ∀ t ∈ tiers, ∀ g ∈ t.groups, ∀ p ∈ g.pols, p.staged = false →
      PolicyChainOK cfg env pkt chains (polRules p.chain) p.chain)
    (hprof : ∀ p ∈ profiles, ProfileChainOK cfg env pkt chains (polRules p) p)
    (o1 : ∀ t ∈ tiers, ∀ g ∈ t.groups, g.inlined = true → ∀ p ∈ g.nonStaged,
      out p.chain = policyOutcome env pkt.v6 pkt (polRules p.chain))
    (o2 : ∀ t ∈ tiers, ∀ g ∈ t.groups, g.inlined = false →
      out g.chain = firstDecision (g.nonStaged.map fun p => policyOutcome env pkt.v6 pkt (polRules p.chain)))
    (o3 : ∀ p ∈ profiles, out p = policyOutcome env pkt.v6 pkt (polRules p)) :
    VShape cfg
      (endpointVerdict (tiers.map fun t => ((tierTargets t).map (fun th => out th.1), t.defaultPass))
        (profiles.map out))
      (evalChain env chains pkt (F + 4) name m) := by
  have h := endpoint_chain_verdict cfg mo vb vd e env pkt chains name tiers profiles polRules F m hup
    (fun h => absurd hfs h) hct henc hmD hep hgrp hpol hprof
  simp only [hn] at h
  rw [endpointVerdict_eq] at h ⊢
  rwa [List.map_congr_left o3, tiersVerdict_congr tiers _
    (fun t => (t.groups.flatMap (·.nonStaged)).map fun p => policyOutcome env pkt.v6 pkt (polRules p.chain))
    _ (fun t => t.defaultPass || !true) fun t ht => by
      rw [targetOuts_congr out (fun c => policyOutcome env pkt.v6 pkt (polRules c)) t (o1 t ht) (o2 t ht),
        tierResult_targetOuts, Bool.not_true, Bool.or_false]]

theorem endpoint_admin_down (cfg : Cfg) (e : EpCfg) (env : Env) (call : String → Mark → Result) (pkt : Packet)
    (name : String) (tiers : List Tier) (profiles : List String) (m : Mark) (hdown : e.adminUp = false) :
    runRules env call pkt (endpointChain cfg e name tiers profiles).rules m = .verdict (denyV cfg) m := by
  simp only [endpointChain, hdown, Bool.false_eq_true, not_false_eq_true, if_true]
  rw [runRules_cons_verdict (denyAction_verdict cfg)]; rfl

set_option linter.unusedVariables false in
/-- `endpoint_chain_verdict` with the name-distinctness hypotheses `hn1`, `hn2`, which it does not need -/
theorem endpoint_chain_verdict_names (cfg : Cfg) (mo : MarksOK cfg) (vb : VBits cfg) (vd : VD cfg) (e : EpCfg)
    (env : Env) (pkt : Packet) (chains : List Chain) (name : String) (tiers : List Tier) (profiles : List String)
    (polRules : String → List Policy.Rule) (F : Nat) (m : Mark)
    (hup : e.adminUp = true)
    (hfs : e.failsafe ≠ "" → ∀ m', evalChain env chains pkt (F + 3) e.failsafe m' = .returned m')
    (hct : pkt.ctState ≠ "RELATED" ∧ pkt.ctState ≠ "ESTABLISHED" ∧ pkt.ctState ≠ "INVALID")
    (henc : (e.dropVXLAN = true → pkt.proto ≠ 17) ∧ (e.dropIPIP = true → pkt.proto ≠ 4))
    (hmD : m &&& cfg.markDrop = 0)
    (hep : lookupChain chains name = some (endpointChain cfg e name tiers profiles).rules)
    (hgrp : ∀ t ∈ tiers, ∀ g ∈ t.groups, g.inlined = false →
      lookupChain chains g.chain = some (policyGroupChain cfg g).rules)
    (hpol : ∀ t ∈ tiers, ∀ g ∈ t.groups, ∀ p ∈ g.pols, p.staged = false →
      PolicyChainOK cfg env pkt chains (polRules p.chain) p.chain)
    (hprof : ∀ p ∈ profiles, ProfileChainOK cfg env pkt chains (polRules p) p)
    (hn1 : ∀ t ∈ tiers, ∀ g ∈ t.groups, g.inlined = false → ∀ t' ∈ tiers, ∀ g' ∈ t'.groups, g'.inlined = false →
      g'.chain = g.chain → g' = g)
    (hn2 : ∀ t ∈ tiers, ∀ g ∈ t.groups, g.inlined = false →
      (∀ t' ∈ tiers, ∀ g' ∈ t'.groups, g'.inlined = true → ∀ p ∈ g'.nonStaged, p.chain ≠ g.chain) ∧
      (∀ p ∈ profiles, p ≠ g.chain)) :
    let r := evalChain env chains pkt (F + 4) name m
    match e.chainType with
    | .normal =>
      VShape cfg (endpointVerdict (policyTiers env pkt polRules tiers true)
        (profiles.map fun p => policyOutcome env pkt.v6 pkt (polRules p))) r
    | .forward =>
      if tiers.isEmpty then ∃ m', r = .returned m' ∧ m' &&& cfg.markAccept = cfg.markAccept
      else TShape cfg (tiersVerdict (policyTiers env pkt polRules tiers true)) (fun m' => .returned m') r
    | _ => TShape cfg (tiersVerdict (policyTiers env pkt polRules tiers false)) (fun m' => .returned m') r :=
  endpoint_chain_verdict cfg mo vb vd e env pkt chains name tiers profiles polRules F m hup hfs hct henc hmD hep hgrp
    hpol hprof

end CalicoVerif.C09
