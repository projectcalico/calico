import CalicoVerif.Proofs.C12
import CalicoVerif.Model.C09
/-!
C12 — bridge between the two reference semantics: `C09.endpointVerdict` (over
`Model/Policy.ruleMatches`, the reference the iptables/nftables chain theorems are stated
against) and the C11 reference (`C11.workloadVerdict`, the reference of the BPF program theorem
and of the app-policy checker model).  The tier / profile part is generic in the rule translation
(`RuleBridge`); the first instance is the common fragment: protocol / not-protocol criteria,
lower-case API actions, no `pass` rule in a profile, every tier with ≥ 1 enforced policy.
-/
namespace CalicoVerif.C12
open CalicoVerif.C11

def trP : C11.Proto → Netfilter.Proto
  | .name s => .name s
  | .num n => .num n.toNat

def trRule (r : C11.Rule) : Policy.Rule :=
  { action := r.action, protocol := r.protocol.map trP, notProtocol := r.notProtocol.map trP }

/-- Numeric protocols are 8-bit (API validation). -/
def ProtoNumOK : Option C11.Proto → Prop
  | some (.num k) => 0 ≤ k ∧ k ≤ 255
  | _ => True

/-- Action spelled as Felix's calculation graph emits it. -/
def ActLit (a : String) : Prop := a = "allow" ∨ a = "deny" ∨ a = "pass" ∨ a = "next-tier" ∨ a = "log"

structure RuleCommon (r : C11.Rule) : Prop where
  po : ProtoOnly r
  act : ActLit r.action
  p1 : ProtoNumOK r.protocol
  p2 : ProtoNumOK r.notProtocol

/-- The kernel's protocol-name table agrees with the IANA numbers of the API names. -/
def EnvProto (env9 : Netfilter.Env) : Prop := ∀ s, env9.protoNum s = protoNumberRef (.name s)

theorem protoIs_bridge (env9 : Netfilter.Env) (he : EnvProto env9) (p : Pkt) (pr : C11.Proto)
    (hk : ProtoNumOK (some pr)) :
    Netfilter.protoIs env9 (Policy.protoTrunc (trP pr)) p.proto.toNat = C11.protoIs p pr := by
  cases pr with
  | num k =>
    obtain ⟨h0, h255⟩ := hk
    have hm : k.toNat % 256 = k.toNat := by omega
    simp only [trP, Policy.protoTrunc, Netfilter.protoIs, C11.protoIs, protoNumberRef, h0, h255, and_self, if_true, hm]
    rw [Bool.eq_iff_iff]; simp only [beq_iff_eq]
    constructor <;> intro h <;> exact h.symm
  | name s =>
    simp only [trP, Policy.protoTrunc, Netfilter.protoIs, C11.protoIs, he s]
    cases protoNumberRef (.name s) with
    | none => simp
    | some k =>
      rw [Bool.eq_iff_iff]; simp only [beq_iff_eq, Option.some.injEq]
      constructor <;> intro h <;> exact h.symm

theorem ruleMatches_bridge (env9 : Netfilter.Env) (he : EnvProto env9) (sn : String → String)
    (pkt9 : Netfilter.Packet) (env : Env) (p : Pkt) (hpr : pkt9.proto = p.proto.toNat)
    (r : C11.Rule) (hc : RuleCommon r) :
    Policy.ruleMatches env9 sn (trRule r) pkt9 = C11.ruleMatch env p .dest r := by
  have hpo := hc.po
  unfold ProtoOnly at hpo
  rw [hpo]
  have h1 := hc.p1
  have h2 := hc.p2
  simp only [Policy.ruleMatches, Policy.netsMatch, Policy.posNetOK, Policy.negNetOK, Policy.familyOK, Policy.restMatch,
    Policy.protoOK, Policy.portsMatch, Policy.otherMatch, Policy.icmpMatches, Policy.notIcmpMatches, trRule, hpr,
    C11.ruleMatch, C11.icmpIs]
  cases hp1 : r.protocol with
  | none =>
    cases hp2 : r.notProtocol with
    | none => simp
    | some b => rw [hp2] at h2; simp [protoIs_bridge env9 he p b h2]
  | some a =>
    rw [hp1] at h1
    cases hp2 : r.notProtocol with
    | none => simp [protoIs_bridge env9 he p a h1]
    | some b => rw [hp2] at h2; simp [protoIs_bridge env9 he p a h1, protoIs_bridge env9 he p b h2]

def toOut : Dec → C09.PolOutcome
  | .allow => .allow | .deny => .deny | .pass => .pass | .noMatch => .noMatch

def toV9 : Verdict → C09.Verdict
  | .allow => .allow
  | _ => .deny

theorem evalRules_ne_pass (env : Env) (p : Pkt) (leg : Leg) :
    ∀ rs : List C11.Rule, (∀ r ∈ rs, actOf r.action ≠ .pass) → evalRules env p leg rs ≠ .pass := by
  intro rs
  induction rs with
  | nil => intro _; simp [evalRules]
  | cons r rs ih =>
    intro h
    have ih' := ih (fun r' hr' => h r' (List.mem_cons_of_mem _ hr'))
    have hr := h r (List.mem_cons_self)
    simp only [evalRules]
    cases filterRule env.c.v6 r with
    | none => exact ih'
    | some fr =>
      simp only
      by_cases hm : ruleMatch env p leg fr = true
      · simp only [hm, if_true]
        cases ha : actOf r.action <;> simp_all
      · simp only [hm, Bool.false_eq_true, if_false]; exact ih'

structure RuleBridge (env9 : Netfilter.Env) (pkt9 : Netfilter.Packet) (env : Env) (p : Pkt)
    (tr : C11.Rule → Policy.Rule) (Ok : C11.Rule → Prop) : Prop where
  act : ∀ r, Ok r → ActLit r.action ∧ (tr r).action = r.action
  mat : ∀ r, Ok r → Policy.ruleMatches env9 (C08.setNameFor false) (tr r) pkt9 =
      (match filterRule env.c.v6 r with
       | none => false
       | some fr => C11.ruleMatch env p .dest fr)

section
variable {env9 : Netfilter.Env} {pkt9 : Netfilter.Packet} {env : Env} {p : Pkt}
  {tr : C11.Rule → Policy.Rule} {Ok : C11.Rule → Prop}

theorem policyOutcome_bridgeG (hb : RuleBridge env9 pkt9 env p tr Ok) :
    ∀ rs : List C11.Rule, (∀ r ∈ rs, Ok r) →
      C09.policyOutcome env9 false pkt9 (rs.map tr) = toOut (evalRules env p .dest rs) := by
  intro rs
  induction rs with
  | nil => intro _; rfl
  | cons r rs ih =>
    intro h
    have ih' := ih (fun q hq => h q (List.mem_cons_of_mem _ hq))
    have hc := h r (List.mem_cons_self)
    have hm := hb.mat r hc
    obtain ⟨hact, hta⟩ := hb.act r hc
    simp only [List.map_cons, C09.policyOutcome, evalRules, hm]
    cases hf : filterRule env.c.v6 r with
    | none => simp only [Bool.false_eq_true, if_false]; exact ih'
    | some fr =>
      simp only
      by_cases hx : C11.ruleMatch env p .dest fr = true
      · simp only [hx, if_true]
        rw [hta]
        rcases hact with h | h | h | h | h <;> rw [h] <;> simp [Policy.parseAction, actOf, asciiLower, toOut, ih'] <;> decide
      · simp only [hx, Bool.false_eq_true, if_false]; exact ih'

def outsG (env9 : Netfilter.Env) (pkt9 : Netfilter.Packet) (tr : C11.Rule → Policy.Rule) (ps : List Policy) :
    List C09.PolOutcome :=
  ps.map (fun pol => C09.policyOutcome env9 false pkt9 (pol.rules.map tr))

def PoliciesOkG (Ok : C11.Rule → Prop) (ps : List Policy) : Prop := ∀ pol ∈ ps, ∀ r ∈ pol.rules, Ok r

theorem find_bridgeG (hb : RuleBridge env9 pkt9 env p tr Ok) :
    ∀ ps : List Policy, PoliciesOkG Ok ps →
      (outsG env9 pkt9 tr ps).find? (· ≠ .noMatch) =
        (match evalPolicies env p .dest ps with
         | .noMatch => none
         | d => some (toOut d)) := by
  intro ps
  induction ps with
  | nil => intro _; rfl
  | cons pol ps ih =>
    intro h
    have ih' := ih (fun q hq => h q (List.mem_cons_of_mem _ hq))
    have h1 := policyOutcome_bridgeG hb pol.rules (h pol (List.mem_cons_self))
    simp only [outsG, List.map_cons, List.find?_cons, h1, evalPolicies]
    simp only [outsG] at ih'
    cases evalRules env p .dest pol.rules with
    | noMatch => simpa [toOut, -List.find?_map] using ih'
    | allow => simp [toOut]
    | deny => simp [toOut]
    | pass => simp [toOut]

theorem tierResult_bridgeG (hb : RuleBridge env9 pkt9 env p tr Ok) (t : Tier) (hne : t.policies ≠ [])
    (hc : PoliciesOkG Ok t.policies) :
    C09.tierResult (outsG env9 pkt9 tr t.policies) (t.endAction == .pass) =
      (match evalPolicies env p .dest t.policies with
       | .allow => .allow
       | .deny => .deny
       | .pass => .nextTier
       | .noMatch => if t.endAction == .pass then .nextTier else .deny) := by
  have hf := find_bridgeG hb t.policies hc
  have hemp : (outsG env9 pkt9 tr t.policies).isEmpty = false := by
    cases hq : t.policies with
    | nil => exact absurd hq hne
    | cons _ _ => simp [outsG]
  unfold C09.tierResult
  rw [hf]
  cases evalPolicies env p .dest t.policies <;> simp [toOut, hemp]

def TiersOkG (Ok : C11.Rule → Prop) (ts : List Tier) : Prop := ∀ t ∈ ts, t.policies ≠ [] ∧ PoliciesOkG Ok t.policies

/-- No pass / next-tier rule in a profile: there the dataplanes disagree (`profile_pass_disagree`, Props/C12). -/
def NoProfilePass (ps : List Policy) : Prop :=
  ∀ pr ∈ ps, ∀ r ∈ pr.rules, actOf r.action ≠ .pass

def ProfilesOkG (Ok : C11.Rule → Prop) (ps : List Policy) : Prop :=
  PoliciesOkG Ok ps ∧ ∀ pol ∈ ps, ∀ r ∈ pol.rules, actOf r.action ≠ .pass

theorem ProfilesOkG.noPass {Ok : C11.Rule → Prop} {ps : List Policy} (h : ProfilesOkG Ok ps) : NoProfilePass ps := h.2

theorem profilesVerdict_bridgeG (hb : RuleBridge env9 pkt9 env p tr Ok) :
    ∀ ps : List Policy, ProfilesOkG Ok ps →
      C09.profilesVerdict (outsG env9 pkt9 tr ps) =
        toV9 (match evalProfiles true env p ps with | .allow => Verdict.allow | _ => .deny) := by
  intro ps
  induction ps with
  | nil => intro _; rfl
  | cons pr ps ih =>
    intro h
    have ih' := ih ⟨fun q hq => h.1 q (List.mem_cons_of_mem _ hq), fun q hq => h.2 q (List.mem_cons_of_mem _ hq)⟩
    have h1 := policyOutcome_bridgeG hb pr.rules (h.1 pr (List.mem_cons_self))
    have hnp := evalRules_ne_pass env p .dest pr.rules (h.noPass pr (List.mem_cons_self))
    simp only [outsG, List.map_cons, h1, evalProfiles]
    simp only [outsG] at ih'
    cases he2 : evalRules env p .dest pr.rules <;> simp_all [toOut, C09.profilesVerdict, toV9]

theorem endpointVerdict_bridgeG (hb : RuleBridge env9 pkt9 env p tr Ok) (profiles : List Policy)
    (hprof : ProfilesOkG Ok profiles) :
    ∀ ts : List Tier, TiersOkG Ok ts →
      C09.endpointVerdict (ts.map (fun t => (outsG env9 pkt9 tr t.policies, t.endAction == .pass)))
          (outsG env9 pkt9 tr profiles) =
        toV9 (refVerdict env p ts profiles) := by
  intro ts
  induction ts with
  | nil =>
    intro _
    simp only [List.map_nil, C09.endpointVerdict, refVerdict, evalTiers]
    exact profilesVerdict_bridgeG hb profiles hprof
  | cons t ts ih =>
    intro h
    have ih' := ih (fun q hq => h q (List.mem_cons_of_mem _ hq))
    obtain ⟨hne, hc⟩ := h t (List.mem_cons_self)
    have ht := tierResult_bridgeG hb t hne hc
    simp only [List.map_cons, C09.endpointVerdict, ht, refVerdict, evalTiers]
    cases evalPolicies env p .dest t.policies with
    | allow => rfl
    | deny => rfl
    | pass => exact ih'
    | noMatch =>
      cases hea : t.endAction <;> simp [toV9] <;> first | exact ih' | rfl

end

theorem ruleBridge_common (env9 : Netfilter.Env) (he : EnvProto env9) (pkt9 : Netfilter.Packet) (env : Env) (p : Pkt)
    (hv : pkt9.v6 = false) (hpr : pkt9.proto = p.proto.toNat) : RuleBridge env9 pkt9 env p trRule RuleCommon := by
  refine ⟨fun r hr => ⟨hr.act, rfl⟩, fun r hr => ?_⟩
  rw [filterRule_protoOnly env.c.v6 r hr.po]
  exact ruleMatches_bridge env9 he (C08.setNameFor false) pkt9 env p hpr r hr

def outs9 (env9 : Netfilter.Env) (pkt9 : Netfilter.Packet) (ps : List Policy) : List C09.PolOutcome :=
  ps.map (fun pol => C09.policyOutcome env9 false pkt9 (pol.rules.map trRule))

def PoliciesCommon (ps : List Policy) : Prop := ∀ pol ∈ ps, ∀ r ∈ pol.rules, RuleCommon r

def TiersCommon (ts : List Tier) : Prop := ∀ t ∈ ts, t.policies ≠ [] ∧ PoliciesCommon t.policies

def ProfilesCommon (ps : List Policy) : Prop :=
  PoliciesCommon ps ∧ ∀ pol ∈ ps, ∀ r ∈ pol.rules, actOf r.action ≠ .pass

theorem outs9_eq (env9 : Netfilter.Env) (pkt9 : Netfilter.Packet) (ps : List Policy) :
    outs9 env9 pkt9 ps = outsG env9 pkt9 trRule ps := rfl

theorem TiersCommon.okG {ts : List Tier} (h : TiersCommon ts) : TiersOkG RuleCommon ts := h

theorem ProfilesCommon.okG {ps : List Policy} (h : ProfilesCommon ps) : ProfilesOkG RuleCommon ps := h

/-- **The two references agree on the common fragment**: `C09.endpointVerdict` (fed with the
Model/Policy outcomes of the translated rules) = the C11 reference workload verdict. -/
theorem endpointVerdict_bridge (env9 : Netfilter.Env) (he : EnvProto env9) (pkt9 : Netfilter.Packet) (env : Env) (p : Pkt)
    (hv : pkt9.v6 = false) (hpr : pkt9.proto = p.proto.toNat) (profiles : List Policy) (hprof : ProfilesCommon profiles) :
    ∀ ts : List Tier, TiersCommon ts →
      C09.endpointVerdict (ts.map (fun t => (outs9 env9 pkt9 t.policies, t.endAction == .pass))) (outs9 env9 pkt9 profiles) =
        toV9 (match evalTiers env p .dest ts with
          | .allow => Verdict.allow
          | .deny => .deny
          | _ => (match evalProfiles true env p profiles with | .allow => .allow | _ => .deny)) := by
  intro ts hts
  simp only [outs9_eq]
  exact endpointVerdict_bridgeG (ruleBridge_common env9 he pkt9 env p hv hpr) profiles hprof.okG ts hts.okG

end CalicoVerif.C12
