import CalicoVerif.Model.C23
import CalicoVerif.Proofs.Assoc
/-! C23 — the allocation-side functions leave the block/node indexes alone (`Fr`), so a property kept by `Fr` and by
the two functions that change the indexes holds in every reachable state (`Stable`; `Idx`, `Tracks`), whence `NotLast`
at each release.  The affinity-release loop is read one turn at a time (`loop_cons`: skipped or `Releases`) along its
ghost trace. -/
namespace CalicoVerif.C23

namespace AMap

theorem get_eq {α : Type} (m : AMap α) (k : Nat) : m.get k = Assoc.get m k := by
  induction m with
  | nil => rfl
  | cons kv r ih => simp only [AMap.get, Assoc.get, ih]

theorem del_eq_filter {α : Type} (m : AMap α) (k : Nat) : m.del k = m.filter fun kv => decide (kv.1 ≠ k) := by
  induction m with
  | nil => rfl
  | cons kv r ih => by_cases h : kv.1 = k <;> simp [AMap.del, h, ih]

theorem get_del {α : Type} (m : AMap α) (k k' : Nat) :
    (m.del k).get k' = if k' = k then none else m.get k' := by
  rw [del_eq_filter, get_eq, get_eq]; exact Assoc.get_del m k k'

theorem get_set {α : Type} (m : AMap α) (k k' : Nat) (v : α) :
    (m.set k v).get k' = if k' = k then some v else m.get k' := by
  rw [AMap.set, del_eq_filter, get_eq, get_eq]; exact Assoc.get_set m k k' v

end AMap

structure Fr (s s' : St) : Prop where
  nbb : s'.nodesByBlock = s.nodesByBlock
  bbn : s'.blocksByNode = s.blocksByNode
  empty : s'.emptyBlocks = s.emptyBlocks
  seen : s'.seen = s.seen

theorem Fr.refl (s : St) : Fr s s := ⟨rfl, rfl, rfl, rfl⟩
theorem Fr.trans {a b c : St} (h1 : Fr a b) (h2 : Fr b c) : Fr a c :=
  ⟨h2.nbb.trans h1.nbb, h2.bbn.trans h1.bbn, h2.empty.trans h1.empty, h2.seen.trans h1.seen⟩

theorem fr_markDirty (s : St) (n : Nat) : Fr s (markDirty s n) := by
  unfold markDirty; split <;> exact ⟨rfl, rfl, rfl, rfl⟩
theorem fr_markClean (s : St) (n : Nat) : Fr s (markClean s n) := ⟨rfl, rfl, rfl, rfl⟩
theorem fr_releaseAlloc (s : St) (a : Alloc) : Fr s (releaseAlloc s a) :=
  Fr.trans (b := { s with allocs := s.allocs.filter (fun x => x.id != a.id), leaks := s.leaks.filter (· != a.id) })
    ⟨rfl, rfl, rfl, rfl⟩ (fr_markDirty _ _)

theorem fr_foldl {α : Type} (f : St → α → St) (hf : ∀ s x, Fr s (f s x)) (l : List α) (s : St) : Fr s (l.foldl f s) :=
  List.foldlRecOn (motive := Fr s) l f (Fr.refl s) fun s1 h x _ => Fr.trans h (hf s1 x)

theorem fr_releaseAll (s : St) (as : List Alloc) : Fr s (releaseAll s as) := fr_foldl _ fr_releaseAlloc as s

theorem fr_ite {c : Prop} [Decidable c] {s : St} {a b : St} (ha : Fr s a) (hb : Fr s b) : Fr s (if c then a else b) := by
  split <;> assumption

theorem fr_ite_fst {α : Type} {c : Prop} [Decidable c] {s : St} {a b : St × α} (ha : Fr s a.1) (hb : Fr s b.1) :
    Fr s (if c then a else b).1 := by
  split <;> assumption

theorem fr_upsert (s : St) (b : Nat) (e : Entry) (h : Nat) : Fr s (upsert s b e h) := by
  simp only [upsert]
  split
  · exact fr_ite ⟨rfl, rfl, rfl, rfl⟩ (Fr.refl s)
  · exact Fr.trans (b := { s with allocs := s.allocs ++ [{ block := b, ord := e.ord, handle := h, kind := e.kind, node := e.node, pod := e.pod, seq := e.seq }] })
      ⟨rfl, rfl, rfl, rfl⟩ (fr_markDirty _ _)

theorem fr_upsertAll (s : St) (b : Nat) (es : List Entry) : Fr s (upsertAll s b es) := by
  induction es generalizing s with
  | nil => exact Fr.refl s
  | cons e es ih =>
    simp only [upsertAll]
    split
    · exact ih s
    · exact Fr.trans (fr_upsert s b e _) (ih _)

theorem fr_applyVerdict (s : St) (v : Verdict) : Fr s (applyVerdict s v) := by
  unfold applyVerdict
  split <;> exact ⟨rfl, rfl, rfl, rfl⟩

theorem fr_checkNode (s : St) (n : Nat) : Fr s (checkNode s n).1 := by
  simp only [checkNode]
  split
  · exact fr_markClean s n
  · refine fr_ite_fst (fr_ite_fst ?_ ?_) ?_
    · exact Fr.trans (fr_foldl _ fr_applyVerdict _ s) (fr_markClean _ _)
    · exact Fr.trans (Fr.trans (fr_foldl _ fr_applyVerdict _ s) (fr_foldl _ (fun s v => fr_applyVerdict s _) _ _)) (fr_markDirty _ _)
    · exact Fr.trans (fr_foldl _ fr_applyVerdict _ s) (fr_markClean _ _)

theorem fr_checkNodes (s : St) (ns : List Nat) : Fr s (checkNodes s ns).1 := by
  induction ns generalizing s with
  | nil => exact Fr.refl s
  | cons n ns ih => exact Fr.trans (fr_checkNode s n) (ih _)

theorem fr_checkAllocations (s : St) : Fr s (checkAllocations s).1 :=
  Fr.trans (b := { s with fullSync := false }) ⟨rfl, rfl, rfl, rfl⟩ (fr_checkNodes _ _)

theorem fr_gcSelect (s : St) (ids : List Id) : Fr s (gcSelect s ids).1 := by
  induction ids generalizing s with
  | nil => exact Fr.refl s
  | cons id ids ih =>
    simp only [gcSelect]
    split
    · exact ih s
    · refine fr_ite_fst ?_ (fr_ite_fst (ih s) (ih s))
      refine Fr.trans ?_ (ih _)
      exact ⟨rfl, rfl, rfl, rfl⟩

theorem fr_gc (s : St) : Fr s (garbageCollectKnownLeaks s).1 := by
  unfold garbageCollectKnownLeaks
  simp only
  split
  · exact fr_gcSelect s _
  · exact Fr.trans (fr_gcSelect s _) (fr_releaseAll _ _)

def blocksOf (m : AMap (List Nat)) (n : Nat) : List Nat := (m.get n).getD []

/-- The model's functions and `BlockGuard` spell `blocksOf` out. -/
theorem blocksOf_eq (m : AMap (List Nat)) (n : Nat) : (m.get n).getD [] = blocksOf m n := rfl

structure IdxF (nbb : AMap Nat) (bbn : AMap (List Nat)) (em : AMap Nat) : Prop where
  mem : ∀ n b, b ∈ blocksOf bbn n ↔ nbb.get b = some n
  nodup : ∀ n, (blocksOf bbn n).Nodup
  empty : ∀ b n, em.get b = some n → nbb.get b = some n

def Idx (s : St) : Prop := IdxF s.nodesByBlock s.blocksByNode s.emptyBlocks

theorem Idx.of_fr {s s' : St} (f : Fr s s') (h : Idx s) : Idx s' := by
  unfold Idx at *; rw [f.nbb, f.bbn, f.empty]; exact h

theorem mem_sins (l : List Nat) (x y : Nat) : y ∈ sins l x ↔ y = x ∨ y ∈ l := by
  simp only [sins, List.contains_iff_mem]
  split
  · next h => exact ⟨.inr, fun h' => h'.elim (fun e => e ▸ h) id⟩
  · exact List.mem_cons

theorem nodup_sins {l : List Nat} (h : l.Nodup) (x : Nat) : (sins l x).Nodup := by
  simp only [sins, List.contains_iff_mem]
  split
  · exact h
  · next hx => exact List.nodup_cons.2 ⟨hx, h⟩

theorem blocksOf_bbnAdd (m : AMap (List Nat)) (n b n' : Nat) :
    blocksOf (bbnAdd m n b) n' = if n' = n then sins (blocksOf m n) b else blocksOf m n' := by
  simp only [blocksOf, bbnAdd, AMap.get_set]
  by_cases h : n' = n <;> simp [h]

theorem blocksOf_bbnDel (m : AMap (List Nat)) (n b n' : Nat) :
    blocksOf (bbnDel m n b) n' = if n' = n then (blocksOf m n).filter (· != b) else blocksOf m n' := by
  simp only [blocksOf, bbnDel]
  cases hg : m.get n with
  | none =>
    by_cases h : n' = n
    · subst h; simp [hg]
    · simp [h]
  | some bs =>
    simp only
    by_cases he : (bs.filter (· != b)).isEmpty = true
    · simp only [he, if_true, AMap.get_del]
      by_cases h : n' = n
      · simp only [h, if_true, Option.getD_none, Option.getD_some]
        exact (List.isEmpty_iff.1 he).symm
      · simp [h]
    · have he' : (bs.filter (· != b)).isEmpty = false := by simpa using he
      simp only [he', Bool.false_eq_true, if_false, AMap.get_set]
      by_cases h : n' = n <;> simp [h]

theorem mem_bbnAdd (m : AMap (List Nat)) (n b n' x : Nat) :
    x ∈ blocksOf (bbnAdd m n b) n' ↔ x ∈ blocksOf m n' ∨ (n' = n ∧ x = b) := by
  rw [blocksOf_bbnAdd]
  split
  · next h => subst h; simp [mem_sins, or_comm]
  · next h => simp [h]

theorem mem_bbnDel (m : AMap (List Nat)) (n b n' x : Nat) :
    x ∈ blocksOf (bbnDel m n b) n' ↔ x ∈ blocksOf m n' ∧ ¬ (n' = n ∧ x = b) := by
  rw [blocksOf_bbnDel]
  split
  · next h => subst h; simp [List.mem_filter]
  · next h => simp [h]

theorem mem_dropOld (nbb : AMap Nat) (bbn : AMap (List Nat)) (b n m x : Nat) :
    x ∈ blocksOf (dropOld nbb bbn b n) m ↔ x ∈ blocksOf bbn m ∧ ¬ (x = b ∧ nbb.get b = some m ∧ m ≠ n) := by
  unfold dropOld
  cases nbb.get b with
  | none => simp
  | some old =>
    dsimp only
    split
    · next ho =>
      have ho : old ≠ n := by simpa using ho
      rw [mem_bbnDel]
      refine and_congr_right fun _ => not_congr ⟨fun ⟨e, hx⟩ => ⟨hx, e ▸ rfl, e ▸ ho⟩, fun ⟨hx, e, _⟩ => ⟨(Option.some.inj e).symm, hx⟩⟩
    · next ho =>
      have ho : old = n := by simpa using ho
      exact (and_iff_left fun ⟨_, e, hm⟩ => hm ((Option.some.inj e).symm.trans ho)).symm

theorem nodup_bbnDel {m : AMap (List Nat)} (h : ∀ n, (blocksOf m n).Nodup) (n b n' : Nat) :
    (blocksOf (bbnDel m n b) n').Nodup := by
  rw [blocksOf_bbnDel]
  split
  · exact (h n).sublist List.filter_sublist
  · exact h n'

theorem idxF_remove {nbb : AMap Nat} {bbn : AMap (List Nat)} {em : AMap Nat} (h : IdxF nbb bbn em) (b : Nat) :
    IdxF (nbb.del b) (match nbb.get b with | some n => bbnDel bbn n b | none => bbn) (em.del b) := by
  refine ⟨fun n x => ?_, fun n => ?_, fun x n hx => ?_⟩
  · rw [AMap.get_del]
    -- `b` leaves the list of the node it was recorded for; nothing else changes
    have key : x ∈ blocksOf (match nbb.get b with | some n => bbnDel bbn n b | none => bbn) n ↔
        nbb.get x = some n ∧ x ≠ b := by
      cases hg : nbb.get b with
      | none =>
        dsimp only
        rw [h.mem]
        exact (and_iff_left_of_imp fun hx e => by rw [e, hg] at hx; cases hx).symm
      | some n0 =>
        dsimp only
        rw [mem_bbnDel, h.mem]
        refine and_congr_right fun hx => not_congr ⟨fun e => e.2, fun e => ⟨?_, e⟩⟩
        rw [e, hg] at hx; exact (Option.some.inj hx).symm
    rw [key]
    by_cases hx : x = b <;> simp [hx]
  · cases nbb.get b with
    | none => exact h.nodup n
    | some n0 => exact nodup_bbnDel h.nodup ..
  · rw [AMap.get_del] at hx ⊢
    split at hx
    · cases hx
    · next hxb => rw [if_neg hxb]; exact h.empty x n hx

/-- a block update carrying a host affinity `n` (the repaired code: the old node's entry is dropped
when the affinity moved straight from another host) -/
theorem idxF_assign {nbb : AMap Nat} {bbn : AMap (List Nat)} {em : AMap Nat} (h : IdxF nbb bbn em) (b n : Nat) (e : Bool) :
    IdxF (nbb.set b n)
      (bbnAdd (dropOld nbb bbn b n) n b)
      (if e then em.set b n else em.del b) := by
  refine ⟨fun n' x => ?_, fun n' => ?_, fun x n' hx => ?_⟩
  · rw [mem_bbnAdd, mem_dropOld, h.mem, AMap.get_set]
    by_cases hx : x = b
    · subst hx
      simp only [true_and, if_true, Option.some.injEq]
      constructor
      · rintro (⟨hg, hn⟩ | ⟨e, _⟩)
        · exact (Decidable.not_not.1 fun hne => hn ⟨hg, hne⟩).symm
        · exact e.symm
      · exact fun e => .inr ⟨e.symm, trivial⟩
    · simp only [hx, false_and, not_false_eq_true, and_true, and_false, or_false, if_false]
  · rw [blocksOf_bbnAdd]
    have hnd : ∀ m, (blocksOf (dropOld nbb bbn b n) m).Nodup := by
      intro m
      unfold dropOld
      cases nbb.get b with
      | none => exact h.nodup m
      | some old =>
        dsimp only
        split
        · exact nodup_bbnDel h.nodup ..
        · exact h.nodup m
    split
    · exact nodup_sins (hnd _) _
    · exact hnd _
  · rw [AMap.get_set]
    cases e with
    | true =>
      rw [if_pos rfl, AMap.get_set] at hx
      split at hx
      · next hxb => rw [if_pos hxb]; exact hx
      · next hxb => rw [if_neg hxb]; exact h.empty x n' hx
    | false =>
      rw [if_neg Bool.false_ne_true, AMap.get_del] at hx
      split at hx
      · cases hx
      · next hxb => rw [if_neg hxb]; exact h.empty x n' hx

theorem idx_forgetBlock {s : St} (h : Idx s) (b : Nat) : Idx (forgetBlock s b) := by
  have h1 : Idx (releaseAll s (s.allocs.filter (fun a => a.block == b))) := h.of_fr (fr_releaseAll s _)
  unfold forgetBlock
  exact idxF_remove h1 b

theorem onBlockUpdated_indexes (s : St) (b : Nat) (aff : Option Nat) (es : List Entry) :
    (onBlockUpdated s b aff es).nodesByBlock = (affinityStage s b aff).nodesByBlock ∧
    (onBlockUpdated s b aff es).blocksByNode = (affinityStage s b aff).blocksByNode ∧
    (onBlockUpdated s b aff es).emptyBlocks =
      (match aff with
       | some n => if es.isEmpty then s.emptyBlocks.set b n else s.emptyBlocks.del b
       | none => s.emptyBlocks.del b) := by
  have f2 := fr_upsertAll (affinityStage s b aff) b es
  have f4 := fr_releaseAll (emptyStage (upsertAll (affinityStage s b aff) b es) b es.isEmpty aff)
    ((emptyStage (upsertAll (affinityStage s b aff) b es) b es.isEmpty aff).allocs.filter
      (fun a => a.block == b && !(currentIds b es).contains a.id))
  have e0 : (affinityStage s b aff).emptyBlocks = s.emptyBlocks := by
    unfold affinityStage
    cases aff with
    | some n => rfl
    | none => dsimp only; split <;> rfl
  refine ⟨f4.nbb.trans (Eq.trans ?_ f2.nbb), f4.bbn.trans (Eq.trans ?_ f2.bbn), f4.empty.trans ?_⟩
  · cases aff with
    | none => rfl
    | some n => cases es.isEmpty <;> rfl
  · cases aff with
    | none => rfl
    | some n => cases es.isEmpty <;> rfl
  · rw [← e0, ← f2.empty]
    cases aff with
    | none => rfl
    | some n => cases es.isEmpty <;> rfl

theorem idx_onBlockUpdated {s : St} (h : Idx s) (b : Nat) (aff : Option Nat) (es : List Entry) :
    Idx (onBlockUpdated s b aff es) := by
  obtain ⟨e1, e2, e3⟩ := onBlockUpdated_indexes s b aff es
  unfold Idx
  rw [e1, e2, e3]
  cases aff with
  | some n => exact idxF_assign h b n es.isEmpty
  | none =>
    have h1 := idxF_remove h b
    unfold affinityStage
    cases hg : s.nodesByBlock.get b with
    | some n' => rw [hg] at h1; exact h1
    | none =>
      rw [hg] at h1
      -- nothing to delete: `del` of an absent key leaves every lookup unchanged
      refine ⟨h.mem, h.nodup, fun x n hx => ?_⟩
      have := h1.empty x n hx
      rw [AMap.get_del] at this
      split at this
      · cases this
      · exact this

/-- `R`: the ids of the leaks resurrected so far in this pass. -/
def mv (R : List Id) (x : Alloc) : Alloc := if R.contains x.id then x.markValid else x

theorem markValid_id (x : Alloc) : x.markValid.id = x.id := rfl
theorem markValid_handle (x : Alloc) : x.markValid.handle = x.handle := rfl
theorem markValid_idem (x : Alloc) : x.markValid.markValid = x.markValid := rfl
theorem markValid_confirmed (x : Alloc) : x.markValid.confirmed = false := rfl

theorem mv_id (R : List Id) (x : Alloc) : (mv R x).id = x.id := by unfold mv; split <;> rfl
theorem mv_handle (R : List Id) (x : Alloc) : (mv R x).handle = x.handle := by unfold mv; split <;> rfl

theorem mv_of_confirmed {R : List Id} {x : Alloc} (h : (mv R x).confirmed = true) : mv R x = x := by
  unfold mv at h ⊢
  split
  · next hr => rw [if_pos hr] at h; cases h
  · rfl

theorem mv_cons (R : List Id) (id : Id) (x : Alloc) :
    (if (mv R x).id == id then (mv R x).markValid else mv R x) = mv (id :: R) x := by
  rw [mv_id]
  unfold mv
  by_cases h1 : x.id = id
  · have : (x.id == id) = true := by simpa using h1
    simp only [this, if_true, List.contains_cons, Bool.true_or]
    split <;> rfl
  · have : (x.id == id) = false := by simpa using h1
    simp only [this, Bool.false_eq_true, if_false, List.contains_cons, Bool.false_or]

/-- `s0` is the input state of the pass, before any resurrection. -/
theorem gcSelect_input (s0 : St) (R : List Id) (st : St) (ids : List Id) (henv : st.env = s0.env)
    (hall : st.allocs = s0.allocs.map (mv R)) :
    ∀ a ∈ (gcSelect st ids).2, a ∈ s0.allocs ∧ isValid s0.env a a.knode.isNone = false ∧ a.confirmed = true ∧
      ∀ c ∈ s0.allocs, c.handle = a.handle → c.confirmed = true := by
  induction ids generalizing st R with
  | nil => intro a ha; simp [gcSelect] at ha
  | cons id ids ih =>
    intro a ha
    simp only [gcSelect] at ha
    cases hf : st.allocs.find? (fun x => x.id == id) with
    | none => simp only [hf] at ha; exact ih R st henv hall a ha
    | some a0 =>
      simp only [hf] at ha
      by_cases hv : isValid st.env a0 a0.knode.isNone = true
      · simp only [hv, if_true] at ha
        refine ih (id :: R) { st with leaks := st.leaks.filter (· != id), allocs := st.allocs.map (fun x => if x.id == id then x.markValid else x) } henv ?_ a ha
        show st.allocs.map (fun x => if x.id == id then x.markValid else x) = s0.allocs.map (mv (id :: R))
        rw [hall, List.map_map]
        apply List.map_congr_left
        intro x _
        exact mv_cons R id x
      · simp only [hv] at ha
        by_cases hh : handleConfirmed st a0.handle = true
        · simp only [hh, Bool.not_true, Bool.false_eq_true, if_false] at ha
          rcases List.mem_cons.1 ha with rfl | ha
          · have hm : a ∈ st.allocs := List.mem_of_find?_eq_some hf
            have hallc : ∀ b ∈ st.allocs, b.handle = a.handle → b.confirmed = true := by
              intro b hb hbh
              simp only [handleConfirmed, Bool.and_eq_true, List.all_eq_true, List.mem_filter, beq_iff_eq, and_imp] at hh
              exact hh.2 b hb hbh
            -- a is an unmodified allocation of the input state
            rw [hall, List.mem_map] at hm
            obtain ⟨x, hx, hxa⟩ := hm
            have hconf : a.confirmed = true := hallc a (List.mem_of_find?_eq_some hf) rfl
            obtain rfl : x = a := (mv_of_confirmed (hxa ▸ hconf)).symm.trans hxa
            refine ⟨hx, by rw [← henv]; simpa using hv, hconf, fun c hc hch => ?_⟩
            have hmc : mv R c ∈ st.allocs := by rw [hall]; exact List.mem_map.2 ⟨c, hc, rfl⟩
            have := hallc (mv R c) hmc (by rw [mv_handle]; exact hch)
            exact mv_of_confirmed this ▸ this
          · exact ih R st henv hall a ha
        · simp only [hh, Bool.not_false, if_true] at ha
          exact ih R st henv hall a ha

theorem map_mv_nil (l : List Alloc) : l.map (mv []) = l :=
  (List.map_congr_left fun x _ => by simp [mv]).trans (List.map_id l)

theorem gc_calls {s : St} {c : Call} (h : c ∈ (garbageCollectKnownLeaks s).2) :
    c = .releaseIPs ((gcSelect s s.leaks).2.map (fun a => (a.block, a.ord, a.handle, a.seq))) := by
  unfold garbageCollectKnownLeaks at h
  dsimp only at h
  split at h
  · cases h
  · exact List.mem_singleton.1 h

/-- GHOST trace of `releaseUnusedLoop`: the state AT THE MOMENT of each `ReleaseBlockAffinity`, with the block and node -/
def releaseTrace : St → List (Nat × Nat) → List (St × Nat × Nat)
  | _, [] => []
  | s, (b, node) :: rest =>
    if (s.emptyBlocks.get b).isNone then releaseTrace s rest
    else if ((s.blocksByNode.get node).getD []).length ≤ 1 then releaseTrace s rest
    else if s.cnodes.get node == some none then releaseTrace { s with tracker := s.tracker.del b } rest
    else
      let r := markEmpty s b
      if !r.2 then releaseTrace r.1 rest
      else if !r.1.allBlocks.contains b then releaseTrace r.1 rest
      else (r.1, b, node) :: releaseTrace (forgetBlock r.1 b) rest

theorem markEmpty_true {s s' : St} {b : Nat} (h : markEmpty s b = (s', true)) :
    s' = s ∧ ∃ g t, s.grace = some g ∧ 0 < g ∧ s.tracker.get b = some t ∧ s.now - t > g := by
  unfold markEmpty at h
  cases hg : s.grace with
  | none => simp [hg] at h
  | some g =>
    simp only [hg] at h
    by_cases hp : g > 0
    · simp only [hp, if_true] at h
      cases ht : s.tracker.get b with
      | none => simp [ht] at h
      | some t =>
        simp only [ht, Prod.mk.injEq, decide_eq_true_eq] at h
        exact ⟨h.1.symm, g, t, rfl, hp, rfl, h.2⟩
    · simp [hp] at h

theorem fr_markEmpty (s : St) (b : Nat) : Fr s (markEmpty s b).1 := by
  unfold markEmpty
  split
  · split
    · split
      · exact ⟨rfl, rfl, rfl, rfl⟩
      · exact Fr.refl s
    · exact Fr.refl s
  · exact Fr.refl s

/-- what holds in the state `st` AT THE MOMENT block `b` of `node` has its affinity released -/
structure BlockGuard (st : St) (b node : Nat) : Prop where
  empty : st.emptyBlocks.get b = some node
  twoBlocks : 2 ≤ ((st.blocksByNode.get node).getD []).length
  grace : ∃ g t, st.grace = some g ∧ 0 < g ∧ st.tracker.get b = some t ∧ st.now - t > g

/-- The tests the head `(b, node)` passed are `BlockGuard` under `ListOK` (`trace_guard`). -/
structure Releases (s : St) (b node : Nat) (rest : List (Nat × Nat)) : Prop where
  present : (s.emptyBlocks.get b).isNone = false
  twoBlocks : 2 ≤ ((s.blocksByNode.get node).getD []).length
  grace : ∃ g t, s.grace = some g ∧ 0 < g ∧ s.tracker.get b = some t ∧ s.now - t > g
  loop : releaseUnusedLoop s ((b, node) :: rest) =
    ((releaseUnusedLoop (forgetBlock s b) rest).1,
      Call.releaseBlockAffinity b node :: (releaseUnusedLoop (forgetBlock s b) rest).2)
  trace : releaseTrace s ((b, node) :: rest) = (s, b, node) :: releaseTrace (forgetBlock s b) rest

theorem loop_cons (s : St) (b node : Nat) (rest : List (Nat × Nat)) :
    (∃ s1, Fr s s1 ∧ releaseUnusedLoop s ((b, node) :: rest) = releaseUnusedLoop s1 rest ∧
        releaseTrace s ((b, node) :: rest) = releaseTrace s1 rest) ∨
    Releases s b node rest := by
  simp only [releaseUnusedLoop, releaseTrace]
  by_cases h1 : (s.emptyBlocks.get b).isNone = true
  · exact .inl ⟨s, Fr.refl s, by simp [h1]⟩
  · simp only [h1]
    by_cases h2 : ((s.blocksByNode.get node).getD []).length ≤ 1
    · exact .inl ⟨s, Fr.refl s, by simp [h2]⟩
    · simp only [h2]
      by_cases h3 : (s.cnodes.get node == some none) = true
      · exact .inl ⟨{ s with tracker := s.tracker.del b }, ⟨rfl, rfl, rfl, rfl⟩, by simp [h3]⟩
      · simp only [h3, Bool.false_eq_true, if_false]
        have fm := fr_markEmpty s b
        cases hm : markEmpty s b with
        | mk s1 ok =>
          rw [hm] at fm
          cases ok with
          | false => exact .inl ⟨s1, fm, by simp⟩
          | true =>
            obtain ⟨rfl, hg⟩ := markEmpty_true hm
            by_cases h5 : b ∈ s1.allBlocks
            · exact .inr ⟨Bool.eq_false_iff.2 h1, by omega, hg,
                by simp [releaseUnusedLoop, h1, h2, h3, hm, h5], by simp [releaseTrace, h1, h2, h3, hm, h5]⟩
            · exact .inl ⟨s1, fm, by simp [h5]⟩

theorem loop_calls_eq_trace (s : St) (l : List (Nat × Nat)) :
    (releaseUnusedLoop s l).2 = (releaseTrace s l).map (fun t => Call.releaseBlockAffinity t.2.1 t.2.2) := by
  induction l generalizing s with
  | nil => rfl
  | cons bn rest ih =>
    rcases loop_cons s bn.1 bn.2 rest with ⟨s1, _, e1, e2⟩ | rel
    · rw [e1, e2]; exact ih s1
    · rw [rel.loop, rel.trace, List.map_cons, ← ih]

/-- the list `releaseUnusedBlocks` iterates is consistent with `emptyBlocks` -/
def ListOK (st : St) (l : List (Nat × Nat)) : Prop :=
  ∀ bn ∈ l, st.emptyBlocks.get bn.1 = some bn.2 ∨ st.emptyBlocks.get bn.1 = none

theorem forgetBlock_empty (s : St) (b : Nat) : (forgetBlock s b).emptyBlocks = s.emptyBlocks.del b := by
  unfold forgetBlock
  simp only
  rw [(fr_releaseAll s _).empty]

theorem trace_guard (st : St) (l : List (Nat × Nat)) (hl : ListOK st l) :
    ∀ t ∈ releaseTrace st l, BlockGuard t.1 t.2.1 t.2.2 := by
  induction l generalizing st with
  | nil => intro t h; cases h
  | cons bn rest ih =>
    have hrest : ListOK st rest := fun x h => hl x (List.mem_cons_of_mem _ h)
    rcases loop_cons st bn.1 bn.2 rest with ⟨s1, f, _, e2⟩ | rel
    · rw [e2]; exact ih s1 (fun x h => by rw [f.empty]; exact hrest x h)
    · rw [rel.trace]
      intro t ht
      rcases List.mem_cons.1 ht with rfl | ht
      · refine ⟨(hl bn (List.mem_cons_self ..)).resolve_right fun h' => ?_, rel.twoBlocks, rel.grace⟩
        have h1 := rel.present
        rw [h'] at h1; cases h1
      · refine ih _ (fun x h => ?_) t ht
        rw [forgetBlock_empty, AMap.get_del]
        split
        · exact .inr rfl
        · exact hrest x h

/-- A property of the states that only the two functions changing the block/node indexes can
affect: it is kept by every operation of the collector. -/
structure Stable (P : St → Prop) : Prop where
  fr : ∀ {s s'}, Fr s s' → P s → P s'
  forget : ∀ {s} b, P s → P (forgetBlock s b)
  block : ∀ {s} b aff es, P s → P (onBlock s b aff es)

theorem stable_loop {P : St → Prop} (hP : Stable P) (l : List (Nat × Nat)) (st : St) (h : P st) :
    P (releaseUnusedLoop st l).1 ∧ ∀ t ∈ releaseTrace st l, P t.1 := by
  induction l generalizing st with
  | nil => exact ⟨h, fun t ht => by cases ht⟩
  | cons bn rest ih =>
    rcases loop_cons st bn.1 bn.2 rest with ⟨s1, f, e1, e2⟩ | rel
    · rw [e1, e2]; exact ih s1 (hP.fr f h)
    · rw [rel.loop, rel.trace]
      obtain ⟨i1, i2⟩ := ih _ (hP.forget bn.1 h)
      exact ⟨i1, fun t ht => (List.mem_cons.1 ht).elim (fun e => e ▸ h) (i2 t)⟩

theorem syncStep_fst (s : St) :
    (syncStep s).1 = { (gcSelect (checkAllocations s).1 (checkAllocations s).1.leaks).1 with failRel := false } ∨
      (syncStep s).1 = (syncIPAM s).1 := by
  unfold syncStep
  split
  · exact .inl rfl
  · exact .inr rfl

theorem stable_syncStep {P : St → Prop} (hP : Stable P) {s : St} (h : P s) : P (syncStep s).1 := by
  have h1 : P (checkAllocations s).1 := hP.fr (fr_checkAllocations s) h
  rcases syncStep_fst s with e | e <;> rw [e]
  · exact hP.fr (Fr.trans (fr_gcSelect _ _) ⟨rfl, rfl, rfl, rfl⟩) h1
  · unfold syncIPAM
    split
    · exact h
    · exact hP.fr (fr_foldl _ fr_markClean _ _) (stable_loop hP _ _ (hP.fr (fr_gc _) h1)).1

theorem stable_step {P : St → Prop} (hP : Stable P) {s : St} (h : P s) (op : Op) : P (step s op).1 := by
  cases op with
  | block b aff es => exact hP.block b aff es h
  | blockDel b => exact hP.forget b h
  | sync full => exact stable_syncStep hP (hP.fr (s' := if full = true then { s with fullSync := true } else s) (by split <;> exact ⟨rfl, rfl, rfl, rfl⟩) h)
  | dirty n => exact hP.fr (fr_markDirty s n) h
  | _ => exact hP.fr (s := s) ⟨rfl, rfl, rfl, rfl⟩ h

theorem idx_stable : Stable Idx where
  fr := Idx.of_fr
  forget := fun b h => idx_forgetBlock h b
  block := fun b aff es h => by
    -- unfold `onBlock` first: the `seen` field it sets is not one `Idx` reads
    cases aff <;> simp only [onBlock, Idx] <;> exact idx_onBlockUpdated h b _ es

def Tracks (s : St) : Prop := ∀ b, s.nodesByBlock.get b = s.seen.get b

theorem nodesByBlock_onBlockUpdated (s : St) (b : Nat) (aff : Option Nat) (es : List Entry) (x : Nat) :
    (onBlockUpdated s b aff es).nodesByBlock.get x = if x = b then aff else s.nodesByBlock.get x := by
  rw [(onBlockUpdated_indexes s b aff es).1]
  unfold affinityStage
  cases aff with
  | some n => exact AMap.get_set ..
  | none =>
    dsimp only
    cases hg : s.nodesByBlock.get b with
    | some n' => exact AMap.get_del ..
    | none =>
      dsimp only
      split
      · next hx => rw [hx, hg]
      · rfl

theorem tracks_stable : Stable Tracks where
  fr := fun f h x => by rw [f.nbb, f.seen]; exact h x
  forget := fun {s} b h x => by
    have f := fr_releaseAll s (s.allocs.filter (fun a => a.block == b))
    show ((releaseAll s _).nodesByBlock.del b).get x = ((releaseAll s _).seen.del b).get x
    rw [f.nbb, f.seen, AMap.get_del, AMap.get_del, h x]
  block := fun {s} b aff es h x => by
    cases aff with
    | host n =>
      show (onBlockUpdated s b (some n) es).nodesByBlock.get x = (s.seen.set b n).get x
      rw [nodesByBlock_onBlockUpdated, AMap.get_set, h x]
    | none =>
      show (onBlockUpdated s b none es).nodesByBlock.get x = (s.seen.del b).get x
      rw [nodesByBlock_onBlockUpdated, AMap.get_del, h x]
    | other =>
      show (onBlockUpdated s b none es).nodesByBlock.get x = (s.seen.del b).get x
      rw [nodesByBlock_onBlockUpdated, AMap.get_del, h x]

structure NotLast (st : St) (b node : Nat) : Prop where
  mine : st.nodesByBlock.get b = some node
  other : ∃ b', b' ≠ b ∧ st.nodesByBlock.get b' = some node

theorem exists_other {l : List Nat} (hn : l.Nodup) (h2 : 2 ≤ l.length) (b : Nat) : ∃ x ∈ l, x ≠ b := by
  match l, hn, h2 with
  | a :: c :: rest, hn, _ =>
    by_cases ha : a = b
    · exact ⟨c, by simp, fun hc => (List.nodup_cons.1 hn).1 (by rw [ha, ← hc]; simp)⟩
    · exact ⟨a, by simp, ha⟩

theorem notLast_of_guard {st : St} {b node : Nat} (hI : Idx st) (hg : BlockGuard st b node) : NotLast st b node := by
  obtain ⟨b', hb', hne⟩ := exists_other (hI.nodup node) (blocksOf_eq .. ▸ hg.twoBlocks) b
  exact ⟨hI.empty b node hg.empty, b', hne, (hI.mem node b').1 hb'⟩

theorem gcSelect_items (s : St) :
    ∀ x ∈ (gcSelect s s.leaks).2.map (fun a => (a.block, a.ord, a.handle, a.seq)),
      ∃ a ∈ s.allocs, x = (a.block, a.ord, a.handle, a.seq) ∧
        isValid s.env a a.knode.isNone = false ∧ a.confirmed = true ∧
        ∀ c ∈ s.allocs, c.handle = a.handle → c.confirmed = true := by
  intro x hx
  obtain ⟨a, ha, rfl⟩ := List.mem_map.1 hx
  obtain ⟨h1, h2, h3, h4⟩ := gcSelect_input s [] s _ rfl (map_mv_nil _).symm a ha
  exact ⟨a, h1, rfl, h2, h3, h4⟩

theorem gc_items (s : St) (batch : List (Nat × Nat × Nat × Nat))
    (h : Call.releaseIPs batch ∈ (garbageCollectKnownLeaks s).2) :
    ∀ x ∈ batch, ∃ a ∈ s.allocs, x = (a.block, a.ord, a.handle, a.seq) ∧
      isValid s.env a a.knode.isNone = false ∧ a.confirmed = true ∧
      ∀ c ∈ s.allocs, c.handle = a.handle → c.confirmed = true := by
  cases gc_calls h
  exact gcSelect_items s

theorem loop_only_rba (st : St) (l : List (Nat × Nat)) :
    ∀ c ∈ (releaseUnusedLoop st l).2, ∃ b n, c = Call.releaseBlockAffinity b n := by
  rw [loop_calls_eq_trace]
  intro c hc
  simp only [List.mem_map] at hc
  obtain ⟨t, _, rfl⟩ := hc
  exact ⟨_, _, rfl⟩

theorem mem_syncIPAM_calls {s : St} {c : Call} (h : c ∈ (syncIPAM s).2.1) :
    c ∈ (garbageCollectKnownLeaks (checkAllocations s).1).2 ∨
    c ∈ (releaseUnusedBlocks (garbageCollectKnownLeaks (checkAllocations s).1).1).2 ∨
    ∃ n, c = .releaseHostAffinities n := by
  unfold syncIPAM at h
  split at h
  · cases h
  · simp only [List.mem_append, List.mem_map] at h
    exact h.elim (fun h => h.imp_right .inl) fun ⟨n, _, e⟩ => .inr (.inr ⟨n, e.symm⟩)

theorem mem_sortKV {m : AMap Nat} {bn : Nat × Nat} (h : bn ∈ sortKV m) : m.get bn.1 = some bn.2 := by
  simp only [sortKV, List.mem_filterMap] at h
  obtain ⟨k, _, hk⟩ := h
  cases hg : m.get k with
  | none => simp [hg] at hk
  | some v => simp [hg] at hk; subst hk; exact hg

theorem listOK_sortKV (st : St) : ListOK st (sortKV st.emptyBlocks) := fun _ h => Or.inl (mem_sortKV h)

end CalicoVerif.C23
