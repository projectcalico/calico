import CalicoVerif.Proofs.C17Passes
/-!
`attemptApply` and `Apply` with a full resync pending: the resync makes Felix's view exact, the passes keep it exact
and write only keys Felix has in its view or wants; kernel keys stay unique along histories.
-/
namespace CalicoVerif.C17

theorem recheck_flag (t : RT) (name : String) : (t.recheck name).fullResync = t.fullResync :=
  List.foldlRecOn (motive := fun a : RT => a.fullResync = t.fullResync) _ RT.recalc rfl fun _ ha _ _ => ha

theorem onIface_flag (t : RT) (n : String) (i : Nat) (st : Option Bool) :
    (t.onIface n i st).fullResync = t.fullResync := by
  unfold RT.onIface
  cases st <;> exact recheck_flag _ n

theorem dropRenumbered_flag (t : RT) (n : String) (idx : Nat) :
    (t.dropRenumbered n idx).fullResync = t.fullResync := by
  unfold RT.dropRenumbered
  split
  · split
    · exact onIface_flag _ _ _ _
    · rfl
  · rfl

theorem dropRenamed_flag (t : RT) (n : String) (idx : Nat) :
    (t.dropRenamed n idx).fullResync = t.fullResync := by
  unfold RT.dropRenamed
  split
  · split
    · exact onIface_flag _ _ _ _
    · rfl
  · rfl

theorem refreshAll_flag (t : RT) (kif : Map Iface) : (t.refreshAll kif).fullResync = t.fullResync := by
  unfold RT.refreshAll
  dsimp only
  refine List.foldlRecOn (motive := fun a : RT => a.fullResync = t.fullResync) _ _
    (List.foldlRecOn (motive := fun a : RT => a.fullResync = t.fullResync) _ (RT.refreshPass2 kif)
      (List.foldlRecOn (motive := fun a : RT => a.fullResync = t.fullResync) _ (RT.refreshPass1 kif) rfl
        fun a ha n _ => ?_) fun a ha n _ => ?_) fun a ha n _ => ?_
  · unfold RT.refreshPass1
    split
    · exact ha
    · exact ((dropRenamed_flag _ n _).trans (dropRenumbered_flag a n _)).trans ha
  · unfold RT.refreshPass2
    split
    · exact ha
    · split
      · exact ha
      · exact (onIface_flag _ _ _ _).trans ha
  · split
    · exact ha
    · exact (onIface_flag a n 0 none).trans ha

def RT.afterFull (t : RT) (K : Kernel) : RT :=
  { t with dp := K.filter (fun p => t.owns p.2), fullResync := false, rescan := [] }

theorem afterFull_owns (t : RT) (K : Kernel) (r : KRoute) : (t.afterFull K).owns r = t.owns r := rfl

theorem fullResync_cases (w : W) :
    (w.fullResync.2 = false ∧ w.fullResync.1 = { w with t := (w.t.refreshAll w.kif).afterFull w.K }) ∨
    (w.fullResync.2 = true ∧ w.fullResync.1.K = w.K ∧ w.fullResync.1.t.fullResync = w.t.fullResync) := by
  unfold W.fullResync
  by_cases h1 : w.f.linkList = true
  · rw [if_pos h1]; exact Or.inr ⟨rfl, rfl, rfl⟩
  · rw [if_neg h1]
    dsimp only
    by_cases h2 : w.f.routeList = true
    · rw [if_pos h2]; exact Or.inr ⟨rfl, rfl, refreshAll_flag w.t w.kif⟩
    · rw [if_neg h2]; exact Or.inl ⟨rfl, rfl⟩

theorem fullResync_ok (w : W) (hok : w.fullResync.2 = false) :
    w.fullResync.1 = { w with t := (w.t.refreshAll w.kif).afterFull w.K } :=
  (fullResync_cases w).elim (·.2) fun h => nomatch hok.symm.trans h.1

theorem fullResync_fail (w : W) (h : w.fullResync.2 = true) :
    w.fullResync.1.K = w.K ∧ w.fullResync.1.t.fullResync = w.t.fullResync :=
  (fullResync_cases w).elim (fun h' => nomatch h.symm.trans h'.1) (·.2)

theorem fullResync_K (w : W) : w.fullResync.1.K = w.K :=
  (fullResync_cases w).elim (fun h => by rw [h.2]) fun h => h.2.1

theorem afterFull_dp (t : RT) (K : Kernel) (hn : K.keys.Nodup) (c : String) :
    (t.afterFull K).dp.get c = (K.get c).filter t.owns :=
  Assoc.lookup_filter_of_nodup _ K hn c

theorem fullResync_view (w : W) (hn : w.K.keys.Nodup) (hok : w.fullResync.2 = false) :
    ViewExact w.fullResync.1 := by
  rw [fullResync_ok w hok]
  refine ⟨fun c r hdp => ?_, fun c r hk ho => ?_⟩
  · exact (Option.filter_eq_some_iff.1 ((afterFull_dp _ w.K hn c).symm.trans hdp)).1
  · exact (afterFull_dp _ w.K hn c).trans (Option.filter_eq_some_iff.2 ⟨hk, ho⟩)

theorem afterFull_dp_unowned (t : RT) (K : Kernel) (hn : K.keys.Nodup) {c : String} {r : KRoute}
    (hk : K.get c = some r) (ho : t.owns r = false) : (t.afterFull K).dp.get c = none := by
  rw [afterFull_dp t K hn, hk, Option.filter_some, ho]; rfl

theorem attempt_full (w : W) (hf : w.t.fullResync = true) :
    w.attempt = if w.fullResync.2 then (w.fullResync.1, true) else w.fullResync.1.passes := by
  unfold W.attempt W.passes
  simp only [hf, if_true]

theorem attempt_incr (w : W) (hf : w.t.fullResync = false) : w.attempt = w.resyncIfaces.passes := by
  unfold W.attempt W.passes
  simp [hf]

theorem sortS_nil : sortS [] = [] := by simp [sortS]

theorem resyncIfaces_nil (w : W) (h : w.t.rescan = []) : w.resyncIfaces = w := by
  unfold W.resyncIfaces
  rw [h, sortS_nil]; rfl

theorem attempt_converges (w : W) (hf : w.t.fullResync = true) (hn : w.K.keys.Nodup)
    (hok : w.attempt.2 = false) (hrs : w.attempt.1.t.rescan = []) :
    Converged w.attempt.1 ∧ ViewExact w.attempt.1 ∧ w.attempt.1.t.fullResync = false := by
  rw [attempt_full w hf] at hok hrs ⊢
  cases hfr : w.fullResync.2 with
  | true => rw [hfr] at hok; simp at hok
  | false =>
    simp only [hfr, Bool.false_eq_true, if_false] at hok hrs ⊢
    have hv := fullResync_view w hn hfr
    refine ⟨passes_converged _ hv hok hrs, passes_view _ hv, ?_⟩
    rw [passes_flag _, fullResync_ok w hfr]; rfl

theorem stepOp_apply (w : W) (f : Fails) :
    w.stepOp (Op.apply f) = ({ ({ w with f := f } : W).apply.1 with f := {} }, some ({ w with f := f } : W).apply.2) := rfl

theorem apply_eq (w : W) :
    w.apply = if w.attempt.2 || !w.attempt.1.t.rescan.isEmpty
      then (w.attempt.1.attempt.1, w.attempt.1.attempt.2 || !w.attempt.1.attempt.1.t.rescan.isEmpty)
      else (w.attempt.1, w.attempt.2 || !w.attempt.1.t.rescan.isEmpty) := by
  unfold W.apply
  cases h : w.attempt with
  | mk w1 e1 =>
    dsimp only
    split
    · cases h2 : w1.attempt with
      | mk w2 e2 => rfl
    · rfl

/-- The three ways an `Apply` with a full resync pending goes when its first attempt queues no interface: it succeeds;
the resync fails, and the retry is a whole attempt again; a pass fails, and the retry only runs the passes again. -/
inductive ApplyFull (w : W) : Prop
  | first (ok : w.attempt.2 = false) (eq : w.apply = (w.attempt.1, false))
  | relist (failed : w.fullResync.2 = true) (eq : w.apply =
      (w.fullResync.1.attempt.1, w.fullResync.1.attempt.2 || !w.fullResync.1.attempt.1.t.rescan.isEmpty))
  | repass (listed : w.fullResync.2 = false) (same : w.attempt.1 = w.fullResync.1.passes.1) (eq : w.apply =
      (w.attempt.1.passes.1, w.attempt.1.passes.2 || !w.attempt.1.passes.1.t.rescan.isEmpty))

theorem apply_full_cases (w : W) (hf : w.t.fullResync = true) (hq : w.attempt.1.t.rescan = []) : ApplyFull w := by
  have e := apply_eq w
  cases he : w.attempt.2 with
  | false =>
    exact .first he (by rw [e, he]; simp only [hq, List.isEmpty_nil, Bool.not_true, Bool.or_false, Bool.false_eq_true, if_false])
  | true =>
    simp only [he, Bool.true_or, if_true] at e
    cases hfr : w.fullResync.2 with
    | true =>
      have e1 : w.attempt.1 = w.fullResync.1 := by rw [attempt_full w hf, hfr]; rfl
      exact .relist hfr (by rw [e, e1])
    | false =>
      have e1 : w.attempt.1 = w.fullResync.1.passes.1 := by rw [attempt_full w hf, hfr]; rfl
      have hf1 : w.attempt.1.t.fullResync = false := by
        rw [e1, passes_flag _, fullResync_ok w hfr]; rfl
      exact .repass hfr e1 (by rw [e, attempt_incr _ hf1, resyncIfaces_nil _ hq])

/-- `hq`: no RouteReplace of the first attempt failed on an interface that is down in the kernel (that would queue the
interface for a per-interface rescan). -/
theorem apply_converges_full (w : W) (hf : w.t.fullResync = true) (hn : w.K.keys.Nodup)
    (hq : w.attempt.1.t.rescan = []) (hok : w.apply.2 = false) : Converged w.apply.1 := by
  cases apply_full_cases w hf hq with
  | first he e => rw [e]; exact (attempt_converges w hf hn he hq).1
  | relist hfr e =>
    rw [e] at hok ⊢
    obtain ⟨hok2, hrs2⟩ := Bool.or_eq_false_iff.1 hok
    obtain ⟨f1, f2⟩ := fullResync_fail w hfr
    exact (attempt_converges _ (f2.trans hf) (f1 ▸ hn) hok2 (List.isEmpty_iff.1 (Bool.not_eq_false' _ ▸ hrs2))).1
  | repass hfr e1 e =>
    rw [e] at hok ⊢
    obtain ⟨hok2, hrs2⟩ := Bool.or_eq_false_iff.1 hok
    refine passes_converged _ ?_ hok2 (List.isEmpty_iff.1 (Bool.not_eq_false' _ ▸ hrs2))
    rw [e1]
    exact passes_view _ (fullResync_view w hn hfr)

theorem resyncIface_K (w : W) (name : String) : (w.resyncIface name).1.K = w.K := by
  unfold W.resyncIface
  split
  · rfl
  · split
    · rfl
    · dsimp only; split <;> rfl

theorem resyncIfaces_K (w : W) : w.resyncIfaces.K = w.K := by
  unfold W.resyncIfaces
  refine List.foldlRecOn (motive := fun a : W => a.K = w.K) _ _ rfl fun a ha name _ => ?_
  have h1 := resyncIface_K a name
  dsimp only
  split
  · exact h1.trans ha
  · exact h1.trans ha

theorem attempt_nodup (w : W) (hn : w.K.keys.Nodup) : w.attempt.1.K.keys.Nodup := by
  cases hf : w.t.fullResync with
  | true =>
    rw [attempt_full w hf]
    split
    · show (Map.keys w.fullResync.1.K).Nodup
      rw [fullResync_K w]; exact hn
    · exact passes_nodup _ (by rw [fullResync_K w]; exact hn)
  | false =>
    rw [attempt_incr w hf]
    exact passes_nodup _ (by rw [resyncIfaces_K w]; exact hn)

theorem apply_nodup (w : W) (hn : w.K.keys.Nodup) : w.apply.1.K.keys.Nodup := by
  rw [apply_eq]
  split
  · exact attempt_nodup _ (attempt_nodup w hn)
  · exact attempt_nodup w hn

theorem keys_ite_filter_nodup {α : Type} {p : Prop} [Decidable p] (P : String × α → Bool) (m : Map α)
    (h : m.keys.Nodup) : (Map.keys (if p then m else m.filter P)).Nodup := by
  split
  · exact h
  · exact Assoc.nodup_filter P h

theorem linkChange_nodup (w : W) (n : String) (i : Nat) (st : Option Bool) (hn : w.K.keys.Nodup) :
    (w.linkChange n i st).K.keys.Nodup := by
  unfold W.linkChange
  dsimp only
  have h1 := keys_ite_filter_nodup (p := (st == some true) = true) (fun p => p.2.ifindex != i) _
    (keys_ite_filter_nodup (p := (w.kif.filter (fun p => p.1 != n && p.2.idx == i)).isEmpty = true)
      (fun p => p.2.ifindex != i) w.K hn)
  split
  · split
    · exact Assoc.nodup_filter _ h1
    · exact h1
  · exact h1

theorem linkEvent_K (w : W) (n : String) (i : Nat) (st : Option Bool) : (w.linkEvent n i st).K = (w.linkChange n i st).K := rfl
theorem flush_K (w : W) : w.flush.K = w.K := rfl

theorem stepOp_nodup (w : W) (o : Op) (hn : w.K.keys.Nodup) : (w.stepOp o).1.K.keys.Nodup := by
  cases o with
  | iface n i st => exact linkChange_nodup w n i st hn
  | link n i st => exact linkChange_nodup w n i st hn
  | flush => exact hn
  | kroute c r => exact Assoc.nodup_keys_put w.K c (some r) hn
  | kdel c => exact Assoc.nodup_keys_put w.K c none hn
  | set cls ifc ws => exact hn
  | upd x => exact hn
  | rem cls ifc c => exact hn
  | resync => exact hn
  | apply f => exact apply_nodup { w with f := f } hn

theorem run_nodup (ops : List Op) (w : W) (h : w.K.keys.Nodup) : (w.run ops).K.keys.Nodup :=
  List.foldlRecOn (motive := fun w : W => w.K.keys.Nodup) ops _ h fun w h o _ => stepOp_nodup w o h

/-- Ownership is judged with the interface states the attempt ends with. -/
theorem attempt_full_unowned (w : W) (hf : w.t.fullResync = true) (hn : w.K.keys.Nodup) (c : String) (r : KRoute)
    (hk : w.K.get c = some r) (ho : w.attempt.1.t.owns r = false) (hd : w.attempt.1.t.desired c = none) :
    w.attempt.1.K.get c = some r ∧ (w.fullResync.2 = false → w.attempt.1.t.dp.get c = none) := by
  rw [attempt_full w hf] at ho hd ⊢
  cases hfr : w.fullResync.2 with
  | true =>
    simp only [if_true]
    exact ⟨fullResync_K w ▸ hk, fun h => nomatch h⟩
  | false =>
    simp only [hfr, Bool.false_eq_true, if_false] at ho hd ⊢
    rw [passes_owns] at ho
    rw [passes_desired] at hd
    have hp := passes_other _ c hd (by
      rw [fullResync_ok w hfr] at ho ⊢
      exact afterFull_dp_unowned _ w.K hn hk ho)
    exact ⟨hp.1.trans (fullResync_K w ▸ hk), fun _ => hp.2⟩

theorem apply_full_unowned (w : W) (hf : w.t.fullResync = true) (hn : w.K.keys.Nodup)
    (hq : w.attempt.1.t.rescan = []) (c : String) (r : KRoute)
    (hk : w.K.get c = some r) (ho : w.apply.1.t.owns r = false) (hd : w.apply.1.t.desired c = none) :
    w.apply.1.K.get c = some r := by
  cases apply_full_cases w hf hq with
  | first _ e =>
    rw [e] at ho hd ⊢
    exact (attempt_full_unowned w hf hn c r hk ho hd).1
  | relist hfr e =>
    rw [e] at ho hd ⊢
    obtain ⟨f1, f2⟩ := fullResync_fail w hfr
    exact (attempt_full_unowned _ (f2.trans hf) (f1 ▸ hn) c r (f1 ▸ hk) ho hd).1
  | repass hfr _ e =>
    rw [e] at ho hd ⊢
    rw [passes_owns] at ho
    rw [passes_desired] at hd
    obtain ⟨h1, h2⟩ := attempt_full_unowned w hf hn c r hk ho hd
    exact (passes_other _ c hd (h2 hfr)).1.trans h1

end CalicoVerif.C17
