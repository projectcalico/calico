import CalicoVerif.Proofs.C33Prime
/-! C33: `permutation` yields a bijection of `[0,m)` when `m` is prime; loop invariant of `Generate` — it never
runs out of preferences, fills every slot and hands out slots round-robin; from slot indices to backend names. -/
namespace CalicoVerif.C33

structure ValidPerm (m : Nat) (p : List Nat) : Prop where
  len : p.length = m
  nodup : p.Nodup
  lt : ∀ x ∈ p, x < m

theorem coprime_of_prime {m s : Nat} (hm : IsPrime m) (h1 : 1 ≤ s) (h2 : s < m) : Nat.Coprime m s := by
  rcases hm.2 _ (Nat.gcd_dvd_left m s) with h | h
  · exact h
  · have := Nat.le_of_dvd h1 (h ▸ Nat.gcd_dvd_right m s)
    omega

theorem permOf_inj {m o s : Nat} (hm : IsPrime m) (h1 : 1 ≤ s) (h2 : s < m)
    {j k : Nat} (hk : k < m) (hjk : j < k) :
    (o + j * s) % m ≠ (o + k * s) % m := by
  intro heq
  -- m ∣ (o + k s) - (o + j s) = (k - j) s
  have hd : m ∣ (o + k * s) - (o + j * s) :=
    Nat.dvd_of_mod_eq_zero (Nat.sub_mod_eq_zero_of_mod_eq heq.symm)
  rw [Nat.add_sub_add_left, ← Nat.sub_mul] at hd
  have := Nat.le_of_dvd (by omega) (Nat.Coprime.dvd_of_dvd_mul_right (coprime_of_prime hm h1 h2) hd)
  omega

/-- Euclid's lemma at work (`permOf_inj`). -/
theorem permOf_valid {m o s : Nat} (hm : IsPrime m) (h1 : 1 ≤ s) (h2 : s < m) :
    ValidPerm m (permOf m o s) := by
  refine ⟨by simp [permOf], ?_, fun x hx => ?_⟩
  · unfold permOf
    rw [List.nodup_iff_pairwise_ne, List.pairwise_map]
    exact List.Pairwise.imp_of_mem (fun _ hb hab => permOf_inj hm h1 h2 (List.mem_range.1 hb) hab)
      (List.pairwise_lt_range (n := m))
  · obtain ⟨j, -, rfl⟩ := List.mem_map.1 hx
    exact Nat.mod_lt _ (by have := hm.1; omega)

theorem ValidPerm.mem {m : Nat} {p : List Nat} (h : ValidPerm m p) {x : Nat} (hx : x < m) : x ∈ p := by
  -- pigeonhole: with `x` in front the list would be duplicate free, below `m` and longer than `List.range m`
  refine Decidable.byContradiction fun hn => ?_
  have := (List.nodup_cons.2 ⟨hn, h.nodup⟩).length_le_of_subset (l₂ := List.range m) fun y hy =>
    List.mem_range.2 ((List.mem_cons.1 hy).elim (· ▸ hx) (h.lt y))
  rw [List.length_cons, List.length_range, h.len] at this
  omega

theorem permutation_ok_valid {m : Nat} (hm : IsPrime m) (e : Endian) (hs : Hashes) (s : List Nat) :
    permutation e hs m s ≠ .panic ∧ ∀ p, permutation e hs m s = .ok p → ValidPerm m p := by
  have h2 := hm.1
  unfold permutation offsetAndSkip
  cases hashFromString e hs.h1 [0] s with
  | none => exact ⟨nofun, nofun⟩
  | some o =>
    cases hashFromString e hs.h2 [10] s with
    | none => exact ⟨nofun, nofun⟩
    | some k =>
      simp only [if_neg (by omega : ¬ m < 2)]
      refine ⟨nofun, fun p hp => ?_⟩
      cases hp
      have : k % (m - 1) < m - 1 := Nat.mod_lt _ (by omega)
      exact permOf_valid hm (by omega) (by omega)

/-- Number of slots backend `i` owns after `t` round-robin assignments among `N` backends. -/
def cnt (N t i : Nat) : Nat := t / N + (if i < t % N then 1 else 0)

theorem divmod_succ {N t : Nat} (hN : 0 < N) :
    (t % N + 1 < N ∧ (t + 1) / N = t / N ∧ (t + 1) % N = t % N + 1) ∨
    (t % N + 1 = N ∧ (t + 1) / N = t / N + 1 ∧ (t + 1) % N = 0) := by
  have hr : t % N < N := Nat.mod_lt _ hN
  have hdm := Nat.div_add_mod t N
  rcases Nat.lt_or_ge (t % N + 1) N with h | h
  · exact Or.inl ⟨h, (Nat.div_mod_unique hN).2 ⟨by omega, h⟩⟩
  · exact Or.inr ⟨by omega, (Nat.div_mod_unique hN).2 ⟨by rw [Nat.mul_succ]; omega, hN⟩⟩

theorem cnt_succ {N t i : Nat} (hN : 0 < N) (hi : i < N) :
    cnt N (t + 1) i = cnt N t i + (if i = t % N then 1 else 0) := by
  unfold cnt
  rcases divmod_succ (t := t) hN with ⟨h1, h2, h3⟩ | ⟨h1, h2, h3⟩
  · rw [h2, h3]
    by_cases ha : i < t % N
    · have hb : i < t % N + 1 := by omega
      have hc : ¬ i = t % N := by omega
      simp only [ha, hb, hc, if_true, if_false]
    · by_cases hc : i = t % N
      · subst hc; simp
      · have hb : ¬ i < t % N + 1 := by omega
        simp only [ha, hb, hc, if_false]
  · rw [h2, h3]
    have hb : ¬ i < 0 := by omega
    by_cases ha : i < t % N
    · have hc : ¬ i = t % N := by omega
      simp only [ha, hb, hc, if_true, if_false]
    · have hc : i = t % N := by omega
      simp only [ha, hb, if_false]
      rw [if_pos hc]

theorem cnt_zero {N i : Nat} : cnt N 0 i = 0 := by
  unfold cnt; simp

theorem cnt_balanced (N t i j : Nat) : cnt N t i ≤ cnt N t j + 1 := by
  unfold cnt
  split <;> split <;> omega

theorem scan_total (lut : List (Option Nat)) : ∀ (cs : List Nat) (k : Nat),
    (∀ c ∈ cs, c < lut.length) → (∃ c ∈ cs, lut[c]? = some none) →
    ∃ j c, scan lut cs k = some (c, k + j) ∧ cs[j]? = some c ∧ lut[c]? = some none ∧
      ∀ j', j' < j → ∃ c' b, cs[j']? = some c' ∧ lut[c']? = some (some b)
  | [], _, _, ⟨_, hc, _⟩ => nomatch hc
  | c0 :: cs, k, hb, ⟨e, he, hle⟩ => by
    have hc0 := List.getElem?_eq_getElem (hb c0 List.mem_cons_self)
    unfold scan
    cases hv : lut[c0]'(hb c0 List.mem_cons_self) with
    | none =>
      rw [hv] at hc0
      exact ⟨0, c0, by rw [hc0]; rfl, rfl, hc0, fun _ h => absurd h (Nat.not_lt_zero _)⟩
    | some b =>
      rw [hv] at hc0
      have hecs : e ∈ cs := (List.mem_cons.1 he).resolve_left fun h => by rw [h, hc0] at hle; cases hle
      obtain ⟨j, c, h1, h2, h3, h4⟩ := scan_total lut cs (k + 1) (fun c hc => hb c (List.mem_cons_of_mem _ hc)) ⟨e, hecs, hle⟩
      refine ⟨j + 1, c, by rw [hc0, h1, Nat.add_right_comm, Nat.add_assoc], h2, h3, fun j' hj' => ?_⟩
      cases j' with
      | zero => exact ⟨c0, b, rfl, hc0⟩
      | succ j'' => exact h4 j'' (Nat.lt_of_succ_lt_succ hj')

theorem exists_empty : ∀ (lut : List (Option Nat)),
    lut.countP (fun o => o.isSome) < lut.length → ∃ e : Nat, lut[e]? = some none := by
  intro lut
  induction lut with
  | nil => intro h; simp at h
  | cons a t ih =>
    intro h
    cases a with
    | none => exact ⟨0, by simp⟩
    | some b =>
      simp only [List.countP_cons, Option.isSome_some, if_true, List.length_cons] at h
      obtain ⟨e, he⟩ := ih (by omega)
      exact ⟨e + 1, by simpa using he⟩

/-- The state of `Generate` after `t` assignments. `pref` is the invariant of the inner loop `for lut[choice] != nil`:
every preference of backend `i` before `next[i]` points at a filled slot, so while a slot is free the loop finds one
before the end of the list. -/
structure Inv (perms : List (List Nat)) (N m t : Nat) (st : GenState) : Prop where
  lenLut : st.lut.length = m
  lenNext : st.next.length = N
  filled : st.lut.countP (fun o => o.isSome) = t
  pref : ∀ (i : Nat) (prefs : List Nat) (nk k : Nat), perms[i]? = some prefs → st.next[i]? = some nk → k < nk →
    ∃ c b, prefs[k]? = some c ∧ st.lut[c]? = some (some b)
  owners : ∀ i : Nat, i < N → st.lut.count (some i) = cnt N t i
  range : ∀ (c b : Nat), st.lut[c]? = some (some b) → b < N

theorem inv_init (perms : List (List Nat)) (N m : Nat) : Inv perms N m 0 (initState N m) := by
  refine ⟨by simp [initState], by simp [initState], ?_, ?_, ?_, ?_⟩
  · simp [initState, List.countP_replicate]
  · intro i prefs nk k _ hn hk
    simp only [initState, List.getElem?_replicate] at hn
    split at hn
    · simp at hn; omega
    · simp at hn
  · intro i _
    simp [initState, List.count_replicate, cnt_zero]
  · intro c b h
    simp only [initState, List.getElem?_replicate] at h
    split at h <;> simp at h

theorem inv_step {perms : List (List Nat)} {N m t : Nat} {st : GenState}
    (hlen : perms.length = N) (hvalid : ∀ p ∈ perms, ValidPerm m p) (hN : 0 < N)
    (hinv : Inv perms N m t st) (ht : t < m) :
    ∃ st', stepBackend perms st (t % N) = some st' ∧ Inv perms N m (t + 1) st' := by
  have hi : t % N < N := Nat.mod_lt _ hN
  obtain ⟨prefs, hprefs⟩ : ∃ prefs, perms[t % N]? = some prefs :=
    ⟨perms[t % N]'(by omega), List.getElem?_eq_getElem (by omega)⟩
  obtain ⟨nk, hnk⟩ : ∃ nk, st.next[t % N]? = some nk :=
    ⟨st.next[t % N]'(by rw [hinv.lenNext]; exact hi), List.getElem?_eq_getElem (by rw [hinv.lenNext]; exact hi)⟩
  have hvp : ValidPerm m prefs := hvalid prefs (List.mem_of_getElem? hprefs)
  -- an empty slot exists, it is some preference at index ≥ nk
  obtain ⟨e, he⟩ := exists_empty st.lut (by rw [hinv.filled, hinv.lenLut]; exact ht)
  have hem : e < m := hinv.lenLut ▸ (List.getElem?_eq_some_iff.1 he).1
  obtain ⟨k0, hk0lt, hk0⟩ := List.getElem_of_mem (hvp.mem hem)
  have hk0ge : nk ≤ k0 := Nat.le_of_not_lt fun h => by
    obtain ⟨c, b, hc, hb⟩ := hinv.pref (t % N) prefs nk k0 hprefs hnk h
    rw [List.getElem?_eq_getElem hk0lt, hk0] at hc
    cases hc; rw [he] at hb; cases hb
  obtain ⟨j, c, hsc, hcj, hcempty, hbefore⟩ := scan_total st.lut (prefs.drop nk) nk
    (fun c hc => by rw [hinv.lenLut]; exact hvp.lt c (List.mem_of_mem_drop hc))
    ⟨e, List.mem_iff_getElem?.2 ⟨k0 - nk, by
      rw [List.getElem?_drop, show nk + (k0 - nk) = k0 by omega, List.getElem?_eq_getElem hk0lt, hk0]⟩, he⟩
  rw [List.getElem?_drop] at hcj
  have hclt : c < st.lut.length := (List.getElem?_eq_some_iff.1 hcempty).1
  refine ⟨{ next := st.next.set (t % N) (nk + j + 1), lut := st.lut.set c (some (t % N)) }, ?_, ?_⟩
  · unfold stepBackend
    simp only [hprefs, hnk, hsc]
  · have hcget : st.lut[c] = none := Option.some.inj ((List.getElem?_eq_getElem hclt).symm.trans hcempty)
    -- a preference that pointed at a filled slot still does
    have keep : ∀ (P : List Nat) (k : Nat), (∃ c' b, P[k]? = some c' ∧ st.lut[c']? = some (some b)) →
        ∃ c' b, P[k]? = some c' ∧ (st.lut.set c (some (t % N)))[c']? = some (some b) := by
      rintro P k ⟨c', b, h1, h2⟩
      have hcc : c ≠ c' := fun h => by rw [← h, hcempty] at h2; cases h2
      exact ⟨c', b, h1, by rw [List.getElem?_set_ne hcc]; exact h2⟩
    refine ⟨by simp [hinv.lenLut], by simp [hinv.lenNext], ?_, ?_, ?_, ?_⟩
    · simp only [List.countP_set hclt, hcget, Option.isSome_none, Option.isSome_some, if_true]
      rw [hinv.filled]; simp
    · intro i prefs' nk' k hp hn hk
      by_cases hii : t % N = i
      · subst hii
        cases hprefs.symm.trans hp
        rw [List.getElem?_set_self (by rw [hinv.lenNext]; exact hi)] at hn
        cases hn
        rcases Nat.lt_trichotomy k (nk + j) with hk2 | rfl | hk2
        · by_cases hk1 : k < nk
          · exact keep _ k (hinv.pref _ _ _ k hprefs hnk hk1)
          · have := hbefore (k - nk) (by omega)
            rw [List.getElem?_drop, show nk + (k - nk) = k by omega] at this
            exact keep _ k this
        · exact ⟨c, t % N, hcj, by rw [List.getElem?_set_self hclt]⟩
        · omega
      · rw [List.getElem?_set_ne hii] at hn
        exact keep _ k (hinv.pref i prefs' nk' k hp hn hk)
    · intro i hiN
      rw [List.count_set hclt, hcget, hinv.owners i hiN, cnt_succ hN hiN]
      by_cases hii : i = t % N
      · subst hii; simp
      · simp [hii, Ne.symm hii]
    · intro c' b hb
      by_cases hcc : c = c'
      · rw [← hcc, List.getElem?_set_self hclt] at hb; cases hb; exact hi
      · rw [List.getElem?_set_ne hcc] at hb; exact hinv.range c' b hb

theorem fill_spec {perms : List (List Nat)} {N m : Nat}
    (hlen : perms.length = N) (hvalid : ∀ p ∈ perms, ValidPerm m p) (hN : 0 < N) :
    ∀ (r t : Nat) (st : GenState), Inv perms N m t st → t + r = m →
      ∃ st', fill perms N r t st = some st' ∧ Inv perms N m m st' := by
  intro r
  induction r with
  | zero =>
    intro t st hinv htr
    have : t = m := by omega
    subst this
    exact ⟨st, rfl, hinv⟩
  | succ r ih =>
    intro t st hinv htr
    obtain ⟨st1, hstep, hinv1⟩ := inv_step hlen hvalid hN hinv (by omega)
    obtain ⟨st', hfill, hinv'⟩ := ih (t + 1) st1 hinv1 (by omega)
    exact ⟨st', by simp only [fill, hstep, hfill], hinv'⟩

theorem generate_spec {perms : List (List Nat)} {m : Nat}
    (hvalid : ∀ p ∈ perms, ValidPerm m p) (hN : 0 < perms.length) (hm : 0 < m) :
    ∃ lut, generate perms m = some lut ∧ lut.length = m ∧
      (∀ s, s < m → ∃ b, b < perms.length ∧ lut[s]? = some (some b)) ∧
      (∀ i, i < perms.length → lut.count (some i) = cnt perms.length m i) := by
  obtain ⟨st', hfill, hinv⟩ := fill_spec rfl hvalid hN m 0 (initState perms.length m)
    (inv_init perms perms.length m) (by omega)
  refine ⟨st'.lut, ?_, hinv.lenLut, ?_, hinv.owners⟩
  · unfold generate
    have h1 : ¬ perms.length = 0 := by omega
    have h2 : ¬ m = 0 := by omega
    simp only [h1, h2, if_false, hfill, Option.map_some]
  · intro s hs
    have hall : ∀ a ∈ st'.lut, (fun o : Option Nat => o.isSome) a = true := by
      apply List.countP_eq_length.1
      rw [hinv.filled, hinv.lenLut]
    have hs' : s < st'.lut.length := by rw [hinv.lenLut]; exact hs
    have := hall st'.lut[s] (List.getElem_mem hs')
    cases hv : st'.lut[s] with
    | none => rw [hv] at this; simp at this
    | some b =>
      have hget : st'.lut[s]? = some (some b) := by rw [List.getElem?_eq_getElem hs', hv]
      exact ⟨b, hinv.range s b hget, hget⟩

theorem count_namesOfLut {sorted : List (List Nat)} (hnd : sorted.Nodup) {i : Nat} (hi : i < sorted.length) :
    ∀ (lut : List (Option Nat)), (∀ o ∈ lut, ∃ b, o = some b ∧ b < sorted.length) →
      (namesOfLut sorted lut).count sorted[i] = lut.count (some i) := by
  intro lut
  induction lut with
  | nil => intro _; rfl
  | cons o t ih =>
    intro h
    obtain ⟨b, rfl, hb⟩ := h o List.mem_cons_self
    have iht := ih (fun o ho => h o (List.mem_cons_of_mem _ ho))
    unfold namesOfLut at iht ⊢
    simp only [List.map_cons, List.count_cons, iht]
    congr 1
    have hinj := List.getD_inj (fallback := ([] : List Nat)) hb hi hnd
    have hgi : sorted.getD i [] = sorted[i] := by
      simp [List.getD_eq_getElem?_getD, List.getElem?_eq_getElem hi]
    by_cases hbi : b = i
    · subst hbi; rw [hgi]; simp
    · have h1 : (sorted.getD b [] == sorted[i]) = false := by
        rw [beq_eq_false_iff_ne, ← hgi]; exact fun h => hbi (hinj.1 h)
      have h2 : (some b == some i) = false := by
        rw [beq_eq_false_iff_ne]; simpa using hbi
      rw [h1, h2]

end CalicoVerif.C33
