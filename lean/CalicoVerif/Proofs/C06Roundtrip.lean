import CalicoVerif.Proofs.C06Tokenize
import CalicoVerif.Proofs.C06Parse
/-! C06 helper lemmas: tokenizer on a whole canonical text, then `parse ∘ text`. -/
namespace CalicoVerif.C06

theorem text_head_ne_eq : ∀ t, WF t → ∀ (rest r : Str), t.text ++ rest ≠ '=' :: r := by
  have lab : ∀ {l : Str}, ValidLabel l → ∀ (rest r : Str), l ++ rest ≠ '=' :: r := by
    intro l hl rest r h
    obtain ⟨hne, -, hall⟩ := hl
    cases l with
    | nil => exact hne rfl
    | cons c cs =>
      cases h
      exact absurd (hall _ (List.mem_cons_self ..)) (by decide)
  have lit : ∀ {c : Char} (s r : Str), c ≠ '=' → c :: s ≠ '=' :: r := fun s r hc e => hc (List.cons.inj e).1
  intro t h rest r
  cases t with
  | not n => rw [Node.text]; split <;> exact lit _ r (by decide)
  | has l => exact lit _ r (by decide)
  | all => exact lit _ r (by decide)
  | global => exact lit _ r (by decide)
  | and ns => exact lit _ r (by decide)
  | or ns => exact lit _ r (by decide)
  | _ =>
    rw [WF] at h
    simp only [Node.text, List.append_assoc]
    exact lab h.1 _ r

theorem tkz_quotedTail : ∀ (vs : List Str), (∀ v ∈ vs, QuoteSafe v) → ∀ rest : Str,
    tkz false (quotedTail vs ++ '}' :: rest) = prep (setTailToks vs ++ [.rBrace]) (tkz false rest)
  | [], _, rest => tkz_rBrace ws_nil false rest
  | v :: vs, h, rest => by
    have ih := tkz_quotedTail vs (fun w hw => h w (List.mem_cons_of_mem _ hw)) rest
    rw [quotedTail, List.append_assoc, List.append_assoc]
    rw [show [',', ' '] ++ (quoted v ++ (quotedTail vs ++ '}' :: rest)) =
        [] ++ ',' :: ([' '] ++ (quoted v ++ (quotedTail vs ++ '}' :: rest))) from rfl,
      tkz_comma ws_nil, tkz_quoted ws_sp false (h v (List.mem_cons_self ..)), ih, prep_prep, prep_prep]
    rfl

theorem tkz_quotedList (vs : List Str) (h : ∀ v ∈ vs, QuoteSafe v) (rest : Str) :
    tkz false (quotedList vs ++ '}' :: rest) = prep (setToks vs ++ [.rBrace]) (tkz false rest) := by
  cases vs with
  | nil => exact tkz_rBrace ws_nil false rest
  | cons v vs =>
    rw [quotedList, List.append_assoc, ← List.nil_append (quoted v ++ _),
      tkz_quoted ws_nil false (h v (List.mem_cons_self ..)),
      tkz_quotedTail vs (fun w hw => h w (List.mem_cons_of_mem _ hw)), prep_prep]
    rfl

section leaf
variable {pre : Str} (hpre : ∀ x ∈ pre, isWs x = true) {l : Str} (hl : ValidLabel l)
include hpre hl

/-- label ++ operator ++ literal: `hop` is how the operator reads (what follows it then starts with the literal,
after the blanks `pre'`). -/
theorem tkz_leaf {op : Str} {tok : Token} {pre' : Str} (hpre' : ∀ x ∈ pre', isWs x = true) {v : Str}
    (hv : QuoteSafe v) (rest : Str) (hsp : ∃ r, op = ' ' :: r)
    (hop : tkz true (op ++ (quoted v ++ rest)) = prep [tok] (tkz false (pre' ++ (quoted v ++ rest)))) :
    tkz false (pre ++ (l ++ op ++ quoted v) ++ rest) = prep [.label l, tok, .str v] (tkz false rest) := by
  obtain ⟨r, rfl⟩ := hsp
  simp only [List.append_assoc]
  rw [List.cons_append, tkz_label hpre hl, ← List.cons_append, hop, tkz_quoted hpre' false hv, prep_prep, prep_prep]
  rfl

theorem tkz_setLeaf {op : Str} {tok : Token} {vs : List Str} (hvs : ∀ v ∈ vs, QuoteSafe v) (rest : Str)
    (hsp : ∃ r, op = ' ' :: r) (hop : ∀ s, tkz true (op ++ s) = prep [tok, .lBrace] (tkz false s)) :
    tkz false (pre ++ (l ++ op ++ quotedList vs ++ ['}']) ++ rest) =
      prep ([.label l, tok, .lBrace] ++ setToks vs ++ [.rBrace]) (tkz false rest) := by
  obtain ⟨r, rfl⟩ := hsp
  simp only [List.append_assoc, List.cons_append, List.nil_append]
  rw [tkz_label hpre hl, ← List.cons_append, hop, tkz_quotedList vs hvs, prep_prep, prep_prep]
  rfl

end leaf

/-- Entered and left in the state `false`, "the last token was not a label". -/
def Tokenizes (t : Node) : Prop := ∀ (pre rest : Str), (∀ x ∈ pre, isWs x = true) →
  tkz false (pre ++ t.text ++ rest) = prep (toks t) (tkz false rest)

section group
variable {sep : Str} {tok : Token} (hsep : ∀ s, tkz false (sep ++ s) = prep [tok] (tkz false ([' '] ++ s)))
include hsep

theorem tkz_textTail (ns : List Node) (ih : ∀ n ∈ ns, Tokenizes n) (rest : Str) :
    tkz false (Node.textTail sep ns ++ rest) = prep (tailToks tok ns) (tkz false rest) := by
  induction ns with
  | nil => exact (prep_nil _).symm
  | cons n ns ihl =>
    rw [Node.textTail, List.append_assoc, List.append_assoc, hsep, ← List.append_assoc,
      ih n (List.mem_cons_self ..) _ _ ws_sp, ihl (fun m hm => ih m (List.mem_cons_of_mem _ hm)), prep_prep,
      prep_prep]
    rfl

theorem tkz_group {n : Node} {ns : List Node} (ih : ∀ m ∈ n :: ns, Tokenizes m)
    {pre : Str} (hpre : ∀ x ∈ pre, isWs x = true) (rest : Str) :
    tkz false (pre ++ '(' :: (Node.textJoin sep (n :: ns) ++ [')']) ++ rest) =
      prep (.lParen :: (joinToks tok (n :: ns) ++ [.rParen])) (tkz false rest) := by
  simp only [Node.textJoin, List.append_assoc, List.cons_append, List.nil_append]
  rw [tkz_lParen hpre]
  have h1 := ih n (List.mem_cons_self ..) [] (Node.textTail sep ns ++ ')' :: rest) ws_nil
  simp only [List.nil_append] at h1
  rw [h1, tkz_textTail hsep ns (fun m hm => ih m (List.mem_cons_of_mem _ hm)),
    ← List.nil_append (')' :: rest), tkz_rParen ws_nil, prep_prep, prep_prep, prep_prep]
  simp only [joinToks, List.cons_append, List.nil_append, List.append_assoc]

end group

theorem tkz_text : ∀ t, WF t → Tokenizes t := by
  intro t
  induction t using Node.ind with
  | eq l v => exact fun h pre rest hpre => tkz_leaf hpre h.1 ws_sp h.2 rest ⟨_, rfl⟩ (tkz_opEq _)
  | ne l v => exact fun h pre rest hpre => tkz_leaf hpre h.1 ws_sp h.2 rest ⟨_, rfl⟩ (tkz_opNe _)
  | contains l v => exact fun h pre rest hpre => tkz_leaf hpre h.1 ws_sp h.2 rest ⟨_, rfl⟩ (tkz_opContains _)
  | startsWith l v =>
    exact fun h pre rest hpre => tkz_leaf hpre h.1 ws_nil h.2 rest ⟨_, rfl⟩
      (tkz_opStartsWith (quoteFor_props v).1 (quoteFor_props v).2 _)
  | endsWith l v =>
    exact fun h pre rest hpre => tkz_leaf hpre h.1 ws_nil h.2 rest ⟨_, rfl⟩
      (tkz_opEndsWith (quoteFor_props v).1 (quoteFor_props v).2 _)
  | inSet l vs => exact fun h pre rest hpre => tkz_setLeaf hpre h.1 h.2.1 rest ⟨_, rfl⟩ tkz_opIn
  | notInSet l vs => exact fun h pre rest hpre => tkz_setLeaf hpre h.1 h.2.1 rest ⟨_, rfl⟩ tkz_opNotIn
  | has l =>
    intro h pre rest hpre
    simp only [Node.text, List.append_assoc]
    exact tkz_has hpre h rest
  | all =>
    intro _ pre rest hpre
    simp only [Node.text, List.append_assoc]
    exact tkz_all hpre rest
  | global =>
    intro _ pre rest hpre
    simp only [Node.text, List.append_assoc]
    exact tkz_global hpre rest
  | not n ih =>
    intro h pre rest hpre
    rw [WF] at h
    by_cases hn : n.isNot = true
    · simp only [Node.text, toks, hn, if_true, List.append_assoc, List.cons_append, List.nil_append]
      rw [tkz_not hpre false (fun r e => by cases e), ← List.nil_append ('(' :: _), tkz_lParen ws_nil]
      have := ih h [] (')' :: rest) ws_nil
      simp only [List.nil_append] at this
      rw [this, ← List.nil_append (')' :: rest), tkz_rParen ws_nil]
      simp only [prep_prep, List.cons_append, List.nil_append]
    · simp only [Node.text, toks, hn, Bool.false_eq_true, if_false, List.append_assoc, List.cons_append]
      rw [tkz_not hpre false (text_head_ne_eq n h rest)]
      have := ih h [] rest ws_nil
      simp only [List.nil_append] at this
      rw [this, prep_prep]; rfl
  | and ns ih =>
    intro h pre rest hpre
    simp only [WF, wfList_iff] at h
    match ns, h.1, ih, h.2 with
    | n :: ns, _, ih, hwf => exact tkz_group tkz_sepAnd (fun m hm => ih m hm (hwf m hm)) hpre rest
  | or ns ih =>
    intro h pre rest hpre
    simp only [WF, wfList_iff] at h
    match ns, h.1, ih, h.2 with
    | n :: ns, _, ih, hwf => exact tkz_group tkz_sepOr (fun m hm => ih m hm (hwf m hm)) hpre rest

theorem tokenize_text (t : Node) (h : WF t) : tokenize t.text = .ok (toks t ++ [.eof]) := by
  have := tkz_text t h [] [] ws_nil
  simp only [List.nil_append, List.append_nil] at this
  rw [tokenize_eq_tkz, this]
  rfl

theorem parse_text (t : Node) (h : WF t) : parse t.text = .ok t := by
  unfold parse
  rw [tokenize_text t h]
  simp only []
  have hne : ∀ r, toks t ++ [Token.eof] ≠ Token.eof :: r := by
    intro r e
    cases t with
    | not n => rw [toks] at e; split at e <;> cases e
    | _ => cases e
  split
  · rename_i r heq; exact absurd heq (hne r)
  · rw [parseOrExpression_toks t h]
    rfl

theorem WF.text_inj {t1 t2 : Node} (h1 : WF t1) (h2 : WF t2) (h : t1.text = t2.text) : t1 = t2 := by
  have e1 := parse_text t1 h1
  rw [h, parse_text t2 h2] at e1
  exact (Except.ok.inj e1).symm

end CalicoVerif.C06
