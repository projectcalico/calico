import CalicoVerif.Proofs.C04
/-! C04, the reference-count layer.  Unless a flag goes up, `incref`, `decref` and `forceRemove` are one primitive,
`setRef`: the refcount of a member becomes `n`, after the callback its change of sign calls for.  Of them and of the
loops built from them (`increfAll`, `decrefAll`, `decrefOld`, `scanEndpointAgainstIPSets`) three things are proved:
the footprint, the exact effect on the refcounts when no flag goes up, and that they keep the state well-formed (`Good`).

The relations between a state and a later one, here and in `C04Main` / `C04Tables`:
* `Frame`: unconditional; what `wf_of_frame` needs to carry `WF` over.
* `RefcOnly`: unconditional in the flags; every function of this layer has it (`*_refcOnly`, loops by `foldl_chain`) —
  `setRef` and `forceRemove` when their set is present, since their callback names it (`incref`/`decref` panic otherwise).
  `C04Tables` starts from it (`RefcOnly.keep`, `RefcOnly.quiet`).
* `Eff`: holds only under the guards that keep the flags down (set present, count covered).  `Eff.frame`; `Eff.refcOnly`
  once the log is accounted for.  With the refcount arithmetic it makes the conclusions of the loops: `Counted` (`Eff` and
  the exact refcounts: `*_counted`, `forceRemoveAll_spec`), `ScanSpec`, `ScanEpSpec` (the same for the scans, with the
  match cache).
* `SameButEps`: what `wf_of_sameButEps` and `core_replace` (`C04Sum`) take.
* `Deleted` (`C04Main`): the data part of `DeleteIPSet`.  `Keep`, `Quiet`, `EpWritten`, `SetWritten`, `ParWritten`
  (`C04Tables`): the input tables, see the head of that file. -/
namespace CalicoVerif.C04

-- many lemmas of a section need neither `DecidableEq Sel` nor `matchSel`
set_option linter.unusedSectionVars false

theorem foldl_chain {σ α : Type} {R : σ → σ → Prop} (refl : ∀ a, R a a) (trans : ∀ {a b c}, R a b → R b c → R a c)
    (f : σ → α → σ) (hf : ∀ st a, R st (f st a)) (l : List α) (st : σ) : R st (l.foldl f st) :=
  List.foldlRecOn l f (refl st) fun b hb a _ => trans hb (hf b a)

section Refc
variable {Sel : Type} [DecidableEq Sel]

/-- a Go panic or a silent uint64 wrap has happened -/
def bad (st : Idx Sel) : Bool := st.panicked || st.underflow

def NetsCanon (st : Idx Sel) : Prop := ∀ p ∈ st.eps, ∀ c ∈ p.2.nets, c.canon
/-- `ipsets` is a Go map -/
def SetsNodup (st : Idx Sel) : Prop := (st.ipsets.map (·.1)).Nodup
/-- each refcount map is a Go map from which zero entries are deleted -/
def RefWF (st : Idx Sel) : Prop :=
  ∀ p ∈ st.ipsets, (p.2.refc.map (·.1)).Nodup ∧ ∀ q ∈ p.2.refc, 0 < q.2

/-- the bookkeeping the refcount layer maintains by itself -/
structure WF (st : Idx Sel) : Prop where
  e : EInv st
  nets : NetsCanon st
  sets : SetsNodup st
  refwf : RefWF st

/-- what the unconditional loops preserve -/
def Good (st : Idx Sel) : Prop := bad st = true ∨ WF st

theorem wf_of_good {st : Idx Sel} (hg : Good st) (hb : bad st = false) : WF st :=
  hg.resolve_left (by rw [hb]; exact Bool.noConfusion)

/-- what `UpdateIPSet` writes for a set: selector, protocol, port name (the refcount map aside) -/
def cfgOf (d : IpSetData Sel) : Sel × Nat × String := (d.sel, d.proto, d.port)

def cfgAt (st : Idx Sel) (s : String) : Option (Sel × Nat × String) := (alGet s st.ipsets).map cfgOf

/-- what `incref`/`decref`/`forceRemove` leave alone, and a raised flag stays up -/
structure Frame (st st' : Idx Sel) : Prop where
  eps : st'.eps = st.eps
  parents : st'.parents = st.parents
  suppress : st'.suppress = st.suppress
  keys : st'.ipsets.map (·.1) = st.ipsets.map (·.1)
  badMono : bad st = true → bad st' = true

theorem Frame.refl (st : Idx Sel) : Frame st st := ⟨rfl, rfl, rfl, rfl, id⟩

theorem Frame.trans {a b c : Idx Sel} (h1 : Frame a b) (h2 : Frame b c) : Frame a c :=
  ⟨h2.eps.trans h1.eps, h2.parents.trans h1.parents, h2.suppress.trans h1.suppress,
   h2.keys.trans h1.keys, fun h => h2.badMono (h1.badMono h)⟩

structure Eff (st st' : Idx Sel) : Prop where
  eps : st'.eps = st.eps
  parents : st'.parents = st.parents
  suppress : st'.suppress = st.suppress
  keys : st'.ipsets.map (·.1) = st.ipsets.map (·.1)
  cfg : ∀ s, cfgAt st' s = cfgAt st s
  panicked : st'.panicked = st.panicked
  underflow : st'.underflow = st.underflow

theorem Eff.refl (st : Idx Sel) : Eff st st := ⟨rfl, rfl, rfl, rfl, fun _ => rfl, rfl, rfl⟩

theorem Eff.trans {a b c : Idx Sel} (h1 : Eff a b) (h2 : Eff b c) : Eff a c :=
  ⟨h2.eps.trans h1.eps, h2.parents.trans h1.parents, h2.suppress.trans h1.suppress, h2.keys.trans h1.keys,
   fun s => (h2.cfg s).trans (h1.cfg s), h2.panicked.trans h1.panicked, h2.underflow.trans h1.underflow⟩

theorem Eff.bad {a b : Idx Sel} (h : Eff a b) : bad b = bad a := by
  unfold C04.bad; rw [h.panicked, h.underflow]

theorem present_iff_cfg (st : Idx Sel) (s : String) : (alGet s st.ipsets).isSome = (cfgAt st s).isSome := by
  unfold cfgAt; cases alGet s st.ipsets <;> rfl

theorem Eff.present {a b : Idx Sel} (h : Eff a b) (s : String) :
    (alGet s b.ipsets).isSome = (alGet s a.ipsets).isSome := by
  rw [present_iff_cfg, present_iff_cfg, h.cfg]

def Grows (K : List String) (st st' : Idx Sel) : Prop :=
  ∃ evs, st'.out = st.out ++ evs ∧ ∀ e ∈ evs, ∃ s ∈ K, (∃ m, e = .added s m) ∨ (∃ m, e = .removed s m)

theorem Grows.of_eq {K : List String} {st st' : Idx Sel} (h : st'.out = st.out) : Grows K st st' :=
  ⟨[], by rw [h, List.append_nil], fun _ h => nomatch h⟩

theorem Grows.trans {K : List String} {a b c : Idx Sel} (h1 : Grows K a b) (h2 : Grows K b c) : Grows K a c := by
  obtain ⟨e1, o1, p1⟩ := h1
  obtain ⟨e2, o2, p2⟩ := h2
  exact ⟨e1 ++ e2, by rw [o2, o1, List.append_assoc], fun e he => (List.mem_append.1 he).elim (p1 e) (p2 e)⟩

theorem Grows.mono {K K' : List String} {a b : Idx Sel} (h : Grows K a b) (hK : ∀ k ∈ K, k ∈ K') : Grows K' a b := by
  obtain ⟨evs, o, p⟩ := h
  exact ⟨evs, o, fun e he => let ⟨s, hs, h⟩ := p e he; ⟨s, hK s hs, h⟩⟩

/-- The unconditional footprint of the refcount layer. -/
structure RefcOnly (st st' : Idx Sel) : Prop where
  frame : Frame st st'
  cfg : ∀ s, cfgAt st' s = cfgAt st s
  log : Grows (st.ipsets.map (·.1)) st st'

theorem RefcOnly.refl (st : Idx Sel) : RefcOnly st st := ⟨Frame.refl st, fun _ => rfl, Grows.of_eq rfl⟩

theorem RefcOnly.trans {a b c : Idx Sel} (h1 : RefcOnly a b) (h2 : RefcOnly b c) : RefcOnly a c :=
  ⟨h1.frame.trans h2.frame, fun s => (h2.cfg s).trans (h1.cfg s), h1.log.trans (h1.frame.keys ▸ h2.log)⟩

theorem Eff.frame {a b : Idx Sel} (h : Eff a b) : Frame a b :=
  ⟨h.eps, h.parents, h.suppress, h.keys, fun hb => h.bad.trans hb⟩

theorem Eff.refcOnly {a b : Idx Sel} (h : Eff a b) (hl : Grows (a.ipsets.map (·.1)) a b) : RefcOnly a b :=
  ⟨h.frame, h.cfg, hl⟩

structure SameButEps (a b : Idx Sel) : Prop where
  ipsets : b.ipsets = a.ipsets
  tries : b.tries = a.tries
  out : b.out = a.out
  suppress : b.suppress = a.suppress
  parents : b.parents = a.parents
  panicked : b.panicked = a.panicked
  underflow : b.underflow = a.underflow

theorem refCount_congr_get {st st' : Idx Sel} {s : String} (h : alGet s st'.ipsets = alGet s st.ipsets) (m : Member) :
    refCount st' s m = refCount st s m := by
  unfold refCount; rw [h]

theorem cfgAt_congr_get {st st' : Idx Sel} {s : String} (h : alGet s st'.ipsets = alGet s st.ipsets) :
    cfgAt st' s = cfgAt st s := by
  unfold cfgAt; rw [h]

theorem SameButEps.of_eps (st : Idx Sel) (l : List (String × EpData)) : SameButEps st { st with eps := l } :=
  ⟨rfl, rfl, rfl, rfl, rfl, rfl, rfl⟩

theorem SameButEps.refl (st : Idx Sel) : SameButEps st st := ⟨rfl, rfl, rfl, rfl, rfl, rfl, rfl⟩

theorem SameButEps.cfg {a b : Idx Sel} (h : SameButEps a b) (s : String) : cfgAt b s = cfgAt a s :=
  cfgAt_congr_get (by rw [h.ipsets])

theorem SameButEps.refCount {a b : Idx Sel} (h : SameButEps a b) (s : String) (m : Member) :
    refCount b s m = refCount a s m :=
  refCount_congr_get (by rw [h.ipsets]) m

theorem SameButEps.bad {a b : Idx Sel} (h : SameButEps a b) : bad b = bad a := by
  unfold C04.bad; rw [h.panicked, h.underflow]

theorem wf_of_sameButEps {a b : Idx Sel} (hw : WF a) (h : SameButEps a b) (hn : NetsCanon b) : WF b := by
  refine ⟨einv_congr hw.e h.suppress h.out (trieOf_congr h.tries) (fun s m => by rw [h.refCount]), hn, ?_, ?_⟩
  · unfold SetsNodup; rw [h.ipsets]; exact hw.sets
  · unfold RefWF; rw [h.ipsets]; exact hw.refwf

theorem good_eps {st : Idx Sel} (l : List (String × EpData)) (hg : Good st)
    (hl : WF st → ∀ p ∈ l, ∀ c ∈ p.2.nets, c.canon) : Good { st with eps := l } :=
  hg.elim Or.inl fun hw => Or.inr (wf_of_sameButEps hw (.of_eps st l) (hl hw))

theorem good_panicked (st : Idx Sel) : Good { st with panicked := true } := Or.inl (by simp [bad])

theorem wf_of_frame {st st' : Idx Sel} (hw : WF st) (hf : Frame st st') (hE : EInv st') (hr : RefWF st') : WF st' :=
  ⟨hE, fun p hp => hw.nets p (hf.eps ▸ hp), by unfold SetsNodup; rw [hf.keys]; exact hw.sets, hr⟩

theorem refOf_set (d : IpSetData Sel) (m m' : Member) (n : Nat) :
    refOf { d with refc := alSet m n d.refc } m' = if m' = m then n else refOf d m' := by
  unfold refOf; simp only [alGet_alSet]; split <;> rfl

theorem refOf_erase (d : IpSetData Sel) (m m' : Member) :
    refOf { d with refc := alErase m d.refc } m' = if m' = m then 0 else refOf d m' := by
  unfold refOf; simp only [alGet_alErase]; split <;> rfl

theorem refCount_of_some {st : Idx Sel} {s : String} {d : IpSetData Sel} (h : alGet s st.ipsets = some d)
    (m : Member) : refCount st s m = refOf d m := by
  unfold refCount; rw [h]

theorem refCount_of_none {st : Idx Sel} {s : String} (h : alGet s st.ipsets = none) (m : Member) :
    refCount st s m = 0 := by
  unfold refCount; rw [h]

theorem refCount_alMod {st st' : Idx Sel} {s : String} {d : IpSetData Sel} {f : IpSetData Sel → IpSetData Sel}
    (h : alGet s st.ipsets = some d) (h' : st'.ipsets = alMod s f st.ipsets) (s' : String) (m' : Member) :
    refCount st' s' m' = if s' = s then refOf (f d) m' else refCount st s' m' := by
  unfold refCount
  rw [h', alGet_alMod]
  by_cases hs : s' = s
  · subst hs; simp [h]
  · simp [hs]

theorem cfgAt_of_some {st : Idx Sel} {s : String} {d : IpSetData Sel} (h : alGet s st.ipsets = some d) :
    cfgAt st s = some (cfgOf d) := by unfold cfgAt; rw [h]; rfl

theorem cfgAt_of_none {st : Idx Sel} {s : String} (h : alGet s st.ipsets = none) : cfgAt st s = none := by
  unfold cfgAt; rw [h]; rfl

theorem cfgAt_alErase {st st' : Idx Sel} {s : String} (h : st'.ipsets = alErase s st.ipsets) (s' : String) :
    cfgAt st' s' = if s' = s then none else cfgAt st s' := by
  unfold cfgAt
  rw [h, alGet_alErase]
  split <;> rfl

theorem cfgAt_alSet {st st' : Idx Sel} {s : String} {d : IpSetData Sel} (h : st'.ipsets = alSet s d st.ipsets)
    (s' : String) : cfgAt st' s' = if s' = s then some (cfgOf d) else cfgAt st s' := by
  unfold cfgAt
  rw [h, alGet_alSet]
  split <;> rfl

theorem refCount_alErase {st st' : Idx Sel} {s : String} (h : st'.ipsets = alErase s st.ipsets) (s' : String)
    (m : Member) : refCount st' s' m = if s' = s then 0 else refCount st s' m := by
  unfold refCount
  rw [h, alGet_alErase]
  by_cases hs : s' = s <;> simp [hs]

theorem cfgAt_alMod {st st' : Idx Sel} {s : String} {f : IpSetData Sel → IpSetData Sel}
    (h : st'.ipsets = alMod s f st.ipsets) (hf : ∀ d, cfgOf (f d) = cfgOf d) (s' : String) :
    cfgAt st' s' = cfgAt st s' := by
  unfold cfgAt
  rw [h, alGet_alMod]
  by_cases hs : s' = s
  · subst hs; cases alGet s' st.ipsets <;> simp [hf]
  · simp [hs]

theorem refwf_alMod {st st' : Idx Sel} {s : String} {f : IpSetData Sel → IpSetData Sel}
    (h : RefWF st) (h' : st'.ipsets = alMod s f st.ipsets)
    (hf : ∀ d, ((d.refc.map (·.1)).Nodup ∧ ∀ q ∈ d.refc, 0 < q.2) →
      (((f d).refc.map (·.1)).Nodup ∧ ∀ q ∈ (f d).refc, 0 < q.2)) : RefWF st' := by
  intro p hp
  rw [h'] at hp
  rcases mem_alMod hp with ⟨hp, _⟩ | ⟨v, hv, rfl⟩
  · exact h p hp
  · exact hf v (h _ hv)

theorem refwf_set {d : IpSetData Sel} {m : Member} {n : Nat} (hn : 0 < n)
    (h : (d.refc.map (·.1)).Nodup ∧ ∀ q ∈ d.refc, 0 < q.2) :
    ((alSet m n d.refc).map (·.1)).Nodup ∧ ∀ q ∈ alSet m n d.refc, 0 < q.2 :=
  ⟨keys_alSet_nodup h.1, fun q hq => (mem_alSet hq).elim (fun e => e ▸ hn) (h.2 q)⟩

theorem refwf_erase {d : IpSetData Sel} {m : Member}
    (h : (d.refc.map (·.1)).Nodup ∧ ∀ q ∈ d.refc, 0 < q.2) :
    ((alErase m d.refc).map (·.1)).Nodup ∧ ∀ q ∈ alErase m d.refc, 0 < q.2 :=
  ⟨keys_alErase_nodup h.1, fun q hq => h.2 q (mem_alErase hq)⟩

theorem onMemberAdded_ipsets (s : String) (m : Member) (st : Idx Sel) : (onMemberAdded s m st).ipsets = st.ipsets := by
  by_cases hp : st.suppress = true ∧ ∃ c, m = .cidr c
  · obtain ⟨hs, c, rfl⟩ := hp
    rw [onMemberAdded_sup hs]
  · rw [onMemberAdded_plain fun hs c e => hp ⟨hs, c, e⟩]; rfl

theorem onMemberRemoved_ipsets (s : String) (m : Member) (st : Idx Sel) :
    (onMemberRemoved s m st).ipsets = st.ipsets := by
  by_cases hp : st.suppress = true ∧ ∃ c, m = .cidr c
  · obtain ⟨hs, c, rfl⟩ := hp
    rw [onMemberRemoved_sup hs]
  · rw [onMemberRemoved_plain fun hs c e => hp ⟨hs, c, e⟩]; rfl

theorem onMemberAdded_eff (s : String) (m : Member) (st : Idx Sel) : Eff st (onMemberAdded s m st) := by
  by_cases hp : st.suppress = true ∧ ∃ c, m = .cidr c
  · obtain ⟨hs, c, rfl⟩ := hp
    rw [onMemberAdded_sup hs]; exact ⟨rfl, rfl, rfl, rfl, fun _ => rfl, rfl, rfl⟩
  · rw [onMemberAdded_plain fun hs c e => hp ⟨hs, c, e⟩]; exact ⟨rfl, rfl, rfl, rfl, fun _ => rfl, rfl, rfl⟩

theorem onMemberRemoved_eff (s : String) (m : Member) (st : Idx Sel) : Eff st (onMemberRemoved s m st) := by
  by_cases hp : st.suppress = true ∧ ∃ c, m = .cidr c
  · obtain ⟨hs, c, rfl⟩ := hp
    rw [onMemberRemoved_sup hs]; exact ⟨rfl, rfl, rfl, rfl, fun _ => rfl, rfl, rfl⟩
  · rw [onMemberRemoved_plain fun hs c e => hp ⟨hs, c, e⟩]; exact ⟨rfl, rfl, rfl, rfl, fun _ => rfl, rfl, rfl⟩

theorem onMember_grows {K : List String} {s : String} (hs : s ∈ K) (m : Member) (st : Idx Sel) :
    Grows K st (onMemberAdded s m st) ∧ Grows K st (onMemberRemoved s m st) := by
  have one : ∀ e : Event, ((∃ m, e = .added s m) ∨ ∃ m, e = .removed s m) → Grows K st (emit e st) :=
    fun e he => ⟨[e], rfl, fun e' h => ⟨s, hs, List.mem_singleton.1 h ▸ he⟩⟩
  by_cases hp : st.suppress = true ∧ ∃ c, m = .cidr c
  · obtain ⟨hsup, c, rfl⟩ := hp
    rw [onMemberAdded_sup hsup, onMemberRemoved_sup hsup]
    constructor <;> refine ⟨_, rfl, fun e he => ⟨s, hs, ?_⟩⟩ <;> split at he
    · cases he
    · rcases List.mem_cons.1 he with rfl | h
      · exact Or.inl ⟨_, rfl⟩
      · obtain ⟨x, _, rfl⟩ := List.mem_map.1 h; exact Or.inr ⟨_, rfl⟩
    · cases he
    · rcases List.mem_cons.1 he with rfl | h
      · exact Or.inr ⟨_, rfl⟩
      · obtain ⟨x, _, rfl⟩ := List.mem_map.1 h; exact Or.inl ⟨_, rfl⟩
  · have hplain : st.suppress = true → ∀ c, m ≠ .cidr c := fun hs c e => hp ⟨hs, c, e⟩
    rw [onMemberAdded_plain hplain, onMemberRemoved_plain hplain]
    exact ⟨one _ (Or.inl ⟨_, rfl⟩), one _ (Or.inr ⟨_, rfl⟩)⟩

def setRef.cb (s : String) (m : Member) (n : Nat) (st : Idx Sel) : Idx Sel :=
  if refCount st s m = 0 then (if n = 0 then st else onMemberAdded s m st)
  else if n = 0 then onMemberRemoved s m st else st

/-- The one primitive of the refcount layer: the refcount of `(s, m)` becomes `n` (a zero entry is deleted), after
the callback its change of sign calls for.  Unless a flag goes up `incref`, `decref` and `forceRemove` are instances. -/
def setRef (s : String) (m : Member) (n : Nat) (st : Idx Sel) : Idx Sel :=
  { setRef.cb s m n st with
    ipsets := alMod s (fun d => { d with refc := if n = 0 then alErase m d.refc else alSet m n d.refc }) st.ipsets }

theorem setRef.cb_eff (s : String) (m : Member) (n : Nat) (st : Idx Sel) : Eff st (setRef.cb s m n st) := by
  unfold setRef.cb
  split
  · split
    · exact Eff.refl st
    · exact onMemberAdded_eff s m st
  · split
    · exact onMemberRemoved_eff s m st
    · exact Eff.refl st

theorem setRef.cb_grows {K : List String} {s : String} (hs : s ∈ K) (m : Member) (n : Nat) (st : Idx Sel) :
    Grows K st (setRef.cb s m n st) := by
  unfold setRef.cb
  split
  · split
    · exact Grows.of_eq rfl
    · exact (onMember_grows hs m st).1
  · split
    · exact (onMember_grows hs m st).2
    · exact Grows.of_eq rfl

theorem setRef_ipsets (s : String) (m : Member) (n : Nat) (st : Idx Sel) : (setRef s m n st).ipsets =
    alMod s (fun d => { d with refc := if n = 0 then alErase m d.refc else alSet m n d.refc }) st.ipsets := rfl

theorem refCount_pos_present {st : Idx Sel} {s : String} {m : Member} (h : 0 < refCount st s m) :
    (alGet s st.ipsets).isSome = true := by
  unfold refCount at h
  cases h' : alGet s st.ipsets with
  | none => rw [h'] at h; cases h
  | some d => rfl

theorem incref_none {st : Idx Sel} {s : String} (m : Member) (h : alGet s st.ipsets = none) :
    incref s m st = { st with panicked := true } := by
  simp only [incref, h]

theorem incref_some {st : Idx Sel} {s : String} (m : Member) (hp : (alGet s st.ipsets).isSome = true) :
    incref s m st = setRef s m (refCount st s m + 1) st := by
  obtain ⟨d, h⟩ := Option.isSome_iff_exists.1 hp
  simp only [incref, h, refCount_of_some h, setRef, setRef.cb, Nat.add_one_ne_zero, if_false]
  split <;> simp only [onMemberAdded_ipsets s m st]

theorem decref_none {st : Idx Sel} {s : String} (m : Member) (h : alGet s st.ipsets = none) :
    decref s m st = { st with panicked := true } := by
  simp only [decref, h]

theorem decref_zero {st : Idx Sel} {s : String} {m : Member} (hp : (alGet s st.ipsets).isSome = true)
    (h0 : refCount st s m = 0) :
    decref s m st = { st with
      ipsets := alMod s (fun d => { d with refc := alSet m (2 ^ 64 - 1) d.refc }) st.ipsets, underflow := true } := by
  obtain ⟨d, h⟩ := Option.isSome_iff_exists.1 hp
  rw [refCount_of_some h] at h0
  simp only [decref, h, h0, if_true]

theorem decref_pos {st : Idx Sel} {s : String} {m : Member} (h0 : 0 < refCount st s m) :
    decref s m st = setRef s m (refCount st s m - 1) st := by
  obtain ⟨d, h⟩ := Option.isSome_iff_exists.1 (refCount_pos_present h0)
  rw [refCount_of_some h] at h0
  simp only [decref, h, refCount_of_some h, setRef, setRef.cb, Nat.ne_of_gt h0, if_false]
  split <;> simp only [onMemberRemoved_ipsets s m st]

theorem forceRemove_pos {st : Idx Sel} {s : String} {m : Member} (h0 : 0 < refCount st s m) :
    forceRemove s m st = setRef s m 0 st := by
  simp only [forceRemove, setRef, setRef.cb, Nat.ne_of_gt h0, if_false, if_true, onMemberRemoved_ipsets s m st]

theorem setRef_eff (s : String) (m : Member) (n : Nat) (st : Idx Sel) : Eff st (setRef s m n st) :=
  have hx := setRef.cb_eff s m n st
  ⟨hx.eps, hx.parents, hx.suppress, setRef_ipsets s m n st ▸ alMod_keys s _ _,
    cfgAt_alMod (setRef_ipsets s m n st) fun _ => rfl, hx.panicked, hx.underflow⟩

theorem setRef_refcOnly {st : Idx Sel} {s : String} (hp : (alGet s st.ipsets).isSome = true) (m : Member) (n : Nat) :
    RefcOnly st (setRef s m n st) :=
  (setRef_eff s m n st).refcOnly (setRef.cb_grows (alGet_isSome_iff.1 hp) m n st)

theorem refCount_setRef {st : Idx Sel} {s : String} (hp : (alGet s st.ipsets).isSome = true) (m : Member) (n : Nat)
    (s' : String) (m' : Member) :
    refCount (setRef s m n st) s' m' = if s' = s ∧ m' = m then n else refCount st s' m' := by
  obtain ⟨d, h⟩ := Option.isSome_iff_exists.1 hp
  rw [refCount_alMod h (setRef_ipsets s m n st)]
  by_cases hs : s' = s
  · subst hs
    by_cases hm : m' = m
    · subst hm; by_cases hn : n = 0 <;> simp [hn, refOf_set, refOf_erase]
    · by_cases hn : n = 0 <;> simp [hn, hm, refOf_set, refOf_erase, refCount_of_some h]
  · simp [hs]

/-- The primitive keeps the emission invariant: the callback runs exactly when the sign of the refcount changes. -/
theorem setRef_einv {st : Idx Sel} {s : String} {m : Member} {n : Nat} (hE : EInv st)
    (hp : (alGet s st.ipsets).isSome = true)
    (hm : refCount st s m = 0 → 0 < n → ∀ c, m = .cidr c → c.canon) : EInv (setRef s m n st) := by
  have hsup := (setRef_eff s m n st).suppress
  have hrc := refCount_setRef hp m n
  have hoth : ∀ s' m', (s' = s ∧ m' = m) ∨
      (0 < refCount (setRef s m n st) s' m' ↔ 0 < refCount st s' m') := fun s' m' => by
    by_cases h : s' = s ∧ m' = m
    · exact Or.inl h
    · exact Or.inr (by rw [hrc, if_neg h])
  have hself : refCount (setRef s m n st) s m = n := by rw [hrc, if_pos ⟨rfl, rfl⟩]
  -- the state the callback leaves: the result has its log and tries
  have hout : ∀ x, setRef.cb s m n st = x →
      (setRef s m n st).out = x.out ∧ (setRef s m n st).tries = x.tries := fun x hx => hx ▸ ⟨rfl, rfl⟩
  have hplainCase : ∀ hplain : st.suppress = true → ∀ c, m ≠ .cidr c, (refCount st s m = 0 ↔ n ≠ 0) →
      (setRef s m n st).out = st.out ++ [if refCount st s m = 0 then .added s m else .removed s m] →
      (setRef s m n st).tries = st.tries → EInv (setRef s m n st) := fun hplain hflip ho ht =>
    einv_plain (s := s) (m := m) hE (fun h0 c hc => hm h0 (Nat.pos_of_ne_zero (hflip.1 h0)) c hc) hsup hoth
      (by rw [hself]; exact ⟨fun h => hflip.2 (Nat.ne_of_gt h), fun h => Nat.pos_of_ne_zero (hflip.1 h)⟩) hplain ho
      (trieOf_congr ht)
  have hsame : (setRef s m n st).out = st.out → (setRef s m n st).tries = st.tries →
      (0 < n ↔ 0 < refCount st s m) → EInv (setRef s m n st) := fun ho ht hn =>
    einv_congr hE hsup ho (trieOf_congr ht) fun s' m' => (hoth s' m').elim
      (fun h => by rw [h.1, h.2, hself]; exact hn) id
  by_cases h0 : refCount st s m = 0
  · by_cases hn : n = 0
    · obtain ⟨ho, ht⟩ := hout st (by rw [setRef.cb, if_pos h0, if_pos hn])
      exact hsame ho ht (by omega)
    · -- 0 to positive: `onMemberAdded`
      obtain ⟨ho, ht⟩ := hout _ (by rw [setRef.cb, if_pos h0, if_neg hn])
      by_cases hpc : st.suppress = true ∧ ∃ c, m = .cidr c
      · obtain ⟨hs, c, rfl⟩ := hpc
        rw [onMemberAdded_sup hs] at ho ht
        have hct : c ∉ trieOf st s := by rw [hE.trie hs]; omega
        rw [show setAdd c (trieOf st s) = c :: trieOf st s from if_neg hct] at ho ht
        have hcc := hm h0 (Nat.pos_of_ne_zero hn) c rfl
        refine einv_sup hE hs hsup hoth ho ht (fun x => ?_)
          (List.nodup_cons.2 ⟨hct, hE.trieNodup s⟩) (fun _ => hcc) fun D hD =>
            replay_supAdd hD (fun d hd => hE.canon s d ((hE.trie hs s d).1 hd)) hcc (hE.trieNodup s) hct
        rw [hrc, List.mem_cons, hE.trie hs]
        by_cases hx : x = c
        · simp [hx, Nat.pos_of_ne_zero hn]
        · simp [hx]
      · have hplain : st.suppress = true → ∀ c, m ≠ .cidr c := fun hs c e => hpc ⟨hs, c, e⟩
        rw [onMemberAdded_plain hplain] at ho ht
        exact hplainCase hplain (by simp [h0, hn]) (by rw [ho, if_pos h0]; rfl) ht
  · by_cases hn : n = 0
    · -- positive to 0: `onMemberRemoved`
      obtain ⟨ho, ht⟩ := hout _ (by rw [setRef.cb, if_neg h0, if_pos hn])
      by_cases hpc : st.suppress = true ∧ ∃ c, m = .cidr c
      · obtain ⟨hs, c, rfl⟩ := hpc
        rw [onMemberRemoved_sup hs] at ho ht
        refine einv_sup hE hs hsup hoth ho ht (fun x => ?_)
          ((hE.trieNodup s).filter _) (fun h => by rw [hself, hn] at h; cases h) fun D hD =>
            replay_supRemove hD (fun d hd => hE.canon s d ((hE.trie hs s d).1 hd)) (hE.trieNodup s)
              ((hE.trie hs s c).2 (Nat.pos_of_ne_zero h0))
        rw [hrc, mem_filter_ne, hE.trie hs]
        by_cases hx : x = c
        · simp [hx, hn]
        · simp [hx]
      · have hplain : st.suppress = true → ∀ c, m ≠ .cidr c := fun hs c e => hpc ⟨hs, c, e⟩
        rw [onMemberRemoved_plain hplain] at ho ht
        exact hplainCase hplain (by simp [h0, hn]) (by rw [ho, if_neg h0]; rfl) ht
    · obtain ⟨ho, ht⟩ := hout st (by rw [setRef.cb, if_neg h0, if_neg hn])
      exact hsame ho ht (by omega)

theorem setRef_wf {st : Idx Sel} {s : String} {m : Member} {n : Nat} (hw : WF st)
    (hp : (alGet s st.ipsets).isSome = true)
    (hm : refCount st s m = 0 → 0 < n → ∀ c, m = .cidr c → c.canon) : WF (setRef s m n st) :=
  wf_of_frame hw (setRef_eff s m n st).frame (setRef_einv hw.e hp hm)
    (refwf_alMod hw.refwf (setRef_ipsets s m n st) fun _ hd => by
      dsimp only
      split
      · exact refwf_erase hd
      · exact refwf_set (Nat.pos_of_ne_zero ‹_›) hd)

theorem setRef_good {st : Idx Sel} {s : String} {m : Member} {n : Nat} (hg : Good st)
    (hp : (alGet s st.ipsets).isSome = true)
    (hm : refCount st s m = 0 → 0 < n → ∀ c, m = .cidr c → c.canon) : Good (setRef s m n st) :=
  hg.imp (fun hb => (setRef_eff s m n st).bad.trans hb) fun hw => setRef_wf hw hp hm

theorem incref_eff {st : Idx Sel} {s : String} (m : Member) (hp : (alGet s st.ipsets).isSome = true) :
    Eff st (incref s m st) := by
  rw [incref_some m hp]; exact setRef_eff ..

theorem decref_eff {st : Idx Sel} {s : String} {m : Member} (h0 : 0 < refCount st s m) :
    Eff st (decref s m st) := by
  rw [decref_pos h0]; exact setRef_eff ..

theorem refcOnly_panicked (st : Idx Sel) : RefcOnly st { st with panicked := true } :=
  ⟨⟨rfl, rfl, rfl, rfl, fun _ => by simp [bad]⟩, fun _ => rfl, Grows.of_eq rfl⟩

theorem refcOnly_underflow (st : Idx Sel) (s : String) (f : IpSetData Sel → IpSetData Sel)
    (hf : ∀ d, cfgOf (f d) = cfgOf d) :
    RefcOnly st { st with ipsets := alMod s f st.ipsets, underflow := true } :=
  ⟨⟨rfl, rfl, rfl, alMod_keys s f _, fun _ => by simp [bad]⟩, cfgAt_alMod rfl hf, Grows.of_eq rfl⟩

theorem incref_refcOnly (s : String) (m : Member) (st : Idx Sel) : RefcOnly st (incref s m st) := by
  cases h : alGet s st.ipsets with
  | none => rw [incref_none m h]; exact refcOnly_panicked st
  | some d =>
    have hp : (alGet s st.ipsets).isSome = true := by rw [h]; rfl
    rw [incref_some m hp]; exact setRef_refcOnly hp ..

theorem decref_refcOnly (s : String) (m : Member) (st : Idx Sel) : RefcOnly st (decref s m st) := by
  cases h : alGet s st.ipsets with
  | none => rw [decref_none m h]; exact refcOnly_panicked st
  | some d =>
    have hp : (alGet s st.ipsets).isSome = true := by rw [h]; rfl
    by_cases h0 : refCount st s m = 0
    · rw [decref_zero hp h0]
      exact refcOnly_underflow st s _ fun _ => rfl
    · rw [decref_pos (Nat.pos_of_ne_zero h0)]; exact setRef_refcOnly hp ..

theorem forceRemove_refcOnly {s : String} {st : Idx Sel} (hp : (alGet s st.ipsets).isSome = true) (m : Member) :
    RefcOnly st (forceRemove s m st) := by
  have he := onMemberRemoved_eff s m st
  have hi : (forceRemove s m st).ipsets = alMod s (fun d => { d with refc := alErase m d.refc }) st.ipsets := by
    simp only [forceRemove, onMemberRemoved_ipsets s m st]
  exact ⟨⟨he.eps, he.parents, he.suppress, hi ▸ alMod_keys s _ _, fun hb => he.bad.trans hb⟩, cfgAt_alMod hi fun _ => rfl,
    (onMember_grows (alGet_isSome_iff.1 hp) m st).2⟩

theorem refCount_incref {st : Idx Sel} {s : String} (m : Member) (hp : (alGet s st.ipsets).isSome = true)
    (s' : String) (m' : Member) :
    refCount (incref s m st) s' m' = refCount st s' m' + if s' = s ∧ m' = m then 1 else 0 := by
  rw [incref_some m hp, refCount_setRef hp]
  split
  · rename_i h; rw [h.1, h.2]
  · rfl

theorem refCount_decref {st : Idx Sel} {s : String} {m : Member} (h0 : 0 < refCount st s m)
    (s' : String) (m' : Member) :
    refCount (decref s m st) s' m' = refCount st s' m' - if s' = s ∧ m' = m then 1 else 0 := by
  rw [decref_pos h0, refCount_setRef (refCount_pos_present h0)]
  split
  · rename_i h; rw [h.1, h.2]
  · rfl

theorem incref_good {s : String} {m : Member} {st : Idx Sel} (hg : Good st)
    (hm : ∀ c, m = .cidr c → c.canon) : Good (incref s m st) := by
  cases h : alGet s st.ipsets with
  | none => rw [incref_none m h]; exact good_panicked st
  | some d =>
    have hp : (alGet s st.ipsets).isSome = true := by rw [h]; rfl
    rw [incref_some m hp]; exact setRef_good hg hp fun _ _ => hm

theorem decref_good {s : String} {m : Member} {st : Idx Sel} (hg : Good st) : Good (decref s m st) := by
  by_cases h0 : 0 < refCount st s m
  · rw [decref_pos h0]; exact setRef_good hg (refCount_pos_present h0) fun h => by omega
  · cases h : alGet s st.ipsets with
    | none => rw [decref_none m h]; exact good_panicked st
    | some d => rw [decref_zero (by rw [h]; rfl) (by omega)]; exact Or.inl (by simp [bad])

theorem increfAll_good {s : String} {ms : List Member} {st : Idx Sel} (hg : Good st)
    (hm : ∀ m ∈ ms, ∀ c, m = .cidr c → c.canon) : Good (increfAll s ms st) :=
  List.foldlRecOn (motive := Good) ms _ hg fun _ h m hmem => incref_good h (hm m hmem)

theorem decrefAll_good {s : String} {ms : List Member} {st : Idx Sel} (hg : Good st) :
    Good (decrefAll s ms st) :=
  List.foldlRecOn (motive := Good) ms _ hg fun _ h _ _ => decref_good h

theorem decrefOld_good {old : List (String × List Member)} {st : Idx Sel} (hg : Good st) :
    Good (decrefOld old st) :=
  List.foldlRecOn (motive := Good) old _ hg fun _ h _ _ => decrefAll_good h

theorem increfAll_refcOnly (s : String) (ms : List Member) (st : Idx Sel) : RefcOnly st (increfAll s ms st) :=
  foldl_chain RefcOnly.refl RefcOnly.trans _ (fun st m => incref_refcOnly s m st) ms st

theorem decrefAll_refcOnly (s : String) (ms : List Member) (st : Idx Sel) : RefcOnly st (decrefAll s ms st) :=
  foldl_chain RefcOnly.refl RefcOnly.trans _ (fun st m => decref_refcOnly s m st) ms st

theorem decrefOld_refcOnly (old : List (String × List Member)) (st : Idx Sel) : RefcOnly st (decrefOld old st) := by
  unfold decrefOld
  exact foldl_chain RefcOnly.refl RefcOnly.trans _ (fun st p => decrefAll_refcOnly p.1 p.2 st) old st

/-- exact effect of a loop of this layer under its guards: nothing but refcount maps, tries and log changed (no flag
went up), and the refcounts are `r` -/
structure Counted (st st' : Idx Sel) (r : String → Member → Nat) : Prop where
  eff : Eff st st'
  refc : ∀ s m, refCount st' s m = r s m

theorem increfAll_counted {s : String} (ms : List Member) {st : Idx Sel}
    (hp : (alGet s st.ipsets).isSome = true) :
    Counted st (increfAll s ms st) fun s' m' => refCount st s' m' + (if s' = s then ms.count m' else 0) := by
  unfold increfAll
  induction ms generalizing st with
  | nil => exact ⟨Eff.refl st, fun s' m' => by simp⟩
  | cons m ms ih =>
    have e1 := incref_eff m hp
    obtain ⟨e2, r2⟩ := ih (st := incref s m st) (by rw [e1.present]; exact hp)
    refine ⟨e1.trans e2, fun s' m' => ?_⟩
    rw [List.foldl_cons, r2, refCount_incref m hp, count_cons_eq]
    by_cases hs : s' = s
    · by_cases hm : m' = m <;> simp [hs, hm] <;> omega
    · simp [hs]

theorem decrefAll_counted {s : String} (ms : List Member) {st : Idx Sel}
    (hg : ∀ m', ms.count m' ≤ refCount st s m') :
    Counted st (decrefAll s ms st) fun s' m' => refCount st s' m' - (if s' = s then ms.count m' else 0) := by
  unfold decrefAll
  induction ms generalizing st with
  | nil => exact ⟨Eff.refl st, fun s' m' => by simp⟩
  | cons m ms ih =>
    have hpos : 0 < refCount st s m := by have := hg m; rw [count_cons_eq, if_pos rfl] at this; omega
    have e1 := decref_eff hpos
    obtain ⟨e2, r2⟩ := ih (st := decref s m st) (fun m' => by
      have := hg m'
      rw [count_cons_eq] at this
      rw [refCount_decref hpos]
      by_cases hm : m' = m <;> simp [hm] at this ⊢ <;> omega)
    refine ⟨e1.trans e2, fun s' m' => ?_⟩
    rw [List.foldl_cons, r2, refCount_decref hpos, count_cons_eq]
    by_cases hs : s' = s
    · by_cases hm : m' = m <;> simp [hs, hm] <;> omega
    · simp [hs]

/-- amount `decrefOld old` takes off `(s, m)` -/
def oldCount (old : List (String × List Member)) (s : String) (m : Member) : Nat :=
  match alGet s old with
  | some ms => ms.count m
  | none => 0

theorem decrefOld_counted (old : List (String × List Member)) {st : Idx Sel}
    (nd : (old.map (·.1)).Nodup)
    (hg : ∀ p ∈ old, ∀ m', p.2.count m' ≤ refCount st p.1 m') :
    Counted st (decrefOld old st) fun s' m' => refCount st s' m' - oldCount old s' m' := by
  unfold decrefOld
  induction old generalizing st with
  | nil => exact ⟨Eff.refl st, fun s' m' => by simp [oldCount]⟩
  | cons p old ih =>
    obtain ⟨s, ms⟩ := p
    rw [List.foldl_cons]
    simp only [List.map_cons, List.nodup_cons] at nd
    have d1 := decrefAll_counted (s := s) ms (st := st) (hg (s, ms) (List.mem_cons_self ..))
    have hg' : ∀ p ∈ old, ∀ m', p.2.count m' ≤ refCount (decrefAll s ms st) p.1 m' := by
      intro p hp m'
      have hne : p.1 ≠ s := fun e => nd.1 (List.mem_map.2 ⟨p, hp, e⟩)
      rw [d1.refc, if_neg hne]
      exact hg p (List.mem_cons_of_mem _ hp) m'
    have d2 := ih (st := decrefAll s ms st) nd.2 hg'
    refine ⟨d1.eff.trans d2.eff, fun s' m' => ?_⟩
    rw [d2.refc, d1.refc]
    unfold oldCount
    rw [alGet_cons]
    by_cases hs : s' = s
    · subst hs
      have : alGet s' old = none := by
        cases h : alGet s' old with
        | none => rfl
        | some v => exact absurd (List.mem_map.2 ⟨_, alGet_some_mem h, rfl⟩) nd.1
      simp [this]
    · have : ¬ s = s' := fun e => hs e.symm
      simp [hs, this]

theorem mkIPPortProto_canon (v : Bool) (a po pr : Nat) (c : Cidr) (h : mkIPPortProto v a po pr = .cidr c) :
    c.canon := by
  unfold mkIPPortProto at h
  split at h
  · cases h; simp [Cidr.canon, Nat.mod_one]
  · cases h

theorem contrib_canon {e : EpData} {d : IpSetData Sel} (he : ∀ c ∈ e.nets, c.canon) :
    ∀ m ∈ contrib e d, ∀ c, m = .cidr c → c.canon := by
  intro m hm c hc
  unfold contrib at hm
  split at hm
  · simp only [List.mem_flatMap, List.mem_map] at hm
    obtain ⟨pp, _, n, _, hmk⟩ := hm
    exact mkIPPortProto_canon _ _ _ _ c (hmk.trans hc)
  · obtain ⟨n, hn, hmn⟩ := List.mem_map.1 hm
    cases hmn.trans hc
    exact he _ hn

/-- what the datastore says about an endpoint / network set (everything but the match cache) -/
def EpData.input (e : EpData) : Labels × List Cidr × List Port × List String :=
  (e.labels, e.nets, e.ports, e.parents)

theorem EpData.input_eq {e e' : EpData} : e'.input = e.input ↔
    e'.labels = e.labels ∧ e'.nets = e.nets ∧ e'.ports = e.ports ∧ e'.parents = e.parents := by
  simp [EpData.input]

def contribAt (st : Idx Sel) (e : EpData) (s : String) : List Member :=
  match alGet s st.ipsets with
  | some d => contrib e d
  | none => []

variable (matchSel : Sel → Labels → Bool)

def matchAt (st : Idx Sel) (e : EpData) (s : String) : Bool :=
  match alGet s st.ipsets with
  | some d => matchSel d.sel (effLabels st e)
  | none => false

theorem contribAt_of_some {st : Idx Sel} {s : String} {d : IpSetData Sel} (h : alGet s st.ipsets = some d) (e : EpData) :
    contribAt st e s = contrib e d := by unfold contribAt; rw [h]

theorem matchAt_of_some {st : Idx Sel} {s : String} {d : IpSetData Sel} (h : alGet s st.ipsets = some d) (e : EpData) :
    matchAt matchSel st e s = matchSel d.sel (effLabels st e) := by unfold matchAt; rw [h]

theorem matchAt_of_none {st : Idx Sel} {s : String} (h : alGet s st.ipsets = none) (e : EpData) :
    matchAt matchSel st e s = false := by unfold matchAt; rw [h]

/-- what the refcount of `(s, m)` should count for endpoint data `e`, read off the inputs alone -/
def share (st : Idx Sel) (s : String) (m : Member) (e : EpData) : Nat :=
  if matchAt matchSel st e s = true then (contribAt st e s).count m else 0

theorem contrib_congr {e e' : EpData} {d d' : IpSetData Sel} (h1 : d'.proto = d.proto) (h2 : d'.port = d.port)
    (h3 : e'.nets = e.nets) (h4 : e'.ports = e.ports) : contrib e' d' = contrib e d := by
  unfold contrib lookupNamedPorts
  rw [h1, h2, h3, h4]

theorem effLabels_congr_on {st st' : Idx Sel} {e e' : EpData} (h1 : e'.labels = e.labels) (h2 : e'.parents = e.parents)
    (hp : ∀ x ∈ e.parents, parentLabels st' x = parentLabels st x) : effLabels st' e' = effLabels st e := by
  unfold effLabels
  rw [h1, h2, List.flatMap_def, List.flatMap_def, List.map_congr_left hp]

theorem effLabels_congr {st st' : Idx Sel} {e e' : EpData} (hp : st'.parents = st.parents)
    (h1 : e'.labels = e.labels) (h2 : e'.parents = e.parents) : effLabels st' e' = effLabels st e :=
  effLabels_congr_on h1 h2 fun x _ => by unfold parentLabels; rw [hp]

theorem cfgAt_cases {st st' : Idx Sel} {s : String} (h : cfgAt st' s = cfgAt st s) :
    (alGet s st'.ipsets = none ∧ alGet s st.ipsets = none) ∨
    ∃ d d', alGet s st'.ipsets = some d' ∧ alGet s st.ipsets = some d ∧ cfgOf d' = cfgOf d := by
  unfold cfgAt at h
  cases h1 : alGet s st'.ipsets <;> cases h2 : alGet s st.ipsets <;> rw [h1, h2] at h
  · exact Or.inl ⟨rfl, rfl⟩
  · cases h
  · cases h
  · exact Or.inr ⟨_, _, rfl, rfl, Option.some.inj h⟩

theorem contribAt_congr {st st' : Idx Sel} {e e' : EpData} {s : String} (h : cfgAt st' s = cfgAt st s)
    (hi : e'.input = e.input) : contribAt st' e' s = contribAt st e s := by
  obtain ⟨_, h3, h4, _⟩ := EpData.input_eq.1 hi
  unfold contribAt
  rcases cfgAt_cases h with ⟨h1, h2⟩ | ⟨d, d', h1, h2, hc⟩
  · rw [h1, h2]
  · rw [h1, h2]
    simp only [cfgOf, Prod.mk.injEq] at hc
    exact contrib_congr hc.2.1 hc.2.2 h3 h4

theorem matchAt_congr_eff {st st' : Idx Sel} {e e' : EpData} {s : String} (h : cfgAt st' s = cfgAt st s)
    (hE : effLabels st' e' = effLabels st e) : matchAt matchSel st' e' s = matchAt matchSel st e s := by
  unfold matchAt
  rcases cfgAt_cases h with ⟨h1', h2'⟩ | ⟨d, d', h1', h2', hc⟩
  · rw [h1', h2']
  · rw [h1', h2']
    simp only [cfgOf, Prod.mk.injEq] at hc
    simp only [hc.1, hE]

theorem matchAt_congr {st st' : Idx Sel} {e e' : EpData} {s : String} (h : cfgAt st' s = cfgAt st s)
    (hp : st'.parents = st.parents) (hi : e'.input = e.input) :
    matchAt matchSel st' e' s = matchAt matchSel st e s :=
  have ⟨h1, _, _, h2⟩ := EpData.input_eq.1 hi
  matchAt_congr_eff matchSel h (effLabels_congr hp h1 h2)

theorem share_congr {st st' : Idx Sel} {e e' : EpData} {s : String} (h : cfgAt st' s = cfgAt st s)
    (hp : st'.parents = st.parents) (hi : e'.input = e.input) (m : Member) :
    share matchSel st' s m e' = share matchSel st s m e := by
  unfold share; rw [matchAt_congr matchSel h hp hi, contribAt_congr h hi]

theorem matchAt_present {st : Idx Sel} {e : EpData} {s : String} (h : matchAt matchSel st e s = true) :
    (alGet s st.ipsets).isSome = true := by
  unfold matchAt at h
  cases h' : alGet s st.ipsets with
  | none => rw [h'] at h; cases h
  | some d => rfl

theorem scanOne_input (k : String) (p : Idx Sel × EpData) : (scanOne matchSel k p).2.input = p.2.input := by
  unfold scanOne
  split
  · rfl
  · split <;> rfl

theorem scanFold_input (ks : List String) (p : Idx Sel × EpData) :
    (ks.foldl (fun p s => scanOne matchSel s p) p).2.input = p.2.input :=
  List.foldlRecOn (motive := fun q : Idx Sel × EpData => q.2.input = p.2.input) ks _ rfl
    fun _ h k _ => (scanOne_input matchSel k _).trans h

theorem scanEp_input (e : EpData) (old : List (String × List Member)) (st : Idx Sel) :
    (scanEp matchSel e old st).2.input = e.input :=
  scanFold_input matchSel (st.ipsets.map (fun (q : String × IpSetData Sel) => q.1)) (st, { e with cached := [] })

theorem scanOne_refcOnly (k : String) (p : Idx Sel × EpData) : RefcOnly p.1 (scanOne matchSel k p).1 := by
  unfold scanOne
  split
  · exact RefcOnly.refl _
  · split
    · exact increfAll_refcOnly ..
    · exact RefcOnly.refl _

theorem scanEp_refcOnly (e : EpData) (old : List (String × List Member)) (st : Idx Sel) :
    RefcOnly st (scanEp matchSel e old st).1 :=
  (List.foldlRecOn (motive := fun p : Idx Sel × EpData => RefcOnly st p.1) (st.ipsets.map (·.1)) _ (RefcOnly.refl st)
    fun p h k _ => h.trans (scanOne_refcOnly matchSel k p)).trans (decrefOld_refcOnly ..)

theorem scanEp_good {e : EpData} {old : List (String × List Member)} {st : Idx Sel} (hg : Good st)
    (he : ∀ c ∈ e.nets, c.canon) : Good (scanEp matchSel e old st).1 := by
  refine decrefOld_good (List.foldlRecOn (motive := fun (p : Idx Sel × EpData) => Good p.1 ∧ p.2.nets = e.nets)
    _ _ ⟨hg, rfl⟩ ?_).1
  intro p hp s _
  unfold scanOne
  split
  · exact hp
  · split
    · exact ⟨increfAll_good hp.1 (contrib_canon (by exact hp.2 ▸ he)), hp.2⟩
    · exact hp

/-- exact effect of the first loop of `scanEndpointAgainstIPSets` over the sets selected by `P` (all present), result `r` -/
structure ScanSpec (P : String → Prop) [DecidablePred P] (st : Idx Sel) (e : EpData) (r : Idx Sel × EpData) : Prop where
  eff : Eff st r.1
  cached_iff : ∀ s, s ∈ r.2.cached ↔ s ∈ e.cached ∨ (P s ∧ matchAt matchSel st e s = true)
  cachedNodup : e.cached.Nodup → r.2.cached.Nodup
  refc : ∀ s m, refCount r.1 s m = refCount st s m +
    (if P s ∧ matchAt matchSel st e s = true then (contribAt st e s).count m else 0)

theorem scanOne_spec (k : String) (st : Idx Sel) (e : EpData) (hp : (alGet k st.ipsets).isSome = true) :
    ScanSpec matchSel (· = k) st e (scanOne matchSel k (st, e)) := by
  suffices h : Eff st (scanOne matchSel k (st, e)).1 ∧
      (∀ s, s ∈ (scanOne matchSel k (st, e)).2.cached ↔
        s ∈ e.cached ∨ (s = k ∧ matchAt matchSel st e k = true)) ∧
      (e.cached.Nodup → (scanOne matchSel k (st, e)).2.cached.Nodup) ∧
      ∀ s' m', refCount (scanOne matchSel k (st, e)).1 s' m' = refCount st s' m' +
        (if s' = k ∧ matchAt matchSel st e k = true then (contribAt st e k).count m' else 0) from
    ⟨h.1, fun s => by rw [h.2.1]; exact or_congr_right ⟨fun ⟨a, b⟩ => ⟨a, a ▸ b⟩, fun ⟨a, b⟩ => ⟨a, a ▸ b⟩⟩,
      h.2.2.1, fun s m => by
        rw [h.2.2.2]
        by_cases hs : s = k
        · rw [hs]
        · simp [hs]⟩
  obtain ⟨d, h⟩ := Option.isSome_iff_exists.1 hp
  simp only [scanOne, h, matchAt_of_some matchSel h, contribAt_of_some h]
  by_cases hm : matchSel d.sel (effLabels st e) = true
  · simp only [hm, if_true, and_true]
    have ia := increfAll_counted (s := k) (contrib { e with cached := setAdd k e.cached } d) (st := st) hp
    have hc : contrib { e with cached := setAdd k e.cached } d = contrib e d := contrib_congr rfl rfl rfl rfl
    exact ⟨ia.eff, fun s => by rw [mem_setAdd, or_comm], setAdd_nodup, fun s' m' => by rw [ia.refc, hc]⟩
  · rw [if_neg hm]
    exact ⟨Eff.refl st, fun s => by simp [hm], id, fun s' m' => by simp [hm]⟩

theorem scanFold_spec (ks : List String) (st : Idx Sel) (e : EpData) (nd : ks.Nodup)
    (hp : ∀ s ∈ ks, (alGet s st.ipsets).isSome = true) :
    ScanSpec matchSel (· ∈ ks) st e (ks.foldl (fun p s => scanOne matchSel s p) (st, e)) := by
  induction ks generalizing st e with
  | nil => exact ⟨Eff.refl st, fun s => by simp, id, fun s' m' => by simp⟩
  | cons k ks ih =>
    obtain ⟨hk, nd'⟩ := List.nodup_cons.1 nd
    have s1 := scanOne_spec matchSel k st e (hp k (List.mem_cons_self ..))
    have hi : (scanOne matchSel k (st, e)).2.input = e.input := scanOne_input matchSel k (st, e)
    have s2 := ih (scanOne matchSel k (st, e)).1 (scanOne matchSel k (st, e)).2 nd'
      (fun s hs => by rw [s1.eff.present]; exact hp s (List.mem_cons_of_mem _ hs))
    have hMt := fun s => matchAt_congr matchSel (s1.eff.cfg s) s1.eff.parents hi
    have hCt := fun s => contribAt_congr (s1.eff.cfg s) hi
    refine ⟨s1.eff.trans s2.eff, fun s => ?_, fun h => s2.cachedNodup (s1.cachedNodup h), fun s' m' => ?_⟩
    · rw [List.foldl_cons, s2.cached_iff, s1.cached_iff, hMt, List.mem_cons, or_assoc]
      refine or_congr_right ⟨?_, ?_⟩
      · rintro (⟨rfl, h⟩ | ⟨h, h'⟩)
        · exact ⟨Or.inl rfl, h⟩
        · exact ⟨Or.inr h, h'⟩
      · rintro ⟨rfl | h, h'⟩
        · exact Or.inl ⟨rfl, h'⟩
        · exact Or.inr ⟨h, h'⟩
    · rw [List.foldl_cons, s2.refc, s1.refc, hMt, hCt]
      simp only [List.mem_cons]
      by_cases hs : s' = k
      · subst hs
        simp only [true_and, hk, false_and, if_false, Nat.add_zero, true_or]
      · simp only [hs, false_and, if_false, Nat.add_zero, false_or]

/-- exact effect of `scanEndpointAgainstIPSets(e, old)`, result `r` -/
structure ScanEpSpec (st : Idx Sel) (e : EpData) (old : List (String × List Member)) (r : Idx Sel × EpData) : Prop where
  wf : WF r.1
  nb : bad r.1 = false
  eff : Eff st r.1
  cachedNodup : r.2.cached.Nodup
  cached_iff : ∀ s, s ∈ r.2.cached ↔ matchAt matchSel st e s = true
  refc : ∀ s m, refCount r.1 s m = refCount st s m + share matchSel st s m e - oldCount old s m

theorem scanEp_spec (st : Idx Sel) (e : EpData) (old : List (String × List Member))
    (hw : WF st) (hb : bad st = false) (hn : ∀ c ∈ e.nets, c.canon)
    (ond : (old.map (·.1)).Nodup) (hg : ∀ p ∈ old, ∀ m', p.2.count m' ≤ refCount st p.1 m') :
    ScanEpSpec matchSel st e old (scanEp matchSel e old st) := by
  have hgood := scanEp_good matchSel (Or.inr hw) (e := e) (old := old) hn
  have sf := scanFold_spec matchSel (st.ipsets.map (fun (q : String × IpSetData Sel) => q.1)) st
    { e with cached := [] } hw.sets (fun s hs => alGet_isSome_iff.2 hs)
  have hMe : ∀ s, matchAt matchSel st { e with cached := [] } s = matchAt matchSel st e s :=
    fun s => matchAt_congr matchSel rfl rfl rfl
  have hCe : ∀ s, contribAt st { e with cached := [] } s = contribAt st e s :=
    fun s => contribAt_congr rfl rfl
  have hin : ∀ s, matchAt matchSel st e s = true → s ∈ st.ipsets.map (·.1) :=
    fun s h => alGet_isSome_iff.1 (matchAt_present matchSel h)
  have od := decrefOld_counted old ond (st := _)
    (fun p hp m' => by rw [sf.refc]; exact Nat.le_trans (hg p hp m') (Nat.le_add_right _ _))
  unfold scanEp at hgood ⊢
  have hb' := ((sf.eff.trans od.eff).bad).trans hb
  refine ⟨wf_of_good hgood hb', hb', sf.eff.trans od.eff, sf.cachedNodup List.nodup_nil, fun s => ?_, fun s m => ?_⟩
  · rw [sf.cached_iff, hMe]
    exact ⟨fun h => h.elim (fun h => nomatch h) And.right, fun h => Or.inr ⟨hin s h, h⟩⟩
  · rw [od.refc, sf.refc, hMe, hCe, share]
    by_cases hm : matchAt matchSel st e s = true
    · simp [hm, hin s hm]
    · simp [hm]

/-- **Callbacks alternate, each member once.**  The strict replay of every callback made so
far succeeds (no add of a member the consumer holds, no removal of one it lacks), the
consumer holds each member once, and what it holds is exactly the visible members. -/
theorem members_once_and_alternate {st : Idx Sel} (h : WF st) :
    ∃ D, replay st.out = some D ∧ D.Nodup ∧ ∀ s m, (s, m) ∈ D ↔ visible st s m := by
  obtain ⟨D, hD, hm⟩ := h.e.down
  exact ⟨D, hD, replayFrom_nodup hD List.nodup_nil, hm⟩

theorem refCount_nil_refc (st : Idx Sel) (h : ∀ p ∈ st.ipsets, p.2.refc = []) (s : String) (m : Member) :
    refCount st s m = 0 := by
  unfold refCount
  cases hg : alGet s st.ipsets with
  | none => rfl
  | some d =>
    have := h _ (alGet_some_mem hg)
    simp only at this
    simp [refOf, this]

theorem wf_of_empty (st : Idx Sel) (h : ∀ p ∈ st.ipsets, p.2.refc = []) (ho : st.out = [])
    (ht : st.tries = []) (he : st.eps = []) (hk : (st.ipsets.map (·.1)).Nodup) : WF st := by
  have hz := refCount_nil_refc st h
  refine ⟨⟨⟨[], by rw [ho]; rfl, fun s m => ?_⟩, ?_, ?_, ?_⟩, ?_, hk, ?_⟩
  · simp [visible, hz]
  · intro _ s c; simp [trieOf, ht, hz]
  · intro s; simp [trieOf, ht]
  · intro s c hc; rw [hz] at hc; cases hc
  · intro p hp; rw [he] at hp; cases hp
  · intro p hp; rw [h p hp]; simp

theorem wf_new (b : Bool) : WF (Idx.new Sel b) :=
  wf_of_empty _ (fun p hp => by cases hp) rfl rfl rfl List.nodup_nil

end Refc
end CalicoVerif.C04
