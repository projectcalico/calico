import CalicoVerif.Model.C30
import CalicoVerif.Proofs.CoreFacts
import CalicoVerif.Proofs.Assoc
/-! C30: what a converted rule is assembled from: chunked lists, intersected CIDR lists, and the
address list of one side of a rule. -/
namespace CalicoVerif.C30

theorem any_zipIdx_map {α β : Type} (l : List α) (F : α × Nat → β) (q : β → Bool) (q' : α → Bool)
    (h : ∀ a ∈ l, ∀ i, q (F (a, i)) = q' a) (k : Nat) : ((l.zipIdx k).map F).any q = l.any q' := by
  rw [List.any_map, listAny_congr_mem (q := q' ∘ Prod.fst), ← List.any_map, List.zipIdx_map_fst]
  exact fun x hx => h x.1 (List.fst_mem_of_mem_zipIdx hx) x.2

theorem mem_zipIdx_map {α β : Type} {l : List α} {F : α × Nat → β} {k : Nat} {b : β}
    (hb : b ∈ (l.zipIdx k).map F) : ∃ a ∈ l, ∃ i, b = F (a, i) := by
  obtain ⟨x, hx, rfl⟩ := List.mem_map.1 hb
  exact ⟨x.1, List.fst_mem_of_mem_zipIdx hx, x.2, rfl⟩

theorem lookup_mem {β : Type} {k : String} {v : β} {l : List (String × β)} (h : List.lookup k l = some v) :
    (k, v) ∈ l :=
  Assoc.mem_of_get ((Assoc.lookup_eq l k).symm.trans h)

theorem chunksAux_spec {α : Type} (n : Nat) (hn : 0 < n) : ∀ (fuel : Nat) (l : List α), l.length ≤ fuel →
    (chunksAux n fuel l).flatten = l ∧ ∀ c ∈ chunksAux n fuel l, c ≠ [] := by
  intro fuel
  induction fuel with
  | zero =>
    intro l hl
    obtain rfl := List.eq_nil_of_length_eq_zero (Nat.le_zero.1 hl)
    exact ⟨rfl, fun _ hc => nomatch hc⟩
  | succ fuel ih =>
    intro l hl
    cases l with
    | nil => exact ⟨rfl, fun _ hc => nomatch hc⟩
    | cons a rest =>
      obtain ⟨h1, h2⟩ := ih ((a :: rest).drop n) (by rw [List.length_drop]; omega)
      refine ⟨by rw [chunksAux, if_neg (by simp), List.flatten_cons, h1, List.take_append_drop], ?_⟩
      intro c hc
      rw [chunksAux, if_neg (by simp), List.mem_cons] at hc
      rcases hc with rfl | hc
      · obtain ⟨k, rfl⟩ := Nat.exists_eq_succ_of_ne_zero (Nat.ne_of_gt hn)
        exact List.cons_ne_nil _ _
      · exact h2 c hc

theorem splitList_flatten {α : Type} (l : List α) (n : Nat) (hn : 0 < n) : (splitList l n).flatten = l := by
  unfold splitList
  split
  · rename_i h; rw [List.isEmpty_iff.1 h]; rfl
  · exact (chunksAux_spec n hn _ l (Nat.le_refl _)).1

theorem splitList_nil {α : Type} (n : Nat) : splitList ([] : List α) n = [[]] := rfl

theorem splitList_mem {α : Type} {l : List α} {n : Nat} (hn : 0 < n) {c : List α} (hc : c ∈ splitList l n)
    {x : α} (hx : x ∈ c) : x ∈ l := by
  rw [← splitList_flatten l n hn]
  exact List.mem_flatten.2 ⟨c, hc, hx⟩

theorem splitList_any {α : Type} (l : List α) (n : Nat) (hn : 0 < n) (f : α → Bool) :
    (splitList l n).any (fun c => c.isEmpty || c.any f) = (l.isEmpty || l.any f) := by
  cases l with
  | nil => rfl
  | cons a rest =>
    have hne : ∀ c ∈ splitList (a :: rest) n, (c.isEmpty || c.any f) = c.any f := by
      intro c hc
      rw [List.isEmpty_eq_false_iff.2 ((chunksAux_spec n hn _ _ (Nat.le_refl _)).2 c hc), Bool.false_or]
    rw [listAny_congr_mem hne, ← List.any_flatten, splitList_flatten _ n hn]
    rfl

theorem addrsOK_split (l : List Addr) (n : Nat) (hn : 0 < n) (ip : Nat) :
    (splitList l n).any (fun c => addrsOK c ip) = addrsOK l ip :=
  splitList_any l n hn (fun a => a.contains ip)

theorem portsOK_split (l : List PortRange) (n : Nat) (hn : 0 < n) (pt : Nat) :
    (splitList l n).any (fun c => portsOK c pt) = portsOK l pt :=
  splitList_any l n hn (fun r => r.contains pt)

theorem canon_v6 (a : Addr) : a.canon.v6 = false := rfl

-- `rfl` alone would first try `a.canon = a`, comparing the printed text with `a.text`
theorem canon_len (a : Addr) : a.canon.len = a.len := by unfold Addr.canon; rfl

theorem canon_addr (a : Addr) : a.canon.addr = (a.addr >>> (32 - a.len)) <<< (32 - a.len) := rfl

theorem canon_prefix (a : Addr) : a.canon.addr >>> (32 - a.len) = a.addr >>> (32 - a.len) := by
  rw [canon_addr, Nat.shiftLeft_shiftRight]

theorem contains_v4 (a : Addr) (h : a.v6 = false) (ip : Nat) :
    a.contains ip = ((a.addr >>> (32 - a.len)) == (ip >>> (32 - a.len))) := by
  rw [Addr.contains, h]; rfl

theorem canon_contains (a : Addr) (h : a.v6 = false) (ip : Nat) : a.canon.contains ip = a.contains ip := by
  simp only [Addr.contains, Addr.canon, h, Nat.shiftLeft_shiftRight]

theorem contains_of_contains (a b : Addr) (hl : a.len ≤ b.len) (ip : Nat) (h : b.contains ip = true) :
    a.contains ip = a.contains b.addr := by
  simp only [Addr.contains, Bool.and_eq_true, beq_iff_eq] at h ⊢
  have hs : ∀ x : Nat, x >>> (32 - a.len) = x >>> (32 - b.len) >>> (32 - a.len - (32 - b.len)) := by
    intro x; rw [← Nat.shiftRight_add]; congr 1; omega
  rw [hs ip, ← h.2, ← hs]

theorem and_contains (a b : Addr) (hl : a.len ≤ b.len) (ip : Nat) :
    (a.contains ip && b.contains ip) = (a.contains b.addr && b.contains ip) := by
  cases h : b.contains ip
  · rw [Bool.and_false, Bool.and_false]
  · rw [contains_of_contains a b hl ip h]

theorem intersectPair_contains (a b : Addr) (ha : a.v6 = false) (hb : b.v6 = false) (ip : Nat) :
    (match intersectPair a b with
     | some c => c.contains ip
     | none => false) = (a.contains ip && b.contains ip) := by
  rw [← canon_contains a ha, ← canon_contains b hb]
  unfold intersectPair
  simp only [canon_len]
  by_cases hl : a.len = b.len
  · -- equal lengths: masked addresses are equal iff each CIDR contains the other's address
    have he : a.canon.contains b.canon.addr = decide (a.canon.addr = b.canon.addr) := by
      simp only [Addr.contains, Addr.canon, hl, Nat.shiftLeft_shiftRight, Bool.not_false, Bool.true_and]
      rw [Bool.eq_iff_iff, beq_iff_eq, decide_eq_true_eq]
      exact ⟨fun h => by rw [h], fun h => by simpa only [Nat.shiftLeft_shiftRight] using congrArg (· >>> (32 - b.len)) h⟩
    rw [if_pos hl, and_contains _ _ (by rw [canon_len, canon_len]; omega), he]
    by_cases h : a.canon.addr = b.canon.addr
    · rw [if_pos h, decide_eq_true h, Bool.true_and]
      simp only [Addr.contains, canon_v6, canon_len, hl, h]
    · rw [if_neg h, decide_eq_false h, Bool.false_and]
  · rw [if_neg hl]
    by_cases hlt : a.len < b.len
    · rw [if_pos hlt, and_contains _ _ (by rw [canon_len, canon_len]; omega)]
      cases a.canon.contains b.canon.addr <;> rfl
    · rw [if_neg hlt, Bool.and_comm, and_contains _ _ (by rw [canon_len, canon_len]; omega)]
      cases b.canon.contains a.canon.addr <;> rfl

theorem intersectCIDRs_any (as bs : List Addr) (ha : ∀ a ∈ as, a.v6 = false) (hb : ∀ b ∈ bs, b.v6 = false) (ip : Nat) :
    (intersectCIDRs as bs).any (·.contains ip) = (as.any (·.contains ip) && bs.any (·.contains ip)) := by
  unfold intersectCIDRs
  dsimp only
  rw [(List.mergeSort_perm _ _).any_eq]
  have hdups : ∀ l : List Addr, l.eraseDups.any (·.contains ip) = l.any (·.contains ip) := by
    intro l
    rw [Bool.eq_iff_iff]
    simp only [List.any_eq_true, List.mem_eraseDups]
  rw [hdups, List.any_flatMap, List.and_any_distrib_right]
  apply listAny_congr_mem
  intro a hamem
  rw [List.any_filterMap, List.and_any_distrib_left]
  apply listAny_congr_mem
  intro b hbmem
  have h := intersectPair_contains a b (ha a hamem) (hb b hbmem) ip
  revert h
  cases intersectPair a b <;> exact id

theorem intersectPair_v4 {a b c : Addr} (h : intersectPair a b = some c) : c.v6 = false := by
  unfold intersectPair at h
  dsimp only at h
  repeat' split at h
  -- every branch returns nothing or a `canon`
  all_goals first | (rw [← Option.some.inj h]; rfl) | injection h

theorem intersectCIDRs_v4 (as bs : List Addr) : ∀ x ∈ intersectCIDRs as bs, x.v6 = false := by
  intro x hx
  unfold intersectCIDRs at hx
  dsimp only at hx
  rw [(List.mergeSort_perm _ _).mem_iff, List.mem_eraseDups, List.mem_flatMap] at hx
  obtain ⟨a, _, hx⟩ := hx
  obtain ⟨b, _, hx⟩ := List.mem_filterMap.1 hx
  exact intersectPair_v4 hx

/-- What the real IP set cache guarantees and the converter relies on. -/
structure IPSets.wf (s : IPSets) : Prop where
  /-- `GetIPSetMembers` returns nil (not an empty slice) for a set without members -/
  nonempty : ∀ id m, s.get id = some m → m ≠ []
  /-- only IPv4 members (the Windows dataplane tracks IPv4 sets only) -/
  v4 : ∀ id m, s.get id = some m → ∀ a ∈ m, a.v6 = false

theorem IPSets.wf_of_entries (s : IPSets) (h : ∀ e ∈ s.addrs, e.2 ≠ [] ∧ ∀ a ∈ e.2, a.v6 = false) : s.wf :=
  ⟨fun id m hg => (h (id, m) (lookup_mem hg)).1, fun id m hg => (h (id, m) (lookup_mem hg)).2⟩

theorem filterNets_v4 (nets : List Addr) : ∀ a ∈ (filterNets nets).1, a.v6 = false := by
  unfold filterNets
  split
  · exact fun _ h => nomatch h
  · exact fun a h => by simpa using (List.mem_filter.1 h).2

theorem addrsOK_filterNets (nets : List Addr) (ip : Nat) :
    addrsOK nets ip = (!(filterNets nets).2 && addrsOK (filterNets nets).1 ip) := by
  cases nets with
  | nil => rfl
  | cons a rest =>
    have : (List.filter (fun a => !a.v6) (a :: rest)).any (·.contains ip) = (a :: rest).any (·.contains ip) := by
      rw [List.any_filter]
      exact listAny_congr_mem fun a _ => by simp only [Addr.contains, ← Bool.and_assoc, Bool.and_self]
    simp only [filterNets, addrsOK, List.isEmpty_cons, Bool.false_eq_true, if_false, Bool.false_or, ← this]
    cases List.filter (fun a => !a.v6) (a :: rest) <;> rfl

theorem inSet_some (s : IPSets) (id : String) (m : List Addr) (h : s.get id = some m) (ip : Nat) :
    inSet s id ip = m.any (·.contains ip) := by simp only [inSet, h]

theorem inSet_none (s : IPSets) (id : String) (h : s.get id = none) (ip : Nat) : inSet s id ip = false := by
  simp only [inSet, h]

/-- Whether an address passes the address list computed for one side of a rule (`false` when the
converter gives up on the rule). -/
def sideOK (e : Except Err (List Addr)) (ip : Nat) : Bool :=
  match e with
  | .ok A => addrsOK A ip
  | .error _ => false

theorem sideAddrs_sem (s : IPSets) (hs : s.wf) (nets : List Addr) (hv4 : ∀ a ∈ nets, a.v6 = false)
    (ids : List String) (hone : ids.length ≤ 1) (ip : Nat) :
    sideOK (sideAddrs s nets ids) ip = (addrsOK nets ip && ids.all (fun id => inSet s id ip)) := by
  match ids, hone with
  | [], _ => simp only [sideAddrs, sideOK, List.isEmpty_nil, if_true, List.all_nil, Bool.and_true]
  | [id], _ =>
    simp only [sideAddrs, getIPSetAddresses, List.isEmpty_cons, Bool.false_eq_true, if_false, List.all_cons,
      List.all_nil, Bool.and_true]
    cases hg : s.get id with
    | none => simp only [sideOK, inSet_none s id hg, Bool.and_false]
    | some m =>
      have hm : m.isEmpty = false := List.isEmpty_eq_false_iff.2 (hs.nonempty id m hg)
      simp only [Option.map_some, List.append_nil, inSet_some s id m hg]
      cases hn : nets.isEmpty with
      | true => simp only [sideOK, addrsOK, hn, hm, Bool.not_true, Bool.false_eq_true, if_false, Bool.true_or,
          Bool.false_or, Bool.true_and]
      | false =>
        have hi := intersectCIDRs_any nets m hv4 (hs.v4 id m hg) ip
        simp only [addrsOK, hn, Bool.not_false, if_true, Bool.false_or, ← hi]
        cases intersectCIDRs nets m <;> rfl

theorem getIPSetAddresses_v4 (s : IPSets) (hs : s.wf) : ∀ (ids : List String) (m : List Addr),
    getIPSetAddresses s ids = some m → ∀ a ∈ m, a.v6 = false
  | [], _, h, a, ha => by obtain rfl := Option.some.inj h; exact nomatch ha
  | id :: rest, m, h, a, ha => by
    rw [getIPSetAddresses] at h
    split at h
    · exact nomatch h
    · rename_i m1 hg
      obtain ⟨m2, hr, rfl⟩ := Option.map_eq_some_iff.1 h
      rcases List.mem_append.1 ha with ha | ha
      · exact hs.v4 id m1 hg a ha
      · exact getIPSetAddresses_v4 s hs rest m2 hr a ha

theorem sideAddrs_v4 (s : IPSets) (hs : s.wf) (nets : List Addr) (hv : ∀ a ∈ nets, a.v6 = false) (ids : List String)
    (A : List Addr) (h : sideAddrs s nets ids = .ok A) : ∀ a ∈ A, a.v6 = false := by
  unfold sideAddrs at h
  split at h
  · obtain rfl := Except.ok.inj h; exact hv
  · split at h
    · exact nomatch h
    · rename_i m hm
      split at h
      · dsimp only at h
        split at h
        · exact nomatch h
        · obtain rfl := Except.ok.inj h; exact intersectCIDRs_v4 _ _
      · obtain rfl := Except.ok.inj h; exact getIPSetAddresses_v4 s hs ids m hm

end CalicoVerif.C30
