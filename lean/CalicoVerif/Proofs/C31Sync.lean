import CalicoVerif.Proofs.C31Client
/-! C31 — what the Processor's bursts do to a client.  `Core`: the client's view mirrors the three synced sets, in the
stores' current versions (this holds at every point inside a burst); `Exact`: the synced sets are exactly what the endpoint
needs (only between bursts); `EpOK`: both, and the components every client gets by broadcast — a client in step with the
Processor.  `Good` is what the calculation graph's contract guarantees about the stores.  The `…_ok` / `…_burst` lemmas are
each about a body the Processor runs for one endpoint, under `Good` (or the part of it the body needs, `RefsKnown`): the
body does not panic, it takes a client that is in step to one that is in step again, and it does so through referentially
closed views only (`Guarded`). -/
namespace CalicoVerif.C31

theorem ipAddMsgs_ok {p : Proc} {ids : List Nat} (h : ∀ x ∈ ids, (p.ipsets.get x).isSome) {v : View} {S : List Nat}
    (hm : Mirrors v.ipsets (fun x => (p.ipsets.get x).map setOf) S) :
    ∃ ms, ipAddMsgs p ids = some ms ∧ (∀ m ∈ ms, ∃ id mem, m = Msg.ipUpd id mem) ∧
      ∀ S', (∀ x, x ∈ S' ↔ x ∈ ids ∨ x ∈ S) → Mirrors (applyMsgs v ms).ipsets (fun x => (p.ipsets.get x).map setOf) S' := by
  induction ids generalizing v S with
  | nil => exact ⟨[], rfl, nofun, fun S' hS' => hm.congr (fun x => (hS' x).trans (or_iff_right List.not_mem_nil)) fun _ _ => rfl⟩
  | cons i ids ih =>
    obtain ⟨hi, hr⟩ := List.forall_mem_cons.1 h
    obtain ⟨mem, h1⟩ := Option.isSome_iff_exists.1 hi
    obtain ⟨rest, h2, a, c⟩ := ih hr (v := applyMsg v (Msg.ipUpd i mem)) (hm.add (congrArg (Option.map setOf) h1))
    refine ⟨_, ipAddMsgs_cons.2 ⟨mem, rest, h1, h2, rfl⟩, List.forall_mem_cons.2 ⟨⟨i, mem, rfl⟩, a⟩, fun S' hS' => c S' fun x => ?_⟩
    rw [hS' x, List.mem_cons, List.mem_cons, or_assoc]; exact or_left_comm

/-- `syncAddedPolicies` / `syncAddedProfiles`, for the component `get` of the client that mirrors the store `m`. -/
theorem syncAdded_ok {m : AMap Rules} {mk : Nat → Rules → Msg} (get : View → Nat → Option Rules)
    (hu : ∀ v id r, get (applyMsg v (mk id r)) = upd (get v) id (some r)) {listed synced : List Nat}
    (hk : ∀ id ∈ listed, (m.get id).isSome) {v : View} (hm : Mirrors (get v) m.get synced) :
    ∃ s' ms, syncAdded m mk listed synced = some (s', ms) ∧ Mirrors (get (applyMsgs v ms)) m.get s' ∧
      (∀ id, id ∈ s' ↔ id ∈ synced ∨ id ∈ listed) ∧ ∀ x ∈ ms, ∃ id r, x = mk id r ∧ id ∈ listed ∧ m.get id = some r := by
  induction listed generalizing synced v with
  | nil => exact ⟨synced, [], rfl, hm, fun id => (or_iff_left List.not_mem_nil).symm, nofun⟩
  | cons i ids ih =>
    obtain ⟨hi, hr⟩ := List.forall_mem_cons.1 hk
    by_cases hs : i ∈ synced
    · obtain ⟨s', ms, h', a, b, c⟩ := ih hr hm
      refine ⟨s', ms, syncAdded_cons.2 (Or.inl ⟨hs, h'⟩), a, fun id => ?_, fun x hx => ?_⟩
      · rw [b id, List.mem_cons]
        exact ⟨fun h => h.imp_right Or.inr, fun h => h.elim Or.inl (·.elim (fun e => Or.inl (e ▸ hs)) Or.inr)⟩
      · obtain ⟨id, r, e, hid, hg⟩ := c x hx
        exact ⟨id, r, e, List.mem_cons_of_mem _ hid, hg⟩
    · obtain ⟨r, h1⟩ := Option.isSome_iff_exists.1 hi
      obtain ⟨s', ms, h', a, b, c⟩ := ih hr (v := applyMsg v (mk i r)) (hu v i r ▸ hm.add h1)
      refine ⟨s', mk i r :: ms, syncAdded_cons.2 (Or.inr ⟨hs, r, ms, h1, h', rfl⟩), a, fun id => ?_, fun x hx => ?_⟩
      · rw [b id, List.mem_cons, List.mem_cons, or_assoc]; exact or_left_comm
      · rcases List.mem_cons.1 hx with rfl | hx
        · exact ⟨i, r, rfl, List.mem_cons_self, h1⟩
        · obtain ⟨id, r', e, hid, hg⟩ := c x hx
          exact ⟨id, r', e, List.mem_cons_of_mem _ hid, hg⟩

theorem syncRemovedLoop_ok {ids old new : List Nat} (hn : ids.Nodup) (h : ∀ id ∈ ids, id ∈ old) :
    ∃ old' new', syncRemovedLoop ids old new = some (old', new') ∧
      (∀ id, id ∈ new' ↔ id ∈ new ∨ id ∈ ids) ∧ (∀ id, id ∈ old' ↔ id ∈ old ∧ id ∉ ids) := by
  induction ids generalizing old new with
  | nil => exact ⟨old, new, rfl, fun id => by simp only [List.not_mem_nil, or_false],
      fun id => by simp only [List.not_mem_nil, not_false_eq_true, and_true]⟩
  | cons i ids ih =>
    obtain ⟨hi, hr⟩ := List.forall_mem_cons.1 h
    obtain ⟨hni, hnd⟩ := List.nodup_cons.1 hn
    obtain ⟨old', new', h', a, b⟩ := ih (old := old.filter (· != i)) (new := i :: new) hnd fun id hid =>
      List.mem_filter.2 ⟨hr id hid, by simpa using fun (e : id = i) => hni (e ▸ hid)⟩
    refine ⟨old', new', syncRemovedLoop_cons.2 ⟨hi, h'⟩, fun id => ?_, fun id => ?_⟩
    · rw [a id, List.mem_cons, List.mem_cons, or_assoc]; exact or_left_comm
    · rw [b id, List.mem_filter, List.mem_cons, bne_iff_ne, not_or, and_assoc]

theorem rm_view {α : Type} {mk : Nat → Msg} (get : View → Nat → Option α) (hr : ∀ v id, get (applyMsg v (mk id)) = upd (get v) id none)
    (ids : List Nat) (v : View) (id : Nat) : get (applyMsgs v (ids.map mk)) id = if id ∈ ids then none else get v id := by
  induction ids generalizing v with
  | nil => rfl
  | cons i ids ih =>
    rw [List.map_cons, applyMsgs_cons, ih, hr]
    unfold upd
    by_cases h1 : id ∈ ids
    · rw [if_pos h1, if_pos (List.mem_cons_of_mem _ h1)]
    · rw [if_neg h1]
      by_cases h2 : id = i
      · rw [if_pos h2, if_pos (h2 ▸ List.mem_cons_self)]
      · rw [if_neg h2, if_neg fun m => (List.mem_cons.1 m).elim h2 h1]

theorem syncRemoved_ok {m : AMap Rules} {mkRm : Nat → Msg} (get : View → Nat → Option Rules)
    (hr : ∀ v id, get (applyMsg v (mkRm id)) = upd (get v) id none) {listed synced s' : List Nat} (hn : listed.Nodup)
    {v : View} (hm : Mirrors (get v) m.get s') (hs : ∀ id, id ∈ s' ↔ id ∈ synced ∨ id ∈ listed) :
    ∃ old new, syncRemovedLoop listed s' [] = some (old, new) ∧
      Mirrors (get (applyMsgs v (old.map mkRm))) m.get new ∧ (∀ id, id ∈ new ↔ id ∈ listed) ∧ ∀ id ∈ old, id ∉ listed := by
  obtain ⟨old, new, h, nN, oO⟩ := syncRemovedLoop_ok (new := []) hn fun id hid => (hs id).2 (Or.inr hid)
  have nN' : ∀ id, id ∈ new ↔ id ∈ listed := fun id => (nN id).trans (or_iff_right List.not_mem_nil)
  refine ⟨old, new, h, hm.remove (P := (· ∈ old)) (rm_view get hr old v) fun id => ?_, nN', fun id h => ((oO id).1 h).2⟩
  rw [nN' id, oO id, hs id]
  exact ⟨fun h => ⟨Or.inr h, fun a => a.2 h⟩, fun h => Decidable.byContradiction fun n => h.2 ⟨h.1, n⟩⟩

theorem refsOf_ok {m : AMap Rules} {ids : List Nat} (h : ∀ id ∈ ids, (m.get id).isSome) :
    ∃ l, refsOf m ids = some l ∧ ∀ x, x ∈ l ↔ ∃ id ∈ ids, ∃ r, m.get id = some r ∧ x ∈ r.refs := by
  induction ids with
  | nil => exact ⟨[], rfl, fun x => by simp only [List.not_mem_nil, false_and, exists_false]⟩
  | cons i ids ih =>
    obtain ⟨hi, hr⟩ := List.forall_mem_cons.1 h
    obtain ⟨r, h1⟩ := Option.isSome_iff_exists.1 hi
    obtain ⟨rest, h2, a⟩ := ih hr
    refine ⟨_, refsOf_cons.2 ⟨r, rest, h1, h2, rfl⟩, fun x => ?_⟩
    rw [List.mem_append, a]
    simp only [List.mem_cons, exists_eq_or_imp, h1, Option.some.injEq, exists_eq_left']

theorem mem_filter_not_contains {l s : List Nat} {x : Nat} : x ∈ l.filter (fun y => !s.contains y) ↔ x ∈ l ∧ x ∉ s := by
  simp only [List.mem_filter, Bool.not_eq_true', Bool.eq_false_iff, ne_eq, List.contains_iff_mem]

structure Core (p : Proc) (ei : EpInfo) (v : View) : Prop where
  pols : ∀ id, v.pols id = if id ∈ ei.syncedPol then p.pols.get id else none
  profs : ∀ id, v.profs id = if id ∈ ei.syncedProf then p.profs.get id else none
  ipsets : ∀ x, v.ipsets x = if x ∈ ei.syncedIP then (p.ipsets.get x).map setOf else none

theorem Core.pols_mirrors {p : Proc} {ei : EpInfo} {v : View} (h : Core p ei v) : Mirrors v.pols p.pols.get ei.syncedPol := h.pols

theorem Core.profs_mirrors {p : Proc} {ei : EpInfo} {v : View} (h : Core p ei v) : Mirrors v.profs p.profs.get ei.syncedProf :=
  h.profs

theorem Core.ipsets_mirrors {p : Proc} {ei : EpInfo} {v : View} (h : Core p ei v) :
    Mirrors v.ipsets (fun x => (p.ipsets.get x).map setOf) ei.syncedIP := h.ipsets

theorem Core.of_mirrors {p : Proc} {ei : EpInfo} {v : View} (hP : Mirrors v.pols p.pols.get ei.syncedPol)
    (hF : Mirrors v.profs p.profs.get ei.syncedProf) (hI : Mirrors v.ipsets (fun x => (p.ipsets.get x).map setOf) ei.syncedIP) :
    Core p ei v := ⟨hP, hF, hI⟩

structure Exact (p : Proc) (ei : EpInfo) : Prop where
  pols : ∀ id, id ∈ ei.syncedPol ↔ id ∈ epPols ei.ep
  profs : ∀ id, id ∈ ei.syncedProf ↔ id ∈ epProfs ei.ep
  ipsets : ∀ x, x ∈ ei.syncedIP ↔ neededIP p ei.ep x

/-- what keeps the syncing bodies from panicking -/
structure RefsKnown (p : Proc) (e : Option Endpoint) : Prop where
  pols : ∀ id ∈ epPols e, (p.pols.get id).isSome
  profs : ∀ id ∈ epProfs e, (p.profs.get id).isSome
  ipsets : ∀ x, neededIP p e x → (p.ipsets.get x).isSome

theorem wantedIP_ok {p : Proc} {e : Option Endpoint} (hk : RefsKnown p e) :
    ∃ l, wantedIP p e = some l ∧ ∀ x, x ∈ l ↔ neededIP p e x := by
  obtain ⟨a, ha, ma⟩ := refsOf_ok hk.profs
  obtain ⟨b, hb, mb⟩ := refsOf_ok hk.pols
  refine ⟨_, wantedIP_some.2 ⟨a, b, ha, hb, rfl⟩, fun x => ?_⟩
  rw [mem_dedup, List.mem_append, ma, mb]; rfl

/-- `getIPSetsSync` around a middle part that leaves the client's IP sets alone (from `v` after `adds` to `v'`): the
removals `dels` are guarded provided the policies and profiles the client then has are among those the endpoint lists. -/
structure IpSynced (p : Proc) (ei : EpInfo) (v : View) (newS : List Nat) (adds dels : List Msg) : Prop where
  run : ipSync p ei = some ({ ei with syncedIP := newS }, adds, dels)
  exact : ∀ x, x ∈ newS ↔ neededIP p ei.ep x
  guarded : Guarded v adds
  frame : Frame [.ip] v (applyMsgs v adds)
  present : ∀ x, neededIP p ei.ep x → ((applyMsgs v adds).ipsets x).isSome
  removals : ∀ (v' : View) (sP sF : List Nat), v'.ipsets = (applyMsgs v adds).ipsets →
    Mirrors v'.pols p.pols.get sP → Mirrors v'.profs p.profs.get sF →
    (∀ id ∈ sP, id ∈ epPols ei.ep) → (∀ id ∈ sF, id ∈ epProfs ei.ep) →
    Guarded v' dels ∧ Frame [.ip] v' (applyMsgs v' dels) ∧
    Mirrors (applyMsgs v' dels).ipsets (fun x => (p.ipsets.get x).map setOf) newS

theorem ipSync_around {p : Proc} {ei : EpInfo} (hk : RefsKnown p ei.ep) {v : View}
    (hm : Mirrors v.ipsets (fun x => (p.ipsets.get x).map setOf) ei.syncedIP) :
    ∃ newS adds dels, IpSynced p ei v newS adds dels := by
  obtain ⟨newS, hw, hS⟩ := wantedIP_ok hk
  obtain ⟨adds, ha, kA, mA⟩ := ipAddMsgs_ok (ids := newS.filter fun x => !ei.syncedIP.contains x)
    (fun x hx => hk.ipsets x ((hS x).1 (List.mem_filter.1 hx).1)) hm
  have kA' : ∀ m ∈ adds, m.kind = .ip := fun m hm => by obtain ⟨_, _, rfl⟩ := kA m hm; rfl
  have m1 := mA (newS ++ ei.syncedIP) fun x => by
    rw [List.mem_append, mem_filter_not_contains]
    exact ⟨fun h => h.elim (fun a => (Decidable.em (x ∈ ei.syncedIP)).symm.imp_left fun n => ⟨a, n⟩) Or.inr,
      fun h => h.imp_left (·.1)⟩
  refine ⟨newS, adds, _, ipSync_some.2 ⟨newS, hw, ha, rfl, rfl⟩, hS,
    seg_guarded kA' fun m hm => by obtain ⟨_, _, rfl⟩ := kA m hm; trivial, applyMsgs_frame kA' v,
    fun x hx => m1.isSome (List.mem_append_left _ ((hS x).2 hx)) (by rw [Option.isSome_map]; exact hk.ipsets x hx),
    fun v' sP sF hv' mP mF lP lF => ?_⟩
  have kD := kind_map (mk := Msg.ipRm) (k := .ip) (fun _ => rfl) (ei.syncedIP.filter fun x => !newS.contains x)
  refine ⟨seg_guarded kD fun m hm => ?_, applyMsgs_frame kD v', ?_⟩
  · -- a removed IP set is not needed, so no policy or profile the client has names it
    obtain ⟨x, hx, rfl⟩ := List.mem_map.1 hm
    have hx := mt (hS x).2 (mem_filter_not_contains.1 hx).2
    exact ⟨fun id r hr hxr => hx (Or.inr ⟨id, lP id (mP.of_some hr).1, r, (mP.of_some hr).2, hxr⟩),
      fun id r hr hxr => hx (Or.inl ⟨id, lF id (mF.of_some hr).1, r, (mF.of_some hr).2, hxr⟩)⟩
  · refine Mirrors.remove (P := (· ∈ ei.syncedIP.filter fun x => !newS.contains x)) (hv' ▸ m1)
      (rm_view View.ipsets (fun _ _ => rfl) _ v') fun x => ?_
    rw [List.mem_append, mem_filter_not_contains]
    exact ⟨fun h => ⟨Or.inl h, fun a => a.2 h⟩, fun h => h.1.elim id fun a => Decidable.byContradiction fun n => h.2 ⟨a, n⟩⟩

theorem maybeSync_idle {p : Proc} {w : Nat} {ei : EpInfo} (h : ei.ep = none ∨ ei.output = none) :
    maybeSync p w ei = some (ei, []) := by
  cases he : ei.ep with
  | none => unfold maybeSync; rw [he]
  | some e => unfold maybeSync; rw [he, h.resolve_left (by rw [he]; nofun)]

structure Burst (p : Proc) (v : View) (ei' : EpInfo) (ms : List Msg) (held : Option (Nat × Endpoint)) : Prop where
  core : Core p ei' (applyMsgs v ms)
  exact : Exact p ei'
  ep : (applyMsgs v ms).ep = held
  frame : Frame [.ip, .pol, .prof, .ep] v (applyMsgs v ms)
  guarded : Guarded v ms

/-- `maybeSyncEndpoint`: the order of the burst is what makes every message guarded — IP sets first, then the policies
and profiles naming them, then the endpoint naming those, then the removals of what the endpoint no longer names, IP
sets last. -/
theorem maybeSync_burst {p : Proc} {w : Nat} {ei : EpInfo} {v : View} {e : Endpoint} {c : Nat}
    (hc : Core p ei v) (he : ei.ep = some e) (ho : ei.output = some c) (hk : RefsKnown p (some e))
    (hnd : e.pols.Nodup ∧ e.profs.Nodup) :
    ∃ ei' ms, maybeSync p w ei = some (ei', ms) ∧ Burst p v ei' ms (some (w, e)) := by
  obtain ⟨newS, adds, dels, h1, hS, g1, f1, hip, hdel⟩ := ipSync_around (he ▸ hk) hc.ipsets_mirrors
  rw [he] at hS hip hdel
  generalize hA : applyMsgs v adds = vA at *
  obtain ⟨sp, polMsgs, h2, m2, s2, msg2⟩ :=
    syncAdded_ok (mk := Msg.polUpd) View.pols (fun _ _ _ => rfl) hk.pols (f1.pols (by decide) ▸ hc.pols_mirrors)
  have k2 : ∀ m ∈ polMsgs, m.kind = .pol := fun m hm => by obtain ⟨_, _, rfl, _⟩ := msg2 m hm; rfl
  have g2 : Guarded vA polMsgs := seg_guarded k2 fun m hm => by
    obtain ⟨id, r, rfl, hid, hr⟩ := msg2 m hm
    exact fun x hx => hip x (Or.inr ⟨id, hid, r, hr, hx⟩)
  have f2 := applyMsgs_frame k2 vA
  generalize hP : applyMsgs vA polMsgs = vP at *
  obtain ⟨sf, profMsgs, h3, m3, s3, msg3⟩ :=
    syncAdded_ok (mk := Msg.profUpd) View.profs (fun _ _ _ => rfl) hk.profs ((f1.trans f2).profs (by decide) ▸ hc.profs_mirrors)
  have k3 : ∀ m ∈ profMsgs, m.kind = .prof := fun m hm => by obtain ⟨_, _, rfl, _⟩ := msg3 m hm; rfl
  have g3 : Guarded vP profMsgs := seg_guarded k3 fun m hm => by
    obtain ⟨id, r, rfl, hid, hr⟩ := msg3 m hm
    exact fun x hx => f2.ipsets (by decide) ▸ hip x (Or.inl ⟨id, hid, r, hr, hx⟩)
  have f3 := applyMsgs_frame k3 vP
  generalize hF : applyMsgs vP profMsgs = vF at *
  have g4 : guard vF (Msg.epUpd w e) :=
    ⟨fun id hid => (f3.pols (by decide) ▸ m2).isSome ((s2 id).2 (Or.inr hid)) (hk.pols id hid),
     fun id hid => m3.isSome ((s3 id).2 (Or.inr hid)) (hk.profs id hid)⟩
  have f4 : Frame [.ep] vF (applyMsgs vF [Msg.epUpd w e]) := applyMsg_frame vF (Msg.epUpd w e)
  have hep : (applyMsgs vF [Msg.epUpd w e]).ep = some (w, e) := rfl
  generalize hE : applyMsgs vF [Msg.epUpd w e] = vE at *
  obtain ⟨oldP, newP, h4, m5, n5, o5⟩ := syncRemoved_ok View.pols (mkRm := Msg.polRm) (fun _ _ => rfl) hnd.1
    ((f3.trans f4).pols (by decide) ▸ m2) s2
  have k5 := kind_map (mk := Msg.polRm) (k := .pol) (fun _ => rfl) oldP
  have g5 : Guarded vE (oldP.map Msg.polRm) := seg_guarded k5 fun m hm => by
    obtain ⟨id, hid, rfl⟩ := List.mem_map.1 hm
    intro w' e' h'; cases hep.symm.trans h'; exact o5 id hid
  have f5 := applyMsgs_frame k5 vE
  generalize hRP : applyMsgs vE (oldP.map Msg.polRm) = vRP at *
  obtain ⟨oldF, newF, h5, m6, n6, o6⟩ := syncRemoved_ok View.profs (mkRm := Msg.profRm) (fun _ _ => rfl) hnd.2
    ((f4.trans f5).profs (by decide) ▸ m3) s3
  have k6 := kind_map (mk := Msg.profRm) (k := .prof) (fun _ => rfl) oldF
  have g6 : Guarded vRP (oldF.map Msg.profRm) := seg_guarded k6 fun m hm => by
    obtain ⟨id, hid, rfl⟩ := List.mem_map.1 hm
    intro w' e' h'; cases (hep.symm.trans (f5.ep (by decide)).symm).trans h'; exact o6 id hid
  have f6 := applyMsgs_frame k6 vRP
  generalize hRF : applyMsgs vRP (oldF.map Msg.profRm) = vRF at *
  obtain ⟨g7, f7, m7⟩ := hdel vRF newP newF (((((f2.trans f3).trans f4).trans f5).trans f6).ipsets (by decide))
    (f6.pols (by decide) ▸ m5) m6 (fun id => (n5 id).1) fun id => (n6 id).1
  refine ⟨_, _, (maybeSync_some he ho).2 ⟨_, adds, dels, sp, polMsgs, sf, profMsgs, oldP, newP, oldF, newF, h1, h2, h3, h4, h5,
    rfl, rfl⟩, ?_⟩
  refine ⟨?_, ⟨fun id => he ▸ n5 id, fun id => he ▸ n6 id, fun x => he ▸ hS x⟩, ?_, ?_, ?_⟩ <;>
    simp only [applyMsgs_append, guarded_append, hA, hP, hF, hE, hRP, hRF]
  · exact .of_mirrors ((f6.trans f7).pols (by decide) ▸ m5) (f7.profs (by decide) ▸ m6) m7
  · exact ((f5.trans f6).trans f7).ep (by decide) ▸ hep
  · exact ((((((f1.trans f2).trans f3).trans f4).trans f5).trans f6).trans f7).comp (Frame.refl [] _) (by decide) nofun
  · exact ⟨⟨⟨⟨⟨⟨g1, g2⟩, g3⟩, g4, trivial⟩, g5⟩, g6⟩, g7⟩

structure EpOK (p : Proc) (w : Nat) (ei : EpInfo) (v : View) : Prop where
  core : Core p ei v
  exact : Exact p ei
  ep : v.ep = ei.ep.map (fun e => (w, e))
  sas : ∀ id, v.sas id = p.sas.get id
  nss : ∀ id, v.nss id = p.nss.get id
  inSync : v.inSync = p.inSync

/-- what the calculation graph's contract guarantees about the Processor's stores -/
structure Good (p : Proc) : Prop where
  epRefs : ∀ kv ∈ p.eps, ∀ e, kv.2.ep = some e → e.pols.Nodup ∧ e.profs.Nodup ∧
    (∀ id ∈ e.pols, (p.pols.get id).isSome) ∧ (∀ id ∈ e.profs, (p.profs.get id).isSome)
  polRefs : ∀ id r, p.pols.get id = some r → ∀ x ∈ r.refs, (p.ipsets.get x).isSome
  profRefs : ∀ id r, p.profs.get id = some r → ∀ x ∈ r.refs, (p.ipsets.get x).isSome
  sasK : p.sas.NodupKeys
  nssK : p.nss.NodupKeys

theorem Good.needed {p : Proc} (hg : Good p) {e : Option Endpoint} {x : Nat} (h : neededIP p e x) :
    (p.ipsets.get x).isSome := by
  rcases h with ⟨id, _, r, hr, hx⟩ | ⟨id, _, r, hr, hx⟩
  · exact hg.profRefs id r hr x hx
  · exact hg.polRefs id r hr x hx

theorem Good.refsKnown {p : Proc} (hg : Good p) {kv : Nat × EpInfo} (hkv : kv ∈ p.eps) : RefsKnown p kv.2.ep := by
  cases he : kv.2.ep with
  | none => exact ⟨nofun, nofun, fun _ => hg.needed⟩
  | some e =>
    obtain ⟨_, _, c, d⟩ := hg.epRefs kv hkv e he
    exact ⟨c, d, fun _ => hg.needed⟩

theorem neededIP_congr {p p' : Proc} {e : Option Endpoint}
    (hf : ∀ id ∈ epProfs e, p'.profs.get id = p.profs.get id) (hp : ∀ id ∈ epPols e, p'.pols.get id = p.pols.get id)
    (x : Nat) : neededIP p' e x ↔ neededIP p e x := by
  unfold neededIP
  constructor
  · rintro (⟨id, hid, r, hr, hx⟩ | ⟨id, hid, r, hr, hx⟩)
    · exact Or.inl ⟨id, hid, r, hf id hid ▸ hr, hx⟩
    · exact Or.inr ⟨id, hid, r, hp id hid ▸ hr, hx⟩
  · rintro (⟨id, hid, r, hr, hx⟩ | ⟨id, hid, r, hr, hx⟩)
    · exact Or.inl ⟨id, hid, r, (hf id hid).trans hr, hx⟩
    · exact Or.inr ⟨id, hid, r, (hp id hid).trans hr, hx⟩

theorem EpOK.of_stores {p p' : Proc} {w : Nat} {ei : EpInfo} {v : View} (h : EpOK p w ei v)
    (hP : ∀ id ∈ epPols ei.ep, p'.pols.get id = p.pols.get id) (hF : ∀ id ∈ epProfs ei.ep, p'.profs.get id = p.profs.get id)
    (hI : ∀ x ∈ ei.syncedIP, p'.ipsets.get x = p.ipsets.get x) (hsa : p'.sas = p.sas) (hns : p'.nss = p.nss)
    (hsy : p'.inSync = p.inSync) : EpOK p' w ei v :=
  ⟨.of_mirrors (h.core.pols_mirrors.congr (fun _ => Iff.rfl) fun id hi => hP id ((h.exact.pols id).1 hi))
    (h.core.profs_mirrors.congr (fun _ => Iff.rfl) fun id hi => hF id ((h.exact.profs id).1 hi))
    (h.core.ipsets_mirrors.congr (fun _ => Iff.rfl) fun x hi => congrArg (Option.map setOf) (hI x hi)),
   ⟨h.exact.pols, h.exact.profs, fun x => (h.exact.ipsets x).trans (neededIP_congr hF hP x).symm⟩,
   h.ep, hsa ▸ h.sas, hns ▸ h.nss, hsy ▸ h.inSync⟩

theorem EpOK.complete {p : Proc} {w : Nat} {ei : EpInfo} {v : View} (h : EpOK p w ei v)
    (hex : ∀ x, x ∈ ei.syncedIP → (p.ipsets.get x).isSome) : Complete p w ei.ep v := by
  refine ⟨h.ep, fun id => ?_, fun id => ?_, fun x hn => ?_, fun x hn => ?_, h.sas, h.nss, h.inSync⟩
  · rw [h.core.pols id]; simp only [h.exact.pols id]
  · rw [h.core.profs id]; simp only [h.exact.profs id]
  · have hm := (h.exact.ipsets x).2 hn
    cases hg : p.ipsets.get x with
    | none => have := hex x hm; rw [hg] at this; cases this
    | some ms => exact ⟨ms, rfl, setOf ms, by rw [h.core.ipsets x, if_pos hm, hg]; rfl, fun m => rfl⟩
  · rw [h.core.ipsets x, if_neg (mt (h.exact.ipsets x).1 hn)]

theorem refreshPol_ok {p : Proc} {w id : Nat} {r : Rules} {ei : EpInfo} {v : View}
    (hok : EpOK p w ei v) (hk : RefsKnown { p with pols := p.pols.set id r } ei.ep) :
    ∃ ei' ms, refreshOne { p with pols := p.pols.set id r } true id (Msg.polUpd id r) ei = some (ei', ms) ∧
      EpOK { p with pols := p.pols.set id r } w ei' (applyMsgs v ms) ∧ Guarded v ms := by
  have hc : (epList true ei.ep).contains id = true ↔ id ∈ epPols ei.ep := List.contains_iff_mem
  by_cases hl : id ∈ epPols ei.ep
  · obtain ⟨newS, adds, dels, hs⟩ := ipSync_around hk hok.core.ipsets_mirrors
    refine ⟨markSynced true { ei with syncedIP := newS } id, adds ++ [Msg.polUpd id r] ++ dels,
      by unfold refreshOne; rw [if_pos (hc.2 hl), hs.run], ?_⟩
    have mP : Mirrors (upd v.pols id (some r)) (p.pols.set id r).get (sins ei.syncedPol id) :=
      hok.core.pols_mirrors.set (fun x => AMap.get_set _ _ _ _) (mem_sins _ _)
    have lP : ∀ k, k ∈ sins ei.syncedPol id ↔ k ∈ epPols ei.ep := fun k =>
      (mem_sins _ _ _).trans ⟨fun h => h.elim (· ▸ hl) (hok.exact.pols k).1, fun h => Or.inr ((hok.exact.pols k).2 h)⟩
    simp only [applyMsgs_append, guarded_append]
    have g2 : guard (applyMsgs v adds) (Msg.polUpd id r) :=
      fun x hx => hs.present x (Or.inr ⟨id, hl, r, AMap.get_set_eq _ _ _, hx⟩)
    have f2 : Frame [.pol] (applyMsgs v adds) (applyMsgs (applyMsgs v adds) [Msg.polUpd id r]) := applyMsg_frame _ (Msg.polUpd id r)
    have hP : (applyMsgs (applyMsgs v adds) [Msg.polUpd id r]).pols = upd v.pols id (some r) :=
      congrArg (upd · id (some r)) (hs.frame.pols (by decide))
    generalize applyMsgs (applyMsgs v adds) [Msg.polUpd id r] = vM at *
    obtain ⟨g3, f3, m3⟩ := hs.removals vM _ _ (f2.ipsets (by decide)) (hP ▸ mP) ((hs.frame.trans f2).profs (by decide) ▸ hok.core.profs_mirrors)
      (fun k => (lP k).1) fun k => (hok.exact.profs k).1
    have F := (hs.frame.trans f2).trans f3
    exact ⟨⟨.of_mirrors (f3.pols (by decide) ▸ hP ▸ mP) (F.profs (by decide) ▸ hok.core.profs_mirrors) m3, ⟨lP, hok.exact.profs, hs.exact⟩,
      F.ep (by decide) ▸ hok.ep, F.sas (by decide) ▸ hok.sas, F.nss (by decide) ▸ hok.nss, F.inSync (by decide) ▸ hok.inSync⟩,
      ⟨hs.guarded, g2, trivial⟩, g3⟩
  · exact ⟨ei, [], by unfold refreshOne; rw [if_neg (mt hc.1 hl)],
      hok.of_stores (fun k hk' => AMap.get_set_ne _ _ fun e => hl (e ▸ hk')) (fun _ _ => rfl) (fun _ _ => rfl) rfl rfl rfl, trivial⟩

theorem refreshProf_ok {p : Proc} {w id : Nat} {r : Rules} {ei : EpInfo} {v : View}
    (hok : EpOK p w ei v) (hk : RefsKnown { p with profs := p.profs.set id r } ei.ep) :
    ∃ ei' ms, refreshOne { p with profs := p.profs.set id r } false id (Msg.profUpd id r) ei = some (ei', ms) ∧
      EpOK { p with profs := p.profs.set id r } w ei' (applyMsgs v ms) ∧ Guarded v ms := by
  have hc : (epList false ei.ep).contains id = true ↔ id ∈ epProfs ei.ep := List.contains_iff_mem
  by_cases hl : id ∈ epProfs ei.ep
  · obtain ⟨newS, adds, dels, hs⟩ := ipSync_around hk hok.core.ipsets_mirrors
    refine ⟨markSynced false { ei with syncedIP := newS } id, adds ++ [Msg.profUpd id r] ++ dels,
      by unfold refreshOne; rw [if_pos (hc.2 hl), hs.run], ?_⟩
    have mF : Mirrors (upd v.profs id (some r)) (p.profs.set id r).get (sins ei.syncedProf id) :=
      hok.core.profs_mirrors.set (fun x => AMap.get_set _ _ _ _) (mem_sins _ _)
    have lF : ∀ k, k ∈ sins ei.syncedProf id ↔ k ∈ epProfs ei.ep := fun k =>
      (mem_sins _ _ _).trans ⟨fun h => h.elim (· ▸ hl) (hok.exact.profs k).1, fun h => Or.inr ((hok.exact.profs k).2 h)⟩
    simp only [applyMsgs_append, guarded_append]
    have g2 : guard (applyMsgs v adds) (Msg.profUpd id r) :=
      fun x hx => hs.present x (Or.inl ⟨id, hl, r, AMap.get_set_eq _ _ _, hx⟩)
    have f2 : Frame [.prof] (applyMsgs v adds) (applyMsgs (applyMsgs v adds) [Msg.profUpd id r]) := applyMsg_frame _ (Msg.profUpd id r)
    have hF : (applyMsgs (applyMsgs v adds) [Msg.profUpd id r]).profs = upd v.profs id (some r) :=
      congrArg (upd · id (some r)) (hs.frame.profs (by decide))
    generalize applyMsgs (applyMsgs v adds) [Msg.profUpd id r] = vM at *
    obtain ⟨g3, f3, m3⟩ := hs.removals vM _ _ (f2.ipsets (by decide)) ((hs.frame.trans f2).pols (by decide) ▸ hok.core.pols_mirrors) (hF ▸ mF)
      (fun k => (hok.exact.pols k).1) fun k => (lF k).1
    have F := (hs.frame.trans f2).trans f3
    exact ⟨⟨.of_mirrors (F.pols (by decide) ▸ hok.core.pols_mirrors) (f3.profs (by decide) ▸ hF ▸ mF) m3, ⟨hok.exact.pols, lF, hs.exact⟩,
      F.ep (by decide) ▸ hok.ep, F.sas (by decide) ▸ hok.sas, F.nss (by decide) ▸ hok.nss, F.inSync (by decide) ▸ hok.inSync⟩,
      ⟨hs.guarded, g2, trivial⟩, g3⟩
  · exact ⟨ei, [], by unfold refreshOne; rw [if_neg (mt hc.1 hl)],
      hok.of_stores (fun _ _ => rfl) (fun k hk' => AMap.get_set_ne _ _ fun e => hl (e ▸ hk')) (fun _ _ => rfl) rfl rfl rfl, trivial⟩

theorem scanRefs_ok {m : AMap Rules} {x : Nat} {ids : List Nat} (h : ∀ id ∈ ids, (m.get id).isSome) :
    ∃ b, scanRefs m x ids = some b ∧ (b = true ↔ ∃ id ∈ ids, ∃ r, m.get id = some r ∧ x ∈ r.refs) := by
  induction ids with
  | nil => exact ⟨false, rfl, by simp only [Bool.false_eq_true, List.not_mem_nil, false_and, exists_false]⟩
  | cons i ids ih =>
    obtain ⟨hi, hr⟩ := List.forall_mem_cons.1 h
    obtain ⟨r, hg⟩ := Option.isSome_iff_exists.1 hi
    obtain ⟨b, hb, hbs⟩ := ih hr
    by_cases hx : x ∈ r.refs
    · exact ⟨true, scanRefs_cons.2 ⟨r, hg, by rw [if_pos hx]⟩, fun _ => ⟨i, List.mem_cons_self, r, hg, hx⟩, fun _ => rfl⟩
    · refine ⟨b, scanRefs_cons.2 ⟨r, hg, by rw [if_neg hx]; exact hb⟩, hbs.trans ?_⟩
      simp only [List.mem_cons, exists_eq_or_imp, hg, Option.some.injEq, exists_eq_left', hx, false_or]

theorem referencesIP_ok {p : Proc} {ei : EpInfo} (x : Nat) (hk : RefsKnown p ei.ep) :
    ∃ b, referencesIP p ei x = some b ∧ (b = true ↔ neededIP p ei.ep x) := by
  obtain ⟨b1, h1, s1⟩ := scanRefs_ok (x := x) hk.profs
  obtain ⟨b2, h2, s2⟩ := scanRefs_ok (x := x) hk.pols
  unfold referencesIP; rw [h1]
  cases b1 with
  | true => exact ⟨true, rfl, fun _ => Or.inl (s1.1 rfl), fun _ => rfl⟩
  | false => exact ⟨b2, h2, s2.trans ⟨Or.inr, fun h => h.elim (fun a => nomatch s1.2 a) id⟩⟩

theorem ipUpdOne_ok {p : Proc} {w id : Nat} {ms0 : List Nat} {ei : EpInfo} {v : View} (hok : EpOK p w ei v)
    (hk : RefsKnown { p with ipsets := p.ipsets.set id (dedup ms0) } ei.ep) :
    ∃ ei' ms, ipUpdOne { p with ipsets := p.ipsets.set id (dedup ms0) } id ms0 ei = some (ei', ms) ∧
      EpOK { p with ipsets := p.ipsets.set id (dedup ms0) } w ei' (applyMsgs v ms) ∧ Guarded v ms := by
  obtain ⟨b, h1, hb⟩ := referencesIP_ok id hk
  cases b with
  | true =>
    have hneed : neededIP p ei.ep id := hb.1 rfl
    refine ⟨{ ei with syncedIP := sins ei.syncedIP id }, [Msg.ipUpd id ms0], by unfold ipUpdOne; rw [h1],
      ⟨.of_mirrors hok.core.pols hok.core.profs ?_, ⟨hok.exact.pols, hok.exact.profs, fun x => ?_⟩, hok.ep, hok.sas, hok.nss,
        hok.inSync⟩, trivial, trivial⟩
    · show Mirrors (upd v.ipsets id (some fun x => ms0.contains x)) _ _
      rw [← setOf_dedup ms0]
      exact hok.core.ipsets_mirrors.set (fun x => by
        show Option.map setOf ((p.ipsets.set id (dedup ms0)).get x) = _
        rw [AMap.get_set]; split <;> rfl) (mem_sins _ _)
    · exact (mem_sins _ _ _).trans ⟨fun h => h.elim (· ▸ hneed) (hok.exact.ipsets x).1, fun h => Or.inr ((hok.exact.ipsets x).2 h)⟩
  | false =>
    have hnot : id ∉ ei.syncedIP := fun hin => nomatch hb.2 ((hok.exact.ipsets id).1 hin)
    exact ⟨ei, [], by unfold ipUpdOne; rw [h1],
      hok.of_stores (fun _ _ => rfl) (fun _ _ => rfl) (fun x hx => AMap.get_set_ne _ _ fun e => hnot (e ▸ hx)) rfl rfl rfl,
      trivial⟩

theorem ipDeltaOne_ok {p : Proc} {w id : Nat} {cur a d : List Nat} {ei : EpInfo} {v : View}
    (hcur : p.ipsets.get id = some cur) (hok : EpOK p w ei v)
    (hk : RefsKnown { p with ipsets := p.ipsets.set id (applyDelta cur a d) } ei.ep) :
    ∃ ei' ms, ipDeltaOne { p with ipsets := p.ipsets.set id (applyDelta cur a d) } id a d ei = some (ei', ms) ∧
      EpOK { p with ipsets := p.ipsets.set id (applyDelta cur a d) } w ei' (applyMsgs v ms) ∧ Guarded v ms := by
  obtain ⟨b, h1, hb⟩ := referencesIP_ok id hk
  cases b with
  | true =>
    have hin : id ∈ ei.syncedIP := (hok.exact.ipsets id).2 (hb.1 rfl)
    refine ⟨ei, [Msg.ipDelta id a d], by unfold ipDeltaOne; rw [h1],
      ⟨.of_mirrors hok.core.pols hok.core.profs ?_, ⟨hok.exact.pols, hok.exact.profs, hok.exact.ipsets⟩, hok.ep, hok.sas, hok.nss,
        hok.inSync⟩, trivial, trivial⟩
    -- the client applies the delta to what it holds, which is the old value of the set
    have hv : (v.ipsets id).map (fun s x => (s x || a.contains x) && !d.contains x) = some (setOf (applyDelta cur a d)) := by
      rw [hok.core.ipsets id, if_pos hin, hcur, setOf_applyDelta]; rfl
    show Mirrors (upd v.ipsets id _) _ _
    rw [hv]
    exact hok.core.ipsets_mirrors.set (fun x => by
        show Option.map setOf ((p.ipsets.set id (applyDelta cur a d)).get x) = _
        rw [AMap.get_set]; split <;> rfl) fun x => ⟨Or.inr, fun h => h.elim (· ▸ hin) fun h => h⟩
  | false =>
    have hnot : id ∉ ei.syncedIP := fun hin => nomatch hb.2 ((hok.exact.ipsets id).1 hin)
    exact ⟨ei, [], by unfold ipDeltaOne; rw [h1],
      hok.of_stores (fun _ _ => rfl) (fun _ _ => rfl) (fun x hx => AMap.get_set_ne _ _ fun e => hnot (e ▸ hx)) rfl rfl rfl,
      trivial⟩

theorem upd_get_set {α : Type} {f : Nat → Option α} {m : AMap α} (h : ∀ k, f k = m.get k) (id : Nat) (x : α) (k : Nat) :
    upd f id (some x) k = (m.set id x).get k := by
  rw [AMap.get_set, ← h k]; rfl

theorem upd_get_del {α : Type} {f : Nat → Option α} {m : AMap α} (h : ∀ k, f k = m.get k) (id k : Nat) :
    upd f id none k = (m.del id).get k := by
  rw [AMap.get_del, ← h k]; rfl

theorem saUpd_ok {p : Proc} {w : Nat} {ei : EpInfo} {v : View} (hok : EpOK p w ei v) (id x : Nat) :
    EpOK { p with sas := p.sas.set id x } w ei (applyMsgs v [Msg.saUpd id x]) :=
  ⟨⟨hok.core.pols, hok.core.profs, hok.core.ipsets⟩, ⟨hok.exact.pols, hok.exact.profs, hok.exact.ipsets⟩, hok.ep,
   upd_get_set hok.sas id x, hok.nss, hok.inSync⟩

theorem saRm_ok {p : Proc} {w : Nat} {ei : EpInfo} {v : View} (hok : EpOK p w ei v) (id : Nat) :
    EpOK { p with sas := p.sas.del id } w ei (applyMsgs v [Msg.saRm id]) :=
  ⟨⟨hok.core.pols, hok.core.profs, hok.core.ipsets⟩, ⟨hok.exact.pols, hok.exact.profs, hok.exact.ipsets⟩, hok.ep,
   upd_get_del hok.sas id, hok.nss, hok.inSync⟩

theorem nsUpd_ok {p : Proc} {w : Nat} {ei : EpInfo} {v : View} (hok : EpOK p w ei v) (id x : Nat) :
    EpOK { p with nss := p.nss.set id x } w ei (applyMsgs v [Msg.nsUpd id x]) :=
  ⟨⟨hok.core.pols, hok.core.profs, hok.core.ipsets⟩, ⟨hok.exact.pols, hok.exact.profs, hok.exact.ipsets⟩, hok.ep,
   hok.sas, upd_get_set hok.nss id x, hok.inSync⟩

theorem nsRm_ok {p : Proc} {w : Nat} {ei : EpInfo} {v : View} (hok : EpOK p w ei v) (id : Nat) :
    EpOK { p with nss := p.nss.del id } w ei (applyMsgs v [Msg.nsRm id]) :=
  ⟨⟨hok.core.pols, hok.core.profs, hok.core.ipsets⟩, ⟨hok.exact.pols, hok.exact.profs, hok.exact.ipsets⟩, hok.ep,
   hok.sas, upd_get_del hok.nss id, hok.inSync⟩

theorem inSync_ok {p : Proc} {w : Nat} {ei : EpInfo} {v : View} (hok : EpOK p w ei v) :
    EpOK { p with inSync := true } w ei (applyMsgs v [Msg.inSync]) :=
  ⟨⟨hok.core.pols, hok.core.profs, hok.core.ipsets⟩, ⟨hok.exact.pols, hok.exact.profs, hok.exact.ipsets⟩, hok.ep,
   hok.sas, hok.nss, rfl⟩

theorem kv_view {mk : Nat → Nat → Msg} (get : View → Nat → Option Nat)
    (hu : ∀ v k x, get (applyMsg v (mk k x)) = upd (get v) k (some x)) (m : AMap Nat) (hn : m.NodupKeys) (v : View) (id : Nat) :
    get (applyMsgs v (m.map fun kv => mk kv.1 kv.2)) id = (m.get id).or (get v id) := by
  induction m generalizing v with
  | nil => rfl
  | cons kv r ih =>
    obtain ⟨k, x⟩ := kv
    obtain ⟨hk, hr⟩ := AMap.nodupKeys_cons.1 hn
    rw [List.map_cons, applyMsgs_cons, ih hr, hu]
    unfold upd
    simp only [AMap.get]
    by_cases e : k = id
    · have : AMap.get r id = none := by
        cases hg : AMap.get r id with
        | none => rfl
        | some y => exact absurd e (hk _ (AMap.mem_of_get hg)).symm
      rw [if_pos e, if_pos e.symm, this]; rfl
    · rw [if_neg e, if_neg (Ne.symm e)]

theorem inSync_tail (b : Bool) (v : View) (hv : v.inSync = false) :
    (applyMsgs v (if b then [Msg.inSync] else [])).inSync = b ∧ Frame [.sync] v (applyMsgs v (if b then [Msg.inSync] else [])) ∧
    Guarded v (if b then [Msg.inSync] else []) := by
  cases b
  · exact ⟨hv, Frame.refl _ v, trivial⟩
  · exact ⟨rfl, applyMsg_frame v Msg.inSync, trivial, trivial⟩

theorem join_burst {p : Proc} {w : Nat} (uid : Nat) (hg : Good p) :
    ∃ ei' ms, maybeSync p w (joinNew p w uid) = some (ei', ms) ∧
    EpOK p w ei' (applyMsgs View.empty (ms ++ p.sas.map (fun kv => Msg.saUpd kv.1 kv.2) ++
      p.nss.map (fun kv => Msg.nsUpd kv.1 kv.2) ++ (if p.inSync then [Msg.inSync] else []))) ∧
    Guarded View.empty (ms ++ p.sas.map (fun kv => Msg.saUpd kv.1 kv.2) ++
      p.nss.map (fun kv => Msg.nsUpd kv.1 kv.2) ++ (if p.inSync then [Msg.inSync] else [])) := by
  have hcore0 : Core p (joinNew p w uid) View.empty := ⟨fun _ => rfl, fun _ => rfl, fun _ => rfl⟩
  have h1 : ∃ ei' ms, maybeSync p w (joinNew p w uid) = some (ei', ms) ∧
      Burst p View.empty ei' ms (ei'.ep.map fun e => (w, e)) := by
    cases hep : (joinOld p w).ep with
    | none =>
      have hep' : (joinNew p w uid).ep = none := hep
      have hno : ∀ x, ¬ neededIP p none x := fun x h => by
        rcases h with ⟨_, h, _⟩ | ⟨_, h, _⟩ <;> cases h
      exact ⟨_, [], maybeSync_idle (Or.inl hep'), hcore0, ⟨fun id => by rw [hep']; rfl, fun id => by rw [hep']; rfl,
          fun x => by rw [hep']; exact ⟨nofun, fun h => (hno x h).elim⟩⟩,
        by rw [hep']; rfl, Frame.refl _ _, trivial⟩
    | some e =>
      have hkv := AMap.mem_of_get (joinOld_entry (Or.inr (by rw [hep]; nofun)))
      have hnd := hg.epRefs _ hkv e hep
      obtain ⟨ei', ms, hm, hb⟩ := maybeSync_burst (w := w) (c := p.nextCh) hcore0 hep rfl
        (hep ▸ hg.refsKnown hkv) ⟨hnd.1, hnd.2.1⟩
      exact ⟨ei', ms, hm, hb.core, hb.exact,
        by rw [hb.ep, (maybeSync_sameClient hm).ep, show (joinNew p w uid).ep = some e from hep]; rfl, hb.frame, hb.guarded⟩
  obtain ⟨ei', ms, hm, c1, x1, ep1, fr1, g1⟩ := h1
  refine ⟨ei', ms, hm, ?_⟩
  simp only [applyMsgs_append, guarded_append]
  generalize applyMsgs View.empty ms = v1 at *
  have k2 := kind_map (mk := fun kv : Nat × Nat => Msg.saUpd kv.1 kv.2) (k := .sa) (fun _ => rfl) p.sas
  have g2 : Guarded v1 (p.sas.map fun kv => Msg.saUpd kv.1 kv.2) := seg_guarded k2 fun m hm => by
    obtain ⟨_, _, rfl⟩ := List.mem_map.1 hm; trivial
  have f2 := applyMsgs_frame k2 v1
  have e2 := kv_view View.sas (mk := Msg.saUpd) (fun _ _ _ => rfl) p.sas hg.sasK v1
  generalize applyMsgs v1 (p.sas.map fun kv => Msg.saUpd kv.1 kv.2) = v2 at *
  have k3 := kind_map (mk := fun kv : Nat × Nat => Msg.nsUpd kv.1 kv.2) (k := .ns) (fun _ => rfl) p.nss
  have g3 : Guarded v2 (p.nss.map fun kv => Msg.nsUpd kv.1 kv.2) := seg_guarded k3 fun m hm => by
    obtain ⟨_, _, rfl⟩ := List.mem_map.1 hm; trivial
  have f3 := applyMsgs_frame k3 v2
  have e3 := kv_view View.nss (mk := Msg.nsUpd) (fun _ _ _ => rfl) p.nss hg.nssK v2
  generalize applyMsgs v2 (p.nss.map fun kv => Msg.nsUpd kv.1 kv.2) = v3 at *
  obtain ⟨e4, f4, g4⟩ := inSync_tail p.inSync v3
    (((f2.trans f3).inSync (by decide)).trans (fr1.inSync (by decide)))
  generalize applyMsgs v3 (if p.inSync then [Msg.inSync] else []) = v4 at *
  have F := (f2.trans f3).trans f4
  refine ⟨⟨⟨F.pols (by decide) ▸ c1.pols, F.profs (by decide) ▸ c1.profs, F.ipsets (by decide) ▸ c1.ipsets⟩, x1,
    F.ep (by decide) ▸ ep1, fun id => ?_, fun id => ?_, e4⟩, ⟨⟨g1, g2⟩, g3⟩, g4⟩
  · rw [(f3.trans f4).sas (by decide), e2 id, fr1.sas (by decide)]; exact Option.or_none
  · rw [f4.nss (by decide), e3 id, f2.nss (by decide), fr1.nss (by decide)]; exact Option.or_none


end CalicoVerif.C31
