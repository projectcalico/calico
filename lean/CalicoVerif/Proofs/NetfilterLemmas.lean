import CalicoVerif.Model.Netfilter
/-!
Equations of the chain evaluator of `Model/Netfilter` (`runRules`, `evalChain`, `lookupChain`), one per kind of
action, and the algebra of disjoint mark bits.  Used by the C08, C09 and C10 proofs.

`Result.returned` stands both for RETURN and for falling off the end of a rule list, so `runRules` does not compose
over `++` (a prefix that RETURNs ends the whole chain).  Facts about a block of rules `rs` are therefore stated in
continuation form, `runRules (rs ++ rest) m = … runRules rest m' …`, for every `rest`.
-/
namespace CalicoVerif.Netfilter

section runRules
variable {env : Env} {call : String → Mark → Result} {pkt : Packet} {r : Rule} {rs : List Rule} {m : Mark}

def Action.continues : Action → Bool
  | .none | .setMark _ | .setMaskedMark _ _ | .clearMark _ | .log _ | .nflog _ _ | .notrack => true
  | _ => false

theorem runRules_cons_of_not_matches (h : r.matches env pkt m = false) :
    runRules env call pkt (r :: rs) m = runRules env call pkt rs m := by
  rw [runRules, h]; rfl

theorem runRules_cons_continues (h : r.action.continues = true) :
    runRules env call pkt (r :: rs) m =
      runRules env call pkt rs (if r.matches env pkt m then applyMark env.dp m r.action else m) := by
  rw [runRules]
  split
  · generalize r.action = a at h ⊢
    cases a <;> first | rfl | cases h
  · rfl

theorem runRules_cons_inert (h : r.action.continues = true) (hm : ∀ m, applyMark env.dp m r.action = m) :
    runRules env call pkt (r :: rs) m = runRules env call pkt rs m := by
  rw [runRules_cons_continues h, hm, ite_self]

theorem runRules_cons_ret (h : r.action = .ret) :
    runRules env call pkt (r :: rs) m =
      if r.matches env pkt m then .returned m else runRules env call pkt rs m := by
  rw [runRules, h]; rfl

theorem runRules_cons_goto {t : String} (h : r.action = .goto t) :
    runRules env call pkt (r :: rs) m =
      if r.matches env pkt m then call t m else runRules env call pkt rs m := by
  rw [runRules, h]; rfl

theorem runRules_cons_jump {t : String} (h : r.action = .jump t) :
    runRules env call pkt (r :: rs) m =
      if r.matches env pkt m then
        match call t m with
        | .returned m' => runRules env call pkt rs m'
        | other => other
      else runRules env call pkt rs m := by
  rw [runRules, h]; rfl

def Action.verdict? : Action → Option Verdict
  | .accept => some .accept
  | .drop => some .drop
  | .reject => some .reject
  | _ => Option.none

theorem runRules_cons_verdict {v : Verdict} (h : r.action.verdict? = some v) :
    runRules env call pkt (r :: rs) m =
      if r.matches env pkt m then .verdict v m else runRules env call pkt rs m := by
  rw [runRules]
  generalize r.action = a at h ⊢
  cases a <;> cases h <;> rfl

theorem runRules_ite_of_not_matches {c : Prop} [Decidable c] (h : c → r.matches env pkt m = false) :
    runRules env call pkt ((if c then [r] else []) ++ rs) m = runRules env call pkt rs m := by
  split
  · exact runRules_cons_of_not_matches (h ‹c›)
  · rfl

theorem runRules_ite_inert {c : Prop} [Decidable c] (h : r.action.continues = true)
    (hm : ∀ m, applyMark env.dp m r.action = m) :
    runRules env call pkt ((if c then [r] else []) ++ rs) m = runRules env call pkt rs m := by
  split
  · exact runRules_cons_inert h hm
  · rfl

theorem matches_no_clause (a : Action) (cm : List String) :
    ({ action := a, comments := cm } : Rule).matches env pkt m = true := rfl

theorem runRules_bare_continues {a : Action} {cm : List String} (h : a.continues = true) :
    runRules env call pkt ({ action := a, comments := cm } :: rs) m = runRules env call pkt rs (applyMark env.dp m a) := by
  rw [runRules_cons_continues h, matches_no_clause, if_pos rfl]

theorem runRules_bare_jump {t : String} {cm : List String} :
    runRules env call pkt ({ action := .jump t, comments := cm } :: rs) m =
      match call t m with
      | .returned m' => runRules env call pkt rs m'
      | other => other := by
  rw [runRules_cons_jump rfl, matches_no_clause, if_pos rfl]

theorem matches_mark_eq (x v : Mark) (a : Action) (cm : List String) :
    ({ clauses := [.mark false v x], action := a, comments := cm } : Rule).matches env pkt m = (m &&& x == v) :=
  Bool.and_true _

theorem matches_mark_ne (x v : Mark) (a : Action) (cm : List String) :
    ({ clauses := [.mark true v x], action := a, comments := cm } : Rule).matches env pkt m = !(m &&& x == v) :=
  Bool.and_true _

theorem runRules_append_of_not_matches {l : List Rule} (h : ∀ r ∈ l, r.matches env pkt m = false) :
    runRules env call pkt (l ++ rs) m = runRules env call pkt rs m := by
  induction l with
  | nil => rfl
  | cons a l ih =>
    rw [List.cons_append, runRules_cons_of_not_matches (h a List.mem_cons_self)]
    exact ih fun r hr => h r (List.mem_cons_of_mem _ hr)

theorem runRules_comment (c : List String) :
    runRules env call pkt ({ r with comments := c } :: rs) m = runRules env call pkt (r :: rs) m := by
  rw [runRules, runRules]; rfl

theorem runRules_cons_congr {rs' : List Rule} (h : ∀ m', runRules env call pkt rs m' = runRules env call pkt rs' m') :
    runRules env call pkt (r :: rs) m = runRules env call pkt (r :: rs') m := by
  simp only [runRules, h]

/-- a RETURN at the end of a rule list changes nothing: falling off the end returns as well -/
theorem runRules_snoc_ret {l : List Rule} (hr : r.action = .ret) :
    runRules env call pkt (l ++ [r]) m = runRules env call pkt l m := by
  induction l generalizing m with
  | nil => rw [List.nil_append, runRules_cons_ret hr]; exact ite_self _
  | cons a as ih => exact runRules_cons_congr fun _ => ih

theorem runRules_append_inert {l : List Rule}
    (h : ∀ r ∈ l, r.action.continues = true ∧ ∀ m, applyMark env.dp m r.action = m) :
    runRules env call pkt (l ++ rs) m = runRules env call pkt rs m := by
  induction l with
  | nil => rfl
  | cons a l ih =>
    rw [List.cons_append, runRules_cons_inert (h a List.mem_cons_self).1 (h a List.mem_cons_self).2]
    exact ih fun r hr => h r (List.mem_cons_of_mem _ hr)

theorem runRules_ite_append_of_not_matches {c : Prop} [Decidable c] {l : List Rule}
    (h : c → ∀ r ∈ l, r.matches env pkt m = false) :
    runRules env call pkt ((if c then l else []) ++ rs) m = runRules env call pkt rs m := by
  split
  · exact runRules_append_of_not_matches (h ‹c›)
  · rfl

theorem runRules_goto_only (t : String) :
    runRules env call pkt [({ action := .goto t } : Rule)] m = call t m :=
  (runRules_cons_goto rfl).trans (if_pos rfl)

theorem runRules_vmap_hit (d : Dir) (name t : String)
    (h : env.vmap name (if d = .src then pkt.inIface else pkt.outIface) = some (.goto t)) :
    runRules env call pkt (({ action := .vmap d name } : Rule) :: rs) m = call t m := by
  rw [runRules, matches_no_clause, if_pos rfl, resolveAction, h]; rfl

theorem runRules_vmap_miss (d : Dir) (name : String)
    (h : env.vmap name (if d = .src then pkt.inIface else pkt.outIface) = none) :
    runRules env call pkt (({ action := .vmap d name } : Rule) :: rs) m = runRules env call pkt rs m := by
  rw [runRules, matches_no_clause, if_pos rfl, resolveAction, h]; rfl

end runRules

/-! Felix keeps several flags in the packet mark, each under a mask of its own: how setting (`||| x`) and clearing
(`&&& ~~~x`) one mask reads back under the same mask and under a disjoint one (`x &&& y = 0`). -/

/-- `(0 : Mark)` is an `OfNat` literal, not the `0#32` of the core `BitVec` lemmas: `rw`/`simp` with those
does not see it; go through this lemma or close with `exact`. -/
theorem getElem_zero (i : Nat) (hi : i < 32) : (0 : Mark)[i] = false := BitVec.getElem_zero hi

theorem and_zero_bit {x y : Mark} (h : x &&& y = 0) (i : Nat) (hi : i < 32) : (x[i] && y[i]) = false := by
  rw [← BitVec.getElem_and, h]; exact getElem_zero i hi

theorem or_and_self (m x : Mark) : (m ||| x) &&& x = x := by
  ext i hi
  simp only [BitVec.getElem_and, BitVec.getElem_or]
  cases m[i] <;> cases x[i] <;> rfl

theorem or_and_of_disjoint {x y : Mark} (m : Mark) (h : x &&& y = 0) : (m ||| x) &&& y = m &&& y := by
  rw [BitVec.and_or_distrib_right, h]; exact BitVec.or_zero

theorem or_and_eq_zero {m x y : Mark} (hxy : x &&& y = 0) (hm : m &&& y = 0) : (m ||| x) &&& y = 0 := by
  rw [or_and_of_disjoint m hxy, hm]

theorem and_not_and_self (m x : Mark) : (m &&& ~~~x) &&& x = 0 := by
  rw [BitVec.and_assoc, BitVec.not_and_self]; exact BitVec.and_zero

theorem and_not_and_of_disjoint {x y : Mark} (m : Mark) (h : x &&& y = 0) : (m &&& ~~~x) &&& y = m &&& y := by
  have : ~~~x &&& y = y := by
    ext i hi
    have := and_zero_bit h i hi
    simp only [BitVec.getElem_and, BitVec.getElem_not]
    revert this; generalize x[i] = a; generalize y[i] = b; revert a b; decide
  rw [BitVec.and_assoc, this]

theorem and_not_and_eq_zero {m y : Mark} (x : Mark) (h : m &&& y = 0) : (m &&& ~~~x) &&& y = 0 := by
  rw [BitVec.and_assoc, BitVec.and_comm (~~~x), ← BitVec.and_assoc, h]; exact BitVec.zero_and

theorem test_eq_false {m x : Mark} (h : m &&& x = 0) (hx : x ≠ 0) : (m &&& x == x) = false := by
  rw [h]; exact beq_false_of_ne (Ne.symm hx)

theorem evalChain_of_lookup {env : Env} {chains : List Chain} {pkt : Packet} {name : String}
    {rules : List Rule} (h : lookupChain chains name = some rules) (fuel : Nat) (mark : Mark) :
    evalChain env chains pkt (fuel + 1) name mark =
      runRules env (evalChain env chains pkt fuel) pkt rules mark := by
  rw [evalChain, h]

theorem evalChain_missing {env : Env} {chains : List Chain} {pkt : Packet} {name : String}
    (h : lookupChain chains name = none) (fuel : Nat) (mark : Mark) :
    evalChain env chains pkt (fuel + 1) name mark = .missing name := by
  rw [evalChain, h]

theorem lookupChain_of_mem {chains : List Chain} (hn : (chains.map (·.name)).Nodup) {c : Chain}
    (hc : c ∈ chains) : lookupChain chains c.name = some c.rules := by
  induction chains with
  | nil => exact absurd hc (by simp)
  | cons a as ih =>
    simp only [List.map_cons, List.nodup_cons] at hn
    rcases List.mem_cons.1 hc with h | h
    · subst h; simp [lookupChain]
    · have hne : a.name ≠ c.name := fun he => hn.1 (he ▸ List.mem_map.2 ⟨c, h, rfl⟩)
      have := ih hn.2 h
      simp only [lookupChain, List.find?_cons] at this ⊢
      rw [show (a.name == c.name) = false from by simpa using hne]
      exact this

theorem lookupChain_none_of_names {chains : List Chain} {t : String}
    (h : t ∉ chains.map (·.name)) : lookupChain chains t = none := by
  induction chains with
  | nil => rfl
  | cons c cs ih =>
    simp only [List.map_cons, List.mem_cons, not_or] at h
    simp only [lookupChain, List.find?_cons]
    have : (c.name == t) = false := by simpa using Ne.symm h.1
    rw [this]
    exact ih h.2

end CalicoVerif.Netfilter
