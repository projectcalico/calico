import CalicoVerif.Proofs.C15Kernel
/-! The transaction of `applyUpdates` (`T.plan`) is made of groups of lines keyed by chain; a chain is only touched by
the group of its own key. -/
namespace CalicoVerif.C15

theorem mem_sortS {x : String} {l : List String} : x ∈ sortS l ↔ x ∈ l := List.mem_mergeSort

theorem sortS_nodup {l : List String} (h : l.Nodup) : (sortS l).Nodup :=
  (List.mergeSort_perm l _).nodup_iff.2 h

/-- Every cached full rule that could be turned into a delete is one of Felix's rules. -/
def FullOK (t : T) : Prop :=
  ∀ c frs, t.fullRules.get c = some frs → ∀ fr ∈ frs, ∀ c' r, fr = FR.a c' r → r.isForeign = false

/-- What `T.iaLines` can write for the shared chain `c` whose cached full rules are `frs`; the malformed line stands for
a cached rule that cannot be deleted by value. -/
def HookLine (c : String) (frs : List FR) (l : RLine) : Prop :=
  (∃ c' r, FR.a c' r ∈ frs ∧ l = RLine.delVal c r) ∨ (∃ s, l = RLine.bad s) ∨
    ∃ r : DRule, l = RLine.insert c r.k ∨ l = RLine.append c r.k

theorem HookLine.chain {c : String} {frs : List FR} {l : RLine} (h : HookLine c frs l) :
    l.chain = c ∨ ∃ s, l = RLine.bad s := by
  rcases h with ⟨_, _, _, rfl⟩ | ⟨s, rfl⟩ | ⟨_, rfl | rfl⟩
  · exact Or.inl rfl
  · exact Or.inr ⟨s, rfl⟩
  · exact Or.inl rfl
  · exact Or.inl rfl

theorem HookLine.tagged {c : String} {frs : List FR} {l : RLine} (h : HookLine c frs l)
    (hok : ∀ fr ∈ frs, ∀ c' r, fr = FR.a c' r → r.isForeign = false) : l.tagged = true ∨ ∃ s, l = RLine.bad s := by
  rcases h with ⟨c', r, hm, rfl⟩ | ⟨s, rfl⟩ | ⟨_, rfl | rfl⟩
  · exact Or.inl (by rw [RLine.tagged, hok _ hm c' r rfl]; rfl)
  · exact Or.inr ⟨s, rfl⟩
  · exact Or.inl rfl
  · exact Or.inl rfl

theorem HookLine.mono {c : String} {frs frs' : List FR} {l : RLine} (hs : ∀ fr ∈ frs, fr ∈ frs')
    (h : HookLine c frs l) : HookLine c frs' l :=
  h.imp_left fun ⟨c', r, hm, e⟩ => ⟨c', r, hs _ hm, e⟩

theorem delLines_hook (c : String) : ∀ (hs : List String) (frs : List FR) (ls : List RLine),
    delLines c hs frs = some ls → ∀ l ∈ ls, HookLine c frs l := by
  intro hs
  induction hs with
  | nil => intro frs ls h l hl; cases h; cases hl
  | cons h hs ih =>
    intro frs ls hd l hl
    simp only [delLines] at hd
    split at hd
    · exact (ih _ ls hd l hl).mono fun _ => List.mem_of_mem_tail
    · cases frs with
      | nil => cases hd
      | cons fr rest =>
        obtain ⟨ls', hls', rfl⟩ := Option.map_eq_some_iff.1 hd
        rcases List.mem_cons.1 hl with rfl | hl
        · cases fr with
          | a c' r => exact Or.inl ⟨c', r, List.mem_cons_self, rfl⟩
          | dash | i c' r => exact Or.inr (Or.inl ⟨_, rfl⟩)
        · exact (ih rest ls' hls' l hl).mono fun _ => List.mem_cons_of_mem _

theorem iaLines_hook {t : T} {c : String} {ls : List RLine} {u} (h : t.iaLines c = some (ls, u)) :
    ∀ l ∈ ls, HookLine c ((t.fullRules.get c).getD []) l := by
  unfold T.iaLines at h
  dsimp only at h
  split at h
  · cases h; intro l hl; cases hl
  · split at h
    · cases h
    · rename_i dels hdel
      cases h
      intro l hl
      rcases List.mem_append.1 hl with hl | hl
      · rcases List.mem_append.1 hl with hl | hl
        · exact delLines_hook c _ _ _ hdel l hl
        · refine Or.inr (Or.inr ?_)
          split at hl
          · obtain ⟨r, _, rfl⟩ := List.mem_map.1 hl; exact ⟨r, Or.inl rfl⟩
          · obtain ⟨r, _, rfl⟩ := List.mem_map.1 hl; exact ⟨r, Or.inr rfl⟩
      · obtain ⟨r, _, rfl⟩ := List.mem_map.1 hl
        exact Or.inr (Or.inr ⟨r, Or.inr rfl⟩)

theorem iaLinesOf_hook (t : T) (c : String) : ∀ l ∈ iaLinesOf (t.iaLines c), HookLine c ((t.fullRules.get c).getD []) l := by
  cases h : t.iaLines c with
  | none => intro l hl; cases hl
  | some v => exact iaLines_hook (u := v.2) h

def T.updChains (t : T) : List (String × Chain) :=
  (sortS t.dirty).filterMap (fun c => (t.desiredChain c).map (fun ch => (c, ch)))

def T.delChains (t : T) : List String := (sortS t.dirty).filter (fun c => (t.desiredChain c).isNone)

def T.iaPlan (t : T) : List (String × Option (List RLine × Option (List String × List FR))) :=
  (sortS t.dirtyIA).map (fun c => (c, t.iaLines c))

def T.headLines (t : T) : List RLine :=
  ((sortS t.dirty).filter (fun c => (t.desiredChain c).isNone || !t.dpHashes.has c)).map RLine.fwd ++
    t.updChains.flatMap (fun p => diffLines p.1 p.2.rules.length 0 ((t.dpHashes.get p.1).getD []) p.2.rules)

def T.hookLines (t : T) : List RLine := t.iaPlan.flatMap (fun p => iaLinesOf p.2)

theorem plan_some {t : T} {lines newH newFull} (h : t.plan = some (lines, newH, newFull)) :
    lines = t.headLines ++ t.hookLines ++ t.delChains.map RLine.delChain ∧
    newH = t.updChains.map (fun p => (p.1, some (p.2.rules.map (·.hash)))) ++
      (t.iaPlan.filterMap (fun p => iaUpdOf p.1 p.2)).map (fun p => (p.1, some p.2.1)) ++
      t.delChains.map (fun c => (c, none)) := by
  unfold T.plan at h
  dsimp only at h
  split at h
  · cases h
  · cases h; exact ⟨rfl, rfl⟩

theorem mem_updChains {t : T} {c : String} {ch : Chain} :
    (c, ch) ∈ t.updChains ↔ c ∈ t.dirty ∧ t.desiredChain c = some ch := by
  unfold T.updChains
  rw [List.mem_filterMap]
  constructor
  · rintro ⟨x, hx, hxe⟩
    obtain ⟨ch', hd, e⟩ := Option.map_eq_some_iff.1 hxe
    cases e
    exact ⟨mem_sortS.1 hx, hd⟩
  · rintro ⟨hc, hd⟩
    exact ⟨c, mem_sortS.2 hc, by rw [hd]; rfl⟩

theorem updChains_keys (t : T) : t.updChains.map (·.1) = (sortS t.dirty).filter (fun c => (t.desiredChain c).isSome) := by
  unfold T.updChains
  induction sortS t.dirty with
  | nil => rfl
  | cons a L ih => cases h : t.desiredChain a <;> simp [h, ih]

theorem mem_delChains {t : T} {c : String} : c ∈ t.delChains ↔ c ∈ t.dirty ∧ t.desiredChain c = none := by
  unfold T.delChains
  rw [List.mem_filter, mem_sortS, Option.isNone_iff_eq_none]

theorem headLines_chain (t : T) : ∀ l ∈ t.headLines, l.chain ∈ t.dirty := by
  intro l hl
  rcases List.mem_append.1 hl with hl | hl
  · obtain ⟨c, hc, rfl⟩ := List.mem_map.1 hl
    exact mem_sortS.1 (List.mem_filter.1 hc).1
  · obtain ⟨⟨c, ch⟩, hp, hlp⟩ := List.mem_flatMap.1 hl
    rw [diffLines_chain _ _ _ _ _ l hlp]
    exact (mem_updChains.1 hp).1

theorem hookLines_hook (t : T) : ∀ l ∈ t.hookLines, ∃ c ∈ t.dirtyIA, HookLine c ((t.fullRules.get c).getD []) l := by
  intro l hl
  obtain ⟨p, hp, hlp⟩ := List.mem_flatMap.1 hl
  obtain ⟨c, hc, rfl⟩ := List.mem_map.1 hp
  exact ⟨c, mem_sortS.1 hc, iaLinesOf_hook t c l hlp⟩

theorem hookLines_effAt (t : T) {c : String} (hia : c ∉ t.dirtyIA) {o o' : Option (List KRule)}
    (h : effAt c t.hookLines o = some o') : o' = o := by
  refine effAt_induct (P := (· = o)) _ o o' (fun l hl hc a b he _ => ?_) h rfl
  obtain ⟨x, hx, hh⟩ := hookLines_hook t l hl
  rcases hh.chain with e | ⟨s, rfl⟩
  · exact absurd (e.symm.trans hc ▸ hx) hia
  · cases a <;> cases he

theorem plan_lines_hook {t : T} {lines newH newFull} (h : t.plan = some (lines, newH, newFull)) :
    ∀ l ∈ lines, l.chain ∈ t.dirty ∨ ∃ c ∈ t.dirtyIA, HookLine c ((t.fullRules.get c).getD []) l := by
  intro l hl
  rw [(plan_some h).1] at hl
  rcases List.mem_append.1 hl with hl | hl
  · rcases List.mem_append.1 hl with hl | hl
    · exact Or.inl (headLines_chain t l hl)
    · exact Or.inr (hookLines_hook t l hl)
  · obtain ⟨c, hc, rfl⟩ := List.mem_map.1 hl
    exact Or.inl (mem_delChains.1 hc).1

theorem FullOK.get {t : T} (hf : FullOK t) (c : String) :
    ∀ fr ∈ (t.fullRules.get c).getD [], ∀ c' r, fr = FR.a c' r → r.isForeign = false := by
  cases hg : t.fullRules.get c with
  | none => intro fr hfr; cases hfr
  | some frs => exact hf c frs hg

theorem foreign_unchanged {t : T} (hf : FullOK t) {lines newH newFull}
    (h : t.plan = some (lines, newH, newFull)) (K K' : Kernel) (hr : krestore K lines = some K')
    (x : String) (hx : x ∉ t.dirty) : (K'.get x).map foreignSub = (K.get x).map foreignSub := by
  refine krestore_foreign x lines K K' (fun l hl hc => ?_) hr
  rcases plan_lines_hook h l hl with h1 | ⟨c, _, hh⟩
  · rw [hc] at h1; exact absurd h1 hx
  · exact hh.tagged (hf.get c)

theorem readHashes_get (K : Kernel) (c : String) :
    (readHashes K).get c = (K.get c).map (fun rs => rs.map KRule.hash) :=
  Assoc.lookup_map_val (fun _ (rs : List KRule) => rs.map KRule.hash) K c

theorem has_readHashes (K : Kernel) (c : String) : (readHashes K).has c = K.has c := by
  rw [Map.has, Map.has, readHashes_get, Option.isSome_map]

theorem owned_after {t : T} {K K' : Kernel} {lines newH newFull} (h : t.plan = some (lines, newH, newFull))
    (hr : krestore K lines = some K') (hn : t.dirty.Nodup) (hview : t.dpHashes = readHashes K)
    (c : String) (hia : c ∉ t.dirtyIA)
    (hs : ∀ ch rs, t.desiredChain c = some ch → K.get c = some rs → Sound rs ch.rules) :
    (c ∈ t.dirty → K'.get c = (t.desiredChain c).map (fun ch => ch.rules.map DRule.k)) ∧
    (c ∉ t.dirty → K'.get c = K.get c) := by
  obtain ⟨rfl, -⟩ := plan_some h
  -- the transaction at `c`: forward references, per-position diffs, hook lines, chain deletions
  have hr := krestore_get c _ _ _ hr
  rw [effAt_append, effAt_append, T.headLines, effAt_append] at hr
  obtain ⟨o3, hr, hdel⟩ := Option.bind_eq_some_iff.1 hr
  obtain ⟨o2, hr, hhook⟩ := Option.bind_eq_some_iff.1 hr
  obtain ⟨o1, hfwd, hupd⟩ := Option.bind_eq_some_iff.1 hr
  cases hookLines_effAt t hia hhook
  have hnS := sortS_nodup hn
  rw [effAt_map RLine.fwd (fun _ => rfl) c _ _ (hnS.sublist List.filter_sublist)] at hfwd
  rw [effAt_map RLine.delChain (fun _ => rfl) c _ t.delChains (hnS.sublist List.filter_sublist)] at hdel
  have hupdQuiet : (∀ ch, (c, ch) ∉ t.updChains) → o3 = o1 := fun hc =>
    Option.some.inj (hupd.symm.trans (effAt_quiet (fun l hl e => by
      obtain ⟨⟨x, ch⟩, hp, hlp⟩ := List.mem_flatMap.1 hl
      cases (diffLines_chain _ _ _ _ _ l hlp).symm.trans e
      exact hc ch hp) o1))
  refine ⟨fun hcd => ?_, fun hcd => ?_⟩
  case refine_2 =>
    rw [if_neg fun hm => hcd (mem_sortS.1 (List.mem_filter.1 hm).1)] at hfwd
    rw [if_neg fun hm => hcd (mem_delChains.1 hm).1] at hdel
    cases hfwd
    cases hupdQuiet fun ch hm => hcd (mem_updChains.1 hm).1
    exact (Option.some.inj hdel).symm
  cases hd : t.desiredChain c with
  | none =>
    -- a forward reference creates the chain, nothing fills it, the deletion removes it
    rw [if_pos (List.mem_filter.2 ⟨mem_sortS.2 hcd, by rw [hd]; rfl⟩)] at hfwd
    rw [if_pos (mem_delChains.2 ⟨hcd, hd⟩)] at hdel
    cases hfwd
    cases hupdQuiet fun ch hm => by rw [(mem_updChains.1 hm).2] at hd; cases hd
    exact (Option.some.inj hdel).symm
  | some ch =>
    rw [if_neg fun hm => by rw [(mem_delChains.1 hm).2] at hd; cases hd] at hdel
    cases hdel
    have hnU : (t.updChains.map (·.1)).Nodup := by rw [updChains_keys]; exact hnS.sublist List.filter_sublist
    rw [effAt_flatMap (·.1) _ c o1 t.updChains hnU
      (fun g _ hg l hl e => hg ((diffLines_chain _ _ _ _ _ l hl).symm.trans e)) (c, ch) (mem_updChains.2 ⟨hcd, hd⟩) rfl] at hupd
    -- when the diff starts the chain exists (created by a forward reference if need be) with the hashes of the cache
    have hL : ∃ L, o1 = some L ∧ L.map KRule.hash = (t.dpHashes.get c).getD [] ∧ Sound L ch.rules := by
      rw [hview, readHashes_get]
      cases hkc : K.get c with
      | some rs =>
        rw [hkc, if_neg fun hm => by
          have := (List.mem_filter.1 hm).2
          rw [hd, hview, has_readHashes, Map.has, hkc] at this
          cases this] at hfwd
        exact ⟨rs, (Option.some.inj hfwd).symm, rfl, hs ch rs hd hkc⟩
      | none =>
        rw [if_pos (List.mem_filter.2 ⟨mem_sortS.2 hcd, by
          rw [hview, has_readHashes, Map.has, hkc]; exact Bool.or_true _⟩)] at hfwd
        exact ⟨[], (Option.some.inj hfwd).symm, rfl, trivial⟩
    obtain ⟨L, rfl, hmap, hsound⟩ := hL
    exact (Option.some.inj ((diff_converges c _ 0 _ ch.rules L [] (Nat.zero_add _).symm (fun _ => rfl) hmap hsound).symm.trans hupd)).symm

theorem filter_map_pair_key (D : List String) (f : String → Option (List RLine × Option (List String × List FR)))
    (c : String) (hn : D.Nodup) :
    ((D.map (fun x => (x, f x))).filter (fun g => g.1 == c)) = if c ∈ D then [(c, f c)] else [] := by
  induction D with
  | nil => rfl
  | cons a D ih =>
    rw [List.nodup_cons] at hn
    rw [List.map_cons, List.filter_cons, ih hn.2]
    by_cases hac : a = c
    · subst hac; simp [hn.1]
    · simp [hac, Ne.symm hac]

end CalicoVerif.C15
