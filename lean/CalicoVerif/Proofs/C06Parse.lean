import CalicoVerif.Proofs.C06StringSet
/-! C06 helper lemmas: the parser on the token stream of a canonical text. -/
namespace CalicoVerif.C06

/-- body of `parseOperation` after the `!` loop: the model's `match`, copied. -/
def opCore (fuel : Nat) (toks : List Token) : PResult :=
  match toks with
  | .has l :: rem => .ok (.has l, rem)
  | .all :: rem => .ok (.all, rem)
  | .global :: rem => .ok (.global, rem)
  | .label l :: rest => parseLabelOp l rest
  | .lParen :: rest =>
    match parseOrWith (parseOperation fuel) fuel rest with
    | .error e => .error e
    | .ok (n, rem) =>
      match rem with
      | .rParen :: rem' => .ok (n, rem')
      | _ => .error .expectedRParen
  | _ => .error .unexpectedToken

/-- `parseOperation` started with `negated = b`. -/
def opFrom (fuel : Nat) (b : Bool) (tokens : List Token) : PResult :=
  match opCore fuel (stripNots tokens b).2 with
  | .error e => .error e
  | .ok (n, rem) => .ok (wrapNot (stripNots tokens b).1 n, rem)

theorem parseOperation_succ (fuel : Nat) (t : Token) (ts : List Token) :
    parseOperation (fuel + 1) (t :: ts) = opFrom fuel false (t :: ts) := by
  rw [parseOperation, opFrom]
  rfl

theorem opFrom_not (fuel : Nat) (b : Bool) (ts : List Token) :
    opFrom fuel b (.not :: ts) = opFrom fuel (!b) ts := rfl

theorem toks_eq_cons (t : Node) : ∃ t0 ts, toks t = t0 :: ts := by
  cases t with
  | not n => rw [toks]; split <;> exact ⟨_, _, rfl⟩
  | _ => exact ⟨_, _, rfl⟩

theorem toks_length_pos (t : Node) : 0 < (toks t).length := by
  obtain ⟨t0, ts, h⟩ := toks_eq_cons t
  rw [h]; exact Nat.succ_pos _

theorem stripNots_toks {t : Node} (h : t.isNot = false) (rest : List Token) (b : Bool) :
    stripNots (toks t ++ rest) b = (b, toks t ++ rest) := by
  cases t <;> first | rfl | cases h

theorem parseSetValues_tail (v : Str) (rest : List Token) : ∀ vs : List Str,
    parseSetValues (.str v :: (setTailToks vs ++ .rBrace :: rest)) = (v :: vs, .rBrace :: rest)
  | [] => rfl
  | w :: ws => by
    show (let (vs, rem) := parseSetValues (.str w :: (setTailToks ws ++ .rBrace :: rest)); (v :: vs, rem)) = _
    rw [parseSetValues_tail w rest ws]

theorem parseSetValues_setToks (vs : List Str) (rest : List Token) :
    parseSetValues (setToks vs ++ .rBrace :: rest) = (vs, .rBrace :: rest) := by
  cases vs with
  | nil => rfl
  | cons v vs => exact parseSetValues_tail v rest vs

section loops
variable (op : List Token → PResult)

theorem andRest_stop (fuel : Nat) {rest : List Token} (h : ∀ r, rest ≠ .and :: r) :
    andRest op fuel rest = .ok ([], rest) := by
  unfold andRest
  split
  · exact absurd rfl (h _)
  · exact absurd rfl (h _)
  · rfl

theorem orRest_stop (fuelAnd fuel : Nat) {rest : List Token} (h : ∀ r, rest ≠ .or :: r) :
    orRest op fuelAnd fuel rest = .ok ([], rest) := by
  unfold orRest
  split
  · exact absurd rfl (h _)
  · exact absurd rfl (h _)
  · rfl

theorem andRest_toks {rest : List Token} (hrest : ∀ r, rest ≠ .and :: r) :
    ∀ (ns : List Node) (fuel : Nat), ns.length ≤ fuel →
      (∀ n ∈ ns, ∀ r, op (toks n ++ r) = .ok (n, r)) →
      andRest op fuel (tailToks .and ns ++ rest) = .ok (ns, rest)
  | [], fuel, _, _ => andRest_stop op fuel hrest
  | n :: ns, fuel + 1, h, hop => by
    have ih := andRest_toks hrest ns fuel (Nat.le_of_succ_le_succ h) (fun m hm => hop m (List.mem_cons_of_mem _ hm))
    rw [tailToks, List.cons_append, List.append_assoc, andRest, hop n (List.mem_cons_self ..)]
    simp only [ih]

theorem parseAndWith_single (fuel : Nat) (n : Node) {rest : List Token} (hrest : ∀ r, rest ≠ .and :: r)
    (hop : ∀ r, op (toks n ++ r) = .ok (n, r)) :
    parseAndWith op fuel (toks n ++ rest) = .ok (n, rest) := by
  simp only [parseAndWith, hop, andRest_stop op fuel hrest, mkAnd]

theorem orRest_toks {rest : List Token} (hrest : ∀ r, rest ≠ .or :: r) (hrest' : ∀ r, rest ≠ .and :: r)
    (fuelAnd : Nat) :
    ∀ (ns : List Node) (fuel : Nat), ns.length ≤ fuel →
      (∀ n ∈ ns, ∀ r, op (toks n ++ r) = .ok (n, r)) →
      orRest op fuelAnd fuel (tailToks .or ns ++ rest) = .ok (ns, rest)
  | [], fuel, _, _ => orRest_stop op fuelAnd fuel hrest
  | n :: ns, fuel + 1, h, hop => by
    have ih := orRest_toks hrest hrest' fuelAnd ns fuel (Nat.le_of_succ_le_succ h)
      (fun m hm => hop m (List.mem_cons_of_mem _ hm))
    have hnext : ∀ r, tailToks .or ns ++ rest ≠ .and :: r := by
      cases ns with
      | nil => exact hrest'
      | cons m ms => exact fun r e => by cases e
    rw [tailToks, List.cons_append, List.append_assoc, orRest,
      parseAndWith_single op fuelAnd n hnext (hop n (List.mem_cons_self ..))]
    simp only [ih]

theorem parseOrWith_single (fuel : Nat) (n : Node) {rest : List Token} (hand : ∀ r, rest ≠ .and :: r)
    (hor : ∀ r, rest ≠ .or :: r) (hop : ∀ r, op (toks n ++ r) = .ok (n, r)) :
    parseOrWith op fuel (toks n ++ rest) = .ok (n, rest) := by
  simp only [parseOrWith, parseAndWith_single op fuel n hand hop, orRest_stop op fuel fuel hor, mkOr]

theorem parseOrWith_andGroup (fuel : Nat) (ns : List Node) (rest : List Token)
    (hlen : 2 ≤ ns.length) (hfuel : ns.length ≤ fuel)
    (hop : ∀ n ∈ ns, ∀ r, op (toks n ++ r) = .ok (n, r)) :
    parseOrWith op fuel (joinToks .and ns ++ .rParen :: rest) = .ok (.and ns, .rParen :: rest) := by
  match ns, hlen with
  | n :: m :: ms, _ =>
    have h2 := andRest_toks op (rest := .rParen :: rest) (fun r e => by cases e) (m :: ms) fuel
      (Nat.le_of_succ_le hfuel) (fun k hk => hop k (List.mem_cons_of_mem _ hk))
    rw [parseOrWith, parseAndWith, joinToks, List.append_assoc, hop n (List.mem_cons_self ..)]
    simp only [h2]
    rw [orRest_stop op fuel fuel (fun r e => by cases e)]
    rfl

theorem parseOrWith_orGroup (fuel : Nat) (ns : List Node) (rest : List Token)
    (hlen : 2 ≤ ns.length) (hfuel : ns.length ≤ fuel)
    (hop : ∀ n ∈ ns, ∀ r, op (toks n ++ r) = .ok (n, r)) :
    parseOrWith op fuel (joinToks .or ns ++ .rParen :: rest) = .ok (.or ns, .rParen :: rest) := by
  match ns, hlen with
  | n :: m :: ms, _ =>
    have h2 := orRest_toks op (rest := .rParen :: rest) (fun r e => by cases e) (fun r e => by cases e)
      fuel (m :: ms) fuel (Nat.le_of_succ_le hfuel) (fun k hk => hop k (List.mem_cons_of_mem _ hk))
    rw [parseOrWith, joinToks, List.append_assoc,
      parseAndWith_single op fuel n (fun r e => by cases e) (hop n (List.mem_cons_self ..))]
    simp only [h2]
    rfl

end loops

theorem length_le_tailToks (sep : Token) : ∀ ns : List Node, ns.length ≤ (tailToks sep ns).length
  | [] => Nat.le_refl _
  | n :: ns => by
    have := length_le_tailToks sep ns
    simp only [tailToks, List.length_cons, List.length_append]; omega

theorem length_le_joinToks (sep : Token) : ∀ ns : List Node, ns.length ≤ (joinToks sep ns).length
  | [] => Nat.le_refl _
  | n :: ns => by
    have := length_le_tailToks sep ns
    have := toks_length_pos n
    simp only [joinToks, List.length_cons, List.length_append]; omega

theorem toks_length_le_tailToks (sep : Token) {n : Node} : ∀ {ns : List Node}, n ∈ ns →
    (toks n).length ≤ (tailToks sep ns).length
  | m :: ms, h => by
    simp only [tailToks, List.length_cons, List.length_append]
    rcases List.mem_cons.mp h with rfl | h
    · omega
    · have := toks_length_le_tailToks sep h; omega

theorem toks_length_le_joinToks (sep : Token) (ns : List Node) (n : Node) (h : n ∈ ns) :
    (toks n).length ≤ (joinToks sep ns).length := by
  cases ns with
  | nil => cases h
  | cons m ms =>
    simp only [joinToks, List.length_append]
    rcases List.mem_cons.mp h with rfl | h
    · omega
    · have := toks_length_le_tailToks sep h; omega

theorem parseOperation_of_opFrom {t : Node} {fuel : Nat} (hpos : 0 < fuel) (r : List Token) :
    parseOperation fuel (toks t ++ r) = opFrom (fuel - 1) false (toks t ++ r) := by
  obtain ⟨f', rfl⟩ : ∃ f', fuel = f' + 1 := ⟨fuel - 1, by omega⟩
  obtain ⟨t0, ts, hts⟩ := toks_eq_cons t
  rw [hts]
  exact parseOperation_succ f' t0 (ts ++ r)

theorem opFrom_lParen (f : Nat) (b : Bool) (rest : List Token) :
    opFrom f b (Token.lParen :: rest) =
      match parseOrWith (parseOperation f) f rest with
      | .error e => .error e
      | .ok (n, rem) =>
        match rem with
        | Token.rParen :: rem' => .ok (wrapNot b n, rem')
        | _ => .error .expectedRParen := by
  simp only [opFrom, stripNots, opCore]
  cases parseOrWith (parseOperation f) f rest with
  | error e => rfl
  | ok p =>
    obtain ⟨n, rem⟩ := p
    cases rem with
    | nil => rfl
    | cons t ts => cases t <;> rfl

theorem opFrom_paren (fuel : Nat) (b : Bool) {toks rest : List Token} {n : Node}
    (h : parseOrWith (parseOperation fuel) fuel toks = .ok (n, .rParen :: rest)) :
    opFrom fuel b (.lParen :: toks) = .ok (wrapNot b n, rest) := by
  rw [opFrom_lParen, h]

/-- From the statement about `opFrom` (the form the induction of `opFrom_toks` carries) to `parseOperation`. -/
theorem parseOperation_of_opFrom_toks {t : Node}
    (ih : ∀ (fuel : Nat) (rest : List Token), (toks t).length ≤ fuel + 1 →
      opFrom fuel false (toks t ++ rest) = .ok (t, rest))
    {fuel : Nat} (hf : (toks t).length ≤ fuel) (r : List Token) :
    parseOperation fuel (toks t ++ r) = .ok (t, r) := by
  have hpos := toks_length_pos t
  rw [parseOperation_of_opFrom (by omega)]
  exact ih (fuel - 1) r (by omega)

theorem opFrom_toks : ∀ t, WF t → ∀ (fuel : Nat) (rest : List Token),
    (toks t).length ≤ fuel + 1 → opFrom fuel false (toks t ++ rest) = .ok (t, rest) := by
  intro t
  induction t using Node.ind with
  | not n ih =>
    intro h fuel rest hf
    rw [WF] at h
    by_cases hn : n.isNot = true
    · -- `!( <negation> )`
      simp only [toks, hn, if_true, List.cons_append, List.append_assoc, List.length_cons,
        List.length_append, List.length_nil] at hf ⊢
      have hop : ∀ r, parseOperation fuel (toks n ++ r) = .ok (n, r) :=
        parseOperation_of_opFrom_toks (ih h) (by omega)
      rw [opFrom_not]
      exact opFrom_paren fuel true
        (parseOrWith_single _ fuel n (fun r e => by cases e) (fun r e => by cases e) hop)
    · have hn' : n.isNot = false := Bool.eq_false_iff.2 hn
      simp only [toks, hn', Bool.false_eq_true, if_false, List.cons_append, List.length_cons] at hf ⊢
      rw [opFrom_not, opFrom, stripNots_toks hn']
      have := ih h fuel rest (Nat.le_of_succ_le hf)
      rw [opFrom, stripNots_toks hn'] at this
      cases hc : opCore fuel (toks n ++ rest) with
      | error e => rw [hc] at this; cases this
      | ok p =>
        rw [hc] at this
        have e : p = (n, rest) := Except.ok.inj this
        subst e; rfl
  | and ns ih =>
    intro h fuel rest hf
    simp only [WF, wfList_iff] at h
    simp only [toks, List.length_cons, List.length_append, List.length_nil] at hf
    have hlen := length_le_joinToks .and ns
    have hop : ∀ n ∈ ns, ∀ r, parseOperation fuel (toks n ++ r) = .ok (n, r) := fun n hn =>
      parseOperation_of_opFrom_toks (ih n hn (h.2 n hn)) (by have := toks_length_le_joinToks .and ns n hn; omega)
    rw [toks, List.cons_append, List.append_assoc]
    exact opFrom_paren fuel false (parseOrWith_andGroup _ fuel ns rest h.1 (by omega) hop)
  | or ns ih =>
    intro h fuel rest hf
    simp only [WF, wfList_iff] at h
    simp only [toks, List.length_cons, List.length_append, List.length_nil] at hf
    have hlen := length_le_joinToks .or ns
    have hop : ∀ n ∈ ns, ∀ r, parseOperation fuel (toks n ++ r) = .ok (n, r) := fun n hn =>
      parseOperation_of_opFrom_toks (ih n hn (h.2 n hn)) (by have := toks_length_le_joinToks .or ns n hn; omega)
    rw [toks, List.cons_append, List.append_assoc]
    exact opFrom_paren fuel false (parseOrWith_orGroup _ fuel ns rest h.1 (by omega) hop)
  | inSet l vs | notInSet l vs =>
    intro h fuel rest _
    rw [toks, List.append_assoc, List.append_assoc]
    simp only [opFrom, stripNots, List.cons_append, List.nil_append, opCore, parseLabelOp,
      parseSetValues_setToks, convertToStringSet_of_strictSorted h.2.2, wrapNot, Bool.false_eq_true, if_false]
  | _ => intros; rfl

theorem parseOperation_toks (t : Node) (h : WF t) (fuel : Nat) (rest : List Token)
    (hf : (toks t).length ≤ fuel) : parseOperation fuel (toks t ++ rest) = .ok (t, rest) :=
  parseOperation_of_opFrom_toks (opFrom_toks t h) hf rest

theorem parseOrExpression_toks (t : Node) (h : WF t) :
    parseOrExpression (toks t ++ [Token.eof]).length (toks t ++ [Token.eof]) = .ok (t, [Token.eof]) := by
  exact parseOrWith_single _ _ t (fun r e => by cases e) (fun r e => by cases e) fun r =>
    parseOperation_toks t h _ r (by simp)

end CalicoVerif.C06
