import CalicoVerif.Proofs.C11Asm
/-!
C11 — every jump the assembler resolves is forward, within int16 range, and
lands inside the program (or exactly at its end).
-/
namespace CalicoVerif.C11

def offsetJump (i : Insn) : Bool := i.isJumpOp && i.op != opCall && i.op != opExit

/-- All offset-jumps of the program are forward, ≤ 32767 and stay within the program. -/
def JumpsOK : List Insn → Prop
  | [] => True
  | i :: rest => (offsetJump i = true → 0 ≤ i.off ∧ i.off ≤ 32767 ∧ i.off.toNat ≤ rest.length) ∧ JumpsOK rest

/-- The builder adds jumps only through `addWithOffsetFixup` (`Ev.jmp`). -/
def InsPlain (evs : List Ev) : Prop := ∀ i, Ev.ins i ∈ evs → offsetJump i = false

/-- **Jumps forward and in range**, for every assembled event list whose plain
instructions are not offset-jumps. -/
theorem asm_jumps_ok :
    ∀ (evs : List Ev) (last : Option Insn) (pend use : List Label) (prog : List Insn),
      InsPlain evs → asmGo evs last pend use = some prog → JumpsOK prog := by
  intro evs
  induction evs with
  | nil => intro last pend use prog _ ha; simp [asmGo] at ha; subst ha; trivial
  | cons e es ih =>
    intro last pend use prog hp ha
    have hp' : InsPlain es := fun i hi => hp i (List.mem_cons_of_mem _ hi)
    cases e with
    | label l =>
      simp only [asmGo] at ha
      exact ih last (l :: pend) use prog hp' ha
    | ins j =>
      by_cases hr : reachable last pend use = true
      · obtain ⟨p1, ha1, rfl⟩ := asmGo_ins hr ha
        refine ⟨?_, ih (some j) [] use p1 hp' ha1⟩
        intro hj
        rw [hp j (List.mem_cons_self)] at hj
        cases hj
      · simp only [asmGo, if_neg hr] at ha
        exact ih last [] use prog hp' ha
    | jmp j l =>
      by_cases hr : reachable last pend use = true
      · obtain ⟨d, p1, hd, hbig, ha1, rfl⟩ := asmGo_jmp hr ha
        refine ⟨?_, ih (some j) [] (l :: use) p1 hp' ha1⟩
        intro _
        have hle := (asm_drop_dist es (some j) [] (l :: use) d p1 hd ha1).1
        simp only [maxInt16] at hbig
        refine ⟨by simp, by simp only; omega, by simpa using hle⟩
      · simp only [asmGo, if_neg hr] at ha
        exact ih last [] use prog hp' ha

end CalicoVerif.C11
