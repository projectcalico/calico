import CalicoVerif.Proofs.C11ChainGlue
import CalicoVerif.Proofs.C11Prog
/-!
C11 — the simulation invariant `GA` for the builder's output, backwards from the footer.

`GA` holds of the footer (`GA.footer`, exposed labels `verdictLabels`); everything before it is prepended.
`GT env st xdp nmax c c' E F` says that the fragment `F` can be prepended: to ANY suffix `S` with
`GA … E c' S` it gives `GA … E c (F ++ S)` — carry `c` before `F`, `c'` behind it, `E` the labels behind `F` that `F`
(and what precedes it) may jump to. `GT` is a small algebra: `GT.nil`, `GT.append`, `GT.flatMap`, `GT.ite_nil`;
`GT.scope l hl h1 h2` for "`F1`, the definition of `l`, `F2`" where only `F1` jumps to `l` (`h1` is proved with `l`
added to `E`; the label must be `bodyish`, that is no footer label: `GA.label` needs `vOf l = none`, and the callers
build the `EOK` of the larger set by `EOK.cons`); the leaves come from the `Decides`/`Guard` lemmas of the fragments
through `GT.ofDecides` (`GA.piece` as a `GT`: it asks `Live`, `MayFall` if control may fall through, and for a jump
target a jump to it in the fragment and the target in `E`) and its instances `GT.ofGuard`/`GT.ofHit`/`GT.jmp`, and
`GT.marker0` for a `maybeSplitProgram` call site without reload. Two conditions on `E` are threaded through the walk:
`EOK` (what `GA.marker` asks) and `NoPart` — no `rulePart` label is exposed (a `cidrEnd` label may be, inside a CIDR
test: this is not `Label.isPart`). The rest of the file walks the builder: one `GT.*` per builder function,
`GT.workload` and `GT.host` last; `GA.wholeBody` (`C11ChainTop`) applies them to `GA.footer`.
Smallest example: `GT.jmp`, then `GT.ruleEnd`.
-/
namespace CalicoVerif.C11

theorem GA.drop {env : Env} {st : List Byte} {xdp : Bool} {nmax : Nat} {E : List Label} {c : Carry} {S : List BEv}
    (h : GA env st xdp nmax E .none S) : GA env st xdp nmax E c S :=
  ⟨fun s hr hn hsb mC mF hC hF => h.start s hr hn hsb mC mF hC.drop hF.drop, h.lab, h.foot⟩

def verdictLabels (xdp : Bool) : List Label := [.deny, .allow] ++ (if xdp then [.xdpPass] else [])

theorem mem_verdictLabels {xdp : Bool} {l : Label} :
    l ∈ verdictLabels xdp ↔ ∃ V, vOf l = some V ∧ (l = .xdpPass → xdp = true) := by
  cases xdp <;> cases l <;> simp [verdictLabels, vOf]

theorem GA.footer (env : Env) (st : List Byte) (xdp : Bool) (nmax : Nat) :
    GA env st xdp nmax (verdictLabels xdp) .none ((footerEvs env.c xdp).map BEv.ev) := by
  have hc : ∀ s, cont env.c xdp ((footerEvs env.c xdp).map BEv.ev) s = (footerEvs env.c xdp, []) := by
    intro s
    have := cont_evs env.c xdp [] (footerEvs env.c xdp) s
    simpa [cont] using this
  have hf : flat ((footerEvs env.c xdp).map BEv.ev) = footerEvs env.c xdp := flat_map_ev _
  have hmem := fun l => (mem_verdictLabels (xdp := xdp) (l := l)).1
  have hout := footer_out env st xdp
  refine ⟨?_, ?_, ?_⟩
  · intro s _ _ _ mC mF hC hF
    rw [hc, hf]
    have e : ∀ m, lrun env (footerEvs env.c xdp) m = goto env .deny (footerEvs env.c xdp) m := by
      intro m; rw [footerEvs_eq, lrun_label, goto_label_self]
    rw [e mC, e mF]
    obtain ⟨h1, h2⟩ := hout .deny .deny rfl (by intro e; cases e) mC hC.inv
    obtain ⟨_, h4⟩ := hout .deny .deny rfl (by intro e; cases e) mF hF.inv
    rw [chainK_final env _ _ _ h1]
    exact (Both.ofLabel (l := .deny) rfl nofun h2 h4).weaken
  · intro s l hl _ _ _ _ mC mF hC hF
    rw [hc, hf]
    obtain ⟨V, hV, hx⟩ := hmem l hl
    obtain ⟨h1, h2⟩ := hout l V hV hx mC hC
    obtain ⟨_, h4⟩ := hout l V hV hx mF hF
    rw [chainK_final env _ _ _ h1]
    exact Both.ofLabel hV hx h2 h4
  · intro l hl V hV mF hF
    rw [hf]
    obtain ⟨V', hV', hx⟩ := hmem l hl
    rw [hV] at hV'; cases hV'
    exact (hout l V hV hx mF hF).2

/-- Exposed sets the call-site lemma accepts. -/
structure EOK (xdp : Bool) (E : List Label) : Prop where
  xdp : Label.xdpPass ∈ E → xdp = true
  exit : Label.exit ∉ E
  np : Label.nextProgram ∉ E

theorem bodyish_vOf {l : Label} (h : l.bodyish = true) : vOf l = none := by
  cases l <;> first | rfl | cases h

theorem EOK.cons {xdp : Bool} {E : List Label} (h : EOK xdp E) {l : Label} (hl : l.bodyish = true) : EOK xdp (l :: E) := by
  have hne : Label.xdpPass ≠ l ∧ Label.exit ≠ l ∧ Label.nextProgram ≠ l := by
    refine ⟨?_, ?_, ?_⟩ <;> rintro rfl <;> cases hl
  exact ⟨fun hm => h.xdp ((List.mem_cons.1 hm).resolve_left hne.1),
    fun hm => h.exit ((List.mem_cons.1 hm).resolve_left hne.2.1),
    fun hm => h.np ((List.mem_cons.1 hm).resolve_left hne.2.2)⟩

section
variable {env : Env} {st : List Byte} {xdp : Bool} {nmax : Nat}

def GT (env : Env) (st : List Byte) (xdp : Bool) (nmax : Nat) (c c' : Carry) (E : List Label) (F : List BEv) : Prop :=
  ∀ S, GA env st xdp nmax E c' S → GA env st xdp nmax E c (F ++ S)

theorem GT.nil (c : Carry) (E : List Label) : GT env st xdp nmax c c E [] := fun _ h => h

/-- An optional criterion: nothing is written when the rule does not have it. -/
theorem GT.ite_nil {c : Carry} {E : List Label} {b : Prop} [Decidable b] {n : Nat} {X : List BEv × Nat}
    (h : GT env st xdp nmax c c E X.1) : GT env st xdp nmax c c E (if b then ([], n) else X).1 :=
  ite_nil_ind (GT.nil _ _) h

theorem GT.append {c c1 c' : Carry} {E : List Label} {F1 F2 : List BEv}
    (h1 : GT env st xdp nmax c c1 E F1) (h2 : GT env st xdp nmax c1 c' E F2) : GT env st xdp nmax c c' E (F1 ++ F2) := by
  intro S h
  rw [List.append_assoc]
  exact h1 _ (h2 S h)

theorem GT.weakenPost {c c' : Carry} {E : List Label} {F : List BEv} (h : GT env st xdp nmax c c' E F) :
    GT env st xdp nmax c .none E F := fun S hS => h S hS.drop

theorem GT.strengthenPre {c c' : Carry} {E : List Label} {F : List BEv} (h : GT env st xdp nmax .none c' E F) :
    GT env st xdp nmax c c' E F := fun S hS => (h S hS).drop

theorem GT.ofDecides {E : List Label} {pre post : Carry} (B : List Ev) (t : Option Label)
    (hd : DecidesC env st pre post B t) (hlive : Live B = true) (hfall : t = none → MayFall B = true)
    (htgt : ∀ l, t = some l → (∃ i, Ev.jmp i l ∈ B) ∧ l ∈ E) :
    GT env st xdp nmax pre post E (B.map BEv.ev) :=
  fun _ h => GA.piece B t hd hlive hfall htgt h

theorem GT.ofGuard {E : List Label} (B : List Ev) (L : Label) {b : Bool} (hg : Guard env st L B b)
    (hlive : Live B = true) (hfall : MayFall B = true) (hj : ∃ i, Ev.jmp i L ∈ B) (hl : L ∈ E) :
    GT env st xdp nmax .none .none E (B.map BEv.ev) :=
  GT.ofDecides B _ ((guard_iff.1 hg).toC .none) hlive (fun _ => hfall) fun l e => by
    cases b <;> cases e; exact ⟨hj, hl⟩

theorem GT.ofHit {E : List Label} (B : List Ev) (P : Label) {b : Bool}
    (hd : Decides env st B (if b then some P else none))
    (hlive : Live B = true) (hfall : MayFall B = true) (hj : ∃ i, Ev.jmp i P ∈ B) (hl : P ∈ E) :
    GT env st xdp nmax .none .none E (B.map BEv.ev) :=
  GT.ofDecides B _ (hd.toC .none) hlive (fun _ => hfall) fun l e => by
    cases b <;> cases e; exact ⟨hj, hl⟩

theorem GT.jmp {E : List Label} (l : Label) (hl : l ∈ E) :
    GT env st xdp nmax .none .none E [BEv.ev (jump l)] :=
  GT.ofDecides [jump l] (some l) ((Decides.jump env st l).toC .none) rfl nofun fun _ e => by
    cases e; exact ⟨⟨_, .head _⟩, hl⟩

theorem GT.marker0 {E : List Label} (he : ChainEnv env nmax) (hE : EOK xdp E) (c : Carry) :
    GT env st xdp nmax c .none E [BEv.maybeSplit []] := by
  intro S h
  exact GA.marker he [] ((Decides.nil env st).toC .none) rfl rfl (Or.inl rfl) hE.xdp hE.exit hE.np h

theorem GT.flatMap {α : Type} {E : List Label} (f : α → List BEv) (l : List α)
    (h : ∀ x ∈ l, GT env st xdp nmax .none .none E (f x)) : GT env st xdp nmax .none .none E (l.flatMap f) := by
  induction l with
  | nil => exact GT.nil _ _
  | cons x xs ih =>
    rw [List.flatMap_cons]
    exact (h x (by simp)).append (ih (fun y hy => h y (by simp [hy])))

/-- A label of the policy body and the code that may jump to it: `F1` sees `l` exposed, what follows the
definition of `l` does not. -/
theorem GT.scope {c c' : Carry} {E : List Label} {F1 F2 : List BEv} (l : Label) (hl : l.bodyish = true)
    (h1 : GT env st xdp nmax c .none (l :: E) F1) (h2 : GT env st xdp nmax .none c' E F2) :
    GT env st xdp nmax c c' E (F1 ++ BEv.ev (.label l) :: F2) := by
  intro S hS
  rw [List.append_assoc]
  exact (h1 _ (GA.label l (bodyish_vOf hl) (h2 S hS).drop)).mono fun _ hm => List.mem_cons_of_mem _ hm

theorem GT.proto {E : List Label} (rid : Nat) (neg : Bool) (o : Option Proto)
    (ho : ∀ pr, o = some pr → ProtoOK pr) (hl : Label.ruleNoMatch rid ∈ E) :
    GT env st xdp nmax .none .none E ((optList o (protoMatch rid neg)).map BEv.ev) := by
  cases o with
  | none => exact GT.nil _ _
  | some pr =>
    refine GT.ofGuard _ (.ruleNoMatch rid) (guard_proto env st rid neg pr (ho pr rfl)) ?_ ?_ ?_ hl <;>
      cases neg <;> first | rfl | exact ⟨_, .tail _ (.head _)⟩

theorem GT.icmp {E : List Label} (hc : SetCtx env st) (rid : Nat) (neg : Bool) (ic : Icmp)
    (hl : Label.ruleNoMatch rid ∈ E) :
    GT env st xdp nmax .none .none E ((icmpMatch rid neg ic).map BEv.ev) := by
  cases ic with
  | none => exact GT.nil _ _
  | type t =>
    refine GT.ofGuard _ (.ruleNoMatch rid) (guard_icmp env st rid neg (.type t) hc.len) ?_ ?_ ?_ hl <;>
      cases neg <;> first | rfl | exact ⟨_, .tail _ (.head _)⟩
  | typeCode t c' =>
    refine GT.ofGuard _ (.ruleNoMatch rid) (guard_icmp env st rid neg (.typeCode t c') hc.len) ?_ ?_ ?_ hl <;>
      cases neg <;> first | rfl | exact ⟨_, .tail _ (.head _)⟩

theorem all_lookup (c : Cfg) (id : Nat) (leg : Leg) :
    (ipSetLookup c id leg).all (fun e => !e.isLabel && !e.uncond) = true := by
  cases hv : c.v6
  · rw [ipSetLookup_eq c id leg hv]; rfl
  · rw [ipSetLookup_eq6 c id leg hv]; rfl

theorem live_lookup_jmp (c : Cfg) (id : Nat) (leg : Leg) (i : Insn) (l : Label)
    (hi : (i.op == opJumpA || i.op == opExit) = false) :
    Live (ipSetLookup c id leg ++ [.jmp i l]) = true ∧ MayFall (ipSetLookup c id leg ++ [.jmp i l]) = true :=
  live_of_all _ (by rw [List.all_append, all_lookup]; simp [Ev.isLabel, Ev.uncond, hi])

theorem GT.ipSetTest {E : List Label} (hc : SetCtx env st) (P : Label) (leg : Leg) (id : Nat) (hid : id < 2 ^ 64)
    (hP : P ∈ E) :
    GT env st xdp nmax .none .none E ((ipSetLookup env.c id leg ++ [jumpNEImm64 R0 0 P]).map BEv.ev) :=
  have hl' := live_lookup_jmp env.c id leg ⟨opJumpNEImm64, 0, 0, 0, 0⟩ P (by decide)
  GT.ofHit _ P (decides_ipset_test env st hc P leg id hid) hl'.1 hl'.2 ⟨_, List.mem_append_right _ (.head _)⟩ hP

theorem GT.sets {E : List Label} (hc : SetCtx env st) (rid : Nat) (neg : Bool) (leg : Leg) (ids : List Nat)
    (hids : ∀ id ∈ ids, id < 2 ^ 64) (hl : Label.ruleNoMatch rid ∈ E) :
    GT env st xdp nmax .none .none E ((ipSetMatch env.c rid neg leg ids).map BEv.ev) := by
  unfold ipSetMatch
  rw [List.map_flatMap]
  refine GT.flatMap _ _ (fun id hid => ?_)
  cases neg
  · have hl' := live_lookup_jmp env.c id leg ⟨opJumpEqImm64, 0, 0, 0, 0⟩ (.ruleNoMatch rid) (by decide)
    exact GT.ofGuard _ (.ruleNoMatch rid) (guard_ipset1 env st hc (.ruleNoMatch rid) false leg id (hids id hid))
      hl'.1 hl'.2 ⟨_, List.mem_append_right _ (.head _)⟩ hl
  · exact GT.ipSetTest hc (.ruleNoMatch rid) leg id (hids id hid) hl

theorem GT.ipSetTests {E : List Label} (hc : SetCtx env st) (P : Label) (leg : Leg) (ids : List Nat)
    (hids : ∀ id ∈ ids, id < 2 ^ 64) (hl : P ∈ E) :
    GT env st xdp nmax .none .none E
      ((ids.flatMap (fun id => ipSetLookup env.c id leg ++ [jumpNEImm64 R0 0 P])).map BEv.ev) := by
  rw [List.map_flatMap]
  exact GT.flatMap _ _ (fun id hid => GT.ipSetTest hc P leg id (hids id hid) hl)

theorem GT.positive {E : List Label} (rid : Nat) (P : Label) (hP : P.bodyish = true) (T : List BEv)
    (hl : Label.ruleNoMatch rid ∈ E)
    (hT : GT env st xdp nmax .none .none (P :: E) T) :
    GT env st xdp nmax .none .none E (T ++ [BEv.ev (jump (.ruleNoMatch rid)), BEv.ev (.label P)]) := by
  have := GT.scope P hP (hT.append (GT.jmp (.ruleNoMatch rid) (List.mem_cons_of_mem P hl))) (GT.nil .none E)
  simpa using this

theorem GT.setOr {E : List Label} (hc : SetCtx env st) (rid part : Nat) (leg : Leg) (ids : List Nat)
    (hids : ∀ id ∈ ids, id < 2 ^ 64) (hl : Label.ruleNoMatch rid ∈ E) :
    GT env st xdp nmax .none .none E ((ipSetOrMatch env.c rid part leg ids).1.map BEv.ev) := by
  unfold ipSetOrMatch
  simp only [List.map_append, List.map_cons, List.map_nil]
  exact GT.positive rid (.rulePart rid part) rfl _ hl
    (GT.ipSetTests hc (.rulePart rid part) leg ids hids List.mem_cons_self)

/-- The loop of `writeCIDRSMatch`: a call site before every CIDR test. -/
theorem GT.cidrTests {E : List Label} (he : ChainEnv env nmax) (hE : EOK xdp E) (v6 : Bool) (leg : Leg)
    (rid : Nat) (P : Label)
    (htest : ∀ n idx, GT env st xdp nmax .none .none E
      ((if v6 then cidrV6 leg rid idx P n else cidrV4 leg P n).map BEv.ev)) (nets : List Net) (idx : Nat) :
    GT env st xdp nmax .none .none E (cidrLoop v6 leg rid P nets idx) :=
  cidrLoop_ind (GT.nil _ _) GT.append v6 leg rid P (GT.marker0 he hE .none) htest nets idx

theorem GT.cidr4 {E : List Label} (leg : Leg) (P : Label) (n : Net) (hP : P ∈ E) :
    GT env st xdp nmax .none .none E ((cidrV4 leg P n).map BEv.ev) :=
  GT.ofHit _ P (decides_cidrV4 env st P leg n) rfl rfl ⟨_, .tail _ (.tail _ (.tail _ (.head _)))⟩ hP

theorem GT.sec6 {E : List Label} (leg : Leg) (rid idx : Nat) (n : Net) (s : Nat) (hs : s ≤ 3)
    (hE : Label.cidrEnd rid idx ∈ E) :
    GT env st xdp nmax .none .none E ((secNE leg rid idx n s).map BEv.ev) :=
  GT.ofGuard _ (.cidrEnd rid idx) (guard_secNE6 env st leg rid idx n s hs) rfl rfl
    ⟨_, List.mem_append_right _ (.head _)⟩ hE

theorem GT.fin6 {E : List Label} (leg : Leg) (rid idx : Nat) (P : Label) (n : Net) (k : Nat) (hk : k ≤ 3)
    (hP : P ∈ E) (hE : Label.cidrEnd rid idx ∈ E) :
    GT env st xdp nmax .none .none E ((finB leg rid idx P n k).map BEv.ev) := by
  by_cases h3 : k = 3
  · have e : finB leg rid idx P n k = sec3 (leg.ipo + 4 * k) (secM n k) ++
        [jumpEqImm32 R2 (rev32bv (secA n k &&& secM n k)).toInt P] := by simp [finB, h3, secImm]
    rw [e]
    exact GT.ofHit _ P (decides_fin3 env st _ (leg.off6_le k hk) (leg.off6_stable k hk) (secM n k) (secA n k) P)
      rfl rfl ⟨_, List.mem_append_right _ (.head _)⟩ hP
  · have e : finB leg rid idx P n k = sec3 (leg.ipo + 4 * k) (secM n k) ++
        [jumpNEImm32 R2 (rev32bv (secA n k &&& secM n k)).toInt (.cidrEnd rid idx),
         jumpEqImm32 R2 (rev32bv (secA n k &&& secM n k)).toInt P] := by simp [finB, h3, secImm]
    rw [e]
    have hd := decides_finNE env st _ (leg.off6_le k hk) (leg.off6_stable k hk) (secM n k) (secA n k) P (.cidrEnd rid idx)
    refine GT.ofDecides _ _ (hd.toC .none) rfl ?_ ?_
    · intro e'; split at e' <;> cases e'
    · intro l e'
      split at e' <;> cases e'
      · exact ⟨⟨_, List.mem_append_right _ (.tail _ (.head _))⟩, hP⟩
      · exact ⟨⟨_, List.mem_append_right _ (.head _)⟩, hE⟩

theorem GT.cidr6 {E : List Label} (leg : Leg) (rid idx : Nat) (P : Label) (n : Net) (hP : P ∈ E) :
    GT env st xdp nmax .none .none E ((cidrV6 leg rid idx P n).map BEv.ev) := by
  have hP' : P ∈ Label.cidrEnd rid idx :: E := List.mem_cons_of_mem _ hP
  have hE' : Label.cidrEnd rid idx ∈ Label.cidrEnd rid idx :: E := List.mem_cons_self
  have fin := fun k hk => GT.fin6 (env := env) (st := st) (xdp := xdp) (nmax := nmax) leg rid idx P n k hk hP' hE'
  have ne := fun s hs => GT.sec6 (env := env) (st := st) (xdp := xdp) (nmax := nmax) (E := Label.cidrEnd rid idx :: E)
    leg rid idx n s hs hE'
  have close : ∀ {F : List BEv}, GT env st xdp nmax .none .none (Label.cidrEnd rid idx :: E) F →
      GT env st xdp nmax .none .none E (F ++ [BEv.ev (.label (.cidrEnd rid idx))]) :=
    fun h => GT.scope (.cidrEnd rid idx) rfl h (GT.nil .none E)
  rw [cidrV6_eq]
  by_cases c1 : mask128Word n.pfx 1 = 0
  · simpa only [c1, if_true, secFin_eq, List.map_append, List.map_cons, List.map_nil] using close (fin 0 (by omega))
  · by_cases c2 : mask128Word n.pfx 2 = 0
    · simpa only [c1, c2, if_true, if_false, secFin_eq, List.map_append, List.map_cons, List.map_nil, List.append_assoc]
        using close ((ne 0 (by omega)).append (fin 1 (by omega)))
    · by_cases c3 : mask128Word n.pfx 3 = 0
      · simpa only [c1, c2, c3, if_true, if_false, secFin_eq, List.map_append, List.map_cons, List.map_nil,
          List.append_assoc] using close ((ne 0 (by omega)).append ((ne 1 (by omega)).append (fin 2 (by omega))))
      · simpa only [c1, c2, c3, if_false, secFin_eq, List.map_append, List.map_cons, List.map_nil, List.append_assoc]
          using close ((ne 0 (by omega)).append ((ne 1 (by omega)).append ((ne 2 (by omega)).append (fin 3 (by omega)))))

/-- `writeCIDRSMatch`. -/
theorem GT.cidrs {E : List Label} (he : ChainEnv env nmax) (hE : EOK xdp E) (v6 : Bool)
    (rid part : Nat) (neg : Bool) (leg : Leg) (nets : List Net) (hl : Label.ruleNoMatch rid ∈ E) :
    GT env st xdp nmax .none .none E (cidrsMatch v6 rid part neg leg nets).1 := by
  have loop : ∀ (E' : List Label), EOK xdp E' → ∀ P, P ∈ E' →
      GT env st xdp nmax .none .none E' (cidrLoop v6 leg rid P nets 0) := fun E' hE' P hP =>
    GT.cidrTests he hE' v6 leg rid P (fun n idx => by
      cases v6
      · exact GT.cidr4 leg P n hP
      · exact GT.cidr6 leg rid idx P n hP) nets 0
  cases neg
  · simp only [cidrsMatch, Bool.false_eq_true, if_false]
    exact GT.positive rid (.rulePart rid part) rfl _ hl (loop _ (hE.cons rfl) _ List.mem_cons_self)
  · simp only [cidrsMatch, if_true]
    exact loop E hE _ hl

theorem decidesC_loadPort (leg : Leg) :
    DecidesC env st .none (.port leg) [load16 R1 R9 leg.portOff] none := by
  intro rest m hI
  obtain ⟨_, m', ⟨rfl, hS⟩, e⟩ := (Line.ldxField (env := env) opLoadReg16 1 leg.pto 2 LdOp.h (by omega) leg.pto_le
    leg.pto_stable) rest m (Sees.ofInv hI.inv)
  refine ⟨m', hS.inv, fun _ => ⟨hS.inv, fun leg' e' => by cases e'; exact hS.reg 1 _ rfl⟩, ?_⟩
  simpa only [load16, mk, R1, R9, leg.portOff_eq, resume] using e

theorem live_loadPort (leg : Leg) : Live [load16 R1 R9 leg.portOff] = true ∧ MayFall [load16 R1 R9 leg.portOff] = true :=
  ⟨rfl, rfl⟩

theorem decidesC_portHere (leg : Leg) (rid : Nat) (P : Label) (pr : PortRange) (part : Nat) (hok : PortOK pr)
    (hne : P ≠ .rulePart rid part) :
    ∃ b : Bool, DecidesC env st (.port leg) (.port leg) (portHere rid P pr part).1 (if b then some P else none) := by
  have hv : fieldN st leg.pto 2 < 65536 := by have := fieldN_lt st leg.pto 2; omega
  refine ⟨portInNat (fieldN st leg.pto 2) pr, fun rest m hI => ⟨m, hI.inv, fun _ => hI, ?_⟩⟩
  rw [lrun_portHere env rid P _ hv pr part rest m hok (hI.2 leg rfl) hne]
  cases portInNat (fieldN st leg.pto 2) pr <;> rfl

theorem portHere_piece (rid : Nat) (P : Label) (pr : PortRange) (part : Nat) :
    ∃ (B : List Ev) (Ls : List Label), (portHere rid P pr part).1 = B ++ Ls.map Ev.label ∧ Live B = true ∧
      MayFall B = true ∧ (∃ i, Ev.jmp i P ∈ B) ∧ ∀ L ∈ Ls, L = .rulePart rid part := by
  unfold portHere
  split
  · exact ⟨[_], [], rfl, rfl, rfl, ⟨_, .head _⟩, nofun⟩
  · split
    · exact ⟨[_, _], [_], rfl, rfl, rfl, ⟨_, .tail _ (.head _)⟩, by simp⟩
    · exact ⟨[_], [], rfl, rfl, rfl, ⟨_, .head _⟩, nofun⟩

theorem GT.portRounds {E : List Label} (he : ChainEnv env nmax) (hE : EOK xdp E) (leg : Leg)
    (rid : Nat) (P : Label) (hP : P ∈ E) :
    ∀ (ports : List PortRange) (part : Nat), (∀ r ∈ ports, PortOK r) →
      (∀ k, part ≤ k → P ≠ .rulePart rid k) → (∀ k, part ≤ k → Label.rulePart rid k ∉ E) →
      GT env st xdp nmax (.port leg) (.port leg) E (portLoop rid leg P ports part).1 := by
  intro ports
  induction ports with
  | nil => intro part _ _ _; exact GT.nil _ _
  | cons pr rs ih =>
    intro part hok hne hpriv
    rw [(portLoop_cons rid leg P pr rs part).1]
    have hpp := portHere_snd_le rid P pr part
    have hrest := ih (portHere rid P pr part).2 (fun r hr => hok r (List.mem_cons_of_mem _ hr))
      (fun k hk => hne k (by omega)) (fun k hk => hpriv k (by omega))
    have hmark : GT env st xdp nmax (.port leg) (.port leg) E [BEv.maybeSplit [load16 R1 R9 leg.portOff]] := by
      intro S h
      exact GA.marker he _ (decidesC_loadPort leg) (live_loadPort leg).1 (live_loadPort leg).2 (Or.inr rfl)
        hE.xdp hE.exit hE.np h
    refine GT.append ?_ (hmark.append hrest)
    obtain ⟨b, hd⟩ := decidesC_portHere (env := env) (st := st) leg rid P pr part (hok pr List.mem_cons_self) (hne part (Nat.le_refl _))
    obtain ⟨B, Ls, e, hlive, hfall, hj, hLs⟩ := portHere_piece rid P pr part
    intro S h
    rw [e] at hd ⊢
    refine GA.pieceL B Ls _ hd hlive (fun _ => hfall) ?_
      (fun L hL => by rw [hLs L hL]; exact hpriv part (Nat.le_refl _)) h
    intro l e'
    cases b <;> simp at e'
    subst e'
    exact ⟨hj, hP⟩

/-- No `rulePart` label is exposed (they are all private to their criterion). -/
def NoPart (E : List Label) : Prop := ∀ r k, Label.rulePart r k ∉ E

theorem NoPart.cons {E : List Label} (h : NoPart E) {l : Label} (hl : ∀ r k, l ≠ .rulePart r k) : NoPart (l :: E) := by
  intro r k hm
  rcases List.mem_cons.1 hm with e | e
  · exact hl r k e.symm
  · exact h r k e

theorem GT.named {E : List Label} (he : ChainEnv env nmax) (hc : SetCtx env st) (hE : EOK xdp E) (P : Label) (leg : Leg)
    (named : List Nat) (hids : ∀ id ∈ named, id < 2 ^ 64) (hP : P ∈ E) :
    GT env st xdp nmax .none .none E
      (named.flatMap (fun id => BEv.maybeSplit [] :: (ipSetLookup env.c id leg ++ [jumpNEImm64 R0 0 P]).map BEv.ev)) :=
  GT.flatMap _ _ (fun id hid => (GT.marker0 he hE .none).append (GT.ipSetTest hc P leg id (hids id hid) hP))

theorem GT.portTests {E : List Label} (he : ChainEnv env nmax) (hc : SetCtx env st) (hE : EOK xdp E) (leg : Leg)
    (rid : Nat) (P : Label) (hP : P ∈ E) (ports : List PortRange) (named : List Nat) (part : Nat)
    (hok : ∀ r ∈ ports, PortOK r) (hids : ∀ id ∈ named, id < 2 ^ 64)
    (hne : ∀ k, part ≤ k → P ≠ .rulePart rid k) (hpriv : ∀ k, part ≤ k → Label.rulePart rid k ∉ E) :
    GT env st xdp nmax .none .none E
      (BEv.ev (load16 R1 R9 leg.portOff) :: (portLoop rid leg P ports part).1 ++
        named.flatMap (fun id => BEv.maybeSplit [] :: (ipSetLookup env.c id leg ++ [jumpNEImm64 R0 0 P]).map BEv.ev)) := by
  have hload : GT env st xdp nmax .none (.port leg) E [BEv.ev (load16 R1 R9 leg.portOff)] :=
    GT.ofDecides [load16 R1 R9 leg.portOff] none (decidesC_loadPort leg) (live_loadPort leg).1
      (fun _ => (live_loadPort leg).2) nofun
  have e : (BEv.ev (load16 R1 R9 leg.portOff) :: (portLoop rid leg P ports part).1 ++
        named.flatMap (fun id => BEv.maybeSplit [] :: (ipSetLookup env.c id leg ++ [jumpNEImm64 R0 0 P]).map BEv.ev)) =
      [BEv.ev (load16 R1 R9 leg.portOff)] ++ ((portLoop rid leg P ports part).1 ++
        named.flatMap (fun id => BEv.maybeSplit [] :: (ipSetLookup env.c id leg ++ [jumpNEImm64 R0 0 P]).map BEv.ev)) := rfl
  rw [e]
  exact hload.append ((GT.portRounds he hE leg rid P hP ports part hok hne hpriv).append
    (GT.named he hc hE P leg named hids hP).strengthenPre)

/-- `writePortsMatch`. -/
theorem GT.ports {E : List Label} (he : ChainEnv env nmax) (hc : SetCtx env st) (hE : EOK xdp E) (hNP : NoPart E)
    (rid part : Nat) (neg : Bool) (leg : Leg) (ports : List PortRange) (named : List Nat)
    (hok : ∀ r ∈ ports, PortOK r) (hids : ∀ id ∈ named, id < 2 ^ 64) (hl : Label.ruleNoMatch rid ∈ E) :
    GT env st xdp nmax .none .none E (portsMatch env.c rid part neg leg ports named).1 := by
  cases neg
  · -- positive: match label `rulePart rid part`, private labels from `part + 1`
    have hT := GT.portTests (E := Label.rulePart rid part :: E) he hc (hE.cons rfl) leg rid (.rulePart rid part)
      List.mem_cons_self ports named (part + 1) hok hids
      (by intro k hk e; cases e; omega)
      (by intro k hk hm
          rcases List.mem_cons.1 hm with e | e
          · cases e; omega
          · exact hNP rid k e)
    have := GT.positive rid (.rulePart rid part) rfl _ hl hT
    exact this
  · have hT := GT.portTests (E := E) he hc hE leg rid (.ruleNoMatch rid) hl ports named part hok hids
      (by intro k _ e; cases e) (by intro k _; exact hNP rid k)
    simpa [portsMatch] using hT

theorem GT.matches {E : List Label} (he : ChainEnv env nmax) (hc : SetCtx env st) (hE : EOK xdp E) (hNP : NoPart E)
    (rid : Nat) (r : Rule) (hok : RuleOK r) (leg : Leg) (hl : Label.ruleNoMatch rid ∈ E) :
    GT env st xdp nmax .none .none E (ruleMatches env.c rid r leg) := by
  have i := hok.idsOK
  have q := hok.portsOK
  have cid := fun part neg leg nets => GT.ite_nil (b := nets.isEmpty) (n := part)
    (GT.cidrs (st := st) he hE env.c.v6 rid part neg leg nets hl)
  have prt := fun (b : Prop) [Decidable b] part neg leg ports named hq hi => GT.ite_nil (b := b) (n := part)
    (GT.ports he hc hE hNP rid part neg leg ports named hq hi hl)
  have h7 : GT env st xdp nmax .none .none E ((rmP7 env.c rid r leg).1.map BEv.ev) :=
    ite_nil_ind (P := fun F : List Ev => GT env st xdp nmax .none .none E (F.map BEv.ev)) (GT.nil _ _)
      (GT.setOr hc rid _ _ _ i.dst hl)
  rw [ruleMatches_eq]
  simp only [List.map_append]
  exact ((((((((((((((GT.proto rid false _ hok.proto hl).append (GT.proto rid true _ hok.notProto hl)).append
    (cid _ _ _ _)).append (cid _ _ _ _)).append (cid _ _ _ _)).append (cid _ _ _ _)).append
      ((GT.sets hc rid false _ _ i.src hl).append (GT.sets hc rid true _ _ i.notSrc hl))).append h7).append
    ((GT.sets hc rid true _ _ i.notDst hl).append (GT.sets hc rid false _ _ i.dstIpPort hl))).append (prt _ _ _ _ _ _ q.src i.srcNamed)).append
    (prt _ _ _ _ _ _ q.notSrc i.notSrcNamed)).append (prt _ _ _ _ _ _ q.dst i.dstNamed)).append (prt _ _ _ _ _ _ q.notDst i.notDstNamed)).append
    ((GT.icmp hc rid false _ hl).append (GT.icmp hc rid true _ hl)))

theorem live_record (id : Nat) (a : Label) :
    Live (recordRuleID id a ++ [jump a]) = true ∧ ∃ i, Ev.jmp i a ∈ recordRuleID id a ++ [jump a] :=
  ⟨rfl, _, List.mem_append_right _ (.head _)⟩

theorem live_log : Live logEvs = true ∧ MayFall logEvs = true := ⟨rfl, rfl⟩

/-- `writeEndOfRule` up to the no-match label it ends with. -/
theorem GT.ruleEnd {E : List Label} (id : Nat) (a : Label) (ha : a = .log ∨ a ∈ E) :
    GT env st xdp nmax .none .none E ((ruleEndEvs env.c id a).map BEv.ev) := by
  unfold ruleEndEvs
  by_cases hl : a = .log
  · rw [if_pos hl]
    exact GT.ofDecides logEvs none ((decides_log env st).toC .none) live_log.1 (fun _ => live_log.2) nofun
  · rw [if_neg hl]
    have ha' := ha.resolve_left hl
    by_cases hr : env.c.record = true
    · rw [if_pos hr]
      exact GT.ofDecides _ (some a) ((decides_record env st id a).toC .none) (live_record id a).1 nofun fun _ e => by
        cases e; exact ⟨(live_record id a).2, ha'⟩
    · rw [if_neg hr]
      exact GT.jmp a ha'

/-- `writeRule`: the call site, the match part, the end of the rule; the no-match label is private to them. -/
theorem GT.rule {E : List Label} (he : ChainEnv env nmax) (hc : SetCtx env st) (hE : EOK xdp E) (hNP : NoPart E)
    (rid : Nat) (r : Rule) (hok : RuleOK r) (a : Label) (leg : Leg) (ha : a = .log ∨ a ∈ E) :
    GT env st xdp nmax .none .none E (writeRule env.c rid r a leg).1 := by
  unfold writeRule
  cases hf : filterRule env.c.v6 r with
  | none => exact GT.marker0 he hE .none
  | some fr =>
    have hE' : EOK xdp (Label.ruleNoMatch rid :: E) := hE.cons rfl
    have hNP' : NoPart (Label.ruleNoMatch rid :: E) := hNP.cons (by intro r k e; cases e)
    have := GT.scope (.ruleNoMatch rid) rfl
      ((GT.marker0 he hE' .none).append ((GT.matches he hc hE' hNP' rid fr (hok.filter hf) leg List.mem_cons_self).append
        (GT.ruleEnd r.matchID a (ha.imp_right (List.mem_cons_of_mem _))))) (GT.nil .none E)
    simpa [endOfRule_split] using this

theorem GT.policies {E : List Label} (he : ChainEnv env nmax) (hc : SetCtx env st) (hE : EOK xdp E) (hNP : NoPart E)
    (lab : String → Label) (leg : Leg) :
    ∀ (ps : List Policy) (rid : Nat),
      (∀ pol ∈ ps, ∀ r ∈ pol.rules, RuleOK r ∧ (lab r.action = .log ∨ lab r.action ∈ E)) →
      GT env st xdp nmax .none .none E (writePolicies env.c lab leg ps rid).1 :=
  fun ps rid h => writePolicies_ind (GT.nil _ _) GT.append env.c lab leg ps rid fun pol hp r hr rid' =>
    GT.rule he hc hE hNP rid' r (h pol hp r hr).1 _ leg (h pol hp r hr).2

/-- `writeTiers`: a tier's policies and end-of-tier rule see its end-of-tier label, the later tiers do not. -/
theorem GT.tiers {E : List Label} (he : ChainEnv env nmax) (hc : SetCtx env st) (hE : EOK xdp E) (hNP : NoPart E)
    (leg : Leg) (al : Label) (hal : al ∈ E) (hd : Label.deny ∈ E) :
    ∀ (ts : List Tier) (rid tid : Nat), TiersGood ts →
      GT env st xdp nmax .none .none E (writeTiers env.c leg al ts rid tid).1
  | [], _, _, _ => GT.nil _ _
  | t :: ts, rid, tid, h => by
    have hE1 : EOK xdp (Label.endOfTier tid :: E) := hE.cons rfl
    have hNP1 : NoPart (Label.endOfTier tid :: E) := hNP.cons (by intro r k e; cases e)
    have hal1 := List.mem_cons_of_mem (Label.endOfTier tid) hal
    have hd1 := List.mem_cons_of_mem (Label.endOfTier tid) hd
    have h3 := GT.policies he hc hE1 hNP1 (tierActionLabel al tid) leg t.policies rid fun pol hp r hr =>
      ⟨(h t List.mem_cons_self pol hp r hr).2,
        tierLabel_in al tid r (h t List.mem_cons_self pol hp r hr).1 hal1 hd1 List.mem_cons_self⟩
    have h2 := GT.rule he hc hE1 hNP1 (writePolicies env.c (tierActionLabel al tid) leg t.policies rid).2
      { action := "", matchID := t.endRuleID } (RuleOK.empty _) (tierEndLabel t tid) leg
      (Or.inr (tierEndLabel_mem t tid hd1 List.mem_cons_self))
    rw [writeTiers_cons]
    exact GT.scope (.endOfTier tid) rfl (h3.append h2) (GT.tiers he hc hE hNP leg al hal hd ts
      (writeRule env.c (writePolicies env.c (tierActionLabel al tid) leg t.policies rid).2
        { action := "", matchID := t.endRuleID } (tierEndLabel t tid) leg).2 (tid + 1)
      (fun t' ht' => h t' (List.mem_cons_of_mem _ ht')))

/-- `writeProfiles`. -/
theorem GT.profiles {E : List Label} (he : ChainEnv env nmax) (hc : SetCtx env st) (hE : EOK xdp E) (hNP : NoPart E)
    (al : Label) (hal : al ∈ E) (hd : Label.deny ∈ E) (ps : List Policy) (noMatchID rid : Nat) (h : ProfsGood ps) :
    GT env st xdp nmax .none .none E (writeProfiles env.c al ps noMatchID rid).1 := by
  simp only [writeProfiles]
  refine GT.append ?_ (GT.rule he hc hE hNP _ _ (RuleOK.empty _) .deny .dest (Or.inr hd))
  exact GT.policies he hc hE hNP _ _ ps rid fun pol hp r hr =>
    ⟨(h pol hp r hr).2, profileLabel_in al r (h pol hp r hr).1 hal hd⟩

theorem GT.tofh {E : List Label} (l : Label) (hl : l ∈ E) :
    GT env st xdp nmax .none .none E ((jumpIfToOrFromHost l).map BEv.ev) :=
  GT.ofHit _ l (decides_tofh env st l) rfl rfl ⟨_, .tail _ (.tail _ (.head _))⟩ hl

theorem GT.workload {E : List Label} (he : ChainEnv env nmax) (hc : SetCtx env st) (hE : EOK xdp E) (hNP : NoPart E)
    (r : Rules) (rid tid : Nat) (ha : Label.allow ∈ E) (hd : Label.deny ∈ E)
    (hT : TiersGood r.tiers) (hP : ProfsGood r.profiles) :
    GT env st xdp nmax .none .none E (workloadPart env.c r rid tid) := by
  by_cases hh : r.forHostInterface = true
  · simp only [workloadPart, hh, if_true]
    exact GT.jmp .allow ha
  · rw [workloadPart_eq env.c r rid tid (by simpa using hh)]
    exact (GT.tiers he hc hE hNP .dest .allow ha hd r.tiers rid tid hT).append
      (GT.profiles he hc hE hNP .allow ha hd r.profiles _ _ hP)

/-- The host part ends with the definition of `allowed_by_host_policy`; where normal host policy is not suppressed,
`to_or_from_host` is defined in the middle and jumped to from before it only. -/
theorem GT.host {E : List Label} (he : ChainEnv env nmax) (hc : SetCtx env st) (hE : EOK xdp E) (hNP : NoPart E)
    (r : Rules) (hd : Label.deny ∈ E) (hx : r.forXDP = true → Label.xdpPass ∈ E)
    (hHP : TiersGood r.hostPreDnatTiers) (hHF : TiersGood r.hostForwardTiers) (hHN : TiersGood r.hostNormalTiers)
    (hPR : ProfsGood r.hostProfiles) :
    GT env st xdp nmax .none .none E (hostPart env.c r).1 := by
  have hE1 : EOK xdp (AHP :: E) := hE.cons rfl
  have hNP1 : NoPart (AHP :: E) := hNP.cons (by intro r k e; cases e)
  have hA1 : AHP ∈ AHP :: E := List.mem_cons_self
  have hd1 : Label.deny ∈ AHP :: E := List.mem_cons_of_mem _ hd
  have hE2 : EOK xdp (TOFH :: AHP :: E) := hE1.cons rfl
  have hNP2 : NoPart (TOFH :: AHP :: E) := hNP1.cons (by intro r k e; cases e)
  have hA2 : AHP ∈ TOFH :: AHP :: E := List.mem_cons_of_mem _ hA1
  have hd2 : Label.deny ∈ TOFH :: AHP :: E := List.mem_cons_of_mem _ hd1
  have close : ∀ {F : List BEv}, GT env st xdp nmax .none .none (AHP :: E) F →
      GT env st xdp nmax .none .none E (F ++ [BEv.ev (.label AHP)]) :=
    fun h => GT.scope AHP rfl h (GT.nil .none E)
  have t1 := fun leg => GT.tiers he hc hE1 hNP1 leg AHP hA1 hd1
  have t2 := fun leg => GT.tiers he hc hE2 hNP2 leg AHP hA2 hd2
  by_cases h1x : r.forXDP = true
  · by_cases h2 : r.suppressNormalHostPolicy = true
    · rw [hostPart_xdp_sup env.c r h1x h2]
      exact close (GT.nil _ _)
    · rw [hostPart_xdp env.c r h1x (by simpa using h2)]
      exact close (GT.scope TOFH rfl (GT.nil _ _) ((t1 _ _ 0 0 hHN).append
        (GT.jmp .xdpPass (List.mem_cons_of_mem _ (hx h1x)))))
  · have h1 : r.forXDP = false := by simpa using h1x
    by_cases h2 : r.suppressNormalHostPolicy = true
    · rw [hostPart_sup env.c r h1 h2 rfl]
      exact close ((t1 _ _ 0 0 hHP).append ((GT.tofh AHP hA1).append
        ((t1 _ _ _ _ hHF).append (GT.jmp AHP hA1))))
    · rw [hostPart_nosup env.c r h1 (by simpa using h2) rfl rfl rfl]
      exact close (GT.scope TOFH rfl
        ((t2 _ _ 0 0 hHP).append ((GT.tofh TOFH List.mem_cons_self).append
          ((t2 _ _ _ _ hHF).append (GT.jmp AHP hA2))))
        ((t1 _ _ _ _ hHN).append
          (GT.profiles he hc hE1 hNP1 AHP hA1 hd1 r.hostProfiles r.noProfileMatchID _ hPR)))

end

end CalicoVerif.C11
