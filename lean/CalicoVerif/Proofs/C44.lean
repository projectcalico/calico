import CalicoVerif.Model.C44
import CalicoVerif.Proofs.C18
/-! C44 — the invariant `Good` behind the full-property theorem.  `process` is decomposed into steps that
each touch the entries of one endpoint id and keep `Good`: activate, shadow, displace the holder, release,
queue a promotion, drop a removal.  Then the fuel of `resolveAll` is shown to suffice (`wt`, `mu`,
`good_resolveAll`), and a `Good` state with nothing pending is read off the live endpoints (`best_of_good`,
`spec_of_good`). -/
namespace CalicoVerif.C44
open CalicoVerif.C18 (GoMap get set del get_set get_del NodupKeys nodupKeys_set nodupKeys_del nodupKeys_nil get_eq_some_iff
  del_absent set_del del_set_ne)

def bestStep (name : Nat) (best : Option Nat) (p : Nat × Ep) : Option Nat :=
  if p.2.name = name then
    match best with
    | none => some p.1
    | some b => if p.1 < b then some p.1 else some b
  else best

theorem bestShadowed_eq (sh : GoMap Nat Ep) (name : Nat) : bestShadowed sh name = sh.foldl (bestStep name) none := rfl

def onName (l : GoMap Nat Ep) (name : Nat) : List Nat := (l.filter (fun p => p.2.name = name)).map (·.1)

theorem mem_onName (l : GoMap Nat Ep) (hn : NodupKeys l) (name j : Nat) :
    j ∈ onName l name ↔ ∃ e, get l j = some e ∧ e.name = name := by
  simp only [onName, List.mem_map, List.mem_filter, decide_eq_true_eq, get_eq_some_iff l hn]
  exact ⟨fun ⟨p, ⟨hp, hpn⟩, hj⟩ => ⟨p.2, hj ▸ hp, hpn⟩, fun ⟨e, he, hen⟩ => ⟨(j, e), ⟨he, hen⟩, rfl⟩⟩

theorem foldl_bestStep (sh : GoMap Nat Ep) (name : Nat) (best : Option Nat) :
    sh.foldl (bestStep name) best = (best.toList ++ onName sh name).min? := by
  induction sh generalizing best with
  | nil => cases best <;> rfl
  | cons p r ih =>
    rw [List.foldl_cons, ih]
    by_cases hp : p.2.name = name
    · rw [show onName (p :: r) name = p.1 :: onName r name by simp [onName, hp]]
      cases best with
      | none => simp [bestStep, hp]
      | some b =>
        have : bestStep name (some b) p = some (min b p.1) := by
          simp only [bestStep, hp, if_true, Nat.min_def]; split <;> split <;> first | rfl | (congr 1; omega)
        rw [this]
        simp only [Option.toList_some, List.cons_append, List.nil_append, List.min?_cons', List.foldl_cons]
    · rw [show onName (p :: r) name = onName r name by simp [onName, hp]]
      simp [bestStep, hp]

theorem bestShadowed_min (sh : GoMap Nat Ep) (name : Nat) : bestShadowed sh name = (onName sh name).min? :=
  foldl_bestStep sh name none

theorem bestShadowed_none (sh : GoMap Nat Ep) (hn : NodupKeys sh) (name : Nat) (h : bestShadowed sh name = none) :
    ∀ j e, get sh j = some e → e.name ≠ name := by
  intro j e hg he
  rw [bestShadowed_min, List.min?_eq_none_iff] at h
  have := (mem_onName sh hn name j).2 ⟨e, hg, he⟩
  rw [h] at this; cases this

theorem bestShadowed_some (sh : GoMap Nat Ep) (hn : NodupKeys sh) (name b : Nat) (h : bestShadowed sh name = some b) :
    (∃ e, get sh b = some e ∧ e.name = name) ∧ ∀ j e, get sh j = some e → e.name = name → b ≤ j := by
  rw [bestShadowed_min, List.min?_eq_some_iff] at h
  exact ⟨(mem_onName sh hn name b).1 h.1, fun j e hg he => h.2 j ((mem_onName sh hn name j).2 ⟨e, hg, he⟩)⟩

def put {K V : Type} [DecidableEq K] (m : GoMap K V) (k : K) : Option V → GoMap K V
  | some v => set m k v
  | none => del m k

theorem get_put {K V : Type} [DecidableEq K] (m : GoMap K V) (k k' : K) (v : Option V) :
    get (put m k v) k' = if k = k' then v else get m k' := by
  cases v
  · exact get_del m k k'
  · exact get_set m k k' _

/-- `a`, `s`, `lv`, `p`: the entries of one endpoint id in the active map, the shadowed map, the live endpoints
after the batch and the pending map. -/
def LiveAt (a s lv : Option Ep) (p : Option (Option Ep)) : Prop :=
  (s.isSome → a = none) ∧
  match p with
  | none => lv = a.or s
  | some v => lv = v

/-- `I`: the name→id index; what is programmed (per endpoint: `CO`; per interface: chains `C` and routes `R`) is a
function of the interface's holder. -/
structure Idx (A : GoMap Nat Ep) (I CO : GoMap Nat Nat) (C : GoMap Nat Chains) (R : GoMap Nat (Nat × Nat)) : Prop where
  holder_active : ∀ n id, get I n = some id → ∃ e, get A id = some e ∧ e.name = n
  active_holds : ∀ id e, get A id = some e → get I e.name = some id
  chainsOf : ∀ id, get CO id = (get A id).map (·.name)
  chains : ∀ n, get C n = (get I n).bind fun i => (get A i).map fun e => ⟨i, e.up, e.data⟩
  routes : ∀ n, get R n = (get I n).bind fun i => (get A i).bind fun e => if e.up then some (i, e.data) else none

theorem Idx.put {A I CO C R} (h : Idx A I CO C R) (id n : Nat) (v : Option Ep)
    (hv : ∀ w, v = some w → w.name = n)
    (hold : ∀ o, get A id = some o → o.name = n) (hfree : ∀ a, get I n = some a → a = id) :
    Idx (put A id v) (put I n (v.map fun _ => id)) (put CO id (v.map (·.name)))
      (put C n (v.map fun w => ⟨id, w.up, w.data⟩))
      (put R n (v.bind fun w => if w.up then some (id, w.data) else none)) := by
  -- the other interfaces are not held by `id`
  have hne : ∀ n' i, n ≠ n' → get I n' = some i → id ≠ i := by
    rintro n' i hn hi rfl
    obtain ⟨o, ho, hon⟩ := h.holder_active n' id hi
    exact hn ((hold o ho).symm.trans hon)
  constructor
  · intro n' i
    rw [get_put, get_put]
    by_cases hn : n = n'
    · subst hn
      cases v with
      | none => simp
      | some w => simp only [if_true, Option.map_some, Option.some.injEq]; rintro rfl; exact ⟨w, by simp, hv w rfl⟩
    · simp only [hn, if_false]; intro hi; simp only [hne n' i hn hi, if_false]; exact h.holder_active n' i hi
  · intro i e
    rw [get_put, get_put]
    by_cases hi : id = i
    · subst hi; simp only [if_true]; rintro rfl; simp [hv e rfl]
    · simp only [hi, if_false]; intro he
      have : n ≠ e.name := fun hn => hi (hfree i (hn ▸ h.active_holds i e he)).symm
      simp only [this, if_false]; exact h.active_holds i e he
  · intro i; rw [get_put, get_put, h.chainsOf]; split <;> rfl
  -- chains and routes: the entry of `n` is rewritten, the others read an index entry and an endpoint that stay
  all_goals
    intro n'
    by_cases hn : n = n'
    · subst hn; cases v <;> simp [get_put]
    · simp only [get_put, hn, if_false, h.chains n', h.routes n']
      cases hi : get I n' with
      | none => rfl
      | some i => simp [hne n' i hn hi]

theorem Idx.activate {A I CO C R} (h : Idx A I CO C R) (id : Nat) (w : Ep)
    (hold : ∀ o, get A id = some o → o.name = w.name) (hfree : ∀ a, get I w.name = some a → a = id) :
    Idx (set A id w) (set I w.name id) (set CO id w.name) (set C w.name ⟨id, w.up, w.data⟩)
      (if w.up then set R w.name (id, w.data) else del R w.name) := by
  have := h.put id w.name (some w) (fun _ e => by cases e; rfl) hold hfree
  cases hu : w.up <;>
    simp only [Option.map_some, Option.bind_some, hu, if_true, if_false, Bool.false_eq_true] at this ⊢ <;> exact this

theorem Idx.rel {A I CO C R} (h : Idx A I CO C R) (id : Nat) (o : Ep) (he : get A id = some o) :
    Idx (del A id) (del I o.name) (del CO id) (del C o.name) (del R o.name) :=
  h.put id o.name none (fun _ e => by cases e) (fun o' ho => by rw [he] at ho; cases ho; rfl)
    (fun a ha => by rw [h.active_holds id o he] at ha; cases ha; rfl)

def Claims (I : GoMap Nat Nat) (P : Pending) (n x : Nat) : Prop :=
  get I n = some x ∨ ∃ e, get P x = some (some e) ∧ e.name = n

/-- `L` = the live endpoints once the whole batch has been applied (it does not change while the batch is
processed); `P` = the updates of the batch that are still pending (`[]` between batches).  The field the
proof turns on is `wait`; with `P = []` it says that every shadowed endpoint has a smaller holder on its name, so
the holder is the minimum live claimant. -/
structure Good (m : Mgr) (L : Nat → Option Ep) (P : Pending) : Prop where
  live : ∀ id, LiveAt (get m.active id) (get m.shadowed id) (L id) (get P id)
  idx : Idx m.active m.ifaceToID m.chainsOf m.chains m.routes
  wait : ∀ id e, get m.shadowed id = some e → get P id = none → ∃ x, x < id ∧ Claims m.ifaceToID P e.name x
  nd : NodupKeys m.shadowed
  np : NodupKeys P

theorem Good.excl {m L P} (g : Good m L P) {id e} (h : get m.shadowed id = some e) : get m.active id = none :=
  (g.live id).1 (by simp [h])

theorem Good.pend {m L P} (g : Good m L P) {id v} (h : get P id = some v) : L id = v := by
  have := (g.live id).2; rw [h] at this; exact this

theorem Good.settled {m L P} (g : Good m L P) {id} (h : get P id = none) :
    L id = (get m.active id).or (get m.shadowed id) := by
  have := (g.live id).2; rw [h] at this; exact this

theorem Good.live_of_active {m L} (g : Good m L []) {id e} (h : get m.active id = some e) : L id = some e := by
  rw [g.settled rfl, h]; rfl

theorem Good.active_or_shadowed {m L} (g : Good m L []) {id e} (h : L id = some e) :
    get m.active id = some e ∨ get m.shadowed id = some e := by
  rw [g.settled rfl] at h
  cases ha : get m.active id <;> simp_all

theorem Good.not_shadowed {m L P} (g : Good m L P) {id o} (h : get m.active id = some o) : get m.shadowed id = none := by
  cases hs : get m.shadowed id with
  | none => rfl
  | some e => have := g.excl hs; rw [h] at this; cases this

theorem good_activate (m : Mgr) (L : Nat → Option Ep) (P : Pending) (id : Nat) (w : Ep) (g : Good m L P)
    (hP : get P id = some (some w))
    (hold : ∀ o, get m.active id = some o → o.name = w.name)
    (hfree : ∀ a, get m.ifaceToID w.name = some a → a = id) :
    Good (m.activate id w) L (del P id) where
  live k := by
    simp only [Mgr.activate, get_set, get_del]
    by_cases hk : id = k
    · subst hk; simp [LiveAt, g.pend hP]
    · simp only [hk, if_false]; exact g.live k
  idx := g.idx.activate id w hold hfree
  wait j e hs hp := by
    simp only [Mgr.activate, get_set, get_del, Claims] at hs hp ⊢
    by_cases hj : id = j
    · simp [hj] at hs
    simp only [hj, if_false] at hs hp
    obtain ⟨x, hx, hI | ⟨eb, hb, hn⟩⟩ := g.wait j e hs hp
    · by_cases hn : w.name = e.name
      · exact ⟨id, hfree x (hn ▸ hI) ▸ hx, Or.inl (by simp [hn])⟩
      · exact ⟨x, hx, Or.inl (by simp [hn, hI])⟩
    · by_cases hxi : id = x
      · subst hxi; rw [hP] at hb; cases hb
        exact ⟨id, hx, Or.inl (by simp [hn])⟩
      · exact ⟨x, hx, Or.inr ⟨eb, by simp [hxi, hb], hn⟩⟩
  nd := nodupKeys_del _ _ g.nd
  np := nodupKeys_del _ _ g.np

/-- whoever waited behind the pending claim of `id` now waits behind the holder `a`. -/
theorem good_shadow (m : Mgr) (L : Nat → Option Ep) (P : Pending) (id : Nat) (w : Ep) (a : Nat)
    (g : Good m L P) (hP : get P id = some (some w)) (hna : get m.active id = none)
    (h : get m.ifaceToID w.name = some a) (hlt : a < id) :
    Good ({ m with shadowed := set m.shadowed id w } : Mgr) L (del P id) where
  live k := by
    simp only [get_set, get_del]
    by_cases hk : id = k
    · subst hk; simp [LiveAt, hna, g.pend hP]
    · simp only [hk, if_false]; exact g.live k
  idx := g.idx
  wait j e hs hp := by
    simp only [get_set, get_del, Claims] at hs hp ⊢
    by_cases hj : id = j
    · simp only [hj, if_true, Option.some.injEq] at hs
      exact ⟨a, hj ▸ hlt, Or.inl (hs ▸ h)⟩
    simp only [hj, if_false] at hs hp
    obtain ⟨x, hx, hI | ⟨eb, hb, hn⟩⟩ := g.wait j e hs hp
    · exact ⟨x, hx, Or.inl hI⟩
    · by_cases hxi : id = x
      · subst hxi; rw [hP] at hb; cases hb
        exact ⟨a, by omega, Or.inl (hn ▸ h)⟩
      · exact ⟨x, hx, Or.inr ⟨eb, by simp [hxi, hb], hn⟩⟩
  nd := nodupKeys_set _ _ _ g.nd
  np := nodupKeys_del _ _ g.np

def rel (m : Mgr) (id : Nat) (o : Ep) : Mgr :=
  { m with
    chains := del m.chains o.name, chainsOf := del m.chainsOf id, routes := del m.routes o.name,
    ifaceToID := del m.ifaceToID o.name, active := del m.active id }

/-- the displaced holder `a`, and whoever waited behind it, now wait behind the pending claim of `id`. -/
theorem good_displace (m : Mgr) (L : Nat → Option Ep) (P : Pending) (id : Nat) (w : Ep) (a : Nat) (ea : Ep)
    (g : Good m L P) (hP : get P id = some (some w))
    (h : get m.ifaceToID w.name = some a) (hea : get m.active a = some ea) (hlt : id < a) :
    Good (rel { m with shadowed := set m.shadowed a ea } a ea) L P := by
  have hean : ea.name = w.name := by
    obtain ⟨e, he, hn⟩ := g.idx.holder_active _ _ h
    rw [hea] at he; cases he; exact hn
  have hw : ∀ n, w.name = n → Claims (del m.ifaceToID ea.name) P n id := fun n hn => Or.inr ⟨w, hP, hn⟩
  refine ⟨fun k => ?_, g.idx.rel a ea hea, fun j e hs hp => ?_, nodupKeys_set _ _ _ g.nd, g.np⟩
  · simp only [rel, get_set, get_del]
    by_cases hk : a = k
    · subst hk
      have := (g.live a).2
      rw [hea] at this
      refine ⟨fun _ => by simp, ?_⟩
      cases hp : get P a <;> simp only [hp] at this ⊢ <;> simpa using this
    · simp only [hk, if_false]; exact g.live k
  · simp only [rel, get_set] at hs ⊢
    by_cases hj : a = j
    · simp only [hj, if_true, Option.some.injEq] at hs
      exact ⟨id, hj ▸ hlt, hw _ (hs ▸ hean.symm)⟩
    simp only [hj, if_false] at hs
    obtain ⟨x, hx, hI | hc⟩ := g.wait j e hs hp
    · by_cases hn : ea.name = e.name
      · rw [← hn, hean, h] at hI; cases hI
        exact ⟨id, by omega, hw _ (hean.symm.trans hn)⟩
      · exact ⟨x, hx, Or.inl (by simp [get_del, hn, hI])⟩
    · exact ⟨x, hx, Or.inr hc⟩

/-- `hjust`: every endpoint shadowed on the released name that is not itself pending waits behind a pending claim. -/
theorem good_release (m : Mgr) (L : Nat → Option Ep) (P : Pending) (id : Nat) (o : Ep) (v : Option Ep)
    (g : Good m L P) (he : get m.active id = some o) (hP : get P id = some v)
    (hjust : ∀ j ej, get m.shadowed j = some ej → get P j = none → ej.name = o.name →
      ∃ x, x < j ∧ ∃ e, get P x = some (some e) ∧ e.name = o.name) :
    Good (rel m id o) L P where
  live k := by
    simp only [rel, get_del]
    by_cases hk : id = k
    · subst hk; simp [LiveAt, hP, g.pend hP]
    · simp only [hk, if_false]; exact g.live k
  idx := g.idx.rel id o he
  wait j e hs hp := by
    by_cases hn : e.name = o.name
    · obtain ⟨x, hx, hc⟩ := hjust j e hs hp hn
      exact ⟨x, hx, Or.inr (hn ▸ hc)⟩
    · obtain ⟨x, hx, hI | hc⟩ := g.wait j e hs hp
      · exact ⟨x, hx, Or.inl (by simp [rel, get_del, Ne.symm hn, hI])⟩
      · exact ⟨x, hx, Or.inr hc⟩
  nd := g.nd
  np := g.np

theorem good_queue (m : Mgr) (L : Nat → Option Ep) (P : Pending) (b : Nat) (eb : Ep) (g : Good m L P)
    (hb : get m.shadowed b = some eb) (hpb : get P b = none) :
    Good ({ m with shadowed := del m.shadowed b } : Mgr) L (set P b (some eb)) where
  live k := by
    simp only [get_set, get_del]
    by_cases hk : b = k
    · subst hk; simp [LiveAt, g.settled hpb, g.excl hb, hb]
    · simp only [hk, if_false]; exact g.live k
  idx := g.idx
  wait j e hs hp := by
    simp only [get_set, get_del, Claims] at hs hp ⊢
    by_cases hj : b = j
    · simp [hj] at hs
    simp only [hj, if_false] at hs hp
    obtain ⟨x, hx, hI | ⟨e', he', hn⟩⟩ := g.wait j e hs hp
    · exact ⟨x, hx, Or.inl hI⟩
    · have hbx : b ≠ x := by rintro rfl; rw [hpb] at he'; cases he'
      exact ⟨x, hx, Or.inr ⟨e', by simp [hbx, he'], hn⟩⟩
  nd := nodupKeys_del _ _ g.nd
  np := nodupKeys_set _ _ _ g.np

theorem Claims.del_removal {I : GoMap Nat Nat} {P : Pending} {id n x : Nat} (hP : get P id = some none)
    (h : Claims I P n x) : Claims I (del P id) n x := by
  rcases h with hI | ⟨e, he, hn⟩
  · exact Or.inl hI
  · have : id ≠ x := by rintro rfl; rw [hP] at he; cases he
    exact Or.inr ⟨e, by simp [get_del, this, he], hn⟩

theorem good_drop_removal (m : Mgr) (L : Nat → Option Ep) (P : Pending) (id : Nat) (g : Good m L P)
    (hP : get P id = some none) (hna : get m.active id = none) (hns : get m.shadowed id = none) :
    Good m L (del P id) where
  live k := by
    simp only [get_del]
    by_cases hk : id = k
    · subst hk; simp [LiveAt, hna, hns, g.pend hP]
    · simp only [hk, if_false]; exact g.live k
  idx := g.idx
  wait j e hs hp := by
    have hj : id ≠ j := by rintro rfl; rw [hns] at hs; cases hs
    obtain ⟨x, hx, hc⟩ := g.wait j e hs (by simpa [get_del, hj] using hp)
    exact ⟨x, hx, hc.del_removal hP⟩
  nd := g.nd
  np := nodupKeys_del _ _ g.np

theorem good_remove_inactive (m : Mgr) (L : Nat → Option Ep) (P : Pending) (id : Nat) (g : Good m L P)
    (hP : get P id = some none) (hna : get m.active id = none) :
    Good ({ m with shadowed := del m.shadowed id } : Mgr) L (del P id) where
  live k := by
    simp only [get_del]
    by_cases hk : id = k
    · subst hk; simp [LiveAt, hna, g.pend hP]
    · simp only [hk, if_false]; exact g.live k
  idx := g.idx
  wait j e hs hp := by
    simp only [get_del] at hs hp
    by_cases hj : id = j
    · simp [hj] at hs
    simp only [hj, if_false] at hs hp
    obtain ⟨x, hx, hc⟩ := g.wait j e hs hp
    exact ⟨x, hx, hc.del_removal hP⟩
  nd := nodupKeys_del _ _ g.nd
  np := nodupKeys_del _ _ g.np

def candidates (sh : GoMap Nat Ep) (pd : Pending) : GoMap Nat Ep := sh.filter (fun p => (get pd p.1).isNone)

theorem get_candidates (sh : GoMap Nat Ep) (pd : Pending) (k : Nat) :
    get (candidates sh pd) k = if (get pd k).isNone then get sh k else none :=
  C18.get_filter sh (fun j => (get pd j).isNone) k

theorem nodup_candidates (sh : GoMap Nat Ep) (pd : Pending) (h : NodupKeys sh) : NodupKeys (candidates sh pd) :=
  h.sublist (List.filter_sublist.map _)

theorem removeActive_some (m : Mgr) (a : Nat) (ea : Ep) (h2 : get m.chainsOf a = some ea.name) :
    m.removeActiveWorkload (some ea) a = rel m a ea := by
  unfold Mgr.removeActiveWorkload Mgr.removeChainsOf rel
  simp [h2]

theorem promote_eq (m : Mgr) (pd : Pending) (n : Nat) :
    m.promote pd n =
      match bestShadowed (candidates m.shadowed pd) n with
      | some b =>
        match get m.shadowed b with
        | some e => ({ m with shadowed := del m.shadowed b }, some (b, e))
        | none => (m, none)
      | none => (m, none) := rfl

theorem promote_cases (m : Mgr) (pd : Pending) (n : Nat) (hn : NodupKeys m.shadowed) :
    (m.promote pd n = (m, none) ∧ ∀ j ej, get m.shadowed j = some ej → get pd j = none → ej.name ≠ n) ∨
    (∃ b eb, m.promote pd n = ({ m with shadowed := del m.shadowed b }, some (b, eb)) ∧
      get m.shadowed b = some eb ∧ get pd b = none ∧ eb.name = n ∧
      ∀ j ej, get m.shadowed j = some ej → get pd j = none → ej.name = n → b ≤ j) := by
  have hnc := nodup_candidates m.shadowed pd hn
  have hcand : ∀ j ej, get m.shadowed j = some ej → get pd j = none → get (candidates m.shadowed pd) j = some ej := by
    intro j ej h1 h2; rw [get_candidates, h2]; simp [h1]
  rw [promote_eq]
  cases hb : bestShadowed (candidates m.shadowed pd) n with
  | none =>
    left
    refine ⟨rfl, ?_⟩
    intro j ej h1 h2
    exact bestShadowed_none _ hnc n hb j ej (hcand j ej h1 h2)
  | some b =>
    right
    obtain ⟨⟨eb, hgb2, hbn⟩, hmin⟩ := bestShadowed_some _ hnc n b hb
    rw [get_candidates] at hgb2
    have hpb : get pd b = none := by
      cases hq : get pd b with
      | none => rfl
      | some q => simp [hq] at hgb2
    have hsb : get m.shadowed b = some eb := by simpa [hpb] using hgb2
    refine ⟨b, eb, ?_, hsb, hpb, hbn, ?_⟩
    · simp only [hsb]
    · intro j ej h1 h2 h3
      exact hmin j ej (hcand j ej h1 h2) h3

theorem claim_same (m : Mgr) (pd : Pending) (id : Nat) (old : Option Ep) (w : Ep)
    (h : ∀ o, old = some o → o.name = w.name) : m.claim pd id old w = (m.activate id w, none) := by
  unfold Mgr.claim
  cases old with
  | none => rfl
  | some o => simp [h o rfl]

/-- the rename clean-up of the old interface name (the id's own entries are overwritten by `activate`) -/
def relName (m : Mgr) (o : Ep) : Mgr :=
  { m with
    chains := del m.chains o.name, routes := del m.routes o.name, ifaceToID := del m.ifaceToID o.name }

theorem claim_rename (m : Mgr) (pd : Pending) (id : Nat) (o : Ep) (w : Ep) (h : o.name ≠ w.name)
    (hc : get m.chainsOf id = some o.name) :
    m.claim pd id (some o) w = (((relName m o).promote pd o.name).1.activate id w, ((relName m o).promote pd o.name).2) := by
  unfold Mgr.claim Mgr.removeChainsOf relName
  simp [h, hc]

theorem activate_rel (m : Mgr) (id : Nat) (o w : Ep) (S' : GoMap Nat Ep) :
    ({ rel m id o with shadowed := S' } : Mgr).activate id w = ({ relName m o with shadowed := S' } : Mgr).activate id w := by
  simp only [Mgr.activate, rel, relName, set_del]

theorem get_pendU (P : Pending) (id : Nat) (v : Option Ep) (h : get P id = some v) (j : Nat) :
    get (set (del P id) id v) j = get P j := by
  rw [set_del, get_set]
  split
  · rename_i e; rw [← e, h]
  · rfl

def nextP (P : Pending) (id : Nat) (q : Option (Nat × Ep)) : Pending :=
  match q with
  | some (b, e) => set (del P id) b (some e)
  | none => del P id

theorem nextP_none (P : Pending) (id : Nat) : nextP P id none = del P id := rfl

theorem nextP_some (P : Pending) (id b : Nat) (e : Ep) : nextP P id (some (b, e)) = set (del P id) b (some e) := rfl

/-- the endpoint `b` queued while `id` is processed had nothing pending, is not `id`, and is not active in `mm`. -/
structure Queued (mm : Mgr) (P : Pending) (id b : Nat) : Prop where
  fresh : get P b = none
  ne : b ≠ id
  inactive : get mm.active b = none

/-- `S'`, `P'`: the shadowed and pending maps once the endpoint the promotion scan finds (if any) is queued. -/
structure ReleaseOK (m m0 : Mgr) (L : Nat → Option Ep) (P : Pending) (id : Nat) (o : Ep) (v : Option Ep)
    (r : Mgr × Option (Nat × Ep)) (S' : GoMap Nat Ep) (P' : Pending) : Prop where
  state : r.1 = { m0 with shadowed := S' }
  good : Good ({ rel m id o with shadowed := S' } : Mgr) L P'
  unshadowed : get S' id = none
  pending : get P' id = some v
  next : del P' id = nextP P id r.2
  promo : ∀ b e, r.2 = some (b, e) → Queued m P id b

theorem good_release_promote (m m0 : Mgr) (L : Nat → Option Ep) (P pd : Pending) (id : Nat) (o : Ep) (v : Option Ep)
    (g : Good m L P) (he : get m.active id = some o) (hP : get P id = some v)
    (hpd : ∀ j, j ≠ id → get pd j = get P j) (hsh : m0.shadowed = m.shadowed) :
    ∃ S' P', ReleaseOK m m0 L P id o v (m0.promote pd o.name) S' P' := by
  have hji : ∀ j ej, get m.shadowed j = some ej → j ≠ id := by
    rintro j ej hj rfl; rw [g.not_shadowed he] at hj; cases hj
  have hpd' : ∀ j ej, get m.shadowed j = some ej → get pd j = get P j := fun j ej hj => hpd j (hji j ej hj)
  rcases promote_cases m0 pd o.name (hsh ▸ g.nd) with ⟨hp, hnone⟩ | ⟨b, eb, hp, hb, hpb, hbn, hmin⟩
  · rw [hsh] at hnone
    refine ⟨m.shadowed, P, by rw [hp, ← hsh], good_release m L P id o v g he hP ?_, g.not_shadowed he, hP,
      by rw [hp]; rfl, by rw [hp]; intro b e h; cases h⟩
    intro j ej hj hpj hn
    exact absurd hn (hnone j ej hj (by rw [hpd' j ej hj]; exact hpj))
  · rw [hsh] at hb hmin hp
    rw [hpd' b eb hb] at hpb
    have hbid := hji b eb hb
    refine ⟨del m.shadowed b, set P b (some eb), by rw [hp],
      good_release _ L _ id o v (good_queue m L P b eb g hb hpb) he (by simp [get_set, hbid, hP]) ?_,
      by simp [get_del, g.not_shadowed he], by simp [get_set, hbid, hP],
      by rw [hp]; exact del_set_ne P b id _ hbid, ?_⟩
    · intro j ej hj hpj hn
      simp only [get_set, get_del] at hj hpj
      have hbj : b ≠ j := by rintro rfl; simp at hj
      simp only [hbj, if_false] at hj hpj
      have := hmin j ej hj (by rw [hpd' j ej hj]; exact hpj) hn
      exact ⟨b, by omega, eb, by simp [get_set], hbn⟩
    · rw [hp]; rintro b' e' ⟨⟩
      exact ⟨hpb, hbid, g.excl hb⟩

/-- What one processed entry guarantees: `Good` again, and the two facts the fuel bound needs — a
promotion is queued only by an entry of weight 2 (`heavy`: a removal, or an update of an active
endpoint) and has weight 1 itself (`promo`: not active afterwards); no other entry's weight grows (`mono`). -/
structure StepOK (m : Mgr) (L : Nat → Option Ep) (P : Pending) (id : Nat) (w : Option Ep)
    (r : Mgr × Option (Nat × Ep)) : Prop where
  good : Good r.1 L (nextP P id r.2)
  heavy : ∀ b e, r.2 = some (b, e) → w = none ∨ (get m.active id).isSome = true
  promo : ∀ b e, r.2 = some (b, e) → Queued r.1 P id b
  mono : ∀ x, x ≠ id → (get r.1.active x).isSome = true → (get m.active x).isSome = true

/- `pu_*` (update) and `pr_*` (removal): `process` rewritten to the one branch it takes under the
stated conditions on the index and the active map. -/
theorem pu_free (m : Mgr) (pd : Pending) (id : Nat) (w : Ep)
    (hfree : ∀ a, get m.ifaceToID w.name = some a → a = id) :
    m.process pd id (some w) = m.claim (set pd id (some w)) id (get m.active id) w := by
  unfold Mgr.process
  cases h : get m.ifaceToID w.name with
  | none => simp [h]
  | some a => have := hfree a h; subst this; simp [h]

theorem pu_shadow_inactive (m : Mgr) (pd : Pending) (id : Nat) (w : Ep) (a : Nat)
    (h : get m.ifaceToID w.name = some a) (hlt : a < id) (hna : get m.active id = none) :
    m.process pd id (some w) = ({ m with shadowed := set m.shadowed id w }, none) := by
  unfold Mgr.process
  have hne : a ≠ id := by omega
  simp [h, hne, hlt, hna]

theorem pu_shadow_active (m : Mgr) (pd : Pending) (id : Nat) (w : Ep) (a : Nat) (o : Ep)
    (h : get m.ifaceToID w.name = some a) (hlt : a < id) (ha : get m.active id = some o) :
    m.process pd id (some w) =
      (({ ((m.removeActiveWorkload (some o) id).promote (set pd id (some w)) o.name).1 with
          shadowed := set ((m.removeActiveWorkload (some o) id).promote (set pd id (some w)) o.name).1.shadowed id w } : Mgr),
       ((m.removeActiveWorkload (some o) id).promote (set pd id (some w)) o.name).2) := by
  unfold Mgr.process
  have hne : a ≠ id := by omega
  simp [h, hne, hlt, ha]

theorem pu_takeover (m : Mgr) (pd : Pending) (id : Nat) (w : Ep) (a : Nat) (ea : Ep)
    (h : get m.ifaceToID w.name = some a) (hlt : id < a) (hea : get m.active a = some ea) :
    m.process pd id (some w) =
      (({ m with shadowed := set m.shadowed a ea } : Mgr).removeActiveWorkload (some ea) a).claim
        (set pd id (some w)) id (get m.active id) w := by
  unfold Mgr.process
  have hne : a ≠ id := by omega
  have hnlt : ¬ a < id := by omega
  simp [h, hne, hnlt, hea]

theorem good_claim (m : Mgr) (L : Nat → Option Ep) (P : Pending) (id : Nat) (w : Ep) (old : Option Ep)
    (g : Good m L P) (hP : get P id = some (some w)) (hold : old = get m.active id)
    (hfree : ∀ a, get m.ifaceToID w.name = some a → a = id) :
    StepOK m L P id (some w) (m.claim (set (del P id) id (some w)) id old w) := by
  subst hold
  have same : (∀ o, get m.active id = some o → o.name = w.name) → StepOK m L P id (some w)
      (m.claim (set (del P id) id (some w)) id (get m.active id) w) := fun hsame => by
    rw [claim_same _ _ id _ w hsame]
    refine ⟨good_activate m L P id w g hP hsame hfree, by rintro b e ⟨⟩, by rintro b e ⟨⟩, fun x hx => ?_⟩
    simp [Mgr.activate, get_set, Ne.symm hx]
  cases hold : get m.active id with
  | none => exact hold ▸ same (by simp [hold])
  | some o =>
    by_cases hn : o.name = w.name
    · exact hold ▸ same (by rw [hold]; rintro _ ⟨⟩; exact hn)
    rw [claim_rename m _ id o w hn (by rw [g.idx.chainsOf, hold]; rfl)]
    obtain ⟨S', P', hr⟩ :=
      good_release_promote m (relName m o) L P _ id o _ g hold hP (fun j _ => get_pendU P id _ hP j) rfl
    have ga := good_activate _ _ _ id w hr.good hr.pending (by simp [rel, get_del])
      (fun a ha => hfree a (by simpa [rel, get_del, hn] using ha))
    rw [activate_rel, hr.next] at ga
    rw [hr.state]
    refine ⟨ga, fun _ _ _ => Or.inr (by simp [hold]), fun b e hbe => ?_, fun x hx => ?_⟩
    · have q := hr.promo b e hbe
      exact ⟨q.fresh, q.ne, by simp [Mgr.activate, relName, get_set, Ne.symm q.ne, q.inactive]⟩
    · simp [Mgr.activate, relName, get_set, Ne.symm hx]

theorem good_process_update (m : Mgr) (L : Nat → Option Ep) (P : Pending) (id : Nat) (w : Ep) (g : Good m L P)
    (hP : get P id = some (some w)) : StepOK m L P id (some w) (m.process (del P id) id (some w)) := by
  have free : (∀ a, get m.ifaceToID w.name = some a → a = id) →
      StepOK m L P id (some w) (m.process (del P id) id (some w)) := fun hf => by
    rw [pu_free m _ id w hf]; exact good_claim m L P id w _ g hP rfl hf
  cases h : get m.ifaceToID w.name with
  | none => exact free (by simp [h])
  | some a =>
    by_cases hai : a = id
    · exact free (by rw [h]; rintro _ ⟨⟩; exact hai)
    by_cases hlt : a < id
    · -- the holder is smaller: the endpoint is shadowed, and releases the interface it held (if any)
      cases hold : get m.active id with
      | none =>
        rw [pu_shadow_inactive m _ id w a h hlt hold]
        exact ⟨good_shadow m L P id w a g hP hold h hlt, by rintro b e ⟨⟩, by rintro b e ⟨⟩, fun x _ hx => hx⟩
      | some o =>
        have hne : o.name ≠ w.name := by
          intro e; have := g.idx.active_holds id o hold; rw [e, h] at this; cases this; exact hai rfl
        rw [pu_shadow_active m _ id w a o h hlt hold, removeActive_some m id o (by rw [g.idx.chainsOf, hold]; rfl)]
        obtain ⟨S', P', hr⟩ :=
          good_release_promote m (rel m id o) L P _ id o _ g hold hP (fun j _ => get_pendU P id _ hP j) rfl
        have gs := good_shadow _ _ _ id w a hr.good hr.pending (by simp [rel, get_del]) (by simp [rel, get_del, hne, h]) hlt
        rw [hr.next] at gs
        rw [hr.state]
        refine ⟨gs, fun _ _ _ => Or.inr (by simp [hold]), fun b e hbe => ?_, fun x hx => ?_⟩
        · have q := hr.promo b e hbe
          exact ⟨q.fresh, q.ne, by simp [rel, get_del, Ne.symm q.ne, q.inactive]⟩
        · simp [rel, get_del, Ne.symm hx]
    · -- the holder is larger: it is pushed aside, then the endpoint claims the interface
      have hlt' : id < a := by omega
      obtain ⟨ea, hea, hean⟩ := g.idx.holder_active _ _ h
      rw [pu_takeover m _ id w a ea h hlt' hea, removeActive_some _ a ea (by rw [g.idx.chainsOf, hea]; rfl)]
      have hA : get m.active id = get (rel { m with shadowed := set m.shadowed a ea } a ea).active id := by
        simp [rel, get_del, hai]
      obtain ⟨g1, w1, p1, m1⟩ := good_claim _ L P id w _ (good_displace m L P id w a ea g hP h hea hlt') hP hA
        (by simp [rel, get_del, hean])
      refine ⟨g1, fun b e hbe => by rw [hA]; exact w1 b e hbe, p1, fun x hx hs => ?_⟩
      · have := m1 x hx hs
        simp only [rel, get_del] at this
        split at this
        · cases this
        · exact this

theorem pr_inactive (m : Mgr) (pd : Pending) (id : Nat) (he : get m.active id = none)
    (hc : get m.chainsOf id = none) :
    m.process pd id none = ({ m with shadowed := del m.shadowed id }, none) := by
  unfold Mgr.process
  simp [he, Mgr.removeActiveWorkload, Mgr.removeChainsOf, hc, del_absent _ _ he, del_absent _ _ hc]

theorem pr_active (m : Mgr) (pd : Pending) (id : Nat) (o : Ep) (he : get m.active id = some o)
    (hc : get m.chainsOf id = some o.name) (hs : get m.shadowed id = none) :
    m.process pd id none = (rel m id o).promote pd o.name := by
  unfold Mgr.process
  simp [he, removeActive_some m id o hc, rel, del_absent _ _ hs]

theorem good_process_remove (m : Mgr) (L : Nat → Option Ep) (P : Pending) (id : Nat) (g : Good m L P)
    (hP : get P id = some none) : StepOK m L P id none (m.process (del P id) id none) := by
  cases hold : get m.active id with
  | none =>
    rw [pr_inactive m _ id hold (by rw [g.idx.chainsOf, hold]; rfl)]
    exact ⟨good_remove_inactive m L P id g hP hold, by rintro b e ⟨⟩, by rintro b e ⟨⟩, fun x _ hx => hx⟩
  | some o =>
    rw [pr_active m _ id o hold (by rw [g.idx.chainsOf, hold]; rfl) (g.not_shadowed hold)]
    obtain ⟨S', P', hr⟩ :=
      good_release_promote m (rel m id o) L P (del P id) id o _ g hold hP (fun j hj => by simp [get_del, Ne.symm hj]) rfl
    have gd := good_drop_removal _ _ P' id hr.good hr.pending (by simp [rel, get_del]) hr.unshadowed
    rw [hr.next, ← hr.state] at gd
    refine ⟨gd, fun _ _ _ => Or.inl rfl, fun b e hbe => ?_, fun x hx => ?_⟩
    · have q := hr.promo b e hbe
      exact ⟨q.fresh, q.ne, by rw [hr.state]; simp [rel, get_del, Ne.symm q.ne, q.inactive]⟩
    · rw [hr.state]; simp [rel, get_del, Ne.symm hx]

theorem good_process (m : Mgr) (L : Nat → Option Ep) (P : Pending) (id : Nat) (w : Option Ep) (g : Good m L P)
    (hP : get P id = some w) : StepOK m L P id w (m.process (del P id) id w) := by
  cases w with
  | some w => exact good_process_update m L P id w g hP
  | none => exact good_process_remove m L P id g hP

def lAfter (l : Nat → Option Ep) (P : Pending) : Nat → Option Ep :=
  fun id => match get P id with
    | some v => v
    | none => l id

/-- weight of a pending entry: processing a removal, or an update of an endpoint that is active, can
queue one promotion (an update of an endpoint that is not active) -/
def wt (m : Mgr) (p : Nat × Option Ep) : Nat := if p.2.isNone || (get m.active p.1).isSome then 2 else 1

/-- fuel bound for `resolveAll`: at most 2 per pending entry (hence `2 * p.length + 2` in `Mgr.batch`). -/
def mu (m : Mgr) (P : Pending) : Nat := (P.map (wt m)).sum

theorem wt_pos (m : Mgr) (p : Nat × Option Ep) : 1 ≤ wt m p := by unfold wt; split <;> omega

theorem wt_le (m : Mgr) (p : Nat × Option Ep) : wt m p ≤ 2 := by unfold wt; split <;> omega

theorem mu_pos_of_ne_nil (m : Mgr) (P : Pending) (h : P ≠ []) : 0 < mu m P := by
  cases P with
  | nil => exact absurd rfl h
  | cons p r => unfold mu; simp only [List.map_cons, List.sum_cons]; have := wt_pos m p; omega

theorem mu_le (m : Mgr) (P : Pending) : mu m P ≤ 2 * P.length := by
  unfold mu
  induction P with
  | nil => simp
  | cons p r ih => simp only [List.map_cons, List.sum_cons, List.length_cons]; have := wt_le m p; omega

theorem mu_del (m : Mgr) (P : Pending) (hn : NodupKeys P) (id : Nat) (w : Option Ep) (h : get P id = some w) :
    mu m (del P id) + wt m (id, w) = mu m P := by
  -- `P` splits into its entries with key `id`, which are `[(id, w)]`, and the others, which are `del P id`
  have hp := ((List.filter_append_perm (fun x : Nat × Option Ep => decide (x.1 = id)) P).map (wt m)).sum_nat
  rw [List.map_append, List.sum_append, C18.filter_key P hn id, h] at hp
  simp only [mu, C18.del, ne_eq, decide_not]
  simp only [List.map_cons, List.map_nil, List.sum_cons, List.sum_nil] at hp
  omega

theorem mu_set_fresh (m : Mgr) (P : Pending) (b : Nat) (v : Option Ep) (h : get P b = none) :
    mu m (set P b v) = mu m P + wt m (b, v) := by
  unfold C18.set
  rw [del_absent P b h]
  unfold mu; simp only [List.map_cons, List.sum_cons]; omega

theorem mu_mono (m m' : Mgr) (P : Pending) (h : ∀ p ∈ P, wt m' p ≤ wt m p) : mu m' P ≤ mu m P := by
  unfold mu
  induction P with
  | nil => simp
  | cons p r ih =>
    simp only [List.map_cons, List.sum_cons]
    have := h p (by simp)
    have := ih (fun q hq => h q (by simp [hq]))
    omega

theorem mem_del_ne (P : Pending) (id : Nat) (p : Nat × Option Ep) (h : p ∈ del P id) : p.1 ≠ id := by
  unfold del at h
  simpa using (List.mem_filter.1 h).2

/- Plan: processing the entry `(id, w)` removes its weight from `mu`; the weights of the other entries do
not grow (`mono`); a queued promotion adds 1 (`promo`), and only when the processed entry weighed 2 (`heavy`).  So
`mu` drops by at least 1 per step and `fuel ≥ mu` suffices. -/
theorem good_resolveAll (fuel : Nat) : ∀ (m : Mgr) (L : Nat → Option Ep) (P : Pending), Good m L P → mu m P ≤ fuel →
    ∀ m' ∈ m.resolveAll fuel P, Good m' L [] := by
  induction fuel with
  | zero =>
    intro m L P g hmu m' hm'
    have hP : P = [] := by
      cases P with
      | nil => rfl
      | cons p r => have := mu_pos_of_ne_nil m (p :: r) (by simp); omega
    subst hP
    simp only [Mgr.resolveAll, List.mem_singleton] at hm'
    subst hm'
    exact g
  | succ fuel ih =>
    intro m L P g hmu m' hm'
    cases P with
    | nil =>
      simp only [Mgr.resolveAll, List.mem_singleton] at hm'
      subst hm'
      exact g
    | cons p ps =>
      simp only [Mgr.resolveAll, List.mem_flatMap] at hm'
      obtain ⟨q, hq, hm'⟩ := hm'
      obtain ⟨id, w⟩ := q
      have hP : get (p :: ps) id = some w := (get_eq_some_iff _ g.np id w).2 hq
      obtain ⟨g1, hheavy, hq1, hmono⟩ := good_process m L (p :: ps) id w g hP
      have hmd := mu_del m (p :: ps) g.np id w hP
      -- the weights of the remaining entries do not grow
      have hwt : ∀ q ∈ del (p :: ps) id, wt (m.process (del (p :: ps) id) id w).1 q ≤ wt m q := by
        intro q hq
        have hne := mem_del_ne _ _ q hq
        unfold wt
        cases hq2 : q.2.isNone
        · simp only [Bool.false_or]
          cases ha : (get (m.process (del (p :: ps) id) id w).1.active q.1).isSome
          · simp only [Bool.false_eq_true, if_false]; split <;> omega
          · have := hmono q.1 hne ha; simp [this]
        · simp
      have hm1 := mu_mono m _ _ hwt
      cases hr : (m.process (del (p :: ps) id) id w).2 with
      | none =>
        -- nothing queued: `mu` drops by the weight of the entry, at least 1
        simp only [hr] at hm' g1
        have hw1 := wt_pos m (id, w)
        exact ih _ _ _ g1 (by simp only [nextP]; omega) m' hm'
      | some be =>
        -- `b` queued: +1 for it, -2 for the entry that caused it
        obtain ⟨b, e⟩ := be
        simp only [hr] at hm' g1
        have hw := hheavy b e hr
        have hq := hq1 b e hr
        have hpb' : get (del (p :: ps) id) b = none := by rw [get_del]; simp [Ne.symm hq.ne, hq.fresh]
        have hms := mu_set_fresh (m.process (del (p :: ps) id) id w).1 (del (p :: ps) id) b (some e) hpb'
        have hwb : wt (m.process (del (p :: ps) id) id w).1 (b, some e) = 1 := by simp [wt, hq.inactive]
        have hw2 : wt m (id, w) = 2 := by
          unfold wt
          rcases hw with h | h
          · subst h; simp
          · simp [h]
        exact ih _ _ _ g1 (by simp only [nextP]; omega) m' hm'

theorem nodup_mkPending (us : Batch) : NodupKeys (mkPending us) :=
  List.foldlRecOn (motive := NodupKeys) us _ nodupKeys_nil fun _ h _ _ => nodupKeys_set _ _ _ h

theorem nodup_applyEntry (l : GoMap Nat Ep) (p : Nat × Option Ep) (h : NodupKeys l) : NodupKeys (applyEntry l p) := by
  unfold applyEntry; split
  · exact nodupKeys_set _ _ _ h
  · exact nodupKeys_del _ _ h

theorem nodup_fold_applyEntry (P : Pending) (l : GoMap Nat Ep) (h : NodupKeys l) : NodupKeys (P.foldl applyEntry l) :=
  List.foldlRecOn (motive := NodupKeys) P _ h fun l h p _ => nodup_applyEntry l p h

theorem get_applyEntry (l : GoMap Nat Ep) (p : Nat × Option Ep) (k : Nat) :
    get (applyEntry l p) k = if p.1 = k then p.2 else get l k := by
  unfold applyEntry; split <;> simp [get_set, get_del, *]

theorem get_fold_applyEntry (P : Pending) (hn : NodupKeys P) (l : GoMap Nat Ep) (id : Nat) :
    get (P.foldl applyEntry l) id = lAfter (get l) P id := by
  rw [Assoc.fold_local applyEntry (·.1) get (fun _ x => x.2) get_applyEntry, C18.filter_key P hn id]
  unfold lAfter; cases get P id <;> rfl

theorem good_batch (m : Mgr) (l : GoMap Nat Ep) (us : Batch) (g : Good m (get l) [])
    (m' : Mgr) (hm : m' ∈ m.batch us) : Good m' (get (liveB l us)) [] := by
  have hnp := nodup_mkPending us
  have g0 : Good m (get (liveB l us)) (mkPending us) := by
    rw [show get (liveB l us) = lAfter (get l) (mkPending us) from funext (get_fold_applyEntry _ hnp l)]
    refine ⟨fun id => ⟨(g.live id).1, ?_⟩, g.idx,
      fun id e h _ => (g.wait id e h rfl).imp fun x hx => ⟨hx.1, hx.2.imp_right (by simp)⟩, g.nd, hnp⟩
    unfold lAfter
    cases get (mkPending us) id with
    | none => exact g.settled rfl
    | some v => rfl
  exact good_resolveAll _ m _ _ g0 (by have := mu_le m (mkPending us); omega) m' hm

theorem good_new : Good Mgr.new (get ([] : GoMap Nat Ep)) [] :=
  ⟨fun _ => by simp [LiveAt, Mgr.new], by constructor <;> simp [Mgr.new], by simp [Mgr.new], nodupKeys_nil, nodupKeys_nil⟩

theorem good_reach (bs : List Batch) : ∀ (m : Mgr) (l : GoMap Nat Ep), Good m (get l) [] → NodupKeys l →
    ∀ m', ReachFrom m bs m' →
    Good m' (get (bs.foldl liveB l)) [] ∧ NodupKeys (bs.foldl liveB l) := by
  induction bs with
  | nil => intro m l g hl m' hr; simp only [ReachFrom] at hr; subst hr; exact ⟨g, hl⟩
  | cons us r ih =>
    intro m l g hl m' hr
    obtain ⟨m1, hm1, hr'⟩ := hr
    exact ih m1 (liveB l us) (good_batch m l us g m1 hm1) (nodup_fold_applyEntry _ _ hl) m' hr'

theorem best_of_good (m : Mgr) (l : GoMap Nat Ep) (g : Good m (get l) []) (hl : NodupKeys l) (name : Nat) :
    bestShadowed l name = get m.ifaceToID name := by
  -- a live endpoint on `name` holds it or is shadowed behind a smaller holder
  have hle : ∀ j e, get l j = some e → e.name = name → ∃ a, get m.ifaceToID name = some a ∧ a ≤ j := by
    intro j e he hn
    rcases g.active_or_shadowed he with h1 | h1
    · exact ⟨j, hn ▸ g.idx.active_holds j e h1, Nat.le_refl _⟩
    · obtain ⟨x, hx, hI | ⟨_, hb, _⟩⟩ := g.wait j e h1 rfl
      · exact ⟨x, hn ▸ hI, Nat.le_of_lt hx⟩
      · cases hb
  have hlive : ∀ a, get m.ifaceToID name = some a → a ∈ onName l name := fun a ha => by
    obtain ⟨e, hact, hen⟩ := g.idx.holder_active name a ha
    exact (mem_onName l hl name a).2 ⟨e, g.live_of_active hact, hen⟩
  rw [bestShadowed_min]
  ext b
  rw [List.min?_eq_some_iff]
  constructor
  · rintro ⟨hb, hmin⟩
    obtain ⟨e, he, hn⟩ := (mem_onName l hl name b).1 hb
    obtain ⟨a, ha, hab⟩ := hle b e he hn
    have := hmin a (hlive a ha)
    rw [ha]; congr 1; omega
  · intro hi
    refine ⟨hlive b hi, fun j hj => ?_⟩
    obtain ⟨ej, hej, hjn⟩ := (mem_onName l hl name j).1 hj
    obtain ⟨a, ha, haj⟩ := hle j ej hej hjn
    rw [hi] at ha; cases ha; exact haj

theorem spec_of_good (m : Mgr) (l : GoMap Nat Ep) (g : Good m (get l) []) (hl : NodupKeys l) (name : Nat) :
    get m.chains name = specChains l name ∧ get m.routes name = specRoutes l name ∧
    get m.ifaceToID name = (preferred l name).map (·.1) := by
  unfold specChains specRoutes preferred
  rw [best_of_good m l g hl name, g.idx.chains, g.idx.routes]
  cases hi : get m.ifaceToID name with
  | none => exact ⟨rfl, rfl, rfl⟩
  | some h =>
    obtain ⟨e, hact, _⟩ := g.idx.holder_active name h hi
    simp [hact, g.live_of_active hact]

end CalicoVerif.C44
