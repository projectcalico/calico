import CalicoVerif.Proofs.C11Step
import CalicoVerif.Proofs.C11Split
import CalicoVerif.Proofs.C11Asm
/-!
C11 — long-jump trampolines (`Block.writeTrampoline`) preserve the label-level semantics.

A trampoline is `JumpA skip; (t: JumpA t)*; skip:` inserted between two instructions: the
fall-through path jumps over it, and a jump to `t` from before it lands on the relay, which
jumps on to the next definition of `t`.  The first half (`relayed_sound`) is about ANY insertion of such
blocks (`Relayed`), whatever the bookkeeping that decided where to put them and for which labels.  The
second half shows that the splitter's bookkeeping inserts exactly such blocks (`AddInv`, kept by `BlockSt.add`;
`expand_relayed`).
-/
namespace CalicoVerif.C11

def Label.isSkip : Label → Bool
  | .skipTrampoline _ => true
  | _ => false

def relays (ts : List Label) : List Ev := ts.flatMap (fun l => [Ev.label l, jumpA l])

def trampBlock (idx : Nat) (ts : List Label) : List Ev :=
  jumpA (.skipTrampoline idx) :: (relays ts ++ [.label (.skipTrampoline idx)])

theorem trampolineEvs_eq (idx : Nat) (fix : List Label) : trampolineEvs idx fix = trampBlock idx (sortLabels fix) := rfl

/-- `n` is `o` with trampoline blocks inserted in front of some events (never in front of the second
slot of a `LoadImm64`, never for a skip label). -/
inductive Relayed : List Ev → List Ev → Prop
  | nil : Relayed [] []
  | cons (e : Ev) {o n : List Ev} : Relayed o n → Relayed (e :: o) (e :: n)
  | tramp (idx : Nat) (ts : List Label) (e : Ev) {o n : List Ev} :
      (∀ t ∈ ts, t.isSkip = false) → (∀ j, e = .ins j → j.op ≠ opLoadImm64Pt2) →
      Relayed o n → Relayed (e :: o) (trampBlock idx ts ++ e :: n)

theorem Relayed.append {o1 n1 o2 n2 : List Ev} (h1 : Relayed o1 n1) (h2 : Relayed o2 n2) :
    Relayed (o1 ++ o2) (n1 ++ n2) := by
  induction h1 with
  | nil => exact h2
  | cons e _ ih => exact .cons e ih
  | tramp idx ts e hts he _ ih =>
    have := Relayed.tramp idx ts e hts he ih
    simpa [List.append_assoc] using this

theorem Relayed.refl (o : List Ev) : Relayed o o := by
  induction o with
  | nil => exact .nil
  | cons e es ih => exact .cons e ih

theorem lrun_jumpA (env : Env) (l : Label) (r : List Ev) (m : Mach) :
    lrun env (jumpA l :: r) m = goto env l r m :=
  lrun_jump env l r m

theorem labelsOf_relays (ts : List Label) : labelsOf (relays ts) = ts := by
  induction ts with
  | nil => rfl
  | cons t ts ih =>
    have : relays (t :: ts) = Ev.label t :: jumpA t :: relays ts := rfl
    rw [this]
    simp only [labelsOf, jumpA, ih]

theorem goto_relays (env : Env) (l : Label) (rest : List Ev) (m : Mach) :
    ∀ ts : List Label, goto env l (relays ts ++ rest) m = goto env l rest m := by
  intro ts
  induction ts with
  | nil => rfl
  | cons t ts ih =>
    have : relays (t :: ts) ++ rest = Ev.label t :: jumpA t :: (relays ts ++ rest) := rfl
    rw [this]
    by_cases h : t = l
    · subst h
      rw [goto_label_self, lrun_jumpA, ih]
    · rw [goto_cons_label_ne env _ m h]
      unfold jumpA
      rw [goto_cons_jmp, ih]

theorem lrun_trampBlock (env : Env) (idx : Nat) (ts : List Label) (n : List Ev) (m : Mach)
    (hts : ∀ t ∈ ts, t.isSkip = false) : lrun env (trampBlock idx ts ++ n) m = lrun env n m := by
  have : trampBlock idx ts ++ n = jumpA (.skipTrampoline idx) :: (relays ts ++ (Ev.label (.skipTrampoline idx) :: n)) := by
    simp [trampBlock]
  rw [this, lrun_jumpA, goto_append _ m (by
    rw [labelsOf_relays]
    intro hm
    have := hts _ hm
    simp [Label.isSkip] at this), goto_label_self]

theorem goto_trampBlock (env : Env) (idx : Nat) (ts : List Label) (n : List Ev) (m : Mach) (l : Label)
    (hl : l.isSkip = false) : goto env l (trampBlock idx ts ++ n) m = goto env l n m := by
  have : trampBlock idx ts ++ n = jumpA (.skipTrampoline idx) :: (relays ts ++ (Ev.label (.skipTrampoline idx) :: n)) := by
    simp [trampBlock]
  rw [this]
  unfold jumpA
  rw [goto_cons_jmp, goto_relays, goto_cons_label_ne env _ m (by intro e; rw [← e] at hl; simp [Label.isSkip] at hl)]

def NoSkipJ (o : List Ev) : Prop := ∀ i l, Ev.jmp i l ∈ o → l.isSkip = false

theorem NoSkipJ.tail {e : Ev} {o : List Ev} (h : NoSkipJ (e :: o)) : NoSkipJ o :=
  fun i l hm => h i l (List.mem_cons_of_mem _ hm)

theorem relayed_nextIns {o n : List Ev} (h : Relayed o n) :
    nextIns n = nextIns o ∨ (nextIns n = none ∧ ∀ j, nextIns o = some j → j.op ≠ opLoadImm64Pt2) := by
  cases h with
  | nil => exact Or.inl rfl
  | cons e _ => exact Or.inl (by cases e <;> rfl)
  | tramp idx ts e hts he _ =>
    refine Or.inr ⟨rfl, ?_⟩
    intro j hj
    cases e with
    | ins j' => simp only [nextIns, Option.some.injEq] at hj; subst hj; exact he _ rfl
    | jmp _ _ => simp [nextIns] at hj
    | label _ => simp [nextIns] at hj

theorem relayed_head_ins {o n : List Ev} {j : Insn} (h : Relayed o n) (hn : nextIns n = some j) :
    ∃ o' n', o = .ins j :: o' ∧ n = .ins j :: n' ∧ Relayed o' n' := by
  cases h with
  | nil => simp [nextIns] at hn
  | cons e h' =>
    cases e with
    | ins j' => simp only [nextIns, Option.some.injEq] at hn; subst hn; exact ⟨_, _, rfl, rfl, h'⟩
    | jmp _ _ => simp [nextIns] at hn
    | label _ => simp [nextIns] at hn
  | tramp idx ts e hts he _ => simp [nextIns, trampBlock, jumpA] at hn

theorem step_nxt_irrel (env : Env) (i : Insn) (m : Mach) (n1 n2 : Option Insn)
    (h : n1 = n2 ∨ (n1 = none ∧ ∀ j, n2 = some j → j.op ≠ opLoadImm64Pt2)) :
    step env i n1 m = step env i n2 m := by
  rcases h with rfl | ⟨rfl, h2⟩
  · rfl
  · by_cases hop : i.op = opLoadImm64
    · rw [step_loadImm64_fault hop (by simp), step_loadImm64_fault hop h2]
    · exact step_nxt _ _ hop

theorem relayed_sound_le (env : Env) :
    ∀ (k : Nat) (o n : List Ev), n.length ≤ k → Relayed o n → NoSkipJ o →
      (∀ m, lrun env n m = lrun env o m) ∧ (∀ l, l.isSkip = false → ∀ m, goto env l n m = goto env l o m) := by
  intro k
  induction k using Nat.strongRecOn with
  | _ k ih =>
    intro o n hk hrel hns
    cases hrel with
    | nil => exact ⟨fun _ => rfl, fun _ _ _ => rfl⟩
    | cons e hrel' =>
      rename_i o' n'
      have hlen : n'.length < k := by simp only [List.length_cons] at hk; omega
      obtain ⟨L', G'⟩ := ih n'.length hlen o' n' (Nat.le_refl _) hrel' hns.tail
      refine ⟨?_, ?_⟩
      · intro m
        cases e with
        | label l => rw [lrun_label, lrun_label]; exact L' m
        | ins i =>
          rw [lrun_ins_eq, lrun_ins_eq, step_nxt_irrel env i m _ _ (relayed_nextIns hrel')]
          cases hs : step env i (nextIns o') m with
          | next m' => exact L' m'
          | next2 m' =>
            -- the second slot is there in both lists
            obtain ⟨_, j, hj, hp⟩ := step_next2 hs
            have hn : nextIns n' = some j := by
              rcases relayed_nextIns hrel' with h | ⟨_, h2⟩
              · rw [h, hj]
              · exact absurd hp (h2 j hj)
            obtain ⟨o'', n'', rfl, rfl, hr''⟩ := relayed_head_ins hrel' hn
            have hlen2 : n''.length < k := by simp only [List.length_cons] at hlen; omega
            obtain ⟨L'', _⟩ := ih n''.length hlen2 o'' n'' (Nat.le_refl _) hr'' hns.tail.tail
            simpa using L'' m'
          | taken _ => rfl
          | «exit» _ _ => rfl
          | tail _ _ _ => rfl
          | fault => rfl
        | jmp i l =>
          have hl : l.isSkip = false := hns i l (List.mem_cons_self)
          rw [lrun_jmp_eq, lrun_jmp_eq]
          split
          · rfl
          · cases step env i none m with
            | next m' => exact L' m'
            | taken m' => exact G' l hl m'
            | next2 _ => rfl
            | «exit» _ _ => rfl
            | tail _ _ _ => rfl
            | fault => rfl
      · intro l hl m
        cases e with
        | label l' =>
          by_cases h : l' = l
          · subst h; rw [goto_label_self, goto_label_self]; exact L' m
          · rw [goto_cons_label_ne env _ m h, goto_cons_label_ne env _ m h]; exact G' l hl m
        | ins i => rw [goto_cons_ins, goto_cons_ins]; exact G' l hl m
        | jmp i l' => rw [goto_cons_jmp, goto_cons_jmp]; exact G' l hl m
    | tramp idx ts e hts he hrel' =>
      rename_i o' n'
      have hlen : (e :: n').length < k := by
        simp only [List.length_append, trampBlock, List.length_cons] at hk ⊢; omega
      obtain ⟨L', G'⟩ := ih (e :: n').length hlen (e :: o') (e :: n') (Nat.le_refl _) (.cons e hrel') hns
      refine ⟨?_, ?_⟩
      · intro m; rw [lrun_trampBlock env idx ts _ m hts]; exact L' m
      · intro l hl m; rw [goto_trampBlock env idx ts _ m l hl]; exact G' l hl m

/-- **Trampolines preserve the semantics**: running, and jumping into, the relayed list is the same
as for the original one. -/
theorem relayed_sound (env : Env) {o n : List Ev} (h : Relayed o n) (hn : NoSkipJ o) :
    (∀ m, lrun env n m = lrun env o m) ∧ (∀ l, l.isSkip = false → ∀ m, goto env l n m = goto env l o m) :=
  relayed_sound_le env n.length o n (Nat.le_refl _) h hn

theorem jmp_mem_relays {i : Insn} {l : Label} {ts : List Label} (h : Ev.jmp i l ∈ relays ts) : l ∈ ts := by
  induction ts with
  | nil => simp [relays] at h
  | cons t ts ih =>
    have e : relays (t :: ts) = Ev.label t :: jumpA t :: relays ts := rfl
    rw [e] at h
    simp only [List.mem_cons, reduceCtorEq, false_or, jumpA, Ev.jmp.injEq] at h
    rcases h with ⟨_, rfl⟩ | h
    · exact List.mem_cons_self
    · exact List.mem_cons_of_mem _ (ih h)

/-- The invariant of a block under construction w.r.t. the original events fed to it so far. -/
def AddInv (b : BlockSt) (pre : List Ev) : Prop :=
  Relayed pre b.out.reverse ∧ ∀ l ∈ b.fix, l.isSkip = false

theorem AddInv.raw {b : BlockSt} {pre : List Ev} (h : AddInv b pre) (e : Ev)
    (he : ∀ i l, e = .jmp i l → l.isSkip = false) : AddInv (b.raw e) (pre ++ [e]) := by
  refine ⟨?_, ?_⟩
  · rw [raw_out, List.reverse_cons]
    exact h.1.append (Relayed.refl [e])
  · intro l hl
    rcases mem_raw_fix.1 hl with ⟨h', _⟩ | ⟨_, i, rfl⟩
    · exact h.2 l h'
    · exact he i l rfl

theorem AddInv.add {b : BlockSt} {pre : List Ev} (h : AddInv b pre) (stride : Nat) (e : Ev)
    (he : ∀ i l, e = .jmp i l → l.isSkip = false) : AddInv (b.add stride e) (pre ++ [e]) := by
  unfold BlockSt.add
  cases hop : evOp e with
  | none => exact h.raw e he
  | some op =>
    simp only
    split
    · rename_i hc
      split
      · exact AddInv.raw (b := { b with lastTrampAddr := b.len }) h e he
      · -- a trampoline is written first
        have hts : ∀ t ∈ sortLabels b.fix, t.isSkip = false := fun t ht => h.2 t ((mem_sortLabels t _).1 ht)
        have hne : ∀ j, e = .ins j → j.op ≠ opLoadImm64Pt2 := by
          intro j hj
          subst hj
          simp only [evOp, Option.some.injEq] at hop
          subst hop
          simp only [Bool.and_eq_true, bne_iff_ne, ne_eq] at hc
          exact hc.2
        refine ⟨?_, ?_⟩
        · rw [raw_out, foldl_raw, rawAll_out, List.reverse_cons, List.reverse_append, List.reverse_reverse]
          simp only [trampolineEvs_eq]
          have := Relayed.tramp b.trampIdx (sortLabels b.fix) e hts hne Relayed.nil
          have h2 := h.1.append this
          simpa [List.append_assoc] using h2
        · intro l hl
          rcases mem_raw_fix.1 hl with ⟨h', _⟩ | ⟨_, i, rfl⟩
          · -- the fix-ups after the trampoline: old ones and relayed ones, the skip label is resolved
            rw [trampolineEvs_eq] at h'
            have hsplit : trampBlock b.trampIdx (sortLabels b.fix) =
                (jumpA (.skipTrampoline b.trampIdx) :: relays (sortLabels b.fix)) ++ [.label (.skipTrampoline b.trampIdx)] := by
              simp [trampBlock]
            rw [hsplit, List.foldl_append, List.foldl_cons, List.foldl_nil] at h'
            obtain ⟨hin, hne'⟩ := (mem_raw_fix.1 h').resolve_right fun ⟨_, _, e⟩ => nomatch e
            rcases rawAll_fix_from _ _ l hin with h0 | ⟨i, hi⟩
            · exact h.2 l h0
            · rcases List.mem_cons.1 hi with hh | hh
              · simp only [jumpA, Ev.jmp.injEq] at hh
                exact (hne' (congrArg Ev.label hh.2.symm)).elim
              · exact hts l (jmp_mem_relays hh)
          · exact he i l rfl
    · exact h.raw e he

/-- With splitting disabled, the single block `expand` produces is the builder's event list with
trampolines inserted. -/
theorem foldl_relayed (c : Cfg) (xdp : Bool) (hns : c.policyMapStride = 0) :
    ∀ (bevs : List BEv) (s : SplitSt) (pre : List Ev), s.done = [] → AddInv s.cur pre → NoSkipJ (flat bevs) →
      (bevs.foldl (SplitSt.step c xdp) s).done = [] ∧
        AddInv (bevs.foldl (SplitSt.step c xdp) s).cur (pre ++ flat bevs) := by
  intro bevs
  induction bevs with
  | nil => intro s pre hd hi _; simpa [flat] using ⟨hd, hi⟩
  | cons b bs ih =>
    intro s pre hd hi hn
    cases b with
    | ev e =>
      simp only [List.foldl_cons, SplitSt.step, flat]
      have := ih { s with cur := s.cur.add c.trampolineStride e } (pre ++ [e]) hd
        (hi.add c.trampolineStride e (fun i l he => hn i l (by rw [he]; exact List.mem_cons_self)))
        (NoSkipJ.tail (e := e) hn)
      simpa using this
    | maybeSplit reload =>
      simp only [List.foldl_cons, SplitSt.step, flat, maybeSplit_noSplit c xdp s reload hns]
      exact ih s pre hd hi hn

theorem expand_relayed (c : Cfg) (xdp : Bool) (bevs : List BEv) (hns : c.policyMapStride = 0)
    (hn : NoSkipJ (flat bevs)) : ∃ n, expand c xdp bevs = [n] ∧ Relayed (flat bevs) n := by
  unfold expand
  have := foldl_relayed c xdp hns bevs {} [] rfl ⟨Relayed.nil, by intro l hl; cases hl⟩ hn
  simp only [List.nil_append] at this
  obtain ⟨h1, h2⟩ := this
  exact ⟨_, by simp [h1], h2.1⟩

end CalicoVerif.C11
