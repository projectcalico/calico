import CalicoVerif.Proofs.C32Walk
import CalicoVerif.Proofs.C32Store
/-! C32 — the invariants of the aggregator over histories. `Inv r log` is what every reachable ring satisfies together
with the ghost log of accepted flows: `CInv` ties the contents of the ring (windows per key, key sets, per-slot flow
lists) to the log and does not see the `pushed` flags; `PInv` (C32Walk) speaks of the flags only. `CInv` is nested,
each layer being what one family of property theorems reads: `GInv` (in `C32Spec`: time layout, stored count = sum over the log) for
`one_bucket_per_flow` and `window_eq_sum_accepted`, `QInv` (no stale window) for `query_eq_sum_retained`, `CInv` itself
(every logged flow of a retained bucket is listed; the flow lists) for `list_complete` and `Statistics`. One lemma per
operation for `CInv` and for `PInv`, one induction over histories (`grun_inv`); `EInv` rides on `Inv` with the ghost
list of emitted buckets (`erun_estate`). To use it: take `reachable_inv`, project (`Inv.contig`, `.cinv.q`,
`.cinv.q.g`, `.pinv`). The last part of the file is the queries on ANY ring with `QInv` / `CInv`, which `Props/C32`
instantiates at reachable rings: `List` (`list_eq_sum_windows`, `list_eq_sum_buckets`, `list_one_bucket`), `FlowSet` and
completeness (`flowSet_mem`, `list_complete_of_cinv`), `Statistics` (`statRange_lt`, `stats_eq_log`). -/
namespace CalicoVerif.C32

/-- `sorted` is what makes the expiry loop of `Rollover`, which stops at the first window it keeps, drop exactly the
windows of the reset bucket. -/
structure QInv (r : Ring) (log : Log) : Prop where
  g : GInv r log
  sorted : ∀ k, WSorted (r.wins k)
  home : ∀ k w, w ∈ r.wins k → ∃ i, i < r.n ∧ (r.bucket i).start = w.start ∧ k ∈ (r.bucket i).keys

structure CInv (r : Ring) (log : Log) : Prop where
  q : QInv r log
  lh : ∀ e ∈ log, ∀ i, i < r.n → (r.bucket i).contains e.2.1 = true →
    e.1 ∈ (r.bucket i).keys ∧ ∃ w ∈ r.wins e.1, w.start = (r.bucket i).start
  blen : r.bflows.length = r.n
  bf : ∀ i, i < r.n → r.bflows.getD i [] = logOf log (r.bucket i)

theorem logOf_congr (log : Log) {b b' : Bucket} (h1 : b.start = b'.start) (h2 : b.stop = b'.stop) :
    logOf log b = logOf log b' := by
  unfold logOf Bucket.contains; rw [h1, h2]

theorem logOf_cons (e : Nat × Int × Int) (log : Log) (b : Bucket) :
    logOf (e :: log) b = if b.contains e.2.1 = true then (e.1, e.2.2) :: logOf log b else logOf log b := by
  by_cases h : b.contains e.2.1 = true <;> simp [logOf, h]

theorem CInv.g {r : Ring} {log : Log} (h : CInv r log) : GInv r log := h.q.g

theorem CInv.contig {r : Ring} {log : Log} (h : CInv r log) : Contig r := h.q.g.contig

theorem QInv.contig {r : Ring} {log : Log} (h : QInv r log) : Contig r := h.g.contig

theorem CInv.of_same {a b : Ring} {log : Log} (hsb : SameButPushed a b) (h : CInv b log) : CInv a log := by
  obtain ⟨hs, _, _, hd, hb⟩ := hsb
  have hw : ∀ k, a.wins k = b.wins k := fun k => congrArg (winsOf · k) hd
  have hl := hs.layout
  have hn : a.n = b.n := hs.len
  have hg := h.g
  refine ⟨⟨⟨Contig.of_layout hl hg.contig, hd ▸ hg.ks, fun k w hwm => ?_, fun k w hwm => ?_, fun e he => ?_,
    fun k i hi => ?_⟩, fun k => hw k ▸ h.q.sorted k, fun k w hwm => ?_⟩, fun e he i hi hce => ?_, ?_, fun i hi => ?_⟩
  · rw [hl.eoh]; exact hg.wlt k w (hw k ▸ hwm)
  · rw [hs.interval]; exact hg.wI k w (hw k ▸ hwm)
  · rw [hl.eoh]; exact hg.llt e he
  · rw [hw, (hs.bk i).1, (hs.bk i).2.1]; exact hg.q k i (hn ▸ hi)
  · obtain ⟨i, hi, h1, h2⟩ := h.q.home k w (hw k ▸ hwm)
    exact ⟨i, hn ▸ hi, (hs.bk i).1.trans h1, (hs.bk i).2.2 ▸ h2⟩
  · rw [contains_iff, (hs.bk i).1, (hs.bk i).2.1, ← contains_iff] at hce
    rw [(hs.bk i).1, (hs.bk i).2.2, hw]
    exact h.lh e he i (hn ▸ hi) hce
  · rw [hb, hn]; exact h.blen
  · rw [hb, logOf_congr log (hs.bk i).1 (hs.bk i).2.1]; exact h.bf i (hn ▸ hi)

theorem emit_cinv {r : Ring} {log : Log} (h : CInv r log) : CInv r.emit.1 log :=
  CInv.of_same (emit_same r) h

theorem addFlow_wins {r : Ring} {t : Int} {i : Nat} (key : Nat) (cnt : Int) (hs : KeysSorted r.dia)
    (hf : r.findBucket t = some i) :
    KeysSorted (r.addFlow key t cnt).1.dia ∧ ∀ k, (r.addFlow key t cnt).1.wins k =
      if k = key then addWin (r.bucket i).start (r.bucket i).stop cnt (r.wins key) else r.wins k := by
  rw [addFlow_some key cnt hf]
  refine ⟨setDia_sorted _ _ _ hs, fun k => ?_⟩
  split
  · rename_i hk; subst hk; exact setDia_self _ _ _ hs
  · rename_i hk; exact setDia_ne _ _ _ _ hk

theorem addFlow_cinv {r : Ring} {log : Log} (h : CInv r log) (key : Nat) (t cnt : Int) :
    CInv (r.addFlow key t cnt).1 (if (r.addFlow key t cnt).2 then (key, t, cnt) :: log else log) := by
  have hg := h.g
  have hc := hg.contig
  cases hf : r.findBucket t with
  | none => rw [addFlow_none key cnt hf]; exact h
  | some i0 =>
    have hi0 := findBucket_lt hc t i0 hf
    have hc0 := (contains_iff _ _).1 (findBucket_sound r t i0 hf)
    have ht := findBucket_range r t i0 hf
    have hb0 := contig_width hc i0 hi0
    have hlay := addFlow_layout key cnt hf hi0
    obtain ⟨hks, hwin⟩ := addFlow_wins key cnt hg.ks hf
    have hbk := addFlow_bucket key cnt hf hi0
    have hbfl : (r.addFlow key t cnt).1.bflows = r.bflows.set i0 ((key, cnt) :: r.bflows.getD i0 []) := by
      rw [addFlow_some key cnt hf]
    rw [show (r.addFlow key t cnt).2 = true by rw [addFlow_some key cnt hf], if_pos rfl]
    generalize (r.addFlow key t cnt).1 = r' at hlay hks hwin hbk hbfl ⊢
    have hn : r'.n = r.n := hlay.len
    -- only the bucket `i0` contains `t`, and only it starts where it starts
    have hother : ∀ i, i < r.n → i ≠ i0 → (r.bucket i).start ≠ (r.bucket i0).start ∧ (r.bucket i).contains t = false :=
      fun i hi hne => ⟨fun hs => hne (contig_start_inj hc i i0 hi hi0 hs), Bool.eq_false_iff.2 fun hct =>
        hne (contig_unique hc t i i0 hi hi0 hct ((contains_iff _ _).2 hc0))⟩
    have hkeys : key ∈ (r'.bucket i0).keys ∧ ∀ j k, k ∈ (r.bucket j).keys → k ∈ (r'.bucket j).keys := by
      refine ⟨by rw [hbk, if_pos rfl]; exact (insertKey_mem _ _ _).2 (Or.inl rfl), fun j k hk => ?_⟩
      rw [hbk]; split
      · rename_i hj; subst hj; exact (insertKey_mem _ _ _).2 (Or.inr hk)
      · exact hk
    -- what holds of the bounds of the bucket `i0` and of all old windows of a key holds of all its windows now
    have allw : ∀ (P : Int → Int → Prop) (k : Nat), (k = key → P (r.bucket i0).start (r.bucket i0).stop) →
        (∀ w ∈ r.wins k, P w.start w.stop) → ∀ w ∈ r'.wins k, P w.start w.stop := by
      intro P k h0 hold
      rw [hwin]; split
      · rename_i hk; subst hk; exact addWin_forall _ _ _ _ (h0 rfl) hold
      · exact hold
    refine ⟨⟨⟨Contig.of_layout hlay hc, hks, fun k => ?_, fun k => ?_, fun e he => ?_, fun k i hi => ?_⟩,
      fun k => ?_, fun k => ?_⟩, fun e he i hi hce => ?_, ?_, fun i hi => ?_⟩
    · rw [hlay.eoh]; exact allw (fun s _ => s < r.eoh) k (fun _ => by omega) (hg.wlt k)
    · rw [hlay.interval]; exact allw (fun s e => e = s + r.interval) k (fun _ => hb0) (hg.wI k)
    · rw [hlay.eoh]
      rcases List.mem_cons.1 he with rfl | he
      · exact ht.2
      · exact hg.llt e he
    · rw [hn] at hi
      rw [(hlay.bk i).1, (hlay.bk i).2, logSum_cons, hwin, ← hg.q k i hi]
      split
      · rename_i hk; subst hk
        rw [addWin_wc]
        by_cases hii : i = i0
        · subst hii; rw [if_pos rfl, if_pos ⟨rfl, hc0⟩]
        · rw [if_neg (Ne.symm (hother i hi hii).1), if_neg fun hh => Bool.eq_false_iff.1 (hother i hi hii).2
            ((contains_iff _ _).2 hh.2)]
      · rename_i hk; rw [if_neg fun hh => hk hh.1.symm, Int.add_zero]
    · rw [hwin]; split
      · exact addWin_sorted _ _ _ _ (h.q.sorted key)
      · exact h.q.sorted k
    · refine allw (fun s _ => ∃ i, i < r'.n ∧ (r'.bucket i).start = s ∧ k ∈ (r'.bucket i).keys) k
        (fun hk => ⟨i0, hn ▸ hi0, (hlay.bk i0).1, hk ▸ hkeys.1⟩) fun w hw => ?_
      obtain ⟨i, hi, hs, hk⟩ := h.q.home k w hw
      exact ⟨i, hn ▸ hi, (hlay.bk i).1.trans hs, hkeys.2 i k hk⟩
    · rw [hn] at hi
      rw [contains_iff, (hlay.bk i).1, (hlay.bk i).2, ← contains_iff] at hce
      rw [(hlay.bk i).1, hwin]
      rcases List.mem_cons.1 he with rfl | he
      · have hii : i = i0 := Classical.not_not.1 fun hne => Bool.eq_false_iff.1 (hother i hi hne).2 hce
        subst hii
        rw [if_pos rfl]
        exact ⟨hkeys.1, (addWin_starts _ _ _ _ _).2 (Or.inl rfl)⟩
      · obtain ⟨h1, hw⟩ := h.lh e he i hi hce
        refine ⟨hkeys.2 i e.1 h1, ?_⟩
        split
        · rename_i hk; exact (addWin_starts _ _ _ _ _).2 (Or.inr (hk ▸ hw))
        · exact hw
    · rw [hbfl, List.length_set, hn]; exact h.blen
    · rw [hn] at hi
      rw [hbfl, logOf_congr _ (hlay.bk i).1 (hlay.bk i).2, logOf_cons]
      by_cases hii : i0 = i
      · subst hii
        rw [getD_set_self _ _ _ _ (h.blen ▸ hi), if_pos ((contains_iff _ _).2 hc0), h.bf i0 hi]
      · rw [getD_set_ne _ _ _ _ _ hii, if_neg (Bool.eq_false_iff.1 (hother i hi (Ne.symm hii)).2), h.bf i hi]

theorem addFlow_pinv {r : Ring} (hc : Contig r) (h : PInv r) (key : Nat) (t cnt : Int) :
    PInv (r.addFlow key t cnt).1 := by
  cases hf : r.findBucket t with
  | none => rw [addFlow_none key cnt hf]; exact h
  | some i => exact PInv.of_flags (addFlow_flags key cnt hf (findBucket_lt hc t i hf)) h

theorem rolled_cinv {r : Ring} {log : Log} (h : CInv r log) : CInv r.rolled log := by
  have hg := h.g
  have hc := hg.contig
  have hn := hc.npos
  have hI := hc.ipos
  have hc' := rolled_contig hc
  have he := rolled_eoh r hn
  obtain ⟨hks, hwin⟩ := expireFold_spec r.rolled.boh (r.bucket (r.idxAdd r.head 1)).keys r.dia hg.ks
  have hwin : ∀ k, r.rolled.wins k =
      if k ∈ (r.bucket (r.idxAdd r.head 1)).keys then dropExpired r.rolled.boh (r.wins k) else r.wins k := hwin
  -- the limiter is the old start of the slot that was reset …
  have hlim : r.rolled.boh = (r.bucket (r.idxAdd r.head 1)).start + r.interval := by
    have h1 := contig_boh hc
    have h2 := contig_boh hc'
    rw [he, rolled_n] at h2
    have : r.rolled.interval = r.interval := rfl
    rw [this] at h2
    show _ = r.boh + r.interval
    omega
  -- … and every other slot starts at or after it
  have hold : ∀ i, i < r.n → r.idxAdd r.head 1 ≠ i → r.rolled.boh ≤ (r.bucket i).start := fun i hi hne => by
    have := contig_boh_le hc' i (by rw [rolled_n]; exact hi)
    rwa [rolled_old r i hne] at this
  -- … so that a window of any other slot is kept
  have hkeep : ∀ k w i, w ∈ r.wins k → i < r.n → r.idxAdd r.head 1 ≠ i → w.start = (r.bucket i).start →
      w.stop > r.rolled.boh := fun k w i hw hi hne hs => by
    have := hg.wI k w hw
    have := hold i hi hne
    omega
  have hlater : ∀ x, x < r.eoh → x < r.rolled.eoh := fun x hx => by omega
  have hmem : ∀ k w, w ∈ r.rolled.wins k ↔
      w ∈ r.wins k ∧ (k ∈ (r.bucket (r.idxAdd r.head 1)).keys → w.stop > r.rolled.boh) := by
    intro k w
    rw [hwin]; split
    · rename_i hk
      rw [mem_dropExpired _ r.interval _ (h.q.sorted k) (hg.wI k)]
      exact and_congr_right fun _ => ⟨fun h _ => h, fun h => h hk⟩
    · rename_i hk; exact ⟨fun h => ⟨h, fun h' => absurd h' hk⟩, fun h => h.1⟩
  have hnolog : ∀ e ∈ log, ¬ (r.eoh ≤ e.2.1) := fun e he => by have := hg.llt e he; omega
  refine ⟨⟨⟨hc', hks, fun k w hw => ?_, fun k w hw => hg.wI k w ((hmem k w).1 hw).1, fun e he' => ?_,
    fun k i hi => ?_⟩, fun k => ?_, fun k w hw => ?_⟩, fun e he' i hi hce => ?_, ?_, fun i hi => ?_⟩
  · exact hlater _ (hg.wlt k w ((hmem k w).1 hw).1)
  · exact hlater _ (hg.llt e he')
  · rw [rolled_n] at hi
    by_cases hih : r.idxAdd r.head 1 = i
    · subst hih
      rw [rolled_new r hn]
      show wcOf _ r.eoh = logSum log k r.eoh _
      rw [wcOf_zero _ _ (fun w hw => Int.ne_of_lt (hg.wlt k w ((hmem k w).1 hw).1)),
        logSum_zero_of_lt _ _ _ _ hg.llt]
    · rw [rolled_old r i hih, ← hg.q k i hi, hwin]
      split
      · exact dropExpired_wc _ _ _ fun w hw hs => hkeep k w i hw hi hih hs
      · rfl
  · rw [hwin]; split
    · exact (h.q.sorted k).sublist (dropExpired_suffix _ _).sublist
    · exact h.q.sorted k
  · obtain ⟨hw, hdrop⟩ := (hmem k w).1 hw
    obtain ⟨i, hi, hs, hk⟩ := h.q.home k w hw
    by_cases hih : r.idxAdd r.head 1 = i
    · -- the window belongs to the bucket that was just reset: it has been dropped
      subst hih
      have := hdrop hk
      have := hg.wI k w hw
      omega
    · exact ⟨i, by rw [rolled_n]; exact hi, by rw [rolled_old r i hih]; exact hs, by rw [rolled_old r i hih]; exact hk⟩
  · rw [rolled_n] at hi
    by_cases hih : r.idxAdd r.head 1 = i
    · subst hih
      rw [rolled_new r hn, contains_iff] at hce
      exact absurd hce.1 (hnolog e he')
    · rw [rolled_old r i hih] at hce ⊢
      obtain ⟨h1, w, hw, hs⟩ := h.lh e he' i hi hce
      exact ⟨h1, w, (hmem e.1 w).2 ⟨hw, fun _ => hkeep e.1 w i hw hi hih hs⟩, hs⟩
  · rw [rolled_bflows, List.length_set, rolled_n]; exact h.blen
  · rw [rolled_n] at hi
    rw [rolled_bflows]
    by_cases hih : r.idxAdd r.head 1 = i
    · subst hih
      rw [getD_set_self _ _ _ _ (h.blen ▸ hi), rolled_new r hn]
      unfold logOf
      rw [List.filter_eq_nil_iff.2 fun e he' hce => hnolog e he' ((contains_iff _ _).1 hce).1]; rfl
    · rw [getD_set_ne _ _ _ _ _ hih, rolled_old r i hih]; exact h.bf i hi

structure Inv (r : Ring) (log : Log) : Prop where
  cinv : CInv r log
  pinv : PInv r

theorem Inv.contig {r : Ring} {log : Log} (h : Inv r log) : Contig r := h.cinv.contig

theorem Inv.hlt {r : Ring} {log : Log} (h : Inv r log) : r.head < r.n := h.contig.hlt

theorem rolled_inv {r : Ring} {log : Log} (h : Inv r log) : Inv r.rolled log :=
  ⟨rolled_cinv h.cinv, rolled_pinv h.hlt h.pinv⟩

theorem emit_inv {r : Ring} {log : Log} (h : Inv r log) : Inv r.emit.1 log :=
  ⟨emit_cinv h.cinv, emit_pinv h.hlt h.pinv⟩

theorem gstep_inv {s : Ring × Log} (h : Inv s.1 s.2) (op : Op) : Inv (gstep s op).1 (gstep s op).2 := by
  cases op with
  | add k t c => exact ⟨addFlow_cinv h.cinv k t c, addFlow_pinv h.contig h.pinv k t c⟩
  | roll sink =>
    show Inv (s.1.rollover sink).1 s.2
    rw [rollover_fst]
    cases sink
    · exact rolled_inv h
    · exact emit_inv (rolled_inv h)
  | emit => exact emit_inv h

theorem grun_inv {s : Ring × Log} (h : Inv s.1 s.2) (ops : List Op) : Inv (grun s ops).1 (grun s ops).2 :=
  List.foldlRecOn (motive := fun s => Inv s.1 s.2) ops gstep h fun _ h op _ => gstep_inv h op

theorem newRing_inv (n : Nat) (interval now : Int) (pushAfter agg : Nat) (hn : 0 < n) (hi : 0 < interval) :
    Inv (newRing n interval now pushAfter agg) [] := by
  obtain ⟨hc, hf⟩ := newRing_spec n interval now pushAfter agg hn hi
  generalize newRing n interval now pushAfter agg = r at hc hf
  have hw : ∀ k, r.wins k = [] := fun k => by rw [← Ring.wins_eq, hf.dia]; rfl
  refine ⟨⟨⟨⟨hc, by rw [hf.dia]; exact List.Pairwise.nil, fun k w hwm => ?_, fun k w hwm => ?_, (fun e he => nomatch he),
    fun k i _ => by rw [hw]; rfl⟩, fun k => by rw [hw]; exact List.Pairwise.nil, fun k w hwm => ?_⟩,
    (fun e he => nomatch he), hf.blen, fun i _ => hf.bf i⟩, fun d _ hp => ?_⟩
  · rw [hw] at hwm; cases hwm
  · rw [hw] at hwm; cases hwm
  · rw [hw] at hwm; cases hwm
  · rw [Ring.pd, (hf.bk _).2] at hp; cases hp

theorem reachable_inv (n : Nat) (interval now : Int) (pushAfter agg : Nat) (hn : 0 < n) (hi : 0 < interval)
    (ops : List Op) :
    Inv (grun (newRing n interval now pushAfter agg, []) ops).1 (grun (newRing n interval now pushAfter agg, []) ops).2 :=
  grun_inv (s := (_, [])) (newRing_inv n interval now pushAfter agg hn hi) ops

theorem estep_ring (s : Ring × List Int) (l : Log) (op : Op) : (estep s op).1 = (gstep (s.1, l) op).1 := by
  cases op with
  | add k t c => rfl
  | roll sink => cases sink <;> rfl
  | emit => rfl

/-- `em`: the start times of all buckets handed to the sink so far (a start time identifies a bucket for ever: every
reset gives the slot a new, larger one); `pushed` is what keeps the next emission from taking a bucket again. -/
structure EInv (r : Ring) (em : List Int) : Prop where
  nodup : em.Nodup
  lt : ∀ s ∈ em, s < r.eoh
  pushed : ∀ s ∈ em, ∀ i, i < r.n → (r.bucket i).start = s → (r.bucket i).pushed = true

theorem emit_sent {r : Ring} {log : Log} (h : Inv r log) :
    (r.emit.2.flatMap (·.idxs)).Nodup ∧ ∀ c ∈ r.emit.2, ∀ i ∈ c.idxs,
      i < r.n ∧ i ≠ r.head ∧ (r.bucket i).pushed = false ∧ (r.emit.1.bucket i).pushed = true := by
  refine ⟨sent_idxs_nodup r h.hlt, fun c hc i hi => ?_⟩
  have hb := emit_sent_built r c hc
  have h1 := (built_disjoint r h.hlt).2 c hb i hi
  exact ⟨h1.2, h1.1, built_all_unpushed r h.hlt h.pinv c hb i hi, emit_sent_marked r c hc i hi h1.2⟩

theorem emit_einv {r : Ring} {log : Log} {em : List Int} (h : Inv r log) (he : EInv r em) :
    EInv r.emit.1 (em ++ sentStarts r r.emit.2) := by
  have hc := h.contig
  have hs := (emit_same r).times
  obtain ⟨hnd, hsent⟩ := emit_sent h
  have hidx : ∀ i ∈ r.emit.2.flatMap (·.idxs), i < r.n ∧ (r.bucket i).pushed = false ∧ (r.emit.1.bucket i).pushed = true := by
    intro i hi
    obtain ⟨c, hcm, hic⟩ := List.mem_flatMap.1 hi
    exact ⟨(hsent c hcm i hic).1, (hsent c hcm i hic).2.2⟩
  rw [show sentStarts r r.emit.2 = (r.emit.2.flatMap (·.idxs)).map (fun i => (r.bucket i).start) from
    (List.map_flatMap ..).symm]
  refine ⟨List.nodup_append.2 ⟨he.nodup, ?_, ?_⟩, fun s hs' => ?_, fun s hs' j hj hst => ?_⟩
  · exact List.pairwise_map.2 (hnd.imp_of_mem fun {a b} ha hb hne hab =>
      hne (contig_start_inj hc a b (hidx a ha).1 (hidx b hb).1 hab))
  · rintro s hs' _ ht rfl
    obtain ⟨i, hi, rfl⟩ := List.mem_map.1 ht
    exact Bool.false_ne_true ((hidx i hi).2.1.symm.trans (he.pushed _ hs' i (hidx i hi).1 rfl))
  · rw [hs.layout.eoh]
    rcases List.mem_append.1 hs' with h' | h'
    · exact he.lt s h'
    · obtain ⟨i, hi, rfl⟩ := List.mem_map.1 h'
      have := contig_stop_le hc i (hidx i hi).1
      have := contig_width hc i (hidx i hi).1
      have := hc.ipos
      omega
  · rw [emit_n] at hj
    rw [(hs.bk j).1] at hst
    rcases List.mem_append.1 hs' with h' | h'
    · rw [emit_bucket]; exact Bool.or_eq_true_iff.2 (Or.inl (he.pushed s h' j hj hst))
    · obtain ⟨i, hi, rfl⟩ := List.mem_map.1 h'
      rw [contig_start_inj hc j i hj (hidx i hi).1 hst]
      exact (hidx i hi).2.2

theorem rolled_einv {r : Ring} {em : List Int} (hc : Contig r) (he : EInv r em) : EInv r.rolled em := by
  have hI := hc.ipos
  refine ⟨he.nodup, fun s hs => ?_, fun s hs j hj hst => ?_⟩
  · rw [rolled_eoh r hc.npos]; have := he.lt s hs; omega
  · rw [rolled_n] at hj
    by_cases hjh : r.idxAdd r.head 1 = j
    · subst hjh
      rw [rolled_new r hc.npos] at hst
      have := he.lt s hs
      have : r.eoh = s := hst
      omega
    · rw [rolled_old r j hjh] at hst ⊢
      exact he.pushed s hs j hj hst

theorem addFlow_einv {r : Ring} {em : List Int} (hc : Contig r) (he : EInv r em) (key : Nat) (t cnt : Int) :
    EInv (r.addFlow key t cnt).1 em := by
  cases hf : r.findBucket t with
  | none => rw [addFlow_none key cnt hf]; exact he
  | some i0 =>
    have hi0 := findBucket_lt hc t i0 hf
    have hlay := addFlow_layout key cnt hf hi0
    refine ⟨he.nodup, fun s hs => by rw [hlay.eoh]; exact he.lt s hs, fun s hs j hj hst => ?_⟩
    rw [(addFlow_flags key cnt hf hi0).pushed j]
    exact he.pushed s hs j (hlay.len ▸ hj) ((hlay.bk j).1 ▸ hst)

def EState (r : Ring) (em : List Int) : Prop := (∃ log, Inv r log) ∧ EInv r em

theorem estep_estate {s : Ring × List Int} (h : EState s.1 s.2) (op : Op) : EState (estep s op).1 (estep s op).2 := by
  obtain ⟨⟨log, hi⟩, he⟩ := h
  refine ⟨⟨_, estep_ring s log op ▸ gstep_inv (s := (s.1, log)) hi op⟩, ?_⟩
  have hc := hi.contig
  cases op with
  | add k t c => exact addFlow_einv hc he k t c
  | roll sink =>
    cases sink
    · exact rolled_einv hc he
    · exact emit_einv (rolled_inv hi) (rolled_einv hc he)
  | emit => exact emit_einv hi he

theorem erun_estate {s : Ring × List Int} (h : EState s.1 s.2) (ops : List Op) : EState (erun s ops).1 (erun s ops).2 :=
  List.foldlRecOn (motive := fun s => EState s.1 s.2) ops estep h fun _ h op _ => estep_estate h op

theorem newRing_estate (n : Nat) (interval now : Int) (pushAfter agg : Nat) (hn : 0 < n) (hi : 0 < interval) :
    EState (newRing n interval now pushAfter agg) [] :=
  ⟨⟨[], newRing_inv n interval now pushAfter agg hn hi⟩,
   { nodup := List.nodup_nil, lt := fun _ hs => nomatch hs
     pushed := fun _ hs => nomatch hs }⟩

/-- `List` (time index): the count of every returned row is the sum of that key's windows inside the range. -/
theorem list_eq_sum_windows (r : Ring) (gte lt : Int) (x : Nat × Int × Int × Int) (hx : x ∈ r.list gte lt) :
    x.2.1 = total ((r.wins x.1).filter (inRange gte lt)) := by
  obtain ⟨k, _, hk⟩ := List.mem_filterMap.1 hx
  simp only [] at hk
  split at hk
  · cases hk; exact aggregate_fst _ _ _
  · cases hk

/-- `query_eq_sum_retained` on any ring with the invariant -/
theorem list_eq_sum_buckets {r : Ring} {log : Log} (hq : QInv r log) (gte lt : Int) (x : Nat × Int × Int × Int)
    (hx : x ∈ r.list gte lt) :
    x.2.1 = ((List.range r.n).map (fun i =>
      if bucketIn gte lt (r.bucket i) then logSum log x.1 (r.bucket i).start (r.bucket i).stop else 0)).sum := by
  have hc := hq.contig
  rw [list_eq_sum_windows r gte lt x hx,
    total_partition (List.range r.n) (fun i => (r.bucket i).start) List.nodup_range
      (fun a ha b hb => contig_start_inj hc a b (List.mem_range.1 ha) (List.mem_range.1 hb)) _
      (fun w hw => by
        obtain ⟨i, h1, h2, _⟩ := hq.home x.1 w (List.mem_filter.1 hw).1
        exact ⟨i, List.mem_range.2 h1, h2⟩)]
  refine congrArg _ (List.map_congr_left fun i hi => ?_)
  have hi' : i < r.n := List.mem_range.1 hi
  have hb := contig_width hc i hi'
  -- inside one bucket `inRange` is constant = `bucketIn`
  rw [← hq.g.q x.1 i hi', wcOf, wcOf, List.filter_filter,
    List.filter_congr (q := fun w => (w.start == (r.bucket i).start) && bucketIn gte lt (r.bucket i)) fun w hw => by
      by_cases hs : w.start = (r.bucket i).start
      · have : w.stop = (r.bucket i).stop := by rw [hq.g.wI x.1 w hw, hb, hs]
        simp only [inRange, bucketIn, hs, this]
      · simp only [beq_eq_false_iff_ne.2 hs, Bool.false_and]]
  cases bucketIn gte lt (r.bucket i)
  · rw [List.filter_eq_nil_iff.2 fun w _ => by simp]; rfl
  · simp only [Bool.and_true, if_true]

theorem list_one_bucket {r : Ring} {log : Log} (hq : QInv r log) (i : Nat) (hi : i < r.n)
    (h0 : (r.bucket i).start ≠ 0) (h1 : (r.bucket i).stop ≠ 0) (x : Nat × Int × Int × Int)
    (hx : x ∈ r.list (r.bucket i).start (r.bucket i).stop) :
    x.2.1 = logSum log x.1 (r.bucket i).start (r.bucket i).stop := by
  have hc := hq.contig
  have honly : ∀ j ∈ List.range r.n,
      (if bucketIn (r.bucket i).start (r.bucket i).stop (r.bucket j) then
        logSum log x.1 (r.bucket j).start (r.bucket j).stop else 0) =
      if j = i then logSum log x.1 (r.bucket i).start (r.bucket i).stop else 0 := by
    intro j hj
    have hbi := contig_width hc i hi
    have hbj := contig_width hc j (List.mem_range.1 hj)
    by_cases hji : j = i
    · subst hji; simp [bucketIn]
    · have : ¬ ((r.bucket i).start ≤ (r.bucket j).start ∧ (r.bucket j).stop ≤ (r.bucket i).stop) := fun hh =>
        hji (contig_start_inj hc j i (List.mem_range.1 hj) hi (by omega))
      simp [bucketIn, h0, h1, hji, this]
  rw [list_eq_sum_buckets hq _ _ x hx, List.map_congr_left honly,
    sum_map_single _ List.nodup_range i (List.mem_range.2 hi)]

theorem flowSet_mem (r : Ring) (gte lt : Int) (i k : Nat) (hi : i < r.n)
    (hsel : bucketSel gte lt (r.bucket i) = true) (hk : k ∈ (r.bucket i).keys) : k ∈ r.flowSet gte lt := by
  have hl : i < r.buckets.length := hi
  have hb : r.bucket i = r.buckets[i] := by
    simp only [Ring.bucket, List.getD_eq_getElem?_getD, List.getElem?_eq_getElem hl, Option.getD_some]
  exact flowSet_fold_mem gte lt r.buckets [] k (Or.inr ⟨r.buckets[i], List.getElem_mem hl, hb ▸ hsel, hb ▸ hk⟩)

theorem list_complete_of_cinv {r : Ring} {log : Log} (hc : CInv r log) (gte lt : Int) (e : Nat × Int × Int) (he : e ∈ log)
    (i : Nat) (hi : i < r.n) (hce : (r.bucket i).contains e.2.1 = true) (hin : bucketIn gte lt (r.bucket i) = true) :
    ∃ x ∈ r.list gte lt, x.1 = e.1 := by
  obtain ⟨hk, w, hw, hs⟩ := hc.lh e he i hi hce
  have hb := contig_width hc.contig i hi
  have hI := hc.contig.ipos
  simp only [bucketIn, Bool.and_eq_true, Bool.or_eq_true, beq_iff_eq, decide_eq_true_eq] at hin
  have hstart : (gte = 0 ∨ (r.bucket i).start ≥ gte) ∧ (lt = 0 ∨ (r.bucket i).start ≤ lt) :=
    ⟨hin.1, hin.2.imp_right fun h => by omega⟩
  have hf : e.1 ∈ r.flowSet gte lt := flowSet_mem r gte lt i e.1 hi (by
    simpa only [bucketSel, Bool.and_eq_true, Bool.or_eq_true, beq_iff_eq, decide_eq_true_eq] using hstart) hk
  have hwi : within (r.wins e.1) gte lt = true := by
    refine List.any_eq_true.2 ⟨w, hw, ?_⟩
    simpa only [Bool.and_eq_true, Bool.or_eq_true, beq_iff_eq, decide_eq_true_eq, hs] using
      (⟨hin.1, hin.2.imp_right fun h => by omega⟩ : (gte = 0 ∨ _ ≥ gte) ∧ (lt = 0 ∨ (r.bucket i).start < lt))
  refine ⟨(e.1, aggregate (r.wins e.1) gte lt), List.mem_filterMap.2 ⟨e.1, hf, ?_⟩, rfl⟩
  simp only [Ring.wins_eq, hwi, if_true]

theorem iterIdx_lt (r : Ring) (hn : 0 < r.n) (fuel s e : Nat) (hs : s < r.n) : ∀ i ∈ r.iterIdx fuel s e, i < r.n := by
  induction fuel generalizing s with
  | zero => intro i hi; cases hi
  | succ f ih =>
    rw [Ring.iterIdx]
    split
    · intro i hi; cases hi
    · intro i hi
      rcases List.mem_cons.1 hi with rfl | hi
      · exact hs
      · exact ih (r.idxAdd s 1) (idxAdd_lt r _ _ hn) i hi

theorem statRange_lt {r : Ring} (hc : Contig r) (gte lt : Int) (idxs : List Nat) (h : r.statRange gte lt = some idxs) :
    ∀ i ∈ idxs, i < r.n := by
  unfold Ring.statRange at h
  simp only [] at h
  split at h
  · rename_i s e hs he
    cases h
    apply iterIdx_lt r hc.npos
    split at hs
    · cases hs; exact idxAdd_lt r _ _ hc.npos
    · exact findBucket_lt hc gte s hs
  · cases h

theorem stats_eq_log {r : Ring} {log : Log} (hs : CInv r log) (typ : Nat) (gb : Bool) (gte lt : Int) :
    r.stats typ gb gte lt =
      (r.statRange gte lt).map (fun idxs => statsOfFlows typ gb (idxs.map (fun i => logOf log (r.bucket i)))) := by
  unfold Ring.stats
  cases hr : r.statRange gte lt with
  | none => rfl
  | some idxs =>
    exact congrArg (fun l => some (statsOfFlows typ gb l))
      (List.map_congr_left fun i hi => hs.bf i (statRange_lt hs.contig gte lt idxs hr i hi))

end CalicoVerif.C32
