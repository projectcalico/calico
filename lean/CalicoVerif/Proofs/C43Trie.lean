import CalicoVerif.Proofs.C43
/-!
C43 — the resolver's trie: the dirty set, the trie read through `view`, `updateCIDR`, and what each
trie operation leaves alone.  The notions:
`SameTables s s'` (only trie and dirty set differ); `Step s s'` (whatever changed is dirty); `Edit P k f` (the
operation `P` rewrites the one entry `k` by `f`, is a `Step`, and keeps the tables); `Tracked` (the CIDRs the
theorems speak about); `Aux` (where hosts, refs and blocks may live in the trie, and that every block route is
indexed in `nodeRoutes`); `Quiet`/`QuietN` (a stage of `onNodeUpdate`: a `Step` that keeps `Aux` and the pool and
block fields; `QuietN` also keeps the node table).  Three structures say what a model function does:
`Marked` (a fold of `markDirty`), `UpdatedCIDR` (`updateCIDR`), `NodeUpdated` (`onNodeUpdate`).

A route is computed from the lookup path of its CIDR, so `Step.anc` says that a CIDR `c` keeps the entries of its
ancestors — but only if `c` is clean, present (`view c ≠ {}`: `markChildrenDirty` and `descendants` walk the
entries that exist) and not longer than its family's width (so that `ancKey c l` for `l < c.len` is an ancestor).
`Edit.marking` proves an `Edit` for "`updateCIDR` at `k`, then marks on a list `xs`"; its covering clause asks
that `xs` holds every present `c` with `ancKey c l = k`, which is what discharges `Step.anc`
(`Step.updateCIDR_cover`).  A new trie operation is one call of `Edit.marking` (copy `Edit.updateBlockRoute`).
-/
namespace CalicoVerif.C43

theorem mem_sinsert {α} [DecidableEq α] (s : List α) (x y : α) : x ∈ sinsert s y ↔ x ∈ s ∨ x = y := by
  unfold sinsert
  split
  · rename_i h
    exact ⟨Or.inl, fun h' => h'.elim id fun e => e ▸ by simpa using h⟩
  · simp

theorem mem_markDirty (s : St) (c d : Cidr) : d ∈ (s.markDirty c).dirty ↔ d ∈ s.dirty ∨ d = c := by
  simp [St.markDirty, mem_sinsert]

structure SameTables (s s' : St) : Prop where
  me : s'.me = s.me
  nodes : s'.nodes = s.nodes
  nr : s'.nodeRoutes = s.nodeRoutes
  br : s'.blockRoutes = s.blockRoutes
  pools : s'.pools = s.pools

theorem SameTables.refl (s : St) : SameTables s s := ⟨rfl, rfl, rfl, rfl, rfl⟩

theorem SameTables.trans {s s1 s2 : St} (h1 : SameTables s s1) (h2 : SameTables s1 s2) : SameTables s s2 :=
  ⟨h2.me.trans h1.me, h2.nodes.trans h1.nodes, h2.nr.trans h1.nr, h2.br.trans h1.br, h2.pools.trans h1.pools⟩

/-- `s'` is `s` with the CIDRs `g x`, `x ∈ xs`, marked dirty. -/
structure Marked {α} (g : α → Cidr) (xs : List α) (s s' : St) : Prop where
  trie : s'.trie = s.trie
  tables : SameTables s s'
  dirty : ∀ d, d ∈ s'.dirty ↔ d ∈ s.dirty ∨ ∃ x ∈ xs, g x = d

theorem foldl_markDirty {α} (g : α → Cidr) (xs : List α) (s : St) :
    Marked g xs s (xs.foldl (fun s x => s.markDirty (g x)) s) := by
  induction xs generalizing s with
  | nil => exact ⟨rfl, SameTables.refl s, by simp⟩
  | cons x xs ih =>
    have h := ih (s.markDirty (g x))
    refine ⟨h.trie, SameTables.trans (s1 := s.markDirty (g x)) ⟨rfl, rfl, rfl, rfl, rfl⟩ h.tables, fun d => ?_⟩
    rw [List.foldl_cons, h.dirty d, mem_markDirty]
    simp only [List.mem_cons, exists_eq_or_imp, or_assoc, @eq_comm _ d (g x)]

theorem get_def (s : St) (k : Cidr) : s.get k = (aget s.trie k).getD {} := rfl

theorem isZero_strip (ri : RouteInfo) (h : ri.isZero = true) : strip ri = {} := by
  obtain ⟨pool, block, hosts, refs, ws⟩ := ri
  simp only [RouteInfo.isZero, RouteInfo.isValidRoute, Bool.and_eq_true, Bool.not_eq_true',
    Bool.or_eq_false_iff, Option.isSome_eq_false_iff, Option.isNone_iff_eq_none,
    Bool.not_eq_false', List.isEmpty_iff] at h
  obtain ⟨h1, ⟨⟨h2, h3⟩, h4⟩, h5⟩ := h
  subst h1 h2 h3 h4 h5
  rfl

theorem strip_strip (ri : RouteInfo) : strip (strip ri) = strip ri := rfl

theorem view_congr (s s' : St) (h : s'.trie = s.trie) (k : Cidr) : s'.view k = s.view k := by
  simp [St.view, St.get, h]

theorem view_ne_empty (s : St) (c : Cidr) (h : s.view c ≠ {}) : ∃ ri, aget s.trie c = some ri := by
  cases hg : aget s.trie c with
  | some ri => exact ⟨ri, rfl⟩
  | none => exact absurd (by simp [St.view, St.get, hg, strip]) h

theorem ne_empty_of_block (v : RouteInfo) (n : Nat) (h : v.block = some n) : v ≠ {} := by
  rintro rfl; cases h

structure UpdatedCIDR (s : St) (k : Cidr) (f : RouteInfo → RouteInfo) (r : St × Bool) : Prop where
  tables : SameTables s r.1
  view : ∀ k', r.1.view k' = if k = k' then strip (f (s.get k)) else s.view k'
  dirty : ∀ d, d ∈ r.1.dirty ↔ d ∈ s.dirty ∨ (d = k ∧ f (s.get k) ≠ s.get k)
  changed : r.2 = true ↔ f (s.get k) ≠ s.get k
  other : ∀ k', k' ≠ k → aget r.1.trie k' = aget s.trie k'

theorem updateCIDR_facts (s : St) (k : Cidr) (f : RouteInfo → RouteInfo) : UpdatedCIDR s k f (s.updateCIDR k f) := by
  unfold St.updateCIDR
  simp only []
  split
  · rename_i h
    refine ⟨SameTables.refl s, fun k' => ?_, fun d => by simp [h], by simp [h], fun _ _ => rfl⟩
    split
    · rename_i hk; rw [← hk, h]; rfl
    · rfl
  · rename_i h
    have hd : ∀ d, d ∈ (s.markDirty k).dirty ↔ d ∈ s.dirty ∨ (d = k ∧ f (s.get k) ≠ s.get k) := by
      simp [mem_markDirty, h]
    split
    · rename_i hz
      refine ⟨⟨rfl, rfl, rfl, rfl, rfl⟩, fun k' => ?_, hd, by simp [h],
        fun k' hk => by simp [St.markDirty, aget_adel, Ne.symm hk]⟩
      simp only [St.view, St.get, St.markDirty, aget_adel]
      split
      · exact (isZero_strip _ hz).symm
      · rfl
    · refine ⟨⟨rfl, rfl, rfl, rfl, rfl⟩, fun k' => ?_, hd, by simp [h],
        fun k' hk => by simp [St.markDirty, aget_aset, Ne.symm hk]⟩
      simp only [St.view, St.get, St.markDirty, aget_aset]
      split <;> rfl

theorem updateCIDR_view (s : St) (k : Cidr) (f : RouteInfo → RouteInfo) (k' : Cidr) :
    (s.updateCIDR k f).1.view k' = if k = k' then strip (f (s.get k)) else s.view k' :=
  (updateCIDR_facts s k f).view k'

theorem ancKey_width (c : Cidr) (l : Nat) : (ancKey c l).width = c.width := rfl

theorem ancKey_v6 (c : Cidr) (l : Nat) : (ancKey c l).v6 = c.v6 := rfl

theorem ancKey_len (c : Cidr) (l : Nat) : (ancKey c l).len = l := rfl

theorem topBits_ancKey (c : Cidr) (l : Nat) : topBits c.width (ancKey c l).addr l = topBits c.width c.addr l :=
  Nat.mul_div_cancel _ (Nat.two_pow_pos _)

theorem ancKey_contains (c : Cidr) (l : Nat) : (ancKey c l).containsAddr c.addr = true := by
  simp [Cidr.containsAddr, ancKey_len, ancKey_width, topBits_ancKey]

theorem ancKey_covers (c : Cidr) (l : Nat) (h : l < c.len) : (ancKey c l).covers c = true := by
  simp [Cidr.covers, ancKey_len, ancKey_v6, ancKey_contains, Nat.le_of_lt h]

theorem ancKey_ne (c : Cidr) (l : Nat) (h : l < c.len) : ancKey c l ≠ c :=
  fun e => Nat.ne_of_lt h (congrArg Cidr.len e)

structure Step (s s' : St) : Prop where
  me : s'.me = s.me
  mono : ∀ d, d ∈ s.dirty → d ∈ s'.dirty
  same : ∀ c, c ∉ s'.dirty → s'.view c = s.view c
  /-- with `same`: a clean, present CIDR keeps its lookup path, which is what `fullPath_congr` needs (in `Mid.step`) -/
  anc : ∀ c, c ∉ s'.dirty → s'.view c ≠ {} → c.len ≤ c.width →
    ∀ l, l < c.len → s'.view (ancKey c l) = s.view (ancKey c l)

theorem Step.refl (s : St) : Step s s := ⟨rfl, fun _ h => h, fun _ _ => rfl, fun _ _ _ _ _ _ => rfl⟩

theorem Step.trans {s s1 s2 : St} (h1 : Step s s1) (h2 : Step s1 s2) : Step s s2 := by
  refine ⟨h2.me.trans h1.me, fun d h => h2.mono d (h1.mono d h), ?_, ?_⟩
  · intro c hc
    have hc1 : c ∉ s1.dirty := fun h => hc (h2.mono c h)
    rw [h2.same c hc, h1.same c hc1]
  · intro c hc hne hl l hlt
    have hc1 : c ∉ s1.dirty := fun h => hc (h2.mono c h)
    have hne1 : s1.view c ≠ {} := by rw [← h2.same c hc]; exact hne
    rw [h2.anc c hc hne hl l hlt, h1.anc c hc1 hne1 hl l hlt]

theorem Step.of_eq (s s' : St) (ht : s'.trie = s.trie) (hd : s'.dirty = s.dirty) (hm : s'.me = s.me) : Step s s' :=
  ⟨hm, fun _ h => hd ▸ h, fun c _ => view_congr s s' ht c, fun _ _ _ _ _ _ => view_congr s s' ht _⟩

theorem Step.foldl {α} (body : St → α → St) (h : ∀ s x, Step s (body s x)) (xs : List α) (s : St) :
    Step s (xs.foldl body s) := by
  induction xs generalizing s with
  | nil => exact Step.refl s
  | cons x xs ih => exact (h s x).trans (ih (body s x))

theorem Step.updateCIDR_cover (s : St) (k : Cidr) (f : RouteInfo → RouteInfo) (s2 : St)
    (htrie : s2.trie = ((s.updateCIDR k f).1).trie) (hme : s2.me = s.me)
    (hmono : ∀ d, d ∈ ((s.updateCIDR k f).1).dirty → d ∈ s2.dirty)
    (hcover : f (s.get k) ≠ s.get k → ∀ c l, l < c.len → c.len ≤ c.width → ancKey c l = k → s.view c ≠ {} → c ∈ s2.dirty) :
    Step s s2 := by
  have hv := (updateCIDR_facts s k f).view
  have hd := (updateCIDR_facts s k f).dirty
  have hsame : ∀ c, c ∉ s2.dirty → s2.view c = s.view c := by
    intro c hc
    rw [view_congr _ _ htrie c, hv c]
    by_cases hk : k = c
    · subst hk
      simp only [if_true]
      by_cases hch : f (s.get k) = s.get k
      · rw [hch]; rfl
      · exact absurd (hmono k ((hd k).2 (Or.inr ⟨rfl, hch⟩))) hc
    · simp [hk]
  refine ⟨hme, fun d h => hmono d ((hd d).2 (Or.inl h)), hsame, ?_⟩
  intro c hc hne hl l hlt
  rw [view_congr _ _ htrie _, hv (ancKey c l)]
  by_cases hk : k = ancKey c l
  · simp only [hk, if_true]
    by_cases hch : f (s.get k) = s.get k
    · rw [← hk, hch]; rfl
    · have : s.view c ≠ {} := by rw [← hsame c hc]; exact hne
      exact absurd (hcover hch c l hlt hl hk.symm this) hc
  · simp [hk]

structure Edit (P : St → St) (k : Cidr) (f : RouteInfo → RouteInfo) : Prop where
  step : ∀ s, Step s (P s)
  view : ∀ s k', (P s).view k' = if k = k' then f (s.view k) else s.view k'
  nodes : ∀ s, (P s).nodes = s.nodes
  nr : ∀ s, (P s).nodeRoutes = s.nodeRoutes
  br : ∀ s, (P s).blockRoutes = s.blockRoutes
  pools : ∀ s, (P s).pools = s.pools

/-- Every trie operation has this shape (the `Edit.*` instances below): `updateCIDR`, then dirty marks that
cover what lies below `k`. -/
theorem Edit.marking {P : St → St} {k : Cidr} {g f : RouteInfo → RouteInfo}
    (hcomm : ∀ ri, strip (g ri) = f (strip ri))
    (hP : ∀ s, ∃ xs : List Cidr,
      P s = (if (s.updateCIDR k g).2 then xs.foldl (fun s d => s.markDirty d) (s.updateCIDR k g).1
             else (s.updateCIDR k g).1) ∧
      ∀ c l ri, l < c.len → c.len ≤ c.width → ancKey c l = k → (c, ri) ∈ s.trie →
        (c, ri) ∈ (s.updateCIDR k g).1.trie → c ∈ xs) : Edit P k f := by
  have key : ∀ s, Step s (P s) ∧ (P s).trie = (s.updateCIDR k g).1.trie ∧ SameTables s (P s) := by
    intro s
    obtain ⟨xs, hPs, hcov⟩ := hP s
    have hu := updateCIDR_facts s k g
    have ut := hu.tables
    have hm := foldl_markDirty id xs (s.updateCIDR k g).1
    have mtrie := hm.trie
    have mt := hm.tables
    have mdirty := hm.dirty
    rw [hPs]
    cases hc : (s.updateCIDR k g).2 with
    | false =>
      exact ⟨Step.updateCIDR_cover s k g _ rfl ut.me (fun _ h => h) (fun h => absurd (hu.changed.2 h) (by simp [hc])),
        rfl, ut⟩
    | true =>
      refine ⟨Step.updateCIDR_cover s k g _ mtrie (ut.trans mt).me (fun d h => (mdirty d).2 (Or.inl h)) ?_,
        mtrie, ut.trans mt⟩
      intro _ c l hlt hl he hne
      obtain ⟨ri, hri⟩ := view_ne_empty s c hne
      have hck : c ≠ k := he ▸ (ancKey_ne c l hlt).symm
      exact (mdirty c).2 (Or.inr ⟨c, hcov c l ri hlt hl he (aget_some_mem _ c ri hri)
        (aget_some_mem _ c ri ((hu.other c hck).trans hri)), rfl⟩)
  refine ⟨fun s => (key s).1, fun s k' => ?_, fun s => (key s).2.2.nodes, fun s => (key s).2.2.nr,
    fun s => (key s).2.2.br, fun s => (key s).2.2.pools⟩
  rw [view_congr _ _ (key s).2.1 k', updateCIDR_view s k g k', hcomm]
  rfl

theorem mem_children (s : St) (c : Cidr) (l : Nat) (ri : RouteInfo) (hm : (c, ri) ∈ s.trie) :
    c ∈ (s.trie.filter (fun e => e.1.v6 == (ancKey c l).v6 && (ancKey c l).containsAddr e.1.addr)).map (·.1) :=
  List.mem_map.2 ⟨(c, ri), List.mem_filter.2 ⟨hm, by simp [ancKey_v6, ancKey_contains]⟩, rfl⟩

theorem mem_descendants (s : St) (c : Cidr) (l : Nat) (ri : RouteInfo) (hm : (c, ri) ∈ s.trie) (hlt : l < c.len) :
    c ∈ s.descendants (ancKey c l) :=
  List.mem_map.2 ⟨(c, ri), List.mem_filter.2 ⟨hm, by simp [ancKey_covers c l hlt, (ancKey_ne c l hlt).symm]⟩, rfl⟩

theorem Edit.updatePool (k : Cidr) (p : Pool) :
    Edit (fun s => s.updatePool k p) k (fun v => { v with pool := some p }) :=
  Edit.marking (g := fun ri => { ri with pool := some p }) (fun _ => rfl) fun s =>
    ⟨_, by rw [List.foldl_map]; rfl, fun c l ri _ _ he _ hm => by subst he; exact mem_children _ c l ri hm⟩

theorem Step.updatePool (s : St) (k : Cidr) (p : Pool) : Step s (s.updatePool k p) := (Edit.updatePool k p).step s

theorem Edit.removePool (k : Cidr) : Edit (fun s => s.removePool k) k (fun v => { v with pool := none }) :=
  Edit.marking (g := fun ri => { ri with pool := none }) (fun _ => rfl) fun s =>
    ⟨_, by rw [List.foldl_map]; rfl, fun c l ri _ _ he _ hm => by subst he; exact mem_children _ c l ri hm⟩

theorem Edit.updateBlockRoute (k : Cidr) (n : Nat) :
    Edit (fun s => s.updateBlockRoute k n) k (fun v => { v with block := some n }) :=
  Edit.marking (g := fun ri => { ri with block := some n }) (fun _ => rfl) fun s =>
    ⟨_, rfl, fun c l ri hlt _ he _ hm => by subst he; exact mem_descendants _ c l ri hm hlt⟩

/-- here the descendants are those of the trie before the update -/
theorem Edit.removeBlockRoute (k : Cidr) :
    Edit (fun s => s.removeBlockRoute k) k (fun v => { v with block := none }) :=
  Edit.marking (g := fun ri => { ri with block := none }) (fun _ => rfl) fun s =>
    ⟨_, rfl, fun c l ri hlt _ he hm _ => by subst he; exact mem_descendants _ c l ri hm hlt⟩

/-- nothing lies below a single-address key (/32, /128: hosts, workload and tunnel refs). -/
theorem Edit.host (k : Cidr) (hk : k.len = k.width) (g f : RouteInfo → RouteInfo) (hcomm : ∀ ri, strip (g ri) = f (strip ri)) :
    Edit (fun s => (s.updateCIDR k g).1) k f :=
  Edit.marking hcomm fun s => ⟨[], by simp, fun c l _ hlt hl he _ _ => by
    have h1 := congrArg Cidr.len he
    have h2 := congrArg Cidr.width he
    rw [ancKey_len] at h1
    rw [ancKey_width] at h2
    omega⟩

/-- `c` carries a block / borrowed-address route of node `n` and nothing else at its own CIDR. -/
def Tracked (s : St) (c : Cidr) (n : Nat) : Prop :=
  (s.view c).block = some n ∧ (s.view c).hosts = [] ∧ (s.view c).refs = []

structure Aux (s : St) : Prop where
  h32 : ∀ k, ((s.view k).hosts ≠ [] ∨ (s.view k).refs ≠ []) → k.len = k.width
  l32 : ∀ k, s.view k ≠ {} → k.len ≤ k.width
  /-- the index `markAllNodeRoutesDirty` walks -/
  nr : ∀ c n, (s.view c).block = some n → ∃ j, aget s.nodeRoutes (n, c) = some (j + 1)

theorem Aux.edit {s s' : St} {k : Cidr} {v : RouteInfo} (ha : Aux s)
    (hv : ∀ k', s'.view k' = if k = k' then v else s.view k')
    (hh : (v.hosts ≠ [] ∨ v.refs ≠ []) → k.len = k.width) (hl : v ≠ {} → k.len ≤ k.width)
    (hb : ∀ n, v.block = some n → ∃ j, aget s'.nodeRoutes (n, k) = some (j + 1))
    (hnr : ∀ c n, k ≠ c → aget s'.nodeRoutes (n, c) = aget s.nodeRoutes (n, c)) : Aux s' := by
  refine ⟨fun k' => ?_, fun k' => ?_, fun c n => ?_⟩
  · rw [hv]; split
    · rename_i e; exact e ▸ hh
    · exact ha.h32 k'
  · rw [hv]; split
    · rename_i e; exact e ▸ hl
    · exact ha.l32 k'
  · rw [hv]; split
    · rename_i e; exact e ▸ hb n
    · rename_i e; rw [hnr c n e]; exact ha.nr c n

theorem Aux.of_view (s s' : St) (hv : ∀ k, s'.view k = s.view k) (hn : s'.nodeRoutes = s.nodeRoutes) (h : Aux s) :
    Aux s' := by
  refine ⟨fun k => ?_, fun k => ?_, fun c n => ?_⟩
  · rw [hv]; exact h.h32 k
  · rw [hv]; exact h.l32 k
  · rw [hv, hn]; exact h.nr c n

theorem Aux.of_edit {P : St → St} {k : Cidr} {f : RouteInfo → RouteInfo} (hE : Edit P k f) (s : St) (ha : Aux s)
    (hh : k.len = k.width ∨ ∀ v, (f v).hosts = v.hosts ∧ (f v).refs = v.refs)
    (hl : f (s.view k) ≠ {} → k.len ≤ k.width) (hb : ∀ v, (f v).block = v.block) : Aux (P s) :=
  ha.edit (hE.view s)
    (hh.elim (fun h _ => h) fun h => by rw [(h _).1, (h _).2]; exact ha.h32 k) hl
    (fun n => by rw [hb, hE.nr]; exact ha.nr k n) (fun _ _ _ => by rw [hE.nr])

theorem aget_nrAdd (m : List ((Nat × Cidr) × Nat)) (k k' : Nat × Cidr) :
    aget (nrAdd m k) k' = if k = k' then some ((aget m k).getD 0 + 1) else aget m k' := aget_aset ..

theorem aget_nrRemove_ne (m : List ((Nat × Cidr) × Nat)) (k k' : Nat × Cidr) (h : k ≠ k') :
    aget (nrRemove m k) k' = aget m k' := by
  unfold nrRemove
  split
  · rw [aget_aset, if_neg h]
  · rw [aget_adel, if_neg h]

/-- the "delete" step of `OnBlockUpdate`, and (`nr := s.nodeRoutes`) that of `OnBlockDelete`. -/
theorem Aux.removeBlockRoute (s : St) (k : Cidr) (nr : List ((Nat × Cidr) × Nat)) (ha : Aux s)
    (hnr : ∀ c n, k ≠ c → aget nr (n, c) = aget s.nodeRoutes (n, c)) :
    Aux { s.removeBlockRoute k with nodeRoutes := nr } :=
  ha.edit (v := { s.view k with block := none }) ((Edit.removeBlockRoute k).view s) (ha.h32 k)
    (fun h => ha.l32 k (by rintro e; rw [e] at h; exact h rfl)) (fun _ h => by cases h) hnr

theorem Aux.updateBlockRoute (s : St) (k : Cidr) (n : Nat) (nr : List ((Nat × Cidr) × Nat)) (ha : Aux s)
    (hl : k.len ≤ k.width) (hb : ∃ j, aget nr (n, k) = some (j + 1))
    (hnr : ∀ c n, k ≠ c → aget nr (n, c) = aget s.nodeRoutes (n, c)) :
    Aux { s.updateBlockRoute k n with nodeRoutes := nr } :=
  ha.edit (v := { s.view k with block := some n }) ((Edit.updateBlockRoute k n).view s) (ha.h32 k)
    (fun _ => hl) (fun _ h => by cases h; exact hb) hnr

structure Quiet (s s' : St) : Prop where
  step : Step s s'
  nr : s'.nodeRoutes = s.nodeRoutes
  aux : Aux s → Aux s'
  pb : ∀ k, (s'.view k).pool = (s.view k).pool ∧ (s'.view k).block = (s.view k).block
  pools : s'.pools = s.pools
  br : s'.blockRoutes = s.blockRoutes

structure QuietN (s s' : St) : Prop extends Quiet s s' where
  nodes : s'.nodes = s.nodes

theorem Quiet.refl (s : St) : Quiet s s := ⟨Step.refl s, rfl, id, fun _ => ⟨rfl, rfl⟩, rfl, rfl⟩

theorem Quiet.trans {s s1 s2 : St} (h1 : Quiet s s1) (h2 : Quiet s1 s2) : Quiet s s2 :=
  ⟨h1.step.trans h2.step, h2.nr.trans h1.nr, fun a => h2.aux (h1.aux a),
    fun k => ⟨(h2.pb k).1.trans (h1.pb k).1, (h2.pb k).2.trans (h1.pb k).2⟩, h2.pools.trans h1.pools, h2.br.trans h1.br⟩

theorem QuietN.refl (s : St) : QuietN s s := ⟨Quiet.refl s, rfl⟩

theorem QuietN.trans {s s1 s2 : St} (h1 : QuietN s s1) (h2 : QuietN s1 s2) : QuietN s s2 :=
  ⟨h1.toQuiet.trans h2.toQuiet, h2.nodes.trans h1.nodes⟩

theorem QuietN.ite {s s' : St} (b : Bool) (h : QuietN s s') : QuietN s (if b then s' else s) := by
  cases b
  · exact QuietN.refl s
  · exact h

theorem Quiet.of_eq (s s' : St) (ht : s'.trie = s.trie) (hd : s'.dirty = s.dirty) (hm : s'.me = s.me)
    (hn : s'.nodeRoutes = s.nodeRoutes) (hp : s'.pools = s.pools) (hb : s'.blockRoutes = s.blockRoutes) : Quiet s s' :=
  ⟨Step.of_eq s s' ht hd hm, hn, Aux.of_view s s' (view_congr s s' ht) hn,
    fun k => by rw [view_congr s s' ht k]; exact ⟨rfl, rfl⟩, hp, hb⟩

theorem QuietN.markFold {α} (g : α → Cidr) (xs : List α) (s : St) :
    QuietN s (xs.foldl (fun s x => s.markDirty (g x)) s) := by
  have hm := foldl_markDirty g xs s
  have htrie := hm.trie
  have ht := hm.tables
  have hdirty := hm.dirty
  exact ⟨⟨⟨ht.me, fun d h => (hdirty d).2 (Or.inl h), fun c _ => view_congr _ _ htrie c,
      fun _ _ _ _ _ _ => view_congr _ _ htrie _⟩,
    ht.nr, Aux.of_view _ _ (view_congr _ _ htrie) ht.nr, fun k => by rw [view_congr _ _ htrie k]; exact ⟨rfl, rfl⟩,
    ht.pools, ht.br⟩, ht.nodes⟩

theorem host_len (a : Nat) : (Cidr.host a).len = (Cidr.host a).width := rfl
theorem host6_len (a : Nat) : (Cidr.host6 a).len = (Cidr.host6 a).width := rfl

theorem QuietN.host (k : Cidr) (hk : k.len = k.width) (g f : RouteInfo → RouteInfo)
    (hcomm : ∀ ri, strip (g ri) = f (strip ri))
    (hb : ∀ v, (f v).block = v.block) (hp : ∀ v, (f v).pool = v.pool) (s : St) :
    QuietN s (s.updateCIDR k g).1 := by
  have hE := Edit.host k hk g f hcomm
  refine ⟨⟨hE.step s, hE.nr s, fun ha => Aux.of_edit hE s ha (Or.inl hk) (fun _ => Nat.le_of_eq hk) hb, fun k' => ?_,
    hE.pools s, hE.br s⟩, hE.nodes s⟩
  rw [hE.view s k']
  split
  · rename_i e; exact e ▸ ⟨hp _, hb _⟩
  · exact ⟨rfl, rfl⟩

theorem QuietN.refs (s : St) (k : Cidr) (hk : k.len = k.width) (φ : List Ref → List Ref) :
    QuietN s (s.updateCIDR k (fun ri => { ri with refs := φ ri.refs })).1 :=
  QuietN.host k hk _ (fun v => { v with refs := φ v.refs }) (fun _ => rfl) (fun _ => rfl) (fun _ => rfl) s

theorem QuietN.hosts (s : St) (k : Cidr) (hk : k.len = k.width) (φ : List Nat → List Nat) :
    QuietN s (s.updateCIDR k (fun ri => { ri with hosts := φ ri.hosts })).1 :=
  QuietN.host k hk _ (fun v => { v with hosts := φ v.hosts }) (fun _ => rfl) (fun _ => rfl) (fun _ => rfl) s

theorem Quiet.removeHost (s : St) (k : Cidr) (hk : k.len = k.width) (n : Nat) : Quiet s (s.removeHost k n) :=
  (QuietN.hosts s k hk _).toQuiet

theorem addTunnelRefs_quiet (s : St) (n : Nat) (i : NodeInfo) : QuietN s (addTunnelRefs s n i) :=
  (((((QuietN.refs s _ (host_len _) (addRefL · n refIPIP)).ite _).trans
    ((QuietN.refs _ _ (host_len _) (addRefL · n refVXLAN)).ite _)).trans
    ((QuietN.refs _ _ (host6_len _) (addRefL · n refVXLAN)).ite _)).trans
    ((QuietN.refs _ _ (host_len _) (addRefL · n refWireguard)).ite _)).trans
    ((QuietN.refs _ _ (host6_len _) (addRefL · n refWireguard)).ite _)

theorem removeTunnelRefs_quiet (s : St) (n : Nat) (i : NodeInfo) : QuietN s (removeTunnelRefs s n i) :=
  (((((QuietN.refs s _ (host_len _) (removeRefL · n refIPIP)).ite _).trans
    ((QuietN.refs _ _ (host_len _) (removeRefL · n refVXLAN)).ite _)).trans
    ((QuietN.refs _ _ (host6_len _) (removeRefL · n refVXLAN)).ite _)).trans
    ((QuietN.refs _ _ (host_len _) (removeRefL · n refWireguard)).ite _)).trans
    ((QuietN.refs _ _ (host6_len _) (removeRefL · n refWireguard)).ite _)

theorem nodeVisitFam_quiet (s s0 : St) (v6 : Bool) (n : Nat) (old new : Option NodeInfo) :
    QuietN s (s.nodeVisitFam v6 s0 n old new) ∧
    ((n == s0.me && cidrOf v6 old != cidrOf v6 new) = true → ∀ c ri, (c, ri) ∈ s0.trie → c.v6 = v6 →
      subnetFlip v6 s0 old new ri = true → c ∈ (s.nodeVisitFam v6 s0 n old new).dirty) := by
  unfold St.nodeVisitFam
  split
  · refine ⟨QuietN.markFold _ _ s, fun _ c ri hmem hv hf => ?_⟩
    exact ((foldl_markDirty _ _ s).dirty c).2
      (Or.inr ⟨(c, ri), List.mem_filter.2 ⟨hmem, by simp [hv, hf]⟩, rfl⟩)
  · rename_i h
    exact ⟨QuietN.refl s, fun h' => absurd h' h⟩

theorem nodeVisit_quiet (s : St) (n : Nat) (old new : Option NodeInfo) :
    QuietN s (s.nodeVisit n old new) ∧
    (∀ v6, (n == s.me && cidrOf v6 old != cidrOf v6 new) = true → ∀ c ri, (c, ri) ∈ s.trie → c.v6 = v6 →
      subnetFlip v6 s old new ri = true → c ∈ (s.nodeVisit n old new).dirty) := by
  obtain ⟨q1, m1⟩ := nodeVisitFam_quiet s s false n old new
  obtain ⟨q2, m2⟩ := nodeVisitFam_quiet (s.nodeVisitFam false s n old new) s true n old new
  refine ⟨q1.trans q2, fun v6 hc c ri hmem hv hf => ?_⟩
  cases v6
  · exact q2.step.mono c (m1 hc c ri hmem hv hf)
  · exact m2 hc c ri hmem hv hf

theorem nodeRefs_quiet (s : St) (n : Nat) (old new : Option NodeInfo) : QuietN s (s.nodeRefs n old new) := by
  unfold St.nodeRefs
  cases new <;> cases old
  · exact QuietN.refl s
  · exact removeTunnelRefs_quiet s n _
  · exact addTunnelRefs_quiet s n _
  · exact (addTunnelRefs_quiet s n _).trans (removeTunnelRefs_quiet _ n _)

theorem nodeHosts_quiet (s : St) (n : Nat) (old new : Option NodeInfo) (hold : old = aget s.nodes n) :
    Quiet s (s.nodeHosts n old new) ∧
    (∀ m, aget (s.nodeHosts n old new).nodes m = if n = m then new else aget s.nodes m) := by
  -- each half: the node table is rewritten, then up to two host entries are edited
  have stage : ∀ (t : St) (ns : List (Nat × NodeInfo)) (b1 b2 : Bool) (k1 k2 : Cidr) (_ : k1.len = k1.width)
      (_ : k2.len = k2.width) (φ : List Nat → List Nat), ∃ t2, Quiet t t2 ∧ t2.nodes = ns ∧ t2 =
        (let t0 : St := { t with nodes := ns }
         let t1 := if b1 then (t0.updateCIDR k1 (fun ri => { ri with hosts := φ ri.hosts })).1 else t0
         if b2 then (t1.updateCIDR k2 (fun ri => { ri with hosts := φ ri.hosts })).1 else t1) := by
    intro t ns b1 b2 k1 k2 h1 h2 φ
    have q0 : Quiet t { t with nodes := ns } := Quiet.of_eq _ _ rfl rfl rfl rfl rfl rfl
    have qa := (QuietN.hosts { t with nodes := ns } k1 h1 φ).ite b1
    exact ⟨_, (q0.trans qa.toQuiet).trans ((QuietN.hosts _ k2 h2 φ).ite b2).toQuiet,
      ((QuietN.hosts _ k2 h2 φ).ite b2).nodes.trans qa.nodes, rfl⟩
  unfold St.nodeHosts
  simp only [St.addHost, St.removeHost]
  cases old with
  | none =>
    cases new with
    | none =>
      refine ⟨Quiet.refl s, fun m => ?_⟩
      show aget s.nodes m = _
      split
      · rename_i e; rw [← e, ← hold]
      · rfl
    | some i =>
      obtain ⟨s2, q, hn, e⟩ := stage s (aset s.nodes n i) (i.v4Addr != 0) (i.v6Addr != 0) _ _ (host_len i.v4Addr)
        (host6_len i.v6Addr) (insertNat · n)
      simp only [← e]
      exact ⟨q, fun m => by rw [hn, aget_aset]⟩
  | some o =>
    obtain ⟨s1, q1, hn1, e1⟩ := stage s (adel s.nodes n) (o.v4Addr != 0) (o.v6Addr != 0) _ _ (host_len o.v4Addr)
      (host6_len o.v6Addr) (·.filter (· != n))
    simp only [← e1]
    cases new with
    | none => exact ⟨q1, fun m => by rw [hn1, aget_adel]⟩
    | some i =>
      obtain ⟨s2, q2, hn2, e2⟩ := stage s1 (aset s1.nodes n i) (i.v4Addr != 0) (i.v6Addr != 0) _ _ (host_len i.v4Addr)
        (host6_len i.v6Addr) (insertNat · n)
      simp only [← e2]
      exact ⟨q1.trans q2, fun m => by rw [hn2, hn1, aget_aset, aget_adel, ite_ite_same]⟩

theorem markAll_quiet (s : St) (n : Nat) :
    QuietN s (s.markAllNodeRoutesDirty n) ∧
    (∀ c j, aget s.nodeRoutes (n, c) = some j → c ∈ (s.markAllNodeRoutesDirty n).dirty) :=
  ⟨QuietN.markFold _ _ s, fun c j hj => ((foldl_markDirty _ _ s).dirty c).2
    (Or.inr ⟨((n, c), j), List.mem_filter.2 ⟨aget_some_mem _ _ _ hj, by simp⟩, rfl⟩)⟩

structure NodeUpdated (s : St) (n0 : Nat) (new : Option NodeInfo) (s' : St) : Prop where
  quiet : Quiet s s'
  nodes : ∀ m, aget s'.nodes m = if n0 = m then new else aget s.nodes m
  visit : ∀ v6, (n0 == s.me && cidrOf v6 (aget s.nodes n0) != cidrOf v6 new) = true → ∀ c ri, (c, ri) ∈ s.trie →
    c.v6 = v6 → subnetFlip v6 s (aget s.nodes n0) new ri = true → c ∈ s'.dirty
  mark : new ≠ aget s.nodes n0 → ∀ c j, aget s.nodeRoutes (n0, c) = some j → c ∈ s'.dirty

theorem onNodeUpdate_facts (s : St) (n0 : Nat) (new : Option NodeInfo) :
    NodeUpdated s n0 new (s.onNodeUpdate n0 new) := by
  unfold St.onNodeUpdate
  simp only []
  split
  · rename_i h
    refine ⟨Quiet.refl s, fun m => ?_, fun v6 hc => ?_, fun hne => absurd h hne⟩
    · split
      · rename_i e; rw [← e, h]
      · rfl
    · simp [h] at hc
  · obtain ⟨q1, v1⟩ := nodeVisit_quiet s n0 (aget s.nodes n0) new
    generalize s.nodeVisit n0 (aget s.nodes n0) new = s1 at q1 v1 ⊢
    have q2 := nodeRefs_quiet s1 n0 (aget s.nodes n0) new
    generalize s1.nodeRefs n0 (aget s.nodes n0) new = s2 at q2 ⊢
    obtain ⟨q3, hn3⟩ := nodeHosts_quiet s2 n0 (aget s.nodes n0) new (by rw [q2.nodes, q1.nodes])
    generalize s2.nodeHosts n0 (aget s.nodes n0) new = s3 at q3 hn3 ⊢
    obtain ⟨q4, mk⟩ := markAll_quiet s3 n0
    exact ⟨((q1.toQuiet.trans q2.toQuiet).trans q3).trans q4.toQuiet,
      fun m => by rw [q4.nodes, hn3 m, q2.nodes, q1.nodes],
      fun v6 hc c ri hm hv hf => q4.step.mono c (q3.step.mono c (q2.step.mono c (v1 v6 hc c ri hm hv hf))),
      fun _ c j hj => mk c j (by rw [q3.nr, q2.nr, q1.nr]; exact hj)⟩

end CalicoVerif.C43
