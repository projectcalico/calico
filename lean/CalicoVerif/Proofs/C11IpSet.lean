import CalicoVerif.Proofs.C11Comp
import CalicoVerif.Proofs.C11Bits
/-!
C11 — the IP-set lookup fragment (`setUpIPSetKey` + `map_lookup_elem`), IPv4 and IPv6:
after it, R0 is non-zero iff the environment's membership relation holds for
(set id, the leg's address words, the leg's port, the protocol) — i.e. the key
the builder assembles on the stack is the right one, byte for byte: 20 bytes for IPv4
(prefix 128, big-endian set id, one address word, port, protocol, pad), 32 bytes for IPv6
(prefix 224, 16 address bytes copied by two 64-bit moves).  Then the guards for the match fragments
built on it (`writeIPSetMatch`, `writeIPSetOrMatch`).
-/
namespace CalicoVerif.C11

/-- The stack after `setUpIPSetKey` (IPv4) wrote the key at index `kk`. -/
def keyStack (s : Nat → Option Byte) (kk : Nat) (a p q lo hi : Nat) : Nat → Option Byte :=
  writeStack (writeStack (writeStack (writeStack (writeStack (writeStack (writeStack s (kk + 19) (toLE 0 1))
    kk (toLE 128 4)) (kk + 12) (toLE a 4)) (kk + 16) (toLE p 2)) (kk + 18) (toLE q 1)) (kk + 4) (toLE lo 4))
    (kk + 8) (toLE hi 4)

/-- The stack after `setUpIPSetKey` (IPv6) wrote the key at index `kk`. -/
def keyStack6 (s : Nat → Option Byte) (kk : Nat) (a0 a1 p q lo hi : Nat) : Nat → Option Byte :=
  writeStack (writeStack (writeStack (writeStack (writeStack (writeStack (writeStack (writeStack s (kk + 31) (toLE 0 1))
    kk (toLE 224 4)) (kk + 12) (toLE a0 8)) (kk + 20) (toLE a1 8)) (kk + 28) (toLE p 2)) (kk + 30) (toLE q 1))
    (kk + 4) (toLE lo 4)) (kk + 8) (toLE hi 4)

/- The two key slots are at fixed stack indices, so reading the key back is a computation. -/
theorem readStack_keyStack (s : Nat → Option Byte) (kk a p q lo hi : Nat) (hk : kk = 476 ∨ kk = 444) :
    readStack (keyStack s kk a p q lo hi) kk 20 =
      some (toLE 128 4 ++ toLE lo 4 ++ toLE hi 4 ++ toLE a 4 ++ toLE p 2 ++ toLE q 1 ++ toLE 0 1) := by
  rcases hk with rfl | rfl <;> rfl

theorem readStack_keyStack6 (s : Nat → Option Byte) (kk a0 a1 p q lo hi : Nat) (hk : kk = 476 ∨ kk = 444) :
    readStack (keyStack6 s kk a0 a1 p q lo hi) kk 32 =
      some (toLE 224 4 ++ toLE lo 4 ++ toLE hi 4 ++ toLE a0 8 ++ toLE a1 8 ++ toLE p 2 ++ toLE q 1 ++ toLE 0 1) := by
  rcases hk with rfl | rfl <;> rfl

theorem leNat4 (v : Nat) :
    leNat [BitVec.ofNat 8 v, BitVec.ofNat 8 (v / 256), BitVec.ofNat 8 (v / 256 / 256), BitVec.ofNat 8 (v / 256 / 256 / 256)]
      = v % 4294967296 := leNat_toLE v 4

theorem leNat2 (v : Nat) : leNat [BitVec.ofNat 8 v, BitVec.ofNat 8 (v / 256)] = v % 65536 := leNat_toLE v 2

theorem leNat8 (lo hi : Nat) :
    leNat [BitVec.ofNat 8 lo, BitVec.ofNat 8 (lo / 256), BitVec.ofNat 8 (lo / 256 / 256), BitVec.ofNat 8 (lo / 256 / 256 / 256),
           BitVec.ofNat 8 hi, BitVec.ofNat 8 (hi / 256), BitVec.ofNat 8 (hi / 256 / 256), BitVec.ofNat 8 (hi / 256 / 256 / 256)]
      = lo % 4294967296 + 4294967296 * (hi % 4294967296) :=
  (leNat_append (toLE lo 4) (toLE hi 4)).trans (by rw [leNat_toLE, leNat_toLE, toLE_length])

theorem ipsetLookup_key (env : Env) (m : Mach) (s : Nat → Option Byte) (kk a p q lo hi : Nat)
    (hv6 : env.c.v6 = false) (hst : m.stack = keyStack s kk a p q lo hi) (hk : kk = 476 ∨ kk = 444) :
    ipsetLookup env m kk = some (env.member
      (rev64bv (BitVec.ofNat 64 (lo % 4294967296 + 4294967296 * (hi % 4294967296)))).toNat
      [BitVec.ofNat 32 a] (BitVec.ofNat 16 p) (BitVec.ofNat 8 q)) := by
  unfold ipsetLookup
  simp only [hv6, hst, Bool.false_eq_true, if_false]
  rw [readStack_keyStack s kk a p q lo hi hk]
  simp [toLE, leNat4, leNat2, leNat8]
  refine ⟨by decide, ?_⟩
  have h1 : BitVec.ofNat 32 (a % 4294967296) = BitVec.ofNat 32 a := by apply BitVec.eq_of_toNat_eq; simp
  have h2 : BitVec.ofNat 16 (p % 65536) = BitVec.ofNat 16 p := by apply BitVec.eq_of_toNat_eq; simp
  rw [h1, h2]

theorem ipsetLookup_key6 (env : Env) (m : Mach) (s : Nat → Option Byte) (kk a0 a1 p q lo hi : Nat)
    (hv6 : env.c.v6 = true) (hst : m.stack = keyStack6 s kk a0 a1 p q lo hi) (hk : kk = 476 ∨ kk = 444) :
    ipsetLookup env m kk = some (env.member
      (rev64bv (BitVec.ofNat 64 (lo % 4294967296 + 4294967296 * (hi % 4294967296)))).toNat
      [BitVec.ofNat 32 a0, BitVec.ofNat 32 (a0 / 256 / 256 / 256 / 256),
       BitVec.ofNat 32 a1, BitVec.ofNat 32 (a1 / 256 / 256 / 256 / 256)] (BitVec.ofNat 16 p) (BitVec.ofNat 8 q)) := by
  unfold ipsetLookup
  simp only [hv6, hst, if_true]
  rw [readStack_keyStack6 s kk a0 a1 p q lo hi hk]
  have h32 : ∀ x : Nat, BitVec.ofNat 32 (x % 4294967296) = BitVec.ofNat 32 x := by
    intro x; apply BitVec.eq_of_toNat_eq; simp
  have h16 : BitVec.ofNat 16 (p % 65536) = BitVec.ofNat 16 p := by apply BitVec.eq_of_toNat_eq; simp
  simp [toLE, leNat4, leNat2, leNat8, List.range, List.range.loop, h32, h16]
  decide

theorem step_call_ipset (env : Env) (m : Mach) (kk : Nat) (b : Bool)
    (hfd : mapHandle env.c.ipSetMapFD ≠ mapHandle env.c.stateMapFD)
    (h1 : m.reg 1 = some (mapHandle env.c.ipSetMapFD))
    (h2 : m.reg 2 = some (stackW + BitVec.ofInt 64 ((kk : Int) - 512)))
    (hk : kk + (if env.c.v6 then 32 else 20) ≤ 512)
    (hl : ipsetLookup env m kk = some b) (nxt : Option Insn) :
    step env ⟨opCall, 0, 0, 0, helperMapLookupElem⟩ nxt m =
      .next ((m.clobber).setReg 0 (if b then BitVec.ofNat 64 ipsetValPtr else 0)) := by
  have hr := region_stack kk _ hk
  simp [step, opCall, opLoadImm64, opJumpA, opExit, helperCall, helperMapLookupElem, h1, h2, hfd, hr, hl]

theorem Line.callIpset {env : Env} {st : List Byte} {v : View} (kk : Nat) (b : Bool)
    (hfd : mapHandle env.c.ipSetMapFD ≠ mapHandle env.c.stateMapFD)
    (h1 : v.reg 1 = some (mapHandle env.c.ipSetMapFD))
    (h2 : v.reg 2 = some (stackW + BitVec.ofInt 64 ((kk : Int) - 512)))
    (hk : kk + (if env.c.v6 then 32 else 20) ≤ 512)
    (hl : ∀ m : Mach, m.stack = v.stack → ipsetLookup env m kk = some b) :
    Line env st v [call helperMapLookupElem] (v.clobber.set 0 (if b then BitVec.ofNat 64 ipsetValPtr else 0)) :=
  Line.ins fun m nxt h => ⟨_, step_call_ipset env m kk b hfd (h.reg _ _ h1) (h.reg _ _ h2) hk (hl m h.stack) nxt,
    h.clobber.set 0 _ (by omega)⟩

theorem stack_setReg (m : Mach) (r : Nat) (v : Word) : (m.setReg r v).stack = m.stack := rfl

/-- The reference's membership test for a leg (the `mem` of `ruleMatch`). -/
def memRef (env : Env) (p : Pkt) (leg : Leg) (id : Nat) : Bool :=
  env.member id (keyAddr env.c.v6 (p.addr leg)) (p.port leg) p.proto

theorem lo32 (n : Nat) : (((sext32 (toInt32 n)).setWidth 32).setWidth 64).toNat = n % 4294967296 := by
  rw [sext32_setWidth, toInt32, BitVec.ofInt_toInt, BitVec.toNat_setWidth, BitVec.toNat_ofNat]
  exact Nat.mod_eq_of_lt (Nat.lt_trans (Nat.mod_lt _ (by decide)) (by decide))

theorem key_id (id : Nat) (hid : id < 2 ^ 64) :
    (rev64bv (BitVec.ofNat 64 ((((sext32 (toInt32 (rev64 id))).setWidth 32).setWidth 64).toNat % 4294967296 +
      4294967296 * ((((sext32 (toInt32 (rev64 id / 4294967296))).setWidth 32).setWidth 64).toNat % 4294967296)))).toNat = id := by
  rw [lo32, lo32]
  have hbe : rev64 id < 2 ^ 64 := by unfold rev64; exact (rev64bv (BitVec.ofNat 64 id)).isLt
  have : rev64 id % 4294967296 % 4294967296 + 4294967296 * (rev64 id / 4294967296 % 4294967296 % 4294967296) = rev64 id := by
    omega
  rw [this]
  unfold rev64
  rw [BitVec.ofNat_toNat, BitVec.setWidth_eq, rev64bv_rev64bv, BitVec.toNat_ofNat]
  omega

theorem ofNat_toNat64 (w : Nat) (f : Nat) (hw : w ≤ 64) : BitVec.ofNat w (BitVec.ofNat 64 f).toNat = BitVec.ofNat w f := by
  apply BitVec.eq_of_toNat_eq
  simp only [BitVec.toNat_ofNat]
  have : 2 ^ w ∣ 2 ^ 64 := Nat.pow_dvd_pow 2 hw
  exact Nat.mod_mod_of_dvd f this

theorem field8_split (st : List Byte) (off : Nat) (h : off + 8 ≤ st.length) :
    fieldN st off 8 = fieldN st off 4 + 4294967296 * fieldN st (off + 4) 4 := by
  unfold fieldN
  have e : (st.drop off).take 8 = (st.drop off).take 4 ++ ((st.drop off).drop 4).take 4 := by
    rw [show (8 : Nat) = 4 + 4 from rfl, List.take_add]
  rw [e, leNat_append, List.drop_drop]
  have hl : ((st.drop off).take 4).length = 4 := by simp; omega
  rw [hl, show (256 : Nat) ^ 4 = 4294967296 from by decide]

theorem field4_lt (st : List Byte) (off : Nat) : fieldN st off 4 < 4294967296 := fieldN_lt st off 4

theorem word_lo (st : List Byte) (off : Nat) (h : off + 8 ≤ st.length) :
    BitVec.ofNat 32 (BitVec.ofNat 64 (fieldN st off 8)).toNat = BitVec.ofNat 32 (fieldN st off 4) := by
  have h1 := field4_lt st off
  have h2 := field4_lt st (off + 4)
  apply BitVec.eq_of_toNat_eq
  simp only [BitVec.toNat_ofNat, field8_split st off h]
  omega

theorem word_hi (st : List Byte) (off : Nat) (h : off + 8 ≤ st.length) :
    BitVec.ofNat 32 ((BitVec.ofNat 64 (fieldN st off 8)).toNat / 256 / 256 / 256 / 256) =
      BitVec.ofNat 32 (fieldN st (off + 4) 4) := by
  have h1 := field4_lt st off
  have h2 := field4_lt st (off + 4)
  apply BitVec.eq_of_toNat_eq
  simp only [BitVec.toNat_ofNat, field8_split st off h]
  omega

/-- **IP-set lookup.**  After the fragment, R0 ≠ 0 iff the reference membership holds.  The fragment is one
line: seven (eight) stores build the key, then the map handle, the key's address, the call. -/
theorem line_ipSetLookup (env : Env) (st : List Byte) (id : Nat) (leg : Leg) (m : Mach) (hI : Inv st m)
    (hfd : mapHandle env.c.ipSetMapFD ≠ mapHandle env.c.stateMapFD) (hid : id < 2 ^ 64) :
    ∃ v, Line env st (View.ofInv m) (ipSetLookup env.c id leg) v ∧
      v.reg 0 = some (if memRef env (pktOfD st) leg id then BitVec.ofNat 64 ipsetValPtr else 0) := by
  have hlen := hI.stLen
  have hsp := leg.pto_stable
  have hsi : ∀ j, leg.ipo ≤ j → j < leg.ipo + 16 → Stable j := leg.addr_stable (Nat.le_refl _) (Nat.le_refl _)
  have hipo : leg.ipo + 16 ≤ 512 := by have := leg.ipo_window; omega
  have hpto := leg.pto_le
  have h104 : ∀ j, 104 ≤ j → j < 104 + 1 → Stable j := Stable.of_range (Or.inr (by omega))
  have hkk : leg.kk + 32 ≤ 512 := by rcases leg.kk_cases with h | h <;> omega
  cases hv6 : env.c.v6
  · rw [ipSetLookup_eq env.c id leg hv6]
    exact ⟨_,
      ((((Line.movImm64 1 0 (by omega)).cons <| (Line.stxStack opStoreReg8 1 (leg.kk + 19) 1 StOp.b (by omega) rfl).cons <|
        (Line.movImm64 1 128 (by omega)).cons <| (Line.stxStack opStoreReg32 1 leg.kk 4 StOp.w (by omega) rfl).cons <|
        (Line.ldxField opLoadReg32 1 leg.ipo 4 LdOp.w (by omega) (by omega) fun j h1 h2 => hsi j h1 (by omega)).cons <|
        (Line.stxStack opStoreReg32 1 (leg.kk + 12) 4 StOp.w (by omega) rfl).cons <|
        (Line.ldxField opLoadReg16 1 leg.pto 2 LdOp.h (by omega) hpto hsp).cons <|
        (Line.stxStack opStoreReg16 1 (leg.kk + 16) 2 StOp.h (by omega) rfl).cons <|
        (Line.ldxField opLoadReg8 1 104 1 LdOp.b (by omega) (by omega) h104).cons <|
        (Line.stxStack opStoreReg8 1 (leg.kk + 18) 1 StOp.b (by omega) rfl).cons <|
        (Line.movImm32 1 _ (by omega)).cons <| (Line.stxStack opStoreReg32 1 (leg.kk + 4) 4 StOp.w (by omega) rfl).cons <|
        (Line.movImm32 1 _ (by omega)).cons <| Line.stxStack opStoreReg32 1 (leg.kk + 8) 4 StOp.w (by omega) rfl).append
        (Line.loadMapFD 1 _ (by omega))).append <|
      (Line.mov64 2 10 (by omega) rfl).cons <| (Line.addImm64 2 _ (by omega) rfl).cons <|
      Line.callIpset leg.kk (memRef env (pktOfD st) leg id) hfd rfl rfl (by simp only [hv6, Bool.false_eq_true, if_false]; omega) fun m' hs => by
        rw [ipsetLookup_key env m' m.stack leg.kk _ _ _ _ _ hv6 hs leg.kk_cases, key_id id hid,
          ofNat_toNat64 32 _ (by omega), ofNat_toNat64 16 _ (by omega), ofNat_toNat64 8 _ (by omega)]
        unfold memRef keyAddr
        simp only [hv6, Bool.false_eq_true, if_false]
        cases leg <;> rfl), rfl⟩
  · rw [ipSetLookup_eq6 env.c id leg hv6]
    exact ⟨_,
      ((((Line.movImm64 1 0 (by omega)).cons <| (Line.stxStack opStoreReg8 1 (leg.kk + 31) 1 StOp.b (by omega) rfl).cons <|
        (Line.movImm64 1 224 (by omega)).cons <| (Line.stxStack opStoreReg32 1 leg.kk 4 StOp.w (by omega) rfl).cons <|
        (Line.ldxField opLoadReg64 1 leg.ipo 8 LdOp.d (by omega) (by omega) fun j h1 h2 => hsi j h1 (by omega)).cons <|
        (Line.stxStack opStoreReg64 1 (leg.kk + 12) 8 StOp.d (by omega) rfl).cons <|
        (Line.ldxField opLoadReg64 1 (leg.ipo + 8) 8 LdOp.d (by omega) (by omega) fun j h1 h2 => hsi j (by omega) (by omega)).cons <|
        (Line.stxStack opStoreReg64 1 (leg.kk + 20) 8 StOp.d (by omega) rfl).cons <|
        (Line.ldxField opLoadReg16 1 leg.pto 2 LdOp.h (by omega) hpto hsp).cons <|
        (Line.stxStack opStoreReg16 1 (leg.kk + 28) 2 StOp.h (by omega) rfl).cons <|
        (Line.ldxField opLoadReg8 1 104 1 LdOp.b (by omega) (by omega) h104).cons <|
        (Line.stxStack opStoreReg8 1 (leg.kk + 30) 1 StOp.b (by omega) rfl).cons <|
        (Line.movImm32 1 _ (by omega)).cons <| (Line.stxStack opStoreReg32 1 (leg.kk + 4) 4 StOp.w (by omega) rfl).cons <|
        (Line.movImm32 1 _ (by omega)).cons <| Line.stxStack opStoreReg32 1 (leg.kk + 8) 4 StOp.w (by omega) rfl).append
        (Line.loadMapFD 1 _ (by omega))).append <|
      (Line.mov64 2 10 (by omega) rfl).cons <| (Line.addImm64 2 _ (by omega) rfl).cons <|
      Line.callIpset leg.kk (memRef env (pktOfD st) leg id) hfd rfl rfl (by simp only [hv6, if_true]; omega) fun m' hs => by
        rw [ipsetLookup_key6 env m' m.stack leg.kk _ _ _ _ _ _ hv6 hs leg.kk_cases, key_id id hid,
          ofNat_toNat64 16 _ (by omega), ofNat_toNat64 8 _ (by omega),
          word_lo st leg.ipo (by omega), word_hi st leg.ipo (by omega), word_lo st (leg.ipo + 8) (by omega),
          word_hi st (leg.ipo + 8) (by omega)]
        unfold memRef keyAddr
        simp only [hv6, if_true]
        cases leg <;> rfl), rfl⟩

theorem cond_r0 (b : Bool) :
    cond (opJumpNEImm64 / 16) (if b then BitVec.ofNat 64 ipsetValPtr else 0) (sext32 0) = some b ∧
    cond (opJumpEqImm64 / 16) (if b then BitVec.ofNat 64 ipsetValPtr else 0) (sext32 0) = some (!b) := by
  cases b <;> exact ⟨by decide, by decide⟩

theorem decides_ipset_test (env : Env) (st : List Byte) (hc : SetCtx env st) (P : Label) (leg : Leg) (id : Nat)
    (hid : id < 2 ^ 64) :
    Decides env st (ipSetLookup env.c id leg ++ [jumpNEImm64 R0 0 P])
      (if memRef env (pktOfD st) leg id then some P else none) :=
  Decides.line_then fun m hI =>
    let ⟨v, hL, h0⟩ := line_ipSetLookup env st id leg m hI hc.fd hid
    ⟨v, hL, Exits.jcondV64 opJumpNEImm64 0 0 P JOp64.ne h0 (cond_r0 _).1⟩

theorem guard_ipset1 (env : Env) (st : List Byte) (hc : SetCtx env st) (L : Label) (neg : Bool) (leg : Leg) (id : Nat)
    (hid : id < 2 ^ 64) :
    Guard env st L (ipSetLookup env.c id leg ++
        [if neg then jumpNEImm64 R0 0 L else jumpEqImm64 R0 0 L])
      (if neg then !(memRef env (pktOfD st) leg id) else memRef env (pktOfD st) leg id) := by
  cases neg with
  | true => exact Guard.of_decides_neg (decides_ipset_test env st hc L leg id hid)
  | false =>
    refine guard_iff.2 ((Decides.line_then fun m hI =>
      let ⟨v, hL, h0⟩ := line_ipSetLookup env st id leg m hI hc.fd hid
      ⟨v, hL, Exits.jcondV64 opJumpEqImm64 0 0 L JOp64.eq h0 (cond_r0 _).2⟩).congr ?_)
    cases memRef env (pktOfD st) leg id <;> rfl

/-- `writeIPSetMatch`: all sets must (not) match, i.e. no test jumps to the no-match label. -/
theorem gl_ipSetMatch (env : Env) (st : List Byte) (hc : SetCtx env st) (rid : Nat) (neg : Bool) (leg : Leg)
    (ids : List Nat) (h : ∀ id ∈ ids, id < 2 ^ 64) :
    GL env st rid (ipSetMatch env.c rid neg leg ids)
      (ids.all (fun id => if neg then !(memRef env (pktOfD st) leg id) else memRef env (pktOfD st) leg id)) := by
  have d := DecidesIn.anyFlat (env := env) (st := st) (Q := Label.isPart) (fun id => ipSetLookup env.c id leg ++
      [if neg then jumpNEImm64 R0 0 (.ruleNoMatch rid) else jumpEqImm64 R0 0 (.ruleNoMatch rid)])
    (fun id => !(if neg then !(memRef env (pktOfD st) leg id) else memRef env (pktOfD st) leg id)) (.ruleNoMatch rid) ids
    fun id hid => .noLabels ((guard_iff.1 (guard_ipset1 env st hc (.ruleNoMatch rid) neg leg id (h id hid))).congr
        (by cases (if neg then !(memRef env (pktOfD st) leg id) else memRef env (pktOfD st) leg id) <;> rfl))
      (by rw [labelsOf_append, labelsOf_lookup' env.c id leg]; cases neg <;> rfl)
  refine ((GL.of_neg d).congr ?_)
  rw [List.all_eq_not_any_not]

theorem decides_ipset_tests {Q : Label → Bool} (env : Env) (st : List Byte) (hc : SetCtx env st) (P : Label) (leg : Leg)
    (ids : List Nat) (h : ∀ id ∈ ids, id < 2 ^ 64) :
    DecidesIn env st Q (ids.flatMap (fun id => ipSetLookup env.c id leg ++ [jumpNEImm64 R0 0 P]))
      (if ids.any (memRef env (pktOfD st) leg) then some P else none) :=
  DecidesIn.anyFlat _ _ P ids fun id hid => .noLabels (decides_ipset_test env st hc P leg id (h id hid))
    (by rw [labelsOf_append, labelsOf_lookup' env.c id leg]; rfl)

/-- `writeIPSetOrMatch`. -/
theorem gl_ipSetOr (env : Env) (st : List Byte) (hc : SetCtx env st) (rid part : Nat) (leg : Leg)
    (ids : List Nat) (h : ∀ id ∈ ids, id < 2 ^ 64) :
    GL env st rid (ipSetOrMatch env.c rid part leg ids).1 (ids.any (memRef env (pktOfD st) leg)) :=
  GL.of_pos (decides_ipset_tests env st hc (.rulePart rid part) leg ids h) rfl

end CalicoVerif.C11
