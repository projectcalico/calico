import CalicoVerif.Proofs.C16Map
/-!
C16 — what `ipset restore` lines do to the kernel: a successful line re-binds only names it mentions
(`kstep_get`), so what single lines preserve holds in every intermediate state (`kstates_inv`).  For the restore
pass: what a group does when all its lines succeed (`kall`).
-/
namespace CalicoVerif.C16

def Line.names : Line → List String
  | .create n _ _ _ _ => [n]
  | .add n _ => [n]
  | .del n _ => [n]
  | .swap a b => [a, b]

theorem kstep_get {K K' : Kernel} {l : Line} (h : kstep K l = some K') (x : String) :
    K'.get x = K.get x ∨ (x ∈ l.names ∧ K'.has x = true) := by
  have set1 : ∀ (M : Kernel) n v, (M.set n v).get x = M.get x ∨ (x = n ∧ (M.set n v).has x = true) := by
    intro M n v
    by_cases hx : x = n
    · exact Or.inr ⟨hx, by simp [Map.has_set, hx]⟩
    · exact Or.inl (by simp [Map.get_set, hx])
  cases l with
  | create n t ms a b =>
    simp only [kstep] at h
    split at h
    · cases h
    · split at h <;> cases h <;> simpa [Line.names] using set1 K n _
  | add n m =>
    simp only [kstep] at h
    split at h
    · cases h
    · split at h <;> cases h; simpa [Line.names] using set1 K n _
  | del n m =>
    simp only [kstep] at h
    split at h <;> cases h; simpa [Line.names] using set1 K n _
  | swap a b =>
    simp only [kstep] at h
    split at h <;> cases h
    rename_i sa sb _ _
    rcases set1 (K.set a sb) b sa with h2 | h2
    · rcases set1 K a sb with h1 | h1
      · exact Or.inl (h2.trans h1)
      · exact Or.inr ⟨by simp [Line.names, h1.1], by simpa [Map.has, h2] using h1.2⟩
    · exact Or.inr ⟨by simp [Line.names, h2.1], h2.2⟩

theorem kstep_get_other {K K' : Kernel} {l : Line} {n : String}
    (h : kstep K l = some K') (hn : n ∉ l.names) : K'.get n = K.get n :=
  (kstep_get h n).resolve_right fun h' => hn h'.1

theorem kstep_has_mono {K K' : Kernel} {l : Line} {n : String}
    (h : kstep K l = some K') (hn : K.has n = true) : K'.has n = true := by
  rcases kstep_get h n with h' | h'
  · rw [Map.has, h']; exact hn
  · exact h'.2

theorem kstates_inv {P : Kernel → Prop} : ∀ (ls : List Line) (K : Kernel),
    (∀ l ∈ ls, ∀ K K', P K → kstep K l = some K' → P K') → P K → ∀ Ki ∈ kstates K ls, P Ki := by
  intro ls
  induction ls with
  | nil => intro K _ h Ki hi; rw [kstates, List.mem_singleton] at hi; exact hi ▸ h
  | cons l ls ih =>
    intro K hstep h Ki hi
    rw [kstates] at hi
    split at hi
    · rw [List.mem_singleton] at hi; exact hi ▸ h
    · rename_i K' hk
      rcases List.mem_cons.1 hi with rfl | hi
      · exact h
      · exact ih K' (fun l' hl' => hstep l' (List.mem_cons_of_mem _ hl'))
          (hstep l List.mem_cons_self K K' h hk) Ki hi

theorem krun_mem_kstates : ∀ (ls : List Line) (K : Kernel), (krun K ls).1 ∈ kstates K ls := by
  intro ls
  induction ls with
  | nil => intro K; simp [krun, kstates]
  | cons l ls ih =>
    intro K
    rw [krun, kstates]
    split
    · simp
    · exact List.mem_cons_of_mem _ (ih _)

theorem kstates_has_mono {n : String} (ls : List Line) (K : Kernel) (h : K.has n = true) :
    ∀ Ki ∈ kstates K ls, Ki.has n = true :=
  kstates_inv (P := fun K => K.has n = true) ls K (fun _ _ _ _ hK hk => kstep_has_mono hk hK) h

theorem kstates_get_other {n : String} (ls : List Line) (K : Kernel) (h : ∀ l ∈ ls, n ∉ l.names) :
    ∀ Ki ∈ kstates K ls, Ki.get n = K.get n :=
  kstates_inv (P := fun Ki => Ki.get n = K.get n) ls K
    (fun l hl _ _ hK hk => (kstep_get_other hk (h l hl)).trans hK) rfl

theorem krun_has_mono {n : String} (ls : List Line) (K : Kernel) (h : K.has n = true) :
    (krun K ls).1.has n = true :=
  kstates_has_mono ls K h _ (krun_mem_kstates ls K)

theorem krun_get_other {n : String} (ls : List Line) (K : Kernel) (h : ∀ l ∈ ls, n ∉ l.names) :
    (krun K ls).1.get n = K.get n :=
  kstates_get_other ls K h _ (krun_mem_kstates ls K)

def kall (K : Kernel) (ls : List Line) : Option Kernel := ls.foldlM kstep K

theorem krun_ok : ∀ (ls : List Line) (K : Kernel), (krun K ls).2.2 = true → kall K ls = some (krun K ls).1 := by
  intro ls
  induction ls with
  | nil => intro K _; rfl
  | cons l ls ih =>
    intro K h
    rw [krun] at h ⊢
    rw [kall, List.foldlM_cons]
    cases hk : kstep K l with
    | none => rw [hk] at h; cases h
    | some K' => rw [hk] at h; exact ih K' h

theorem kall_cons_some {K K' : Kernel} {l : Line} {ls : List Line} :
    kall K (l :: ls) = some K' ↔ ∃ K1, kstep K l = some K1 ∧ kall K1 ls = some K' := by
  simp [kall, List.foldlM_cons, Option.bind_eq_some_iff]

theorem kall_append_some {K K' : Kernel} {a b : List Line} :
    kall K (a ++ b) = some K' ↔ ∃ K1, kall K a = some K1 ∧ kall K1 b = some K' := by
  simp [kall, List.foldlM_append, Option.bind_eq_some_iff]

theorem kall_adds (n : String) : ∀ (xs : List String) (K K' : Kernel) (s : KSet),
    K.get n = some s → kall K (xs.map (Line.add n)) = some K' →
    K'.get n = some { s with members := s.members ++ xs } ∧ ∀ x, x ≠ n → K'.get x = K.get x := by
  intro xs
  induction xs with
  | nil =>
    intro K K' s hs h
    cases h
    exact ⟨by simp [hs], fun _ _ => rfl⟩
  | cons a xs ih =>
    intro K K' s hs h
    obtain ⟨K1, h1, h⟩ := kall_cons_some.1 h
    simp only [kstep, hs] at h1
    split at h1
    · cases h1
    · cases h1
      have := ih _ K' { s with members := s.members ++ [a] } (by simp [Map.get_set]) h
      refine ⟨by simpa [List.append_assoc] using this.1, fun x hx => ?_⟩
      rw [this.2 x hx, Map.get_set, if_neg hx]

theorem kall_dels (n : String) : ∀ (xs : List String) (K K' : Kernel) (s : KSet),
    K.get n = some s → kall K (xs.map (Line.del n)) = some K' →
    K'.get n = some { s with members := xs.foldl sErase s.members } ∧ ∀ x, x ≠ n → K'.get x = K.get x := by
  intro xs
  induction xs with
  | nil =>
    intro K K' s hs h
    cases h
    exact ⟨by simp [hs], fun _ _ => rfl⟩
  | cons a xs ih =>
    intro K K' s hs h
    obtain ⟨K1, h1, h⟩ := kall_cons_some.1 h
    simp only [kstep, hs] at h1
    cases h1
    have := ih _ K' { s with members := sErase s.members a } (by simp [Map.get_set]) h
    refine ⟨by simpa using this.1, fun x hx => ?_⟩
    rw [this.2 x hx, Map.get_set, if_neg hx]

def metaMatches (k : KSet) (dm : Meta) : Prop :=
  k.type = dm.type ∧
    (if dm.type == "bitmap:port" then k.rangeMin = dm.rangeMin ∧ k.rangeMax = dm.rangeMax else k.maxSize = dm.maxSize)

theorem parseMeta_matches {k : KSet} {dm : Meta} (h : parseMeta k = dm) : metaMatches k dm := by
  subst h
  unfold parseMeta
  split <;> rename_i hb <;> simp [metaMatches, hb]

theorem kstep_create_inv {K K' : Kernel} {n t : String} {ms a b : Nat}
    (h : kstep K (.create n t ms a b) = some K') : K.get n = none ∧
      ∃ k, K' = K.set n k ∧ k.type = t ∧ k.members = [] ∧
        (if t == "bitmap:port" then k.rangeMin = a ∧ k.rangeMax = b else k.maxSize = ms) := by
  simp only [kstep] at h
  split at h
  · cases h
  · rename_i hn
    refine ⟨by simpa [Map.has] using hn, ?_⟩
    split at h <;> rename_i hb <;> cases h <;> exact ⟨_, rfl, rfl, rfl, by simp [hb]⟩

theorem kstep_create {K K' : Kernel} {n : String} {dm : Meta} (h : kstep K (createLine n dm) = some K') :
    K.get n = none ∧ (∃ k, K'.get n = some k ∧ metaMatches k dm ∧ k.members = []) ∧
      ∀ x, x ≠ n → K'.get x = K.get x := by
  suffices ∃ k, K.get n = none ∧ K' = K.set n k ∧ metaMatches k dm ∧ k.members = [] by
    obtain ⟨k, h0, rfl, hm, he⟩ := this
    exact ⟨h0, ⟨k, by simp [Map.get_set], hm, he⟩, fun x hx => by simp [Map.get_set, hx]⟩
  unfold createLine at h
  split at h <;> rename_i hb <;> obtain ⟨h0, k, rfl, ht, hm, hr⟩ := kstep_create_inv h <;>
    exact ⟨k, h0, rfl, ⟨ht, by simpa [hb] using hr⟩, hm⟩

end CalicoVerif.C16
