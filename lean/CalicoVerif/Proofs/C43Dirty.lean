import CalicoVerif.Proofs.C43Trie
/-!
C43 — dirty-marking completeness: between updates every tracked route downstream is the one `flush`
would compute now (`Inv`).  Within a handler the same holds for the CIDRs that are not dirty (`Mid`);
every handler keeps that because it is `Plain` (`apply_plain`, used through `Mid.step`): it marks what it
affects and leaves alone what the route of a clean tracked CIDR reads of the node table; `flush` sends what is
dirty and changes no data (`SameData`).
At the end: the local node name never changes (`run_me`).
-/
namespace CalicoVerif.C43

def ancPath (v : Cidr → RouteInfo) (c : Cidr) : List (Cidr × RouteInfo) :=
  (List.range c.len).map (fun l => (ancKey c l, v (ancKey c l)))

theorem fullPath_eq (v : Cidr → RouteInfo) (c : Cidr) : fullPath v c = ancPath v c ++ [(c, v c)] := rfl

theorem fullPath_congr (v v' : Cidr → RouteInfo) (c : Cidr) (hc : v' c = v c)
    (ha : ∀ l, l < c.len → v' (ancKey c l) = v (ancKey c l)) : fullPath v' c = fullPath v c := by
  rw [fullPath_eq, fullPath_eq, hc]
  congr 1
  exact List.map_congr_left fun l hl => by rw [ha l (List.mem_range.1 hl)]

theorem route_congr (s s' : St) (c : Cidr) (hme : s'.me = s.me) (hn : s'.nodes = s.nodes)
    (hc : s'.view c = s.view c) (ha : ∀ l, l < c.len → s'.view (ancKey c l) = s.view (ancKey c l)) :
    s'.route c = s.route c := by
  unfold St.route
  rw [hme, hn, fullPath_congr _ _ c hc ha]

theorem routeOfPath_nodes_congr (me : Nat) (nodes nodes' : List (Nat × NodeInfo)) (c : Cidr)
    (path : List (Cidr × RouteInfo))
    (h : ∀ n, (path.foldl (accStep me c) {}).dstNode = some n →
      aget nodes' n = aget nodes n ∧ nodeInOurSubnet c.v6 me nodes' n = nodeInOurSubnet c.v6 me nodes n) :
    routeOfPath me nodes' c path = routeOfPath me nodes c path := by
  unfold routeOfPath
  simp only []
  generalize path.foldl (accStep me c) {} = a at h
  cases hd : a.dstNode with
  | none => rfl
  | some n =>
    obtain ⟨h1, h2⟩ := h n hd
    simp only [h1, h2]

theorem plain_ancPath (s : St) (ha : Aux s) (c : Cidr) (hl : c.len ≤ c.width) :
    PlainAncestors (ancPath s.view c) := by
  intro e he
  obtain ⟨l, hl', rfl⟩ := List.mem_map.1 he
  have hne : (ancKey c l).len ≠ (ancKey c l).width := by
    have := List.mem_range.1 hl'; rw [ancKey_len, ancKey_width]; omega
  constructor
  · cases hh : (s.view (ancKey c l)).hosts with
    | nil => rfl
    | cons x xs => exact absurd (ha.h32 _ (Or.inl (by simp [hh]))) hne
  · cases hh : (s.view (ancKey c l)).refs with
    | nil => rfl
    | cons x xs => exact absurd (ha.h32 _ (Or.inr (by simp [hh]))) hne

theorem dstNode_tracked (s : St) (c : Cidr) (n : Nat) (ht : Tracked s c n) :
    ((fullPath s.view c).foldl (accStep s.me c) {}).dstNode = some n := by
  rw [fullPath_eq, List.foldl_append, List.foldl_cons, List.foldl_nil]
  exact (last_block _ _ _ _ n ht.1 ht.2.1 ht.2.2).dstNode

def Mid (s : St) (sent : List (Cidr × RouteUpdate)) : Prop :=
  ∀ c n, Tracked s c n → c ∉ s.dirty → zeroHost c = false → aget sent c = some (s.route c)

theorem Tracked.congr {s s' : St} {c : Cidr} {n : Nat} (ht : Tracked s' c n) (hv : s'.view c = s.view c) :
    Tracked s c n := by
  unfold Tracked at ht ⊢; rwa [← hv]

/-- what `Mid.step` asks of a handler or a stage of one.  The route of a tracked CIDR reads the node table at
its owner (entry and same-subnet status) only, so that is all `nodes` asks to be unchanged, and only for the
CIDRs that stay clean. -/
structure Plain (s s' : St) : Prop where
  step : Step s s'
  aux : Aux s → Aux s'
  nodes : Aux s → ∀ c n, Tracked s c n → c ∉ s'.dirty →
    aget s'.nodes n = aget s.nodes n ∧
    nodeInOurSubnet c.v6 s.me s'.nodes n = nodeInOurSubnet c.v6 s.me s.nodes n

theorem Plain.of_nodes {s s' : St} (hs : Step s s') (hn : s'.nodes = s.nodes) (ha : Aux s → Aux s') : Plain s s' :=
  ⟨hs, ha, fun _ _ _ _ _ => by rw [hn]; exact ⟨rfl, rfl⟩⟩

theorem Plain.refl (s : St) : Plain s s := Plain.of_nodes (Step.refl s) rfl id

theorem Plain.trans {s s1 s2 : St} (h1 : Plain s s1) (h2 : Plain s1 s2) : Plain s s2 := by
  refine ⟨h1.step.trans h2.step, fun a => h2.aux (h1.aux a), fun ha c n ht hc => ?_⟩
  have hc1 : c ∉ s1.dirty := fun h => hc (h2.step.mono c h)
  have ht1 : Tracked s1 c n := Tracked.congr (s := s1) (s' := s) ht (h1.step.same c hc1).symm
  obtain ⟨e1, f1⟩ := h1.nodes ha c n ht hc1
  obtain ⟨e2, f2⟩ := h2.nodes (h1.aux ha) c n ht1 hc
  rw [h1.step.me] at f2
  exact ⟨e2.trans e1, f2.trans f1⟩

theorem Plain.of_eq (s s' : St) (ht : s'.trie = s.trie) (hd : s'.dirty = s.dirty) (hme : s'.me = s.me)
    (hn : s'.nodes = s.nodes) (hnr : s'.nodeRoutes = s.nodeRoutes) : Plain s s' :=
  Plain.of_nodes (Step.of_eq s s' ht hd hme) hn (Aux.of_view s s' (view_congr s s' ht) hnr)

theorem Edit.plain {P : St → St} {k : Cidr} {f : RouteInfo → RouteInfo} (hE : Edit P k f) (s : St)
    (nr : List ((Nat × Cidr) × Nat)) (ha : Aux s → Aux { P s with nodeRoutes := nr }) :
    Plain s { P s with nodeRoutes := nr } :=
  Plain.of_nodes ((hE.step s).trans (Step.of_eq _ _ rfl rfl rfl)) (hE.nodes s) ha

theorem Mid.step {s s' : St} {sent : List (Cidr × RouteUpdate)} (hm : Mid s sent) (ha : Aux s) (hp : Plain s s') :
    Mid s' sent := by
  intro c n ht hc h0
  have hv := hp.step.same c hc
  have ht' : Tracked s c n := ht.congr hv
  have hne : s'.view c ≠ {} := ne_empty_of_block _ n ht.1
  have hl : c.len ≤ c.width := ha.l32 c (hv ▸ hne)
  have hroute : s'.route c = s.route c := by
    unfold St.route
    rw [fullPath_congr _ _ c hv (hp.step.anc c hc hne hl), hp.step.me]
    refine routeOfPath_nodes_congr _ _ _ _ _ fun n' hn' => ?_
    rw [dstNode_tracked s c n ht'] at hn'
    cases hn'
    exact hp.nodes ha c n ht' hc
  rw [hroute]
  exact hm c n ht' (fun h => hc (hp.step.mono c h)) h0

theorem onPoolUpdate_shape (s : St) (c : Cidr) (p : Option Pool) :
    (p = none ∧ aget s.pools c = none ∧ s.onPoolUpdate c p = s) ∨
    ∃ (P : St → St) (X : List (Cidr × Pool)), Edit P c (fun v => { v with pool := p }) ∧
      (∀ k, aget X k = if c = k then p else aget s.pools k) ∧ s.onPoolUpdate c p = P { s with pools := X } := by
  unfold St.onPoolUpdate
  cases p with
  | some p => exact Or.inr ⟨_, _, Edit.updatePool c p, (aget_aset _ c · p), rfl⟩
  | none =>
    cases hp : aget s.pools c with
    | none => exact Or.inl ⟨rfl, rfl, rfl⟩
    | some _ => exact Or.inr ⟨_, _, Edit.removePool c, aget_adel _ c, rfl⟩

theorem onPoolUpdate_plain (s : St) (c : Cidr) (p : Option Pool) (hl : c.len ≤ c.width) :
    Plain s (s.onPoolUpdate c p) := by
  rcases onPoolUpdate_shape s c p with ⟨_, _, e⟩ | ⟨P, X, hE, _, e⟩
  · rw [e]; exact Plain.refl s
  · rw [e]
    exact (Plain.of_eq s { s with pools := X } rfl rfl rfl rfl rfl).trans
      (hE.plain _ _ fun ha => Aux.of_edit hE _ ha (Or.inr fun _ => ⟨rfl, rfl⟩) (fun _ => hl) fun _ => rfl)

theorem routesFromBlock_ind (P : List (Cidr × Nat) → Prop) (c : Cidr) (aff : Option Nat)
    (allocs : List (Nat × Option Nat)) (h0 : P [])
    (hs : ∀ m k n, P m → k = c ∨ (∃ a, k = Cidr.hostOf c.v6 a) → P (aset m k n)) :
    P (routesFromBlock c aff allocs) := by
  unfold routesFromBlock
  have hf := List.foldlRecOn (motive := P) allocs (fun (m : List (Cidr × Nat)) (a : Nat × Option Nat) =>
      match a.2 with
      | none => m
      | some h => if aff == some h then m else aset m (Cidr.hostOf c.v6 (c.addr + a.1)) h) h0
    (fun m hm a _ => by
      cases a.2 with
      | none => exact hm
      | some h =>
        simp only []
        split
        · exact hm
        · exact hs _ _ _ hm (Or.inr ⟨_, rfl⟩))
  cases aff with
  | none => exact hf
  | some h => exact hs _ _ _ hf (Or.inl rfl)

theorem routesFromBlock_len (c : Cidr) (aff : Option Nat) (allocs : List (Nat × Option Nat)) (hl : c.len ≤ c.width) :
    ∀ r ∈ routesFromBlock c aff allocs, r.1.len ≤ r.1.width := by
  refine routesFromBlock_ind (fun m => ∀ r ∈ m, r.1.len ≤ r.1.width) c aff allocs (fun _ h => by cases h)
    fun m k n hm hk r hr => ?_
  rcases mem_aset _ _ _ _ hr with rfl | e
  · rcases hk with rfl | ⟨a, rfl⟩
    · exact hl
    · cases c.v6 <;> exact Nat.le_refl _
  · exact hm r e

theorem onBlockUpdate_plain (s : St) (c : Cidr) (aff : Option Nat) (allocs : List (Nat × Option Nat))
    (hl : c.len ≤ c.width) : Plain s (s.onBlockUpdate c aff allocs) := by
  unfold St.onBlockUpdate
  simp only []
  -- the cache is rewritten, then the fold over the deletes, then the fold over the adds
  refine List.foldlRecOn (motive := Plain s) _ _ (List.foldlRecOn (motive := Plain s) _ _ ?_ ?_) ?_
  · exact Plain.of_eq s _ rfl rfl rfl rfl rfl
  · intro t ht r _
    have hE := Edit.removeBlockRoute r.2
    exact ht.trans (hE.plain t _ fun ha => Aux.removeBlockRoute t _ _ ha
      fun c n hc => by rw [aget_nrRemove_ne _ _ _ (fun e => hc (congrArg Prod.snd e)), hE.nr])
  · intro t ht r hr
    have hE := Edit.updateBlockRoute r.2 r.1
    obtain ⟨x, hx, rfl⟩ := List.mem_map.1 (List.mem_filter.1 hr).1
    exact ht.trans (hE.plain t _ fun ha =>
      Aux.updateBlockRoute t _ _ _ ha (routesFromBlock_len c aff allocs hl x hx)
        ⟨_, (aget_nrAdd _ _ _).trans (if_pos rfl)⟩
        fun c n hc => by rw [aget_nrAdd, if_neg (fun e => hc (congrArg Prod.snd e)), hE.nr])

theorem onBlockDelete_plain (s : St) (c : Cidr) : Plain s (s.onBlockDelete c) := by
  have hf : Plain s (((aget s.blockRoutes c).getD []).foldl (fun (s : St) r => s.removeBlockRoute r.2) s) := by
    refine List.foldlRecOn (motive := Plain s) _ _ (Plain.refl s) fun t ht r _ => ?_
    have hE := Edit.removeBlockRoute r.2
    exact ht.trans (hE.plain t (t.removeBlockRoute r.2).nodeRoutes fun ha =>
      Aux.removeBlockRoute t r.2 _ ha fun _ _ _ => by rw [hE.nr])
  -- the fold is made opaque before `Plain.of_eq`: unifying its fields by `rfl` would unfold the handlers
  unfold St.onBlockDelete
  simp only []
  generalize ((aget s.blockRoutes c).getD []).foldl (fun (s : St) r => s.removeBlockRoute r.2) s = t at hf ⊢
  exact hf.trans (Plain.of_eq t { t with blockRoutes := adel t.blockRoutes c } rfl rfl rfl rfl rfl)

theorem inSub_cidr_eq (v6 : Bool) (old new : Option NodeInfo) (o : NodeInfo) (h : cidrOf v6 old = cidrOf v6 new) :
    inSub v6 old o = inSub v6 new o := by
  cases old <;> cases new <;> simp_all [cidrOf, inSub]

/-- the route of a tracked clean CIDR is not that of the node that changed (those were all marked dirty), and its
same-subnet status did not flip (those were marked by the visit). -/
theorem onNodeUpdate_plain (s : St) (n0 : Nat) (new : Option NodeInfo) : Plain s (s.onNodeUpdate n0 new) := by
  have hN := onNodeUpdate_facts s n0 new
  by_cases hsame : new = aget s.nodes n0
  · unfold St.onNodeUpdate; simp only [hsame, if_true]; exact Plain.refl s
  generalize s.onNodeUpdate n0 new = s4 at hN ⊢
  have hnodes := hN.nodes
  have hvisit := hN.visit
  have hmark := hN.mark
  generalize hold : aget s.nodes n0 = old at hvisit hmark hsame
  refine ⟨hN.quiet.step, hN.quiet.aux, fun ha c n ht' hc => ?_⟩
  have hne' : s.view c ≠ {} := ne_empty_of_block _ n ht'.1
  have hnn : n0 ≠ n := by
    rintro rfl
    obtain ⟨j, hj⟩ := ha.nr c n0 ht'.1
    exact hc (hmark hsame c (j + 1) hj)
  have hag : aget s4.nodes n = aget s.nodes n := by rw [hnodes, if_neg hnn]
  refine ⟨hag, ?_⟩
  unfold nodeInOurSubnet
  rw [hag]
  cases hoi : aget s.nodes n with
  | none => rfl
  | some oi =>
    simp only []
    rw [hnodes s.me]
    by_cases hme : n0 = s.me
    · rw [if_pos hme, ← hme, hold]
      by_cases hcid : cidrOf c.v6 old = cidrOf c.v6 new
      · exact (inSub_cidr_eq c.v6 old new oi hcid).symm
      · -- the visit of c's family ran; had the status flipped, `c` would be dirty
        obtain ⟨ri, hri⟩ := view_ne_empty s c hne'
        have hget : s.view c = strip ri := by simp [St.view, St.get, hri]
        obtain ⟨hblock, hhosts, hrefs⟩ := ht'
        rw [hget] at hblock hhosts hrefs
        have hflip : subnetFlip c.v6 s old new ri = (inSub c.v6 old oi != inSub c.v6 new oi) := by
          have hb : ri.block = some n := hblock
          have hh : ri.hosts = [] := hhosts
          have hr : ri.refs = [] := hrefs
          have : (n == s.me) = false := beq_false_of_ne fun e => hnn (hme.trans e.symm)
          simp only [subnetFlip, visitNode, hr, hh, hb, this, Bool.false_eq_true, if_false, hoi]
        by_cases hf : subnetFlip c.v6 s old new ri = true
        · exact absurd (hvisit c.v6 (by simp [hme, hcid]) c ri (aget_some_mem _ c ri hri) rfl hf) hc
        · rw [hflip] at hf
          have : inSub c.v6 old oi = inSub c.v6 new oi := by
            cases h1 : inSub c.v6 old oi <;> cases h2 : inSub c.v6 new oi <;> simp [h1, h2] at hf ⊢
          exact this.symm
    · rw [if_neg hme]

/-- `s'` holds the same data as `s`: the two differ in `wasSent` flags and in the dirty set only. -/
structure SameData (s s' : St) : Prop extends SameTables s s' where
  view : ∀ k, s'.view k = s.view k

theorem SameData.refl (s : St) : SameData s s := ⟨SameTables.refl s, fun _ => rfl⟩

theorem SameData.trans {s s1 s2 : St} (h1 : SameData s s1) (h2 : SameData s1 s2) : SameData s s2 :=
  ⟨h1.toSameTables.trans h2.toSameTables, fun k => (h2.view k).trans (h1.view k)⟩

theorem SameData.route {s s' : St} (h : SameData s s') (c : Cidr) : s'.route c = s.route c :=
  route_congr s s' c h.me h.nodes (h.view c) (fun _ _ => h.view _)

theorem setRouteSent_same (s : St) (c : Cidr) (b : Bool) : SameData s (s.setRouteSent c b) := by
  unfold St.setRouteSent
  have hu := updateCIDR_facts s c (fun ri => { ri with wasSent := b })
  have hv := hu.view
  refine ⟨hu.tables, fun k => ?_⟩
  rw [hv k]
  by_cases h : c = k
  · subst h; simp only [if_true]; rfl
  · simp [h]

theorem routeOfPath_dst (me : Nat) (nodes : List (Nat × NodeInfo)) (c : Cidr) (path : List (Cidr × RouteInfo)) :
    (routeOfPath me nodes c path).dst = c := rfl

theorem flushOne_facts (s : St) (c : Cidr) :
    SameData s (s.flushOne c).1 ∧ (∀ e ∈ (s.flushOne c).2, e.dst = c) ∧
    (∀ n, (s.view c).block = some n → zeroHost c = false → (s.flushOne c).2 = [Event.update (s.route c)]) := by
  unfold St.flushOne
  cases hg : aget s.trie c with
  | none =>
    simp only []
    refine ⟨SameData.refl s, fun e he => by simp at he, ?_⟩
    intro n hb _
    simp [St.view, St.get, hg, strip] at hb
  | some last =>
    simp only []
    have hget : s.get c = last := by simp [St.get, hg]
    by_cases h1 : (last.wasSent && !last.isValidRoute) = true
    · simp only [h1, if_true]
      refine ⟨setRouteSent_same s c false, fun e he => by simp at he; subst he; rfl, ?_⟩
      intro n hb _
      have : last.block = some n := by simpa [St.view, hget, strip] using hb
      simp [RouteInfo.isValidRoute, this] at h1
    · simp only [h1]
      by_cases h2 : zeroHost c = true
      · simp only [h2, if_true]
        refine ⟨SameData.refl s, fun e he => by simp at he, ?_⟩
        intro n _ hne; cases hne
      · simp only [h2]
        refine ⟨setRouteSent_same s c true, fun e he => by simp at he; subst he; rfl, ?_⟩
        intro n _ _; rfl

theorem applyEvents_other (sent : List (Cidr × RouteUpdate)) (evs : List Event) (c : Cidr)
    (h : ∀ e ∈ evs, e.dst ≠ c) : aget (applyEvents sent evs) c = aget sent c := by
  induction evs generalizing sent with
  | nil => rfl
  | cons e evs ih =>
    rw [← List.singleton_append, applyEvents_append,
      ih _ (fun x hx => h x (List.mem_cons_of_mem _ hx)), aget_applyEvents_one, if_neg (h e List.mem_cons_self)]

theorem flushList_facts (cs : List Cidr) (s : St) :
    SameData s (flushList s cs).1 ∧
    (∀ (sent : List (Cidr × RouteUpdate)) c n, (s.view c).block = some n → zeroHost c = false →
      (c ∈ cs ∨ aget sent c = some (s.route c)) →
      aget (applyEvents sent (flushList s cs).2) c = some (s.route c)) := by
  induction cs generalizing s with
  | nil =>
    simp only [flushList]
    refine ⟨SameData.refl s, ?_⟩
    intro sent c n _ _ h
    rcases h with h | h
    · simp at h
    · exact h
  | cons d ds ih =>
    simp only [flushList]
    obtain ⟨hone, hdst, hev⟩ := flushOne_facts s d
    obtain ⟨hrest, hsent⟩ := ih (s.flushOne d).1
    refine ⟨hone.trans hrest, ?_⟩
    intro sent c n hb h0 hc
    rw [applyEvents_append]
    have hr : (s.flushOne d).1.route c = s.route c := hone.route c
    rw [← hr]
    apply hsent _ c n (by rw [hone.view]; exact hb) h0
    by_cases hcd : c = d
    · right
      subst hcd
      rw [hev n hb h0, hr, aget_applyEvents_one]
      exact if_pos rfl
    · rcases hc with hc | hc
      · rcases List.mem_cons.1 hc with e | e
        · exact absurd e hcd
        · exact Or.inl e
      · right
        rw [applyEvents_other sent _ c (fun e he => by rw [hdst e he]; exact fun x => hcd x.symm), hr]
        exact hc

theorem mem_insertCidr (c x : Cidr) (l : List Cidr) : x ∈ insertCidr c l ↔ x = c ∨ x ∈ l := by
  induction l with
  | nil => simp [insertCidr]
  | cons y ys ih =>
    simp only [insertCidr]
    split
    · simp
    · simp only [List.mem_cons, ih]; exact or_left_comm

theorem mem_sorted_dirty (l : List Cidr) (x : Cidr) : x ∈ l.foldr insertCidr [] ↔ x ∈ l := by
  induction l with
  | nil => simp
  | cons y ys ih => simp only [List.foldr_cons, mem_insertCidr, ih, List.mem_cons]

structure Inv (s : St) (sent : List (Cidr × RouteUpdate)) : Prop where
  clean : s.dirty = []
  aux : Aux s
  cur : ∀ c n, Tracked s c n → zeroHost c = false → aget sent c = some (s.route c)

theorem flush_same (s : St) : SameData s (s.flush).1 :=
  (flushList_facts (s.dirty.foldr insertCidr []) s).1.trans ⟨⟨rfl, rfl, rfl, rfl, rfl⟩, fun k => view_congr _ _ rfl k⟩

theorem flush_inv (s : St) (sent : List (Cidr × RouteUpdate)) (hm : Mid s sent) (ha : Aux s) :
    Inv (s.flush).1 (applyEvents sent (s.flush).2) := by
  have hs := flush_same s
  refine ⟨rfl, Aux.of_view s _ hs.view hs.nr ha, fun c n ht h0 => ?_⟩
  have ht' : Tracked s c n := ht.congr (hs.view c)
  rw [hs.route c]
  apply (flushList_facts (s.dirty.foldr insertCidr []) s).2 sent c n ht'.1 h0
  by_cases hd : c ∈ s.dirty
  · exact Or.inl ((mem_sorted_dirty _ _).2 hd)
  · exact Or.inr (hm c n ht' hd h0)

/-- the updates the `_partial` theorems speak about; workload endpoint updates are excluded. -/
def Op.ok : Op → Prop
  | .node _ _ => True
  | .pool c _ => c.len ≤ c.width
  | .block c _ _ => c.len ≤ c.width
  | .blockDel _ => True
  | .wep _ _ _ => False

theorem apply_plain (s : St) (op : Op) (hok : op.ok) : Plain s (s.apply op) := by
  cases op with
  | node n i => exact onNodeUpdate_plain s n i
  | pool c p => exact onPoolUpdate_plain s c p hok
  | block c aff al => exact onBlockUpdate_plain s c aff al hok
  | blockDel c => exact onBlockDelete_plain s c
  | wep h i ips => exact absurd hok (by simp [Op.ok])

theorem step_inv (s : St) (sent : List (Cidr × RouteUpdate)) (op : Op) (hok : op.ok) (h : Inv s sent) :
    Inv (s.step op).1 (applyEvents sent (s.step op).2) :=
  flush_inv _ sent (Mid.step (fun c n ht _ h0 => h.cur c n ht h0) h.aux (apply_plain s op hok))
    ((apply_plain s op hok).aux h.aux)

theorem run_inv (ops : List Op) (s : St) (sent : List (Cidr × RouteUpdate)) (hok : ∀ op ∈ ops, op.ok)
    (h : Inv s sent) : Inv (St.run s sent ops).1 (St.run s sent ops).2 := by
  induction ops generalizing s sent with
  | nil => exact h
  | cons op ops ih =>
    simp only [St.run]
    exact ih _ _ (fun o ho => hok o (List.mem_cons_of_mem _ ho)) (step_inv s sent op (hok op List.mem_cons_self) h)

theorem inv_init (me : Nat) : Inv { me := me } [] := by
  refine ⟨rfl, ⟨fun k h => ?_, fun k h => ?_, fun c n h => ?_⟩, fun c n ht _ => ?_⟩
  · simp [St.view, St.get, aget, strip] at h
  · exact absurd rfl h
  · simp [St.view, St.get, aget, strip] at h
  · simp [Tracked, St.view, St.get, aget, strip] at ht

theorem step_me (s : St) (op : Op) (hok : op.ok) : (s.step op).1.me = s.me :=
  (flush_same _).me.trans (apply_plain s op hok).step.me

theorem run_me (ops : List Op) (s : St) (sent : List (Cidr × RouteUpdate)) (hok : ∀ op ∈ ops, op.ok) :
    (St.run s sent ops).1.me = s.me := by
  induction ops generalizing s sent with
  | nil => rfl
  | cons op ops ih =>
    simp only [St.run]
    rw [ih _ _ (fun o ho => hok o (List.mem_cons_of_mem _ ho)), step_me s op (hok op List.mem_cons_self)]

end CalicoVerif.C43
