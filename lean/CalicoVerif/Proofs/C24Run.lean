import CalicoVerif.Proofs.C24Srv
/-!
C24 — runs of the cache (`Cache.run`).  A run changes the published side only by `publishBreadcrumb`, which gives the
induction principle `Cache.run_induct`; `Ready` is what every reachable cache satisfies, `clientView` what a client
holds after a snapshot and after the deltas up to a crumb.
-/
namespace CalicoVerif.C24

inductive CacheOp where
  | push (o : In)
  | loop (ts : Nat)

/-- `loop` with an empty input channel blocks in the real code: no step. -/
def Cache.stepOp (c : Cache) : CacheOp → Cache
  | .push o => push c o
  | .loop ts => if c.inputQ.isEmpty then c else loopOnce c ts

def Cache.run (c : Cache) (ops : List CacheOp) : Cache := ops.foldl Cache.stepOp c

theorem loopOnce_induct {P : Cache → Prop} (hs : ∀ c c', SameOut c c' → P c → P c')
    (hp : ∀ c ts, P c → P (publishBreadcrumb c ts)) (c : Cache) (ts : Nat) (h : P c) : P (loopOnce c ts) :=
  publishBreadcrumbs_induct hp _ ts (hs _ _ (fillBatch_sameOut c) h)

theorem Cache.run_induct {P : Cache → Prop} (hs : ∀ c c', SameOut c c' → P c → P c')
    (hp : ∀ c ts, P c → P (publishBreadcrumb c ts)) (ops : List CacheOp) (c : Cache) (h : P c) : P (c.run ops) :=
  List.foldlRecOn ops Cache.stepOp h fun c h op _ => by
    cases op with
    | push o => exact hs _ _ (push_sameOut c o) h
    | loop ts =>
      simp only [Cache.stepOp]
      split
      · exact h
      · exact loopOnce_induct hs hp c ts h

structure Ready (c : Cache) : Prop where
  inv : CacheInv c
  pos : 0 < c.maxBatch

theorem Ready.new (bsz : Nat) : Ready (Cache.new bsz) :=
  ⟨CacheInv.new bsz, by simp only [Cache.new]; split <;> omega⟩

theorem Ready.sameOut {c c' : Cache} (e : SameOut c c') (h : Ready c) : Ready c' := ⟨h.inv.sameOut e, e.maxBatch ▸ h.pos⟩

theorem Ready.publishBreadcrumb {c : Cache} (ts : Nat) (h : Ready c) : Ready (publishBreadcrumb c ts) :=
  ⟨h.inv.publishBreadcrumb ts, (publishBreadcrumb_pub h.inv ts).same.1 ▸ h.pos⟩

theorem Ready.loopOnce {c : Cache} (h : Ready c) (ts : Nat) : Ready (loopOnce c ts) :=
  loopOnce_induct (fun _ _ => Ready.sameOut) (fun _ => Ready.publishBreadcrumb) c ts h

theorem loopOnce_drained {c : Cache} (h : Ready c) (ts : Nat) :
    DrainInv (fillBatch c) (loopOnce c ts) ∧ (loopOnce c ts).pendingUpdates = [] :=
  publishBreadcrumbs_drained (h.inv.sameOut (fillBatch_sameOut c)) ((fillBatch_sameOut c).maxBatch ▸ h.pos) ts

theorem Ready.run {c : Cache} (h : Ready c) (ops : List CacheOp) : Ready (c.run ops) :=
  Cache.run_induct (fun _ _ => Ready.sameOut) (fun _ => Ready.publishBreadcrumb) ops c h

def clientView (m0 : View) (msgs : List Msg) : View := applyDs m0 (kvsConcat msgs)

theorem CacheInv.snapshot_view {c : Cache} (h : CacheInv c) {start : Nat} {x : Crumb} (hx : c.chain[start]? = some x)
    (m : Nat) : clientView emptyView (snapshotMsgs x m) = asMap x.kvs := by
  rw [clientView, snapshot_concat]
  exact applyDs_snapshot x.kvs (h.crumbs_sorted x (List.mem_of_getElem? hx))

theorem CacheInv.view_advance {c : Cache} (h : CacheInv c) {start p : Nat} {x : Crumb} (hx : c.chain[start]? = some x)
    (hp : start ≤ p) (hpl : p < c.chain.length) :
    applyDs (asMap x.kvs) (dB c.chain start p) = viewAt c.chain p := by
  rw [chain_telescope _ h.chain start p hp hpl, viewAt_of_get hx]

theorem chain_head_empty (bsz : Nat) (ops : List CacheOp) :
    viewAt ((Cache.new bsz).run ops).chain 0 = emptyView := by
  refine Cache.run_induct (P := fun c => viewAt c.chain 0 = emptyView) ?_ ?_ ops _ rfl
  · intro c c' e h
    rw [Cache.chain, e.older, e.cur]; exact h
  · intro c ts h
    have grow : ∀ n : Crumb, viewAt ((c.older ++ [c.cur]) ++ [n]) 0 = viewAt (c.older ++ [c.cur]) 0 := fun n => by
      rw [viewAt, List.getElem?_append_left (by simp)]; rfl
    rw [publishBreadcrumb_eq]
    split
    · exact (grow _).trans h
    · exact h

/-- The updates the cache takes off its input channel over a run (in order). -/
def consumedBy : Cache → List CacheOp → List SU
  | _, [] => []
  | c, .push o :: ops => consumedBy (push c o) ops
  | c, .loop ts :: ops =>
    if c.inputQ.isEmpty then consumedBy c ops
    else (fillBatch c).pendingUpdates ++ consumedBy (loopOnce c ts) ops

theorem run_current_view (ops : List CacheOp) (c : Cache) (h : Ready c) (hp : c.pendingUpdates = []) :
    vmap (c.run ops).cur.kvs = vfold (vmap c.cur.kvs) (consumedBy c ops) ∧ (c.run ops).pendingUpdates = [] := by
  induction ops generalizing c with
  | nil => exact ⟨rfl, hp⟩
  | cons op ops ih =>
    cases op with
    | push o =>
      have e := push_sameOut c o
      have hpush : (push c o).pendingUpdates = c.pendingUpdates := by unfold push; split <;> rfl
      have := ih (push c o) (h.sameOut e) (hpush.trans hp)
      rw [e.cur] at this
      exact this
    | loop ts =>
      simp only [Cache.run, List.foldl_cons, Cache.stepOp, consumedBy]
      split
      · exact ih c h hp
      · obtain ⟨d, hnil⟩ := loopOnce_drained h ts
        have := ih (loopOnce c ts) (h.loopOnce ts) hnil
        refine ⟨?_, this.2⟩
        rw [Cache.run] at this
        rw [this.1, d.drained hnil, vfold_append, (fillBatch_sameOut c).kvs, vmap_of_asMap _ _ h.inv.cur_view]

end CalicoVerif.C24
