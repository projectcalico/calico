import CalicoVerif.Model.C11Sem
/-!
C11 — correctness of the assembler model: running the assembled instructions
(`execL` on `asmGo evs`) gives the same outcome as the label-level semantics
`lrun evs`, for EVERY event list, whenever `lrun` does not fault.  This covers
the dead-code dropping of `Block` (an instruction that `lrun` reaches is never
dropped) and the eager forward label resolution.
-/
namespace CalicoVerif.C11

theorem step_nxt {env : Env} {i : Insn} (n1 n2 : Option Insn) {m : Mach}
    (h : i.op ≠ opLoadImm64) : step env i n1 m = step env i n2 m := by
  unfold step
  simp only [if_neg h]

theorem reachable_cons {last : Option Insn} {pend use : List Label} (l : Label)
    (h : reachable last pend use = true) : reachable last (l :: pend) use = true := by
  unfold reachable at *
  simp only [List.any_cons, Bool.or_eq_true] at *
  rcases h with h | h
  · exact Or.inl h
  · exact Or.inr (Or.inr h)

theorem reachable_label {last : Option Insn} {pend use : List Label} {l : Label}
    (h : l ∈ use) : reachable last (l :: pend) use = true := by
  unfold reachable
  simp only [List.any_cons, Bool.or_eq_true]
  refine Or.inr (Or.inl ?_)
  simpa using h

theorem reachable_of_not_stops {i : Insn} {use : List Label} (h : stops (some i) = false) :
    reachable (some i) [] use = true := by
  unfold reachable; simp [h]

theorem step_next_not_stop {env : Env} {i : Insn} {nxt : Option Insn} {m m' : Mach}
    (h : step env i nxt m = .next m') : stops (some i) = false := by
  unfold stops
  simp only [Bool.or_eq_false_iff, beq_eq_false_iff_ne, ne_eq]
  constructor
  · intro hop
    unfold step at h
    simp [hop, opJumpA, opLoadImm64] at h
  · intro hop
    unfold step at h
    simp [hop, opExit, opJumpA, opLoadImm64] at h
    split at h <;> simp at h

theorem step_loadImm64_fault {env : Env} {i : Insn} {nxt : Option Insn} {m : Mach}
    (hop : i.op = opLoadImm64) (h : ∀ j, nxt = some j → j.op ≠ opLoadImm64Pt2) :
    step env i nxt m = .fault := by
  unfold step
  simp only [if_pos hop]
  cases nxt with
  | none => rfl
  | some j => simp only [h j rfl, false_and, if_false]

theorem step_loadImm64_cases {env : Env} {i : Insn} {nxt : Option Insn} {m : Mach} (hop : i.op = opLoadImm64) :
    step env i nxt m = .fault ∨ ∃ m', step env i nxt m = .next2 m' := by
  unfold step
  simp only [if_pos hop]
  repeat' split
  all_goals first | exact Or.inl rfl | exact Or.inr ⟨_, rfl⟩

theorem step_ne_loadImm64 {env : Env} {i : Insn} {nxt : Option Insn} {m : Mach} {o : StepR}
    (hs : step env i nxt m = o) (ho : o ≠ .fault) (h2 : ∀ m', o ≠ .next2 m') : i.op ≠ opLoadImm64 :=
  fun hop => (step_loadImm64_cases hop).elim (fun h => ho (hs ▸ h)) fun ⟨m', h⟩ => h2 m' (hs ▸ h)

theorem helperCall_ne_next2 (env : Env) (m m' : Mach) (h : Int) : helperCall env m h ≠ .next2 m' := by
  unfold helperCall
  repeat' split
  all_goals nofun

theorem step_next2_op {env : Env} {i : Insn} {nxt : Option Insn} {m m' : Mach}
    (h : step env i nxt m = .next2 m') : i.op = opLoadImm64 := by
  refine Decidable.byContradiction fun hop => ?_
  revert h
  unfold step
  simp only [if_neg hop]
  by_cases h74 : i.op % 8 = 7 ∨ i.op % 8 = 4
  · simp only [if_pos h74]
    repeat' split
    all_goals nofun
  simp only [if_neg h74]
  by_cases h56 : i.op % 8 = 5 ∨ i.op % 8 = 6
  · simp only [if_pos h56]
    repeat' split
    all_goals first | exact helperCall_ne_next2 _ _ _ _ | nofun
  simp only [if_neg h56]
  by_cases h1 : i.op % 8 = 1
  · simp only [if_pos h1]
    generalize (if i.op = opLoadReg8 then 1 else _) = n
    repeat' split
    all_goals nofun
  simp only [if_neg h1]
  by_cases h3 : i.op % 8 = 3
  · simp only [if_pos h3]
    generalize (if i.op = opStoreReg8 then 1 else _) = n
    repeat' split
    all_goals nofun
  simp only [if_neg h3]
  nofun

theorem step_next2 {env : Env} {i : Insn} {nxt : Option Insn} {m m' : Mach}
    (h : step env i nxt m = .next2 m') :
    i.op = opLoadImm64 ∧ ∃ j, nxt = some j ∧ j.op = opLoadImm64Pt2 := by
  have hop := step_next2_op h
  refine ⟨hop, Decidable.byContradiction fun hn => ?_⟩
  rw [step_loadImm64_fault hop fun j hj hj2 => hn ⟨j, hj, hj2⟩] at h
  cases h

theorem step_off {env : Env} {i : Insn} {nxt : Option Insn} {m : Mach} (d : Int)
    (h : i.isJumpOp = true) : step env { i with off := d } nxt m = step env i nxt m := by
  unfold Insn.isJumpOp at h
  simp only [Bool.or_eq_true, beq_iff_eq] at h
  have h18 : i.op ≠ opLoadImm64 := by
    intro e; rw [e] at h; simp [opLoadImm64] at h
  unfold step
  simp only [if_neg h18]
  have h74 : ¬ (i.op % 8 = 7 ∨ i.op % 8 = 4) := by omega
  have h56 : (i.op % 8 = 5 ∨ i.op % 8 = 6) := h
  simp only [if_neg h74, if_pos h56]

theorem step_asm_jmp {env : Env} {i : Insn} {nxt : Option Insn} {m : Mach} {d : Int} (hj : i.isJumpOp = true) :
    step env { i with off := d } nxt m = step env i none m := by
  rw [step_off _ hj]
  refine step_nxt _ _ fun e => ?_
  rw [Insn.isJumpOp, e] at hj
  cases hj

theorem asmGo_ins {i : Insn} {r : List Ev} {last : Option Insn} {pend use : List Label} {p : List Insn}
    (hr : reachable last pend use = true) (h : asmGo (.ins i :: r) last pend use = some p) :
    ∃ p1, asmGo r (some i) [] use = some p1 ∧ p = i :: p1 := by
  simp only [asmGo, if_pos hr, Option.map_eq_some_iff] at h
  obtain ⟨p1, h1, rfl⟩ := h
  exact ⟨p1, h1, rfl⟩

theorem asmGo_jmp {i : Insn} {l : Label} {r : List Ev} {last : Option Insn} {pend use : List Label} {p : List Insn}
    (hr : reachable last pend use = true) (h : asmGo (.jmp i l :: r) last pend use = some p) :
    ∃ d p1, dist l r (some i) [] (l :: use) = some d ∧ d ≤ maxInt16 ∧
      asmGo r (some i) [] (l :: use) = some p1 ∧ p = { i with off := (d : Int) } :: p1 := by
  simp only [asmGo, if_pos hr] at h
  cases hd : dist l r (some i) [] (l :: use) with
  | none => simp [hd] at h
  | some d =>
    simp only [hd] at h
    by_cases hbig : d > maxInt16
    · simp [if_pos hbig] at h
    · simp only [if_neg hbig, Option.map_eq_some_iff] at h
      obtain ⟨p1, h1, rfl⟩ := h
      exact ⟨d, p1, rfl, by omega, h1, rfl⟩

/-- The `dist` instructions that precede the label are there; dropping them lands on the
assembly of the events after the label, in a state where the next instruction
is reachable. -/
theorem asm_drop_dist {l : Label} :
    ∀ (r : List Ev) (last : Option Insn) (pend use : List Label) (d : Nat) (p : List Insn),
      dist l r last pend use = some d → asmGo r last pend use = some p →
      d ≤ p.length ∧ ∀ r', l ∈ use → seek l r = some r' →
        ∃ last' pend' use', asmGo r' last' pend' use' = some (p.drop d) ∧ reachable last' pend' use' = true := by
  intro r
  induction r with
  | nil => intro last pend use d p hd; simp [dist] at hd
  | cons e es ih =>
    intro last pend use d p hd ha
    cases e with
    | label l' =>
      simp only [dist] at hd
      simp only [asmGo] at ha
      simp only [seek]
      by_cases hll : l' = l
      · simp only [if_pos hll] at hd ⊢
        cases hd
        subst hll
        exact ⟨Nat.zero_le _, fun r' hl hs => by cases hs; exact ⟨last, l' :: pend, use, by simpa using ha, reachable_label hl⟩⟩
      · simp only [if_neg hll] at hd ⊢
        exact ih last (l' :: pend) use d p hd ha
    | ins j =>
      simp only [dist] at hd
      simp only [seek]
      by_cases hr : reachable last pend use = true
      · simp only [if_pos hr] at hd
        obtain ⟨p1, ha1, rfl⟩ := asmGo_ins hr ha
        cases hd1 : dist l es (some j) [] use with
        | none => simp [hd1] at hd
        | some d1 =>
          simp [hd1] at hd
          subst hd
          obtain ⟨hle, hdrop⟩ := ih (some j) [] use d1 p1 hd1 ha1
          exact ⟨Nat.succ_le_succ hle, fun r' hl hs => by simpa using hdrop r' hl hs⟩
      · simp only [asmGo, if_neg hr] at hd ha
        exact ih last [] use d p hd ha
    | jmp j l2 =>
      simp only [dist] at hd
      simp only [seek]
      by_cases hr : reachable last pend use = true
      · simp only [if_pos hr] at hd
        obtain ⟨_, p1, _, _, ha1, rfl⟩ := asmGo_jmp hr ha
        cases hd1 : dist l es (some j) [] (l2 :: use) with
        | none => simp [hd1] at hd
        | some d1 =>
          simp [hd1] at hd
          subst hd
          obtain ⟨hle, hdrop⟩ := ih (some j) [] (l2 :: use) d1 p1 hd1 ha1
          exact ⟨Nat.succ_le_succ hle, fun r' hl hs => by simpa using hdrop r' (List.mem_cons_of_mem _ hl) hs⟩
      · simp only [asmGo, if_neg hr] at hd ha
        exact ih last [] use d p hd ha

theorem nextIns_eq_some {es : List Ev} {j : Insn} (h : nextIns es = some j) : ∃ r, es = .ins j :: r := by
  cases es with
  | nil => cases h
  | cons e r =>
    cases e with
    | ins j' => cases h; exact ⟨r, rfl⟩
    | label _ => cases h
    | jmp _ _ => cases h

/-- **Assembler soundness.** For every event list, if the label-level run does
not fault, the assembled program run by the instruction-level interpreter has
the same outcome.  By the induction principle of `lrun`: one case per event and outcome of `step`. -/
theorem asm_sound (env : Env) (evs : List Ev) (m : Mach) :
    ∀ (last : Option Insn) (pend use : List Label) (prog : List Insn),
      reachable last pend use = true → asmGo evs last pend use = some prog →
      (lrun env evs m).isFault = false → execL env prog m = lrun env evs m := by
  -- the cases of `lrun`: 1 no event left; 2 a label; 3–8 an instruction whose step is `next`, `next2`, `taken`,
  -- `exit`, `tail`, `fault`; 9 a `.jmp` event whose instruction is not a jump; 10 a jump not taken; 11, 12 a
  -- jump taken, its label found / not found behind it; 13 a jump whose step is anything else
  induction evs, m using lrun.induct env with
  | case1 m => intro _ _ _ _ _ _ hnf; rw [lrun] at hnf; cases hnf
  | case2 l r m ih =>
    intro last pend use prog hr ha hnf
    rw [lrun] at hnf ⊢
    exact ih last (l :: pend) use prog (reachable_cons l hr) (by simpa only [asmGo] using ha) hnf
  | case3 i r m m' hs ih =>
    intro last pend use prog hr ha hnf
    obtain ⟨p1, ha1, rfl⟩ := asmGo_ins hr ha
    rw [lrun, hs] at hnf ⊢
    rw [execL, step_nxt p1.head? (nextIns r) (step_ne_loadImm64 hs nofun fun _ => nofun), hs]
    exact ih (some i) [] use p1 (reachable_of_not_stops (step_next_not_stop hs)) ha1 hnf
  | case4 i r m m' hs ih =>
    intro last pend use prog hr ha hnf
    obtain ⟨p1, ha1, rfl⟩ := asmGo_ins hr ha
    -- the second slot is an instruction, and it is emitted since `LoadImm64` does not end a block
    obtain ⟨hop, j, hj, hj2⟩ := step_next2 hs
    obtain ⟨r2, rfl⟩ := nextIns_eq_some hj
    obtain ⟨p2, ha2, rfl⟩ := asmGo_ins (reachable_of_not_stops (by rw [stops, hop]; rfl)) ha1
    rw [lrun, hs] at hnf ⊢
    rw [execL, show (j :: p2).head? = nextIns (Ev.ins j :: r2) from rfl, hs]
    exact ih (some j) [] use p2 (reachable_of_not_stops (by rw [stops, hj2]; rfl)) ha2 hnf
  | case5 i r m _ hs | case8 i r m hs => intro _ _ _ _ _ _ hnf; rw [lrun, hs] at hnf; cases hnf
  | case6 i r m _ _ hs | case7 i r m _ _ _ hs =>
    intro last pend use prog hr ha _
    obtain ⟨p1, _, rfl⟩ := asmGo_ins hr ha
    rw [lrun, hs, execL, step_nxt p1.head? (nextIns r) (step_ne_loadImm64 hs nofun fun _ => nofun), hs]
  | case9 i l r m hj => intro _ _ _ _ _ _ hnf; rw [lrun, if_pos hj] at hnf; cases hnf
  | case10 i l r m hj m' hs ih =>
    intro last pend use prog hr ha hnf
    obtain ⟨d, p1, _, _, ha1, rfl⟩ := asmGo_jmp hr ha
    rw [lrun, if_neg hj, hs] at hnf ⊢
    rw [execL, step_asm_jmp (by simpa using hj), hs]
    exact ih (some i) [] (l :: use) p1 (reachable_of_not_stops (step_next_not_stop hs)) ha1 hnf
  | case11 i l r m hj m' hs r' hseek ih =>
    intro last pend use prog hr ha hnf
    obtain ⟨d, p1, hd, _, ha1, rfl⟩ := asmGo_jmp hr ha
    obtain ⟨last', pend', use', h1, h2⟩ := (asm_drop_dist r (some i) [] (l :: use) d p1 hd ha1).2 r' List.mem_cons_self hseek
    have e : lrun env (.jmp i l :: r) m = lrun env r' m' := by
      rw [lrun, if_neg hj, hs]; simp only; split <;> rename_i h <;> rw [hseek] at h <;> cases h; rfl
    rw [e] at hnf ⊢
    rw [execL, step_asm_jmp (by simpa using hj), hs]
    simp only [if_neg (by omega : ¬ ((d : Int) < 0)), Int.toNat_natCast]
    exact ih last' pend' use' (p1.drop d) h2 h1 hnf
  | case12 i l r m hj m' hs hseek =>
    intro _ _ _ _ _ _ hnf
    rw [lrun, if_neg hj, hs] at hnf
    simp only at hnf
    split at hnf
    · rename_i h; rw [hseek] at h; cases h
    · cases hnf
  | case13 i l r m hj h1 h2 =>
    intro _ _ _ _ _ _ hnf
    rw [lrun, if_neg hj] at hnf
    cases hs : step env i none m with
    | next m' => exact (h1 m' hs).elim
    | taken m' => exact (h2 m' hs).elim
    | next2 _ | «exit» _ _ | tail _ _ _ | fault => rw [hs] at hnf; cases hnf

theorem assemble_sound (env : Env) (evs : List Ev) (prog : List Insn) (m : Mach)
    (ha : assemble evs = some prog) (hnf : (lrun env evs m).isFault = false) :
    execL env prog m = lrun env evs m :=
  asm_sound env evs m none [] [] prog (by simp [reachable, stops]) ha hnf

end CalicoVerif.C11
