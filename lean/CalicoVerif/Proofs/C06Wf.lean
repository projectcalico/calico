import CalicoVerif.Proofs.C06Parse
/-! C06 helper lemmas: what the tokenizer and the parser return.  One pass over each function
establishes both that the model's `fuel` error never comes out (given the fuel `tokenize` / `parse`
supply) and that every success is well-formed (`TokWF` tokens, `WF` trees): the second needs the
token payloads the first walks over, and the fuel bound needs the progress (`rem` shorter than the
input) that is proved along the way. -/
namespace CalicoVerif.C06

def Good {α : Type} (P : α → Prop) : Except Err α → Prop
  | .ok a => P a
  | .error e => e ≠ .fuel

theorem Good.error {α : Type} {P : α → Prop} {e : Err} (h : e ≠ .fuel := by decide) :
    Good P (.error e) := h

theorem Good.mono {α : Type} {P Q : α → Prop} {r : Except Err α} (hr : Good P r) (h : ∀ a, P a → Q a) :
    Good Q r := by
  cases r with
  | error e => exact hr
  | ok a => exact h a hr

theorem Good.ne_fuel {α : Type} {P : α → Prop} {r : Except Err α} (hr : Good P r) : r ≠ .error .fuel := by
  rintro rfl; exact hr rfl

theorem Good.of_error {α β : Type} {P : α → Prop} {Q : β → Prop} {r : Except Err α} {e : Err}
    (hr : Good P r) (h : r = .error e) : Good Q (.error e) := by
  subst h; exact hr

theorem Good.of_ok {α : Type} {P : α → Prop} {r : Except Err α} {a : α} (hr : Good P r) (h : r = .ok a) : P a := by
  subst h; exact hr

theorem Good.map {α β : Type} {P : β → Prop} {f : α → β} {r : Except Err α} (hr : Good (fun a => P (f a)) r) :
    Good P (r.map f) := by
  cases r <;> exact hr

theorem Good.ite {α : Type} {P : α → Prop} {c : Prop} [Decidable c] {a b : Except Err α}
    (ha : Good P a) (hb : Good P b) : Good P (if c then a else b) := by
  split <;> assumption

def TokWF : Token → Prop
  | .label l => ValidLabel l
  | .has l => ValidLabel l
  | .str v => QuoteSafe v
  | _ => True

def TokensWF (toks : List Token) : Prop := ∀ t ∈ toks, TokWF t

theorem TokensWF.tail {t : Token} {ts : List Token} (h : TokensWF (t :: ts)) : TokensWF ts :=
  fun x hx => h x (List.mem_cons_of_mem _ hx)

theorem TokensWF.head {t : Token} {ts : List Token} (h : TokensWF (t :: ts)) : TokWF t :=
  h t (List.mem_cons_self ..)

theorem mem_takeWhile_imp {p : Char → Bool} {c : Char} {l : Str} (h : c ∈ l.takeWhile p) : p c = true :=
  List.all_eq_true.1 List.all_takeWhile c h

theorem cutIdentifier_good (s : Str) : Good (fun r => ValidLabel r.1) (cutIdentifier s) := by
  simp only [cutIdentifier]
  split
  · exact .error
  · split
    · exact .error
    · rename_i h1 h2
      exact ⟨fun e => h2 (congrArg List.length e), Nat.le_of_not_gt h1, fun c hc => mem_takeWhile_imp hc⟩

theorem cutQuoted_good (q : Char) (s : Str) : Good (fun r => q ∉ r.1) (cutQuoted q s) := by
  unfold cutQuoted
  split
  · exact .error
  · exact fun hm => by simpa using mem_takeWhile_imp hm

theorem nextOperator_good (s : Str) : Good (fun r => TokWF r.1) (nextOperator s) := by
  unfold nextOperator
  repeat' split
  all_goals first | trivial | exact .error

theorem nextWord_good (s : Str) : Good (fun r => TokWF r.1) (nextWord s) := by
  unfold nextWord
  split
  next r _ =>
    have h := cutIdentifier_good (trimWhitespace r)
    split
    · exact h.of_error ‹_›
    · split
      · exact h.of_ok ‹_›
      · exact .error
  split
  · split <;> first | trivial | exact .error
  split
  · split <;> first | trivial | exact .error
  have h := cutIdentifier_good s
  split
  · exact h.of_ok ‹_›
  · exact h.of_error ‹_›

theorem cutQuoted_tok (q : Char) (hq : q = '"' ∨ q = '\'') (cs : Str) :
    Good (fun r => TokWF r.1)
      ((cutQuoted q cs).map fun x : Str × Str => match x with | (v, r) => (Token.str v, r)) :=
  ((cutQuoted_good q cs).mono fun _ h => by
    rcases hq with rfl | rfl
    · exact fun hd => absurd hd h
    · exact fun _ => h).map

theorem nextToken_good (l : Bool) (c : Char) (cs : Str) : Good (fun r => TokWF r.1) (nextToken l c cs) := by
  unfold nextToken
  refine .ite trivial <| .ite trivial <| .ite (cutQuoted_tok _ (.inl rfl) _) <|
    .ite (cutQuoted_tok _ (.inr rfl) _) <| .ite trivial <| .ite trivial <| .ite trivial <|
    .ite ?_ <| .ite ?_ <| .ite ?_ <| .ite ?_ <| .ite (nextOperator_good _) (nextWord_good _)
  all_goals split <;> first | trivial | exact .error

theorem tokenizeFrom_good : ∀ (fuel : Nat) (l : Bool) (s : Str), s.length < fuel →
    Good TokensWF (tokenizeFrom fuel l s)
  | fuel + 1, l, s, h => by
    rw [tokenizeFrom]
    split
    · exact fun t ht => by cases List.mem_singleton.1 ht; trivial
    · have ht := nextToken_good l ‹_› ‹_›
      split
      · exact ht.of_error ‹_›
      next tok rest _ =>
      split
      · exact .error
      · have ih := tokenizeFrom_good fuel tok.isLabel rest (by omega)
        split
        · exact ih.of_error ‹_›
        · exact List.forall_mem_cons.2 ⟨ht.of_ok ‹_›, ih.of_ok ‹_›⟩

theorem tokenize_good (s : Str) : Good TokensWF (tokenize s) :=
  tokenizeFrom_good _ _ _ (Nat.lt_succ_self _)

theorem stripNots_spec (toks : List Token) (b : Bool) (h : TokensWF toks) :
    TokensWF (stripNots toks b).2 ∧ (stripNots toks b).2.length ≤ toks.length := by
  fun_induction stripNots toks b with
  | case1 ts b ih => exact ⟨(ih h.tail).1, Nat.le_succ_of_le (ih h.tail).2⟩
  | case2 => exact ⟨h, Nat.le_refl _⟩

theorem parseSetValues_spec (toks : List Token) (h : TokensWF toks) :
    (∀ v ∈ (parseSetValues toks).1, QuoteSafe v) ∧ TokensWF (parseSetValues toks).2 ∧
      (parseSetValues toks).2.length ≤ toks.length := by
  fun_induction parseSetValues toks with
  | case1 v ts vs rem hr ih =>
    rw [hr] at ih
    have := ih h.tail.tail
    exact ⟨List.forall_mem_cons.2 ⟨h.head, this.1⟩, this.2.1, Nat.le_succ_of_le (Nat.le_succ_of_le this.2.2)⟩
  | case2 v ts _ =>
    exact ⟨fun w hw => by cases List.mem_singleton.1 hw; exact h.head, h.tail, Nat.le_succ _⟩
  | case3 ts _ _ => exact ⟨nofun, h, Nat.le_refl _⟩

/-- What the loops need from the operation parser on token lists of length ≤ `bound`. -/
def OpGood (op : List Token → PResult) (bound : Nat) : Prop :=
  ∀ toks : List Token, TokensWF toks → toks.length ≤ bound →
    Good (fun r => WF r.1 ∧ TokensWF r.2 ∧ r.2.length < toks.length) (op toks)

theorem parseLabelOp_good {l : Str} (hl : ValidLabel l) {rest : List Token} (h : TokensWF rest) :
    Good (fun r => WF r.1 ∧ TokensWF r.2 ∧ r.2.length < rest.length) (parseLabelOp l rest) := by
  unfold parseLabelOp
  split
  · exact .error
  · exact .error
  next op t2 rem =>
  have hset := parseSetValues_spec rem h.tail.tail
  cases op with
  | eq | ne | contains | startsWith | endsWith =>
    dsimp only
    split
    · exact ⟨by rw [WF]; exact ⟨hl, h.tail.head⟩, h.tail.tail, Nat.lt_succ_of_lt (Nat.lt_succ_self _)⟩
    · exact .error
  | «in» | notIn =>
    dsimp only
    split
    · split
      next rem' heq =>
        rw [heq] at hset
        exact ⟨by rw [WF]; exact ⟨hl, fun v hv => hset.1 v (mem_convertToStringSet.1 hv),
          strictSorted_convertToStringSet _⟩, hset.2.1.tail, Nat.lt_succ_of_lt (Nat.lt_succ_of_lt hset.2.2)⟩
      · exact .error
    · exact .error
  | _ => exact .error

theorem wf_wrapNot (b : Bool) (n : Node) : WF (wrapNot b n) ↔ WF n := by
  cases b <;> simp only [wrapNot, WF, if_true, Bool.false_eq_true, if_false]

theorem wf_mkAnd {n : Node} {ns : List Node} (hn : WF n) (hns : ∀ m ∈ ns, WF m) : WF (mkAnd (n :: ns)) := by
  cases ns with
  | nil => exact hn
  | cons m ms =>
    simp only [mkAnd, WF, wfList_iff]
    exact ⟨Nat.le_add_left 2 _, List.forall_mem_cons.2 ⟨hn, hns⟩⟩

theorem wf_mkOr {n : Node} {ns : List Node} (hn : WF n) (hns : ∀ m ∈ ns, WF m) : WF (mkOr (n :: ns)) := by
  cases ns with
  | nil => exact hn
  | cons m ms =>
    simp only [mkOr, WF, wfList_iff]
    exact ⟨Nat.le_add_left 2 _, List.forall_mem_cons.2 ⟨hn, hns⟩⟩

theorem andRest_good {op : List Token → PResult} {bound : Nat} (hop : OpGood op bound) (fuel : Nat)
    (toks : List Token) (hwf : TokensWF toks) (hf : toks.length ≤ fuel) (hb : toks.length ≤ bound) :
    Good (fun r => (∀ n ∈ r.1, WF n) ∧ TokensWF r.2 ∧ r.2.length ≤ toks.length) (andRest op fuel toks) := by
  induction fuel generalizing toks with
  | zero => cases List.eq_nil_of_length_eq_zero (Nat.le_zero.1 hf); exact ⟨nofun, hwf, Nat.le_refl _⟩
  | succ fuel ih =>
    unfold andRest
    split
    next rem heq =>
      cases heq
      have hf : rem.length ≤ fuel := Nat.le_of_succ_le_succ hf
      have hb : rem.length < bound := hb
      have h1 := hop rem hwf.tail (Nat.le_of_lt hb)
      split
      · exact h1.of_error ‹_›
      obtain ⟨w1, t1, l1⟩ := h1.of_ok ‹_›
      have h2 := ih _ t1 (Nat.le_trans (Nat.le_of_lt l1) hf) (Nat.le_of_lt (Nat.lt_trans l1 hb))
      split
      · exact h2.of_error ‹_›
      obtain ⟨w2, t2, l2⟩ := h2.of_ok ‹_›
      exact ⟨List.forall_mem_cons.2 ⟨w1, w2⟩, t2, Nat.le_succ_of_le (Nat.le_trans l2 (Nat.le_of_lt l1))⟩
    next heq => cases heq
    · exact ⟨nofun, hwf, Nat.le_refl _⟩

theorem parseAndWith_good {op : List Token → PResult} {bound : Nat} (hop : OpGood op bound) (fuel : Nat) :
    OpGood (parseAndWith op fuel) (min fuel bound) := by
  intro toks hwf hlen
  have hb := Nat.le_trans hlen (Nat.min_le_right ..)
  unfold parseAndWith
  have h1 := hop toks hwf hb
  split
  · exact h1.of_error ‹_›
  obtain ⟨w1, t1, l1⟩ := h1.of_ok ‹_›
  have h2 := andRest_good hop fuel _ t1 (Nat.le_trans (Nat.le_of_lt l1) (Nat.le_trans hlen (Nat.min_le_left ..)))
    (Nat.le_trans (Nat.le_of_lt l1) hb)
  split
  · exact h2.of_error ‹_›
  obtain ⟨w2, t2, l2⟩ := h2.of_ok ‹_›
  exact ⟨wf_mkAnd w1 w2, t2, Nat.lt_of_le_of_lt l2 l1⟩

theorem orRest_good {op : List Token → PResult} {bound : Nat} (hop : OpGood op bound) (fuelAnd fuel : Nat)
    (toks : List Token) (hwf : TokensWF toks) (hf : toks.length ≤ fuel) (hb : toks.length ≤ min fuelAnd bound) :
    Good (fun r => (∀ n ∈ r.1, WF n) ∧ TokensWF r.2 ∧ r.2.length ≤ toks.length)
      (orRest op fuelAnd fuel toks) := by
  induction fuel generalizing toks with
  | zero => cases List.eq_nil_of_length_eq_zero (Nat.le_zero.1 hf); exact ⟨nofun, hwf, Nat.le_refl _⟩
  | succ fuel ih =>
    unfold orRest
    split
    next rem heq =>
      cases heq
      have hf : rem.length ≤ fuel := Nat.le_of_succ_le_succ hf
      have hb : rem.length < min fuelAnd bound := hb
      have h1 := parseAndWith_good hop fuelAnd rem hwf.tail (Nat.le_of_lt hb)
      split
      · exact h1.of_error ‹_›
      obtain ⟨w1, t1, l1⟩ := h1.of_ok ‹_›
      have h2 := ih _ t1 (Nat.le_trans (Nat.le_of_lt l1) hf) (Nat.le_of_lt (Nat.lt_trans l1 hb))
      split
      · exact h2.of_error ‹_›
      obtain ⟨w2, t2, l2⟩ := h2.of_ok ‹_›
      exact ⟨List.forall_mem_cons.2 ⟨w1, w2⟩, t2, Nat.le_succ_of_le (Nat.le_trans l2 (Nat.le_of_lt l1))⟩
    next heq => cases heq
    · exact ⟨nofun, hwf, Nat.le_refl _⟩

theorem parseOrWith_good {op : List Token → PResult} {bound : Nat} (hop : OpGood op bound) (fuel : Nat) :
    OpGood (parseOrWith op fuel) (min fuel bound) := by
  intro toks hwf hlen
  unfold parseOrWith
  have h1 := parseAndWith_good hop fuel toks hwf hlen
  split
  · exact h1.of_error ‹_›
  obtain ⟨w1, t1, l1⟩ := h1.of_ok ‹_›
  have h2 := orRest_good hop fuel fuel _ t1 (Nat.le_trans (Nat.le_of_lt l1) (Nat.le_trans hlen (Nat.min_le_left ..)))
    (Nat.le_trans (Nat.le_of_lt l1) hlen)
  split
  · exact h2.of_error ‹_›
  obtain ⟨w2, t2, l2⟩ := h2.of_ok ‹_›
  exact ⟨wf_mkOr w1 w2, t2, Nat.lt_of_le_of_lt l2 l1⟩

theorem opCore_good {fuel : Nat} (ih : OpGood (parseOperation fuel) fuel) (toks : List Token)
    (hwf : TokensWF toks) (hlen : toks.length ≤ fuel + 1) :
    Good (fun r => WF r.1 ∧ TokensWF r.2 ∧ r.2.length < toks.length) (opCore fuel toks) := by
  unfold opCore
  split
  · exact ⟨by rw [WF]; exact hwf.head, hwf.tail, Nat.lt_succ_self _⟩
  · exact ⟨by simp only [WF], hwf.tail, Nat.lt_succ_self _⟩
  · exact ⟨by simp only [WF], hwf.tail, Nat.lt_succ_self _⟩
  · exact (parseLabelOp_good hwf.head hwf.tail).mono fun r h => ⟨h.1, h.2.1, Nat.lt_succ_of_lt h.2.2⟩
  next rest =>
    have h1 := parseOrWith_good ih fuel rest hwf.tail
      (Nat.le_min.2 ⟨Nat.le_of_succ_le_succ hlen, Nat.le_of_succ_le_succ hlen⟩)
    split
    · exact h1.of_error ‹_›
    obtain ⟨w1, t1, l1⟩ := h1.of_ok ‹_›
    split
    · exact ⟨w1, t1.tail, Nat.lt_succ_of_lt (Nat.lt_of_succ_lt l1)⟩
    · exact .error
  · exact .error

theorem parseOperation_good : ∀ fuel : Nat, OpGood (parseOperation fuel) fuel
  | _, [], _, _ => by rw [parseOperation]; exact .error
  | fuel + 1, t :: ts, hwf, hlen => by
    rw [parseOperation_succ, opFrom]
    have hs := stripNots_spec (t :: ts) false hwf
    have h1 := opCore_good (parseOperation_good fuel) _ hs.1 (Nat.le_trans hs.2 hlen)
    split
    · exact h1.of_error ‹_›
    obtain ⟨w1, t1, l1⟩ := h1.of_ok ‹_›
    exact ⟨(wf_wrapNot _ _).2 w1, t1, Nat.lt_of_lt_of_le l1 hs.2⟩

theorem parse_good (s : Str) : Good WF (parse s) := by
  unfold parse
  have ht := tokenize_good s
  split
  · exact ht.of_error ‹_›
  next tokens _ =>
  split
  · trivial
  · have h1 := parseOrWith_good (parseOperation_good tokens.length) tokens.length tokens (ht.of_ok ‹_›)
      (Nat.le_min.2 ⟨Nat.le_refl _, Nat.le_refl _⟩)
    unfold parseOrExpression
    split
    · exact h1.of_error ‹_›
    · split
      · exact .error
      · exact (h1.of_ok ‹_›).1

theorem WF.of_parse {s : Str} {t : Node} (h : parse s = .ok t) : WF t := (parse_good s).of_ok h
