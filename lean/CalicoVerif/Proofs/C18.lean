import CalicoVerif.Proofs.C18Spec
import CalicoVerif.Proofs.Assoc
/-! C18 proofs (the definitions the statements use are in `Proofs/C18Spec`).  First the map lemmas of `GoMap` over
`Assoc` (`get_set`, `get_del`, `NodupKeys` …; `del_absent`, `del_comm`, `set_del`, `del_set_ne` are there for `Proofs/C44`).
Every operation of the tracker acts on one key, so the tracker is analysed through its projection
`proj t k : P V` at a key (the three maps read at `k`); a loop is a fold of key-local steps.  `ReplaceAllIter` is analysed
the same way through `projR r k : Q V`, its five scratch maps read at `k` (pending updates, what is left of the two old
in-dataplane maps, the two new ones).  `specAt`, `Inv`, `step_at` tie every operation to the specification at one key;
`run_ind` is the induction over histories. -/
namespace CalicoVerif.C18
variable {K V : Type} [DecidableEq K]

theorem get_eq (m : GoMap K V) (k : K) : get m k = Assoc.get m k := by
  induction m with
  | nil => rfl
  | cons p r ih => simp only [get, Assoc.get, ih]

@[grind =] theorem get_del (m : GoMap K V) (k k' : K) :
    get (del m k) k' = if k = k' then none else get m k' := by
  rw [get_eq, get_eq, del, Assoc.get_del]
  exact ite_congr (propext eq_comm) (fun _ => rfl) (fun _ => rfl)

@[grind =] theorem get_set (m : GoMap K V) (k k' : K) (v : V) :
    get (set m k v) k' = if k = k' then some v else get m k' := by
  rw [get_eq, get_eq, set, del, Assoc.get_set]
  exact ite_congr (propext eq_comm) (fun _ => rfl) (fun _ => rfl)

theorem get_filter (m : GoMap K V) (q : K → Bool) (k : K) :
    get (m.filter (fun kv => q kv.1)) k = if q k then get m k else none := by
  rw [get_eq, get_eq]; exact Assoc.get_filter m q k

@[simp] theorem get_nil (k : K) : get ([] : GoMap K V) k = none := rfl

theorem get_eq_none_iff (m : GoMap K V) (k : K) : get m k = none ↔ k ∉ keys m := by
  rw [get_eq]; exact Assoc.get_eq_none_iff m k

theorem del_absent (m : GoMap K V) (k : K) (h : get m k = none) : del m k = m :=
  List.filter_eq_self.2 fun p hp => decide_eq_true fun (e : p.1 = k) =>
    (get_eq_none_iff m k).1 h (e ▸ List.mem_map_of_mem (f := (·.1)) hp)

theorem del_comm (m : GoMap K V) (k k' : K) : del (del m k) k' = del (del m k') k := by
  simp only [del, List.filter_filter, Bool.and_comm]

theorem set_del (m : GoMap K V) (k : K) (v : V) : set (del m k) k v = set m k v := by
  simp only [set, del, List.filter_filter, Bool.and_self]

theorem del_set_ne (m : GoMap K V) (k k' : K) (v : V) (h : k ≠ k') :
    del (set m k v) k' = set (del m k') k v := by
  rw [set, set, del_comm m k' k]
  simp [del, h]

theorem nodupKeys_nil : NodupKeys ([] : GoMap K V) := List.nodup_nil

theorem nodupKeys_del (m : GoMap K V) (k : K) (h : NodupKeys m) : NodupKeys (del m k) :=
  Assoc.nodup_del k h

theorem nodupKeys_set (m : GoMap K V) (k : K) (v : V) (h : NodupKeys m) : NodupKeys (set m k v) :=
  Assoc.nodup_set k v h

theorem get_eq_some_iff (m : GoMap K V) (h : NodupKeys m) (k : K) (v : V) :
    get m k = some v ↔ (k, v) ∈ m := by
  rw [get_eq]; exact ⟨Assoc.mem_of_get, Assoc.get_of_mem h⟩

theorem filter_key (m : GoMap K V) (h : NodupKeys m) (k : K) :
    m.filter (fun x => decide (x.1 = k)) = match get m k with
      | some v => [(k, v)]
      | none => [] := by
  rw [get_eq]; exact Assoc.filter_key h k

theorem perm_get (m m' : GoMap K V) (hp : m.Perm m') (h : NodupKeys m') (k : K) : get m k = get m' k := by
  rw [get_eq, get_eq]; exact Assoc.perm_get hp h k

theorem desiredGet_eq (t : Tracker K V) (k : K) : desiredGet t k = (proj t k).des := rfl

def dSetAt (eqv : V → V → Bool) (p : P V) (v : V) : P V :=
  match p.b with
  | some cur => ⟨some cur, none, if eqv cur v then none else some v⟩
  | none =>
    match p.a with
    | some cur => ⟨p.a, none, if eqv cur v then none else some v⟩
    | none => ⟨none, none, some v⟩

theorem proj_dSet (eqv : V → V → Bool) (t : Tracker K V) (k k' : K) (v : V) :
    proj (dSet eqv t k v) k' = if k = k' then dSetAt eqv (proj t k') v else proj t k' := by
  by_cases hk : k = k'
  · subst hk
    cases h1 : get t.dn k <;> cases h2 : get t.dd k <;>
      simp only [dSet, dSetAt, h1, h2, if_true, proj] <;> split <;>
      simp only [get_set, get_del, if_true, h1, h2]
  · cases h1 : get t.dn k <;> cases h2 : get t.dd k <;>
      simp only [dSet, h1, h2, hk, if_false] <;> split <;>
      simp only [proj, get_set, get_del, hk, if_false]

def dDelAt (p : P V) : P V :=
  ⟨none, (match p.a with
    | some cur => some cur
    | none => p.b), none⟩

theorem proj_dDel (t : Tracker K V) (k k' : K) :
    proj (dDel t k) k' = if k = k' then dDelAt (proj t k') else proj t k' := by
  by_cases hk : k = k'
  · subst hk
    cases h1 : get t.du k <;> cases h2 : get t.dd k <;>
      simp [dDel, dDelAt, h1, h2, proj, get_set, get_del]
  · cases h1 : get t.du k <;> cases h2 : get t.dd k <;>
      simp [dDel, h1, h2, hk, proj, get_set, get_del]

def pSetAt (eqv : V → V → Bool) (p : P V) (v : V) : P V :=
  match p.des with
  | some dv => ⟨some v, p.b, if !eqv dv v then some dv else none⟩
  | none => ⟨p.a, some v, p.c⟩

theorem proj_pSet (eqv : V → V → Bool) (t : Tracker K V) (k k' : K) (v : V) :
    proj (pSet eqv t k v) k' = if k = k' then pSetAt eqv (proj t k') v else proj t k' := by
  unfold pSet pSetAt
  rw [desiredGet_eq]
  by_cases hk : k = k'
  · subst hk
    cases h1 : (proj t k).des <;> simp [proj] <;> grind
  · cases h1 : (proj t k).des <;> simp [proj, hk] <;> grind

def pDelAt (p : P V) : P V :=
  ⟨none, none, match p.des with
    | some dv => some dv
    | none => p.c⟩

theorem proj_pDel (t : Tracker K V) (k k' : K) :
    proj (pDel t k) k' = if k = k' then pDelAt (proj t k') else proj t k' := by
  unfold pDel pDelAt
  rw [desiredGet_eq]
  by_cases hk : k = k'
  · subst hk
    cases h1 : (proj t k).des <;> simp [proj] <;> grind
  · cases h1 : (proj t k).des <;> simp [proj, hk] <;> grind

def applyUpdAt (p : P V) (v : V) : P V := ⟨some v, p.b, none⟩

theorem proj_applyUpd (t : Tracker K V) (kv : K × V) (k' : K) :
    proj (applyUpd t kv) k' = if kv.1 = k' then applyUpdAt (proj t k') kv.2 else proj t k' := by
  unfold applyUpd applyUpdAt proj
  by_cases hk : kv.1 = k' <;> simp [hk] <;> grind

def applyDelAt (p : P V) : P V := ⟨p.a, none, p.c⟩

theorem proj_applyDel (t : Tracker K V) (k k' : K) :
    proj (applyDel t k) k' = if k = k' then applyDelAt (proj t k') else proj t k' := by
  unfold applyDel applyDelAt proj
  by_cases hk : k = k' <;> simp [hk] <;> grind

theorem Refl.apply {eqv : V → V → Bool} (h : Refl eqv) (a : V) : eqv a a = true := h a

theorem P.Inv.cases {eqv : V → V → Bool} {p : P V} (h : p.Inv eqv) :
    (∃ w, p = ⟨none, some w, none⟩) ∨
    (p.b = none ∧ ∀ v w, p.c = some v → p.a = some w → eqv v w = false) := by
  obtain ⟨a, b, c⟩ := p
  obtain ⟨h1, h2, h3⟩ := h
  cases b with
  | none => exact Or.inr ⟨rfl, h3⟩
  | some w =>
    cases a with
    | some _ => exact absurd (h1 (by simp)) (by simp)
    | none =>
      cases c with
      | some _ => exact absurd (h2 (by simp)) (by simp)
      | none => exact Or.inl ⟨w, rfl⟩

theorem P.pendU_exact (eqv : V → V → Bool) (hr : Refl eqv) (p : P V) (h : p.Inv eqv) :
    p.c = if pendU eqv p.abs then p.des else none := by
  rcases h.cases with ⟨w, rfl⟩ | ⟨hb, h3⟩
  · rfl
  · obtain ⟨a, b, c⟩ := p
    subst hb
    cases a <;> cases c <;> simp [pendU, P.abs, P.des, P.dp, hr _]
    exact h3 _ _ rfl rfl

theorem P.pendX_exact (eqv : V → V → Bool) (p : P V) (h : p.Inv eqv) :
    p.b = if pendX p.abs then p.dp else none := by
  rcases h.cases with ⟨w, rfl⟩ | ⟨hb, -⟩
  · rfl
  · obtain ⟨a, b, c⟩ := p
    subst hb
    cases a <;> cases c <;> rfl


theorem dSetAt_ok (eqv : V → V → Bool) (hs : Sym eqv) (p : P V) (v : V) (h : p.Inv eqv) :
    (dSetAt eqv p v).Inv eqv ∧ (dSetAt eqv p v).abs = sDSet eqv p.abs v := by
  rcases h.cases with ⟨w, rfl⟩ | ⟨hb, -⟩
  · cases hc : eqv w v <;> simp [dSetAt, sDSet, P.abs, P.des, P.dp, P.Inv, hc]
    rw [hs]; exact hc
  · obtain ⟨a, b, c⟩ := p
    subst hb
    cases a with
    | none => cases c <;> simp [dSetAt, sDSet, P.abs, P.des, P.dp, P.Inv]
    | some w =>
      -- a recorded update `v` differs from the dataplane value `w`: `eqv v w` from `eqv w v`
      cases hc : eqv w v <;> cases c <;> simp [dSetAt, sDSet, P.abs, P.des, P.dp, P.Inv, hc]
      all_goals (rw [hs]; exact hc)

theorem dDelAt_ok (eqv : V → V → Bool) (p : P V) (h : p.Inv eqv) :
    (dDelAt p).Inv eqv ∧ (dDelAt p).abs = sDDel p.abs := by
  rcases h.cases with ⟨w, rfl⟩ | ⟨hb, -⟩
  · simp [dDelAt, sDDel, P.abs, P.des, P.dp, P.Inv]
  · obtain ⟨a, b, c⟩ := p
    subst hb
    cases a <;> simp [dDelAt, sDDel, P.abs, P.des, P.dp, P.Inv]

theorem pSetAt_ok (eqv : V → V → Bool) (p : P V) (v : V) (h : p.Inv eqv) :
    (pSetAt eqv p v).Inv eqv ∧ (pSetAt eqv p v).abs = sPSet eqv p.abs v := by
  rcases h.cases with ⟨w, rfl⟩ | ⟨hb, -⟩
  · simp [pSetAt, sPSet, P.abs, P.des, P.dp, P.Inv]
  · obtain ⟨a, b, c⟩ := p
    subst hb
    cases a <;> cases c <;> simp [pSetAt, sPSet, P.abs, P.des, P.dp, P.Inv]
    all_goals (rename_i dv; cases eqv dv v <;> simp)

theorem pDelAt_ok (eqv : V → V → Bool) (p : P V) (h : p.Inv eqv) :
    (pDelAt p).Inv eqv ∧ (pDelAt p).abs = sPDel p.abs := by
  rcases h.cases with ⟨w, rfl⟩ | ⟨hb, -⟩
  · simp [pDelAt, sPDel, P.abs, P.des, P.dp, P.Inv]
  · obtain ⟨a, b, c⟩ := p
    subst hb
    cases a <;> cases c <;> simp [pDelAt, sPDel, P.abs, P.des, P.dp, P.Inv]

/-- `PendingUpdatesView.Iter` at one key: only a pending update (c = some v) is visited. -/
def uIterAt (upd : Bool) (p : P V) : P V :=
  match p.c with
  | some v => if upd then applyUpdAt p v else p
  | none => p

theorem uIterAt_ok (eqv : V → V → Bool) (hr : Refl eqv) (upd : Bool) (p : P V) (h : p.Inv eqv) :
    (uIterAt upd p).Inv eqv ∧ (uIterAt upd p).abs = sUIter eqv upd p.abs := by
  cases upd with
  | false =>
    have : uIterAt false p = p := by unfold uIterAt; cases p.c <;> rfl
    rw [this]; exact ⟨h, rfl⟩
  | true =>
    rcases h.cases with ⟨w, rfl⟩ | ⟨hb, h3⟩
    · exact ⟨h, rfl⟩
    · obtain ⟨a, b, c⟩ := p
      subst hb
      cases c with
      | none => cases a <;> simp [uIterAt, sUIter, pendU, P.abs, P.des, P.dp, h, hr _]
      | some v =>
        -- a recorded update is pending in the specification: it differs from the dataplane value
        have hp : pendU eqv (some v, a) = true := by
          cases a with
          | none => rfl
          | some w => simp [pendU, h3 v w rfl rfl]
        cases a <;> simp [uIterAt, applyUpdAt, sUIter, P.abs, P.des, P.dp, P.Inv, hp]

def xIterAt (upd : Bool) (p : P V) : P V := if upd then applyDelAt p else p

theorem xIterAt_ok (eqv : V → V → Bool) (upd : Bool) (p : P V) (h : p.Inv eqv) :
    (xIterAt upd p).Inv eqv ∧ (xIterAt upd p).abs = sXIter upd p.abs := by
  cases upd with
  | false => exact ⟨h, rfl⟩
  | true =>
    rcases h.cases with ⟨w, rfl⟩ | ⟨hb, -⟩
    · simp [xIterAt, applyDelAt, sXIter, pendX, P.abs, P.des, P.dp, P.Inv]
    · obtain ⟨a, b, c⟩ := p
      subst hb
      exact ⟨h, by cases a <;> cases c <;> rfl⟩

/-- `ReplaceAllIter` at one key; `item` = what the iterator yields for this key. -/
def replAt (eqv : V → V → Bool) (fail : Bool) (p : P V) (item : Option V) : P V :=
  match item with
  | some v =>
    (match p.des with
     | some dv => ⟨some v, none, if eqv dv v then none else some dv⟩
     | none => ⟨none, some v, p.c⟩)
  | none =>
    if fail then p
    else ⟨none, none, match p.a with
      | some w => (match p.c with
        | some x => some x
        | none => some w)
      | none => p.c⟩

theorem replAt_some (eqv : V → V → Bool) (fail : Bool) (p : P V) (v : V) (h : p.Inv eqv) :
    replAt eqv fail p (some v) = pSetAt eqv p v := by
  have key : ∀ dv, (⟨some v, none, if eqv dv v then none else some dv⟩ : P V) =
      ⟨some v, none, if !eqv dv v then some dv else none⟩ := fun dv => by cases eqv dv v <;> rfl
  rcases h.cases with ⟨w, rfl⟩ | ⟨hb, -⟩
  · rfl
  · obtain ⟨a, b, c⟩ := p
    subst hb
    cases a <;> cases c <;> first | rfl | exact key _

theorem replAt_none (eqv : V → V → Bool) (p : P V) : replAt eqv false p none = pDelAt p := by
  obtain ⟨a, b, c⟩ := p; cases a <;> cases c <;> rfl

theorem sRepl_some (eqv : V → V → Bool) (fail : Bool) (s : S1 V) (v : V) :
    sRepl eqv fail s (some v) = sPSet eqv s v := by
  obtain ⟨d, q⟩ := s; cases d <;> rfl

theorem sRepl_none (eqv : V → V → Bool) (fail : Bool) (s : S1 V) :
    sRepl eqv fail s none = if fail then s else sPDel s := by
  obtain ⟨d, q⟩ := s; cases d <;> cases fail <;> rfl

theorem replAt_ok (eqv : V → V → Bool) (fail : Bool) (p : P V) (item : Option V) (h : p.Inv eqv) :
    (replAt eqv fail p item).Inv eqv ∧ (replAt eqv fail p item).abs = sRepl eqv fail p.abs item := by
  cases item with
  | some v => rw [replAt_some eqv fail p v h, sRepl_some]; exact pSetAt_ok eqv p v h
  | none =>
    rw [sRepl_none]
    cases fail
    · rw [replAt_none]; exact pDelAt_ok eqv p h
    · exact ⟨h, rfl⟩

theorem proj_uIter (t : Tracker K V) (ord : List (K × V)) (act : K → Act)
    (hp : ord.Perm t.du) (hn : NodupKeys t.du) (k' : K) :
    proj (uIter t ord act) k' = uIterAt (decide (act k' = .update)) (proj t k') := by
  unfold uIter
  rw [Assoc.fold_local _ (fun kv : K × V => kv.1) proj
    (fun p kv => match act kv.1 with
      | .update => applyUpdAt p kv.2
      | .noop => p
      | .stop => p)]
  · -- the visiting order lists every pending update once
    have hno : NodupKeys ord := (hp.map _).nodup_iff.2 hn
    rw [filter_key ord hno k', perm_get ord t.du hp hn k']
    show _ = match get t.du k' with
      | some v => if decide (act k' = Act.update) then applyUpdAt (proj t k') v else proj t k'
      | none => proj t k'
    cases get t.du k' with
    | none => rfl
    | some v => cases h : act k' <;> simp [h]
  · intro s x k''
    cases h : act x.1 <;> simp only [proj_applyUpd] <;> split <;> simp_all

theorem proj_xIter (t : Tracker K V) (ord : List K) (act : K → Act)
    (hm : ∀ k, k ∈ ord ↔ k ∈ keys t.dn) (k' : K) :
    proj (xIter t ord act) k' = xIterAt (decide (act k' = .update)) (proj t k') := by
  unfold xIter
  rw [Assoc.fold_local_idem _ proj (fun k p => xIterAt (decide (act k = .update)) p)]
  · -- a key that is not visited is not pending deletion: deleting it changes nothing
    split
    · rfl
    · rename_i hk
      have hb : (proj t k').b = none := (get_eq_none_iff t.dn k').2 (fun h => hk ((hm k').2 h))
      unfold xIterAt applyDelAt
      split
      · rw [← hb]
      · rfl
  · intro k q; unfold xIterAt applyDelAt; split <;> rfl
  · intro s x k''
    cases h : act x <;> simp only [proj_applyDel] <;> split <;> simp_all [xIterAt]

theorem proj_fold_dDel (t : Tracker K V) (ks : List K) (k' : K) :
    proj (ks.foldl dDel t) k' = if k' ∈ ks then dDelAt (proj t k') else proj t k' :=
  Assoc.fold_local_idem dDel proj (fun _ p => dDelAt p) (fun _ _ => rfl) (fun s x k'' => proj_dDel s x k'') ks t k'

theorem mem_keys_iff (m : GoMap K V) (k : K) : k ∈ keys m ↔ (get m k).isSome = true := by
  rw [get_eq]; exact (Assoc.get_isSome_iff m k).symm

/-- `DeleteAll` visits the pending updates and then the in-dataplane-and-desired keys without
one: together every key with a desired value; at the others `Delete` changes nothing. -/
theorem proj_dDelAll (t : Tracker K V) (k' : K) :
    proj (dDelAll t) k' = dDelAt (proj t k') := by
  unfold dDelAll
  have h1 := proj_fold_dDel t (keys t.du) k'
  rw [proj_fold_dDel]
  generalize (keys t.du).foldl dDel t = t1 at h1 ⊢
  have hm : k' ∈ (keys t1.dd).filter (fun k => (get t1.du k).isNone) ↔
      (proj t1 k').a.isSome = true ∧ (proj t1 k').c.isNone = true := by
    rw [List.mem_filter, mem_keys_iff]; rfl
  have hc : k' ∈ keys t.du ↔ (proj t k').c.isSome = true := mem_keys_iff t.du k'
  simp only [hm, h1, hc]
  generalize proj t k' = p
  obtain ⟨a, b, c⟩ := p
  cases a <;> cases c <;> rfl

structure Q (V : Type) where
  du : Option V
  oldD : Option V
  oldN : Option V
  newD : Option V
  newN : Option V

def projR (r : RState K V) (k : K) : Q V :=
  ⟨get r.du k, get r.oldD k, get r.oldN k, get r.newD k, get r.newN k⟩

/-- One visit of `ReplaceAllIter`'s closure, at the visited key. -/
def replVisitAt (eqv : V → V → Bool) (q : Q V) (v : V) : Q V :=
  match (match q.du with
    | some x => some x
    | none => q.oldD) with
  | some dv => ⟨if eqv dv v then none else some dv, none, none, some v, q.newN⟩
  | none => ⟨q.du, none, none, q.newD, some v⟩

theorem projR_visit (eqv : V → V → Bool) (r : RState K V) (kv : K × V) (k' : K) :
    projR (replVisit eqv r kv) k' = if kv.1 = k' then replVisitAt eqv (projR r k') kv.2 else projR r k' := by
  by_cases hk : kv.1 = k'
  · subst hk
    cases h1 : get r.du kv.1 <;> cases h2 : get r.oldD kv.1 <;>
      simp only [replVisit, replVisitAt, projR, h1, h2, if_true] <;> (try split) <;>
      simp [get_set, get_del, *]
  · cases h1 : get r.du kv.1 <;> cases h2 : get r.oldD kv.1 <;>
      simp only [replVisit, h1, h2, hk, if_false] <;> (try split) <;>
      simp only [projR, get_set, get_del, hk, if_false]

/-- What `ReplaceAllIter` assembles from the loop state, at one key. -/
def replEndAt (fail : Bool) (q : Q V) : P V :=
  if fail then
    ⟨(match q.newD with
      | some x => some x
      | none => q.oldD),
     (match q.newN with
      | some x => some x
      | none => q.oldN), q.du⟩
  else
    ⟨q.newD, q.newN, match q.oldD with
      | some w => (match q.du with
        | some x => some x
        | none => some w)
      | none => q.du⟩

theorem replEndAt_visit (eqv : V → V → Bool) (fail : Bool) (p : P V) (item : Option V) :
    replEndAt fail (match item with
      | some v => replVisitAt eqv ⟨p.c, p.a, p.b, none, none⟩ v
      | none => ⟨p.c, p.a, p.b, none, none⟩) = replAt eqv fail p item := by
  obtain ⟨a, b, c⟩ := p
  cases item <;> cases c <;> cases a <;> cases fail <;> rfl

theorem get_copyInto (dst src : GoMap K V) (h : NodupKeys src) (k : K) :
    get (copyInto dst src) k = match get src k with
      | some x => some x
      | none => get dst k := by
  rw [get_eq, get_eq, get_eq]
  exact (Assoc.get_foldl_set_of_nodup h dst k).trans (by cases Assoc.get src k <;> rfl)

theorem get_replMissing (du : GoMap K V) (kw : K × V) (k : K) :
    get (replMissing du kw) k = if kw.1 = k then (match get du k with
      | some x => some x
      | none => some kw.2) else get du k := by
  unfold replMissing
  by_cases hk : kw.1 = k
  · subst hk; cases h : get du kw.1 <;> simp only [get_set, if_true]
  · cases h : get du kw.1 <;> simp only [get_set, hk, if_false]

theorem get_fold_replMissing (m du : GoMap K V) (k : K) :
    get (m.foldl replMissing du) k = match get m k with
      | some w => (match get du k with
        | some x => some x
        | none => some w)
      | none => get du k := by
  induction m generalizing du with
  | nil => rfl
  | cons p r ih =>
    obtain ⟨a, b⟩ := p
    rw [List.foldl_cons, ih, get_replMissing]
    by_cases hak : a = k
    · subst hak
      cases h2 : get du a <;> cases h3 : get r a <;> simp [get]
    · simp [get, hak]

structure RWF (r : RState K V) : Prop where
  du : NodupKeys r.du
  oldD : NodupKeys r.oldD
  oldN : NodupKeys r.oldN
  newD : NodupKeys r.newD
  newN : NodupKeys r.newN

theorem rwf_visit (eqv : V → V → Bool) (r : RState K V) (kv : K × V) (h : RWF r) : RWF (replVisit eqv r kv) := by
  obtain ⟨b1, b2, b3, b4, b5⟩ := h
  unfold replVisit
  dsimp only
  split
  · split
    · exact ⟨nodupKeys_del _ _ b1, nodupKeys_del _ _ b2, nodupKeys_del _ _ b3, nodupKeys_set _ _ _ b4, b5⟩
    · exact ⟨nodupKeys_set _ _ _ b1, nodupKeys_del _ _ b2, nodupKeys_del _ _ b3, nodupKeys_set _ _ _ b4, b5⟩
  · exact ⟨b1, nodupKeys_del _ _ b2, nodupKeys_del _ _ b3, b4, nodupKeys_set _ _ _ b5⟩

omit [DecidableEq K] in
theorem WF3.dd {t : Tracker K V} (h : WF3 t) : NodupKeys t.dd := h.1
omit [DecidableEq K] in
theorem WF3.dn {t : Tracker K V} (h : WF3 t) : NodupKeys t.dn := h.2.1
omit [DecidableEq K] in
theorem WF3.du {t : Tracker K V} (h : WF3 t) : NodupKeys t.du := h.2.2

theorem rwf_fold (eqv : V → V → Bool) (t : Tracker K V) (items : List (K × V)) (h : WF3 t) :
    RWF (items.foldl (replVisit eqv) { du := t.du, oldD := t.dd, oldN := t.dn, newD := [], newN := [] }) :=
  List.foldlRecOn (motive := RWF) _ _ ⟨h.2.2, h.1, h.2.1, nodupKeys_nil, nodupKeys_nil⟩ fun r hr kv _ => rwf_visit eqv r kv hr

theorem proj_repl (eqv : V → V → Bool) (t : Tracker K V) (items : List (K × V)) (fail : Bool)
    (hw : WF3 t) (hn : NodupKeys items) (k' : K) :
    proj (replaceAllIter eqv t items fail).1 k' = replAt eqv fail (proj t k') (get items k') := by
  have hq := Assoc.fold_local (replVisit eqv) (fun kv : K × V => kv.1) projR (fun q kv => replVisitAt eqv q kv.2)
    (projR_visit eqv) items { du := t.du, oldD := t.dd, oldN := t.dn, newD := [], newN := [] } k'
  have hwf := rwf_fold eqv t items hw
  rw [filter_key items hn k'] at hq
  rw [← replEndAt_visit]
  unfold replaceAllIter
  generalize items.foldl (replVisit eqv) { du := t.du, oldD := t.dd, oldN := t.dn, newD := [], newN := [] } = r at hq hwf
  have hend : ∀ q, projR r k' = q → proj (if fail = true then
        ({ t with du := r.du, dd := copyInto r.oldD r.newD, dn := copyInto r.oldN r.newN }, true)
      else ({ t with du := r.oldD.foldl replMissing r.du, dd := r.newD, dn := r.newN }, false)).1 k' =
        replEndAt fail q := by
    rintro q rfl
    cases fail
    · simp only [Bool.false_eq_true, if_false, proj, get_fold_replMissing]; rfl
    · simp only [if_true, proj, get_copyInto _ _ hwf.newD, get_copyInto _ _ hwf.newN]; rfl
  apply hend
  rw [hq]
  cases get items k' <;> rfl

omit [DecidableEq K] in
theorem scan_spec {α : Type} (key : α → K) (F : K → Bool) (n : Nat) (buf : List α) :
    (scan key F n buf).1 ++ (scan key F n buf).2.filter (fun x => !F (key x)) = buf.filter (fun x => !F (key x)) ∧
    ((0 < n ∧ buf ≠ []) → (scan key F n buf).2.length < buf.length) ∧
    (scan key F n buf).2.length ≤ buf.length := by
  induction buf generalizing n with
  | nil => cases n <;> simp [scan]
  | cons x r ih =>
    cases n with
    | zero => simp [scan]
    | succ n =>
      simp only [scan]
      by_cases hF : F (key x) = true
      · simp [hF, List.filter]
      · have hF' : F (key x) = false := by simpa using hF
        have := ih n
        simp only [hF', Bool.false_eq_true, if_false, List.filter, Bool.not_false]
        refine ⟨by simpa using this.1, fun _ => ?_, ?_⟩
        · simp; omega
        · simp; omega

omit [DecidableEq K] in
theorem batchCall_spec {α : Type} (key : α → K) (F : K → Bool) (c : Nat) (buf : List α) :
    (batchCall key F c buf).2 ++ (batchCall key F c buf).1.filter (fun x => !F (key x)) =
      buf.filter (fun x => !F (key x)) ∧
    (buf ≠ [] → (batchCall key F c buf).1.length < buf.length) := by
  unfold batchCall
  have := scan_spec key F (if c = 0 then buf.length else c) buf
  refine ⟨this.1, fun hne => this.2.1 ⟨?_, hne⟩⟩
  split
  · cases buf with
    | nil => exact absurd rfl hne
    | cons => simp
  · omega

omit [DecidableEq K] in
theorem batchLoop_spec {α : Type} (key : α → K) (B : Nat) (F : K → Bool) (c : Nat)
    (rest buf done : List α) :
    (batchLoop key B F c rest buf done).2 ++ (batchLoop key B F c rest buf done).1.filter (fun x => !F (key x)) =
      done ++ buf.filter (fun x => !F (key x)) ++ rest.filter (fun x => !F (key x)) := by
  induction rest generalizing buf done with
  | nil => simp [batchLoop]
  | cons x r ih =>
    simp only [batchLoop]
    split
    · have := (batchCall_spec key F c (buf ++ [x])).1
      rw [ih]
      simp only [List.append_assoc]
      rw [← List.append_assoc (batchCall key F c (buf ++ [x])).2, this]
      simp [List.filter_append, List.filter]
      cases F (key x) <;> simp
    · rw [ih]
      simp [List.filter_append, List.filter]
      cases F (key x) <;> simp

omit [DecidableEq K] in
theorem batchTail_spec {α : Type} (key : α → K) (F : K → Bool) (c : Nat) (fuel : Nat) (buf done : List α)
    (h : buf.length ≤ fuel) :
    batchTail key F c fuel buf done = done ++ buf.filter (fun x => !F (key x)) := by
  induction fuel generalizing buf done with
  | zero =>
    have : buf = [] := List.eq_nil_of_length_eq_zero (by omega)
    simp [batchTail, this]
  | succ n ih =>
    simp only [batchTail]
    by_cases he : buf = []
    · simp [he]
    · have hs := batchCall_spec key F c buf
      simp only [List.isEmpty_iff, he, if_false]
      rw [ih _ _ (by have := hs.2 he; omega), List.append_assoc, hs.1]

omit [DecidableEq K] in
theorem batchedApplied_eq {α : Type} (key : α → K) (B : Nat) (F : K → Bool) (c : Nat) (ord : List α) :
    batchedApplied key B F c ord = ord.filter (fun x => !F (key x)) := by
  unfold batchedApplied
  have h := batchLoop_spec key B F c ord [] []
  generalize batchLoop key B F c ord [] [] = pr at h
  obtain ⟨buf, done⟩ := pr
  simp only at h ⊢
  rw [batchTail_spec key F c _ _ _ (Nat.le_refl _), h]
  simp

theorem uBatched_eq_uIter (t : Tracker K V) (B : Nat) (F : K → Bool) (c : Nat) (ord : List (K × V)) :
    uBatched t B F c ord = uIter t ord (batchAct F) := by
  unfold uBatched uIter batchAct
  rw [batchedApplied_eq, List.foldl_filter]
  congr 1
  funext q x
  cases F x.1 <;> simp

theorem xBatched_eq_xIter (t : Tracker K V) (B : Nat) (F : K → Bool) (c : Nat) (ord : List K) :
    xBatched t B F c ord = xIter t ord (batchAct F) := by
  unfold xBatched xIter batchAct
  rw [batchedApplied_eq, List.foldl_filter]
  congr 1
  funext q x
  cases F x <;> simp

theorem wf3_dSet (eqv : V → V → Bool) (t : Tracker K V) (k : K) (v : V) (h : WF3 t) : WF3 (dSet eqv t k v) := by
  obtain ⟨h1, h2, h3⟩ := h
  have a1 := fun c => nodupKeys_set t.dd k c h1
  have a2 := nodupKeys_del t.dn k h2
  have a3 := nodupKeys_set t.du k v h3
  have a4 := nodupKeys_del t.du k h3
  unfold dSet WF3
  split
  · dsimp only; split <;> exact ⟨a1 _, a2, by assumption⟩
  · split
    · split <;> exact ⟨h1, h2, by assumption⟩
    · dsimp only; split <;> exact ⟨h1, h2, a3⟩

theorem wf3_dDel (t : Tracker K V) (k : K) (h : WF3 t) : WF3 (dDel t k) := by
  obtain ⟨h1, h2, h3⟩ := h
  have a1 := nodupKeys_del t.dd k h1
  have a2 := fun c => nodupKeys_set t.dn k c h2
  have a4 := nodupKeys_del t.du k h3
  unfold WF3
  cases e1 : get t.du k <;> cases e2 : get t.dd k <;> simp [dDel, e1, e2] <;>
    first | exact ⟨h1, h2, h3⟩ | exact ⟨a1, a2 _, h3⟩ | exact ⟨h1, h2, a4⟩ | exact ⟨a1, a2 _, a4⟩

theorem wf3_pSet (eqv : V → V → Bool) (t : Tracker K V) (k : K) (v : V) (h : WF3 t) : WF3 (pSet eqv t k v) := by
  obtain ⟨h1, h2, h3⟩ := h
  unfold pSet WF3
  split
  · rename_i dv _
    dsimp only
    split
    · exact ⟨nodupKeys_set _ _ _ h1, h2, nodupKeys_set _ _ _ h3⟩
    · exact ⟨nodupKeys_set _ _ _ h1, h2, nodupKeys_del _ _ h3⟩
  · exact ⟨h1, nodupKeys_set _ _ _ h2, h3⟩

theorem wf3_pDel (t : Tracker K V) (k : K) (h : WF3 t) : WF3 (pDel t k) := by
  obtain ⟨h1, h2, h3⟩ := h
  unfold pDel WF3
  dsimp only
  split
  · exact ⟨nodupKeys_del _ _ h1, nodupKeys_del _ _ h2, nodupKeys_set _ _ _ h3⟩
  · exact ⟨nodupKeys_del _ _ h1, nodupKeys_del _ _ h2, h3⟩

theorem nodupKeys_copyInto (dst src : GoMap K V) (h : NodupKeys dst) : NodupKeys (copyInto dst src) :=
  List.foldlRecOn (motive := NodupKeys) _ _ h fun _ hs _ _ => nodupKeys_set _ _ _ hs

theorem wf3_repl (eqv : V → V → Bool) (t : Tracker K V) (items : List (K × V)) (fail : Bool) (h : WF3 t) :
    WF3 (replaceAllIter eqv t items fail).1 := by
  obtain ⟨b1, b2, b3, b4, b5⟩ := rwf_fold eqv t items h
  unfold replaceAllIter WF3
  dsimp only
  split
  · exact ⟨nodupKeys_copyInto _ _ b2, nodupKeys_copyInto _ _ b3, b1⟩
  · refine ⟨b4, b5, List.foldlRecOn (motive := NodupKeys) _ _ b1 fun s hs x _ => ?_⟩
    unfold replMissing
    split <;> exact nodupKeys_set _ _ _ hs

theorem wf3_uIter (t : Tracker K V) (ord : List (K × V)) (act : K → Act) (h : WF3 t) : WF3 (uIter t ord act) := by
  unfold uIter
  refine List.foldlRecOn (motive := WF3) _ _ h fun s ⟨b1, b2, b3⟩ x _ => ?_
  split
  · exact ⟨nodupKeys_set _ _ _ b1, b2, nodupKeys_del _ _ b3⟩
  · exact ⟨b1, b2, b3⟩
  · exact ⟨b1, b2, b3⟩

theorem wf3_xIter (t : Tracker K V) (ord : List K) (act : K → Act) (h : WF3 t) : WF3 (xIter t ord act) := by
  unfold xIter
  refine List.foldlRecOn (motive := WF3) _ _ h fun s ⟨b1, b2, b3⟩ x _ => ?_
  split
  · exact ⟨b1, nodupKeys_del _ _ b2, b3⟩
  · exact ⟨b1, b2, b3⟩
  · exact ⟨b1, b2, b3⟩

theorem dDelAll_ind {Pr : Tracker K V → Prop} (h : ∀ s k, Pr s → Pr (dDel s k)) (t : Tracker K V) (ht : Pr t) :
    Pr (dDelAll t) := by
  unfold dDelAll
  exact List.foldlRecOn (motive := Pr) _ _
    (List.foldlRecOn (motive := Pr) _ _ ht fun s hs x _ => h s x hs) fun s hs x _ => h s x hs

theorem wf3_step (eqv : V → V → Bool) (t : Tracker K V) (op : Op K V) (h : WF3 t) : WF3 (step eqv t op) := by
  cases op with
  | dSet k v => exact wf3_dSet eqv t k v h
  | dDel k => exact wf3_dDel t k h
  | dDelAll =>
    exact dDelAll_ind wf3_dDel t h
  | pSet k v => exact wf3_pSet eqv t k v h
  | pDel k => exact wf3_pDel t k h
  | repl items fail => exact wf3_repl eqv t items fail h
  | uIter act => exact wf3_uIter t t.du act h
  | xIter act => exact wf3_xIter t (keys t.dn) act h
  | uBatched F c =>
    show WF3 (uBatched t batchSize F c t.du)
    rw [uBatched_eq_uIter]; exact wf3_uIter t t.du _ h
  | xBatched F c =>
    show WF3 (xBatched t batchSize F c (keys t.dn))
    rw [xBatched_eq_xIter]; exact wf3_xIter t (keys t.dn) _ h

/-! `step_at`: the one lemma that ties every operation to its specification at one key (`specAt`) and keeps the
partition invariant (`Inv`); it is put together from the per-operation lemmas `dSetAt_ok … replAt_ok` above. -/

omit [DecidableEq K] in
theorem batchAct_update (F : K → Bool) (k : K) : decide (batchAct F k = Act.update) = !F k := by
  unfold batchAct; cases F k <;> simp

theorem step_at (eqv : V → V → Bool) (hs : Sym eqv) (hr : Refl eqv) (t : Tracker K V) (op : Op K V)
    (hi : Inv eqv t) (hw : WF3 t) (hop : op.WF) (k' : K) :
    (proj (step eqv t op) k').Inv eqv ∧
    (proj (step eqv t op) k').abs = specAt eqv op k' (proj t k').abs := by
  have hk := hi k'
  cases op with
  | dSet k v =>
    simp only [step, specAt, proj_dSet]
    split
    · exact dSetAt_ok eqv hs _ v hk
    · exact ⟨hk, rfl⟩
  | dDel k =>
    simp only [step, specAt, proj_dDel]
    split
    · exact dDelAt_ok eqv _ hk
    · exact ⟨hk, rfl⟩
  | dDelAll =>
    simp only [step, specAt, proj_dDelAll]
    exact dDelAt_ok eqv _ hk
  | pSet k v =>
    simp only [step, specAt, proj_pSet]
    split
    · exact pSetAt_ok eqv _ v hk
    · exact ⟨hk, rfl⟩
  | pDel k =>
    simp only [step, specAt, proj_pDel]
    split
    · exact pDelAt_ok eqv _ hk
    · exact ⟨hk, rfl⟩
  | repl items fail =>
    simp only [step, specAt, proj_repl eqv t items fail hw hop]
    exact replAt_ok eqv fail _ _ hk
  | uIter act =>
    simp only [step, specAt, proj_uIter t t.du act (List.Perm.refl _) hw.du]
    exact uIterAt_ok eqv hr _ _ hk
  | xIter act =>
    simp only [step, specAt, proj_xIter t (keys t.dn) act (fun _ => Iff.rfl)]
    exact xIterAt_ok eqv _ _ hk
  | uBatched F c =>
    simp only [step, specAt, uBatched_eq_uIter, proj_uIter t t.du _ (List.Perm.refl _) hw.du, batchAct_update]
    exact uIterAt_ok eqv hr _ _ hk
  | xBatched F c =>
    simp only [step, specAt, xBatched_eq_xIter, proj_xIter t (keys t.dn) _ (fun _ => Iff.rfl), batchAct_update]
    exact xIterAt_ok eqv _ _ hk

theorem step_keeps (eqv : V → V → Bool) (hs : Sym eqv) (hr : Refl eqv) (t : Tracker K V) (op : Op K V)
    (hi : Inv eqv t) (hw : WF3 t) (hop : op.WF) : Inv eqv (step eqv t op) ∧ WF3 (step eqv t op) :=
  ⟨fun k => (step_at eqv hs hr t op hi hw hop k).1, wf3_step eqv t op hw⟩

theorem abs_step (eqv : V → V → Bool) (hs : Sym eqv) (hr : Refl eqv) (t : Tracker K V) (op : Op K V)
    (hi : Inv eqv t) (hw : WF3 t) (hop : op.WF) (k : K) :
    (desiredGet (step eqv t op) k, dataplaneGet (step eqv t op) k) =
      specAt eqv op k (desiredGet t k, dataplaneGet t k) :=
  (step_at eqv hs hr t op hi hw hop k).2

theorem desiredGet_step (eqv : V → V → Bool) (hs : Sym eqv) (hr : Refl eqv) (t : Tracker K V) (op : Op K V)
    (hi : Inv eqv t) (hw : WF3 t) (hop : op.WF) (k : K) :
    desiredGet (step eqv t op) k = (specAt eqv op k (desiredGet t k, dataplaneGet t k)).1 :=
  congrArg Prod.fst (abs_step eqv hs hr t op hi hw hop k)

/-- Induction over histories: the invariants hold after every history, and so does any `J` (of the history so
far and the tracker) that holds at the start and that every operation keeps under them. -/
theorem run_ind {J : List (Op K V) → Tracker K V → Prop} (eqv : V → V → Bool) (hs : Sym eqv) (hr : Refl eqv)
    (ops : List (Op K V)) (hw : ∀ op ∈ ops, op.WF) (h0 : J [] Tracker.new)
    (hstep : ∀ pre t op, op ∈ ops → Inv eqv t → WF3 t → J pre t → J (pre ++ [op]) (step eqv t op)) :
    Inv eqv (run eqv ops) ∧ WF3 (run eqv ops) ∧ J ops (run eqv ops) := by
  have key : ∀ (rest pre : List (Op K V)) (t : Tracker K V), pre ++ rest = ops → Inv eqv t → WF3 t → J pre t →
      Inv eqv (rest.foldl (step eqv) t) ∧ WF3 (rest.foldl (step eqv) t) ∧ J ops (rest.foldl (step eqv) t) := by
    intro rest
    induction rest with
    | nil => intro pre t e hi hn hj; rw [List.append_nil] at e; exact ⟨hi, hn, e ▸ hj⟩
    | cons op r ih =>
      intro pre t e hi hn hj
      have hm : op ∈ ops := e ▸ List.mem_append_right _ List.mem_cons_self
      have hk := step_keeps eqv hs hr t op hi hn (hw op hm)
      exact ih (pre ++ [op]) _ (by rw [List.append_assoc]; exact e) hk.1 hk.2 (hstep pre t op hm hi hn hj)
  exact key ops [] Tracker.new rfl (fun k => by simp [proj, Tracker.new, P.Inv])
    ⟨nodupKeys_nil, nodupKeys_nil, nodupKeys_nil⟩ h0

theorem dlen_dDel (t : Tracker K V) (k : K) :
    (dDel t k).dlen = t.dlen - (if (desiredGet t k).isSome then 1 else 0) := by
  unfold desiredGet
  cases h2 : get t.dd k <;> cases h3 : get t.du k <;> simp [dDel, h2, h3]

theorem dlen_dSet (eqv : V → V → Bool) (t : Tracker K V) (hi : Inv eqv t) (k : K) (v : V) :
    (dSet eqv t k v).dlen = t.dlen + (if (desiredGet t k).isSome then 0 else 1) := by
  rw [desiredGet_eq]
  rcases (hi k).cases with ⟨w, hw⟩ | ⟨hb, -⟩
  · -- pending deletion: `Set` moves the key over and counts it
    have h1 : get t.dn k = some w := congrArg P.b hw
    rw [hw]; simp only [dSet, h1]; split <;> rfl
  · have h1 : get t.dn k = none := hb
    cases h2 : get t.dd k <;> cases h3 : get t.du k <;>
      simp [dSet, proj, P.des, h1, h2, h3] <;> split <;> rfl

theorem dlen_pSet (eqv : V → V → Bool) (t : Tracker K V) (k : K) (v : V) : (pSet eqv t k v).dlen = t.dlen := by
  unfold pSet; split
  · dsimp only; split <;> rfl
  · rfl
theorem dlen_pDel (t : Tracker K V) (k : K) : (pDel t k).dlen = t.dlen := by
  unfold pDel; dsimp only; split <;> rfl
theorem dlen_repl (eqv : V → V → Bool) (t : Tracker K V) (items : List (K × V)) (fail : Bool) :
    (replaceAllIter eqv t items fail).1.dlen = t.dlen := by
  unfold replaceAllIter; dsimp only; split <;> rfl
theorem dlen_uIter (t : Tracker K V) (ord : List (K × V)) (act : K → Act) : (uIter t ord act).dlen = t.dlen :=
  List.foldlRecOn (motive := fun s : Tracker K V => s.dlen = t.dlen) _ _ rfl fun s hs x _ => by split <;> exact hs
theorem dlen_xIter (t : Tracker K V) (ord : List K) (act : K → Act) : (xIter t ord act).dlen = t.dlen :=
  List.foldlRecOn (motive := fun s : Tracker K V => s.dlen = t.dlen) _ _ rfl fun s hs x _ => by split <;> exact hs

end CalicoVerif.C18
