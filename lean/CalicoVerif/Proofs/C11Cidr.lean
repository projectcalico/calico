import CalicoVerif.Proofs.C11Comp
import CalicoVerif.Proofs.C11Bits
/-!
C11 — guards for the CIDR fragments of `writeCIDRSMatch`.  A test is a run of 32-bit sections, each
masked and compared in memory byte order (`sec3`), with an early exit to the per-CIDR end label; IPv6
has up to four sections, IPv4 is the case of one.
-/
namespace CalicoVerif.C11

theorem sext_toInt32 (x : BitVec 32) : (sext32 x.toInt).setWidth 32 = x := by
  rw [sext32_setWidth, BitVec.ofInt_toInt]

theorem pkt_addr_head (st : List Byte) (leg : Leg) :
    ((pktOfD st).addr leg).headD 0 = BitVec.ofNat 32 (fieldN st leg.ipo 4) := by
  cases leg <;> rfl

theorem cidr_test_iff (w m addr : BitVec 32) :
    ((rev32bv m &&& w) == rev32bv (addr &&& m)) = (rev32bv w &&& m == addr &&& m) := by
  rw [Bool.eq_iff_iff]
  simp only [beq_iff_eq]
  constructor
  · intro h
    have := congrArg rev32bv h
    rw [rev32bv_and, rev32bv_rev32bv, rev32bv_rev32bv] at this
    rw [BitVec.and_comm]; exact this
  · intro h
    have := congrArg rev32bv h
    rw [rev32bv_and] at this
    rw [← this, rev32bv_rev32bv, BitVec.and_comm]

/-- What the section test decides about the word at `off`. -/
def secHit (st : List Byte) (off : Nat) (M A : BitVec 32) : Bool :=
  rev32bv (BitVec.ofNat 32 (fieldN st off 4)) &&& M == A &&& M

theorem line_sec3 {env : Env} {st : List Byte} (v : View) (off : Nat) (hoff : off + 4 ≤ 512)
    (hstab : ∀ j, off ≤ j → j < off + 4 → Stable j) (M A : BitVec 32) :
    ∃ v' x, Line env st v (sec3 off M) v' ∧ v'.reg 2 = some x ∧
      (x.setWidth 32 == (sext32 (rev32bv (A &&& M)).toInt).setWidth 32) = secHit st off M A := by
  refine ⟨_, _, (Line.ldxField opLoadReg32 1 off 4 LdOp.w (by omega) hoff hstab).cons <|
    (Line.movImm32 2 _ (by omega)).cons <| Line.and32 2 1 (by omega) rfl rfl, rfl, ?_⟩
  rw [sext_toInt32, sext_toInt32, setWidth_64_32, setWidth_64_32]
  have hw : (BitVec.ofNat 64 (fieldN st off 4)).setWidth 32 = BitVec.ofNat 32 (fieldN st off 4) := by
    apply BitVec.eq_of_toNat_eq; simp only [BitVec.toNat_setWidth, BitVec.toNat_ofNat]; omega
  rw [hw, secHit, cidr_test_iff]

/-- `sec3` followed by jumps on R2: what the jumps do, given the outcome `c` of the comparison. -/
theorem decides_sec3_then {env : Env} {st : List Byte} (off : Nat) (hoff : off + 4 ≤ 512)
    (hstab : ∀ j, off ≤ j → j < off + 4 → Stable j) (M A : BitVec 32) {J : List Ev} (t : Bool → Option Label)
    (hJ : ∀ (v : View) (x : Word) (c : Bool), v.reg 2 = some x →
      cond (opJumpEqImm32 / 16) (x.setWidth 32) ((sext32 (rev32bv (A &&& M)).toInt).setWidth 32) = some c →
      cond (opJumpNEImm32 / 16) (x.setWidth 32) ((sext32 (rev32bv (A &&& M)).toInt).setWidth 32) = some (!c) →
      Exits env (Sees st v) J (t c) (Sees st v)) :
    Decides env st (sec3 off M ++ J) (t (secHit st off M A)) :=
  Decides.of_view fun m _ =>
    let ⟨v, x, hL, hx, hc⟩ := line_sec3 (View.ofInv m) off hoff hstab M A
    Exits.seq hL (fun _ => (hJ v x _ hx (by simp only [cond, opJumpEqImm32]; rw [hc])
      (by simp only [cond, opJumpNEImm32, bne]; rw [hc])).toInv) fun _ e => nomatch e

theorem guard_secNE (env : Env) (st : List Byte) (off : Nat) (hoff : off + 4 ≤ 512)
    (hstab : ∀ j, off ≤ j → j < off + 4 → Stable j) (M A : BitVec 32) (E : Label) :
    Guard env st E (sec3 off M ++ [jumpNEImm32 R2 (rev32bv (A &&& M)).toInt E]) (secHit st off M A) :=
  guard_iff.2 (decides_sec3_then off hoff hstab M A (fun c => if c then none else some E) fun _ _ c hx _ hne =>
    (Exits.jcondV32 opJumpNEImm32 2 _ E JOp32.ne hx hne).congr (by cases c <;> rfl))

theorem decides_fin3 (env : Env) (st : List Byte) (off : Nat) (hoff : off + 4 ≤ 512)
    (hstab : ∀ j, off ≤ j → j < off + 4 → Stable j) (M A : BitVec 32) (P : Label) :
    Decides env st (sec3 off M ++ [jumpEqImm32 R2 (rev32bv (A &&& M)).toInt P])
      (if secHit st off M A then some P else none) :=
  decides_sec3_then off hoff hstab M A (fun c => if c then some P else none) fun _ _ _ hx heq _ =>
    Exits.jcondV32 opJumpEqImm32 2 _ P JOp32.eq hx heq

/-- The final section when it is an earlier one: the early exit, then the (now certain) jump to `P`. -/
theorem decides_finNE (env : Env) (st : List Byte) (off : Nat) (hoff : off + 4 ≤ 512)
    (hstab : ∀ j, off ≤ j → j < off + 4 → Stable j) (M A : BitVec 32) (P E : Label) :
    Decides env st (sec3 off M ++ [jumpNEImm32 R2 (rev32bv (A &&& M)).toInt E,
        jumpEqImm32 R2 (rev32bv (A &&& M)).toInt P])
      (if secHit st off M A then some P else some E) :=
  decides_sec3_then off hoff hstab M A (fun c => if c then some P else some E) fun _ _ c hx heq hne =>
    ((Exits.jcondV32 opJumpNEImm32 2 _ E JOp32.ne hx hne).seq
      (fun _ => Exits.jcondV32 opJumpEqImm32 2 _ P JOp32.eq hx heq)
      fun _ _ => ⟨List.not_mem_nil, fun _ h => h⟩).congr (by cases c <;> rfl)

theorem decides_cidrV4 (env : Env) (st : List Byte) (P : Label) (leg : Leg) (n : Net) :
    Decides env st (cidrV4 leg P n)
      (if netContains4 ((pktOfD st).addr leg) n then some P else none) := by
  have := decides_fin3 env st leg.ipo leg.ipo_le leg.ipo_stable (mask32bv n.pfx) (BitVec.ofNat 32 n.addr) P
  simp only [netContains4, pkt_addr_head, secHit, sec3, cidrV4, leg.ipOff_eq, List.cons_append, List.nil_append] at this ⊢
  exact this

/-- Section `s` of the leg's address is inside the CIDR. -/
def bsec (st : List Byte) (leg : Leg) (n : Net) (s : Nat) : Bool :=
  secHit st (leg.ipo + 4 * s) (secM n s) (secA n s)

theorem Leg.off6_le (leg : Leg) (s : Nat) (hs : s ≤ 3) : leg.ipo + 4 * s + 4 ≤ 512 := by
  have := leg.ipo_window; omega

theorem Leg.off6_stable (leg : Leg) (s : Nat) (hs : s ≤ 3) :
    ∀ j, leg.ipo + 4 * s ≤ j → j < leg.ipo + 4 * s + 4 → Stable j :=
  leg.addr_stable (by omega) (by omega)

theorem guard_secNE6 (env : Env) (st : List Byte) (leg : Leg) (rid idx : Nat) (n : Net) (s : Nat) (hs : s ≤ 3) :
    Guard env st (.cidrEnd rid idx) (secNE leg rid idx n s) (bsec st leg n s) :=
  guard_secNE env st _ (leg.off6_le s hs) (leg.off6_stable s hs) (secM n s) (secA n s) _

theorem endsWith_secFin (leg : Leg) (rid idx : Nat) (P : Label) (n : Net) (k : Nat) :
    EndsWith (.cidrEnd rid idx) (secFin leg rid idx P n k) :=
  ⟨finB leg rid idx P n k, secFin_eq leg rid idx P n k, labelsOf_finB leg rid idx P n k⟩

/-- The last section without its end label: a hit jumps to `P`; a miss falls through if the section is the
fourth, and leaves by the early exit if it is an earlier one. -/
theorem decides_finB (env : Env) (st : List Byte) (leg : Leg) (rid idx : Nat) (P : Label) (n : Net) (k : Nat)
    (hk : k ≤ 3) :
    Decides env st (finB leg rid idx P n k)
      (if bsec st leg n k then some P else if k = 3 then none else some (.cidrEnd rid idx)) := by
  unfold finB bsec secImm
  by_cases h3 : k = 3
  · simp only [h3, if_true, List.nil_append]
    exact decides_fin3 env st _ (leg.off6_le 3 (by omega)) (leg.off6_stable 3 (by omega)) (secM n 3) (secA n 3) P
  · simp only [h3, if_false, List.singleton_append]
    exact (decides_finNE env st _ (leg.off6_le k hk) (leg.off6_stable k hk) (secM n k) (secA n k) P
      (.cidrEnd rid idx)).congr (by cases secHit st (leg.ipo + 4 * k) (secM n k) (secA n k) <;> rfl)

theorem decides_secFin (env : Env) (st : List Byte) (leg : Leg) (rid idx : Nat) (P : Label) (n : Net) (k : Nat)
    (hk : k ≤ 3) (hP : P ≠ .cidrEnd rid idx) :
    Decides env st (secFin leg rid idx P n k) (if bsec st leg n k then some P else none) := by
  rw [secFin_eq]
  refine ((decides_finB env st leg rid idx P n k hk).label (.cidrEnd rid idx)).congr ?_
  cases bsec st leg n k <;> by_cases h3 : k = 3 <;> simp [h3, hP]

/-- For a proper prefix the top bit of the mask is set. -/
theorem mask32_ne_zero (q : Nat) (h1 : 0 < q) (h2 : q < 32) : mask32 q ≠ 0 := by
  intro h
  have hb : (mask32bv q).getLsbD 31 = true := by
    simp only [mask32bv, BitVec.getLsbD_shiftLeft, BitVec.getLsbD_allOnes]
    simp; omega
  rw [BitVec.eq_of_toNat_eq (y := 0#32) h] at hb
  simp at hb

theorem mask128Word_zero (p s : Nat) : mask128Word p s = 0 ↔ p ≤ 32 * s := by
  unfold mask128Word
  by_cases h1 : p ≥ 32 * (s + 1)
  · simp only [h1, if_true]; constructor
    · intro h; cases h
    · intro h; omega
  · by_cases h2 : p ≤ 32 * s
    · simp [h1, h2]
    · simp only [h1, h2, if_false]
      constructor
      · intro h; exact absurd h (mask32_ne_zero _ (by omega) (by omega))
      · intro h; exact h.elim

theorem secHit_zero (st : List Byte) (off : Nat) (A : BitVec 32) : secHit st off 0 A = true := by
  simp [secHit]

theorem bsec_of_mask_zero (st : List Byte) (leg : Leg) (n : Net) (s : Nat) (h : mask128Word n.pfx s = 0) :
    bsec st leg n s = true := by
  unfold bsec secM
  rw [h]
  exact secHit_zero st _ _

theorem pkt_addr_word (st : List Byte) (leg : Leg) (w : Nat) (hw : w ≤ 3) :
    ((pktOfD st).addr leg).getD w 0 = BitVec.ofNat 32 (fieldN st (leg.ipo + 4 * w) 4) := by
  have : w = 0 ∨ w = 1 ∨ w = 2 ∨ w = 3 := by omega
  rcases this with rfl | rfl | rfl | rfl <;> cases leg <;> rfl

theorem netContains6_eq (st : List Byte) (leg : Leg) (n : Net) :
    netContains6 ((pktOfD st).addr leg) n =
      (bsec st leg n 0 && bsec st leg n 1 && bsec st leg n 2 && bsec st leg n 3) := by
  unfold netContains6
  rw [show List.range 4 = [0, 1, 2, 3] from rfl]
  simp only [List.all_cons, List.all_nil, Bool.and_true, pkt_addr_word st leg _ (by omega : (0:Nat) ≤ 3),
    pkt_addr_word st leg _ (by omega : (1:Nat) ≤ 3), pkt_addr_word st leg _ (by omega : (2:Nat) ≤ 3),
    pkt_addr_word st leg _ (by omega : (3:Nat) ≤ 3)]
  simp only [bsec, secHit, secM, secA, Bool.and_assoc]

/-- **One IPv6 CIDR test**: jump to `P` iff the leg's address is in the CIDR; defines only its end label. -/
theorem decides_cidrV6 (env : Env) (st : List Byte) (leg : Leg) (rid idx : Nat) (P : Label) (n : Net)
    (hP : P ≠ .cidrEnd rid idx) :
    Decides env st (cidrV6 leg rid idx P n)
      (if netContains6 ((pktOfD st).addr leg) n then some P else none) ∧
    EndsWith (.cidrEnd rid idx) (cidrV6 leg rid idx P n) := by
  rw [cidrV6_eq, netContains6_eq]
  have g := fun s hs => guard_secNE6 env st leg rid idx n s hs
  have f := fun k hk => decides_secFin env st leg rid idx P n k hk hP
  have ew := fun k => endsWith_secFin leg rid idx P n k
  have lz := fun s => labelsOf_secNE leg rid idx n s
  have bz := fun s h => bsec_of_mask_zero st leg n s h
  by_cases h1 : mask128Word n.pfx 1 = 0
  · have h2 : mask128Word n.pfx 2 = 0 := by rw [mask128Word_zero] at h1 ⊢; omega
    have h3 : mask128Word n.pfx 3 = 0 := by rw [mask128Word_zero] at h1 ⊢; omega
    simp only [h1, if_true]
    refine ⟨Decides.congr (f 0 (by omega)) ?_, ew 0⟩
    rw [bz 1 h1, bz 2 h2, bz 3 h3]; simp
  · by_cases h2 : mask128Word n.pfx 2 = 0
    · have h3 : mask128Word n.pfx 3 = 0 := by rw [mask128Word_zero] at h2 ⊢; omega
      simp only [h1, h2, if_true, if_false]
      refine ⟨Decides.congr (Guard.then_decides (g 0 (by omega)) (f 1 (by omega)) (ew 1)) ?_, (ew 1).cons (lz 0)⟩
      rw [bz 2 h2, bz 3 h3]
      cases bsec st leg n 0 <;> cases bsec st leg n 1 <;> simp
    · by_cases h3 : mask128Word n.pfx 3 = 0
      · simp only [h1, h2, h3, if_true, if_false]
        refine ⟨Decides.congr (Guard.then_decides (g 0 (by omega))
          (Guard.then_decides (g 1 (by omega)) (f 2 (by omega)) (ew 2)) ((ew 2).cons (lz 1))) ?_,
          ((ew 2).cons (lz 1)).cons (lz 0)⟩
        rw [bz 3 h3]
        cases bsec st leg n 0 <;> cases bsec st leg n 1 <;> cases bsec st leg n 2 <;> simp
      · simp only [h1, h2, h3, if_false]
        refine ⟨Decides.congr (Guard.then_decides (g 0 (by omega))
          (Guard.then_decides (g 1 (by omega)) (Guard.then_decides (g 2 (by omega)) (f 3 (by omega)) (ew 3))
            ((ew 3).cons (lz 2))) (((ew 3).cons (lz 2)).cons (lz 1))) ?_,
          (((ew 3).cons (lz 2)).cons (lz 1)).cons (lz 0)⟩
        cases bsec st leg n 0 <;> cases bsec st leg n 1 <;> cases bsec st leg n 2 <;> cases bsec st leg n 3 <;> simp

theorem decides_cidr (env : Env) (st : List Byte) (v6 : Bool) (leg : Leg) (rid idx : Nat)
    (P : Label) (n : Net) (hP : ∀ i, P ≠ .cidrEnd rid i) :
    DecidesIn env st (fun l => l.isPart && l != P) (if v6 then cidrV6 leg rid idx P n else cidrV4 leg P n)
      (if netContains v6 ((pktOfD st).addr leg) n then some P else none) := by
  cases v6
  · exact DecidesIn.noLabels (decides_cidrV4 env st P leg n) (labelsOf_cidrV4 leg P n)
  · obtain ⟨d, e⟩ := decides_cidrV6 env st leg rid idx P n (hP idx)
    refine ⟨d, fun l hm => ?_⟩
    rw [if_pos rfl, e.labels] at hm
    cases List.mem_singleton.1 hm
    simpa [Label.isPart] using (hP idx).symm

/-- `writeCIDRSMatch` (IPv4 or IPv6). -/
theorem gl_cidrs (env : Env) (st : List Byte) (rid part : Nat) (neg : Bool) (leg : Leg)
    (nets : List Net) :
    GL env st rid (flat (cidrsMatch env.c.v6 rid part neg leg nets).1)
      (if neg then !(nets.any (netContains env.c.v6 ((pktOfD st).addr leg)))
       else nets.any (netContains env.c.v6 ((pktOfD st).addr leg))) := by
  have d := fun (P : Label) (hP : ∀ i, P ≠ .cidrEnd rid i) =>
    (DecidesIn.any (fun i n => if env.c.v6 then cidrV6 leg rid i P n else cidrV4 leg P n)
      (netContains env.c.v6 ((pktOfD st).addr leg)) P (by simp) nets 0
      fun n _ j => decides_cidr env st env.c.v6 leg rid j P n hP).mono
      (Q := Label.isPart) fun l h => (Bool.and_eq_true_iff.1 h).1
  cases neg
  · simp only [cidrsMatch, Bool.false_eq_true, if_false, flat_append, cidrLoop_flat, flat]
    exact GL.of_pos (d (.rulePart rid part) (by intro i; simp)) rfl
  · simp only [cidrsMatch, if_true, cidrLoop_flat]
    exact GL.of_neg (d (.ruleNoMatch rid) (by intro i; simp))

end CalicoVerif.C11
