import CalicoVerif.Proofs.C01Res
import CalicoVerif.Proofs.C01Mirror
/-! The PolicyResolver's endpoint and policy TABLES are the datastore's.

The datastore's endpoints and policies are numbered by the harness (`nid`); the graph's resolver keys its
tables by the real keys.  Given a consistent numbering (`Numbering`: number ↦ key injective, locality a
function of the number — true of real keys: the host name is part of a workload/host endpoint key), after
ANY history the resolver's `endpoints` table is exactly the datastore's LOCAL endpoints and its
`allPolicies` table is exactly `ExtractPolicyMetadata` of the datastore's policies (`TabInv`: two `Mirror`s). -/
namespace CalicoVerif.C01
open CalicoVerif C02

theorem step_resTables (H : IdFn) (g : Graph) (u : Upd) :
    (g.step H u).res.endpoints = (match u with
      | .endpoint _ key l v => if l then setOrDel key (v.map epDataOf) g.res.endpoints else g.res.endpoints
      | _ => g.res.endpoints) ∧
    (g.step H u).res.allPolicies = (match u with
      | .policy _ key v => setOrDel key (v.map (fun p => C03.extractPolicyMetadata p.pmeta)) g.res.allPolicies
      | _ => g.res.allPolicies) := by
  obtain ⟨evs, sr⟩ := step_res H g u
  obtain ⟨n1, n2⟩ := foldl_neutral evs (fun e he => (sr.evsIn e he).2) g.res
  rw [sr.res]
  cases u with
  | endpoint nid key l v =>
    cases l with
    | false => exact ⟨n1, n2⟩
    | true =>
      have f := C03.step_folds (evs.foldl C03.Resolver.step g.res) (.endpoint key (v.map epDataOf))
      exact ⟨f.endpoints.trans (by rw [n1]; cases v <;> rfl), f.allPolicies.trans n2⟩
  | tier name v =>
    have f := C03.step_folds (evs.foldl C03.Resolver.step g.res) (.tier name v)
    exact ⟨f.endpoints.trans n1, f.allPolicies.trans n2⟩
  | policy nid key v =>
    have f := C03.step_folds (evs.foldl C03.Resolver.step g.res) (.policy key (v.map (·.pmeta)))
    exact ⟨f.endpoints.trans n1, f.allPolicies.trans (by rw [n2]; cases v <;> rfl)⟩
  | _ => exact ⟨n1, n2⟩

structure TabInv (N : Numbering) (g : Graph) (ds : DS) : Prop where
  eps : Mirror N.ek (fun i (x : EpKey × Bool × EpVal) => if N.lc i then some (epDataOf x.2.2) else none)
    (mget g.res.endpoints) ds.eps
  pols : Mirror N.pk (fun _ (x : PolicyKey × PolVal) => some (C03.extractPolicyMetadata x.2.pmeta))
    (mget g.res.allPolicies) ds.pols

theorem tabInv_tables {N : Numbering} {g g' : Graph} {ds : DS} (hi : TabInv N g ds)
    (h1 : g'.res.endpoints = g.res.endpoints) (h2 : g'.res.allPolicies = g.res.allPolicies) : TabInv N g' ds :=
  ⟨hi.eps.same (fun _ => by rw [h1]), hi.pols.same (fun _ => by rw [h2])⟩

theorem tabInv_step (H : IdFn) {N : Numbering} {g : Graph} {ds : DS} (hi : TabInv N g ds) (u : Upd) (hu : N.updOk u) :
    TabInv N (g.step H u) (ds.apply u) := by
  obtain ⟨he, hp⟩ := step_resTables H g u
  cases u with
  | endpoint nid key isLocal v =>
    obtain ⟨rfl, rfl⟩ := hu
    refine ⟨?_, hi.pols.same (fun _ => by rw [hp])⟩
    cases hl : N.lc nid with
    | false =>
      rw [hl] at he
      exact (hi.eps.skip nid _ (fun _ => by simp [hl])).same (fun _ => by rw [he]; rfl)
    | true =>
      rw [hl] at he
      refine hi.eps.write N.ekInj nid _ (fun k => ?_)
      rw [he]
      simp only [if_true, hl, mget_setOrDel]
      cases v <;> rfl
  | policy nid key v =>
    have hk : key = N.pk nid := hu
    subst hk
    refine ⟨hi.eps.same (fun _ => by rw [he]), hi.pols.write N.pkInj nid _ (fun k => ?_)⟩
    rw [hp, mget_setOrDel]
    cases v <;> rfl
  | _ => exact ⟨hi.eps.same (fun _ => by rw [he]), hi.pols.same (fun _ => by rw [hp])⟩

theorem tabInv_inSync {N : Numbering} {g : Graph} {ds : DS} (hi : TabInv N g ds) : TabInv N g.inSync ds := by
  have := (neutral_status true).tables g.res
  exact tabInv_tables hi this.1 this.2

theorem tabInv_flush {N : Numbering} {g : Graph} {ds : DS} (hi : TabInv N g ds) : TabInv N g.flush.1 ds := by
  rw [flush_eq]
  have h1 : TabInv N g.flushResolver ds :=
    tabInv_tables hi (flushResolver_res_cases (P := fun r => r.endpoints = g.res.endpoints) g rfl (fun _ _ => C03.flush_endpoints))
      (flushResolver_res_cases (P := fun r => r.allPolicies = g.res.allPolicies) g rfl (fun _ _ => C03.flush_allPolicies))
  exact tabInv_tables h1 rfl rfl

theorem tabInv_run (H : IdFn) {N : Numbering} (h : List HStep) {g : Graph} {ds : DS}
    (hi : TabInv N g ds) (hN : ∀ st ∈ h, N.stepOk st) : TabInv N (run H g h).1 (dsRun ds h) :=
  run_induction (P := fun ds g => TabInv N g ds) (fun u hu hi => tabInv_step H hi u hu) tabInv_inSync tabInv_flush h hN hi

theorem tabInv_new (N : Numbering) (s : Bool) : TabInv N (Graph.new s) {} :=
  ⟨⟨fun _ => rfl, fun _ h => nomatch h⟩, ⟨fun _ => rfl, fun _ h => nomatch h⟩⟩

theorem tabInv_endpoints {N : Numbering} {g : Graph} {ds : DS} (hi : TabInv N g ds) (hd : DSOk N ds) (e : EpKey) :
    mget g.res.endpoints e = (mget ds.localEps e).map epDataOf := by
  rw [← mget_map_val (fun _ => epDataOf)]
  unfold DS.localEps
  rw [List.map_filterMap]
  refine hi.eps.eq_filterMap N.ekInj N.lc (fun p _ => by cases N.lc p.1 <;> rfl) _ (fun p hp => ?_) e
  rw [← (hd.epsConf p hp).1, ← (hd.epsConf p hp).2]
  cases p.2.2.1 <;> rfl

theorem tabInv_policies {N : Numbering} {g : Graph} {ds : DS} (hi : TabInv N g ds) (hd : DSOk N ds) (k : PolicyKey) :
    mget g.res.allPolicies k = mget ds.polMetas k := by
  unfold DS.polMetas
  rw [← List.filterMap_eq_map']
  refine hi.pols.eq_filterMap N.pkInj (fun _ => true) (fun _ _ => rfl) _ (fun p hp => ?_) k
  rw [← hd.polsConf p hp]
  rfl

theorem resolver_tables_eq_datastore (H : IdFn) (s : Bool) (h : List HStep) (N : Numbering) (hN : ∀ st ∈ h, N.stepOk st) :
    (∀ e, mget (run H (Graph.new s) (h ++ [.flush])).1.res.endpoints e =
      (mget (lastState h).localEps e).map (fun v => (⟨v.tag, v.profiles⟩ : EpData))) ∧
    (∀ k, mget (run H (Graph.new s) (h ++ [.flush])).1.res.allPolicies k = mget (lastState h).polMetas k) := by
  have hf : TabInv N _ (lastState h) := tabInv_flush (tabInv_run H h (tabInv_new N s) hN)
  rw [← run_snoc_flush_fst] at hf
  exact ⟨tabInv_endpoints hf (dsOk_lastState N h hN), tabInv_policies hf (dsOk_lastState N h hN)⟩

end CalicoVerif.C01
