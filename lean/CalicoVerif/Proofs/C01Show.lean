import CalicoVerif.Model.C01
/-! C01 helper: the member strings handed to the EventSequencer determine the member (`showMember` is
injective): decimal rendering is injective and contains no '/'. -/
namespace CalicoVerif.C01
open CalicoVerif

def valLE : List Nat → Nat
  | [] => 0
  | d :: t => d + 10 * valLE t

theorem valLE_digitsLE : ∀ (f n : Nat), n < f → valLE (digitsLE f n) = n
  | 0, _, h => by omega
  | f + 1, n, h => by
    simp only [digitsLE]
    by_cases h0 : n / 10 = 0
    · simp only [h0, if_true, valLE]
      omega
    · simp only [h0, if_false, valLE]
      have : n / 10 < f := by omega
      rw [valLE_digitsLE f (n / 10) this]
      omega

theorem digitsLE_lt : ∀ (f n : Nat), ∀ d ∈ digitsLE f n, d < 10
  | 0, _, d, h => by cases h
  | f + 1, n, d, h => by
    simp only [digitsLE, List.mem_cons] at h
    rcases h with h | h
    · omega
    · by_cases h0 : n / 10 = 0
      · simp [h0] at h
      · simp only [h0, if_false] at h
        exact digitsLE_lt f (n / 10) d h

theorem digitChar_inj {a b : Nat} (ha : a < 10) (hb : b < 10) (h : digitChar a = digitChar b) : a = b := by
  have key : ∀ a : Fin 10, ∀ b : Fin 10, Char.ofNat (48 + a.val) = Char.ofNat (48 + b.val) → a = b := by decide
  have := key ⟨a, ha⟩ ⟨b, hb⟩ h
  exact congrArg Fin.val this

theorem map_digitChar_inj : ∀ {l1 l2 : List Nat}, (∀ d ∈ l1, d < 10) → (∀ d ∈ l2, d < 10) →
    l1.map digitChar = l2.map digitChar → l1 = l2
  | [], [], _, _, _ => rfl
  | [], _ :: _, _, _, h => by cases h
  | _ :: _, [], _, _, h => by cases h
  | a :: t1, b :: t2, h1, h2, h => by
    simp only [List.map_cons, List.cons.injEq] at h
    have e := digitChar_inj (h1 a (List.mem_cons_self ..)) (h2 b (List.mem_cons_self ..)) h.1
    rw [e, map_digitChar_inj (fun d hd => h1 d (List.mem_cons_of_mem _ hd)) (fun d hd => h2 d (List.mem_cons_of_mem _ hd)) h.2]

theorem showNatL_inj {a b : Nat} (h : showNatL a = showNatL b) : a = b := by
  unfold showNatL at h
  have h1 : ∀ d ∈ (digitsLE (a + 1) a).reverse, d < 10 := fun d hd => digitsLE_lt _ _ d (List.mem_reverse.mp hd)
  have h2 : ∀ d ∈ (digitsLE (b + 1) b).reverse, d < 10 := fun d hd => digitsLE_lt _ _ d (List.mem_reverse.mp hd)
  have e := map_digitChar_inj h1 h2 h
  have e2 : digitsLE (a + 1) a = digitsLE (b + 1) b := List.reverse_inj.mp e
  have := congrArg valLE e2
  rw [valLE_digitsLE _ _ (Nat.lt_succ_self a), valLE_digitsLE _ _ (Nat.lt_succ_self b)] at this
  exact this

theorem not_mem_showNatL {c : Char} (hc : ∀ a : Fin 10, digitChar a.val ≠ c) (n : Nat) : c ∉ showNatL n := by
  unfold showNatL
  intro h
  obtain ⟨d, hd, he⟩ := List.mem_map.mp h
  exact hc ⟨d, digitsLE_lt _ _ d (List.mem_reverse.mp hd)⟩ he

theorem append_sep_inj {α : Type} {x : α} : ∀ {l1 l2 r1 r2 : List α}, x ∉ l1 → x ∉ l2 →
    l1 ++ x :: r1 = l2 ++ x :: r2 → l1 = l2 ∧ r1 = r2
  | [], [], _, _, _, _, h => by simp only [List.nil_append, List.cons.injEq, true_and] at h; exact ⟨rfl, h⟩
  | [], b :: t2, _, _, _, h2, h => by
    simp only [List.nil_append, List.cons_append, List.cons.injEq] at h
    exact absurd (by rw [h.1]; exact List.mem_cons_self ..) h2
  | a :: t1, [], _, _, h1, _, h => by
    simp only [List.nil_append, List.cons_append, List.cons.injEq] at h
    exact absurd (by rw [← h.1]; exact List.mem_cons_self ..) h1
  | a :: t1, b :: t2, r1, r2, h1, h2, h => by
    simp only [List.cons_append, List.cons.injEq] at h
    obtain ⟨e1, e2⟩ := append_sep_inj (fun hx => h1 (List.mem_cons_of_mem _ hx)) (fun hx => h2 (List.mem_cons_of_mem _ hx)) h.2
    exact ⟨by rw [h.1, e1], e2⟩

theorem showNat_sep_inj {a b : Nat} {r1 r2 : List Char} (h : showNatL a ++ '/' :: r1 = showNatL b ++ '/' :: r2) :
    a = b ∧ r1 = r2 := by
  obtain ⟨e1, e2⟩ := append_sep_inj (not_mem_showNatL (by decide) a) (not_mem_showNatL (by decide) b) h
  exact ⟨showNatL_inj e1, e2⟩

theorem famChar_inj {a b : Bool} (h : (if a then '6' else '4') = (if b then '6' else '4')) : a = b := by
  cases a <;> cases b <;> simp at h <;> rfl

theorem showMemberL_inj {m1 m2 : C04.Member} (h : showMemberL m1 = showMemberL m2) : m1 = m2 := by
  cases m1 with
  | cidr c1 =>
    cases m2 with
    | cidr c2 =>
      simp only [showMemberL, showCidrL, List.cons.injEq, true_and] at h
      obtain ⟨hv, hrest⟩ := h
      obtain ⟨ha, hl⟩ := showNat_sep_inj hrest
      have hl' := showNatL_inj hl
      obtain ⟨v1, a1, l1⟩ := c1
      obtain ⟨v2, a2, l2⟩ := c2
      simp only [] at hv ha hl'
      rw [famChar_inj hv, ha, hl']
    | ipp v a po pr =>
      simp only [showMemberL, List.cons.injEq] at h
      exact absurd h.1 (by decide)
  | ipp v1 a1 po1 pr1 =>
    cases m2 with
    | cidr c2 =>
      simp only [showMemberL, List.cons.injEq] at h
      exact absurd h.1 (by decide)
    | ipp v2 a2 po2 pr2 =>
      simp only [showMemberL, List.cons.injEq, true_and] at h
      obtain ⟨hv, hrest⟩ := h
      obtain ⟨ha, hrest2⟩ := showNat_sep_inj hrest
      obtain ⟨hpr, hpo⟩ := showNat_sep_inj hrest2
      rw [famChar_inj hv, ha, hpr, showNatL_inj hpo]

theorem showMember_inj {m1 m2 : C04.Member} (h : showMember m1 = showMember m2) : m1 = m2 :=
  showMemberL_inj (String.ofList_inj.mp h)

end CalicoVerif.C01
