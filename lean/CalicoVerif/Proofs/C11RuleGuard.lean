import CalicoVerif.Proofs.C11Guard
import CalicoVerif.Proofs.C11GuardPorts
import CalicoVerif.Proofs.C11Cidr
import Mathlib.Algebra.Group.Nat.Defs
/-!
C11 — the whole match part of a rule (`ruleMatches`, IPv4 or IPv6) is a guard for the
reference `ruleMatch`.

`Mathlib.Algebra.Group.Nat.Defs` (the project's one Mathlib import) is imported because of `RuleOK`: with it the
bound `2 ^ 64` of `RuleOK.ids` elaborates to Mathlib's `Monoid.npow` on `ℕ`, without it to core's `instPowNat`.
That would make `RuleOK` a different term, and with it the statement of every theorem that has `RuleOK` among
its hypotheses (the end theorems of C11 and C12).  No proof needs the import: the two powers are
definitionally equal, and where the bound meets `id < 2 ^ 64` of `C11IpSet`/`C11GuardPorts` (read with core's
power) the two agree by unfolding.
-/
namespace CalicoVerif.C11

theorem isEmpty_or_not_any {α : Type} (l : List α) (f : α → Bool) :
    (l.isEmpty || !l.any f) = l.all (fun x => !f x) := by
  cases l with
  | nil => rfl
  | cons x xs => simp [List.not_any_eq_all_not]

theorem not_not_and (e b : Bool) : (!((!e) && b)) = (e || !b) := by cases e <;> cases b <;> rfl

/-- What the API guarantees about a rule (and the builder's `protocolToNumber` knows its protocols); unrelated
to the model's Boolean `ruleOK` (`writeRule` does not panic). -/
structure RuleOK (r : Rule) : Prop where
  proto : ∀ pr, r.protocol = some pr → ProtoOK pr
  notProto : ∀ pr, r.notProtocol = some pr → ProtoOK pr
  ids : ∀ id ∈ r.ipSetIDs, id < 2 ^ 64
  ports : ∀ pr ∈ r.srcPorts ++ r.notSrcPorts ++ r.dstPorts ++ r.notDstPorts, PortOK pr

structure IdsOK (r : Rule) : Prop where
  src : ∀ id ∈ r.srcIpSetIds, id < 2 ^ 64
  notSrc : ∀ id ∈ r.notSrcIpSetIds, id < 2 ^ 64
  dst : ∀ id ∈ r.dstIpSetIds, id < 2 ^ 64
  notDst : ∀ id ∈ r.notDstIpSetIds, id < 2 ^ 64
  dstIpPort : ∀ id ∈ r.dstIpPortSetIds, id < 2 ^ 64
  srcNamed : ∀ id ∈ r.srcNamedPortIpSetIds, id < 2 ^ 64
  notSrcNamed : ∀ id ∈ r.notSrcNamedPortIpSetIds, id < 2 ^ 64
  dstNamed : ∀ id ∈ r.dstNamedPortIpSetIds, id < 2 ^ 64
  notDstNamed : ∀ id ∈ r.notDstNamedPortIpSetIds, id < 2 ^ 64

theorem RuleOK.idsOK {r : Rule} (h : RuleOK r) : IdsOK r := by
  have := h.ids
  unfold Rule.ipSetIDs at this
  simp only [List.mem_append] at this
  constructor <;> intro id hid <;> apply this <;> simp [hid]

structure PortsOK (r : Rule) : Prop where
  src : ∀ pr ∈ r.srcPorts, PortOK pr
  notSrc : ∀ pr ∈ r.notSrcPorts, PortOK pr
  dst : ∀ pr ∈ r.dstPorts, PortOK pr
  notDst : ∀ pr ∈ r.notDstPorts, PortOK pr

theorem RuleOK.portsOK {r : Rule} (h : RuleOK r) : PortsOK r := by
  have := h.ports
  simp only [List.mem_append] at this
  constructor <;> intro pr hpr <;> apply this <;> simp [hpr]

/-- **The match part of a rule is a guard for the reference `ruleMatch`** (IPv4 or IPv6). -/
theorem ruleMatches_guard (env : Env) (st : List Byte) (hc : SetCtx env st) (rid : Nat) (r : Rule) (destLeg : Leg)
    (hok : RuleOK r) :
    GL env st rid (flat (ruleMatches env.c rid r destLeg)) (ruleMatch env (pktOfD st) destLeg r) := by
  have i := hok.idsOK
  have q := hok.portsOK
  rw [ruleMatches_eq env.c rid r destLeg]
  simp only [flat_append, flat_map_ev]
  -- the pieces; an absent criterion emits nothing (`GL.ite`)
  have g1 := GL.append (gl_proto env st rid false r.protocol hok.proto) (gl_proto env st rid true r.notProtocol hok.notProto)
  have g2 : GL env st rid (flat (rmP2 env.c rid r).1) _ := GL.ite flat rfl (gl_cidrs env st rid 0 false .source r.srcNet)
  have g3 : GL env st rid (flat (rmP3 env.c rid r).1) _ := GL.ite flat rfl (gl_cidrs env st rid _ true .source r.notSrcNet)
  have g4 : GL env st rid (flat (rmP4 env.c rid r destLeg).1) _ := GL.ite flat rfl (gl_cidrs env st rid _ false destLeg r.dstNet)
  have g5 : GL env st rid (flat (rmP5 env.c rid r destLeg).1) _ := GL.ite flat rfl (gl_cidrs env st rid _ true destLeg r.notDstNet)
  have g6 := GL.append (gl_ipSetMatch env st hc rid false .source r.srcIpSetIds i.src)
    (gl_ipSetMatch env st hc rid true .source r.notSrcIpSetIds i.notSrc)
  have g7 : GL env st rid (rmP7 env.c rid r destLeg).1 _ := GL.ite id rfl (gl_ipSetOr env st hc rid _ destLeg r.dstIpSetIds i.dst)
  have g8 := GL.append (gl_ipSetMatch env st hc rid true destLeg r.notDstIpSetIds i.notDst)
    (gl_ipSetMatch env st hc rid false destLeg r.dstIpPortSetIds i.dstIpPort)
  have g9 : GL env st rid (flat (rmP9 env.c rid r destLeg).1) _ :=
    GL.ite flat rfl (gl_ports env st hc rid _ false .source r.srcPorts r.srcNamedPortIpSetIds q.src i.srcNamed)
  have g10 : GL env st rid (flat (rmP10 env.c rid r destLeg).1) _ :=
    GL.ite flat rfl (gl_ports env st hc rid _ true .source r.notSrcPorts r.notSrcNamedPortIpSetIds q.notSrc i.notSrcNamed)
  have g11 : GL env st rid (flat (rmP11 env.c rid r destLeg).1) _ :=
    GL.ite flat rfl (gl_ports env st hc rid _ false destLeg r.dstPorts r.dstNamedPortIpSetIds q.dst i.dstNamed)
  have g12 : GL env st rid (flat (rmP12 env.c rid r destLeg).1) _ :=
    GL.ite flat rfl (gl_ports env st hc rid _ true destLeg r.notDstPorts r.notDstNamedPortIpSetIds q.notDst i.notDstNamed)
  have g13 := GL.append (gl_icmp env st rid false r.icmp hc.len) (gl_icmp env st rid true r.notIcmp hc.len)
  have G := (((((((((((g1.append g2).append g3).append g4).append g5).append g6).append g7).append g8).append g9).append
    g10).append g11).append g12).append g13
  refine G.congr ?_
  simp only [ruleMatch, portsRef, Bool.and_assoc, Bool.false_eq_true, if_false, if_true, isEmpty_or_not_any,
    not_not_and]
  rfl

theorem RuleOK.filter {r fr : Rule} {v6 : Bool} (hok : RuleOK r) (h : filterRule v6 r = some fr) : RuleOK fr := by
  obtain ⟨s, ns, d, nd, rfl⟩ := filterRule_some h
  exact ⟨hok.proto, hok.notProto, hok.ids, hok.ports⟩

end CalicoVerif.C11
