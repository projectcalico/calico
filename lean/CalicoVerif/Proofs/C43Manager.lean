import CalicoVerif.Proofs.C43
/-!
C43 — the routeManager: its two maps as a function of the last message per destination (`Agree`), what
`updateRoutes` decides for one stored route (`targetOf_spec`), and the invariant `BHInv` (no blackhole on a
single address) over every input of a manager.
-/
namespace CalicoVerif.C43

/-- the condition under which `OnUpdate` keeps a route in `routesByDest`. -/
def stores (pt : Nat) (r : RouteUpdate) : Bool :=
  (isType r tRemoteWorkload && r.poolType == pt) || isRemoteTunnelRoute r pt || isBorrowedRoute r pt

def storedOf (pt : Nat) (r : RouteUpdate) : Option RouteUpdate := if stores pt r then some r else none

def blockOf (pt : Nat) (r : RouteUpdate) : Option RouteUpdate := if routeIsLocalBlock pt r then some r else none

def Agree (pt : Nat) (m : RM) (sent : List (Cidr × RouteUpdate)) : Prop :=
  ∀ d, aget m.routes d = (aget sent d).bind (storedOf pt) ∧
       aget m.localBlocks d = (aget sent d).bind (blockOf pt)

theorem onRouteUpdate_eq (m : RM) (r : RouteUpdate) :
    m.onRouteUpdate r =
      (let m1 := m.deleteRoute r.dst
       let m2 := if stores m1.pt r then { m1 with routes := aset m1.routes r.dst r, dirty := true } else m1
       if routeIsLocalBlock m2.pt r then { m2 with localBlocks := aset m2.localBlocks r.dst r, dirty := true }
       else if (aget m2.localBlocks r.dst).isSome then
         { m2 with localBlocks := adel m2.localBlocks r.dst, dirty := true }
       else m2) := rfl

theorem aget_del_if {κ α} [BEq κ] [LawfulBEq κ] [DecidableEq κ] (m : List (κ × α)) (d d' : κ) :
    aget (if (aget m d).isSome = true then adel m d else m) d' = (if d = d' then none else aget m d') := by
  split
  · exact aget_adel m d d'
  · rename_i h
    split
    · rename_i e; rw [← e]; simpa using h
    · rfl

theorem deleteRoute_spec (m : RM) (d d' : Cidr) :
    (m.deleteRoute d).pt = m.pt ∧
    aget (m.deleteRoute d).routes d' = (if d = d' then none else aget m.routes d') ∧
    aget (m.deleteRoute d).localBlocks d' = (if d = d' then none else aget m.localBlocks d') := by
  have r1 := aget_del_if m.routes d d'
  have r2 := aget_del_if m.localBlocks d d'
  unfold RM.deleteRoute
  by_cases h1 : (aget m.routes d).isSome = true <;> by_cases h2 : (aget m.localBlocks d).isSome = true
  all_goals simp only [h1, h2, if_true, if_false, Bool.false_eq_true] at r1 r2 ⊢
  all_goals exact ⟨trivial, r1, r2⟩

theorem onRouteUpdate_spec (m : RM) (r : RouteUpdate) (d' : Cidr) :
    (m.onRouteUpdate r).pt = m.pt ∧
    aget (m.onRouteUpdate r).routes d' = (if r.dst = d' then storedOf m.pt r else aget m.routes d') ∧
    aget (m.onRouteUpdate r).localBlocks d' = (if r.dst = d' then blockOf m.pt r else aget m.localBlocks d') := by
  obtain ⟨hpt, hr, hl⟩ := deleteRoute_spec m r.dst d'
  -- after the delete there is no local block at `r.dst`: the second test of `OnUpdate` never fires
  have hnone : (aget (m.deleteRoute r.dst).localBlocks r.dst).isSome = false := by
    rw [(deleteRoute_spec m r.dst r.dst).2.2]; simp
  rw [onRouteUpdate_eq]
  simp only []
  generalize m.deleteRoute r.dst = m1 at *
  rw [hpt, storedOf, blockOf]
  cases stores m.pt r <;> cases hlb : routeIsLocalBlock m.pt r <;>
    simp only [hpt, hlb, hnone, aget_aset, Bool.false_eq_true, if_false, if_true, hr, hl, ite_ite_same, and_self]

theorem noEncapRoute_eq (m : RM) (r : RouteUpdate) :
    m.noEncapRoute r = if m.parent = true ∧ (m.pt = ptNoEncap ∨ r.sameSubnet = true) ∧ r.dstNodeIp ≠ 0
      then some { cidr := r.dst, typ := .noEncap, gw := r.dstNodeIp } else none := by
  unfold RM.noEncapRoute
  cases m.parent <;> cases r.sameSubnet <;> by_cases h1 : m.pt = ptNoEncap <;> by_cases h2 : r.dstNodeIp = 0 <;>
    simp [h1, h2]

theorem targetOf_spec (m : RM) (r : RouteUpdate) :
    (m.targetOf r = some (true, { cidr := r.dst, typ := .noEncap, gw := r.dstNodeIp }) ↔
      (m.parent = true ∧ (m.pt = ptNoEncap ∨ r.sameSubnet = true) ∧ r.dstNodeIp ≠ 0)) ∧
    (¬ (m.parent = true ∧ (m.pt = ptNoEncap ∨ r.sameSubnet = true) ∧ r.dstNodeIp ≠ 0) →
      m.targetOf r = (m.tunnelRoute r).map (fun t => (false, t))) := by
  unfold RM.targetOf
  rw [noEncapRoute_eq]
  by_cases hc : m.parent = true ∧ (m.pt = ptNoEncap ∨ r.sameSubnet = true) ∧ r.dstNodeIp ≠ 0
  · rw [if_pos hc]; exact ⟨⟨fun _ => hc, fun _ => rfl⟩, fun h => absurd hc h⟩
  · rw [if_neg hc]
    refine ⟨⟨fun e => ?_, fun h' => absurd h' hc⟩, fun _ => rfl⟩
    cases hm : m.tunnelRoute r <;> simp [hm] at e

inductive MOp where
  | ev (e : Event)
  | vtep (n : Nat) (v : Option (Nat × Nat))
  | hostMeta (n : Nat) (a : Option Nat)
  | parent
  | complete

def RM.applyOp (m : RM) : MOp → RM
  | .ev e => m.onEvent e
  | .vtep n v => m.onVtep n v
  | .hostMeta n a => m.onHostMeta n a
  | .parent => m.onParent
  | .complete => m.complete

def BHInv (m : RM) : Prop :=
  (∀ e ∈ m.localBlocks, e.1.len ≠ e.1.width ∧ e.2.localWorkload = false) ∧
  (∀ row ∈ m.table, ∀ t ∈ row.2, t.typ = .blackhole → t.cidr.len ≠ t.cidr.width)

theorem bh_deleteRoute (m : RM) (d : Cidr) (h : BHInv m) : BHInv (m.deleteRoute d) := by
  unfold RM.deleteRoute
  simp only []
  refine ⟨?_, ?_⟩
  · intro e he
    apply h.1
    split at he <;> split at he <;> first | exact mem_adel _ _ _ he | exact he
  · split <;> split <;> exact h.2

theorem bh_onRouteUpdate (m : RM) (r : RouteUpdate) (h : BHInv m) : BHInv (m.onRouteUpdate r) := by
  have h1 := bh_deleteRoute m r.dst h
  rw [onRouteUpdate_eq]
  simp only []
  generalize m.deleteRoute r.dst = m1 at h1
  have h2 : BHInv (if stores m1.pt r then { m1 with routes := aset m1.routes r.dst r, dirty := true } else m1) := by
    split
    · exact ⟨h1.1, h1.2⟩
    · exact h1
  generalize (if stores m1.pt r then { m1 with routes := aset m1.routes r.dst r, dirty := true } else m1) = m2 at h2
  split
  · rename_i hlb
    refine ⟨?_, h2.2⟩
    intro e he
    rcases mem_aset _ _ _ _ he with he | he
    · subst he
      simp only [routeIsLocalBlock, Bool.and_eq_true, bne_iff_ne, ne_eq, Bool.not_eq_true'] at hlb
      exact ⟨hlb.2, hlb.1.2⟩
    · exact h2.1 e he
  · split
    · refine ⟨?_, h2.2⟩
      intro e he
      exact h2.1 e (mem_adel _ _ _ he)
    · exact h2

theorem tunnelRoute_typ (m : RM) (r : RouteUpdate) (t : Target) (h : m.tunnelRoute r = some t) :
    t.typ ≠ .blackhole := by
  unfold RM.tunnelRoute at h
  split at h
  · split at h
    · cases h; simp
    · split at h
      · cases h
      · obtain ⟨a, _, rfl⟩ := Option.map_eq_some_iff.1 h; simp
  · split at h
    · split at h
      · cases h
      · obtain ⟨a, _, rfl⟩ := Option.map_eq_some_iff.1 h; simp
    · cases h

theorem targetOf_not_blackhole (m : RM) (r : RouteUpdate) (b : Bool) (t : Target)
    (h : m.targetOf r = some (b, t)) : t.typ ≠ .blackhole := by
  obtain ⟨hdirect, htunnel⟩ := targetOf_spec m r
  by_cases hc : m.parent = true ∧ (m.pt = ptNoEncap ∨ r.sameSubnet = true) ∧ r.dstNodeIp ≠ 0
  · rw [hdirect.2 hc] at h; cases h; simp
  · rw [htunnel hc] at h
    obtain ⟨t', ht, e⟩ := Option.map_eq_some_iff.1 h
    cases e
    exact tunnelRoute_typ m r _ ht

theorem bh_setRoutes (m : RM) (cls ifc : Nat) (ts : List Target) (h : BHInv m)
    (hts : ∀ t ∈ ts, t.typ = .blackhole → t.cidr.len ≠ t.cidr.width) : BHInv (m.setRoutes cls ifc ts) := by
  refine ⟨h.1, ?_⟩
  intro row hrow
  rcases mem_aset _ _ _ _ hrow with hr | hr
  · subst hr; exact hts
  · exact h.2 row hr

theorem bh_updateRoutes (m : RM) (h : BHInv m) : BHInv m.updateRoutes := by
  unfold RM.updateRoutes
  simp only []
  have hnb : ∀ (p : Bool → Bool) (t : Target),
      t ∈ ((m.routes.filterMap (fun e => m.targetOf e.2)).filter (fun t => p t.1)).map (·.2) →
      t.typ = .blackhole → t.cidr.len ≠ t.cidr.width := by
    intro p t ht hbh
    obtain ⟨bt, hbt, rfl⟩ := List.mem_map.1 ht
    have hbt' := (List.mem_filter.1 hbt).1
    obtain ⟨e, _, he⟩ := List.mem_filterMap.1 hbt'
    exact absurd hbh (targetOf_not_blackhole m e.2 bt.1 bt.2 he)
  have hbhl : ∀ t ∈ m.localBlocks.map (fun e => ({ cidr := e.1, typ := .blackhole } : Target)),
      t.typ = .blackhole → t.cidr.len ≠ t.cidr.width := by
    intro t ht _
    obtain ⟨e, he, rfl⟩ := List.mem_map.1 ht
    exact (h.1 e he).1
  have s1 := bh_setRoutes m m.classTunnel m.tunnelIface _ h (hnb (fun b => !b))
  have s2 := bh_setRoutes _ (m.setRoutes m.classTunnel m.tunnelIface
      (((m.routes.filterMap (fun e => m.targetOf e.2)).filter (fun t => !t.1)).map (·.2))).classBlackhole ifNone
      (m.localBlocks.map (fun e => ({ cidr := e.1, typ := .blackhole } : Target))) s1 hbhl
  split
  · exact bh_setRoutes _ _ ifParent _ s2 (hnb (fun b => b))
  · exact s2

theorem bh_complete (m : RM) (h : BHInv m) : BHInv m.complete := by
  unfold RM.complete
  simp only []
  have h1 : BHInv (if (!m.parent && m.parentAddr != 0 && m.parentAddr == m.eth0Addr) = true
      then { m with parent := true, dirty := true } else m) := by
    split
    · exact ⟨h.1, h.2⟩
    · exact h
  generalize (if (!m.parent && m.parentAddr != 0 && m.parentAddr == m.eth0Addr) = true
      then { m with parent := true, dirty := true } else m) = m1 at h1
  split
  · have := bh_updateRoutes m1 h1
    exact ⟨this.1, this.2⟩
  · exact h1

theorem onVtep_maps (m : RM) (n : Nat) (v : Option (Nat × Nat)) :
    (m.onVtep n v).localBlocks = m.localBlocks ∧ (m.onVtep n v).table = m.table := by
  unfold RM.onVtep
  rcases v with _ | ⟨addr, pip⟩ <;>
    simp only [apply_ite RM.localBlocks, apply_ite RM.table, ite_self, and_self]

theorem onHostMeta_maps (m : RM) (n : Nat) (a : Option Nat) :
    (m.onHostMeta n a).localBlocks = m.localBlocks ∧ (m.onHostMeta n a).table = m.table := by
  unfold RM.onHostMeta
  rcases a with _ | addr <;>
    simp only [apply_ite RM.localBlocks, apply_ite RM.table, ite_self, and_self]

theorem onParent_maps (m : RM) : m.onParent.localBlocks = m.localBlocks ∧ m.onParent.table = m.table := by
  unfold RM.onParent
  simp only [apply_ite RM.localBlocks, apply_ite RM.table, ite_self, and_self]

theorem BHInv.congr {m m' : RM} (h : m'.localBlocks = m.localBlocks ∧ m'.table = m.table) (hm : BHInv m) :
    BHInv m' := by
  unfold BHInv; rw [h.1, h.2]; exact hm

theorem bh_applyOp (m : RM) (op : MOp) (h : BHInv m) : BHInv (m.applyOp op) := by
  cases op with
  | ev e =>
    cases e with
    | update r => exact bh_onRouteUpdate m r h
    | remove d => exact bh_deleteRoute m d h
  | vtep n v => exact BHInv.congr (onVtep_maps m n v) h
  | hostMeta n a => exact BHInv.congr (onHostMeta_maps m n a) h
  | parent => exact BHInv.congr (onParent_maps m) h
  | complete => exact bh_complete m h

theorem bh_run (ops : List MOp) (m : RM) (h : BHInv m) : BHInv (ops.foldl RM.applyOp m) :=
  List.foldlRecOn (motive := BHInv) ops _ h fun m h op _ => bh_applyOp m op h

theorem updateRoutes_blackholes (m : RM) :
    aget m.updateRoutes.table (m.classBlackhole, ifNone) =
      some (m.localBlocks.map (fun e => ({ cidr := e.1, typ := .blackhole } : Target))) := by
  unfold RM.updateRoutes
  simp only []
  split
  · simp only [RM.setRoutes, aget_aset]
    simp [RM.classBlackhole, RM.classSameSubnet, ifParent, ifNone]
  · simp only [RM.setRoutes, aget_aset]
    simp [RM.classBlackhole]

theorem onEvent_pt (m : RM) (e : Event) : (m.onEvent e).pt = m.pt := by
  cases e with
  | update r => exact (onRouteUpdate_spec m r r.dst).1
  | remove d => exact (deleteRoute_spec m d d).1

theorem agree_onEvent (pt : Nat) (m : RM) (sent : List (Cidr × RouteUpdate)) (e : Event) (hpt : m.pt = pt)
    (h : Agree pt m sent) : Agree pt (m.onEvent e) (applyEvents sent [e]) := by
  subst hpt
  intro d
  rw [aget_applyEvents_one]
  cases e with
  | update r =>
    have hs := onRouteUpdate_spec m r d
    simp only [RM.onEvent, Event.dst]
    rw [hs.2.1, hs.2.2]
    by_cases hd : r.dst = d
    · simp [hd]
    · simp only [hd, if_false]; exact h d
  | remove d0 =>
    have hs := deleteRoute_spec m d0 d
    simp only [RM.onEvent, Event.dst]
    rw [hs.2.1, hs.2.2]
    by_cases hd : d0 = d
    · simp [hd]
    · simp only [hd, if_false]; exact h d

theorem agree_fold (pt : Nat) (evs : List Event) (m : RM) (sent : List (Cidr × RouteUpdate)) (hpt : m.pt = pt)
    (h : Agree pt m sent) : Agree pt (evs.foldl RM.onEvent m) (applyEvents sent evs) := by
  induction evs generalizing m sent with
  | nil => exact h
  | cons e evs ih =>
    rw [← List.singleton_append, applyEvents_append]
    exact ih _ _ ((onEvent_pt m e).trans hpt) (agree_onEvent pt m sent e hpt h)

theorem fresh_agree (pt me eth : Nat) (evs : List Event) :
    Agree pt (evs.foldl RM.onEvent { pt := pt, me := me, eth0Addr := eth }) (applyEvents [] evs) :=
  agree_fold pt evs _ [] rfl fun _ => ⟨rfl, rfl⟩

theorem fresh_eq_at (pt me eth : Nat) (evs1 evs2 : List Event) (d : Cidr)
    (hsame : aget (applyEvents [] evs1) d = aget (applyEvents [] evs2) d) :
    aget (evs1.foldl RM.onEvent { pt := pt, me := me, eth0Addr := eth }).routes d =
      aget (evs2.foldl RM.onEvent { pt := pt, me := me, eth0Addr := eth }).routes d ∧
    aget (evs1.foldl RM.onEvent { pt := pt, me := me, eth0Addr := eth }).localBlocks d =
      aget (evs2.foldl RM.onEvent { pt := pt, me := me, eth0Addr := eth }).localBlocks d := by
  have a1 := fresh_agree pt me eth evs1 d
  have a2 := fresh_agree pt me eth evs2 d
  rw [a1.1, a1.2, a2.1, a2.2, hsame]
  exact ⟨rfl, rfl⟩

end CalicoVerif.C43
