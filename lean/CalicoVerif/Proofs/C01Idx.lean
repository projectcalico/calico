import CalicoVerif.Proofs.C04Tables
/-! C01 helper (about the C04 model): the member index's tables as the composed graph reads them (`epsView`, `setView`:
the endpoint data without the match cache, the IP-set definitions without the reference counts), and the table effects of
the operations in these terms, from `C04Tables`. -/
namespace CalicoVerif.C04
namespace C01Ext

variable {Sel : Type} [DecidableEq Sel]

section tables
def stripE (e : EpData) : EpData := { e with cached := [] }
def epsView (st : Idx Sel) (id : String) : Option EpData := (alGet id st.eps).map stripE
def triple (d : IpSetData Sel) : Sel × Nat × String := (d.sel, d.proto, d.port)
def setView (st : Idx Sel) (s : String) : Option (Sel × Nat × String) := (alGet s st.ipsets).map triple

structure TF (st st' : Idx Sel) : Prop where
  eps : st'.eps = st.eps
  parents : st'.parents = st.parents
  sets : ∀ s, setView st' s = setView st s

def ofData (t : Labels × List Cidr × List Port × List String) : EpData :=
  { labels := t.1, nets := t.2.1, ports := t.2.2.1, parents := t.2.2.2, cached := [] }

omit [DecidableEq Sel] in
/-- `epsView` / `setView` are C04's `epData` / `cfgAt`, so the table effects of the operations are those of `C04Tables` -/
theorem epsView_eq (st : Idx Sel) (k : String) : epsView st k = (epData st k).map ofData := by
  unfold epsView epData; cases alGet k st.eps <;> rfl

omit [DecidableEq Sel] in
theorem setView_eq (st : Idx Sel) (s : String) : setView st s = cfgAt st s := rfl

omit [DecidableEq Sel] in
theorem epsView_congr {st st' : Idx Sel} (h : ∀ id, epData st' id = epData st id) (k : String) :
    epsView st' k = epsView st k := by rw [epsView_eq, epsView_eq, h]

omit [DecidableEq Sel] in
theorem setView_congr {st st' : Idx Sel} (h : ∀ s, cfgAt st' s = cfgAt st s) (s : String) :
    setView st' s = setView st s := h s

omit [DecidableEq Sel] in
theorem _root_.CalicoVerif.C04.EpWritten.epsView {id : String} {v : Option (Labels × List Cidr × List Port × List String)}
    {st st' : Idx Sel} (h : EpWritten id v st st') (k : String) :
    epsView st' k = if k = id then v.map ofData else epsView st k := by
  rw [epsView_eq, epsView_eq, h.eps]; split <;> rfl

omit [DecidableEq Sel] in
theorem _root_.CalicoVerif.C04.SetWritten.setView {s : String} {v : Option (Sel × Nat × String)} {st st' : Idx Sel}
    (h : SetWritten s v st st') (k : String) : setView st' k = if k = s then v else setView st k := h.cfg k
end tables

end C01Ext
end CalicoVerif.C04
