import CalicoVerif.Proofs.C15Load
/-! Hook rules in the chains Felix shares with other software, for one iteration that re-reads the table: the lines
`iaLines` writes for a chain whose hooks are out of sync, and what they make of its rules. -/
namespace CalicoVerif.C15

def toFR (c : String) (r : KRule) : FR := if r.isForeign then FR.dash else FR.a c r

/-- Kernel rules carrying Felix's hash comment have a non-empty hash (the hash regexp needs one character). -/
def HashNonEmpty (rs : List KRule) : Prop := ∀ r ∈ rs, (r.hash = "" ↔ r.isForeign = true)

theorem readFull_get (t : T) (K : Kernel) (hk : K.keys.Nodup) (c : String) :
    (readFull t K).get c = ((K.get c).filter (fun rs => !t.ours c && rs.any (fun r => !r.isForeign))).map
      (fun rs => rs.map (toFR c)) :=
  (Assoc.lookup_map_val (fun c (rs : List KRule) => rs.map (toFR c)) _ c).trans
    (congrArg _ (Assoc.lookup_filter_of_nodup _ K hk c))

theorem delLines_aligned (c : String) : ∀ (rs : List KRule), HashNonEmpty rs →
    delLines c (rs.map KRule.hash) (rs.map (toFR c)) = some ((rs.filter (fun r => !r.isForeign)).map (RLine.delVal c))
  | [], _ => rfl
  | r :: rs, hne => by
    have hr := hne r List.mem_cons_self
    have ih := delLines_aligned c rs fun x hx => hne x (List.mem_cons_of_mem _ hx)
    cases hf : r.isForeign
    · have hh : (r.hash == "") = false := beq_eq_false_iff_ne.2 fun e => by rw [hr.1 e] at hf; cases hf
      simp only [List.map_cons, delLines, hh, Bool.false_eq_true, if_false, ih, Option.map_some, List.filter_cons, hf,
        Bool.not_false, if_true, toFR]
    · simp only [List.map_cons, delLines, hr.2 hf, beq_self_eq_true, if_true, List.tail_cons, ih, List.filter_cons, hf,
        Bool.not_true, Bool.false_eq_true, if_false]

theorem delLines_allEmpty (c : String) : ∀ (hs : List String), (∀ h ∈ hs, h = "") → delLines c hs [] = some []
  | [], _ => rfl
  | h :: hs, he => by
    simp only [delLines, he h List.mem_cons_self, beq_self_eq_true, if_true, List.tail_nil]
    exact delLines_allEmpty c hs fun x hx => he x (List.mem_cons_of_mem _ hx)

theorem foreign_filter (rs : List KRule) :
    rs.filter (fun r => !((rs.filter (fun r => !r.isForeign)).contains r)) = foreignSub rs := by
  refine List.filter_congr fun r hr => ?_
  cases hf : r.isForeign <;> simp [hr, hf]

theorem delLines_loaded (t : T) (K : Kernel) (c : String) (rs : List KRule) (hkeys : K.keys.Nodup)
    (hno : t.ours c = false) (hK : K.get c = some rs) (hhash : HashNonEmpty rs) :
    delLines c (rs.map KRule.hash) (((t.load K).fullRules.get c).getD []) =
      some ((rs.filter (fun r => !r.isForeign)).map (RLine.delVal c)) := by
  obtain ⟨t2, hrel, hload⟩ := load_rel t K
  rw [hload]
  show delLines c _ (((readFull t2 K).get c).getD []) = _
  rw [readFull_get t2 K hkeys c, hK, hrel.ours, hno, Option.filter]
  by_cases hany : rs.any (fun r => !r.isForeign) = true
  · rw [hany]; exact delLines_aligned c rs hhash
  · have hall : ∀ r ∈ rs, r.isForeign = true := fun r hr => by
      cases hf : r.isForeign
      · exact absurd (List.any_eq_true.2 ⟨r, hr, by rw [hf]; rfl⟩) hany
      · rfl
    rw [Bool.not_eq_true] at hany
    rw [hany, List.filter_eq_nil_iff.2 fun r hr => by rw [hall r hr]; decide]
    exact delLines_allEmpty c _ fun h hh => by
      obtain ⟨r, hr, rfl⟩ := List.mem_map.1 hh
      exact (hhash r hr).2 (hall r hr)

theorem iaLines_out_of_sync (t : T) (K : Kernel) (c : String) (rs : List KRule) (hkeys : K.keys.Nodup)
    (hno : t.ours c = false) (hK : K.get c = some rs) (hhash : HashNonEmpty rs)
    (hnot : (some (rs.map KRule.hash) == some (t.expectedIA c (numEmpty (rs.map KRule.hash)))) = false) :
    iaLinesOf ((t.load K).iaLines c) =
      (rs.filter (fun r => !r.isForeign)).map (RLine.delVal c) ++
        (if t.insertMode then ((((t.ins.get c).getD []).map DRule.k).reverse).map (RLine.insert c)
         else (((t.ins.get c).getD []).map DRule.k).map (RLine.append c)) ++
        (((t.app.get c).getD []).map DRule.k).map (RLine.append c) := by
  obtain ⟨t2, hrel, hload⟩ := load_rel t K
  have hdp : (t.load K).dpHashes.get c = some (rs.map KRule.hash) := by
    rw [hload]; show (readHashes K).get c = _; rw [readHashes_get, hK]; rfl
  have hexp : (t.load K).expectedIA c = t.expectedIA c := by
    funext n; rw [hload]; simp only [T.expectedIA, hrel.ins, hrel.app, hrel.insertMode]
  unfold T.iaLines
  simp only [hdp, Option.getD_some, hexp, hnot, Bool.false_eq_true, if_false,
    delLines_loaded t K c rs hkeys hno hK hhash, iaLinesOf, List.map_map, List.map_reverse]
  rw [hload]
  simp only [hrel.ins, hrel.app, hrel.insertMode]
  rfl

theorem hooks_at {t : T} {lines newH newFull} (h : t.plan = some (lines, newH, newFull)) {c : String}
    (hne : c ≠ "") (hcd : c ∉ t.dirty) (hcIA : c ∈ t.dirtyIA) (hn : t.dirtyIA.Nodup) (o : Option (List KRule)) :
    effAt c lines o = effAt c (iaLinesOf (t.iaLines c)) o := by
  obtain ⟨rfl, -⟩ := plan_some h
  have hkeys : (t.iaPlan.map (·.1)).Nodup := by
    rw [T.iaPlan, List.map_map]
    exact (List.map_id _).symm ▸ sortS_nodup hn
  rw [effAt_append, effAt_append, effAt_quiet (c := c) fun l hl e => hcd (e ▸ headLines_chain _ l hl), Option.bind_some,
    T.hookLines, effAt_flatMap (·.1) _ c o t.iaPlan hkeys
      (fun g hg hgc l hl e => by
        obtain ⟨x, _, rfl⟩ := List.mem_map.1 hg
        rcases (iaLinesOf_hook _ x l hl).chain with e' | ⟨s, rfl⟩
        · exact hgc (e'.symm.trans e)
        · exact hne e.symm)
      (c, t.iaLines c) (List.mem_map.2 ⟨c, mem_sortS.2 hcIA, rfl⟩) rfl]
  cases effAt c (iaLinesOf (t.iaLines c)) o with
  | none => rfl
  | some o' =>
    exact effAt_quiet (c := c) (fun l hl e => by
      obtain ⟨x, hx, rfl⟩ := List.mem_map.1 hl
      exact hcd (e ▸ (mem_delChains.1 hx).1)) o'

theorem effAt_hook_lines (c : String) (rs ins app : List KRule) (mode : Bool) {o : Option (List KRule)}
    (h : effAt c ((rs.filter (fun r => !r.isForeign)).map (RLine.delVal c) ++
        (if mode then ins.reverse.map (RLine.insert c) else ins.map (RLine.append c)) ++
        app.map (RLine.append c)) (some rs) = some o) :
    o = some (if mode then ins ++ foreignSub rs ++ app else foreignSub rs ++ ins ++ app) := by
  rw [effAt_append, effAt_append] at h
  obtain ⟨oc, h, happ⟩ := Option.bind_eq_some_iff.1 h
  obtain ⟨od, hdels, hins⟩ := Option.bind_eq_some_iff.1 h
  cases effAt_delVals c _ rs od hdels
  rw [foreign_filter] at hins
  cases mode
  · rw [if_neg (by decide), effAt_appends] at hins
    cases hins
    rw [effAt_appends] at happ
    rw [if_neg (by decide), ← Option.some.inj happ]
  · rw [if_pos rfl, effAt_inserts] at hins
    cases hins
    rw [effAt_appends] at happ
    rw [if_pos rfl, ← Option.some.inj happ, List.reverse_reverse]

end CalicoVerif.C15
