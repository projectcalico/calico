import CalicoVerif.Model.C37
/-! C37: `getLengthLimitedID` by its two branches (`gll_shortened`, `gll_verbatim`, decided by `shortens`), what a
shortened name looks like (`Shortened`, `kept`), and prefixes (`append_ne_of_incomparable`).  Core Lean only. -/
namespace CalicoVerif.C37

def eff (s : Str) : Str := if s.length = 0 then [us] else s

theorem eff_of_ne_nil {s : Str} (h : s ≠ []) : eff s = s := by
  cases s with
  | nil => exact absurd rfl h
  | cons a t => simp [eff]

theorem eff_length_pos (s : Str) : 0 < (eff s).length := by
  unfold eff; split
  · simp
  · omega

def kept (hash : Str → Str) (p s : Str) (m : Int) : Nat :=
  (min (m - 1 - (p.length : Int)) ((hash (eff s)).length : Int)).toNat

theorem kept_of_len {hash : Str → Str} (hlen : ∀ s, (hash s).length = 43) (p s : Str) (m : Int) :
    kept hash p s m = (min (m - 1 - (p.length : Int)) 43).toNat := by
  unfold kept; rw [hlen]; rfl

theorem gll_shortened {hash : Str → Str} {p s : Str} {m : Int} (h : shortens p s m = true) :
    getLengthLimitedID hash p s m =
      if m - 1 - (p.length : Int) ≤ 0 then none
      else some (p ++ [us] ++ (hash (eff s)).take (kept hash p s m)) := by
  simp only [shortens, decide_eq_true_eq] at h
  simp only [getLengthLimitedID, eff, kept]
  rw [if_pos h]

theorem gll_verbatim {hash : Str → Str} {p s : Str} {m : Int} (h : shortens p s m = false) :
    getLengthLimitedID hash p s m = some (p ++ eff s) := by
  simp only [shortens, decide_eq_false_iff_not] at h
  simp only [getLengthLimitedID, eff]
  rw [if_neg h]

/-- `shortenedLen` of the Go code. -/
def shortenedLen (p : Str) (m : Int) : Int := min m ((p.length : Int) + 1 + 43)

theorem shortens_false_iff {p s : Str} {m : Int} : shortens p s m = false ↔
    ((p.length : Int) + ((eff s).length : Int) ≤ m ∧
      ((p.length : Int) + ((eff s).length : Int) = shortenedLen p m → (eff s).take 1 ≠ [us])) := by
  simp only [shortens, eff, shortenedLen, decide_eq_false_iff_not, not_or, not_and, Int.not_lt]

theorem shortens_iff {p s : Str} {m : Int} : shortens p s m = true ↔
    ((p.length : Int) + ((eff s).length : Int) > m ∨
      ((p.length : Int) + ((eff s).length : Int) = shortenedLen p m ∧ (eff s).take 1 = [us])) := by
  simp only [shortens, eff, shortenedLen, decide_eq_true_eq]

theorem isPrefix_append (p r : Str) : isPrefix p (p ++ r) = true := by
  induction p with
  | nil => rfl
  | cons a p ih => simp [isPrefix, ih]

theorem append_eq_append_prefix {p1 p2 r1 r2 : Str} (h : p1 ++ r1 = p2 ++ r2) :
    isPrefix p1 p2 = true ∨ isPrefix p2 p1 = true := by
  rcases List.append_eq_append_iff.1 h with ⟨a, rfl, -⟩ | ⟨a, rfl, -⟩
  · exact .inl (isPrefix_append p1 a)
  · exact .inr (isPrefix_append p2 a)

theorem gll_has_prefix {hash : Str → Str} {p s : Str} {m : Int} {n : Str}
    (h : getLengthLimitedID hash p s m = some n) : ∃ r, n = p ++ r := by
  cases hs : shortens p s m with
  | true =>
    rw [gll_shortened hs] at h
    split at h
    · simp at h
    · simp only [Option.some.injEq] at h
      exact ⟨_, by rw [← h, List.append_assoc]⟩
  | false =>
    rw [gll_verbatim hs] at h
    simp only [Option.some.injEq] at h
    exact ⟨_, h.symm⟩

/-- What `getLengthLimitedID` returns when it shortens. -/
structure Shortened (hash : Str → Str) (p s : Str) (m : Int) (n : Str) : Prop where
  eq : n = p ++ us :: (hash (eff s)).take (kept hash p s m)
  length : (n.length : Int) = (p.length : Int) + 1 + (kept hash p s m : Int)
  kept_eq : (kept hash p s m : Int) = min (m - 1 - (p.length : Int)) ((hash (eff s)).length : Int)
  room : 0 < m - 1 - (p.length : Int)

theorem gll_shortened_some {hash : Str → Str} {p s : Str} {m : Int} {n : Str}
    (hs : shortens p s m = true) (h : getLengthLimitedID hash p s m = some n) : Shortened hash p s m n := by
  rw [gll_shortened hs] at h
  split at h
  · simp at h
  · next h1 =>
    simp only [Option.some.injEq] at h
    have hk : (kept hash p s m : Int) = min (m - 1 - (p.length : Int)) ((hash (eff s)).length : Int) := by
      unfold kept; rw [Int.toNat_of_nonneg]; omega
    refine ⟨by rw [← h]; simp, ?_, hk, by omega⟩
    rw [← h]
    simp only [List.length_append, List.length_cons, List.length_nil, List.length_take]
    omega

theorem append_ne_of_incomparable {p1 p2 : Str} (hinc : incomparable p1 p2 = true) (r1 r2 : Str) :
    p1 ++ r1 ≠ p2 ++ r2 := by
  intro e
  simp only [incomparable, Bool.and_eq_true, Bool.not_eq_true'] at hinc
  rcases append_eq_append_prefix e with h | h
  · rw [hinc.1] at h; cases h
  · rw [hinc.2] at h; cases h

theorem combineAndTrunc_eq (p s : Str) (M : Nat) : combineAndTrunc p s M = (p ++ s).take M := by
  unfold combineAndTrunc
  split
  · rfl
  · rw [List.take_of_length_le (by omega)]

end CalicoVerif.C37
