import CalicoVerif.Model.C25
/-!
C25 — specification-side definitions (downstream view, connection view, the
system driven by an arbitrary interleaving of upstream and downstream ops) and
the helper lemmas for `Props/C25.lean`.
-/
namespace CalicoVerif.C25

/-- What a consumer stores for a key: (value, revision). -/
abbrev V := Nat × Nat
abbrev View := Key → Option V

def Upd.entry (u : Upd) : Option V := u.val.map (fun v => (v, u.rev))

def applyUpd (m : View) (u : Upd) : View := fun k => if u.key = k then u.entry else m k

def ups (p : List Item) : List Upd := p.filterMap (fun | .up u => some u | .st _ => none)

def effU (k : Key) (a : Option V) (us : List Upd) : Option V :=
  us.foldl (fun acc u => if u.key = k then u.entry else acc) a

/-- Interleaving alphabet: upstream calls and single-batch pulls (any batch size). -/
inductive Op where
  | upd (us : List Upd)
  | status (s : Nat) (order : List Key)
  | restart
  | pull (n : Nat)
deriving Repr

structure Sys where
  buf : Buf
  /-- downstream consumer's map: result of all deliveries so far -/
  down : View
  /-- the latest connection's view: all updates since the last restart -/
  view : View
  /-- the latest connection has reported InSync -/
  insync : Bool
  /-- every upstream deletion so far was for a key present in the connection's view -/
  wf : Bool
  /-- every delivered update, with "downstream held the key just before the delivery" -/
  log : List (Upd × Bool)

def Sys.init : Sys :=
  { buf := Buf.new, down := fun _ => none, view := fun _ => none, insync := false, wf := true, log := [] }

/-- The consumer processing one batch in order (`dropLockAndSendBatch` → sink). -/
def deliver (down : View) (log : List (Upd × Bool)) : List Item → View × List (Upd × Bool)
  | [] => (down, log)
  | .st _ :: r => deliver down log r
  | .up u :: r => deliver (applyUpd down u) (log ++ [(u, (down u.key).isSome)]) r

/-- One iteration of `OnUpdates` together with upstream's bookkeeping (the
connection's view, and whether upstream is still well-formed: deletions only for
keys the connection's view holds). -/
def Sys.upd1 (s : Sys) (u : Upd) : Sys :=
  { s with buf := onUpdate s.buf u, view := applyUpd s.view u,
           wf := s.wf && (u.val.isSome || (s.view u.key).isSome) }

def Sys.step (s : Sys) : Op → Sys
  | .upd us => us.foldl Sys.upd1 s
  | .status st order => { s with buf := onStatus s.buf st order, insync := s.insync || st == inSync }
  | .restart => { s with buf := onRestart s.buf, view := fun _ => none, insync := false }
  | .pull n =>
    let r := pullNextBatch s.buf n
    let d := deliver s.down s.log r.2
    { s with buf := r.1, down := d.1, log := d.2 }

def Sys.run (s : Sys) (ops : List Op) : Sys := ops.foldl Sys.step s

theorem ups_up (u : Upd) (p : List Item) : ups (.up u :: p) = u :: ups p := rfl

theorem ups_append (p q : List Item) : ups (p ++ q) = ups p ++ ups q := List.filterMap_append

theorem ups_removeKey (p : List Item) (k : Key) :
    ups (removeKey p k) = (ups p).filter (fun u => u.key != k) := by
  induction p with
  | nil => rfl
  | cons i p ih =>
    cases i with
    | st s => simpa [ups, removeKey, Item.hasKey] using ih
    | up u =>
      by_cases h : u.key = k
      · simpa [ups, removeKey, Item.hasKey, h] using ih
      · simpa [ups, removeKey, Item.hasKey, h] using ih

theorem ups_replaceKey (p : List Item) (u : Upd) :
    ups (replaceKey p u) = (ups p).map (fun x => if x.key = u.key then u else x) := by
  induction p with
  | nil => rfl
  | cons i p ih =>
    cases i with
    | st s => exact ih
    | up x =>
      rw [ups_up, List.map_cons, ← ih]
      simp only [replaceKey, List.map_cons, Item.hasKey, beq_iff_eq]
      split <;> rfl

theorem isPending_iff (p : List Item) (k : Key) :
    isPending p k = true ↔ ∃ u ∈ ups p, u.key = k := by
  induction p with
  | nil => simp [isPending, ups]
  | cons i p ih =>
    cases i with
    | st s => exact ih
    | up x =>
      simp only [ups_up, List.mem_cons, exists_eq_or_imp, ← ih]
      simp only [isPending, List.any_cons, Item.hasKey, Bool.or_eq_true, beq_iff_eq]

theorem isPending_false_iff (p : List Item) (k : Key) :
    isPending p k = false ↔ ∀ u ∈ ups p, u.key ≠ k := by
  rw [← Bool.not_eq_true, isPending_iff]
  simp

theorem effU_append (k : Key) (a : Option V) (p q : List Upd) :
    effU k a (p ++ q) = effU k (effU k a p) q := List.foldl_append

theorem effU_not_mem (k : Key) (a : Option V) (us : List Upd) (h : ∀ u ∈ us, u.key ≠ k) :
    effU k a us = a := by
  induction us generalizing a with
  | nil => rfl
  | cons u us ih =>
    have hu : u.key ≠ k := h u (List.mem_cons_self ..)
    simp only [effU, List.foldl_cons, hu, if_false]
    exact ih a (fun x hx => h x (List.mem_cons_of_mem _ hx))

theorem effU_filter (k' k : Key) (a : Option V) (us : List Upd) :
    effU k' a (us.filter (fun u => u.key != k)) = if k' = k then a else effU k' a us := by
  induction us generalizing a with
  | nil => simp [effU]
  | cons u us ih =>
    by_cases h : u.key = k
    · simp only [List.filter_cons, h, bne_self_eq_false, Bool.false_eq_true, if_false]
      rw [ih]
      by_cases hk : k' = k
      · simp [hk]
      · have : ¬ k = k' := fun e => hk e.symm
        simp [hk, effU, h, this]
    · have hb : (u.key != k) = true := by simpa using h
      simp only [List.filter_cons, hb, if_true]
      simp only [effU, List.foldl_cons] at ih ⊢
      rw [ih]
      by_cases hk : k' = k
      · have : ¬ u.key = k' := by rw [hk]; exact h
        simp [hk, h]
      · simp [hk]

theorem effU_replace (k' : Key) (a : Option V) (us : List Upd) (u : Upd) :
    effU k' a (us.map (fun x => if x.key = u.key then u else x)) =
      if k' = u.key then (if ∃ x ∈ us, x.key = u.key then u.entry else a) else effU k' a us := by
  induction us generalizing a with
  | nil => simp [effU]
  | cons x us ih =>
    simp only [List.map_cons, effU, List.foldl_cons] at ih ⊢
    rw [ih]
    by_cases hk : k' = u.key
    · subst hk
      by_cases hx : x.key = u.key
      · simp [hx]
      · simp [hx]
    · by_cases hx : x.key = u.key
      · have h1 : ¬ u.key = k' := fun e => hk e.symm
        simp [hk, hx, h1]
      · simp [hk, hx]

theorem foldl_applyUpd (m : View) (us : List Upd) (k : Key) :
    (us.foldl applyUpd m) k = effU k (m k) us := by
  induction us generalizing m with
  | nil => rfl
  | cons u us ih =>
    simp only [List.foldl_cons, effU]
    rw [ih]
    simp [applyUpd, effU]

theorem mem_setAdd (l : List Key) (k x : Key) : x ∈ setAdd l k ↔ x ∈ l ∨ x = k := by
  unfold setAdd
  split
  · rename_i h
    have : k ∈ l := by simpa using h
    constructor
    · exact Or.inl
    · rintro (h | rfl)
      · exact h
      · exact this
  · simp

theorem mem_setDiscard (l : List Key) (k x : Key) : x ∈ setDiscard l k ↔ x ∈ l ∧ x ≠ k := by
  simp [setDiscard]

end CalicoVerif.C25
