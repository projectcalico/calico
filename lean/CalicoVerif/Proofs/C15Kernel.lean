import CalicoVerif.Model.C15
import CalicoVerif.Proofs.Assoc
/-! iptables-restore as modelled: a line reads and writes only the chain it names (`RLine.eff`), so a transaction can be
followed at one chain (`effAt`, `krestore_get`): what it does there is what the lines naming that chain do to its
rules, and every one of them succeeded, so none of them is malformed. -/
namespace CalicoVerif.C15
namespace Map
variable {α : Type}
theorem get_erase (m : Map α) (k k' : String) :
    (m.erase k).get k' = if k' = k then none else m.get k' := Assoc.lookup_erase m k k'
theorem get_set (m : Map α) (k k' : String) (v : α) :
    (m.set k v).get k' = if k' = k then some v else m.get k' := Assoc.lookup_set m k k' v
theorem has_iff_mem_keys (m : Map α) (n : String) : m.has n = true ↔ n ∈ m.keys :=
  Assoc.lookup_isSome_iff_mem_keys m n

theorem get_put (m : Map α) (k k' : String) (o : Option α) :
    Map.get (Assoc.put m k o) k' = if k' = k then o else m.get k' := Assoc.lookup_put m k k' o

end Map

open Assoc (put puts)

/-- What a restore line does to the chain it names, given that chain's rules (`none`: there is no such chain):
the chain's new rules (`none`: the chain is deleted), or failure. -/
def RLine.eff : RLine → Option (List KRule) → Option (Option (List KRule))
  | .fwd _, _ => some (some [])
  | .append _ r, some rs => some (some (rs ++ [r]))
  | .insert _ r, some rs => some (some (r :: rs))
  | .replace _ n r, some rs => if 1 ≤ n ∧ n ≤ rs.length then some (some (rs.set (n - 1) r)) else none
  | .delIdx _ n, some rs => if 1 ≤ n ∧ n ≤ rs.length then some (some (rs.eraseIdx (n - 1))) else none
  | .delVal _ r, some rs => if rs.contains r then some (some (rs.filter (· != r))) else none
  | .delChain _, some [] => some none
  | _, _ => none

theorem kline_eq_eff (K : Kernel) (l : RLine) : kline K l = (l.eff (K.get l.chain)).map (put K l.chain) := by
  cases l with
  | fwd c | bad t => rfl
  | append c r | insert c r => simp only [kline, RLine.chain]; cases K.get c <;> rfl
  | replace c n r | delIdx c n | delVal c r =>
    simp only [kline, RLine.chain]
    cases K.get c with
    | none => rfl
    | some rs => simp only [RLine.eff]; split <;> rfl
  | delChain c =>
    simp only [kline, RLine.chain]
    cases K.get c with
    | none => rfl
    | some rs => cases rs <;> rfl

theorem krestore_cons (K : Kernel) (l : RLine) (ls : List RLine) :
    krestore K (l :: ls) = (l.eff (K.get l.chain)).bind fun o => krestore (put K l.chain o) ls := by
  rw [krestore, kline_eq_eff, Option.bind_map]; rfl

def effAt (c : String) : List RLine → Option (List KRule) → Option (Option (List KRule))
  | [], o => some o
  | l :: ls, o => if l.chain = c then (l.eff o).bind (effAt c ls) else effAt c ls o

theorem krestore_get (c : String) : ∀ (ls : List RLine) (K K' : Kernel), krestore K ls = some K' →
    effAt c ls (K.get c) = some (K'.get c)
  | [], _, _, h => by cases h; rfl
  | l :: ls, K, K', h => by
    obtain ⟨o, he, h⟩ := Option.bind_eq_some_iff.1 ((krestore_cons K l ls).symm.trans h)
    have ih := krestore_get c ls _ K' h
    rw [Map.get_put] at ih
    rw [effAt]
    split
    · rename_i hc
      subst hc
      rw [if_pos rfl] at ih
      rw [he]; exact ih
    · rename_i hc
      rwa [if_neg (Ne.symm hc)] at ih

theorem effAt_append (c : String) (a b : List RLine) (o : Option (List KRule)) :
    effAt c (a ++ b) o = (effAt c a o).bind (effAt c b) := by
  induction a generalizing o with
  | nil => rfl
  | cons l a ih =>
    rw [List.cons_append, effAt, effAt]
    split
    · cases l.eff o with
      | none => rfl
      | some o' => exact ih o'
    · exact ih o

theorem effAt_induct {c : String} {P : Option (List KRule) → Prop} : ∀ (ls : List RLine) (o o' : Option (List KRule)),
    (∀ l ∈ ls, l.chain = c → ∀ a b, l.eff a = some b → P a → P b) → effAt c ls o = some o' → P o → P o'
  | [], _, _, _, h, hP => by cases h; exact hP
  | l :: ls, o, o', hl, h, hP => by
    have hl' := fun l' hl' => hl l' (List.mem_cons_of_mem _ hl')
    rw [effAt] at h
    split at h
    · rename_i hc
      obtain ⟨o1, h1, h2⟩ := Option.bind_eq_some_iff.1 h
      exact effAt_induct ls o1 o' hl' h2 (hl l List.mem_cons_self hc o o1 h1 hP)
    · exact effAt_induct ls o o' hl' h hP

theorem effAt_quiet {c : String} {ls : List RLine} (h : ∀ l ∈ ls, l.chain ≠ c) (o : Option (List KRule)) :
    effAt c ls o = some o := by
  induction ls with
  | nil => rfl
  | cons l ls ih =>
    rw [effAt, if_neg (h l List.mem_cons_self)]
    exact ih fun l' hl' => h l' (List.mem_cons_of_mem _ hl')

theorem krestore_of_effAt (c : String) : ∀ (ls : List RLine) (K : Kernel) (o : Option (List KRule)),
    (∀ l ∈ ls, l.chain = c) → effAt c ls (K.get c) = some o →
    ∃ K', krestore K ls = some K' ∧ K'.get c = o ∧ ∀ x, x ≠ c → K'.get x = K.get x
  | [], K, o, _, h => ⟨K, rfl, Option.some.inj h, fun _ _ => rfl⟩
  | l :: ls, K, o, hl, h => by
    cases hl l List.mem_cons_self
    rw [effAt, if_pos rfl] at h
    obtain ⟨o1, h1, h2⟩ := Option.bind_eq_some_iff.1 h
    obtain ⟨K', e1, e2, e3⟩ := krestore_of_effAt _ ls (put K l.chain o1) o
      (fun l' hl' => hl l' (List.mem_cons_of_mem _ hl')) (by rwa [Map.get_put, if_pos rfl])
    exact ⟨K', by rw [krestore_cons, h1]; exact e1, e2, fun x hx => (e3 x hx).trans (by rw [Map.get_put, if_neg hx])⟩

theorem effAt_flatMap {β : Type} (key : β → String) (f : β → List RLine) (c : String) (o : Option (List KRule)) :
    ∀ (G : List β), (G.map key).Nodup → (∀ g ∈ G, key g ≠ c → ∀ l ∈ f g, l.chain ≠ c) →
    ∀ g ∈ G, key g = c → effAt c (G.flatMap f) o = effAt c (f g) o
  | [], _, _, g, hg, _ => nomatch hg
  | a :: G, hn, hq, g, hg, hgc => by
    rw [List.map_cons, List.nodup_cons] at hn
    have hq' := fun g hg => hq g (List.mem_cons_of_mem _ hg)
    rw [List.flatMap_cons, effAt_append]
    rcases List.mem_cons.1 hg with rfl | hg
    · have : ∀ l ∈ G.flatMap f, l.chain ≠ c := fun l hl => by
        obtain ⟨b, hb, hlb⟩ := List.mem_flatMap.1 hl
        exact hq' b hb (fun e => hn.1 (List.mem_map.2 ⟨b, hb, e.trans hgc.symm⟩)) l hlb
      cases effAt c (f g) o with
      | none => rfl
      | some o' => exact effAt_quiet this o'
    · have hac : key a ≠ c := fun e => hn.1 (List.mem_map.2 ⟨g, hg, hgc.trans e.symm⟩)
      rw [effAt_quiet (hq a List.mem_cons_self hac)]
      exact effAt_flatMap key f c o G hn.2 hq' g hg hgc

theorem effAt_map (mk : String → RLine) (hmk : ∀ x, (mk x).chain = x) (c : String) (o : Option (List KRule))
    (L : List String) (hn : L.Nodup) : effAt c (L.map mk) o = if c ∈ L then (mk c).eff o else some o := by
  split
  · rename_i hc
    rw [List.map_eq_flatMap, effAt_flatMap id (fun x => [mk x]) c o L (by rwa [List.map_id])
      (fun g _ hg l hl => by rw [List.mem_singleton.1 hl, hmk]; exact hg) c hc rfl, effAt, if_pos (hmk c)]
    cases (mk c).eff o <;> rfl
  · rename_i hc
    exact effAt_quiet (fun l hl => by obtain ⟨x, hx, rfl⟩ := List.mem_map.1 hl; rw [hmk]; rintro rfl; exact hc hx) o

def foreignSub (rs : List KRule) : List KRule := rs.filter KRule.isForeign

/-- Lines Felix writes into chains it shares: insert/append of a rule carrying Felix's hash, and
delete-by-value of a rule that is Felix's (hash comment or old-style insert). -/
def RLine.tagged : RLine → Bool
  | .insert _ r => !r.isForeign
  | .append _ r => !r.isForeign
  | .delVal _ r => !r.isForeign
  | _ => false

theorem filter_ne_foreign (rs : List KRule) (r : KRule) (hr : r.isForeign = false) :
    foreignSub (rs.filter (· != r)) = foreignSub rs := by
  unfold foreignSub
  rw [List.filter_filter]
  apply List.filter_congr
  intro x _
  cases hx : x.isForeign
  · rfl
  · have : x ≠ r := by rintro rfl; rw [hr] at hx; cases hx
    simp [this]

theorem eff_tagged_foreign {l : RLine} (ht : l.tagged = true ∨ ∃ s, l = .bad s) {a b : Option (List KRule)}
    (h : l.eff a = some b) : b.map foreignSub = a.map foreignSub := by
  rcases ht with ht | ⟨s, rfl⟩
  case inr => cases a <;> cases h
  cases l with
  | insert c r | append c r =>
    have hr : r.isForeign = false := by simpa [RLine.tagged] using ht
    cases a with
    | none => cases h
    | some rs => cases h; simp [foreignSub, hr]
  | delVal c r =>
    have hr : r.isForeign = false := by simpa [RLine.tagged] using ht
    cases a with
    | none => cases h
    | some rs =>
      rw [RLine.eff] at h
      split at h
      · cases h; simp [filter_ne_foreign rs r hr]
      · cases h
  | _ => cases ht

theorem krestore_foreign (x : String) (ls : List RLine) (K K' : Kernel)
    (ht : ∀ l ∈ ls, l.chain = x → l.tagged = true ∨ ∃ s, l = .bad s) (h : krestore K ls = some K') :
    (K'.get x).map foreignSub = (K.get x).map foreignSub :=
  effAt_induct (P := fun o => o.map foreignSub = (K.get x).map foreignSub) ls _ _
    (fun l hl hc _ _ he hP => (eff_tagged_foreign (ht l hl hc) he).trans hP) (krestore_get x ls K K' h) rfl

/-- Hash soundness for one chain: a kernel rule that carries the hash of the desired rule at its position
is that rule (rule hashes are collision-free tags; the chained hash covers the chain name, the position
and all earlier rules). -/
def Sound : List KRule → List DRule → Prop
  | l :: L, r :: rs => (l.hash = r.hash → l = r.k) ∧ Sound L rs
  | _, _ => True

theorem sound_eq : ∀ (L : List KRule) (rs : List DRule), Sound L rs →
    L.map KRule.hash = rs.map (·.hash) → L = rs.map DRule.k
  | [], [], _, _ => rfl
  | [], _ :: _, _, h | _ :: _, [], _, h => by cases h
  | l :: L, r :: rs, hs, h => by
    rw [List.map_cons, List.map_cons, List.cons.injEq] at h
    rw [List.map_cons, hs.1 h.1, sound_eq L rs hs.2 h.2]

theorem sound_of_mem : ∀ (rs : List KRule) (ds : List DRule),
    (∀ r ∈ rs, ∀ d ∈ ds, r.hash = d.hash → r = d.k) → Sound rs ds
  | [], _, _ | _ :: _, [], _ => trivial
  | r :: rs, d :: ds, h =>
    ⟨h r List.mem_cons_self d List.mem_cons_self, sound_of_mem rs ds fun r' hr' d' hd' =>
      h r' (List.mem_cons_of_mem _ hr') d' (List.mem_cons_of_mem _ hd')⟩

theorem diffLines_chain (c : String) (n i : Nat) (ps : List String) (rs : List DRule) :
    ∀ l ∈ diffLines c n i ps rs, l.chain = c := by
  fun_induction diffLines c n i ps rs with
  | case1 => intro l hl; cases hl
  | case2 _ _ _ _ _ _ ih => exact ih
  | case3 _ _ _ _ _ _ ih | case4 _ _ _ ih | case5 _ _ _ ih => exact List.forall_mem_cons.2 ⟨rfl, ih⟩

/-- `done` is the part of the chain already dealt with: deletions go to the fixed index just after the desired
rules, `n + 1`. -/
theorem diff_converges (c : String) (n i : Nat) (ps : List String) (rs : List DRule) :
    ∀ (L done : List KRule), n = done.length + rs.length → (rs ≠ [] → i = done.length) →
      L.map KRule.hash = ps → Sound L rs →
      effAt c (diffLines c n i ps rs) (some (done ++ L)) = some (some (done ++ rs.map DRule.k)) := by
  have hlen : ∀ (done : List KRule) (r : DRule) (rs : List DRule),
      done.length + (r :: rs).length = (done ++ [r.k]).length + rs.length := by
    intro done r rs; simp only [List.length_append, List.length_cons, List.length_nil]; omega
  have hb : ∀ (done : List KRule) l L, 1 ≤ done.length + 1 ∧ done.length + 1 ≤ (done ++ l :: L).length := by
    intro done l L; rw [List.length_append, List.length_cons]; omega
  fun_induction diffLines c n i ps rs with
  | case1 i =>
    intro L done _ _ hm _
    cases List.map_eq_nil_iff.1 hm
    rfl
  | case2 i p ps r rs hpr ih =>
    -- same hash: the rule stays, and by soundness it is the desired rule
    intro L done hn hi hm hs
    obtain ⟨l, L, rfl, hlp, hmL⟩ := List.map_eq_cons_iff.1 hm
    cases hs.1 (hlp.trans (beq_iff_eq.1 hpr))
    have := ih L (done ++ [r.k]) (hn.trans (hlen _ _ _))
      (fun _ => by rw [hi (List.cons_ne_nil _ _), List.length_append]; rfl) hmL hs.2
    rwa [List.append_assoc, List.append_assoc] at this
  | case3 i p ps r rs hpr ih =>
    intro L done hn hi hm hs
    obtain ⟨l, L, rfl, hlp, hmL⟩ := List.map_eq_cons_iff.1 hm
    cases hi (List.cons_ne_nil _ _)
    have := ih L (done ++ [r.k]) (hn.trans (hlen _ _ _)) (fun _ => by rw [List.length_append]; rfl) hmL hs.2
    rw [List.append_assoc, List.append_assoc] at this
    rw [effAt, RLine.chain, if_pos rfl, RLine.eff, if_pos (hb done l L), Nat.add_sub_cancel,
      List.set_append_right _ _ (Nat.le_refl _), Nat.sub_self, List.set_cons_zero]
    exact this
  | case4 i p ps ih =>
    intro L done hn _ hm _
    obtain ⟨l, L, rfl, hlp, hmL⟩ := List.map_eq_cons_iff.1 hm
    cases hn
    rw [effAt, RLine.chain, if_pos rfl, RLine.eff, List.length_nil, Nat.add_zero, if_pos (hb done l L), Nat.add_sub_cancel,
      List.eraseIdx_append_of_length_le (Nat.le_refl _), Nat.sub_self]
    exact ih L done rfl (fun h => absurd rfl h) hmL (by cases L <;> trivial)
  | case5 i r rs ih =>
    intro L done hn hi hm _
    cases List.map_eq_nil_iff.1 hm
    have := ih [] (done ++ [r.k]) (hn.trans (hlen _ _ _))
      (fun _ => by rw [hi (List.cons_ne_nil _ _), List.length_append]; rfl) rfl trivial
    rw [List.append_nil, List.append_assoc] at this
    rw [effAt, RLine.chain, if_pos rfl, List.append_nil]
    exact this

theorem effAt_delVals (c : String) : ∀ (ds rs : List KRule) (o : Option (List KRule)),
    effAt c (ds.map (RLine.delVal c)) (some rs) = some o → o = some (rs.filter (fun r => !(ds.contains r)))
  | [], rs, o, h => by cases h; exact congrArg some (List.filter_eq_self.2 fun _ _ => rfl).symm
  | d :: ds, rs, o, h => by
    rw [List.map_cons, effAt, RLine.chain, if_pos rfl, RLine.eff] at h
    split at h
    · rw [effAt_delVals c ds _ o h, List.filter_filter]
      apply congrArg some (List.filter_congr fun r _ => ?_)
      rw [List.contains_cons, Bool.not_or, bne, Bool.and_comm]
    · cases h

theorem effAt_inserts (c : String) : ∀ (xs rs : List KRule),
    effAt c (xs.map (RLine.insert c)) (some rs) = some (some (xs.reverse ++ rs))
  | [], _ => rfl
  | a :: xs, rs => by
    rw [List.map_cons, effAt, RLine.chain, if_pos rfl]
    exact (effAt_inserts c xs (a :: rs)).trans (by rw [List.reverse_cons, List.append_assoc]; rfl)

theorem effAt_appends (c : String) : ∀ (xs rs : List KRule),
    effAt c (xs.map (RLine.append c)) (some rs) = some (some (rs ++ xs))
  | [], rs => by rw [List.append_nil]; rfl
  | a :: xs, rs => by
    rw [List.map_cons, effAt, RLine.chain, if_pos rfl]
    exact (effAt_appends c xs (rs ++ [a])).trans (by rw [List.append_assoc]; rfl)

end CalicoVerif.C15
