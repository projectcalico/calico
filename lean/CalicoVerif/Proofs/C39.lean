import CalicoVerif.Model.C39
import CalicoVerif.Proofs.C36Query
/-!
C39 lemmas: the sort order, refinement of the trie loop to the plain-list loop
(`loop = loopSpec`, using the C36 theorems), the plain-list loop as a verdict per pool
(`verdictOf`, `loopSpec_cons`) and what follows for the verdicts of a pass; `TrueDisjoint` and `EffDisjoint`, in
which `Props/C39` states its clauses, with what a pass does to them.
-/
namespace CalicoVerif.C39
open CalicoVerif.C36

theorem Pool.le_iff (a b : Pool) : a.le b = true ↔
    a.category < b.category ∨ (a.category = b.category ∧
      (a.created < b.created ∨ (a.created = b.created ∧ a.name ≤ b.name))) := by
  simp [Pool.le]

theorem Pool.le_trans (a b c : Pool) (h1 : a.le b = true) (h2 : b.le c = true) : a.le c = true := by
  rw [Pool.le_iff] at *; omega

theorem Pool.le_total (a b : Pool) : (a.le b || b.le a) = true := by
  rw [Bool.or_eq_true, Pool.le_iff, Pool.le_iff]; omega

theorem sortPools_sorted (ps : List Pool) : (sortPools ps).Pairwise (fun a b => a.le b = true) :=
  List.pairwise_mergeSort Pool.le_trans Pool.le_total ps

theorem mem_sortPools {p : Pool} {ps : List Pool} : p ∈ sortPools ps ↔ p ∈ ps := List.mem_mergeSort

theorem Pool.category_le_of_le {a b : Pool} (h : a.le b = true) : a.category ≤ b.category := by
  rw [Pool.le_iff] at h; omega

theorem category_zero_iff (p : Pool) : p.category = 0 ↔ p.allocTrue = true ∧ p.deleting = false := by
  unfold Pool.category
  cases p.allocTrue <;> cases p.deleting <;> simp <;> (try split) <;> omega

/-- The tries hold exactly the CIDRs of the pools inserted so far. -/
def G (ts : Tries) (S : List Pool) : Prop :=
  ts.t4.Inv 32 ∧ ts.t6.Inv 128 ∧
  ∀ v6 c, (∃ v, (c, v) ∈ (ts.get v6).toList) ↔ ∃ q, q ∈ S ∧ q.cidr = some (v6, c)

theorem G.inv {ts : Tries} {S : List Pool} (h : G ts S) (v6 : Bool) : (ts.get v6).Inv (width v6) := by
  cases v6
  · exact h.1
  · exact h.2.1

theorem G_nil : G ⟨.nil, .nil⟩ [] := by
  refine ⟨trivial, trivial, fun v6 c => ?_⟩
  cases v6 <;> simp [Tries.get, Node.toList]

theorem trieOverlap_eq {ts : Tries} {S : List Pool} (h : G ts S) {p : Pool} {v6 : Bool} {c : Pfx}
    (hp : p.cidr = some (v6, c)) (hc : c.WF (width v6)) :
    trieOverlap (width v6) (ts.get v6) c = S.any (fun q => overlapP q p) := by
  unfold trieOverlap
  rw [overlap_eq (h.inv v6) hc, Bool.eq_iff_iff]
  simp only [SMap.overlaps, List.any_eq_true]
  constructor
  · rintro ⟨⟨c', v⟩, hm, ho⟩
    obtain ⟨q, hq, hqc⟩ := (h.2.2 v6 c').1 ⟨v, hm⟩
    exact ⟨q, hq, by simp [overlapP, hqc, hp, ho]⟩
  · rintro ⟨q, hq, ho⟩
    unfold overlapP at ho
    rw [hp] at ho
    cases hqc : q.cidr with
    | none => rw [hqc] at ho; cases ho
    | some fc =>
      obtain ⟨f, c'⟩ := fc
      rw [hqc] at ho
      simp only [Bool.and_eq_true, beq_iff_eq] at ho
      obtain ⟨hf, ho⟩ := ho
      subst hf
      obtain ⟨v, hm⟩ := (h.2.2 f c').2 ⟨q, hq, hqc⟩
      exact ⟨(c', v), hm, ho⟩

theorem Tries.get_set (ts : Tries) (v6 f : Bool) (t : Node Nat) :
    (ts.set v6 t).get f = if f = v6 then t else ts.get f := by
  cases v6 <;> cases f <;> rfl

theorem G_update {ts : Tries} {S : List Pool} (h : G ts S) {p : Pool} {v6 : Bool} {c : Pfx}
    (hp : p.cidr = some (v6, c)) (hc : c.WF (width v6)) :
    G (ts.set v6 ((ts.get v6).update (width v6) c p.name)) (p :: S) := by
  obtain ⟨hi, mc, mo⟩ := update_spec hc p.name (h.inv v6)
  refine ⟨?_, ?_, fun f c' => ?_⟩
  · cases v6
    · exact hi
    · exact h.1
  · cases v6
    · exact h.2.1
    · exact hi
  · have hr : (∃ q, q ∈ p :: S ∧ q.cidr = some (f, c')) ↔
        (f = v6 ∧ c' = c) ∨ ∃ q, q ∈ S ∧ q.cidr = some (f, c') := by
      simp [or_and_right, exists_or, hp, eq_comm]
    rw [hr, ← h.2.2 f c', Tries.get_set]
    by_cases hf : f = v6
    · subst hf
      rw [if_pos rfl]
      by_cases e : c' = c
      · subst e; simp [mc]
      · simp [e, mo c' _ e]
    · simp [hf]

/-- The trie loop of `reconcileConditions` computes what the plain-list loop computes. -/
theorem loop_eq_spec : ∀ (ps : List Pool) (ts : Tries) (S : List Pool), G ts S → (∀ p ∈ ps, p.WF) →
    loop ts ps = loopSpec S ps
  | [], _, _, _, _ => rfl
  | p :: ps, ts, S, h, hw => by
    have hws : ∀ q ∈ ps, q.WF := fun q hq => hw q (List.mem_cons_of_mem _ hq)
    have hwp := hw p (List.mem_cons_self ..)
    unfold loop loopSpec
    cases hc : p.cidr with
    | none => simp only; rw [loop_eq_spec ps ts S h hws]
    | some fc =>
      obtain ⟨v6, c⟩ := fc
      have hcw : c.WF (width v6) := by unfold Pool.WF at hwp; rw [hc] at hwp; exact hwp
      simp only
      rw [trieOverlap_eq h hc hcw, loop_eq_spec ps ts S h hws,
        loop_eq_spec ps _ (p :: S) (G_update h hc hcw) hws]

theorem verdicts_eq_spec {pools : List Pool} (hw : ∀ p ∈ pools, p.WF) :
    verdicts pools = loopSpec [] (sortPools pools) :=
  loop_eq_spec _ _ _ G_nil (fun p hp => hw p (mem_sortPools.1 hp))

/-- The verdict of the plain-list loop on pool `p` when `S` has been inserted so far. -/
def verdictOf (S : List Pool) (p : Pool) : Verdict :=
  match p.cidr with
  | none => .skipped
  | some _ =>
    if p.disabled then .disabled else if p.deleting then .terminating
    else if S.any (fun q => overlapP q p) then .overlap else .active

def Verdict.inserts : Verdict → Bool
  | .terminating | .active => true
  | _ => false

theorem loopSpec_cons (S : List Pool) (p : Pool) (ps : List Pool) :
    loopSpec S (p :: ps) =
      (p, verdictOf S p) :: loopSpec (if (verdictOf S p).inserts then p :: S else S) ps := by
  unfold verdictOf
  rw [loopSpec]
  cases p.cidr with
  | none => rfl
  | some _ =>
    cases p.disabled <;> cases p.deleting <;> cases S.any (fun q => overlapP q p) <;> rfl

theorem verdictOf_skipped_iff (S : List Pool) (p : Pool) : verdictOf S p = .skipped ↔ p.cidr = none := by
  unfold verdictOf
  cases p.cidr <;> cases p.disabled <;> cases p.deleting <;> cases S.any (fun q => overlapP q p) <;> simp

theorem verdictOf_terminating_iff (S : List Pool) (p : Pool) :
    verdictOf S p = .terminating ↔ p.cidr ≠ none ∧ p.disabled = false ∧ p.deleting = true := by
  unfold verdictOf
  cases p.cidr <;> cases p.disabled <;> cases p.deleting <;> cases S.any (fun q => overlapP q p) <;> simp

theorem verdictOf_active_iff (S : List Pool) (p : Pool) :
    verdictOf S p = .active ↔
      p.cidr ≠ none ∧ p.disabled = false ∧ p.deleting = false ∧ ∀ q ∈ S, overlapP q p = false := by
  unfold verdictOf
  cases p.cidr with
  | none => simp
  | some _ =>
    cases p.disabled with
    | true => simp
    | false =>
      cases p.deleting with
      | true => simp
      | false => cases h : S.any (fun q => overlapP q p) <;> simpa using h

theorem verdictOf_overlap_iff (S : List Pool) (p : Pool) :
    verdictOf S p = .overlap ↔
      p.cidr ≠ none ∧ p.disabled = false ∧ p.deleting = false ∧ ∃ q ∈ S, overlapP q p = true := by
  unfold verdictOf
  cases p.cidr with
  | none => simp
  | some _ =>
    cases p.disabled with
    | true => simp
    | false =>
      cases p.deleting with
      | true => simp
      | false => cases h : S.any (fun q => overlapP q p) <;> simpa using h

theorem Verdict.inserts_iff (v : Verdict) : v.inserts = true ↔ v = .active ∨ v = .terminating := by
  cases v <;> simp [Verdict.inserts]

theorem mem_inserted {S : List Pool} {p s : Pool}
    (h : s ∈ (if (verdictOf S p).inserts then p :: S else S)) :
    s ∈ S ∨ (s = p ∧ (verdictOf S p = .active ∨ verdictOf S p = .terminating)) := by
  split at h
  · rename_i hi
    rcases List.mem_cons.1 h with e | h
    · exact Or.inr ⟨e, (Verdict.inserts_iff _).1 hi⟩
    · exact Or.inl h
  · exact Or.inl h

theorem loopSpec_map_fst : ∀ (ps : List Pool) (S : List Pool), (loopSpec S ps).map (·.1) = ps
  | [], _ => rfl
  | p :: ps, S => by rw [loopSpec_cons, List.map_cons, loopSpec_map_fst ps]

theorem mem_loopSpec_fst {S ps : List Pool} {pv : Pool × Verdict} (h : pv ∈ loopSpec S ps) : pv.1 ∈ ps := by
  have : pv.1 ∈ (loopSpec S ps).map (·.1) := List.mem_map.2 ⟨pv, h, rfl⟩
  rwa [loopSpec_map_fst] at this

/-- Where a verdict of the loop comes from: the pool's place in the list, and the pools inserted before it is
judged, each of which stood in `S` already or stands before it in `ps` with a verdict that inserts. -/
theorem mem_loopSpec : ∀ (ps S : List Pool) (pv : Pool × Verdict), pv ∈ loopSpec S ps →
    ∃ pre post S', ps = pre ++ pv.1 :: post ∧ pv.2 = verdictOf S' pv.1 ∧ (∀ q ∈ S, q ∈ S') ∧
      ∀ s ∈ S', s ∈ S ∨
        (s ∈ pre ∧ ((s, Verdict.active) ∈ loopSpec S ps ∨ (s, Verdict.terminating) ∈ loopSpec S ps))
  | [], _, _, h => nomatch h
  | p :: ps, S, pv, h => by
    rw [loopSpec_cons] at h ⊢
    rcases List.mem_cons.1 h with rfl | h
    · exact ⟨[], ps, S, rfl, rfl, fun _ h => h, fun _ h => Or.inl h⟩
    · obtain ⟨pre, post, S', e, ev, hsub, hS'⟩ := mem_loopSpec ps _ pv h
      refine ⟨p :: pre, post, S', by rw [e]; rfl, ev, fun q hq => hsub q ?_, fun s hs => ?_⟩
      · split
        · exact List.mem_cons_of_mem _ hq
        · exact hq
      · rcases hS' s hs with h1 | ⟨h1, h2⟩
        · rcases mem_inserted h1 with h1 | ⟨rfl, e | e⟩
          · exact Or.inl h1
          · exact Or.inr ⟨List.mem_cons_self .., Or.inl (e ▸ List.mem_cons_self ..)⟩
          · exact Or.inr ⟨List.mem_cons_self .., Or.inr (e ▸ List.mem_cons_self ..)⟩
        · exact Or.inr ⟨List.mem_cons_of_mem _ h1, h2.imp (List.mem_cons_of_mem _) (List.mem_cons_of_mem _)⟩

theorem loopSpec_pairwise : ∀ (ps : List Pool) (S : List Pool),
    (loopSpec S ps).Pairwise (fun a b => (a.2 = .active ∨ a.2 = .terminating) → b.2 = .active → overlapP a.1 b.1 = false)
  | [], _ => List.Pairwise.nil
  | p :: ps, S => by
    rw [loopSpec_cons]
    refine List.pairwise_cons.2 ⟨fun b hb ha hba => ?_, loopSpec_pairwise ps _⟩
    obtain ⟨_, _, S', _, e, hsub, _⟩ := mem_loopSpec ps _ b hb
    refine ((verdictOf_active_iff S' b.1).1 (e ▸ hba)).2.2.2 p (hsub p ?_)
    rw [if_pos ((Verdict.inserts_iff _).2 ha)]
    exact List.mem_cons_self ..

theorem loopSpec_overlap_witness (ps S : List Pool)
    (hs : ps.Pairwise (fun a b => a.le b = true)) (hS : ∀ s ∈ S, ∀ x ∈ ps, s.le x = true)
    (pv : Pool × Verdict) (h : pv ∈ loopSpec S ps) (ho : pv.2 = .overlap) :
    ∃ q, overlapP q pv.1 = true ∧ q.le pv.1 = true ∧
      (q ∈ S ∨ (q, Verdict.active) ∈ loopSpec S ps ∨ (q, Verdict.terminating) ∈ loopSpec S ps) := by
  obtain ⟨pre, post, S', e, ev, -, hS'⟩ := mem_loopSpec ps S pv h
  obtain ⟨q, hq, hqo⟩ := ((verdictOf_overlap_iff S' pv.1).1 (ev ▸ ho)).2.2.2
  subst e
  rcases hS' q hq with h1 | ⟨h1, h2⟩
  · exact ⟨q, hqo, hS q h1 _ (List.mem_append_right _ (List.mem_cons_self ..)), Or.inl h1⟩
  · exact ⟨q, hqo, (List.pairwise_append.1 hs).2.2 q h1 _ (List.mem_cons_self ..), Or.inr h2⟩

theorem mem_verdicts_of_mem {pools : List Pool} (hw : ∀ p ∈ pools, p.WF) {p : Pool} (hp : p ∈ pools) :
    ∃ v, (p, v) ∈ verdicts pools := by
  have hm : p ∈ (verdicts pools).map (·.1) := by
    rw [verdicts_eq_spec hw, loopSpec_map_fst]; exact mem_sortPools.2 hp
  obtain ⟨⟨p', v⟩, hpv, rfl⟩ := List.mem_map.1 hm
  exact ⟨v, hpv⟩

theorem mem_of_mem_verdicts {pools : List Pool} (hw : ∀ p ∈ pools, p.WF) {pv : Pool × Verdict}
    (h : pv ∈ verdicts pools) : pv.1 ∈ pools := by
  rw [verdicts_eq_spec hw] at h
  exact mem_sortPools.1 (mem_loopSpec_fst h)

theorem verdict_skipped_iff {pools : List Pool} (hw : ∀ p ∈ pools, p.WF) {pv : Pool × Verdict}
    (h : pv ∈ verdicts pools) : pv.2 = .skipped ↔ pv.1.cidr = none := by
  rw [verdicts_eq_spec hw] at h
  obtain ⟨_, _, S, _, e, _⟩ := mem_loopSpec _ _ pv h
  rw [e]; exact verdictOf_skipped_iff S pv.1

theorem verdict_terminating_iff {pools : List Pool} (hw : ∀ p ∈ pools, p.WF) {pv : Pool × Verdict}
    (h : pv ∈ verdicts pools) :
    pv.2 = .terminating ↔ pv.1.cidr ≠ none ∧ pv.1.disabled = false ∧ pv.1.deleting = true := by
  rw [verdicts_eq_spec hw] at h
  obtain ⟨_, _, S, _, e, _⟩ := mem_loopSpec _ _ pv h
  rw [e]; exact verdictOf_terminating_iff S pv.1

theorem verdicts_sorted {pools : List Pool} (hw : ∀ p ∈ pools, p.WF) :
    (verdicts pools).Pairwise (fun a b => a.1.le b.1 = true) := by
  have := sortPools_sorted pools
  rw [← loopSpec_map_fst (sortPools pools) [], ← verdicts_eq_spec hw, List.pairwise_map] at this
  exact this

theorem verdicts_pairwise {pools : List Pool} (hw : ∀ p ∈ pools, p.WF) :
    (verdicts pools).Pairwise
      (fun a b => (a.2 = .active ∨ a.2 = .terminating) → b.2 = .active → overlapP a.1 b.1 = false) :=
  verdicts_eq_spec hw ▸ loopSpec_pairwise (sortPools pools) []

theorem overlapP_comm (a b : Pool) : overlapP a b = overlapP b a := by
  unfold overlapP
  rcases a.cidr with _ | ⟨f, c⟩ <;> rcases b.cidr with _ | ⟨g, d⟩ <;> try rfl
  cases f <;> cases g <;> simp [Pfx.overlaps_comm c d]

theorem overlapP_none_left {a : Pool} (b : Pool) (h : a.cidr = none) : overlapP a b = false := by
  unfold overlapP; rw [h]

theorem overlapP_none_right (a : Pool) {b : Pool} (h : b.cidr = none) : overlapP a b = false := by
  rw [overlapP_comm, overlapP_none_left a h]

theorem overlapP_congr {a a' b b' : Pool} (h1 : a'.cidr = a.cidr) (h2 : b'.cidr = b.cidr) :
    overlapP a' b' = overlapP a b := by unfold overlapP; rw [h1, h2]

theorem applyVerdict_eq (p : Pool) (v : Verdict) : applyVerdict p v = { p with cond := (applyVerdict p v).cond } := by
  cases v <;> rfl

theorem applyVerdict_allocTrue (p : Pool) (v : Verdict) :
    (applyVerdict p v).allocTrue = true ↔ v = .active ∨ (v = .skipped ∧ p.allocTrue = true) := by
  cases v <;> simp [applyVerdict, Pool.allocTrue]

theorem reconcileFinalizer_eq (b : List (Bool × Pfx)) (p : Pool) :
    reconcileFinalizer b p = { p with fin := (reconcileFinalizer b p).fin } := by
  unfold reconcileFinalizer
  split
  · split <;> rfl
  · split
    · rfl
    · split
      · rfl
      · split <;> rfl

theorem pass_eq (b : List (Bool × Pfx)) (p : Pool) (v : Verdict) :
    reconcileFinalizer b (applyVerdict p v) =
      { p with cond := (applyVerdict p v).cond, fin := (reconcileFinalizer b (applyVerdict p v)).fin } := by
  cases v <;> exact reconcileFinalizer_eq b _

/-- With no failing write the pool after a pass is what `reconcile` makes of it: the facts about `passPool` are
the facts about `reconcileFinalizer ∘ applyVerdict`. -/
theorem passPool_none (b : List (Bool × Pfx)) (p : Pool) (v : Verdict) :
    passPool Fails.none b p v = reconcileFinalizer b (applyVerdict p v) := by
  rw [pass_eq]; rfl

theorem passPool_name (F : Fails) (b : List (Bool × Pfx)) (p : Pool) (v : Verdict) : (passPool F b p v).name = p.name := rfl
theorem passPool_cidr (F : Fails) (b : List (Bool × Pfx)) (p : Pool) (v : Verdict) : (passPool F b p v).cidr = p.cidr := rfl
theorem passPool_deleting (F : Fails) (b : List (Bool × Pfx)) (p : Pool) (v : Verdict) : (passPool F b p v).deleting = p.deleting := rfl
theorem passPool_disabled (F : Fails) (b : List (Bool × Pfx)) (p : Pool) (v : Verdict) : (passPool F b p v).disabled = p.disabled := rfl

theorem reconcile_origin {blocks : List (Bool × Pfx)} {pools : List Pool} (hw : ∀ p ∈ pools, p.WF) {p' : Pool}
    (h : p' ∈ reconcile blocks pools) : ∃ p ∈ pools, p'.cidr = p.cidr ∧ p'.name = p.name := by
  unfold reconcile gc reconcileConditions at h
  obtain ⟨x, hx, rfl⟩ := List.mem_map.1 (List.mem_filter.1 h).1
  obtain ⟨pv, hpv, rfl⟩ := List.mem_map.1 hx
  rw [← passPool_none]
  exact ⟨pv.1, mem_of_mem_verdicts hw hpv, rfl, rfl⟩

def TD (a b : Pool) : Prop := a.allocTrue = true → b.allocTrue = true → overlapP a b = false

/-- Clause (1) of the property: no two pools whose `Allocatable` condition is True overlap.  Every `reconcile`
establishes it and every benign event keeps it. -/
def TrueDisjoint (pools : List Pool) : Prop := pools.Pairwise TD

/-- Allocatable=True and actually used by IPAM (`filterIPPool` skips disabled and deleting pools). -/
def Eff (p : Pool) : Prop := p.allocTrue = true ∧ p.disabled = false ∧ p.deleting = false

def EffD (a b : Pool) : Prop := Eff a → Eff b → overlapP a b = false

/-- Clause (1) for the pools IPAM uses: weaker than `TrueDisjoint`, and what a pass keeps whichever of its
writes fail. -/
def EffDisjoint (pools : List Pool) : Prop := pools.Pairwise EffD

theorem EffD.symm {a b : Pool} (h : EffD a b) : EffD b a := fun hb ha => by rw [overlapP_comm]; exact h ha hb

theorem TrueDisjoint.effDisjoint {pools : List Pool} (h : TrueDisjoint pools) : EffDisjoint pools :=
  h.imp fun hab ha hb => hab ha.1 hb.1

theorem loopSpec_incumbents (ps S : List Pool)
    (hs : ps.Pairwise (fun a b => a.le b = true)) (hj : ps.Pairwise EffD)
    (hS0 : ∀ s ∈ S, Eff s) (hSJ : ∀ s ∈ S, ∀ x ∈ ps, EffD s x)
    (pv : Pool × Verdict) (hpv : pv ∈ loopSpec S ps) (hp0 : pv.1.category = 0) (hpd : pv.1.disabled = false)
    (hpc : pv.1.cidr ≠ none) : pv.2 = .active := by
  obtain ⟨pre, post, S', e, ev, -, hS'⟩ := mem_loopSpec ps S pv hpv
  have h0 := (category_zero_iff pv.1).1 hp0
  have hE : Eff pv.1 := ⟨h0.1, hpd, h0.2⟩
  rw [ev]
  refine (verdictOf_active_iff S' pv.1).2 ⟨hpc, hpd, h0.2, fun q hq => ?_⟩
  subst e
  rcases hS' q hq with h1 | ⟨h1, h2⟩
  · exact hSJ q h1 _ (List.mem_append_right _ (List.mem_cons_self ..)) (hS0 q h1) hE
  · -- `q` stands before an incumbent in the sorted list, so it is one; it was inserted, so it is not disabled
    have hq0 : q.category = 0 := by
      have := Pool.category_le_of_le ((List.pairwise_append.1 hs).2.2 q h1 _ (List.mem_cons_self ..)); omega
    have hqd : q.disabled = false := by
      rcases h2 with h2 | h2 <;> obtain ⟨_, _, T, _, eT, _⟩ := mem_loopSpec _ _ _ h2
      · exact ((verdictOf_active_iff T q).1 eT.symm).2.1
      · exact ((verdictOf_terminating_iff T q).1 eT.symm).2.1
    exact (List.pairwise_append.1 hj).2.2 q h1 _ (List.mem_cons_self ..)
      ⟨((category_zero_iff q).1 hq0).1, hqd, ((category_zero_iff q).1 hq0).2⟩ hE

theorem verdicts_incumbents {pools : List Pool} (hw : ∀ p ∈ pools, p.WF) (hE : EffDisjoint pools)
    {pv : Pool × Verdict} (h : pv ∈ verdicts pools) (h0 : pv.1.category = 0) (hd : pv.1.disabled = false)
    (hc : pv.1.cidr ≠ none) : pv.2 = .active := by
  rw [verdicts_eq_spec hw] at h
  exact loopSpec_incumbents (sortPools pools) [] (sortPools_sorted pools)
    ((List.mergeSort_perm pools Pool.le).symm.pairwise hE (fun h => EffD.symm h))
    (fun s hs => nomatch hs) (fun s hs => nomatch hs) pv h h0 hd hc

theorem trueDisjoint_map {pools : List Pool} (f : Pool → Pool)
    (hf : ∀ p, (f p).cond = p.cond ∧ (f p).cidr = p.cidr) (h : TrueDisjoint pools) :
    TrueDisjoint (pools.map f) := by
  unfold TrueDisjoint at *
  rw [List.pairwise_map]
  refine h.imp ?_
  intro a b hab ha hb
  rw [overlapP_congr (hf a).2 (hf b).2]
  unfold Pool.allocTrue at ha hb
  rw [(hf a).1] at ha
  rw [(hf b).1] at hb
  exact hab ha hb

theorem trueDisjoint_gc {pools : List Pool} (h : TrueDisjoint pools) : TrueDisjoint (gc pools) :=
  List.Pairwise.filter _ h

theorem updPool_eq_map (pools : List Pool) (n : Nat) (f : Pool → Pool) :
    updPool pools n f = pools.map (fun p => if p.name = n then f p else p) := rfl

end CalicoVerif.C39
