import CalicoVerif.Model.C30
/-! C30: an HNS rule tests five fields; priorities.  In a rule list whose priorities never decrease
and rise at every change of action, HNS's lowest-priority-wins evaluation is first-match evaluation;
GetPolicySetRules builds such lists.  The priority condition is `good` (between neighbours); a proof that needs it
between any two rules goes through `good_iff_pairwise` to `List.Pairwise Before`. -/
namespace CalicoVerif.C30

def HRule.protoOK (h : HRule) (p : Pkt) : Bool := h.proto == 256 || h.proto == p.proto

theorem matches_eq (h : HRule) (d : Bool) (hd : h.inbound = d) (p : Pkt) :
    h.matches p = (h.protoOK p &&
      addrsOK h.lAddrs (if d then p.dst else p.src) && addrsOK h.rAddrs (if d then p.src else p.dst) &&
      portsOK h.lPorts (if d then p.dport else p.sport) && portsOK h.rPorts (if d then p.sport else p.dport)) := by
  subst hd
  unfold HRule.matches HRule.protoOK
  cases h.inbound <;> rfl

/-- What the flattener may assume about a rule of a tier built by GetPolicySetRules for direction `d`. -/
structure RuleOK (d : Bool) (h : HRule) : Prop where
  dir : h.inbound = d
  v4l : ∀ a ∈ h.lAddrs, a.v6 = false
  v4r : ∀ a ∈ h.rAddrs, a.v6 = false

def good : List HRule → Prop
  | [] => True
  | [_] => True
  | a :: b :: rest => a.prio ≤ b.prio ∧ (a.action ≠ b.action → a.prio < b.prio) ∧ good (b :: rest)

def Before (a b : HRule) : Prop := a.prio ≤ b.prio ∧ (a.action ≠ b.action → a.prio < b.prio)

theorem Before.trans {a b c : HRule} (h1 : Before a b) (h2 : Before b c) : Before a c :=
  ⟨Nat.le_trans h1.1 h2.1, fun hne => by
    by_cases h : a.action = b.action
    · exact Nat.lt_of_le_of_lt h1.1 (h2.2 (h ▸ hne))
    · exact Nat.lt_of_lt_of_le (h1.2 h) h2.1⟩

/-- `Before` is transitive, so comparing neighbours compares all pairs. -/
theorem good_iff_pairwise : ∀ {l : List HRule}, good l ↔ l.Pairwise Before
  | [] => by simp [good]
  | [_] => by simp [good]
  | a :: b :: rest => by
    rw [good, good_iff_pairwise (l := b :: rest), List.pairwise_cons (a := a), ← and_assoc]
    refine and_congr_left fun hp => ⟨fun h x hx => ?_, fun h => h b List.mem_cons_self⟩
    rcases List.mem_cons.1 hx with rfl | hx
    · exact h
    · exact Before.trans h (List.rel_of_pairwise_cons hp hx)

theorem good_snoc (l : List HRule) (e : HRule) (hg : good l) (hlt : ∀ r ∈ l, r.prio < e.prio) : good (l ++ [e]) :=
  good_iff_pairwise.2 (List.pairwise_append.2 ⟨good_iff_pairwise.1 hg, List.pairwise_singleton _ _,
    fun r hr _ he => List.mem_singleton.1 he ▸ ⟨Nat.le_of_lt (hlt r hr), fun _ => hlt r hr⟩⟩)

def firstAction (l : List HRule) (p : Pkt) : Option Action := (l.find? (·.matches p)).map (·.action)

theorem firstAction_cons (h : HRule) (t : List HRule) (p : Pkt) :
    firstAction (h :: t) p = if h.matches p then some h.action else firstAction t p := by
  unfold firstAction
  rw [List.find?_cons]
  cases h.matches p <;> rfl

theorem firstAction_append (a b : List HRule) (p : Pkt) :
    firstAction (a ++ b) p = (firstAction a p).or (firstAction b p) := by
  unfold firstAction
  rw [List.find?_append]
  cases List.find? (fun x => x.matches p) a <;> rfl

theorem firstAction_const (l : List HRule) (a : Action) (h : ∀ x ∈ l, x.action = a) (p : Pkt) :
    firstAction l p = if l.any (·.matches p) then some a else none := by
  induction l with
  | nil => rfl
  | cons x t ih =>
    rw [firstAction_cons, List.any_cons, ih fun y hy => h y (List.mem_cons_of_mem _ hy), h x List.mem_cons_self]
    cases x.matches p <;> rfl

/-- In a good list the verdict does not depend on how HNS breaks ties: all decisive rules carry
the action of the first matching rule of the list. -/
theorem first_match_decides (l : List HRule) (hg : good l) (p : Pkt) (a : Action)
    (hf : firstAction l p = some a) :
    hnsActions l p ≠ [] ∧ ∀ b ∈ hnsActions l p, b = a := by
  obtain ⟨x, hfx, rfl⟩ := Option.map_eq_some_iff.1 hf
  obtain ⟨hxm, pre, post, hl, hpre⟩ := List.find?_eq_some_iff_append.1 hfx
  have hhead : ∀ y ∈ post, Before x y :=
    fun y hy => List.rel_of_pairwise_cons (List.pairwise_append.1 (hl ▸ good_iff_pairwise.1 hg)).2.1 hy
  have hxmem : x ∈ l := hl ▸ List.mem_append_right _ List.mem_cons_self
  have hlater : ∀ g ∈ l, g.matches p = true → g = x ∨ g ∈ post := by
    intro g hgmem hgm
    rw [hl] at hgmem
    rcases List.mem_append.1 hgmem with h | h
    · have := hpre g h
      rw [hgm] at this
      exact absurd this Bool.false_ne_true
    · exact List.mem_cons.1 h
  have hxdec : decisive l p x = true := by
    rw [decisive, hxm, Bool.true_and, List.all_eq_true]
    intro g hgmem
    cases hgm : g.matches p
    · rfl
    · rcases hlater g hgmem hgm with rfl | h
      · exact decide_eq_true (Nat.le_refl _)
      · exact decide_eq_true (hhead g h).1
  refine ⟨List.ne_nil_of_mem (List.mem_map.2 ⟨x, List.mem_filter.2 ⟨hxmem, hxdec⟩, rfl⟩), fun b hb => ?_⟩
  obtain ⟨g, hg', rfl⟩ := List.mem_map.1 hb
  obtain ⟨hgmem, hgdec⟩ := List.mem_filter.1 hg'
  rw [decisive, Bool.and_eq_true, List.all_eq_true] at hgdec
  have hle : g.prio ≤ x.prio := by simpa [hxm] using hgdec.2 x hxmem
  rcases hlater g hgmem hgdec.1 with rfl | h
  · rfl
  · exact Classical.byContradiction fun hne => Nat.lt_irrefl _ (Nat.lt_of_lt_of_le ((hhead g h).2 (Ne.symm hne)) hle)

def nextPrio (cur : Nat) (last : Option Action) (a : Action) : Nat :=
  match last with
  | some l => if l ≠ a then cur + 1 else cur
  | none => cur

theorem bump_cons (cur : Nat) (last : Option Action) (m : HRule) (ms : List HRule) :
    bump cur last (m :: ms) =
      ({ m with prio := nextPrio cur last m.action } :: (bump (nextPrio cur last m.action) (some m.action) ms).1,
       (bump (nextPrio cur last m.action) (some m.action) ms).2) := by
  cases last <;> rfl

theorem matches_prio (m : HRule) (k : Nat) (p : Pkt) : ({ m with prio := k } : HRule).matches p = m.matches p := rfl

theorem nextPrio_ge (cur : Nat) (last : Option Action) (a : Action) : cur ≤ nextPrio cur last a := by
  unfold nextPrio
  split
  · split <;> omega
  · exact Nat.le_refl _

theorem bump_bounds (ms : List HRule) : ∀ (cur : Nat) (last : Option Action),
    cur ≤ (bump cur last ms).2 ∧ ∀ r ∈ (bump cur last ms).1, r.prio ≤ (bump cur last ms).2 := by
  induction ms with
  | nil => exact fun cur last => ⟨Nat.le_refl _, fun _ h => absurd h List.not_mem_nil⟩
  | cons m ms ih =>
    intro cur last
    rw [bump_cons]
    obtain ⟨h1, h2⟩ := ih (nextPrio cur last m.action) (some m.action)
    refine ⟨Nat.le_trans (nextPrio_ge cur last m.action) h1, fun r hr => ?_⟩
    rcases List.mem_cons.1 hr with rfl | hr
    · exact h1
    · exact h2 r hr

theorem bump_mem (ms : List HRule) : ∀ (cur : Nat) (last : Option Action), ∀ r ∈ (bump cur last ms).1,
    ∃ m ∈ ms, r = { m with prio := r.prio } := by
  induction ms with
  | nil => exact fun cur last r hr => absurd hr List.not_mem_nil
  | cons m ms ih =>
    intro cur last r hr
    rw [bump_cons] at hr
    rcases List.mem_cons.1 hr with rfl | hr
    · exact ⟨m, List.mem_cons_self, rfl⟩
    · obtain ⟨x, hx, he⟩ := ih _ _ r hr
      exact ⟨x, List.mem_cons_of_mem _ hx, he⟩

theorem bump_firstAction (ms : List HRule) (p : Pkt) : ∀ (cur : Nat) (last : Option Action),
    firstAction (bump cur last ms).1 p = firstAction ms p := by
  induction ms with
  | nil => exact fun cur last => rfl
  | cons m ms ih =>
    intro cur last
    rw [bump_cons, firstAction_cons, firstAction_cons, ih]
    rfl

theorem bump_good_cons (ms : List HRule) : ∀ (cur : Nat) (m0 : HRule),
    good ({ m0 with prio := cur } :: (bump cur (some m0.action) ms).1) := by
  induction ms with
  | nil => exact fun cur m0 => trivial
  | cons m ms ih =>
    intro cur m0
    rw [bump_cons]
    refine ⟨?_, fun hne => ?_, ih _ m⟩
    · exact nextPrio_ge cur (some m0.action) m.action
    show cur < nextPrio cur (some m0.action) m.action
    rw [nextPrio, if_pos hne]
    exact Nat.lt_succ_self _

theorem bump_good (ms : List HRule) (cur : Nat) (last : Option Action) : good (bump cur last ms).1 := by
  cases ms with
  | nil => trivial
  | cons m ms => rw [bump_cons]; exact bump_good_cons ms _ m

theorem getPolicySetRules_spec (sets : List (Option (List HRule))) (inbound eotDrop : Bool) :
    good (getPolicySetRules sets inbound eotDrop) ∧
    ∀ p, firstAction (getPolicySetRules sets inbound eotDrop) p =
      some ((firstAction (gatherMembers inbound sets) p).getD (if eotDrop then .block else .pass)) := by
  unfold getPolicySetRules
  have hb := bump_bounds (gatherMembers inbound sets) policyRuleBasePriority none
  have hg := bump_good (gatherMembers inbound sets) policyRuleBasePriority none
  have hf := fun p => bump_firstAction (gatherMembers inbound sets) p policyRuleBasePriority none
  generalize bump policyRuleBasePriority none (gatherMembers inbound sets) = b at hb hg hf ⊢
  obtain ⟨rs, cur⟩ := b
  refine ⟨good_snoc _ _ hg fun r hr => Nat.lt_succ_of_le (hb.2 r hr), fun p => ?_⟩
  have he : firstAction [eotRule inbound eotDrop (cur + 1)] p = some (if eotDrop then Action.block else Action.pass) := by
    rw [firstAction_cons, if_pos (by cases inbound <;> rfl)]; rfl
  dsimp only at hf ⊢
  rw [firstAction_append, hf p, he]
  cases firstAction (gatherMembers inbound sets) p <;> rfl

end CalicoVerif.C30
