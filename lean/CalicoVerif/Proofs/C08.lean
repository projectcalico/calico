import CalicoVerif.Model.C08
import CalicoVerif.Proofs.NetfilterLemmas
/-! Lemmas for C08: each stage of `ProtoRuleToIptablesRules` (IP-version filter, port split, match
blocks, `CalculateRuleMatch`, `CombineMatchAndActions`) means what the policy rule means, and their
composition `render_exact_le2`. -/
namespace CalicoVerif.C08
open CalicoVerif.Netfilter CalicoVerif.Policy

def actionOutcome (cfg : Cfg) (env : Env) (call : String → Mark → Result) (pkt : Packet)
    (rest : List Netfilter.Rule) (mark : Mark) : RuleAction → Result
  | .allow => .returned (mark ||| cfg.markAccept)
  | .pass => .returned (mark ||| cfg.markPass)
  | .deny => .verdict (if cfg.reject then .reject else .drop) (mark ||| cfg.markDrop)
  | .log => runRules env call pkt rest mark

def clausesMatch (env : Env) (pkt : Packet) (mark : Mark) (cs : List Clause) : Bool :=
  cs.all (Clause.matches env pkt mark)

theorem denyAction_verdict (cfg : Cfg) :
    (denyAction cfg).verdict? = some (if cfg.reject then .reject else .drop) := by
  unfold denyAction; split <;> rfl

theorem matches_eq_clausesMatch (env : Env) (pkt : Packet) (mark : Mark) (r : Netfilter.Rule) :
    r.matches env pkt mark = clausesMatch env pkt mark r.clauses := rfl

theorem clausesMatch_append (env : Env) (pkt : Packet) (mark : Mark) (a b : List Clause) :
    clausesMatch env pkt mark (a ++ b) = (clausesMatch env pkt mark a && clausesMatch env pkt mark b) :=
  List.all_append

theorem clausesMatch_mark (env : Env) (pkt : Packet) (mark v x : Mark) :
    clausesMatch env pkt mark [.mark false v x] = (mark &&& x == v) :=
  matches_mark_eq (env := env) (pkt := pkt) (m := mark) x v .none []

/-- the shape `CombineMatchAndActions` renders for an action with a mark bit `mk` (`nfl`: the NFLOG rule, `fin`: the
rule that carries out the action) -/
theorem run_mark_then_act (env : Env) (call : String → Mark → Result) (pkt : Packet) (m : List Clause)
    (mk mark : Mark) (nfl : List Netfilter.Rule) (fin : Netfilter.Rule) (rest : List Netfilter.Rule)
    (hne : mk ≠ 0) (h0 : mark &&& mk = 0)
    (hnfl : ∀ r ∈ nfl, r.action.continues = true ∧ ∀ m, applyMark env.dp m r.action = m)
    (hfin : fin.clauses = []) :
    runRules env call pkt
      ((({ clauses := m, action := .setMark mk } : Netfilter.Rule) ::
        (nfl ++ [fin]).map (fun r => { r with clauses := r.clauses ++ [.mark false mk mk] })) ++ rest) mark =
      if clausesMatch env pkt mark m then runRules env call pkt (fin :: rest) (mark ||| mk)
      else runRules env call pkt rest mark := by
  have hskip : ∀ m1, runRules env call pkt
      ((nfl ++ [fin]).map (fun r => { r with clauses := r.clauses ++ [.mark false mk mk] }) ++ rest) m1 =
      runRules env call pkt ({ fin with clauses := [.mark false mk mk] } :: rest) m1 := by
    intro m1
    rw [List.map_append, List.append_assoc, runRules_append_inert fun r hr => by
      obtain ⟨q, hq, rfl⟩ := List.mem_map.1 hr; exact hnfl q hq]
    rw [List.map_cons, hfin]; rfl
  have hfinm : fin.matches env pkt (mark ||| mk) = true := by rw [matches_eq_clausesMatch, hfin]; rfl
  rw [List.cons_append, runRules_cons_continues rfl, hskip]
  show runRules env call pkt _ (if clausesMatch env pkt mark m = true then mark ||| mk else mark) = _
  split
  · rw [runRules, runRules, matches_mark_eq, or_and_self, beq_self_eq_true, hfinm]
  · rw [runRules_cons_of_not_matches]
    rw [matches_mark_eq]; exact test_eq_false h0 hne

theorem combine_exact (cfg : Cfg) (ctx : Ctx) (env : Env) (call : String → Mark → Result)
    (pkt : Packet) (action : String) (act : RuleAction) (m : List Clause)
    (hact : parseAction action = some act)
    (hA : cfg.markAccept ≠ 0) (hP : cfg.markPass ≠ 0) (hD : cfg.markDrop ≠ 0) :
    ∃ rs, combineMatchAndActions cfg ctx action m = some rs ∧ ∀ (rest : List Netfilter.Rule) (mark : Mark),
      (act = .allow → mark &&& cfg.markAccept = 0) → (act = .pass → mark &&& cfg.markPass = 0) →
      (act = .deny → mark &&& cfg.markDrop = 0) →
      runRules env call pkt (rs ++ rest) mark =
        if clausesMatch env pkt mark m then actionOutcome cfg env call pkt rest mark act
        else runRules env call pkt rest mark := by
  have hnfl : ∀ a, ∀ r ∈ (if (!ctx.untracked && cfg.flowLogs) = true then
      [({ action := .nflog (nflogGroup ctx) (nflogPrefix a ctx) } : Netfilter.Rule)] else []),
      r.action.continues = true ∧ ∀ m, applyMark env.dp m r.action = m := by
    intro a r hr
    split at hr
    · rw [List.mem_singleton.1 hr]; exact ⟨rfl, fun _ => rfl⟩
    · exact absurd hr List.not_mem_nil
  unfold combineMatchAndActions
  rw [hact]
  cases act <;> simp only [hA, hP, hD, ne_eq, not_false_eq_true, not_true_eq_false, if_true, if_false] <;>
    refine ⟨_, rfl, fun rest mark hmA hmP hmD => ?_⟩
  · rw [run_mark_then_act env call pkt m _ mark _ _ rest hA (hmA trivial) (hnfl 'A') rfl, runRules_cons_ret rfl]; rfl
  · rw [run_mark_then_act env call pkt m _ mark _ _ rest hD (hmD trivial) (hnfl 'D') rfl,
      runRules_cons_verdict (denyAction_verdict cfg)]
    rfl
  · rw [run_mark_then_act env call pkt m _ mark _ _ rest hP (hmP trivial) (hnfl 'P') rfl, runRules_cons_ret rfl]; rfl
  · -- a LOG rule (rate limited or not) never changes the outcome
    rw [List.map_cons, List.map_nil, List.singleton_append, runRules_cons_inert rfl (fun _ => rfl)]
    exact (ite_self _).symm

def splitStep (st : List (List PortRange) × List PortRange × Nat) (pr : PortRange) :
    List (List PortRange) × List PortRange × Nat :=
  let need := if pr.first = pr.last then 1 else 2
  if st.2.2 < need then (st.1 ++ [st.2.1], [pr], 15 - need)
  else (st.1, st.2.1 ++ [pr], st.2.2 - need)

theorem splitPortList_eq (ports : List PortRange) :
    splitPortList ports =
      (let r := ports.foldl splitStep ([], [], 15); if r.2.1.isEmpty then r.1 else r.1 ++ [r.2.1]) := rfl

theorem foldl_splitStep_flatten (ports : List PortRange) (st : List (List PortRange) × List PortRange × Nat) :
    (ports.foldl splitStep st).1.flatten ++ (ports.foldl splitStep st).2.1 = st.1.flatten ++ st.2.1 ++ ports := by
  induction ports generalizing st with
  | nil => exact (List.append_nil _).symm
  | cons p ps ih =>
    have hs : (splitStep st p).1.flatten ++ (splitStep st p).2.1 = st.1.flatten ++ st.2.1 ++ [p] := by
      unfold splitStep
      simp only
      split <;> split <;> simp
    rw [List.foldl_cons, ih, hs, List.append_assoc, List.singleton_append]

theorem splitPortList_flatten (ports : List PortRange) : (splitPortList ports).flatten = ports := by
  have := foldl_splitStep_flatten ports ([], [], 15)
  rw [splitPortList_eq]
  simp only [List.flatten_nil, List.nil_append] at this ⊢
  split
  · rename_i h
    rwa [List.isEmpty_iff.1 h, List.append_nil] at this
  · rwa [List.flatten_append, List.flatten_singleton]

theorem inRanges_flatten (ls : List (List PortRange)) (p : Nat) :
    inRanges ls.flatten p = ls.any (fun l => inRanges l p) :=
  List.any_flatten

theorem splitPortList_eq_nil (ps : List PortRange) : splitPortList ps = [] ↔ ps = [] := by
  constructor
  · intro h; have := splitPortList_flatten ps; rw [h] at this; exact this.symm
  · intro h; subst h; rfl

/-- the kernel agrees that the catch-all CIDRs contain every address -/
def EnvCatchAll (env : Env) : Prop :=
  ∀ a, env.netContains "0.0.0.0/0" a = true ∧ env.netContains "::/0" a = true

theorem any_netHas_filter (env : Env) (v6 : Bool) (nets : List String) (a : Nat) :
    (nets.filter (fun c => cidrIsV6 c == v6)).any (fun c => netHas env v6 c a) =
      nets.any (fun c => netHas env v6 c a) := by
  induction nets with
  | nil => rfl
  | cons c cs ih =>
    rw [List.filter_cons, List.any_cons, ← ih]
    cases h : cidrIsV6 c == v6
    · rw [netHas, h]; rfl
    · rfl

theorem familyOK_of_same (v6 : Bool) (l : List String) (hf : ∀ c ∈ l, cidrIsV6 c = v6) : familyOK v6 l = true := by
  rcases l with _ | ⟨c, cs⟩
  · rfl
  · simp [familyOK, hf c List.mem_cons_self]

theorem familyOK_iff (v6 : Bool) (nets : List String) :
    familyOK v6 nets = (nets.isEmpty || !(nets.filter (fun c => cidrIsV6 c == v6)).isEmpty) := by
  unfold familyOK
  congr 1
  induction nets with
  | nil => rfl
  | cons c cs ih =>
    rw [List.any_cons, List.filter_cons, ih]
    cases cidrIsV6 c == v6 <;> rfl

theorem filterNets_fam (nets : List String) (v6 neg : Bool) :
    ∀ c ∈ (filterNets nets v6 neg).1, cidrIsV6 c = v6 := by
  intro c hc
  unfold filterNets at hc
  split at hc
  · exact absurd hc List.not_mem_nil
  · dsimp only at hc
    split at hc
    · exact absurd hc List.not_mem_nil
    · exact eq_of_beq (List.mem_filter.1 hc).2

theorem posNetOK_filter (env : Env) (v6 : Bool) (nets : List String) (a : Nat) :
    posNetOK env v6 nets a =
      (!(filterNets nets v6 false).2 && posNetOK env v6 (filterNets nets v6 false).1 a) := by
  unfold filterNets
  split
  · rename_i h; rw [List.isEmpty_iff.1 h]; rfl
  · rename_i h
    have hn : nets.isEmpty = false := Bool.eq_false_iff.2 h
    simp only [Bool.false_and, Bool.false_eq_true, if_false, posNetOK, familyOK_iff v6 nets, hn, Bool.false_or,
      familyOK_of_same v6 _ (fun c hc => eq_of_beq (List.mem_filter.1 hc).2), any_netHas_filter, Bool.true_and]
    cases (nets.filter fun c => cidrIsV6 c == v6).isEmpty <;> rfl

/-- a catch-all CIDR in a negated list makes the rule unsatisfiable: hence `EnvCatchAll` -/
theorem negNetOK_filter (env : Env) (henv : EnvCatchAll env) (v6 : Bool) (nets : List String) (a : Nat) :
    negNetOK env v6 nets a =
      (!(filterNets nets v6 true).2 && negNetOK env v6 (filterNets nets v6 true).1 a) := by
  unfold filterNets
  split
  · rename_i h; rw [List.isEmpty_iff.1 h]; rfl
  · rename_i h
    have hn : nets.isEmpty = false := Bool.eq_false_iff.2 h
    simp only [Bool.true_and]
    split
    · rename_i hc
      obtain ⟨c, hcm, hca⟩ := List.any_eq_true.1 hc
      have hcn := List.mem_filter.1 hcm
      have hhas : netHas env v6 c a = true := by
        simp only [isCatchAll, Bool.or_eq_true, Bool.and_eq_true, Bool.not_eq_true', beq_iff_eq] at hca
        rw [netHas, hcn.2, Bool.true_and]
        rcases hca with ⟨_, h⟩ | ⟨_, h⟩
        · rw [h]; exact (henv a).1
        · rw [h]; exact (henv a).2
      rw [negNetOK, List.any_eq_true.2 ⟨c, hcn.1, hhas⟩, Bool.not_true, Bool.and_false]; rfl
    · simp only [negNetOK, familyOK_iff v6 nets, hn, Bool.false_or,
        familyOK_of_same v6 _ (fun c hc => eq_of_beq (List.mem_filter.1 hc).2), any_netHas_filter, Bool.true_and]

theorem filterRuleToIPVersion_cases (v6 : Bool) (r : Policy.Rule) :
    (filterRuleToIPVersion v6 r = none ∧
      ((r.ipVersion ≠ 0 ∧ r.ipVersion ≠ (if v6 then 6 else 4)) ∨ (filterNets r.srcNet v6 false).2 = true ∨
        (filterNets r.notSrcNet v6 true).2 = true ∨ (filterNets r.dstNet v6 false).2 = true ∨
        (filterNets r.notDstNet v6 true).2 = true)) ∨
    (filterRuleToIPVersion v6 r =
        some { r with srcNet := (filterNets r.srcNet v6 false).1, notSrcNet := (filterNets r.notSrcNet v6 true).1,
                      dstNet := (filterNets r.dstNet v6 false).1, notDstNet := (filterNets r.notDstNet v6 true).1 } ∧
      (r.ipVersion = 0 ∨ r.ipVersion = if v6 then 6 else 4) ∧ (filterNets r.srcNet v6 false).2 = false ∧
      (filterNets r.notSrcNet v6 true).2 = false ∧ (filterNets r.dstNet v6 false).2 = false ∧
      (filterNets r.notDstNet v6 true).2 = false) := by
  unfold filterRuleToIPVersion
  by_cases hv : r.ipVersion ≠ 0 ∧ r.ipVersion ≠ (if v6 then 6 else 4)
  · exact Or.inl ⟨if_pos hv, Or.inl hv⟩
  · have hv' : r.ipVersion = 0 ∨ r.ipVersion = if v6 then 6 else 4 := by
      by_cases h0 : r.ipVersion = 0
      · exact Or.inl h0
      · exact Or.inr (Classical.not_not.1 fun h1 => hv ⟨h0, h1⟩)
    rw [if_neg hv]
    rcases filterNets r.srcNet v6 false with ⟨sn, a1⟩
    rcases filterNets r.notSrcNet v6 true with ⟨nsn, a2⟩
    rcases filterNets r.dstNet v6 false with ⟨dn, a3⟩
    rcases filterNets r.notDstNet v6 true with ⟨ndn, a4⟩
    cases a1
    · cases a2
      · cases a3
        · cases a4
          · exact Or.inr ⟨rfl, hv', rfl, rfl, rfl, rfl⟩
          · exact Or.inl ⟨rfl, Or.inr (Or.inr (Or.inr (Or.inr rfl)))⟩
        · exact Or.inl ⟨rfl, Or.inr (Or.inr (Or.inr (Or.inl rfl)))⟩
      · exact Or.inl ⟨rfl, Or.inr (Or.inr (Or.inl rfl))⟩
    · exact Or.inl ⟨rfl, Or.inr (Or.inl rfl)⟩

structure Fam (v6 : Bool) (r : Policy.Rule) : Prop where
  sn : ∀ c ∈ r.srcNet, cidrIsV6 c = v6
  nsn : ∀ c ∈ r.notSrcNet, cidrIsV6 c = v6
  dn : ∀ c ∈ r.dstNet, cidrIsV6 c = v6
  ndn : ∀ c ∈ r.notDstNet, cidrIsV6 c = v6

theorem filterRule_some {v6 : Bool} {r rc : Policy.Rule} (h : filterRuleToIPVersion v6 r = some rc) :
    Fam v6 rc ∧ rc.action = r.action ∧ rc.notIcmp = r.notIcmp ∧ rc.ipVersion = r.ipVersion ∧
      (r.ipVersion = 0 ∨ r.ipVersion = if v6 then 6 else 4) := by
  rcases filterRuleToIPVersion_cases v6 r with ⟨hn, _⟩ | ⟨hs, hv, _⟩
  · rw [hn] at h; cases h
  · rw [hs] at h; cases h
    exact ⟨⟨filterNets_fam _ _ _, filterNets_fam _ _ _, filterNets_fam _ _ _, filterNets_fam _ _ _⟩, rfl, rfl, rfl, hv⟩

theorem filterRule_preserves (env : Env) (henv : EnvCatchAll env) (setName : String → String)
    (r : Policy.Rule) (pkt : Packet) :
    ruleMatches env setName r pkt =
      match filterRuleToIPVersion pkt.v6 r with
      | none => false
      | some rc => ruleMatches env setName rc pkt := by
  have hL : ruleMatches env setName r pkt =
      ((r.ipVersion == 0 || r.ipVersion == (if pkt.v6 then 6 else 4)) &&
        ((!(filterNets r.srcNet pkt.v6 false).2 && posNetOK env pkt.v6 (filterNets r.srcNet pkt.v6 false).1 pkt.src) &&
         (!(filterNets r.notSrcNet pkt.v6 true).2 && negNetOK env pkt.v6 (filterNets r.notSrcNet pkt.v6 true).1 pkt.src) &&
         (!(filterNets r.dstNet pkt.v6 false).2 && posNetOK env pkt.v6 (filterNets r.dstNet pkt.v6 false).1 pkt.dst) &&
         (!(filterNets r.notDstNet pkt.v6 true).2 && negNetOK env pkt.v6 (filterNets r.notDstNet pkt.v6 true).1 pkt.dst)) &&
        restMatch env setName r pkt) := by
    rw [ruleMatches, netsMatch, posNetOK_filter env pkt.v6 r.srcNet, posNetOK_filter env pkt.v6 r.dstNet,
      negNetOK_filter env henv pkt.v6 r.notSrcNet, negNetOK_filter env henv pkt.v6 r.notDstNet]
  rw [hL]
  rcases filterRuleToIPVersion_cases pkt.v6 r with ⟨hn, hbad⟩ | ⟨hs, _, h1, h2, h3, h4⟩
  · -- discarded: one of the conjuncts of the reference match is false
    rw [hn]
    rcases hbad with h | h | h | h | h
    · have : (r.ipVersion == 0 || r.ipVersion == if pkt.v6 = true then 6 else 4) = false := by
        simp [h.1, h.2]
      rw [this]; rfl
    all_goals simp [h]
  · rw [hs, h1, h2, h3, h4]
    simp only [Bool.not_false, Bool.true_and]
    rfl

section segments
variable (env : Env) (pkt : Packet) (mark : Mark)

theorem clausesMatch_map {α : Type} (l : List α) (f : α → Clause) :
    clausesMatch env pkt mark (l.map f) = l.all (fun x => (f x).matches env pkt mark) :=
  List.all_map

def addrOf (d : Dir) (pkt : Packet) : Nat := match d with | .src => pkt.src | .dst => pkt.dst
def portOf (d : Dir) (pkt : Packet) : Nat := match d with | .src => pkt.sport | .dst => pkt.dport

theorem net_matches (d : Dir) (neg : Bool) (c : String) :
    (Clause.net d neg c).matches env pkt mark = xorb neg (env.netContains c (addrOf d pkt)) := by
  cases d <;> rfl

theorem ports_matches (d : Dir) (neg : Bool) (rs : List PortRange) :
    (Clause.ports d neg rs).matches env pkt mark = (isPortProto pkt.proto && xorb neg (inRanges rs (portOf d pkt))) := by
  cases d <;> rfl

theorem seg_proto (neg : Bool) (p : Option Proto) :
    clausesMatch env pkt mark (protoClause neg p) =
      (match p with | none => true | some p => xorb neg (protoIs env (protoTrunc p) pkt.proto)) := by
  cases p
  · rfl
  · exact Bool.and_true _

theorem seg_net (d : Dir) (neg : Bool) (l : List String) (hf : ∀ c ∈ l, cidrIsV6 c = pkt.v6) :
    clausesMatch env pkt mark (l.map (.net d neg)) =
      l.all (fun c => xorb neg (netHas env pkt.v6 c (addrOf d pkt))) := by
  rw [clausesMatch_map]
  induction l with
  | nil => rfl
  | cons c cs ih =>
    rw [List.all_cons, List.all_cons, ih fun c hc => hf c (List.mem_cons_of_mem _ hc), net_matches, netHas,
      hf c List.mem_cons_self, beq_self_eq_true, Bool.true_and]

theorem seg_ipset (d : Dir) (neg : Bool) (setName : String → String) (l : List String) :
    clausesMatch env pkt mark (l.map (fun id => .ipset d neg (setName id))) =
      l.all (fun id => xorb neg (env.inIPSet (setName id) (addrOf d pkt))) := by
  rw [clausesMatch_map]; congr 1; funext id; cases d <;> rfl

theorem seg_ipportset (d : Dir) (neg : Bool) (setName : String → String) (l : List String) :
    clausesMatch env pkt mark (l.map (fun id => .ipportset d neg (setName id))) =
      l.all (fun id => xorb neg (env.inIPPortSet (setName id) (addrOf d pkt) pkt.proto (portOf d pkt))) := by
  rw [clausesMatch_map]; congr 1; funext id; cases d <;> rfl

theorem seg_ports_if (d : Dir) (ps : List PortRange) :
    clausesMatch env pkt mark (if ps.isEmpty then [] else [.ports d false ps]) =
      (ps.isEmpty || (isPortProto pkt.proto && inRanges ps (portOf d pkt))) := by
  cases ps
  · rfl
  · exact (Bool.and_true _).trans (ports_matches env pkt mark d false _)

theorem seg_ports_neg (d : Dir) (ps : List PortRange) :
    clausesMatch env pkt mark ((splitPortList ps).map (.ports d true)) =
      (ps.isEmpty || (isPortProto pkt.proto && !inRanges ps (portOf d pkt))) := by
  rw [clausesMatch_map]
  by_cases hp : ps = []
  · subst hp; rfl
  · have hne : splitPortList ps ≠ [] := fun h => hp ((splitPortList_eq_nil ps).1 h)
    rw [List.isEmpty_eq_false_iff.2 hp, Bool.false_or]
    conv => rhs; rw [← splitPortList_flatten ps, inRanges_flatten]
    generalize splitPortList ps = ss at hne
    simp only [ports_matches, xorb, if_true]
    induction ss with
    | nil => exact absurd rfl hne
    | cons s rest ih =>
      rcases rest with _ | ⟨s', rest'⟩
      · simp
      · have := ih (List.cons_ne_nil _ _)
        simp only [List.all_cons, List.any_cons, Bool.not_or] at this ⊢
        rw [this]
        cases isPortProto pkt.proto <;> simp

theorem seg_icmp (i : IcmpMatch) :
    clausesMatch env pkt mark (icmpClause pkt.v6 false i) = icmpMatches pkt i := by
  cases i <;> cases hd : env.dp <;>
    simp [icmpClause, clausesMatch, Clause.matches, icmpMatches, isIcmpPkt, xorb, hd, Bool.and_assoc]

/-- a negated ICMP type+code is rendered by nftables as two negated comparisons, which is not the
negation of the pair -/
theorem seg_noticmp (i : IcmpMatch) (h : env.dp = .ipt ∨ ∀ t c, i ≠ .typeCode t c) :
    clausesMatch env pkt mark (icmpClause pkt.v6 true i) = notIcmpMatches pkt i := by
  cases i with
  | none => rfl
  | type t => simp [icmpClause, clausesMatch, Clause.matches, notIcmpMatches, isIcmpPkt, xorb]
  | typeCode t c =>
    rcases h with h | h
    · simp [icmpClause, clausesMatch, Clause.matches, notIcmpMatches, isIcmpPkt, xorb, h]
    · exact absurd rfl (h t c)

end segments

theorem posNetOK_simple (env : Env) (v6 : Bool) (l : List String) (a : Nat) (hl : l.length ≤ 1)
    (hf : ∀ c ∈ l, cidrIsV6 c = v6) : posNetOK env v6 l a = l.all (fun c => netHas env v6 c a) := by
  rw [posNetOK, familyOK_of_same v6 l hf]
  rcases l with _ | ⟨c, _ | ⟨c', cs⟩⟩
  · rfl
  · simp
  · simp at hl

theorem negNetOK_block (env : Env) (v6 : Bool) (l : List String) (a : Nat) (hf : ∀ c ∈ l, cidrIsV6 c = v6) :
    negNetOK env v6 l a = !l.any (fun c => netHas env v6 c a) := by
  rw [negNetOK, familyOK_of_same _ _ hf]; rfl

theorem ports_simple (env : Env) (setName : String → String) (ps : List PortRange) (named : List String)
    (proto addr port : Nat) (h1 : named.length ≤ 1) (h2 : ps = [] ∨ named = []) :
    portsMatch env setName ps named proto addr port =
      ((ps.isEmpty || (isPortProto proto && inRanges ps port)) &&
        named.all (fun id => env.inIPPortSet (setName id) addr proto port)) := by
  rcases h2 with h | h
  · subst h
    rcases named with _ | ⟨n, _ | ⟨n', ns⟩⟩
    · rfl
    · simp [portsMatch, inRanges]
    · simp at h1
  · subst h
    cases ps <;> simp [portsMatch]

theorem seg_ports_pos (env : Env) (pkt : Packet) (mark : Mark) (d : Dir) (setName : String → String)
    (ps : List PortRange) (named : List String) (h1 : named.length ≤ 1) (h2 : ps = [] ∨ named = []) :
    clausesMatch env pkt mark ((if ps.isEmpty then [] else [.ports d false ps]) ++
        named.map (fun id => .ipportset d false (setName id))) =
      portsMatch env setName ps named pkt.proto (addrOf d pkt) (portOf d pkt) := by
  rw [clausesMatch_append, seg_ipportset, seg_ports_if, ports_simple env setName ps named _ _ _ h1 h2]
  rfl

/-- a rule that `CalculateRuleMatch` can render in ONE netfilter rule: what is left after the match blocks took the
overflowing lists -/
structure Simple (v6 : Bool) (r : Policy.Rule) : Prop where
  sn : r.srcNet.length ≤ 1
  nsn : r.notSrcNet.length ≤ 1
  dn : r.dstNet.length ≤ 1
  ndn : r.notDstNet.length ≤ 1
  snp : r.srcNamedPortIpSetIds.length ≤ 1
  dnp : r.dstNamedPortIpSetIds.length ≤ 1
  sps : r.srcPorts = [] ∨ r.srcNamedPortIpSetIds = []
  dps : r.dstPorts = [] ∨ r.dstNamedPortIpSetIds = []
  fsn : ∀ c ∈ r.srcNet, cidrIsV6 c = v6
  fnsn : ∀ c ∈ r.notSrcNet, cidrIsV6 c = v6
  fdn : ∀ c ∈ r.dstNet, cidrIsV6 c = v6
  fndn : ∀ c ∈ r.notDstNet, cidrIsV6 c = v6

theorem calc_exact (env : Env) (pkt : Packet) (setName : String → String) (r : Policy.Rule)
    (hs : Simple pkt.v6 r) (hi : env.dp = .ipt ∨ ∀ t c, r.notIcmp ≠ .typeCode t c) :
    ∃ m, calculateRuleMatch setName pkt.v6 r = some m ∧
      ∀ mark, clausesMatch env pkt mark m = (netsMatch env r pkt && restMatch env setName r pkt) := by
  unfold calculateRuleMatch
  have hnp : ¬ (r.srcNet.length > 1 ∨ r.dstNet.length > 1 ∨ r.notSrcNet.length > 1 ∨ r.notDstNet.length > 1 ∨
     r.srcNamedPortIpSetIds.length > 1 ∨ r.dstNamedPortIpSetIds.length > 1) := by
    have := hs.sn; have := hs.dn; have := hs.nsn; have := hs.ndn; have := hs.snp; have := hs.dnp
    omega
  rw [if_neg hnp]
  refine ⟨_, rfl, fun mark => ?_⟩
  -- clause by clause on the left, criterion by criterion on the right: the same conjuncts in another order
  simp only [clausesMatch_append, seg_proto, seg_net env pkt mark _ _ _ hs.fsn, seg_net env pkt mark _ _ _ hs.fdn,
    seg_net env pkt mark _ _ _ hs.fnsn, seg_net env pkt mark _ _ _ hs.fndn, seg_ipset, seg_ipportset, seg_ports_if,
    seg_ports_neg, seg_icmp, seg_noticmp env pkt mark _ hi, addrOf, portOf, xorb, Bool.false_eq_true, if_false, if_true]
  simp only [netsMatch, restMatch, protoOK, otherMatch, posNetOK_simple env _ _ _ hs.sn hs.fsn,
    posNetOK_simple env _ _ _ hs.dn hs.fdn, negNetOK_block env _ _ _ hs.fnsn, negNetOK_block env _ _ _ hs.fndn, List.not_any_eq_all_not,
    ports_simple env setName _ _ _ _ _ hs.snp hs.sps, ports_simple env setName _ _ _ _ _ hs.dnp hs.dps]
  ac_rfl

/-! The match blocks keep two flags in the mark: AllBlocksPass (mask `A` = `markScratch0`) and ThisBlockPass
(mask `T` = `markScratch1`).  `put x b` writes flag `x`; after the rules of the builder the mark is
`put T t (put A a m)`. -/

def put (x : Mark) (b : Bool) (m : Mark) : Mark := if b then m ||| x else m &&& ~~~ x

theorem put_and_self (x : Mark) (b : Bool) (m : Mark) : put x b m &&& x = if b then x else 0 := by
  cases b
  · exact and_not_and_self m x
  · exact or_and_self m x

theorem put_and_of_disjoint {x y : Mark} (h : x &&& y = 0) (b : Bool) (m : Mark) : put x b m &&& y = m &&& y := by
  cases b
  · exact and_not_and_of_disjoint m h
  · exact or_and_of_disjoint m h

theorem getElem_put (x : Mark) (b : Bool) (m : Mark) (i : Nat) (hi : i < 32) :
    (put x b m)[i] = ((m[i] && !x[i]) || (b && x[i])) := by
  cases b <;> simp only [put, if_true, Bool.false_eq_true, if_false, BitVec.getElem_and, BitVec.getElem_or,
    BitVec.getElem_not] <;> cases m[i] <;> cases x[i] <;> rfl

theorem put_put (x : Mark) (b b' : Bool) (m : Mark) : put x b (put x b' m) = put x b m := by
  ext i hi
  simp only [getElem_put]
  generalize m[i] = p; generalize x[i] = q
  revert b b' p q; decide

theorem put_comm {x y : Mark} (h : x &&& y = 0) (b c : Bool) (m : Mark) :
    put x b (put y c m) = put y c (put x b m) := by
  ext i hi
  have h1 := and_zero_bit h i hi
  simp only [getElem_put]
  revert h1
  generalize m[i] = p; generalize x[i] = q; generalize y[i] = r
  revert b c p q r; decide

theorem put_put_put {A T : Mark} (hAT : A &&& T = 0) (b t a : Bool) (m : Mark) :
    put A b (put T t (put A a m)) = put T t (put A b m) := by
  rw [put_comm hAT, put_put]

def baseOf (A T m : Mark) : Mark := m &&& ~~~ (A ||| T)

theorem baseOf_and_other (A T m x : Mark) (hxA : x &&& A = 0) (hxT : x &&& T = 0) :
    baseOf A T m &&& x = m &&& x := by
  refine and_not_and_of_disjoint m ?_
  rw [BitVec.and_or_distrib_right, BitVec.and_comm A, hxA, BitVec.and_comm T, hxT]; rfl

theorem baseOf_put (A T : Mark) (a t : Bool) (m : Mark) : baseOf A T (put T t (put A a m)) = baseOf A T m := by
  ext i hi
  simp only [baseOf, getElem_put, BitVec.getElem_and, BitVec.getElem_or, BitVec.getElem_not]
  generalize m[i] = p; generalize A[i] = q; generalize T[i] = r
  revert a t p q r; decide

/-- the initial "reset" rule of the builder, on either dataplane, for `v = 0` or `v = A` -/
theorem init_mark (dp : Dataplane) {A T : Mark} (hAT : A &&& T = 0) (m : Mark) (setA : Bool) :
    applyMark dp m (.setMaskedMark (if setA then A else 0) (A ||| T)) = put T false (put A setA m) := by
  ext i hi
  have h1 := and_zero_bit hAT i hi
  have hv : (if setA then A else 0)[i] = (setA && A[i]) := by cases setA <;> simp
  cases dp <;>
    simp only [applyMark, getElem_put, BitVec.getElem_and, BitVec.getElem_or, BitVec.getElem_not,
      BitVec.getElem_xor, hv] <;>
    (clear hv; revert h1; generalize m[i] = p; generalize A[i] = q; generalize T[i] = r; revert setA p q r; decide)

def markFree : Clause → Bool
  | .mark _ _ _ => false
  | _ => true

theorem clausesMatch_markFree (env : Env) (pkt : Packet) (cs : List Clause) (h : cs.all markFree = true)
    (m1 m2 : Mark) : clausesMatch env pkt m1 cs = clausesMatch env pkt m2 cs := by
  induction cs with
  | nil => rfl
  | cons c cs ih =>
    rw [List.all_cons, Bool.and_eq_true] at h
    have hc : c.matches env pkt m1 = c.matches env pkt m2 := by
      cases c with
      | mark => cases h.1
      | net d => cases d <;> rfl
      | ipset d => cases d <;> rfl
      | ipportset d => cases d <;> rfl
      | ports d => cases d <;> rfl
      | _ => rfl
    simp only [clausesMatch, List.all_cons] at ih ⊢
    rw [hc, ih h.2]

def putter (x : Mark) (b : Bool) (cs : List Clause) : Netfilter.Rule :=
  { clauses := cs, action := if b then .setMark x else .clearMark x }

theorem run_putters (env : Env) (call : String → Mark → Result) (pkt : Packet) (x : Mark) (b : Bool)
    (l : List (List Clause)) (hl : ∀ cs ∈ l, cs.all markFree = true) (rest : List Netfilter.Rule) (m : Mark) :
    runRules env call pkt (l.map (putter x b) ++ rest) m =
      runRules env call pkt rest (if l.any (clausesMatch env pkt 0) then put x b m else m) := by
  induction l generalizing m with
  | nil => rfl
  | cons cs l ih =>
    have hm : (putter x b cs).matches env pkt m = clausesMatch env pkt 0 cs :=
      (matches_eq_clausesMatch env pkt m _).trans (clausesMatch_markFree env pkt cs (hl cs List.mem_cons_self) m 0)
    have ha : applyMark env.dp m (putter x b cs).action = put x b m := by cases b <;> rfl
    rw [List.map_cons, List.cons_append, runRules_cons_continues (by cases b <;> rfl), hm, ha,
      ih (fun c hc => hl c (List.mem_cons_of_mem _ hc)), List.any_cons]
    cases clausesMatch env pkt 0 cs
    · rfl
    · simp only [if_true, put_put, Bool.true_or, ite_self]

/-- What the rules of a match-block builder do to the two scratch bits: AllBlocksPass (`markScratch0`) holds `pred`, a
function of the packet only, ThisBlockPass (`markScratch1`) holds `t`.  `t = false` is known only while `npos ≤ 1`
(positive blocks so far): the second positive block leaves ThisBlockPass set, a third one would read the stale bit,
and there the invariant can no longer be proved (`pos_inv` asks for `npos ≤ 1`, `StInv.ex` for `n ≤ 2`). -/
structure BInv (env : Env) (call : String → Mark → Result) (pkt : Packet) (cfg : Cfg) (b : MBB)
    (npos : Nat) (pred : Bool) : Prop where
  idle : b.usingBlocks = false → b.rules = [] ∧ npos = 0 ∧ pred = true
  run : b.usingBlocks = true → ∀ rest m, ∃ t, (npos ≤ 1 → t = false) ∧
      runRules env call pkt (b.rules ++ rest) m =
        runRules env call pkt rest (put cfg.markScratch1 t (put cfg.markScratch0 pred m))
  done : b.doneFirstPositive = decide (1 ≤ npos)

theorem BInv.empty (env : Env) (call : String → Mark → Result) (pkt : Packet) (cfg : Cfg) :
    BInv env call pkt cfg {} 0 true :=
  ⟨fun _ => ⟨rfl, rfl, rfl⟩, nofun, rfl⟩

/-- a positive block with the alternatives `l`: `AppendPortMatchBlock` / `AppendCIDRMatchBlock` -/
def posAppend (cfg : Cfg) (b : MBB) (l : List (List Clause)) : MBB :=
  let b1 := b.maybeInit cfg 0
  ({ b1 with rules := b1.rules ++ l.map (putter (b1.markToSet cfg) true) }).finishPositive cfg

/-- a negated block: `AppendNegatedCIDRMatchBlock` -/
def negAppend (cfg : Cfg) (b : MBB) (l : List (List Clause)) : MBB :=
  let b1 := b.maybeInit cfg cfg.markScratch0
  { b1 with rules := b1.rules ++ l.map (putter cfg.markScratch0 false) }

theorem runRules_init (env : Env) (call : String → Mark → Result) (pkt : Packet) (cfg : Cfg)
    (hAT : cfg.markScratch0 &&& cfg.markScratch1 = 0) (setA : Bool) (rest : List Netfilter.Rule) (m : Mark) :
    runRules env call pkt
      (({ action := .setMaskedMark (if setA then cfg.markScratch0 else 0) (cfg.markScratch0 ||| cfg.markScratch1) } : Netfilter.Rule) :: rest) m =
      runRules env call pkt rest (put cfg.markScratch1 false (put cfg.markScratch0 setA m)) := by
  rw [runRules_bare_continues rfl, init_mark env.dp hAT]

section blocks
variable (env : Env) (call : String → Mark → Result) (pkt : Packet) (cfg : Cfg)
variable (hAT : cfg.markScratch0 &&& cfg.markScratch1 = 0)
include hAT

/-- A positive block ANDs "some alternative matches" into AllBlocksPass — the first block of a fresh
builder by setting it, the second through ThisBlockPass, which it leaves set (so that a third block would
go wrong). -/
theorem pos_inv (hT : cfg.markScratch1 ≠ 0)
    (b : MBB) (npos : Nat) (pred : Bool) (l : List (List Clause))
    (hl : ∀ cs ∈ l, cs.all markFree = true)
    (hfresh : npos = 0 → b.usingBlocks = false) (hn : npos ≤ 1)
    (inv : BInv env call pkt cfg b npos pred) :
    BInv env call pkt cfg (posAppend cfg b l) (npos + 1) (pred && l.any (clausesMatch env pkt 0)) := by
  rcases Nat.lt_or_ge npos 1 with h0 | h1
  · -- first positive block of a fresh builder
    obtain rfl : npos = 0 := by omega
    have hu := hfresh rfl
    obtain ⟨hr, _, rfl⟩ := inv.idle hu
    have hd : b.doneFirstPositive = false := by simpa using inv.done
    have hb : posAppend cfg b l =
        { usingBlocks := true, doneFirstPositive := true,
          rules := ({ action := .setMaskedMark 0 (cfg.markScratch0 ||| cfg.markScratch1) } : Netfilter.Rule) ::
            l.map (putter cfg.markScratch0 true) } := by
      simp [posAppend, MBB.maybeInit, MBB.markToSet, MBB.finishPositive, hu, hr, hd]
    rw [hb]
    refine ⟨nofun, fun _ rest m => ⟨false, fun _ => rfl, ?_⟩, rfl⟩
    refine (runRules_init env call pkt cfg hAT false (l.map (putter cfg.markScratch0 true) ++ rest) m).trans ?_
    rw [run_putters env call pkt _ _ l hl, Bool.true_and]
    cases l.any (clausesMatch env pkt 0)
    · rfl
    · rw [if_pos rfl, put_put_put hAT]
  · -- second positive block
    obtain rfl : npos = 1 := by omega
    have hd : b.doneFirstPositive = true := by simpa using inv.done
    have hu : b.usingBlocks = true := by
      cases h : b.usingBlocks
      · exact absurd (inv.idle h).2.1 (by omega)
      · rfl
    have hb : posAppend cfg b l =
        { b with rules := b.rules ++ l.map (putter cfg.markScratch1 true) ++
            [({ clauses := [.mark false 0 cfg.markScratch1], action := .clearMark cfg.markScratch0 } : Netfilter.Rule)] } := by
      simp [posAppend, MBB.maybeInit, MBB.markToSet, MBB.finishPositive, hu, hd]
    rw [hb]
    refine ⟨fun h => absurd hu (by rw [h]; exact Bool.false_ne_true), fun _ rest m => ?_, hd⟩
    obtain ⟨t, ht, hrun⟩ := inv.run hu
      (l.map (putter cfg.markScratch1 true) ++
        ({ clauses := [.mark false 0 cfg.markScratch1], action := .clearMark cfg.markScratch0 } : Netfilter.Rule) :: rest) m
    obtain rfl := ht (by omega)
    refine ⟨l.any (clausesMatch env pkt 0), fun h => absurd h (by omega), ?_⟩
    simp only [List.append_assoc, List.singleton_append] at hrun ⊢
    -- ThisBlockPass := "some alternative matches"; the closing rule clears AllBlocksPass where it is clear
    rw [hrun, run_putters env call pkt _ _ l hl, runRules_cons_continues rfl, matches_mark_eq]
    cases l.any (clausesMatch env pkt 0)
    · rw [if_neg Bool.false_ne_true, put_and_self, if_neg Bool.false_ne_true, beq_self_eq_true, if_pos rfl, Bool.and_false]
      exact congrArg _ (put_put_put hAT false false pred m)
    · rw [if_pos rfl, put_put, put_and_self, if_pos rfl, beq_false_of_ne hT, if_neg Bool.false_ne_true, Bool.and_true]

theorem neg_inv (b : MBB) (npos : Nat) (pred : Bool) (l : List (List Clause))
    (hl : ∀ cs ∈ l, cs.all markFree = true)
    (inv : BInv env call pkt cfg b npos pred) :
    BInv env call pkt cfg (negAppend cfg b l) npos (pred && !l.any (clausesMatch env pkt 0)) := by
  cases hu : b.usingBlocks
  · obtain ⟨hr, rfl, rfl⟩ := inv.idle hu
    have hb : negAppend cfg b l =
        { usingBlocks := true, doneFirstPositive := b.doneFirstPositive,
          rules := ({ action := .setMaskedMark cfg.markScratch0 (cfg.markScratch0 ||| cfg.markScratch1) } : Netfilter.Rule) ::
            l.map (putter cfg.markScratch0 false) } := by
      simp [negAppend, MBB.maybeInit, hu, hr]
    rw [hb]
    refine ⟨nofun, fun _ rest m => ⟨false, fun _ => rfl, ?_⟩, inv.done⟩
    refine (runRules_init env call pkt cfg hAT true (l.map (putter cfg.markScratch0 false) ++ rest) m).trans ?_
    rw [run_putters env call pkt _ _ l hl, Bool.true_and]
    cases l.any (clausesMatch env pkt 0)
    · rfl
    · rw [if_pos rfl, put_put_put hAT]; rfl
  · have hb : negAppend cfg b l = { b with rules := b.rules ++ l.map (putter cfg.markScratch0 false) } := by
      simp [negAppend, MBB.maybeInit, hu]
    rw [hb]
    refine ⟨fun h => absurd hu (by rw [h]; exact Bool.false_ne_true), fun _ rest m => ?_, inv.done⟩
    obtain ⟨t, ht, hrun⟩ := inv.run hu (l.map (putter cfg.markScratch0 false) ++ rest) m
    refine ⟨t, ht, ?_⟩
    rw [List.append_assoc, hrun, run_putters env call pkt _ _ l hl]
    cases l.any (clausesMatch env pkt 0)
    · rw [if_neg Bool.false_ne_true, Bool.not_false, Bool.and_true]
    · rw [if_pos rfl, put_put_put hAT, Bool.not_true, Bool.and_false]

end blocks

theorem appendCIDRs_eq (cfg : Cfg) (b : MBB) (cidrs : List String) (d : Dir) :
    b.appendCIDRs cfg cidrs d = posAppend cfg b (cidrs.map fun c => [Clause.net d false c]) := by
  simp [MBB.appendCIDRs, posAppend, putter, List.map_map, Function.comp_def]

theorem appendNegCIDRs_eq (cfg : Cfg) (b : MBB) (cidrs : List String) (d : Dir) :
    b.appendNegCIDRs cfg cidrs d = negAppend cfg b (cidrs.map fun c => [Clause.net d false c]) := by
  simp [MBB.appendNegCIDRs, negAppend, putter, List.map_map, Function.comp_def]

def portBlockClauses (setName : String → String) (proto : Option Proto) (splits : List (List PortRange))
    (named : List String) (d : Dir) : List (List Clause) :=
  splits.map (fun s => protoClause false proto ++ [Clause.ports d false s]) ++
    named.map (fun id => [Clause.ipportset d false (setName id)])

theorem appendPorts_eq (cfg : Cfg) (setName : String → String) (b : MBB) (proto : Option Proto)
    (splits : List (List PortRange)) (named : List String) (d : Dir) :
    b.appendPorts cfg setName proto splits named d =
      posAppend cfg b (portBlockClauses setName proto splits named d) := by
  simp [MBB.appendPorts, posAppend, portBlockClauses, putter, List.map_map, Function.comp_def]

theorem netBlock_markFree (d : Dir) (l : List String) :
    ∀ cs ∈ l.map (fun c => [Clause.net d false c]), cs.all markFree = true := by
  intro cs h; obtain ⟨c, _, rfl⟩ := List.mem_map.1 h; rfl

theorem portBlock_markFree (setName : String → String) (proto : Option Proto) (splits : List (List PortRange))
    (named : List String) (d : Dir) :
    ∀ cs ∈ portBlockClauses setName proto splits named d, cs.all markFree = true := by
  intro cs h
  rcases List.mem_append.1 h with h | h
  · obtain ⟨s, _, rfl⟩ := List.mem_map.1 h; cases proto <;> rfl
  · obtain ⟨s, _, rfl⟩ := List.mem_map.1 h; rfl

theorem any_net_block (env : Env) (pkt : Packet) (d : Dir) (l : List String)
    (hf : ∀ c ∈ l, cidrIsV6 c = pkt.v6) :
    (l.map (fun c => [Clause.net d false c])).any (clausesMatch env pkt 0) =
      l.any (fun c => netHas env pkt.v6 c (addrOf d pkt)) := by
  induction l with
  | nil => rfl
  | cons c cs ih =>
    rw [List.map_cons, List.any_cons, List.any_cons, ih fun c hc => hf c (List.mem_cons_of_mem _ hc)]
    congr 1
    have := seg_net env pkt 0 d false [c] (fun c' hc' => by rw [List.mem_singleton.1 hc']; exact hf c List.mem_cons_self)
    exact this.trans (Bool.and_true _)

theorem any_port_block (env : Env) (pkt : Packet) (setName : String → String) (proto : Option Proto)
    (ps : List PortRange) (named : List String) (d : Dir) :
    (portBlockClauses setName proto (splitPortList ps) named d).any (clausesMatch env pkt 0) =
      (((match proto with | none => true | some p => protoIs env (protoTrunc p) pkt.proto) &&
          (isPortProto pkt.proto && inRanges ps (portOf d pkt))) ||
        named.any (fun id => env.inIPPortSet (setName id) (addrOf d pkt) pkt.proto (portOf d pkt))) := by
  unfold portBlockClauses
  rw [List.any_append]
  congr 1
  · conv => rhs; rw [← splitPortList_flatten ps, inRanges_flatten]
    generalize splitPortList ps = ss
    have key : ∀ s : List PortRange,
        clausesMatch env pkt 0 (protoClause false proto ++ [Clause.ports d false s]) =
          ((match proto with | none => true | some p => protoIs env (protoTrunc p) pkt.proto) &&
            (isPortProto pkt.proto && inRanges s (portOf d pkt))) := by
      intro s
      rw [clausesMatch_append, seg_proto]
      congr 1
      exact (Bool.and_true _).trans (ports_matches env pkt 0 d false s)
    generalize (match proto with | none => true | some p => protoIs env (protoTrunc p) pkt.proto) = P at key ⊢
    induction ss with
    | nil => simp
    | cons s rest ih =>
      simp only [List.map_cons, List.any_cons, ih, key]
      cases P <;> cases isPortProto pkt.proto <;> simp
  · have := seg_ipportset env pkt 0 d false setName
    induction named with
    | nil => rfl
    | cons n ns ih =>
      rw [List.map_cons, List.any_cons, List.any_cons, ih]
      congr 1
      exact (this [n]).trans (Bool.and_true _)

theorem posNetOK_block (env : Env) (v6 : Bool) (l : List String) (a : Nat) (hf : ∀ c ∈ l, cidrIsV6 c = v6)
    (hne : l.length > 1) : posNetOK env v6 l a = l.any (fun c => netHas env v6 c a) := by
  rw [posNetOK, familyOK_of_same _ _ hf]
  cases l with
  | nil => cases hne
  | cons => rfl

theorem portsMatch_block (env : Env) (setName : String → String) (ps : List PortRange) (named : List String)
    (proto addr port : Nat) (hc : (splitPortList ps).length + named.length > 1) :
    portsMatch env setName ps named proto addr port =
      ((isPortProto proto && inRanges ps port) ||
        named.any (fun id => env.inIPPortSet (setName id) addr proto port)) := by
  have : (ps.isEmpty && named.isEmpty) = false := by
    cases ps with
    | nil =>
      cases named with
      | nil => cases hc
      | cons => rfl
    | cons => rfl
  rw [portsMatch, this, Bool.false_or]

/-- a port block (`P` protocol, `X` numeric ports, `Nm` named ports) takes the place of the rule's port criterion,
which becomes `true` -/
theorem block_src : ∀ P X Nm N D O : Bool,
    ((P && X || Nm) && (N && (P && true && D && O))) = (N && (P && (X || Nm) && D && O)) := by decide
theorem block_dst : ∀ P X Nm N S O : Bool,
    ((P && X || Nm) && (N && (P && S && true && O))) = (N && (P && S && (X || Nm) && O)) := by decide
/-- likewise a CIDR block `A` and one of the four CIDR criteria -/
theorem block_net1 : ∀ A b c d R : Bool, (A && (true && b && c && d && R)) = (A && b && c && d && R) := by decide
theorem block_net2 : ∀ A a c d R : Bool, (A && (a && true && c && d && R)) = (a && A && c && d && R) := by decide
theorem block_net3 : ∀ A a b d R : Bool, (A && (a && b && true && d && R)) = (a && b && A && d && R) := by decide
theorem block_net4 : ∀ A a b c R : Bool, (A && (a && b && c && true && R)) = (a && b && c && A && R) := by decide

/-- what builder + remaining rule jointly mean: `M` — as long as at most two positive blocks (`n`) were appended -/
structure StInv (env : Env) (call : String → Mark → Result) (pkt : Packet) (cfg : Cfg)
    (setName : String → String) (M : Bool) (s : MBB × Policy.Rule) (n : Nat) : Prop where
  ex : n ≤ 2 → ∃ pred, BInv env call pkt cfg s.1 n pred ∧
        (pred && (netsMatch env s.2 pkt && restMatch env setName s.2 pkt)) = M
  fam : Fam pkt.v6 s.2

section steps
variable (env : Env) (call : String → Mark → Result) (pkt : Packet) (cfg : Cfg) (setName : String → String)
variable (hAT : cfg.markScratch0 &&& cfg.markScratch1 = 0)
include hAT

theorem StInv.stepNeg {M : Bool} {s : MBB × Policy.Rule} {n : Nat}
    (inv : StInv env call pkt cfg setName M s n) {c : Prop} [Decidable c]
    (l : List (List Clause)) (hl : ∀ cs ∈ l, cs.all markFree = true) (r' : Policy.Rule) (hfam : Fam pkt.v6 r')
    (hmean : ((!l.any (clausesMatch env pkt 0)) && (netsMatch env r' pkt && restMatch env setName r' pkt)) =
      (netsMatch env s.2 pkt && restMatch env setName s.2 pkt)) :
    StInv env call pkt cfg setName M (if c then (negAppend cfg s.1 l, r') else s) n := by
  split
  · refine ⟨fun h2 => ?_, hfam⟩
    obtain ⟨pred, hb, hm⟩ := inv.ex h2
    exact ⟨_, neg_inv env call pkt cfg hAT s.1 n pred l hl hb, by rw [Bool.and_assoc, hmean, hm]⟩
  · exact inv

variable (hT : cfg.markScratch1 ≠ 0)
include hT

/-- One `if` of `ProtoRuleToIptablesRules` that appends a positive block: where the condition holds, the block `l` takes
over a criterion of the rule (`hmean`) and `r'` is what is left of it; otherwise nothing happens.  `fresh`: positive
blocks come before the negated ones. -/
theorem StInv.stepPos {M : Bool} {s : MBB × Policy.Rule} {n : Nat}
    (inv : StInv env call pkt cfg setName M s n) (fresh : n = 0 → s.1.usingBlocks = false)
    {c : Prop} [Decidable c]
    (l : List (List Clause)) (hl : ∀ cs ∈ l, cs.all markFree = true) (r' : Policy.Rule) (hfam : Fam pkt.v6 r')
    (hmean : c → (l.any (clausesMatch env pkt 0) && (netsMatch env r' pkt && restMatch env setName r' pkt)) =
      (netsMatch env s.2 pkt && restMatch env setName s.2 pkt)) :
    StInv env call pkt cfg setName M (if c then (posAppend cfg s.1 l, r') else s) (n + if c then 1 else 0) ∧
      ((n + if c then 1 else 0) = 0 → (if c then (posAppend cfg s.1 l, r') else s).1.usingBlocks = false) := by
  split
  · next hc =>
    refine ⟨⟨fun h2 => ?_, hfam⟩, fun h => absurd h (Nat.succ_ne_zero n)⟩
    obtain ⟨pred, hb, hm⟩ := inv.ex (Nat.le_of_succ_le h2)
    exact ⟨_, pos_inv env call pkt cfg hAT hT s.1 n pred l hl fresh (Nat.le_of_succ_le_succ h2) hb,
      by rw [Bool.and_assoc, hmean hc, hm]⟩
  · exact ⟨inv, fresh⟩

theorem step_srcPorts {M : Bool} {s : MBB × Policy.Rule} {n : Nat}
    (inv : StInv env call pkt cfg setName M s n) (fresh : n = 0 → s.1.usingBlocks = false) :
    StInv env call pkt cfg setName M (stepSrcPorts cfg setName s)
      (n + if (splitPortList s.2.srcPorts).length + s.2.srcNamedPortIpSetIds.length > 1 then 1 else 0) ∧
    ((n + if (splitPortList s.2.srcPorts).length + s.2.srcNamedPortIpSetIds.length > 1 then 1 else 0) = 0 →
      (stepSrcPorts cfg setName s).1.usingBlocks = false) := by
  unfold stepSrcPorts
  rw [appendPorts_eq]
  refine inv.stepPos env call pkt cfg setName hAT hT fresh _ (portBlock_markFree _ _ _ _ _) _
    ⟨inv.fam.sn, inv.fam.nsn, inv.fam.dn, inv.fam.ndn⟩ fun hc => ?_
  -- the block repeats the protocol test of the rule
  rw [any_port_block, restMatch, restMatch, portsMatch_block env setName _ _ _ _ _ hc]
  exact block_src _ _ _ _ _ _

theorem step_dstPorts {M : Bool} {s : MBB × Policy.Rule} {n : Nat}
    (inv : StInv env call pkt cfg setName M s n) (fresh : n = 0 → s.1.usingBlocks = false) :
    StInv env call pkt cfg setName M (stepDstPorts cfg setName s)
      (n + if (splitPortList s.2.dstPorts).length + s.2.dstNamedPortIpSetIds.length > 1 then 1 else 0) ∧
    ((n + if (splitPortList s.2.dstPorts).length + s.2.dstNamedPortIpSetIds.length > 1 then 1 else 0) = 0 →
      (stepDstPorts cfg setName s).1.usingBlocks = false) := by
  unfold stepDstPorts
  rw [appendPorts_eq]
  refine inv.stepPos env call pkt cfg setName hAT hT fresh _ (portBlock_markFree _ _ _ _ _) _
    ⟨inv.fam.sn, inv.fam.nsn, inv.fam.dn, inv.fam.ndn⟩ fun hc => ?_
  rw [any_port_block, restMatch, restMatch, portsMatch_block env setName _ s.2.dstNamedPortIpSetIds _ _ _ hc]
  exact block_dst _ _ _ _ _ _

theorem step_srcNet {M : Bool} {s : MBB × Policy.Rule} {n : Nat}
    (inv : StInv env call pkt cfg setName M s n) (fresh : n = 0 → s.1.usingBlocks = false) :
    StInv env call pkt cfg setName M (stepSrcNet cfg s) (n + if s.2.srcNet.length > 1 then 1 else 0) ∧
    ((n + if s.2.srcNet.length > 1 then 1 else 0) = 0 → (stepSrcNet cfg s).1.usingBlocks = false) := by
  unfold stepSrcNet
  rw [appendCIDRs_eq]
  refine inv.stepPos env call pkt cfg setName hAT hT fresh _ (netBlock_markFree _ _) _
    ⟨nofun, inv.fam.nsn, inv.fam.dn, inv.fam.ndn⟩ fun hc => ?_
  rw [any_net_block env pkt .src _ inv.fam.sn, netsMatch, netsMatch, posNetOK_block env pkt.v6 _ _ inv.fam.sn hc]
  exact block_net1 _ _ _ _ _

theorem step_dstNet {M : Bool} {s : MBB × Policy.Rule} {n : Nat}
    (inv : StInv env call pkt cfg setName M s n) (fresh : n = 0 → s.1.usingBlocks = false) :
    StInv env call pkt cfg setName M (stepDstNet cfg s) (n + if s.2.dstNet.length > 1 then 1 else 0) ∧
    ((n + if s.2.dstNet.length > 1 then 1 else 0) = 0 → (stepDstNet cfg s).1.usingBlocks = false) := by
  unfold stepDstNet
  rw [appendCIDRs_eq]
  refine inv.stepPos env call pkt cfg setName hAT hT fresh _ (netBlock_markFree _ _) _
    ⟨inv.fam.sn, inv.fam.nsn, nofun, inv.fam.ndn⟩ fun hc => ?_
  rw [any_net_block env pkt .dst _ inv.fam.dn, netsMatch, netsMatch, posNetOK_block env pkt.v6 _ _ inv.fam.dn hc]
  exact block_net3 _ _ _ _ _

omit hT

theorem step_negSrcNet {M : Bool} {s : MBB × Policy.Rule} {n : Nat}
    (inv : StInv env call pkt cfg setName M s n) :
    StInv env call pkt cfg setName M (stepNegSrcNet cfg s) n := by
  unfold stepNegSrcNet
  rw [appendNegCIDRs_eq]
  refine inv.stepNeg env call pkt cfg setName hAT _ (netBlock_markFree _ _) _
    ⟨inv.fam.sn, nofun, inv.fam.dn, inv.fam.ndn⟩ ?_
  rw [any_net_block env pkt .src _ inv.fam.nsn, netsMatch, netsMatch, negNetOK_block env pkt.v6 s.2.notSrcNet _ inv.fam.nsn]
  exact block_net2 _ _ _ _ _

theorem step_negDstNet {M : Bool} {s : MBB × Policy.Rule} {n : Nat}
    (inv : StInv env call pkt cfg setName M s n) :
    StInv env call pkt cfg setName M (stepNegDstNet cfg s) n := by
  unfold stepNegDstNet
  rw [appendNegCIDRs_eq]
  refine inv.stepNeg env call pkt cfg setName hAT _ (netBlock_markFree _ _) _
    ⟨inv.fam.sn, inv.fam.nsn, inv.fam.dn, nofun⟩ ?_
  rw [any_net_block env pkt .dst _ inv.fam.ndn, netsMatch, netsMatch, negNetOK_block env pkt.v6 s.2.notDstNet _ inv.fam.ndn]
  exact block_net4 _ _ _ _ _

end steps

section snd
variable (cfg : Cfg) (setName : String → String) (s : MBB × Policy.Rule)

theorem stepSrcPorts_snd :
    (stepSrcPorts cfg setName s).2 =
      { s.2 with
        srcPorts := if (splitPortList s.2.srcPorts).length + s.2.srcNamedPortIpSetIds.length > 1 then [] else s.2.srcPorts
        srcNamedPortIpSetIds :=
          if (splitPortList s.2.srcPorts).length + s.2.srcNamedPortIpSetIds.length > 1 then [] else s.2.srcNamedPortIpSetIds } := by
  unfold stepSrcPorts; split <;> rfl

theorem stepDstPorts_snd :
    (stepDstPorts cfg setName s).2 =
      { s.2 with
        dstPorts := if (splitPortList s.2.dstPorts).length + s.2.dstNamedPortIpSetIds.length > 1 then [] else s.2.dstPorts
        dstNamedPortIpSetIds :=
          if (splitPortList s.2.dstPorts).length + s.2.dstNamedPortIpSetIds.length > 1 then [] else s.2.dstNamedPortIpSetIds } := by
  unfold stepDstPorts; split <;> rfl

theorem stepSrcNet_snd :
    (stepSrcNet cfg s).2 = { s.2 with srcNet := if s.2.srcNet.length > 1 then [] else s.2.srcNet } := by
  unfold stepSrcNet; split <;> rfl

theorem stepDstNet_snd :
    (stepDstNet cfg s).2 = { s.2 with dstNet := if s.2.dstNet.length > 1 then [] else s.2.dstNet } := by
  unfold stepDstNet; split <;> rfl

theorem stepNegSrcNet_snd :
    (stepNegSrcNet cfg s).2 =
      { s.2 with notSrcNet := if s.2.srcNet.length + s.2.notSrcNet.length > 1 then [] else s.2.notSrcNet } := by
  unfold stepNegSrcNet; split <;> rfl

theorem stepNegDstNet_snd :
    (stepNegDstNet cfg s).2 =
      { s.2 with notDstNet := if s.2.dstNet.length + s.2.notDstNet.length > 1 then [] else s.2.notDstNet } := by
  unfold stepNegDstNet; split <;> rfl

end snd

theorem buildBlocks_snd (cfg : Cfg) (setName : String → String) (r : Policy.Rule) :
    (buildBlocks cfg setName r).2 =
      { r with
        srcPorts := if (splitPortList r.srcPorts).length + r.srcNamedPortIpSetIds.length > 1 then [] else r.srcPorts
        srcNamedPortIpSetIds :=
          if (splitPortList r.srcPorts).length + r.srcNamedPortIpSetIds.length > 1 then [] else r.srcNamedPortIpSetIds
        dstPorts := if (splitPortList r.dstPorts).length + r.dstNamedPortIpSetIds.length > 1 then [] else r.dstPorts
        dstNamedPortIpSetIds :=
          if (splitPortList r.dstPorts).length + r.dstNamedPortIpSetIds.length > 1 then [] else r.dstNamedPortIpSetIds
        srcNet := if r.srcNet.length > 1 then [] else r.srcNet
        dstNet := if r.dstNet.length > 1 then [] else r.dstNet
        notSrcNet :=
          if (if r.srcNet.length > 1 then [] else r.srcNet).length + r.notSrcNet.length > 1 then [] else r.notSrcNet
        notDstNet :=
          if (if r.dstNet.length > 1 then [] else r.dstNet).length + r.notDstNet.length > 1 then [] else r.notDstNet } := by
  simp only [buildBlocks, stepNegDstNet_snd, stepNegSrcNet_snd, stepDstNet_snd, stepSrcNet_snd, stepDstPorts_snd,
    stepSrcPorts_snd]

theorem simple_final (cfg : Cfg) (setName : String → String) (v6 : Bool) (r : Policy.Rule) (hf : Fam v6 r) :
    Simple v6 (buildBlocks cfg setName r).2 := by
  obtain ⟨f1, f2, f3, f4⟩ := hf
  have portsOK : ∀ (ps : List PortRange) (nm : List String),
      ¬ ((splitPortList ps).length + nm.length > 1) → nm.length ≤ 1 ∧ (ps = [] ∨ nm = []) := by
    intro ps nm h
    refine ⟨by omega, ?_⟩
    cases nm with
    | nil => exact Or.inr rfl
    | cons a as =>
      refine Or.inl ((splitPortList_eq_nil ps).1 ?_)
      cases hs : splitPortList ps with
      | nil => rfl
      | cons x xs => rw [hs] at h; simp at h; omega
  have nil_or : ∀ {c : Prop} [Decidable c] (l : List String), (∀ x ∈ l, cidrIsV6 x = v6) →
      ∀ x ∈ (if c then [] else l), cidrIsV6 x = v6 := by
    intro c _ l hl x hx
    split at hx
    · exact absurd hx List.not_mem_nil
    · exact hl x hx
  have len_le : ∀ {c : Prop} [Decidable c] (l : List String), (¬ c → l.length ≤ 1) →
      (if c then [] else l).length ≤ 1 := by
    intro c _ l hl
    split
    · exact Nat.zero_le _
    · exact hl ‹_›
  rw [buildBlocks_snd]
  constructor <;> dsimp only
  · exact len_le _ fun h => by omega
  · exact len_le _ fun h => by omega
  · exact len_le _ fun h => by omega
  · exact len_le _ fun h => by omega
  · split
    · exact Nat.zero_le _
    · exact (portsOK _ _ ‹_›).1
  · split
    · exact Nat.zero_le _
    · exact (portsOK _ _ ‹_›).1
  · split
    · exact Or.inl rfl
    · exact (portsOK _ _ ‹_›).2
  · split
    · exact Or.inl rfl
    · exact (portsOK _ _ ‹_›).2
  · exact nil_or _ f1
  · exact nil_or _ f2
  · exact nil_or _ f3
  · exact nil_or _ f4

/-- number of positive match blocks `ProtoRuleToIptablesRules` renders for an (IP-version filtered) rule -/
def numPositive (r : Policy.Rule) : Nat :=
  (if (splitPortList r.srcPorts).length + r.srcNamedPortIpSetIds.length > 1 then 1 else 0) +
  (if (splitPortList r.dstPorts).length + r.dstNamedPortIpSetIds.length > 1 then 1 else 0) +
  (if r.srcNet.length > 1 then 1 else 0) + (if r.dstNet.length > 1 then 1 else 0)

theorem build_inv (env : Env) (call : String → Mark → Result) (pkt : Packet) (cfg : Cfg)
    (setName : String → String) (hT : cfg.markScratch1 ≠ 0) (hAT : cfg.markScratch0 &&& cfg.markScratch1 = 0)
    (r : Policy.Rule) (fam : Fam pkt.v6 r) :
    StInv env call pkt cfg setName (netsMatch env r pkt && restMatch env setName r pkt)
      (buildBlocks cfg setName r) (numPositive r) := by
  have i0 : StInv env call pkt cfg setName (netsMatch env r pkt && restMatch env setName r pkt) ({}, r) 0 :=
    ⟨fun _ => ⟨true, BInv.empty env call pkt cfg, Bool.true_and _⟩, fam⟩
  -- the positive blocks, in the order of the Go code, then the negated ones
  obtain ⟨i1, fr1⟩ := step_srcPorts env call pkt cfg setName hAT hT i0 (fun _ => rfl)
  obtain ⟨i2, fr2⟩ := step_dstPorts env call pkt cfg setName hAT hT i1 fr1
  obtain ⟨i3, fr3⟩ := step_srcNet env call pkt cfg setName hAT hT i2 fr2
  obtain ⟨i4, _⟩ := step_dstNet env call pkt cfg setName hAT hT i3 fr3
  have i6 := step_negDstNet env call pkt cfg setName hAT (step_negSrcNet env call pkt cfg setName hAT i4)
  simp only [stepSrcNet_snd, stepDstPorts_snd, stepSrcPorts_snd, Nat.zero_add] at i6
  exact i6

structure MarksOK (cfg : Cfg) : Prop where
  tNe : cfg.markScratch1 ≠ 0
  aNe : cfg.markScratch0 ≠ 0
  at_ : cfg.markScratch0 &&& cfg.markScratch1 = 0
  accNe : cfg.markAccept ≠ 0
  passNe : cfg.markPass ≠ 0
  dropNe : cfg.markDrop ≠ 0
  accA : cfg.markAccept &&& cfg.markScratch0 = 0
  accT : cfg.markAccept &&& cfg.markScratch1 = 0
  passA : cfg.markPass &&& cfg.markScratch0 = 0
  passT : cfg.markPass &&& cfg.markScratch1 = 0
  dropA : cfg.markDrop &&& cfg.markScratch0 = 0
  dropT : cfg.markDrop &&& cfg.markScratch1 = 0

/-- **End-to-end exactness of `ProtoRuleToIptablesRules` for rules with at most two positive match
blocks**: the rendered rules followed by `rest` take the rule's action where the rule matches and
otherwise run `rest`, on a mark that differs from the entry mark in the scratch bits only.  Only the
bit of the rule's own action needs to be clear on entry. -/
theorem render_exact_le2 (cfg : Cfg) (ctx : Ctx) (env : Env) (call : String → Mark → Result) (pkt : Packet)
    (setName : String → String) (r : Policy.Rule) (rest : List Netfilter.Rule) (mark : Mark) (act : RuleAction)
    (mo : MarksOK cfg) (henv : EnvCatchAll env)
    (hi : env.dp = .ipt ∨ ∀ t c, r.notIcmp ≠ .typeCode t c)
    (hpos : ∀ rc, filterRuleToIPVersion pkt.v6 r = some rc → numPositive rc ≤ 2)
    (hact : parseAction r.action = some act)
    (hmA : act = .allow → mark &&& cfg.markAccept = 0) (hmP : act = .pass → mark &&& cfg.markPass = 0)
    (hmD : act = .deny → mark &&& cfg.markDrop = 0) :
    ∃ rs mark', protoRuleToRules cfg ctx setName pkt.v6 r = some rs ∧
      baseOf cfg.markScratch0 cfg.markScratch1 mark' = baseOf cfg.markScratch0 cfg.markScratch1 mark ∧
      runRules env call pkt (rs ++ rest) mark =
        if ruleMatches env setName r pkt then actionOutcome cfg env call pkt rest mark' act
        else runRules env call pkt rest mark' := by
  rw [filterRule_preserves env henv setName r pkt]
  unfold protoRuleToRules
  cases hf : filterRuleToIPVersion pkt.v6 r with
  | none => exact ⟨[], mark, rfl, rfl, rfl⟩
  | some rc =>
    obtain ⟨fam, hra, hrn, hipv, hv⟩ := filterRule_some hf
    have hs := simple_final cfg setName pkt.v6 rc fam
    have hi' : env.dp = .ipt ∨ ∀ t c, (buildBlocks cfg setName rc).2.notIcmp ≠ .typeCode t c := by
      rw [buildBlocks_snd, hrn]; exact hi
    have hact' : parseAction (buildBlocks cfg setName rc).2.action = some act := by
      rw [buildBlocks_snd, hra]; exact hact
    have hrm : ruleMatches env setName rc pkt = (netsMatch env rc pkt && restMatch env setName rc pkt) := by
      have : (rc.ipVersion == 0 || rc.ipVersion == if pkt.v6 = true then 6 else 4) = true := by
        rw [hipv, Bool.or_eq_true, beq_iff_eq, beq_iff_eq]; exact hv
      rw [ruleMatches, this, Bool.true_and]
    simp only [hrm]
    obtain ⟨pred, hb, hm⟩ := (build_inv env call pkt cfg setName mo.tNe mo.at_ rc fam).ex (hpos rc hf)
    obtain ⟨m, hcalc, hcl⟩ := calc_exact env pkt setName _ hs hi'
    cases hu : (buildBlocks cfg setName rc).1.usingBlocks
    · -- no match blocks at all
      obtain ⟨hrules, _, rfl⟩ := hb.idle hu
      obtain ⟨rsc, hcomb, hrun⟩ := combine_exact cfg ctx env call pkt _ act m hact' mo.accNe mo.passNe mo.dropNe
      refine ⟨rsc, mark, by simp [hcalc, hcomb, hrules], rfl, ?_⟩
      rw [hrun rest mark hmA hmP hmD, hcl, ← hm, Bool.true_and]
    · -- match blocks, then the final rule tests AllBlocksPass
      obtain ⟨rsc, hcomb, hrunc⟩ := combine_exact cfg ctx env call pkt _ act
        (m ++ [.mark false cfg.markScratch0 cfg.markScratch0]) hact' mo.accNe mo.passNe mo.dropNe
      obtain ⟨t, _, hrun⟩ := hb.run hu (rsc ++ rest) mark
      refine ⟨(buildBlocks cfg setName rc).1.rules ++ rsc,
        put cfg.markScratch1 t (put cfg.markScratch0 pred mark), by simp [hcalc, hcomb], baseOf_put _ _ _ _ _, ?_⟩
      -- the verdict bits are disjoint from the scratch bits, so still clear
      have hv : ∀ x : Mark, x &&& cfg.markScratch0 = 0 → x &&& cfg.markScratch1 = 0 → mark &&& x = 0 →
          put cfg.markScratch1 t (put cfg.markScratch0 pred mark) &&& x = 0 := by
        intro x hxA hxT hx
        rw [put_and_of_disjoint (by rwa [BitVec.and_comm]), put_and_of_disjoint (by rwa [BitVec.and_comm]), hx]
      rw [List.append_assoc, hrun, hrunc rest _ (fun h => hv _ mo.accA mo.accT (hmA h))
        (fun h => hv _ mo.passA mo.passT (hmP h)) (fun h => hv _ mo.dropA mo.dropT (hmD h))]
      have htest : (put cfg.markScratch1 t (put cfg.markScratch0 pred mark) &&& cfg.markScratch0 == cfg.markScratch0) = pred := by
        rw [put_and_of_disjoint (by rw [BitVec.and_comm]; exact mo.at_), put_and_self]
        cases pred
        · exact beq_false_of_ne (Ne.symm mo.aNe)
        · exact beq_self_eq_true _
      rw [clausesMatch_append, hcl, ← hm, clausesMatch_mark, htest, Bool.and_comm]

end CalicoVerif.C08
