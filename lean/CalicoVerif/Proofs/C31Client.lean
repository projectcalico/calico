import CalicoVerif.Proofs.C31Chan
/-! C31 — the policy-sync client: which component of its view a message touches (frames), when a message
keeps the view referentially closed (guards), and what it means for a component to mirror a store of the
Processor. -/
namespace CalicoVerif.C31

theorem applyMsgs_nil (v : View) : applyMsgs v [] = v := rfl
theorem applyMsgs_cons (v : View) (m : Msg) (ms : List Msg) : applyMsgs v (m :: ms) = applyMsgs (applyMsg v m) ms := rfl
theorem applyMsgs_append (v : View) (a b : List Msg) : applyMsgs v (a ++ b) = applyMsgs (applyMsgs v a) b :=
  List.foldl_append

theorem viewOf_append (evs new : List Ev) (c : Nat) :
    viewOf (evs ++ new) c = applyMsgs (viewOf evs c) (msgsOf new c) := by
  rw [viewOf, msgsOf_append, applyMsgs_append]; rfl

theorem upd_isSome {α : Type} {f : Nat → Option α} {id k : Nat} {a : Option α} (h : (f k).isSome)
    (ha : k = id → a.isSome) : (upd f id a k).isSome := by
  unfold upd; split
  · next e => exact ha e
  · exact h

theorem of_upd_some {α : Type} {f : Nat → Option α} {id k : Nat} {a b : α} (h : upd f id (some a) k = some b) :
    b = a ∨ (k ≠ id ∧ f k = some b) := by
  unfold upd at h; split at h
  · exact Or.inl (Option.some.inj h).symm
  · next e => exact Or.inr ⟨e, h⟩

theorem of_upd_none {α : Type} {f : Nat → Option α} {id k : Nat} {b : α} (h : upd f id none k = some b) :
    k ≠ id ∧ f k = some b := by
  unfold upd at h; split at h
  · cases h
  · next e => exact ⟨e, h⟩

inductive Kind | ep | pol | prof | ip | sa | ns | sync
deriving DecidableEq

def Msg.kind : Msg → Kind
  | .inSync => .sync
  | .epUpd _ _ => .ep
  | .epRm _ => .ep
  | .polUpd _ _ => .pol
  | .polRm _ => .pol
  | .profUpd _ _ => .prof
  | .profRm _ => .prof
  | .saUpd _ _ => .sa
  | .saRm _ => .sa
  | .nsUpd _ _ => .ns
  | .nsRm _ => .ns
  | .ipUpd _ _ => .ip
  | .ipDelta _ _ _ => .ip
  | .ipRm _ => .ip

/-- the kinds `ks` are a set, given as a list; `Frame.trans` chains, a field with `by decide` reads off that a component
was left alone -/
structure Frame (ks : List Kind) (v v' : View) : Prop where
  ep : .ep ∉ ks → v'.ep = v.ep
  pols : .pol ∉ ks → v'.pols = v.pols
  profs : .prof ∉ ks → v'.profs = v.profs
  ipsets : .ip ∉ ks → v'.ipsets = v.ipsets
  sas : .sa ∉ ks → v'.sas = v.sas
  nss : .ns ∉ ks → v'.nss = v.nss
  inSync : .sync ∉ ks → v'.inSync = v.inSync

theorem Frame.refl (ks : List Kind) (v : View) : Frame ks v v :=
  ⟨fun _ => rfl, fun _ => rfl, fun _ => rfl, fun _ => rfl, fun _ => rfl, fun _ => rfl, fun _ => rfl⟩

theorem Frame.comp {ks₁ ks₂ ks : List Kind} {a b c : View} (f₁ : Frame ks₁ a b) (f₂ : Frame ks₂ b c)
    (h₁ : ∀ k ∈ ks₁, k ∈ ks) (h₂ : ∀ k ∈ ks₂, k ∈ ks) : Frame ks a c :=
  ⟨fun h => (f₂.ep (mt (h₂ _) h)).trans (f₁.ep (mt (h₁ _) h)),
   fun h => (f₂.pols (mt (h₂ _) h)).trans (f₁.pols (mt (h₁ _) h)),
   fun h => (f₂.profs (mt (h₂ _) h)).trans (f₁.profs (mt (h₁ _) h)),
   fun h => (f₂.ipsets (mt (h₂ _) h)).trans (f₁.ipsets (mt (h₁ _) h)),
   fun h => (f₂.sas (mt (h₂ _) h)).trans (f₁.sas (mt (h₁ _) h)),
   fun h => (f₂.nss (mt (h₂ _) h)).trans (f₁.nss (mt (h₁ _) h)),
   fun h => (f₂.inSync (mt (h₂ _) h)).trans (f₁.inSync (mt (h₁ _) h))⟩

theorem Frame.trans {ks₁ ks₂ : List Kind} {a b c : View} (f₁ : Frame ks₁ a b) (f₂ : Frame ks₂ b c) :
    Frame (ks₁ ++ ks₂) a c :=
  f₁.comp f₂ (fun _ => List.mem_append_left _) (fun _ => List.mem_append_right _)

theorem applyMsg_frame (v : View) (m : Msg) : Frame [m.kind] v (applyMsg v m) := by
  cases m <;> constructor <;> intro h <;> first | rfl | exact absurd List.mem_cons_self h

theorem applyMsgs_frame {k : Kind} {ms : List Msg} (hk : ∀ m ∈ ms, m.kind = k) (v : View) :
    Frame [k] v (applyMsgs v ms) := by
  induction ms generalizing v with
  | nil => exact Frame.refl _ v
  | cons m ms ih =>
    obtain ⟨hm, hms⟩ := List.forall_mem_cons.1 hk
    exact (hm ▸ applyMsg_frame v m).comp (ih hms _) (fun _ h => h) (fun _ h => h)

theorem kind_map {β : Type} {mk : β → Msg} {k : Kind} (h : ∀ id, (mk id).kind = k) (ids : List β) :
    ∀ m ∈ ids.map mk, m.kind = k := by
  intro m hm; obtain ⟨id, _, rfl⟩ := List.mem_map.1 hm; exact h id

/-- what must already hold at the client for message `m` to keep it referentially closed -/
def guard (v : View) : Msg → Prop
  | .polUpd _ r => ∀ x ∈ r.refs, (v.ipsets x).isSome
  | .profUpd _ r => ∀ x ∈ r.refs, (v.ipsets x).isSome
  | .epUpd _ e => (∀ id ∈ e.pols, (v.pols id).isSome) ∧ (∀ id ∈ e.profs, (v.profs id).isSome)
  | .polRm id => ∀ w e, v.ep = some (w, e) → id ∉ e.pols
  | .profRm id => ∀ w e, v.ep = some (w, e) → id ∉ e.profs
  | .ipRm x => (∀ id r, v.pols id = some r → x ∉ r.refs) ∧ (∀ id r, v.profs id = some r → x ∉ r.refs)
  | _ => True

theorem closed_step {v : View} (hc : Closed v) (m : Msg) (hg : guard v m) : Closed (applyMsg v m) := by
  cases m with
  | inSync => exact ⟨hc.pols, hc.profs, hc.polRefs, hc.profRefs⟩
  | saUpd id x => exact ⟨hc.pols, hc.profs, hc.polRefs, hc.profRefs⟩
  | saRm id => exact ⟨hc.pols, hc.profs, hc.polRefs, hc.profRefs⟩
  | nsUpd id x => exact ⟨hc.pols, hc.profs, hc.polRefs, hc.profRefs⟩
  | nsRm id => exact ⟨hc.pols, hc.profs, hc.polRefs, hc.profRefs⟩
  | epUpd w e =>
    refine ⟨fun w' e' h => ?_, fun w' e' h => ?_, hc.polRefs, hc.profRefs⟩ <;> cases h
    · exact hg.1
    · exact hg.2
  | epRm w => exact ⟨nofun, nofun, hc.polRefs, hc.profRefs⟩
  | polUpd id r =>
    refine ⟨fun w' e' h k hk => upd_isSome (hc.pols w' e' h k hk) fun _ => rfl, hc.profs, fun k r' h x hx => ?_, hc.profRefs⟩
    rcases of_upd_some h with rfl | ⟨_, h'⟩
    · exact hg x hx
    · exact hc.polRefs k r' h' x hx
  | profUpd id r =>
    refine ⟨hc.pols, fun w' e' h k hk => upd_isSome (hc.profs w' e' h k hk) fun _ => rfl, hc.polRefs, fun k r' h x hx => ?_⟩
    rcases of_upd_some h with rfl | ⟨_, h'⟩
    · exact hg x hx
    · exact hc.profRefs k r' h' x hx
  | polRm id =>
    exact ⟨fun w' e' h k hk => upd_isSome (hc.pols w' e' h k hk) fun e => absurd (e ▸ hk) (hg w' e' h), hc.profs,
      fun k r' h x hx => hc.polRefs k r' (of_upd_none h).2 x hx, hc.profRefs⟩
  | profRm id =>
    exact ⟨hc.pols, fun w' e' h k hk => upd_isSome (hc.profs w' e' h k hk) fun e => absurd (e ▸ hk) (hg w' e' h),
      hc.polRefs, fun k r' h x hx => hc.profRefs k r' (of_upd_none h).2 x hx⟩
  | ipUpd id ms =>
    exact ⟨hc.pols, hc.profs, fun k r' h x hx => upd_isSome (hc.polRefs k r' h x hx) fun _ => rfl,
      fun k r' h x hx => upd_isSome (hc.profRefs k r' h x hx) fun _ => rfl⟩
  | ipDelta id a d =>
    have key : ∀ x, (v.ipsets x).isSome → ((applyMsg v (Msg.ipDelta id a d)).ipsets x).isSome := fun x hx =>
      upd_isSome hx fun e => by rw [← e, Option.isSome_map]; exact hx
    exact ⟨hc.pols, hc.profs, fun k r' h x hx => key x (hc.polRefs k r' h x hx), fun k r' h x hx => key x (hc.profRefs k r' h x hx)⟩
  | ipRm id =>
    exact ⟨hc.pols, hc.profs,
      fun k r' h x hx => upd_isSome (hc.polRefs k r' h x hx) fun e => absurd (e ▸ hx) (hg.1 k r' h),
      fun k r' h x hx => upd_isSome (hc.profRefs k r' h x hx) fun e => absurd (e ▸ hx) (hg.2 k r' h)⟩

def ClosedAlong : View → List Msg → Prop
  | v, [] => Closed v
  | v, m :: ms => Closed v ∧ ClosedAlong (applyMsg v m) ms

def Guarded : View → List Msg → Prop
  | _, [] => True
  | v, m :: ms => guard v m ∧ Guarded (applyMsg v m) ms

theorem closedAlong_of_guarded {v : View} {ms : List Msg} (hc : Closed v) (hg : Guarded v ms) : ClosedAlong v ms := by
  induction ms generalizing v with
  | nil => exact hc
  | cons m ms ih => exact ⟨hc, ih (closed_step hc m hg.1) hg.2⟩

theorem closedAlong_first {v : View} {ms : List Msg} (h : ClosedAlong v ms) : Closed v := by
  cases ms with
  | nil => exact h
  | cons m ms => exact h.1

theorem closedAlong_last {v : View} {ms : List Msg} (h : ClosedAlong v ms) : Closed (applyMsgs v ms) := by
  induction ms generalizing v with
  | nil => exact h
  | cons m ms ih => exact ih h.2

theorem closedAlong_append {v : View} {a b : List Msg} (ha : ClosedAlong v a) (hb : ClosedAlong (applyMsgs v a) b) :
    ClosedAlong v (a ++ b) := by
  induction a generalizing v with
  | nil => exact hb
  | cons m a ih => exact ⟨ha.1, ih ha.2 hb⟩

theorem closedAlong_take {v : View} {ms : List Msg} (h : ClosedAlong v ms) (k : Nat) : Closed (applyMsgs v (ms.take k)) := by
  induction ms generalizing v k with
  | nil => rw [List.take_nil]; exact h
  | cons m ms ih =>
    cases k with
    | zero => exact h.1
    | succ k => exact ih h.2 k

theorem guarded_append {v : View} {a b : List Msg} : Guarded v (a ++ b) ↔ Guarded v a ∧ Guarded (applyMsgs v a) b := by
  induction a generalizing v with
  | nil => exact ⟨fun h => ⟨trivial, h⟩, fun h => h.2⟩
  | cons m a ih => exact (and_congr_right fun _ => ih).trans and_assoc.symm

theorem not_mem_kind {k k' : Kind} (h : k ≠ k') : k ∉ [k'] := fun m => h (List.mem_singleton.1 m)

/-- what a guard asks of the client does not involve the component its message touches -/
theorem guard_congr {k : Kind} {v v' : View} {m : Msg} (hk : m.kind = k) (ha : Frame [k] v v') (hg : guard v m) :
    guard v' m := by
  subst hk
  cases m with
  | polUpd id r => simp only [guard, ha.ipsets (not_mem_kind nofun)]; exact hg
  | profUpd id r => simp only [guard, ha.ipsets (not_mem_kind nofun)]; exact hg
  | epUpd w e => simp only [guard, ha.pols (not_mem_kind nofun), ha.profs (not_mem_kind nofun)]; exact hg
  | polRm id => simp only [guard, ha.ep (not_mem_kind nofun)]; exact hg
  | profRm id => simp only [guard, ha.ep (not_mem_kind nofun)]; exact hg
  | ipRm x => simp only [guard, ha.pols (not_mem_kind nofun), ha.profs (not_mem_kind nofun)]; exact hg
  | _ => trivial

theorem seg_guarded {k : Kind} {v : View} {ms : List Msg} (hk : ∀ m ∈ ms, m.kind = k) (hg : ∀ m ∈ ms, guard v m) :
    Guarded v ms := by
  induction ms generalizing v with
  | nil => trivial
  | cons m ms ih =>
    obtain ⟨hm, hms⟩ := List.forall_mem_cons.1 hk
    obtain ⟨gm, gms⟩ := List.forall_mem_cons.1 hg
    exact ⟨gm, ih hms fun m' h' => guard_congr (hms m' h') (hm ▸ applyMsg_frame v m) (gms m' h')⟩

def setOf (ms : List Nat) : Nat → Bool := fun m => ms.contains m

theorem setOf_dedup (ms : List Nat) : setOf (dedup ms) = fun x => ms.contains x := by
  funext m
  exact Bool.eq_iff_iff.2 (by simp only [setOf, List.contains_iff_mem, mem_dedup])

theorem setOf_applyDelta (cur a d : List Nat) :
    setOf (applyDelta cur a d) = fun x => (setOf cur x || a.contains x) && !d.contains x := by
  funext m
  refine Bool.eq_iff_iff.2 ?_
  simp only [setOf, applyDelta, List.contains_iff_mem, List.mem_filter, mem_dedup, List.mem_append, Bool.and_eq_true,
    Bool.or_eq_true, Bool.not_eq_true']

/-- the client's component `f` holds exactly the keys in `S`, each in the Processor's version `g` -/
def Mirrors {α : Type} (f g : Nat → Option α) (S : List Nat) : Prop := ∀ id, f id = if id ∈ S then g id else none

theorem Mirrors.of_some {α : Type} {f g : Nat → Option α} {S : List Nat} (h : Mirrors f g S) {id : Nat} {a : α}
    (hf : f id = some a) : id ∈ S ∧ g id = some a := by
  rw [h id] at hf
  split at hf
  · next hi => exact ⟨hi, hf⟩
  · cases hf

theorem Mirrors.isSome {α : Type} {f g : Nat → Option α} {S : List Nat} (h : Mirrors f g S) {id : Nat} (hi : id ∈ S)
    (hg : (g id).isSome) : (f id).isSome := by
  rw [h id, if_pos hi]; exact hg

theorem Mirrors.congr {α : Type} {f g g' : Nat → Option α} {S S' : List Nat} (h : Mirrors f g S)
    (hS : ∀ id, id ∈ S' ↔ id ∈ S) (hg : ∀ id ∈ S, g' id = g id) : Mirrors f g' S' := fun id => by
  rw [h id]
  by_cases hi : id ∈ S
  · rw [if_pos hi, if_pos ((hS id).2 hi), hg id hi]
  · rw [if_neg hi, if_neg (mt (hS id).1 hi)]

theorem Mirrors.remove {α : Type} {f f' g : Nat → Option α} {S S' : List Nat} {P : Nat → Prop} [DecidablePred P]
    (h : Mirrors f g S) (hf' : ∀ x, f' x = if P x then none else f x) (hS' : ∀ x, x ∈ S' ↔ x ∈ S ∧ ¬ P x) :
    Mirrors f' g S' := fun x => by
  rw [hf' x, h x]
  by_cases hp : P x
  · rw [if_pos hp, if_neg fun m => ((hS' x).1 m).2 hp]
  · rw [if_neg hp]
    by_cases hs : x ∈ S
    · rw [if_pos hs, if_pos ((hS' x).2 ⟨hs, hp⟩)]
    · rw [if_neg hs, if_neg fun m => hs ((hS' x).1 m).1]

theorem Mirrors.set {α : Type} {f g g' : Nat → Option α} {S S' : List Nat} {k : Nat} {b : α} (h : Mirrors f g S)
    (hg' : ∀ x, g' x = if x = k then some b else g x) (hS' : ∀ x, x ∈ S' ↔ x = k ∨ x ∈ S) :
    Mirrors (upd f k (some b)) g' S' := fun x => by
  unfold upd
  rw [hg' x, h x]
  by_cases hk : x = k
  · rw [if_pos hk, if_pos hk, if_pos ((hS' x).2 (Or.inl hk))]
  · rw [if_neg hk, if_neg hk]
    by_cases hs : x ∈ S
    · rw [if_pos hs, if_pos ((hS' x).2 (Or.inr hs))]
    · rw [if_neg hs, if_neg fun m => ((hS' x).1 m).elim hk hs]

theorem Mirrors.add {α : Type} {f g : Nat → Option α} {S : List Nat} {k : Nat} {b : α} (h : Mirrors f g S)
    (hg : g k = some b) : Mirrors (upd f k (some b)) g (k :: S) :=
  h.set (fun x => by
    split
    · next e => rw [e, hg]
    · rfl) fun _ => List.mem_cons

end CalicoVerif.C31
