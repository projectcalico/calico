import CalicoVerif.Proofs.C32Spec
/-! C32 — list facts: the key-sorted store of windows per flow key (`diachronics`), the windows of one key under
`AddFlow` and `Rollover`, sums over the ghost log, `Aggregate`, key sets. -/
namespace CalicoVerif.C32

/-- the model reads the windows of a key in this spelling (`addFlow`, `maybeBuild`, `list`, `rollover`) -/
theorem Ring.wins_eq (r : Ring) (k : Nat) : (lookupDia r.dia k).getD [] = r.wins k := rfl

theorem winsOf_cons (p : Nat × List Win) (ps : List (Nat × List Win)) (k : Nat) :
    winsOf (p :: ps) k = if p.1 = k then p.2 else winsOf ps k := by
  unfold winsOf lookupDia
  by_cases h : p.1 = k <;> simp [h]

theorem keysSorted_cons {p : Nat × List Win} {ps : List (Nat × List Win)} :
    KeysSorted (p :: ps) ↔ (∀ q ∈ ps, p.1 < q.1) ∧ KeysSorted ps := by
  simp only [KeysSorted, List.map_cons, List.pairwise_cons, List.forall_mem_map]

theorem winsOf_of_lt {dia : List (Nat × List Win)} {k : Nat} (h : ∀ q ∈ dia, k < q.1) : winsOf dia k = [] := by
  induction dia with
  | nil => rfl
  | cons p ps ih =>
    rw [winsOf_cons, if_neg (Nat.ne_of_gt (h p (List.mem_cons_self ..)))]
    exact ih (fun q hq => h q (List.mem_cons_of_mem _ hq))

/-! `setDia` puts `(k, ws)` in front of the rest `l` of the store, or nothing when `ws` is empty. -/

theorem winsOf_ins_self {k : Nat} {ws : List Win} {l : List (Nat × List Win)} (h : winsOf l k = []) :
    winsOf (if ws.isEmpty = true then l else (k, ws) :: l) k = ws := by
  split
  · rename_i he; rw [h, List.isEmpty_iff.1 he]
  · rw [winsOf_cons, if_pos rfl]

theorem winsOf_ins_ne {k k' : Nat} {ws : List Win} {l : List (Nat × List Win)} (hne : k' ≠ k) :
    winsOf (if ws.isEmpty = true then l else (k, ws) :: l) k' = winsOf l k' := by
  split
  · rfl
  · rw [winsOf_cons, if_neg (Ne.symm hne)]

theorem mem_ins {k : Nat} {ws : List Win} {l : List (Nat × List Win)} {q : Nat × List Win}
    (hq : q ∈ (if ws.isEmpty = true then l else (k, ws) :: l)) : q ∈ l ∨ q.1 = k := by
  split at hq
  · exact Or.inl hq
  · rcases List.mem_cons.1 hq with rfl | hq
    · exact Or.inr rfl
    · exact Or.inl hq

theorem keysSorted_ins {k : Nat} {ws : List Win} {l : List (Nat × List Win)} (hs : KeysSorted l)
    (h : ∀ q ∈ l, k < q.1) : KeysSorted (if ws.isEmpty = true then l else (k, ws) :: l) := by
  split
  · exact hs
  · exact keysSorted_cons.2 ⟨h, hs⟩

theorem setDia_ne (k k' : Nat) (ws : List Win) (dia : List (Nat × List Win)) (hne : k' ≠ k) :
    winsOf (setDia k ws dia) k' = winsOf dia k' := by
  induction dia with
  | nil => exact winsOf_ins_ne hne
  | cons p ps ih =>
    simp only [setDia]
    split
    · exact winsOf_ins_ne hne
    · split
      · rename_i hk; rw [winsOf_ins_ne hne, winsOf_cons, if_neg (hk ▸ Ne.symm hne)]
      · rw [winsOf_cons, winsOf_cons, ih]

theorem setDia_self (k : Nat) (ws : List Win) (dia : List (Nat × List Win)) (hs : KeysSorted dia) :
    winsOf (setDia k ws dia) k = ws := by
  induction dia with
  | nil => exact winsOf_ins_self rfl
  | cons p ps ih =>
    obtain ⟨hall, hs'⟩ := keysSorted_cons.1 hs
    simp only [setDia]
    split
    · rename_i hlt
      refine winsOf_ins_self (winsOf_of_lt fun q hq => ?_)
      rcases List.mem_cons.1 hq with rfl | hq
      · exact hlt
      · exact Nat.lt_trans hlt (hall q hq)
    · split
      · rename_i hk; exact winsOf_ins_self (winsOf_of_lt fun q hq => hk ▸ hall q hq)
      · rename_i h2; rw [winsOf_cons, if_neg (Ne.symm h2)]; exact ih hs'

theorem setDia_keys (k : Nat) (ws : List Win) (dia : List (Nat × List Win)) (q : Nat × List Win)
    (hq : q ∈ setDia k ws dia) : q ∈ dia ∨ q.1 = k := by
  induction dia with
  | nil => exact mem_ins hq
  | cons p ps ih =>
    simp only [setDia] at hq
    split at hq
    · exact mem_ins hq
    · split at hq
      · exact (mem_ins hq).imp_left (List.mem_cons_of_mem _)
      · rcases List.mem_cons.1 hq with rfl | hq
        · exact Or.inl (List.mem_cons_self ..)
        · exact (ih hq).imp_left (List.mem_cons_of_mem _)

theorem setDia_sorted (k : Nat) (ws : List Win) (dia : List (Nat × List Win)) (hs : KeysSorted dia) :
    KeysSorted (setDia k ws dia) := by
  induction dia with
  | nil => exact keysSorted_ins hs (fun _ h => nomatch h)
  | cons p ps ih =>
    obtain ⟨hall, hs'⟩ := keysSorted_cons.1 hs
    simp only [setDia]
    split
    · rename_i hlt
      refine keysSorted_ins hs fun q hq => ?_
      rcases List.mem_cons.1 hq with rfl | hq
      · exact hlt
      · exact Nat.lt_trans hlt (hall q hq)
    · split
      · rename_i hk; exact keysSorted_ins hs' fun q hq => hk ▸ hall q hq
      · refine keysSorted_cons.2 ⟨fun q hq => ?_, ih hs'⟩
        rcases setDia_keys k ws ps q hq with h | h
        · exact hall q h
        · rw [h]; omega

theorem total_cons (w : Win) (ws : List Win) : total (w :: ws) = w.cnt + total ws := by
  simp only [total, List.map_cons, List.sum_cons]

theorem wcOf_cons (w : Win) (ws : List Win) (s : Int) :
    wcOf (w :: ws) s = (if w.start = s then w.cnt else 0) + wcOf ws s := by
  unfold wcOf
  by_cases h : w.start = s
  · rw [List.filter_cons_of_pos (by simpa using h), total_cons, if_pos h]
  · rw [List.filter_cons_of_neg (by simpa using h), if_neg h, Int.zero_add]

theorem wcOf_zero (ws : List Win) (s : Int) (h : ∀ w ∈ ws, w.start ≠ s) : wcOf ws s = 0 := by
  induction ws with
  | nil => rfl
  | cons x xs ih =>
    rw [wcOf_cons, if_neg (h x (List.mem_cons_self ..)), ih (fun w hw => h w (List.mem_cons_of_mem _ hw))]; rfl

/-- `AddFlow` brings in no new times except the bucket's. -/
theorem addWin_forall {P : Int → Int → Prop} (st sp c : Int) (ws : List Win) (h0 : P st sp)
    (h : ∀ w ∈ ws, P w.start w.stop) : ∀ w ∈ addWin st sp c ws, P w.start w.stop := by
  induction ws with
  | nil => intro w hw; rw [List.mem_singleton.1 hw]; exact h0
  | cons x xs ih =>
    have hx := h x (List.mem_cons_self ..)
    have hxs := fun w hw => h w (List.mem_cons_of_mem x hw)
    intro w hw
    simp only [addWin] at hw
    split at hw
    · split at hw
      · rcases List.mem_cons.1 hw with rfl | hw
        · exact hx
        · exact hxs w hw
      · rcases List.mem_cons.1 hw with rfl | hw
        · exact h0
        · exact h w hw
    · rcases List.mem_cons.1 hw with rfl | hw
      · exact hx
      · exact ih hxs w hw

theorem addWin_starts (st sp c : Int) (ws : List Win) (s : Int) :
    (∃ w ∈ addWin st sp c ws, w.start = s) ↔ s = st ∨ ∃ w ∈ ws, w.start = s := by
  induction ws with
  | nil => simp [addWin, eq_comm]
  | cons x xs ih =>
    simp only [addWin]
    split
    · split
      · rename_i hx; simp [hx, eq_comm]
      · simp [eq_comm]
    · simp only [List.mem_cons, or_and_right, exists_or, exists_eq_left, ih]; exact or_left_comm

theorem addWin_wc (st sp c : Int) (ws : List Win) (s : Int) :
    wcOf (addWin st sp c ws) s = wcOf ws s + (if st = s then c else 0) := by
  induction ws with
  | nil => rw [addWin, wcOf_cons]; exact Int.add_comm _ _
  | cons x xs ih =>
    simp only [addWin]
    split
    · split
      · rename_i hx
        rw [wcOf_cons, wcOf_cons, ← hx]
        show (if x.start = s then x.cnt + c else 0) + _ = _
        split <;> omega
      · rw [wcOf_cons]; exact Int.add_comm _ _
    · rw [wcOf_cons, wcOf_cons, ih]; omega

theorem addWin_sorted (st sp c : Int) (ws : List Win) (h : WSorted ws) : WSorted (addWin st sp c ws) := by
  induction ws with
  | nil => exact List.pairwise_singleton _ _
  | cons x xs ih =>
    obtain ⟨hx, hxs⟩ := List.pairwise_cons.1 h
    simp only [addWin]
    split
    · rename_i hge
      split
      · exact List.pairwise_cons.2 ⟨hx, hxs⟩
      · refine List.pairwise_cons.2 ⟨fun b hb => ?_, h⟩
        rcases List.mem_cons.1 hb with rfl | hb
        · exact hge
        · exact Int.le_trans hge (hx b hb)
    · exact List.pairwise_cons.2
        ⟨addWin_forall (P := fun s _ => x.start ≤ s) st sp c xs (by omega) hx, ih hxs⟩

theorem dropExpired_suffix (lim : Int) (ws : List Win) : dropExpired lim ws <:+ ws := by
  induction ws with
  | nil => exact List.suffix_refl _
  | cons x xs ih =>
    simp only [dropExpired]
    split
    · exact List.suffix_refl _
    · exact List.suffix_cons_iff.2 (Or.inr ih)

theorem dropExpired_idem (lim : Int) (ws : List Win) : dropExpired lim (dropExpired lim ws) = dropExpired lim ws := by
  induction ws with
  | nil => rfl
  | cons x xs ih =>
    simp only [dropExpired]
    split
    · rename_i hx; simp only [dropExpired, hx, if_true]
    · exact ih

theorem dropExpired_wc (lim : Int) (ws : List Win) (s : Int)
    (hkeep : ∀ w ∈ ws, w.start = s → w.stop > lim) : wcOf (dropExpired lim ws) s = wcOf ws s := by
  induction ws with
  | nil => rfl
  | cons x xs ih =>
    simp only [dropExpired]
    split
    · rfl
    · rename_i hx
      rw [ih (fun w hw => hkeep w (List.mem_cons_of_mem _ hw)), wcOf_cons,
        if_neg (fun hh => hx (hkeep x (List.mem_cons_self ..) hh)), Int.zero_add]

theorem mem_dropExpired (lim I : Int) (ws : List Win) (hs : WSorted ws) (hI : ∀ w ∈ ws, w.stop = w.start + I)
    (w : Win) : w ∈ dropExpired lim ws ↔ w ∈ ws ∧ w.stop > lim := by
  induction ws with
  | nil => simp [dropExpired]
  | cons x xs ih =>
    obtain ⟨hx, hxs⟩ := List.pairwise_cons.1 hs
    have ih := ih hxs (fun w hw => hI w (List.mem_cons_of_mem _ hw))
    simp only [dropExpired]
    split
    · rename_i hxl
      refine ⟨fun hw => ⟨hw, ?_⟩, fun hw => hw.1⟩
      rcases List.mem_cons.1 hw with rfl | hw
      · exact hxl
      · have h1 := hx w hw
        have h2 := hI w (List.mem_cons_of_mem _ hw)
        have h3 := hI x (List.mem_cons_self ..)
        omega
    · rename_i hxl
      rw [ih, List.mem_cons]
      refine ⟨fun hw => ⟨Or.inr hw.1, hw.2⟩, fun hw => ⟨?_, hw.2⟩⟩
      rcases hw.1 with rfl | h
      · exact absurd hw.2 hxl
      · exact h

/-- the per-key expiry loop of `Rollover` -/
def expireFold (lim : Int) (keys : List Nat) (dia : List (Nat × List Win)) : List (Nat × List Win) :=
  keys.foldl (fun dia k => setDia k (dropExpired lim ((lookupDia dia k).getD [])) dia) dia

theorem expireFold_spec (lim : Int) (keys : List Nat) (dia : List (Nat × List Win)) (hs : KeysSorted dia) :
    KeysSorted (expireFold lim keys dia) ∧
    ∀ k, winsOf (expireFold lim keys dia) k = if k ∈ keys then dropExpired lim (winsOf dia k) else winsOf dia k := by
  induction keys generalizing dia with
  | nil => exact ⟨hs, fun k => by simp [expireFold]⟩
  | cons x xs ih =>
    obtain ⟨h1, h2⟩ := ih (setDia x (dropExpired lim (winsOf dia x)) dia) (setDia_sorted _ _ _ hs)
    refine ⟨h1, fun k => ?_⟩
    show winsOf (expireFold lim xs (setDia x (dropExpired lim (winsOf dia x)) dia)) k = _
    rw [h2]
    by_cases hkx : k = x
    · subst hkx
      rw [setDia_self _ _ _ hs]
      by_cases hm : k ∈ xs <;> simp [hm, dropExpired_idem]
    · rw [setDia_ne _ _ _ _ hkx]
      simp [hkx]

theorem inLog_iff (k : Nat) (lo hi : Int) (e : Nat × Int × Int) :
    inLog k lo hi e = true ↔ e.1 = k ∧ lo ≤ e.2.1 ∧ e.2.1 < hi := by
  simp [inLog, and_assoc]

theorem logSum_cons (e : Nat × Int × Int) (log : Log) (k : Nat) (lo hi : Int) :
    logSum (e :: log) k lo hi = logSum log k lo hi + (if e.1 = k ∧ lo ≤ e.2.1 ∧ e.2.1 < hi then e.2.2 else 0) := by
  unfold logSum
  by_cases h : e.1 = k ∧ lo ≤ e.2.1 ∧ e.2.1 < hi
  · rw [List.filter_cons_of_pos ((inLog_iff k lo hi e).2 h), if_pos h, List.map_cons, List.sum_cons, Int.add_comm]
  · rw [List.filter_cons_of_neg (fun hh => h ((inLog_iff k lo hi e).1 hh)), if_neg h, Int.add_zero]

theorem logSum_zero_of_lt (log : Log) (k : Nat) (lo hi : Int) (h : ∀ e ∈ log, e.2.1 < lo) : logSum log k lo hi = 0 := by
  unfold logSum
  rw [List.filter_eq_nil_iff.2 fun e he hh => by have := h e he; have := (inLog_iff k lo hi e).1 hh; omega]
  rfl

theorem aggregate_fold (sel : List Win) (a b c : Int) :
    (sel.foldl (fun (acc : Int × Int × Int) w =>
      (acc.1 + w.cnt,
       (if acc.2.1 == 0 || decide (w.start < acc.2.1) then w.start else acc.2.1),
       (if acc.2.2 == 0 || decide (w.stop > acc.2.2) then w.stop else acc.2.2))) (a, b, c)).1 = a + total sel := by
  induction sel generalizing a b c with
  | nil => exact (Int.add_zero a).symm
  | cons w ws ih => rw [List.foldl_cons, ih, total_cons, Int.add_assoc]

theorem aggregate_fst (ws : List Win) (gte lt : Int) : (aggregate ws gte lt).1 = total (ws.filter (inRange gte lt)) :=
  (aggregate_fold (ws.filter (inRange gte lt)) 0 0 0).trans (Int.zero_add _)

theorem insertKey_mem (k : Nat) (l : List Nat) (x : Nat) : x ∈ insertKey k l ↔ x = k ∨ x ∈ l := by
  induction l with
  | nil => simp [insertKey]
  | cons y ys ih =>
    simp only [insertKey]
    split
    · simp
    · split
      · rename_i hk; subst hk; simp
      · simp only [List.mem_cons, ih]; exact or_left_comm

theorem unionKeys_mem (a b : List Nat) (k : Nat) : k ∈ unionKeys a b ↔ k ∈ a ∨ k ∈ b := by
  unfold unionKeys
  induction a generalizing b with
  | nil => simp
  | cons x xs ih => rw [List.foldl_cons, ih, insertKey_mem, List.mem_cons, or_left_comm, or_assoc]

theorem flowSet_fold_mem (gte lt : Int) (bs : List Bucket) (acc : List Nat) (k : Nat)
    (h : k ∈ acc ∨ ∃ b ∈ bs, bucketSel gte lt b = true ∧ k ∈ b.keys) :
    k ∈ bs.foldl (fun acc b =>
      if (gte == 0 || decide (b.start ≥ gte)) && (lt == 0 || decide (b.start ≤ lt)) then unionKeys b.keys acc else acc) acc := by
  induction bs generalizing acc with
  | nil =>
    rcases h with h | ⟨b, hb, _⟩
    · exact h
    · cases hb
  | cons x xs ih =>
    rw [List.foldl_cons]
    apply ih
    rcases h with h | ⟨b, hb, hsel, hk⟩
    · left; split
      · exact (unionKeys_mem _ _ _).2 (Or.inr h)
      · exact h
    · rcases List.mem_cons.1 hb with rfl | hb
      · left; rw [if_pos (show (_ && _) = true from hsel)]; exact (unionKeys_mem _ _ _).2 (Or.inl hk)
      · right; exact ⟨b, hb, hsel, hk⟩

theorem sum_map_add (L : List Nat) (f g : Nat → Int) :
    (L.map (fun i => f i + g i)).sum = (L.map f).sum + (L.map g).sum := by
  induction L with
  | nil => rfl
  | cons x xs ih => simp only [List.map_cons, List.sum_cons, ih]; omega

theorem sum_map_zero (L : List Nat) : (L.map (fun _ => (0 : Int))).sum = 0 := by
  induction L with
  | nil => rfl
  | cons _ _ ih => rw [List.map_cons, List.sum_cons, ih]; rfl

theorem sum_map_single (L : List Nat) (hnd : L.Nodup) (x0 : Nat) (hx : x0 ∈ L) (c : Int) :
    (L.map (fun i => if i = x0 then c else 0)).sum = c := by
  induction L with
  | nil => cases hx
  | cons y ys ih =>
    obtain ⟨hy, hnd'⟩ := List.nodup_cons.1 hnd
    rw [List.map_cons, List.sum_cons]
    by_cases hyx : y = x0
    · subst hyx
      rw [if_pos rfl, List.map_congr_left (g := fun _ => (0 : Int)) (fun i hi => if_neg (fun (h : i = y) => hy (h ▸ hi))),
        sum_map_zero, Int.add_zero]
    · rw [if_neg hyx, ih hnd' ((List.mem_cons.1 hx).resolve_left (Ne.symm hyx)), Int.zero_add]

theorem total_partition (L : List Nat) (f : Nat → Int) (hnd : L.Nodup) (hinj : ∀ a ∈ L, ∀ b ∈ L, f a = f b → a = b)
    (ws : List Win) (hhome : ∀ w ∈ ws, ∃ i ∈ L, f i = w.start) :
    total ws = (L.map (fun i => wcOf ws (f i))).sum := by
  induction ws with
  | nil => exact (sum_map_zero L).symm
  | cons w ws ih =>
    obtain ⟨i0, hi0, hs0⟩ := hhome w (List.mem_cons_self ..)
    have hone : ∀ i ∈ L, (if w.start = f i then w.cnt else 0) = if i = i0 then w.cnt else 0 := by
      intro i hi
      by_cases hii : i = i0
      · rw [if_pos hii, if_pos (hii ▸ hs0.symm)]
      · rw [if_neg hii, if_neg (fun h => hii (hinj i hi i0 hi0 (h.symm.trans hs0.symm)))]
    simp only [wcOf_cons]
    rw [sum_map_add, List.map_congr_left hone, sum_map_single L hnd i0 hi0, total_cons,
      ih (fun w' hw' => hhome w' (List.mem_cons_of_mem _ hw'))]

end CalicoVerif.C32
