import CalicoVerif.Model.C40
import CalicoVerif.Proofs.CoreFacts
/-! C40 — how `runRules` / `runChain` of `Model/C40Nf` evaluate: one rule at a time, then blocks of rules (skipped,
decided by their first match, or unable to drop); from `failsafeRule_matches` on, what particular chains of `Model/C40`
do, up to the `*_via_hep` lemmas: a top-level chain drops nothing the host endpoint's chain does not drop.
`Model/C40Nf` is a second, smaller evaluator than `Model/Netfilter`; no lemma relates the two. -/
namespace CalicoVerif.C40

variable {cs : Chains} {f : Nat} {r : Rule} {rs : List Rule} {p : Pkt}

theorem forall_mem_pair {α : Type} {P : α → Prop} {a b : α} (ha : P a) (hb : P b) : ∀ x ∈ [a, b], P x :=
  List.forall_mem_cons.2 ⟨ha, List.forall_mem_singleton.2 hb⟩

theorem Rule.matches_eq_false (c : Crit) (hc : c ∈ r.crits) (h : c.holds p = false) : r.matches p = false :=
  List.all_eq_false.2 ⟨c, hc, by rw [h]; exact Bool.false_ne_true⟩

theorem Rule.matches_eq_true (h : ∀ c ∈ r.crits, c.holds p = true) : r.matches p = true :=
  List.all_eq_true.2 h

theorem Rule.matches_single {cm : Option String} {mc : List String} {c : Crit} {a : Action} :
    (Rule.mk cm mc [c] a).matches p = c.holds p := Bool.and_true _

theorem runRules_cons (cs : Chains) (f : Nat) (r : Rule) (rs : List Rule) (p : Pkt) :
    runRules cs f (r :: rs) p =
      if r.matches p then
        match r.action with
        | .accept => .accept
        | .drop => .drop
        | .ret => .fall p
        | .setMark m => runRules cs f rs { p with mark := p.mark ||| m }
        | .clearMark m => runRules cs f rs { p with mark := clearBits p.mark m }
        | .notrack => runRules cs f rs p
        | .rejectRst => .drop
        | .setMarkMasked m => runRules cs f rs { p with mark := p.mark ||| m }
        | .jump c => (match runChain cs f c p with | .fall p' => runRules cs f rs p' | v => v)
        | .goto c => runChain cs f c p
      else runRules cs f rs p := rfl

theorem runRules_cons_of_not_matches (h : r.matches p = false) : runRules cs f (r :: rs) p = runRules cs f rs p := by
  rw [runRules_cons, h]; rfl

theorem runRules_cons_accept (h : r.matches p = true) (ha : r.action = .accept) :
    runRules cs f (r :: rs) p = .accept := by
  rw [runRules_cons, h, ha]; rfl

theorem runRules_cons_drop (h : r.matches p = true) (ha : r.action = .drop) :
    runRules cs f (r :: rs) p = .drop := by
  rw [runRules_cons, h, ha]; rfl

theorem runRules_cons_ret (h : r.matches p = true) (ha : r.action = .ret) :
    runRules cs f (r :: rs) p = .fall p := by
  rw [runRules_cons, h, ha]; rfl

theorem runRules_cons_jump {c : String} (h : r.matches p = true) (ha : r.action = .jump c) :
    runRules cs f (r :: rs) p = (match runChain cs f c p with | .fall p' => runRules cs f rs p' | v => v) := by
  rw [runRules_cons, h, ha]; rfl

theorem runRules_cons_goto {c : String} (h : r.matches p = true) (ha : r.action = .goto c) :
    runRules cs f (r :: rs) p = runChain cs f c p := by
  rw [runRules_cons, h, ha]; rfl

theorem runRules_cons_clear {m : Nat} (h : r.matches p = true) (ha : r.action = .clearMark m) :
    runRules cs f (r :: rs) p = runRules cs f rs { p with mark := clearBits p.mark m } := by
  rw [runRules_cons, h, ha]; rfl

theorem runRules_cons_setMark {m : Nat} (h : r.matches p = true) (ha : r.action = .setMark m) :
    runRules cs f (r :: rs) p = runRules cs f rs { p with mark := p.mark ||| m } := by
  rw [runRules_cons, h, ha]; rfl

theorem runRules_cons_notrack (ha : r.action = .notrack) : runRules cs f (r :: rs) p = runRules cs f rs p := by
  rw [runRules_cons, ha]; cases r.matches p <;> rfl

theorem runChain_succ {c : String} (h : cs c = some rs) : runChain cs (f + 1) c p = runRules cs f rs p := by
  rw [runChain, h]; rfl

theorem runRules_append_of_not_matches {pre : List Rule} (rest : List Rule) (h : ∀ r ∈ pre, r.matches p = false) :
    runRules cs f (pre ++ rest) p = runRules cs f rest p := by
  induction pre with
  | nil => rfl
  | cons r pre ih =>
    rw [List.cons_append, runRules_cons_of_not_matches (h r List.mem_cons_self)]
    exact ih fun x hx => h x (List.mem_cons_of_mem _ hx)

theorem runRules_map_of_not_matches {α : Type} (g : α → Rule) {l : List α} (rest : List Rule)
    (h : ∀ a ∈ l, (g a).matches p = false) : runRules cs f (l.map g ++ rest) p = runRules cs f rest p :=
  runRules_append_of_not_matches rest (List.forall_mem_map.2 h)

theorem runRules_ite_append_of_not_matches (b : Prop) [Decidable b] {l : List Rule} (rest : List Rule)
    (h : b → ∀ r ∈ l, r.matches p = false) :
    runRules cs f ((if b then l else []) ++ rest) p = runRules cs f rest p := by
  split
  · exact runRules_append_of_not_matches rest (h ‹b›)
  · rfl

theorem runRules_first_match {pre : List Rule} (rest : List Rule) (hex : ∃ r ∈ pre, r.matches p = true) :
    ∃ r ∈ pre, r.matches p = true ∧ ∃ rs, runRules cs f (pre ++ rest) p = runRules cs f (r :: rs) p := by
  induction pre with
  | nil => obtain ⟨_, hx, _⟩ := hex; cases hx
  | cons a as ih =>
    cases hm : a.matches p with
    | true => exact ⟨a, List.mem_cons_self, hm, as ++ rest, rfl⟩
    | false =>
      obtain ⟨x, hx, hxm⟩ := hex
      have hx' : x ∈ as := by
        rcases List.mem_cons.1 hx with rfl | hx'
        · rw [hm] at hxm; cases hxm
        · exact hx'
      obtain ⟨r, hr, hrm, rs, e⟩ := ih ⟨x, hx', hxm⟩
      exact ⟨r, List.mem_cons_of_mem _ hr, hrm, rs, by rw [List.cons_append, runRules_cons_of_not_matches hm, e]⟩

theorem runRules_accept_block {pre : List Rule} (rest : List Rule)
    (hall : ∀ r ∈ pre, r.action = .accept) (hex : ∃ r ∈ pre, r.matches p = true) :
    runRules cs f (pre ++ rest) p = .accept := by
  obtain ⟨r, hr, hm, rs, e⟩ := runRules_first_match (cs := cs) (f := f) rest hex
  rw [e, runRules_cons_accept hm (hall r hr)]

theorem runRules_nomatch_or_drop {pre : List Rule} (rest : List Rule)
    (h : ∀ r ∈ pre, r.matches p = false ∨ r.action = .drop) (hex : ∃ r ∈ pre, r.matches p = true) :
    runRules cs f (pre ++ rest) p = .drop := by
  obtain ⟨r, hr, hm, rs, e⟩ := runRules_first_match (cs := cs) (f := f) rest hex
  rcases h r hr with h' | h'
  · rw [hm] at h'; cases h'
  · rw [e, runRules_cons_drop hm h']

theorem drop_through_jump {c : String} {P : Pkt → Prop} (ha : r.action = .jump c) (hp : P p)
    (hc : runChain cs f c p = .drop ∨ ∃ q, runChain cs f c p = .fall q ∧ P q)
    (h : ∀ q, P q → runRules cs f rs q = .drop) : runRules cs f (r :: rs) p = .drop := by
  cases hm : r.matches p with
  | false => rw [runRules_cons_of_not_matches hm]; exact h p hp
  | true =>
    rw [runRules_cons_jump hm ha]
    rcases hc with e | ⟨q, e, hq⟩ <;> rw [e]
    exact h q hq

/-- a terminal verdict other than DROP, or falling through (to the rest of the hook / the user's rules). -/
def NotDropped (r : Res) : Prop := r = .accept ∨ ∃ q, r = .fall q

theorem notDropped_nil : NotDropped (runRules cs f [] p) := Or.inr ⟨p, rfl⟩

theorem head_allow_notdropped (hm : r.matches p = true) (ha : r.action = .accept ∨ r.action = .ret) :
    NotDropped (runRules cs f (r :: rs) p) := by
  rcases ha with ha | ha
  · exact Or.inl (runRules_cons_accept hm ha)
  · exact Or.inr ⟨p, runRules_cons_ret hm ha⟩

theorem notDropped_allow_cons (ha : r.action = .accept ∨ r.action = .ret) (h : NotDropped (runRules cs f rs p)) :
    NotDropped (runRules cs f (r :: rs) p) := by
  cases hm : r.matches p with
  | true => exact head_allow_notdropped hm ha
  | false => rw [runRules_cons_of_not_matches hm]; exact h

theorem notDropped_allow_append {pre : List Rule} {rest : List Rule}
    (hall : ∀ r ∈ pre, r.action = .accept ∨ r.action = .ret) (h : NotDropped (runRules cs f rest p)) :
    NotDropped (runRules cs f (pre ++ rest) p) := by
  induction pre with
  | nil => exact h
  | cons r pre ih =>
    exact notDropped_allow_cons (hall r List.mem_cons_self) (ih fun x hx => hall x (List.mem_cons_of_mem _ hx))

theorem notDropped_jump_cons {c : String} (ha : r.action = .jump c) (hc : NotDropped (runChain cs f c p))
    (h : ∀ q, NotDropped (runRules cs f rs q)) : NotDropped (runRules cs f (r :: rs) p) := by
  cases hm : r.matches p with
  | false => rw [runRules_cons_of_not_matches hm]; exact h p
  | true =>
    rw [runRules_cons_jump hm ha]
    rcases hc with e | ⟨q, e⟩ <;> rw [e]
    · exact Or.inl rfl
    · exact h q

theorem testBit_clearBits (x m i : Nat) : (clearBits x m).testBit i = (x.testBit i && !m.testBit i) := by
  unfold clearBits
  rw [Nat.testBit_xor, Nat.testBit_and]
  cases x.testBit i <;> cases m.testBit i <;> rfl

theorem markSet_two_pow (p : Pkt) (b : Nat) : (Crit.markSet (2 ^ b)).holds p = p.mark.testBit b := by
  have : (0 : Nat) ≠ 2 ^ b := Nat.ne_of_lt (Nat.two_pow_pos b)
  rw [Crit.holds, and_two_pow]
  cases p.mark.testBit b
  · exact beq_eq_false_iff_ne.2 this
  · exact beq_self_eq_true _

theorem markClear_two_pow (p : Pkt) (b : Nat) : (Crit.markClear (2 ^ b)).holds p = !p.mark.testBit b := by
  have : 2 ^ b ≠ (0 : Nat) := Nat.ne_of_gt (Nat.two_pow_pos b)
  rw [Crit.holds, and_two_pow]
  cases p.mark.testBit b
  · rfl
  · exact beq_eq_false_iff_ne.2 this

theorem testBit_or_two_pow (m b : Nat) : (m ||| 2 ^ b).testBit b = true := by
  rw [Nat.testBit_or, Nat.testBit_two_pow]; simp

theorem testBit_or_keep (m z b : Nat) (h : m.testBit b = true) : (m ||| z).testBit b = true := by
  rw [Nat.testBit_or, h]; rfl

theorem failsafeRule_matches (pp : ProtoPort) (srcNet : Bool) (h1 : p.proto = pp.protoNum) (h2 : p.dport = pp.port)
    (h3 : match pp.net with
      | some (_, a, l) => inNet (if srcNet then p.src else p.dst) a l = true
      | none => True) :
    (failsafeRule pp true srcNet).matches p = true := by
  apply Rule.matches_eq_true
  intro c hc
  rcases List.mem_append.1 hc with hc | hc
  · rcases List.mem_cons.1 hc with rfl | hc
    · exact beq_iff_eq.2 h1
    · obtain rfl := List.mem_singleton.1 hc
      exact beq_iff_eq.2 h2
  · cases hn : pp.net with
    | none => rw [hn] at hc; cases hc
    | some t =>
      obtain ⟨t, a, l⟩ := t
      rw [hn] at hc h3
      obtain rfl := List.mem_singleton.1 hc
      cases srcNet <;> exact h3

theorem conntrack_skipped (c : Config) (allow : Action) (hct : p.ct = 0) :
    ∀ r ∈ conntrackRules c allow, r.matches p = false := by
  have he : Crit.ctEstablished.holds p = false := show (p.ct == 1) = false by rw [hct]; rfl
  have hi : Crit.ctInvalid.holds p = false := show (p.ct == 2) = false by rw [hct]; rfl
  intro r hr
  simp only [conntrackRules, List.mem_append, List.mem_ite_nil_right, List.mem_ite_nil_left,
    List.mem_singleton] at hr
  rcases hr with (⟨_, rfl⟩ | rfl) | ⟨_, rfl⟩
  · exact Rule.matches_eq_false _ (.head _) he
  · exact Rule.matches_eq_false _ (.head _) he
  · exact Rule.matches_eq_false _ (.head _) hi

/-- In a host endpoint chain the jump to the failsafe chain comes before anything that can drop a
packet the conntrack rules let pass. -/
theorem hepChain_failsafe_first (c : Config) (k : HepKind) (tiers : List Tier)
    (hct : k.untracked = true ∨ p.ct = 0) :
    ∃ rest, runRules cs f (hepChain c k tiers) p =
      (match runChain cs f (if k.ingress then chFailsafeIn else chFailsafeOut) p with
       | .fall p' => runRules cs f rest p'
       | v => v) := by
  have hskip : ∀ r ∈ (if k.untracked then [] else conntrackRules c (k.allow c)), r.matches p = false := by
    intro r hr
    obtain ⟨hu, hr⟩ := List.mem_ite_nil_left.1 hr
    exact conntrack_skipped c _ (hct.resolve_left hu) r hr
  unfold hepChain
  rw [List.append_assoc, List.append_assoc, runRules_append_of_not_matches _ hskip]
  exact ⟨_, runRules_cons_jump rfl rfl⟩

theorem wlDispatch_unknown_dropped (ifaces : List String)
    (hunk : ∀ n ∈ ifaces, ifaceMatches n p.inIf = false) :
    runRules cs f (wlDispatchChain true ifaces) p = .drop := by
  unfold wlDispatchChain
  rw [runRules_map_of_not_matches _ _ fun n hn => Rule.matches_eq_false (.inIf n) (.head _) (hunk n hn)]
  exact runRules_cons_drop rfl rfl

theorem prefix_gotos (prefixes : List String) (rest : List Rule)
    (hm : ∃ pfx ∈ prefixes, ifaceMatches (pfx ++ "+") p.inIf = true) :
    runRules cs f (prefixes.map inputPrefixRule ++ rest) p = runChain cs f chWlToHost p := by
  obtain ⟨pfx, hp, hpm⟩ := hm
  obtain ⟨r, hr, hrm, rs, e⟩ := runRules_first_match (cs := cs) (f := f) rest
    ⟨inputPrefixRule pfx, List.mem_map_of_mem hp, Rule.matches_single.trans hpm⟩
  obtain ⟨_, _, rfl⟩ := List.mem_map.1 hr
  rw [e, runRules_cons_goto hrm rfl]

theorem input_tunnel_rules_skipped (c : Config) (rest : List Rule) (h4 : c.ipip = false ∨ p.proto ≠ 4)
    (h17 : c.vxlan = false ∨ ¬ (p.proto = 17 ∧ p.dport = c.vxlanPort)) :
    runRules cs f (inputTunnelRules c ++ rest) p = runRules cs f rest p := by
  unfold inputTunnelRules
  rw [List.append_assoc, runRules_ite_append_of_not_matches, runRules_ite_append_of_not_matches]
  · intro hv r
    have h17 := h17.resolve_left (ne_false_of_eq_true hv)
    have : (Crit.protoNum 17).holds p = false ∨ (Crit.dports c.vxlanPort).holds p = false := by
      by_cases e : p.proto = 17
      · exact Or.inr (beq_eq_false_iff_ne.2 fun e' => h17 ⟨e, e'⟩)
      · exact Or.inl (beq_eq_false_iff_ne.2 e)
    revert r
    rcases this with h | h
    · exact forall_mem_pair (Rule.matches_eq_false _ (.head _) h) (Rule.matches_eq_false _ (.head _) h)
    · exact forall_mem_pair (Rule.matches_eq_false _ (.tail _ (.head _)) h)
        (Rule.matches_eq_false _ (.tail _ (.head _)) h)
  · intro hi
    have h : (Crit.protoNum 4).holds p = false :=
      beq_eq_false_iff_ne.2 (h4.resolve_left (ne_false_of_eq_true hi))
    exact forall_mem_pair (Rule.matches_eq_false _ (.head _) h) (Rule.matches_eq_false _ (.head _) h)

theorem hep_dispatch (from_ : Bool) {ch iface : String}
    (hdisp : cs ch = some (hepDispatchChain from_ [iface]))
    (hif : ifaceMatches iface (if from_ then p.inIf else p.outIf) = true)
    (hchain : cs ((if from_ then "cali-fh-" else "cali-th-") ++ iface) = some rs) :
    runChain cs (f + 2) ch p = runRules cs f rs p := by
  rw [runChain_succ hdisp]
  unfold hepDispatchChain
  rw [List.map_cons, List.map_nil,
    runRules_cons_goto (Rule.matches_single.trans (by cases from_ <;> exact hif)) rfl,
    runChain_succ hchain]

theorem vxlanNotrack_skip (c : Config) (rest : List Rule) :
    runRules cs f (vxlanNotrack c ++ rest) p = runRules cs f rest p := by
  unfold vxlanNotrack
  split
  · exact runRules_cons_notrack rfl
  · rfl

theorem prefix_setmarks (prefixes : List String) (rest : List Rule) (q : Pkt) :
    runRules cs f (prefixes.map (fun pfx =>
        ({ crits := [.inIf (pfx ++ "+")], action := .setMark markScratch0 } : Rule)) ++ rest) q =
      runRules cs f rest { q with mark := if prefixes.any fun pfx => ifaceMatches (pfx ++ "+") q.inIf
                                          then q.mark ||| markScratch0 else q.mark } := by
  induction prefixes generalizing q with
  | nil => rfl
  | cons a ps ih =>
    rw [List.map_cons, List.cons_append, List.any_cons]
    cases ha : ifaceMatches (a ++ "+") q.inIf with
    | false => rw [runRules_cons_of_not_matches (Rule.matches_eq_false (.inIf _) (.head _) ha), ih]; rfl
    | true =>
      rw [runRules_cons_setMark ((Rule.matches_single (c := .inIf _)).trans ha) rfl, ih]
      cases ps.any (fun pfx => ifaceMatches (pfx ++ "+") q.inIf)
      · rfl
      · show runRules cs f rest { q with mark := q.mark ||| markScratch0 ||| markScratch0 } = _
        rw [Nat.or_assoc, Nat.or_self]; rfl

/-- without the seen bit neither the bypass nor the fall-through mark pattern can match. -/
theorem unseen_not_sub (m z : Nat) (hz : z &&& markSeen = markSeen) (h : m &&& markSeen ≠ markSeen) :
    (m &&& z == z) = false := by
  apply beq_eq_false_iff_ne.2
  intro he
  apply h
  calc m &&& markSeen = m &&& (z &&& markSeen) := by rw [hz]
    _ = (m &&& z) &&& markSeen := (Nat.and_assoc _ _ _).symm
    _ = z &&& markSeen := by rw [he]
    _ = markSeen := hz

theorem manglePrerouting_via_hep (cs : Chains) (f : Nat) (c : Config) (iface : String) (rs : List Rule) (p : Pkt)
    (hallow : c.mangleAllow = .accept ∨ c.mangleAllow = .ret)
    (hdisp : cs chFromHep = some (hepDispatchChain true [iface])) (hif : ifaceMatches iface p.inIf = true)
    (hchain : cs ("cali-fh-" ++ iface) = some rs) (hhep : NotDropped (runRules cs f rs p)) :
    NotDropped (runRules cs (f + 2) (manglePreroutingChain c) p) := by
  rw [← hep_dispatch true hdisp hif hchain] at hhep
  exact notDropped_allow_cons hallow <| notDropped_allow_cons hallow <|
    notDropped_jump_cons rfl hhep fun _ => notDropped_allow_cons hallow notDropped_nil

theorem filterInput_via_hep (cs : Chains) (f : Nat) (c : Config) (iface : String) (rs : List Rule) (p : Pkt)
    (hallow : c.filterAllow = .accept ∨ c.filterAllow = .ret)
    (h4 : p.proto ≠ 4) (h17 : ¬ (p.proto = 17 ∧ p.dport = c.vxlanPort))
    (hnwl : ∀ pfx ∈ c.prefixes, ifaceMatches (pfx ++ "+") p.inIf = false)
    (hdisp : cs chFromHep = some (hepDispatchChain true [iface])) (hif : ifaceMatches iface p.inIf = true)
    (hchain : cs ("cali-fh-" ++ iface) = some rs)
    (hhep : NotDropped (runRules cs f rs { p with mark := clearBits p.mark markAll })) :
    NotDropped (runRules cs (f + 2) (filterInputChain c) p) := by
  rw [← hep_dispatch (p := { p with mark := clearBits p.mark markAll }) true hdisp hif hchain] at hhep
  unfold filterInputChain
  rw [input_tunnel_rules_skipped c _ (Or.inr h4) (Or.inr h17),
    runRules_map_of_not_matches _ _ fun pfx hp => Rule.matches_eq_false (.inIf _) (.head _) (hnwl pfx hp)]
  apply notDropped_allow_cons hallow
  rw [runRules_cons_clear rfl rfl]
  exact notDropped_jump_cons rfl hhep fun _ => notDropped_allow_cons hallow notDropped_nil

theorem filterOutput_via_hep (cs : Chains) (f : Nat) (c : Config) (iface : String) (rs : List Rule) (p : Pkt)
    (hallow : c.filterAllow = .accept ∨ c.filterAllow = .ret)
    (hdisp : cs chToHep = some (hepDispatchChain false [iface])) (hif : ifaceMatches iface p.outIf = true)
    (hchain : cs ("cali-th-" ++ iface) = some rs)
    (hhep : NotDropped (runRules cs f rs { p with mark := clearBits p.mark markAll })) :
    NotDropped (runRules cs (f + 2) (filterOutputChain c) p) := by
  rw [← hep_dispatch (p := { p with mark := clearBits p.mark markAll }) false hdisp hif hchain] at hhep
  have htun : ∀ r ∈ outputTunnelRules c, r.action = .accept ∨ r.action = .ret := by
    intro r hr
    rcases List.mem_append.1 hr with hr | hr <;>
      obtain rfl := List.mem_singleton.1 (List.mem_ite_nil_right.1 hr).2 <;> exact hallow
  apply notDropped_allow_cons hallow
  apply notDropped_allow_append fun r hr => by obtain ⟨_, _, rfl⟩ := List.mem_map.1 hr; exact Or.inr rfl
  apply notDropped_allow_append htun
  unfold outputTail
  rw [runRules_cons_clear rfl rfl]
  exact notDropped_jump_cons rfl hhep fun _ => notDropped_allow_cons hallow notDropped_nil

end CalicoVerif.C40
