import CalicoVerif.Model.C05
import CalicoVerif.Proofs.Assoc
/-!
C05, profile path of the ActiveRulesCalculator.  Two invariants: `ViewInv` (the rule scanner's table, read off
the event log, is what the current tables ask for) and `RefInv` (`profileIDToEndpointKeys` mirrors the stored
endpoint lists); every step keeps each (`step_view`, `step_ref`; one induction `run_inv`), and together they give
the table as a function of the current inputs (`view_spec`).  What an operation does to the tables it is not
about is said once per operation: `Kept` for the send and the loop bodies, `ProfilesSet` for `updateProfileRules`.
-/
namespace CalicoVerif.C05

section AL
variable {κ β : Type} [DecidableEq κ]

@[simp] theorem alGet_nil (k : κ) : alGet k ([] : List (κ × β)) = none := rfl

theorem alGet_cons (k k' : κ) (v : β) (l : List (κ × β)) :
    alGet k ((k', v) :: l) = if k' = k then some v else alGet k l := rfl

theorem alGet_eq (k : κ) (l : List (κ × β)) : alGet k l = Assoc.get l k := by
  induction l with
  | nil => rfl
  | cons p l ih => obtain ⟨a, b⟩ := p; simp only [alGet, Assoc.get, ih]

theorem alGet_alErase (k k' : κ) (l : List (κ × β)) :
    alGet k' (alErase k l) = if k' = k then none else alGet k' l := by
  rw [alGet_eq, alGet_eq]; exact Assoc.get_del l k k'

theorem alGet_alSet (k k' : κ) (v : β) (l : List (κ × β)) :
    alGet k' (alSet k v l) = if k' = k then some v else alGet k' l := by
  rw [alGet_eq, alGet_eq]; exact Assoc.get_set l k k' v

end AL

section
variable {R : Type}

/-- the rule scanner holds exactly the active profiles, each with its real rules if the profile is known and with
the deny stand-in otherwise -/
def ViewInv (st : Arc R) : Prop :=
  ∀ p, alGet p (view st.out) = if isActive st p then some (outOf st p) else none

theorem view_append (es : List (Event R)) (e : Event R) : view (es ++ [e]) = applyEvent (view es) e := by
  simp [view, List.foldl_append]

theorem isActive_iff (st : Arc R) (p : String) : isActive st p = true ↔ ∃ ep, (p, ep) ∈ st.refs := by
  unfold isActive
  simp only [List.any_eq_true, beq_iff_eq]
  constructor
  · rintro ⟨x, hx, rfl⟩; exact ⟨x.2, hx⟩
  · rintro ⟨ep, h⟩; exact ⟨_, h, rfl⟩

/-- `sendProfileUpdate p (allProfileRules[p])` re-establishes the invariant at `p` whatever the
view held for `p` before, and leaves every other profile alone. -/
theorem sendProfileUpdate_view {st : Arc R} {p : String}
    (h : ∀ q, q ≠ p → alGet q (view st.out) = if isActive st q then some (outOf st q) else none) :
    ViewInv (sendProfileUpdate p (alGet p st.profiles) st) := by
  -- only `out` changes, by the one event that says what the invariant wants at `p`
  have e : sendProfileUpdate p (alGet p st.profiles) st =
      { st with out := st.out ++ [if isActive st p then .active p (outOf st p) else .inactive p] } := by
    unfold sendProfileUpdate outOf
    split
    · cases alGet p st.profiles <;> rfl
    · rfl
  rw [e]
  intro q
  show alGet q (view (st.out ++ _)) = if isActive st q then some (outOf st q) else none
  rw [view_append]
  by_cases hq : q = p
  · subst hq
    by_cases ha : isActive st q = true
    · simp [ha, applyEvent, alGet_alSet]
    · simp [ha, applyEvent, alGet_alErase]
  · rw [← h q hq]
    by_cases ha : isActive st p = true
    · simp only [ha, if_true, applyEvent, alGet_alSet, hq, if_false]
    · simp only [ha, Bool.false_eq_true, if_false, applyEvent, alGet_alErase, hq]

theorem viewInv_of_same {st st' : Arc R} (h : ViewInv st) (ho : st'.out = st.out)
    (hp : st'.profiles = st.profiles) (ha : ∀ q, isActive st' q = isActive st q) : ViewInv st' := by
  intro q
  rw [ho, ha, h q]
  unfold outOf
  rw [hp]

theorem isActive_putRef (st : Arc R) (p ep q : String) :
    isActive (putRef p ep st) q = true ↔ (isActive st q = true ∨ q = p) := by
  unfold putRef
  by_cases hm : (p, ep) ∈ st.refs
  · simp only [hm, if_true]
    constructor
    · exact Or.inl
    · rintro (h | rfl)
      · exact h
      · exact (isActive_iff st q).2 ⟨ep, hm⟩
  · simp only [hm, if_false]
    rw [isActive_iff, isActive_iff]
    simp only [List.mem_append, List.mem_singleton, Prod.mk.injEq]
    constructor
    · rintro ⟨e, h | ⟨h, _⟩⟩
      · exact Or.inl ⟨e, h⟩
      · exact Or.inr h
    · rintro (⟨e, h⟩ | rfl)
      · exact ⟨e, Or.inl h⟩
      · exact ⟨ep, Or.inr ⟨rfl, rfl⟩⟩

theorem isActive_discardRef_ne (st : Arc R) (p ep q : String) (hq : q ≠ p) :
    isActive (discardRef p ep st) q = isActive st q := by
  apply Bool.eq_iff_iff.2
  rw [isActive_iff, isActive_iff]
  unfold discardRef
  simp only [List.mem_filter, decide_eq_true_eq, ne_eq, Prod.mk.injEq, not_and]
  constructor
  · rintro ⟨e, h, _⟩; exact ⟨e, h⟩
  · rintro ⟨e, h⟩; exact ⟨e, h, fun h' => absurd h' hq⟩

theorem isActive_discardRef_sub (st : Arc R) (p ep q : String) (h : isActive (discardRef p ep st) q = true) :
    isActive st q = true := by
  rw [isActive_iff] at h ⊢
  obtain ⟨e, he⟩ := h
  exact ⟨e, (List.mem_filter.1 he).1⟩

theorem putRef_out (st : Arc R) (p ep : String) : (putRef p ep st).out = st.out := by
  unfold putRef; split <;> rfl

theorem putRef_profiles (st : Arc R) (p ep : String) : (putRef p ep st).profiles = st.profiles := by
  unfold putRef; split <;> rfl

theorem outOf_congr {st st' : Arc R} (h : st'.profiles = st.profiles) (q : String) : outOf st' q = outOf st q := by
  unfold outOf; rw [h]

theorem addOne_view {st : Arc R} (ep id : String) (h : ViewInv st) : ViewInv (addOne ep st id) := by
  -- the new reference changes which profiles are active at `id` only, and not even there if `id` was active
  have key : ∀ q, (q = id → isActive st q = true) → isActive (putRef id ep st) q = isActive st q := fun q hq =>
    Bool.eq_iff_iff.2 (by rw [isActive_putRef]; exact ⟨fun h' => h'.elim (fun x => x) hq, Or.inl⟩)
  unfold addOne
  simp only
  split
  · next ha => exact viewInv_of_same h (putRef_out ..) (putRef_profiles ..) fun q => key q fun e => e ▸ ha
  · apply sendProfileUpdate_view
    intro q hq
    rw [key q fun e => absurd e hq, putRef_out, outOf_congr (putRef_profiles st id ep)]
    exact h q

theorem removeOne_view {st : Arc R} (ep id : String) (h : ViewInv st) : ViewInv (removeOne ep st id) := by
  unfold removeOne
  by_cases ha : isActive (discardRef id ep st) id = true
  · simp only [ha, if_true]
    refine viewInv_of_same (st' := discardRef id ep st) h rfl rfl ?_
    intro q
    by_cases hq : q = id
    · subst hq; rw [ha, isActive_discardRef_sub st q ep q ha]
    · exact isActive_discardRef_ne st id ep q hq
  · simp only [ha, Bool.false_eq_true, if_false]
    apply sendProfileUpdate_view
    intro q hq
    rw [isActive_discardRef_ne st id ep q hq]
    exact h q

theorem updateEndpointProfileIDs_view {st : Arc R} (ep : String) (ids : List String) (h : ViewInv st) :
    ViewInv (updateEndpointProfileIDs ep ids st) := by
  unfold updateEndpointProfileIDs
  refine List.foldlRecOn _ _ ?_ fun _ h a _ => removeOne_view ep a h
  refine List.foldlRecOn _ _ ?_ fun _ h a _ => addOne_view ep a h
  exact viewInv_of_same h rfl rfl (fun _ => rfl)

/-- Replacing the stored rules of `p` (and of `p` only) and re-sending `p` if it is active. -/
theorem setProfiles_view {st : Arc R} (p : String) (pr : List (String × R))
    (hpr : ∀ q, q ≠ p → alGet q pr = alGet q st.profiles) (h : ViewInv st) :
    ViewInv (if isActive ({ st with profiles := pr } : Arc R) p
      then sendProfileUpdate p (alGet p pr) { st with profiles := pr } else { st with profiles := pr }) := by
  have hne : ∀ q, q ≠ p → alGet q (view st.out) =
      if isActive st q then some (outOf ({ st with profiles := pr } : Arc R) q) else none := by
    intro q hq
    simp only [outOf, hpr q hq]
    exact h q
  split
  · exact sendProfileUpdate_view (st := { st with profiles := pr }) hne
  · next hact =>
    intro q
    by_cases hq : q = p
    · have hna : isActive st q = false := by subst hq; exact Bool.eq_false_iff.2 hact
      have := h q
      rw [hna] at this
      simpa [show isActive ({ st with profiles := pr } : Arc R) q = false from hna] using this
    · exact hne q hq

theorem updateProfileRules_view [DecidableEq R] {st : Arc R} (p : String) (v : Option R) (h : ViewInv st) :
    ViewInv (updateProfileRules p v st) := by
  unfold updateProfileRules
  cases v with
  | some r =>
    simp only
    split
    · exact h
    · simpa [alGet_alSet] using setProfiles_view p (alSet p r st.profiles) (fun q hq => by rw [alGet_alSet, if_neg hq]) h
  | none =>
    simpa [alGet_alErase] using setProfiles_view p (alErase p st.profiles) (fun q hq => by rw [alGet_alErase, if_neg hq]) h

theorem step_view [DecidableEq R] {st : Arc R} (u : Upd R) (h : ViewInv st) : ViewInv (step st u) := by
  cases u with
  | endpoint ep ids =>
    cases ids with
    | some ids => exact updateEndpointProfileIDs_view ep ids h
    | none => exact updateEndpointProfileIDs_view ep [] h
  | profileRules p r => exact updateProfileRules_view p r h

theorem viewInv_new : ViewInv (Arc.new R) := by
  intro p; simp [Arc.new, view, isActive]

def diffStep (acc : List String × List String) (id : String) : List String × List String :=
  if id ∈ acc.1 then (acc.1.filter (fun x => x ≠ id), acc.2)
  else (acc.1, if id ∈ acc.2 then acc.2 else acc.2 ++ [id])

theorem diffIDs_eq (old new : List String) : diffIDs old new = new.foldl diffStep (old.eraseDups, []) := rfl

theorem diff_removed (l : List String) (acc : List String × List String) (p : String) :
    p ∈ (l.foldl diffStep acc).1 ↔ p ∈ acc.1 ∧ p ∉ l := by
  induction l generalizing acc with
  | nil => simp
  | cons a l ih =>
    rw [List.foldl_cons, ih]
    unfold diffStep
    by_cases h : a ∈ acc.1
    · simp only [h, if_true, List.mem_filter, decide_eq_true_eq, List.mem_cons, not_or]
      constructor
      · rintro ⟨⟨h1, h2⟩, h3⟩; exact ⟨h1, h2, h3⟩
      · rintro ⟨h1, h2, h3⟩; exact ⟨⟨h1, h2⟩, h3⟩
    · simp only [h, if_false, List.mem_cons, not_or]
      constructor
      · rintro ⟨h1, h3⟩; exact ⟨h1, fun e => h (e ▸ h1), h3⟩
      · rintro ⟨h1, _, h3⟩; exact ⟨h1, h3⟩

theorem diff_added_sub (l : List String) (acc : List String × List String) (p : String)
    (h : p ∈ (l.foldl diffStep acc).2) : p ∈ acc.2 ∨ p ∈ l := by
  induction l generalizing acc with
  | nil => exact Or.inl h
  | cons a l ih =>
    rw [List.foldl_cons] at h
    rcases ih _ h with h' | h'
    · unfold diffStep at h'
      by_cases ha : a ∈ acc.1
      · simp only [ha, if_true] at h'; exact Or.inl h'
      · simp only [ha, if_false] at h'
        by_cases hb : a ∈ acc.2
        · simp only [hb, if_true] at h'; exact Or.inl h'
        · simp only [hb, if_false, List.mem_append, List.mem_singleton] at h'
          rcases h' with h' | rfl
          · exact Or.inl h'
          · exact Or.inr (List.mem_cons_self ..)
    · exact Or.inr (List.mem_cons_of_mem _ h')

theorem diff_added_sup (l : List String) (acc : List String × List String) (p : String)
    (h : p ∈ acc.2 ∨ (p ∈ l ∧ p ∉ acc.1)) : p ∈ (l.foldl diffStep acc).2 := by
  induction l generalizing acc with
  | nil =>
    rcases h with h | ⟨h, _⟩
    · exact h
    · cases h
  | cons a l ih =>
    rw [List.foldl_cons]
    apply ih
    unfold diffStep
    by_cases ha : a ∈ acc.1
    · simp only [ha, if_true, List.mem_filter, decide_eq_true_eq, not_and, Classical.not_not]
      rcases h with h | ⟨h, hn⟩
      · exact Or.inl h
      · rcases List.mem_cons.1 h with rfl | h
        · exact absurd ha hn
        · exact Or.inr ⟨h, fun h' => absurd h' hn⟩
    · simp only [ha, if_false]
      by_cases hb : a ∈ acc.2
      · simp only [hb, if_true]
        rcases h with h | ⟨h, hn⟩
        · exact Or.inl h
        · rcases List.mem_cons.1 h with rfl | h
          · exact Or.inl hb
          · exact Or.inr ⟨h, hn⟩
      · simp only [hb, if_false, List.mem_append, List.mem_singleton]
        rcases h with h | ⟨h, hn⟩
        · exact Or.inl (Or.inl h)
        · rcases List.mem_cons.1 h with rfl | h
          · exact Or.inl (Or.inr rfl)
          · exact Or.inr ⟨h, hn⟩

/-- `profileIDToEndpointKeys` holds (p, ep) exactly when endpoint `ep` currently lists `p`. -/
def RefInv (st : Arc R) : Prop :=
  ∀ p ep, (p, ep) ∈ st.refs ↔ ∃ ids, alGet ep st.epProfiles = some ids ∧ p ∈ ids

/-- what the send and the two loop bodies do besides moving `profileIDToEndpointKeys`: the other tables stay, the
output log gains events -/
structure Kept (st st' : Arc R) : Prop where
  epProfiles : st'.epProfiles = st.epProfiles
  profiles : st'.profiles = st.profiles
  out : ∃ evs, st'.out = st.out ++ evs

theorem Kept.refl (st : Arc R) : Kept st st := ⟨rfl, rfl, [], (List.append_nil _).symm⟩

theorem Kept.trans {a b c : Arc R} (h1 : Kept a b) (h2 : Kept b c) : Kept a c :=
  let ⟨e1, o1⟩ := h1.out
  let ⟨e2, o2⟩ := h2.out
  ⟨h2.epProfiles.trans h1.epProfiles, h2.profiles.trans h1.profiles, e1 ++ e2, by rw [o2, o1, List.append_assoc]⟩

theorem sendProfileUpdate_frame (p : String) (r : Option R) (st : Arc R) :
    (sendProfileUpdate p r st).refs = st.refs ∧ Kept st (sendProfileUpdate p r st) := by
  unfold sendProfileUpdate
  split
  · cases r <;> exact ⟨rfl, rfl, rfl, _, rfl⟩
  · exact ⟨rfl, rfl, rfl, _, rfl⟩

theorem addOne_frame (ep id : String) (st : Arc R) :
    (∀ x, x ∈ (addOne ep st id).refs ↔ x ∈ st.refs ∨ x = (id, ep)) ∧ Kept st (addOne ep st id) := by
  have hput : (∀ x, x ∈ (putRef id ep st).refs ↔ x ∈ st.refs ∨ x = (id, ep)) ∧ Kept st (putRef id ep st) := by
    unfold putRef
    by_cases hm : (id, ep) ∈ st.refs
    · rw [if_pos hm]
      refine ⟨fun x => ⟨Or.inl, ?_⟩, Kept.refl st⟩
      rintro (h | rfl); exact h; exact hm
    · rw [if_neg hm]
      refine ⟨fun x => ?_, rfl, rfl, [], (List.append_nil _).symm⟩
      simp
  unfold addOne
  simp only
  split
  · exact hput
  · obtain ⟨f1, f2⟩ := sendProfileUpdate_frame id (alGet id (putRef id ep st).profiles) (putRef id ep st)
    exact ⟨fun x => by rw [f1]; exact hput.1 x, hput.2.trans f2⟩

theorem removeOne_frame (ep id : String) (st : Arc R) :
    (∀ x, x ∈ (removeOne ep st id).refs ↔ x ∈ st.refs ∧ x ≠ (id, ep)) ∧ Kept st (removeOne ep st id) := by
  have hd : (∀ x, x ∈ (discardRef id ep st).refs ↔ x ∈ st.refs ∧ x ≠ (id, ep)) := by
    intro x; unfold discardRef; simp
  have hk : Kept st (discardRef id ep st) := ⟨rfl, rfl, [], (List.append_nil _).symm⟩
  unfold removeOne
  simp only
  split
  · exact ⟨hd, hk⟩
  · obtain ⟨f1, f2⟩ := sendProfileUpdate_frame id (alGet id (discardRef id ep st).profiles) (discardRef id ep st)
    exact ⟨fun x => by rw [f1]; exact hd x, hk.trans f2⟩

theorem foldl_addOne_frame (ep : String) (l : List String) (st : Arc R) :
    (∀ x, x ∈ (l.foldl (addOne ep) st).refs ↔ x ∈ st.refs ∨ (x.2 = ep ∧ x.1 ∈ l)) ∧
    Kept st (l.foldl (addOne ep) st) := by
  induction l generalizing st with
  | nil => exact ⟨by simp, Kept.refl st⟩
  | cons a l ih =>
    rw [List.foldl_cons]
    obtain ⟨h1, h2⟩ := ih (addOne ep st a)
    obtain ⟨g1, g2⟩ := addOne_frame ep a st
    refine ⟨fun x => ?_, g2.trans h2⟩
    rw [h1, g1]
    simp only [List.mem_cons]
    constructor
    · rintro ((h | rfl) | ⟨h, h'⟩)
      · exact Or.inl h
      · exact Or.inr ⟨rfl, Or.inl rfl⟩
      · exact Or.inr ⟨h, Or.inr h'⟩
    · rintro (h | ⟨h, rfl | h'⟩)
      · exact Or.inl (Or.inl h)
      · exact Or.inl (Or.inr (Prod.ext rfl h))
      · exact Or.inr ⟨h, h'⟩

theorem foldl_removeOne_frame (ep : String) (l : List String) (st : Arc R) :
    (∀ x, x ∈ (l.foldl (removeOne ep) st).refs ↔ x ∈ st.refs ∧ ¬ (x.2 = ep ∧ x.1 ∈ l)) ∧
    Kept st (l.foldl (removeOne ep) st) := by
  induction l generalizing st with
  | nil => exact ⟨by simp, Kept.refl st⟩
  | cons a l ih =>
    rw [List.foldl_cons]
    obtain ⟨h1, h2⟩ := ih (removeOne ep st a)
    obtain ⟨g1, g2⟩ := removeOne_frame ep a st
    refine ⟨fun x => ?_, g2.trans h2⟩
    rw [h1, g1]
    simp only [List.mem_cons, not_and, not_or]
    constructor
    · rintro ⟨⟨h, hne⟩, h'⟩
      refine ⟨h, fun he => ⟨?_, h' he⟩⟩
      rintro rfl
      exact hne (Prod.ext rfl he)
    · rintro ⟨h, h'⟩
      refine ⟨⟨h, ?_⟩, fun he => (h' he).2⟩
      rintro rfl
      exact (h' rfl).1 rfl

/-- `updateEndpointProfileIDs` stores the endpoint's list, then only sends -/
theorem updateEndpointProfileIDs_kept (ep : String) (ids : List String) (st : Arc R) :
    Kept { st with epProfiles := if ids.isEmpty then alErase ep st.epProfiles else alSet ep ids st.epProfiles }
      (updateEndpointProfileIDs ep ids st) :=
  (foldl_addOne_frame ep _ _).2.trans (foldl_removeOne_frame ep _ _).2

theorem updateEndpointProfileIDs_ref {st : Arc R} (ep : String) (ids : List String) (h : RefInv st) :
    RefInv (updateEndpointProfileIDs ep ids st) := by
  intro p e
  unfold updateEndpointProfileIDs
  simp only
  obtain ⟨r1, r2⟩ := foldl_removeOne_frame (R := R) ep
    (diffIDs ((alGet ep st.epProfiles).getD []) ids).1
    ((diffIDs ((alGet ep st.epProfiles).getD []) ids).2.foldl (addOne ep)
      { st with epProfiles := if ids.isEmpty then alErase ep st.epProfiles else alSet ep ids st.epProfiles })
  obtain ⟨a1, a2⟩ := foldl_addOne_frame (R := R) ep (diffIDs ((alGet ep st.epProfiles).getD []) ids).2
    { st with epProfiles := if ids.isEmpty then alErase ep st.epProfiles else alSet ep ids st.epProfiles }
  rw [r1, a1, r2.epProfiles, a2.epProfiles]
  simp only
  have hold : ∀ q, q ∈ (alGet ep st.epProfiles).getD [] ↔ (q, ep) ∈ st.refs := by
    intro q
    rw [h q ep]
    cases alGet ep st.epProfiles with
    | none => simp
    | some l => simp
  have hrem : ∀ q, q ∈ (diffIDs ((alGet ep st.epProfiles).getD []) ids).1 ↔ (q, ep) ∈ st.refs ∧ q ∉ ids := by
    intro q
    rw [diffIDs_eq, diff_removed]
    simp only [List.mem_eraseDups, hold]
  by_cases he : e = ep
  · subst he
    have hget : (∃ l, alGet e (if ids.isEmpty then alErase e st.epProfiles else alSet e ids st.epProfiles) = some l ∧ p ∈ l) ↔ p ∈ ids := by
      by_cases hemp : ids.isEmpty
      · simp only [hemp, if_true, alGet_alErase]
        have : ids = [] := List.isEmpty_iff.1 hemp
        simp [this]
      · simp only [hemp, Bool.false_eq_true, if_false, alGet_alSet]
        simp
    rw [hget, hrem]
    simp only [true_and]
    constructor
    · rintro ⟨h1 | h1, h2⟩
      · exact Classical.byContradiction (fun hn => h2 ⟨h1, hn⟩)
      · rw [diffIDs_eq] at h1
        rcases diff_added_sub _ _ _ h1 with h1 | h1
        · cases h1
        · exact h1
    · intro hp
      refine ⟨?_, fun h2 => h2.2 hp⟩
      by_cases hr : (p, e) ∈ st.refs
      · exact Or.inl hr
      · right
        rw [diffIDs_eq]
        apply diff_added_sup
        right
        refine ⟨hp, ?_⟩
        simp only [List.mem_eraseDups, hold]
        exact hr
  · have hne : ¬ ((p, e).2 = ep) := he
    simp only [he, false_and, or_false, not_false_eq_true, and_true]
    rw [h p e]
    by_cases hemp : ids.isEmpty
    · simp only [hemp, if_true, alGet_alErase, he, if_false]
    · simp only [hemp, Bool.false_eq_true, if_false, alGet_alSet, he]

structure ProfilesSet (p : String) (v : Option R) (st st' : Arc R) : Prop where
  refs : st'.refs = st.refs
  profiles : ∀ q, alGet q st'.profiles = if q = p then v else alGet q st.profiles
  -- the other tables and the log, seen from `st` with the new profile table in place, so that it composes with a send
  kept : Kept { st with profiles := st'.profiles } st'

theorem ProfilesSet.epProfiles {p : String} {v : Option R} {st st' : Arc R} (h : ProfilesSet p v st st') :
    st'.epProfiles = st.epProfiles := h.kept.epProfiles

theorem ProfilesSet.out {p : String} {v : Option R} {st st' : Arc R} (h : ProfilesSet p v st st') :
    ∃ evs, st'.out = st.out ++ evs := h.kept.out

theorem updateProfileRules_set [DecidableEq R] (p : String) (v : Option R) (st : Arc R) :
    ProfilesSet p v st (updateProfileRules p v st) := by
  -- the table is rewritten first; what follows is at most a send
  have send : ∀ (x : Option R) (s : Arc R), ProfilesSet p v st s →
      ProfilesSet p v st (if isActive s p then sendProfileUpdate p x s else s) := by
    intro x s h
    split
    · obtain ⟨f1, f2⟩ := sendProfileUpdate_frame p x s
      exact ⟨f1.trans h.refs, fun q => by rw [f2.profiles]; exact h.profiles q,
        by rw [f2.profiles]; exact h.kept.trans f2⟩
    · exact h
  unfold updateProfileRules
  cases v with
  | some r =>
    simp only
    split
    · next hsame =>
      refine ⟨rfl, fun q => ?_, Kept.refl _⟩
      split
      · next e => exact e ▸ hsame
      · rfl
    · exact send (some r) _ ⟨rfl, fun q => alGet_alSet .., Kept.refl _⟩
  | none => exact send none _ ⟨rfl, fun q => alGet_alErase .., Kept.refl _⟩

theorem updateProfileRules_ref [DecidableEq R] {st : Arc R} (p : String) (v : Option R) (h : RefInv st) :
    RefInv (updateProfileRules p v st) := fun q e => by
  rw [(updateProfileRules_set p v st).refs, (updateProfileRules_set p v st).epProfiles]
  exact h q e

theorem step_ref [DecidableEq R] {st : Arc R} (u : Upd R) (h : RefInv st) : RefInv (step st u) := by
  cases u with
  | endpoint ep ids =>
    cases ids with
    | some ids => exact updateEndpointProfileIDs_ref ep ids h
    | none => exact updateEndpointProfileIDs_ref ep [] h
  | profileRules p r => exact updateProfileRules_ref p r h

theorem step_out [DecidableEq R] (st : Arc R) (u : Upd R) : ∃ evs, (step st u).out = st.out ++ evs := by
  cases u with
  | endpoint ep ids => cases ids <;> exact (updateEndpointProfileIDs_kept ep _ st).out
  | profileRules p r => exact (updateProfileRules_set p r st).out

theorem run_inv [DecidableEq R] {st : Arc R} (us : List (Upd R)) (hv : ViewInv st) (hr : RefInv st) :
    ViewInv (run st us) ∧ RefInv (run st us) :=
  List.foldlRecOn (motive := fun s => ViewInv s ∧ RefInv s) us step ⟨hv, hr⟩ fun _ h u _ =>
    ⟨step_view u h.1, step_ref u h.2⟩

theorem refInv_new : RefInv (Arc.new R) := by
  intro p ep; simp [Arc.new]

theorem isActive_iff_referenced {st : Arc R} (h : RefInv st) (p : String) :
    isActive st p = true ↔ referenced st p := by
  rw [isActive_iff]
  constructor
  · rintro ⟨ep, hep⟩; obtain ⟨ids, h1, h2⟩ := (h p ep).1 hep; exact ⟨ep, ids, h1, h2⟩
  · rintro ⟨ep, ids, h1, h2⟩; exact ⟨ep, (h p ep).2 ⟨ids, h1, h2⟩⟩

/-- In any state with the two invariants the rule scanner's table is a function of the calculator's
current tables: profile `p` maps to `outOf st p` if some endpoint lists it and is absent otherwise. -/
theorem view_spec {st : Arc R} (hv : ViewInv st) (hr : RefInv st) (p : String) :
    (referenced st p → alGet p (view st.out) = some (outOf st p)) ∧
    (¬ referenced st p → alGet p (view st.out) = none) := by
  rw [← isActive_iff_referenced hr, hv p]
  cases isActive st p <;> simp

theorem run_new_inv [DecidableEq R] (us : List (Upd R)) :
    ViewInv (run (Arc.new R) us) ∧ RefInv (run (Arc.new R) us) :=
  run_inv us viewInv_new refInv_new

/-- `view_spec` after any run of a fresh calculator (`runRaw` is the case `us.map filter`). -/
theorem run_view_spec [DecidableEq R] (us : List (Upd R)) (p : String) :
    (referenced (run (Arc.new R) us) p → alGet p (view (run (Arc.new R) us).out) = some (outOf (run (Arc.new R) us) p)) ∧
    (¬ referenced (run (Arc.new R) us) p → alGet p (view (run (Arc.new R) us).out) = none) :=
  view_spec (run_new_inv us).1 (run_new_inv us).2 p

end
end CalicoVerif.C05
