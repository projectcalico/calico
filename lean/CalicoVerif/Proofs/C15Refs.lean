import CalicoVerif.Proofs.C15Load
/-! Each call of the reference-counting API is a sequence of incref/decref cascades followed by one change of the chain
map or of the hook rules; what a cascade may do is said once (`Casc`), and `Grow` (which keeps `TInv`) and `DStep`
(which keeps the name-space discipline `DInv`) are read off it.  `PInv P` is both invariants, with the prefixes `P`. -/
namespace CalicoVerif.C15

/-- What the refcounting API may do to the part of the table state that the convergence argument (`TInv`) looks at. -/
structure Grow (a b : T) : Prop where
  dpHashes : b.dpHashes = a.dpHashes
  prefixes : b.prefixes = a.prefixes
  dirtyIA : b.dirtyIA = a.dirtyIA
  mono : ∀ c, c ∈ a.dirty → c ∈ b.dirty
  des : ∀ c, c ∉ b.dirty → b.desiredChain c = a.desiredChain c
  nodup : a.dirty.Nodup → b.dirty.Nodup

theorem Grow.refl (a : T) : Grow a a := ⟨rfl, rfl, rfl, fun _ h => h, fun _ _ => rfl, fun h => h⟩

theorem Grow.trans {a b c : T} (h1 : Grow a b) (h2 : Grow b c) : Grow a c :=
  ⟨h2.dpHashes.trans h1.dpHashes, h2.prefixes.trans h1.prefixes, h2.dirtyIA.trans h1.dirtyIA,
   fun x hx => h2.mono x (h1.mono x hx),
   fun x hx => (h2.des x hx).trans (h1.des x (fun h => hx (h2.mono x h))),
   fun h => h2.nodup (h1.nodup h)⟩

theorem Grow.ours {a b : T} (h : Grow a b) (c : String) : b.ours c = a.ours c := by
  unfold T.ours; rw [h.prefixes]

theorem TInv.grow {a b : T} (h : TInv a) (g : Grow a b) : TInv b := by
  refine ⟨fun c ho hnd => ?_, g.nodup h.nodup, fun c ho => ?_⟩
  · rw [g.dpHashes, g.des c hnd]
    exact h.cache c (by rw [← g.ours]; exact ho) (fun hd => hnd (g.mono c hd))
  · rw [g.dirtyIA]; exact h.iaForeign c (by rw [← g.ours]; exact ho)

theorem invalidate_grow (t : T) : Grow t t.invalidate := ⟨rfl, rfl, rfl, fun _ h => h, fun _ _ => rfl, fun h => h⟩

theorem TInv.invalidate {t : T} (h : TInv t) : TInv t.invalidate := h.grow (invalidate_grow t)

/-- Name-space discipline of the table state; `Q` is "the name is one of Felix's". -/
structure DInv (Q : String → Prop) (t : T) : Prop where
  dirty : ∀ x ∈ t.dirty, Q x
  refs : ∀ c ch, t.chains.get c = some ch → ∀ x ∈ refsOf ch.rules, Q x
  ins : ∀ c, ∀ x ∈ refsOf ((t.ins.get c).getD []), Q x
  app : ∀ c, ∀ x ∈ refsOf ((t.app.get c).getD []), Q x

structure DStep (Q : String → Prop) (a b : T) : Prop where
  chains : b.chains = a.chains
  ins : b.ins = a.ins
  app : b.app = a.app
  dirty : ∀ x ∈ b.dirty, x ∈ a.dirty ∨ Q x

theorem DInv.step {Q : String → Prop} {a b : T} (h : DInv Q a) (s : DStep Q a b) : DInv Q b :=
  ⟨fun x hx => (s.dirty x hx).elim (h.dirty x) id,
   fun c ch hc => h.refs c ch (by rw [← s.chains]; exact hc),
   fun c => by rw [s.ins]; exact h.ins c, fun c => by rw [s.app]; exact h.app c⟩

theorem DInv.invalidate {Q : String → Prop} {t : T} (h : DInv Q t) : DInv Q t.invalidate := ⟨h.dirty, h.refs, h.ins, h.app⟩

def RefsIn (Q : String → Prop) (t : T) : Prop :=
  ∀ c ch, t.chains.get c = some ch → ∀ y ∈ refsOf ch.rules, Q y

theorem DInv.refsIn {Q : String → Prop} {t : T} (h : DInv Q t) : RefsIn Q t := h.refs

/-- What a cascade of reference-count changes over names satisfying `Q` may do.  `refd`: a chain whose
referenced-ness changed is dirty afterwards. -/
structure Casc (Q : String → Prop) (a b : T) : Prop where
  rest : b = { a with refc := b.refc, dirty := b.dirty }
  mono : ∀ x, x ∈ a.dirty → x ∈ b.dirty
  nodup : a.dirty.Nodup → b.dirty.Nodup
  new : ∀ x ∈ b.dirty, x ∈ a.dirty ∨ Q x
  refd : ∀ c, c ∉ b.dirty → b.refd c = a.refd c

section
variable {Q : String → Prop}

theorem Casc.refl (a : T) : Casc Q a a := ⟨rfl, fun _ h => h, fun h => h, fun _ h => Or.inl h, fun _ _ => rfl⟩

theorem Casc.trans {a b c : T} (h1 : Casc Q a b) (h2 : Casc Q b c) : Casc Q a c :=
  ⟨h2.rest.trans (by rw [h1.rest]), fun x hx => h2.mono x (h1.mono x hx), fun h => h2.nodup (h1.nodup h),
   fun x hx => (h2.new x hx).elim (h1.new x) Or.inr,
   fun x hx => (h2.refd x hx).trans (h1.refd x fun h => hx (h2.mono x h))⟩

theorem Casc.ite {a b c : T} {p : Prop} [Decidable p] (hb : p → Casc Q a b) (hc : ¬p → Casc Q a c) :
    Casc Q a (if p then b else c) := by
  split
  · exact hb ‹_›
  · exact hc ‹_›

theorem Casc.chains {a b : T} (h : Casc Q a b) : b.chains = a.chains := by rw [h.rest]

theorem Casc.refsIn {a b : T} (h : Casc Q a b) (hr : RefsIn Q a) : RefsIn Q b := by
  unfold RefsIn; rw [h.chains]; exact hr

theorem Casc.grow {a b : T} (h : Casc Q a b) : Grow a b :=
  ⟨by rw [h.rest], by rw [h.rest], by rw [h.rest], h.mono,
   fun c hc => by unfold T.desiredChain; rw [h.refd c hc, h.chains], h.nodup⟩

theorem Casc.dstep {a b : T} (h : Casc Q a b) : DStep Q a b :=
  ⟨h.chains, by rw [h.rest], by rw [h.rest], h.new⟩

theorem DInv.casc {a b : T} (h : DInv Q a) (c : Casc Q a b) : DInv Q b := h.step c.dstep

theorem Casc.fold (step : T → String → T) (hstep : ∀ t x, Q x → RefsIn Q t → Casc Q t (step t x))
    (L : List String) (t : T) (hL : ∀ x ∈ L, Q x) (hr : RefsIn Q t) : Casc Q t (L.foldl step t) :=
  List.foldlRecOn L step (Casc.refl t) fun b hb x hx => hb.trans (hstep b x (hL x hx) (hb.refsIn hr))

theorem Casc.mark (t : T) {n : String} (hn : Q n) (refc : Map Int) (hrefc : ∀ c, c ≠ n → refc.get c = t.refc.get c) :
    Casc Q t { t with refc := refc, dirty := sAdd t.dirty n } :=
  ⟨rfl, fun _ h => mem_sAdd.2 (Or.inl h), fun h => sAdd_nodup h n,
   fun x hx => (mem_sAdd.1 hx).imp_right fun (e : x = n) => e ▸ hn,
   fun c hc => by
     unfold T.refd
     rw [show ({ t with refc := refc, dirty := sAdd t.dirty n } : T).refc = refc from rfl,
       hrefc c fun e => hc (mem_sAdd.2 (Or.inr e))]⟩

theorem Casc.count (t : T) (n : String) (v' : Int) (hv : (v' > 0) ↔ ((t.refc.get n).getD 0 > 0)) :
    Casc Q t { t with refc := t.refc.set n v' } :=
  ⟨rfl, fun _ h => h, fun h => h, fun _ h => Or.inl h, fun c _ => by
    unfold T.refd
    rw [show ({ t with refc := t.refc.set n v' } : T).refc = t.refc.set n v' from rfl, Map.get_set]
    by_cases hcn : c = n
    · rw [if_pos hcn, hcn, Option.getD_some]; exact decide_eq_decide.2 hv
    · rw [if_neg hcn]⟩

theorem incref_casc : ∀ (f : Nat) (t : T) (n : String), Q n → RefsIn Q t → Casc Q t (T.incref f t n)
  | 0, t, _, _, _ => Casc.refl t
  | f + 1, t, n, hn, hr => by
    unfold T.incref
    dsimp only
    refine .ite (fun _ => ?_) (fun h1 => ?_)
    · -- the chain becomes referenced: it is marked dirty, and what its rules jump to is referenced in turn
      have g1 := Casc.mark t hn (t.refc.set n ((t.refc.get n).getD 0 + 1)) fun c hc => by rw [Map.get_set, if_neg hc]
      refine g1.trans ?_
      cases hch : t.chains.get n with
      | none => exact Casc.refl _
      | some ch => exact Casc.fold _ (incref_casc f) _ _ (hr n ch hch) (g1.refsIn hr)
    · refine Casc.count t n _ ?_
      have : (t.refc.get n).getD 0 + 1 ≠ 1 := by simpa using h1
      omega

theorem decref_casc : ∀ (f : Nat) (t : T) (n : String), Q n → RefsIn Q t → Casc Q t (T.decref f t n)
  | 0, t, _, _, _ => Casc.refl t
  | f + 1, t, n, hn, hr => by
    unfold T.decref
    refine .ite (fun _ => ?_) (fun h1 => ?_)
    · -- the last reference goes: what the chain's rules jump to is released first, then it is marked dirty
      have last : ∀ t1 : T, Casc Q t1 { t1 with refc := t1.refc.erase n, dirty := sAdd t1.dirty n } := fun t1 =>
        Casc.mark t1 hn (t1.refc.erase n) fun c hc => by rw [Map.get_erase, if_neg hc]
      cases hch : t.chains.get n with
      | none => exact last t
      | some ch => exact (Casc.fold _ (decref_casc f) _ _ (hr n ch hch) hr).trans (last _)
    · refine Casc.count t n _ ?_
      have : (t.refc.get n).getD 0 ≠ 1 := by simpa using h1
      omega

theorem maybeIncref_casc (t : T) (name : String) (rules : List DRule) (hq : ∀ x ∈ refsOf rules, Q x)
    (hr : RefsIn Q t) : Casc Q t (t.maybeIncref name rules) :=
  .ite (fun _ => Casc.fold _ (incref_casc fuel) _ _ hq hr) fun _ => Casc.refl t

theorem maybeDecref_casc (t : T) (name : String) (rules : List DRule) (hq : ∀ x ∈ refsOf rules, Q x)
    (hr : RefsIn Q t) : Casc Q t (t.maybeDecref name rules) :=
  .ite (fun _ => Casc.fold _ (decref_casc fuel) _ _ hq hr) fun _ => Casc.refl t

/-- The last step of `UpdateChain` and of `RemoveChainByName`. -/
def T.setChains (t : T) (name : String) (cs : Map Chain) : T :=
  if ({ t with chains := cs } : T).refd name then ({ { t with chains := cs } with dirty := sAdd t.dirty name } : T).invalidate
  else { t with chains := cs }

theorem setChains_chains (t : T) (name : String) (cs : Map Chain) : (t.setChains name cs).chains = cs := by
  unfold T.setChains; split <;> rfl

theorem setChains_grow (t : T) (name : String) (cs : Map Chain) (hcs : ∀ c, c ≠ name → cs.get c = t.chains.get c) :
    Grow t (t.setChains name cs) := by
  have hdes : ∀ c, (c = name → t.refd c = false) →
      (if t.refd c then cs.get c else none) = (if t.refd c then t.chains.get c else none) := fun c h => by
    by_cases hcn : c = name
    · rw [h hcn]; rfl
    · rw [hcs c hcn]
  unfold T.setChains
  split
  · exact ⟨rfl, rfl, rfl, fun c hc => mem_sAdd.2 (Or.inl hc),
      fun c hc => hdes c fun e => absurd (mem_sAdd.2 (Or.inr e)) hc, fun h => sAdd_nodup h name⟩
  · rename_i hr
    exact ⟨rfl, rfl, rfl, fun _ h => h, fun c _ => hdes c fun e => by rw [e]; exact Bool.eq_false_iff.2 hr, fun h => h⟩

theorem DInv.setChains {t : T} (h : DInv Q t) (name : String) (hn : Q name) (cs : Map Chain)
    (hcs : ∀ c ch, cs.get c = some ch → ∀ y ∈ refsOf ch.rules, Q y) : DInv Q (t.setChains name cs) := by
  unfold T.setChains
  split
  · exact ⟨fun x hx => (mem_sAdd.1 hx).elim (h.dirty x) fun e => e ▸ hn, hcs, h.ins, h.app⟩
  · exact ⟨h.dirty, hcs, h.ins, h.app⟩

theorem updateChain_casc (t : T) (name : String) (ch : Chain) (hn : Q name) (hch : ∀ x ∈ refsOf ch.rules, Q x)
    (hr : RefsIn Q t) :
    ∃ t', Casc Q t t' ∧ t.updateChain name ch = t'.setChains name (t'.chains.set name ch) := by
  unfold T.updateChain
  dsimp only
  have c1 : Casc Q t (if ch.force then T.incref fuel t name else t) :=
    .ite (fun _ => incref_casc fuel t name hn hr) fun _ => Casc.refl t
  generalize (if ch.force then T.incref fuel t name else t) = t1 at c1 ⊢
  have hr1 := c1.refsIn hr
  cases hold : t1.chains.get name with
  | none => exact ⟨_, c1.trans (maybeIncref_casc t1 name ch.rules hch hr1), rfl⟩
  | some old =>
    have c2 : Casc Q t1 (if old.force then T.decref fuel t1 name else t1) :=
      .ite (fun _ => decref_casc fuel t1 name hn hr1) fun _ => Casc.refl t1
    have c3 := maybeIncref_casc _ name ch.rules hch (c2.refsIn hr1)
    have c4 := maybeDecref_casc _ name old.rules (hr1 name old hold) (c3.refsIn (c2.refsIn hr1))
    exact ⟨_, ((c1.trans c2).trans c3).trans c4, rfl⟩

theorem removeChain_casc (t : T) (name : String) (hn : Q name) (hr : RefsIn Q t) :
    t.removeChain name = t ∨
    ∃ t', Casc Q t t' ∧ t.removeChain name = t'.setChains name (t'.chains.erase name) := by
  unfold T.removeChain
  cases hold : t.chains.get name with
  | none => exact Or.inl rfl
  | some old =>
    have c2 : Casc Q t (if old.force then T.decref fuel t name else t) :=
      .ite (fun _ => decref_casc fuel t name hn hr) fun _ => Casc.refl t
    exact Or.inr ⟨_, c2.trans (maybeDecref_casc _ name old.rules (hr name old hold) (c2.refsIn hr)), rfl⟩

theorem hooks_casc (t : T) (c : String) (rules old : List DRule) (hq : ∀ x ∈ refsOf rules, Q x)
    (ho : ∀ x ∈ refsOf old, Q x) (hr : RefsIn Q t) : Casc Q t ((t.maybeIncref c rules).maybeDecref c old) :=
  have c1 := maybeIncref_casc t c rules hq hr
  c1.trans (maybeDecref_casc _ c old ho (c1.refsIn hr))

end

theorem true_refs (t : T) : RefsIn (fun _ => True) t := fun _ _ _ _ _ => trivial

theorem updateChain_grow (t : T) (name : String) (ch : Chain) : Grow t (t.updateChain name ch) := by
  obtain ⟨t', hc, he⟩ := updateChain_casc (Q := fun _ => True) t name ch trivial (fun _ _ => trivial) (true_refs t)
  rw [he]
  exact hc.grow.trans (setChains_grow _ name _ fun c hc => by rw [Map.get_set, if_neg hc])

theorem removeChain_grow (t : T) (name : String) : Grow t (t.removeChain name) := by
  rcases removeChain_casc (Q := fun _ => True) t name trivial (true_refs t) with he | ⟨t', hc, he⟩
  · rw [he]; exact Grow.refl t
  · rw [he]
    exact hc.grow.trans (setChains_grow _ name _ fun c hc => by rw [Map.get_erase, if_neg hc])

theorem updateChain_chains (t : T) (n : String) (ch : Chain) : (t.updateChain n ch).chains = t.chains.set n ch := by
  obtain ⟨t', hc, he⟩ := updateChain_casc (Q := fun _ => True) t n ch trivial (fun _ _ => trivial) (true_refs t)
  rw [he, setChains_chains, hc.chains]

theorem removeChain_chains (t : T) (n : String) :
    (t.removeChain n).chains = t.chains ∨ (t.removeChain n).chains = t.chains.erase n := by
  rcases removeChain_casc (Q := fun _ => True) t n trivial (true_refs t) with he | ⟨t', hc, he⟩
  · rw [he]; exact Or.inl rfl
  · rw [he, setChains_chains, hc.chains]; exact Or.inr rfl

theorem TInv.updateChain {t : T} (h : TInv t) (name : String) (ch : Chain) : TInv (t.updateChain name ch) :=
  h.grow (updateChain_grow t name ch)
theorem TInv.removeChain {t : T} (h : TInv t) (name : String) : TInv (t.removeChain name) :=
  h.grow (removeChain_grow t name)

theorem DInv.updateChain {Q : String → Prop} {t : T} (h : DInv Q t) (name : String) (ch : Chain) (hn : Q name)
    (hch : ∀ x ∈ refsOf ch.rules, Q x) : DInv Q (t.updateChain name ch) := by
  obtain ⟨t', hc, he⟩ := updateChain_casc t name ch hn hch h.refsIn
  rw [he]
  refine (h.casc hc).setChains name hn _ fun c ch' hg => ?_
  rw [Map.get_set] at hg
  split at hg
  · cases hg; exact hch
  · exact hc.refsIn h.refsIn c ch' hg

theorem DInv.removeChain {Q : String → Prop} {t : T} (h : DInv Q t) (name : String) (hn : Q name) :
    DInv Q (t.removeChain name) := by
  rcases removeChain_casc t name hn h.refsIn with he | ⟨t', hc, he⟩
  · rw [he]; exact h
  · rw [he]
    refine (h.casc hc).setChains name hn _ fun c ch' hg => ?_
    rw [Map.get_erase] at hg
    split at hg
    · cases hg
    · exact hc.refsIn h.refsIn c ch' hg

theorem TInv.queueIA {t : T} (h : TInv t) (c : String) (hc : t.ours c = false) (ins app : Map (List DRule)) :
    TInv { t with ins := ins, app := app, dirtyIA := sAdd t.dirtyIA c } :=
  ⟨h.cache, h.nodup, fun x hx hm => (mem_sAdd.1 hm).elim (h.iaForeign x hx) fun e => by
    have hx : t.ours x = true := hx
    rw [e, hc] at hx; cases hx⟩

theorem hooks_grow (t : T) (c : String) (rules old : List DRule) :
    Grow t ((t.maybeIncref c rules).maybeDecref c old).invalidate :=
  (hooks_casc (Q := fun _ => True) t c rules old (fun _ _ => trivial) (fun _ _ => trivial) (true_refs t)).grow.trans
    (invalidate_grow _)

theorem hooks_chains (t : T) (c : String) (rules old : List DRule) :
    ((t.maybeIncref c rules).maybeDecref c old).invalidate.chains = t.chains :=
  (hooks_casc (Q := fun _ => True) t c rules old (fun _ _ => trivial) (fun _ _ => trivial) (true_refs t)).chains

theorem TInv.setInserts {t : T} (h : TInv t) (c : String) (rules : List DRule) (hc : t.ours c = false) :
    TInv (t.setInserts c rules) :=
  (h.queueIA c hc (t.ins.set c rules) t.app).grow (hooks_grow _ c rules _)

theorem TInv.setAppends {t : T} (h : TInv t) (c : String) (rules : List DRule) (hc : t.ours c = false) :
    TInv (t.setAppends c rules) :=
  (h.queueIA c hc t.ins (t.app.set c rules)).grow (hooks_grow _ c rules _)

theorem refs_set {Q : String → Prop} {m : Map (List DRule)} (hm : ∀ c, ∀ x ∈ refsOf ((m.get c).getD []), Q x)
    (c : String) {rules : List DRule} (hq : ∀ x ∈ refsOf rules, Q x) :
    ∀ c', ∀ x ∈ refsOf (((m.set c rules).get c').getD []), Q x := by
  intro c' x hx
  rw [Map.get_set] at hx
  split at hx
  · exact hq x hx
  · exact hm c' x hx

theorem DInv.setInserts {Q : String → Prop} {t : T} (h : DInv Q t) (c : String) (rules : List DRule)
    (hq : ∀ x ∈ refsOf rules, Q x) : DInv Q (t.setInserts c rules) :=
  have h0 : DInv Q { t with ins := t.ins.set c rules, dirtyIA := sAdd t.dirtyIA c } :=
    ⟨h.dirty, h.refs, refs_set h.ins c hq, h.app⟩
  (h0.casc (hooks_casc _ c rules _ hq (h.ins c) h0.refsIn)).invalidate

theorem DInv.setAppends {Q : String → Prop} {t : T} (h : DInv Q t) (c : String) (rules : List DRule)
    (hq : ∀ x ∈ refsOf rules, Q x) : DInv Q (t.setAppends c rules) :=
  have h0 : DInv Q { t with app := t.app.set c rules, dirtyIA := sAdd t.dirtyIA c } :=
    ⟨h.dirty, h.refs, h.ins, refs_set h.app c hq⟩
  (h0.casc (hooks_casc _ c rules _ hq (h.app c) h0.refsIn)).invalidate

/-- `hk`: the historic prefixes do not match INPUT/FORWARD/OUTPUT, which a new table queues for their hook rules. -/
theorem TInv.new (prefixes : List String) (mode : Bool)
    (hk : ∀ c ∈ kernelChains, (T.new prefixes mode).ours c = false) : TInv (T.new prefixes mode) := by
  refine ⟨fun c _ _ => ?_, List.nodup_nil, fun c ho hm => ?_⟩
  · show none = Option.map _ (if (T.new prefixes mode).refd c then none else none)
    rw [ite_self]; rfl
  · rw [hk c hm] at ho; cases ho

theorem DInv.new (Q : String → Prop) (P : List String) (m : Bool) : DInv Q (T.new P m) := by
  -- a new table has no hook rules: every chain it lists maps to `[]`
  have hh : ∀ c, ∀ x ∈ refsOf ((Map.get (kernelChains.map fun c => (c, ([] : List DRule))) c).getD []), Q x := by
    intro c x hx
    cases hg : Map.get (kernelChains.map fun c => (c, ([] : List DRule))) c with
    | none => rw [hg] at hx; cases hx
    | some v =>
      obtain ⟨l₁, l₂, hl, -⟩ := List.lookup_eq_some_iff.1 hg
      obtain ⟨y, -, e⟩ := List.mem_map.1 (hl ▸ List.mem_append_right l₁ List.mem_cons_self : (c, v) ∈ _)
      cases e
      rw [hg] at hx; cases hx
  exact ⟨fun x hx => (nomatch hx), fun c ch hc => (nomatch hc), hh, hh⟩

theorem DInv.load {Q : String → Prop} {t : T} (h : DInv Q t) (hQ : ∀ x, t.ours x = true → Q x) (K : Kernel) :
    DInv Q (t.load K) := by
  obtain ⟨t2, hrel, hload⟩ := load_rel t K
  rw [hload]
  refine ⟨fun x hx => (hrel.dirtyNew x hx).elim (h.dirty x) (hQ x), fun c ch hc => ?_, fun c => ?_, fun c => ?_⟩
  · exact h.refs c ch (hrel.chains ▸ hc)
  · show ∀ x ∈ refsOf ((t2.ins.get c).getD []), _
    rw [hrel.ins]; exact h.ins c
  · show ∀ x ∈ refsOf ((t2.app.get c).getD []), _
    rw [hrel.app]; exact h.app c

theorem DInv.commit {Q : String → Prop} {t : T} (h : DInv Q t) (newH : Map (Option (List String))) (newFull : Map (List FR)) :
    DInv Q (t.commit newH newFull) := ⟨fun _ hx => (nomatch hx), h.refs, h.ins, h.app⟩

theorem commit_dp (t : T) (newH : Map (Option (List String))) (newFull : Map (List FR)) :
    (t.commit newH newFull).dpHashes = Assoc.puts t.dpHashes newH := by
  show List.foldl _ _ _ = _
  congr 1
  funext m ⟨k, o⟩
  cases o <;> rfl

theorem iaUpdOf_key {c : String} {o} {q : String × List String × List FR} (h : iaUpdOf c o = some q) : q.1 = c := by
  unfold iaUpdOf at h
  split at h
  · cases h; rfl
  · cases h

theorem TInv.commit {t : T} (h : TInv t) {lines newH newFull} (hp : t.plan = some (lines, newH, newFull)) :
    TInv (t.commit newH newFull) := by
  refine ⟨fun c hours _ => ?_, List.nodup_nil, fun c _ hm => by cases hm⟩
  have hours : t.ours c = true := hours
  show (t.commit newH newFull).dpHashes.get c = (t.desiredChain c).map _
  rw [commit_dp, (plan_some hp).2]
  refine Assoc.lookup_puts_eq c _ _ _ (fun p hp hpc => ?_) fun hnone => ?_
  · rcases List.mem_append.1 hp with hp | hp
    · rcases List.mem_append.1 hp with hp | hp
      · obtain ⟨⟨x, ch⟩, hq, rfl⟩ := List.mem_map.1 hp
        cases hpc
        rw [(mem_updChains.1 hq).2]; rfl
      · -- a cache update for hook rules is for a shared chain
        obtain ⟨q, hq, rfl⟩ := List.mem_map.1 hp
        obtain ⟨r, hr, hrq⟩ := List.mem_filterMap.1 hq
        obtain ⟨x, hx, rfl⟩ := List.mem_map.1 hr
        cases (iaUpdOf_key hrq).symm.trans hpc
        exact absurd (mem_sortS.1 hx) (h.iaForeign _ hours)
    · obtain ⟨x, hx, rfl⟩ := List.mem_map.1 hp
      cases hpc
      rw [(mem_delChains.1 hx).2]; rfl
  · -- no update for `c`: it was not dirty
    refine h.cache c hours fun hcd => ?_
    cases hd : t.desiredChain c with
    | none => exact hnone (c, none) (List.mem_append_right _ (List.mem_map.2 ⟨c, mem_delChains.2 ⟨hcd, hd⟩, rfl⟩)) rfl
    | some ch =>
      exact hnone (c, some (ch.rules.map (·.hash))) (List.mem_append_left _ (List.mem_append_left _
        (List.mem_map.2 ⟨(c, ch), mem_updChains.2 ⟨hcd, hd⟩, rfl⟩))) rfl

def oursP (P : List String) (c : String) : Bool := P.any (fun p => hasPrefix c p)
theorem ours_eq (t : T) (c : String) : t.ours c = oursP t.prefixes c := rfl

def PInv (P : List String) (t : T) : Prop := TInv t ∧ t.prefixes = P ∧ DInv (fun x => oursP P x = true) t

theorem PInv.tinv {P : List String} {t : T} (h : PInv P t) : TInv t := h.1
theorem PInv.prefixes {P : List String} {t : T} (h : PInv P t) : t.prefixes = P := h.2.1
theorem PInv.dinv {P : List String} {t : T} (h : PInv P t) : DInv (fun x => oursP P x = true) t := h.2.2

theorem PInv.ours {P : List String} {t : T} (h : PInv P t) (c : String) : t.ours c = oursP P c := by
  rw [ours_eq, h.prefixes]

theorem PInv.new (P : List String) (mode : Bool) (hk : ∀ c ∈ kernelChains, oursP P c = false) :
    PInv P (T.new P mode) :=
  ⟨TInv.new P mode hk, rfl, DInv.new _ P mode⟩

theorem PInv.load {P : List String} {t : T} (h : PInv P t) (K : Kernel) : PInv P (t.load K) :=
  ⟨h.tinv.load K, (load_prefixes t K).trans h.prefixes, h.dinv.load (fun x hx => (h.ours x).symm.trans hx) K⟩
theorem PInv.invalidate {P : List String} {t : T} (h : PInv P t) : PInv P t.invalidate :=
  ⟨h.tinv.invalidate, h.prefixes, h.dinv.invalidate⟩
theorem PInv.commit {P : List String} {t : T} (h : PInv P t) {lines newH newFull}
    (hp : t.plan = some (lines, newH, newFull)) : PInv P (t.commit newH newFull) :=
  ⟨h.tinv.commit hp, h.prefixes, h.dinv.commit newH newFull⟩

end CalicoVerif.C15
