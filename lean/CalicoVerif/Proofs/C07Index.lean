import CalicoVerif.Model.C07
import CalicoVerif.Proofs.Assoc
/-! C07, the InheritIndex: the callbacks of every loop of the model (`updateMatches`, `scanSelectors`, `scanItems`,
`flushItems`, `dropMatches`) form a valid start/stop trace from the old match set to the new one (`Replay`; per operation:
`apply_replay` in `C07Hist`), and each operation keeps `Inv`: a pair is in the match set exactly when selector and item
exist and the selector evaluates to true on the item's effective labels (`Inv.sound`, an `↔`: sound and complete). -/
namespace CalicoVerif.C07
open CalicoVerif.C06

def KeysNodup {α β} (l : List (α × β)) : Prop := (l.map (·.1)).Nodup

section assoc
variable {α β : Type} [DecidableEq α]

theorem lookup_eq_get (k : α) (l : List (α × β)) : lookup k l = Assoc.get l k := by
  induction l with
  | nil => rfl
  | cons kv rest ih => obtain ⟨a, b⟩ := kv; simp only [lookup, Assoc.get, ih]

theorem lookup_erase (k k' : α) (l : List (α × β)) :
    lookup k (erase k' l) = if k = k' then none else lookup k l := by
  rw [lookup_eq_get, lookup_eq_get]; exact Assoc.get_del l k' k

theorem lookup_insert (k k' : α) (v : β) (l : List (α × β)) :
    lookup k (insert k' v l) = if k = k' then some v else lookup k l := by
  rw [lookup_eq_get, lookup_eq_get]; exact Assoc.get_set l k' k v

theorem mem_erase {k : α} {kv : α × β} {l : List (α × β)} (h : kv ∈ erase k l) : kv ∈ l ∧ kv.1 ≠ k := by
  simpa [erase] using h

theorem keysNodup_erase (k' : α) {l : List (α × β)} (h : KeysNodup l) : KeysNodup (erase k' l) :=
  Assoc.nodup_del k' h

theorem keysNodup_insert (k' : α) (v : β) {l : List (α × β)} (h : KeysNodup l) : KeysNodup (insert k' v l) :=
  Assoc.nodup_set k' v h

theorem lookup_none_of_not_mem {k : α} {l : List (α × β)} (h : k ∉ l.map (·.1)) : lookup k l = none :=
  (lookup_eq_get k l).trans ((Assoc.get_eq_none_iff l k).2 h)

theorem lookup_isSome_of_mem {k : α} {l : List (α × β)} (h : k ∈ l.map (·.1)) : (lookup k l).isSome = true :=
  lookup_eq_get k l ▸ (Assoc.get_isSome_iff l k).2 h

theorem mem_of_lookup {k : α} {v : β} {l : List (α × β)} (h : lookup k l = some v) : (k, v) ∈ l :=
  Assoc.mem_of_get ((lookup_eq_get k l).symm.trans h)

theorem lookup_of_mem {k : α} {v : β} {l : List (α × β)} (hn : KeysNodup l) (h : (k, v) ∈ l) :
    lookup k l = some v :=
  (lookup_eq_get k l).trans (Assoc.get_of_mem hn h)

theorem lookup_filter_of_keysNodup (p : α × β → Bool) (k : α) {l : List (α × β)} (h : KeysNodup l) :
    lookup k (l.filter p) = match lookup k l with
      | some v => if p (k, v) then some v else none
      | none => none := by
  rw [lookup_eq_get, lookup_eq_get, Assoc.get_filter_of_nodup p l h]
  cases Assoc.get l k <;> rfl

end assoc

abbrev MS := List (Nat × Nat)

/-- Applying a callback trace to a match set: a start is only legal for a pair
that is not matching, a stop only for a pair that is. -/
inductive Replay : MS → List Event → MS → Prop
  | nil (ms) : Replay ms [] ms
  | start {ms s i evs ms'} : (s, i) ∉ ms → Replay ((s, i) :: ms) evs ms' → Replay ms (.started s i :: evs) ms'
  | stop {ms s i evs ms'} : (s, i) ∈ ms → Replay (ms.filter (· ≠ (s, i))) evs ms' → Replay ms (.stopped s i :: evs) ms'

theorem Replay.append {a b c : MS} {e1 e2 : List Event} (h1 : Replay a e1 b) (h2 : Replay b e2 c) :
    Replay a (e1 ++ e2) c := by
  induction h1 with
  | nil => exact h2
  | start hn _ ih => exact .start hn (ih h2)
  | stop hm _ ih => exact .stop hm (ih h2)

theorem Replay.nodup {a b : MS} {evs : List Event} (h : Replay a evs b) (ha : a.Nodup) : b.Nodup := by
  induction h with
  | nil => exact ha
  | start hn _ ih => exact ih (List.nodup_cons.2 ⟨hn, ha⟩)
  | stop _ _ ih => exact ih (ha.filter _)

theorem hasMatch_iff (ms : MS) (s i : Nat) : hasMatch ms s i = true ↔ (s, i) ∈ ms := by
  simp [hasMatch]

theorem updateMatches_replay (st : Idx) (ms : MS) (s : Nat) (n : Node) (i : Nat) (it : Item) :
    Replay ms (updateMatches st ms s n i it).2 (updateMatches st ms s n i it).1 := by
  unfold updateMatches storeMatch deleteMatch
  split <;> split
  · exact .nil _
  · next h => exact .start (mt (hasMatch_iff ..).2 h) (.nil _)
  · next h => exact .stop ((hasMatch_iff ..).1 h) (.nil _)
  · exact .nil _

theorem scanSelectors_replay (st : Idx) (i : Nat) (it : Item) : ∀ (sels : List (Nat × Node)) (ms : MS),
    Replay ms (scanSelectors st i it sels ms).2 (scanSelectors st i it sels ms).1
  | [], _ => .nil _
  | (s, n) :: rest, ms => (updateMatches_replay st ms s n i it).append (scanSelectors_replay st i it rest _)

theorem scanItems_replay (st : Idx) (s : Nat) (n : Node) : ∀ (items : List (Nat × Item)) (ms : MS),
    Replay ms (scanItems st s n items ms).2 (scanItems st s n items ms).1
  | [], _ => .nil _
  | (i, it) :: rest, ms => (updateMatches_replay st ms s n i it).append (scanItems_replay st s n rest _)

theorem flushItems_replay (st : Idx) : ∀ (items : List (Nat × Item)) (ms : MS),
    Replay ms (flushItems st items ms).2 (flushItems st items ms).1
  | [], _ => .nil _
  | (i, it) :: rest, ms => (scanSelectors_replay st i it st.sels ms).append (flushItems_replay st rest _)

theorem replay_stops : ∀ (l cur : MS), l.Nodup → (∀ m ∈ l, m ∈ cur) →
    Replay cur (l.map fun m => .stopped m.1 m.2) (cur.filter fun m => !l.contains m)
  | [], cur, _, _ => by
    have : (cur.filter fun m => !([] : MS).contains m) = cur := List.filter_eq_self.2 fun _ _ => rfl
    rw [this]
    exact .nil _
  | (s, i) :: l, cur, hnd, hsub => by
    obtain ⟨ha, hnd⟩ := List.nodup_cons.1 hnd
    refine .stop (hsub _ (List.mem_cons_self ..)) ?_
    have := replay_stops l (cur.filter (· ≠ (s, i))) hnd fun m hm =>
      List.mem_filter.2 ⟨hsub m (List.mem_cons_of_mem _ hm), decide_eq_true fun e => ha (e ▸ hm)⟩
    rwa [List.filter_filter, show (fun m => (!l.contains m) && decide (m ≠ (s, i))) =
      fun m => !((s, i) :: l).contains m from funext fun m => by simp [Bool.and_comm]] at this

theorem dropMatches_replay (p : Nat × Nat → Bool) (ms : MS) (h : ms.Nodup) :
    Replay ms (dropMatches p ms).2 (dropMatches p ms).1 := by
  have := replay_stops (ms.filter p) ms (h.filter _) fun m hm => (List.mem_filter.1 hm).1
  rwa [List.filter_congr fun m hm => show (!(ms.filter p).contains m) = !p m by simp [hm]] at this

theorem firstParent_congr {st1 st2 : Idx} (k : Str) : ∀ (ps : List Str),
    (∀ p ∈ ps, lookup p st1.parents = lookup p st2.parents) → firstParent st1 k ps = firstParent st2 k ps
  | [], _ => rfl
  | p :: ps, h => by
    simp only [firstParent, parentLabels, h p (List.mem_cons_self ..)]
    rw [firstParent_congr k ps (fun q hq => h q (List.mem_cons_of_mem _ hq))]

theorem effLabels_congr {st1 st2 : Idx} (it : Item)
    (h : ∀ p ∈ it.parents, lookup p st1.parents = lookup p st2.parents) : effLabels st1 it = effLabels st2 it := by
  funext k
  simp only [effLabels, firstParent_congr k it.parents h]

theorem mem_storeMatch (ms : MS) (s i : Nat) (q : Nat × Nat) :
    q ∈ (storeMatch ms s i).1 ↔ q = (s, i) ∨ q ∈ ms := by
  unfold storeMatch
  split
  · next h => exact ⟨Or.inr, fun x => x.elim (fun e => e ▸ (hasMatch_iff ..).1 h) id⟩
  · exact List.mem_cons

theorem mem_deleteMatch (ms : MS) (s i : Nat) (q : Nat × Nat) :
    q ∈ (deleteMatch ms s i).1 ↔ q ≠ (s, i) ∧ q ∈ ms := by
  unfold deleteMatch
  split
  · simp only [List.mem_filter, decide_eq_true_eq]; exact And.comm
  · next h => exact ⟨fun hq => ⟨fun e => h ((hasMatch_iff ..).2 (e ▸ hq)), hq⟩, And.right⟩

theorem mem_updateMatches (st : Idx) (ms : MS) (s : Nat) (n : Node) (i : Nat) (it : Item) (q : Nat × Nat) :
    q ∈ (updateMatches st ms s n i it).1 ↔
      (q = (s, i) ∧ n.eval (effLabels st it) = true) ∨ (q ≠ (s, i) ∧ q ∈ ms) := by
  unfold updateMatches
  split
  · next h => rw [mem_storeMatch]; by_cases hq : q = (s, i) <;> simp [hq, h]
  · next h => rw [mem_deleteMatch]; simp [h]

theorem mem_scanSelectors (st : Idx) (i : Nat) (it : Item) : ∀ (sels : List (Nat × Node)), KeysNodup sels →
    ∀ (ms : MS) (q : Nat × Nat), q ∈ (scanSelectors st i it sels ms).1 ↔
      (q.2 = i ∧ ∃ n, lookup q.1 sels = some n ∧ n.eval (effLabels st it) = true) ∨
      ((q.2 ≠ i ∨ lookup q.1 sels = none) ∧ q ∈ ms)
  | [], _, ms, q => by simp [scanSelectors, lookup]
  | (s, n) :: rest, h, ms, q => by
    obtain ⟨hs, h⟩ := List.nodup_cons.1 h
    have hs : lookup s rest = none := lookup_none_of_not_mem hs
    simp only [scanSelectors]
    rw [mem_scanSelectors st i it rest h, mem_updateMatches]
    obtain ⟨q1, q2⟩ := q
    simp only [lookup, Prod.mk.injEq]
    by_cases h1 : s = q1
    · subst h1
      by_cases h2 : q2 = i <;> simp [hs, h2]
    · simp [h1, Ne.symm h1]

theorem mem_scanItems (st : Idx) (s : Nat) (n : Node) : ∀ (items : List (Nat × Item)), KeysNodup items →
    ∀ (ms : MS) (q : Nat × Nat), q ∈ (scanItems st s n items ms).1 ↔
      (q.1 = s ∧ ∃ it, lookup q.2 items = some it ∧ n.eval (effLabels st it) = true) ∨
      ((q.1 ≠ s ∨ lookup q.2 items = none) ∧ q ∈ ms)
  | [], _, ms, q => by simp [scanItems, lookup]
  | (i, it) :: rest, h, ms, q => by
    obtain ⟨hs, h⟩ := List.nodup_cons.1 h
    have hs : lookup i rest = none := lookup_none_of_not_mem hs
    simp only [scanItems]
    rw [mem_scanItems st s n rest h, mem_updateMatches]
    obtain ⟨q1, q2⟩ := q
    simp only [lookup, Prod.mk.injEq]
    by_cases h1 : i = q2
    · subst h1
      by_cases h2 : q1 = s <;> simp [hs, h2]
    · simp [h1, Ne.symm h1]

theorem mem_flushItems (st : Idx) (hsels : KeysNodup st.sels) : ∀ (items : List (Nat × Item)), KeysNodup items →
    ∀ (ms : MS) (q : Nat × Nat), q ∈ (flushItems st items ms).1 ↔
      (∃ it n, lookup q.2 items = some it ∧ lookup q.1 st.sels = some n ∧ n.eval (effLabels st it) = true) ∨
      ((lookup q.2 items = none ∨ lookup q.1 st.sels = none) ∧ q ∈ ms)
  | [], _, ms, q => by simp [flushItems, lookup]
  | (i, it) :: rest, h, ms, q => by
    obtain ⟨hs, h⟩ := List.nodup_cons.1 h
    have hs : lookup i rest = none := lookup_none_of_not_mem hs
    simp only [flushItems]
    rw [mem_flushItems st hsels rest h, mem_scanSelectors st i it st.sels hsels]
    obtain ⟨q1, q2⟩ := q
    simp only [lookup]
    by_cases h1 : i = q2
    · subst h1
      cases lookup q1 st.sels <;> simp [hs]
    · simp [h1, Ne.symm h1]

structure Inv (st : Idx) : Prop where
  selsNodup : KeysNodup st.sels
  itemsNodup : KeysNodup st.items
  matchedNodup : st.matched.Nodup
  sound : ∀ q : Nat × Nat, q ∈ st.matched ↔
    ∃ n it, lookup q.1 st.sels = some n ∧ lookup q.2 st.items = some it ∧ n.eval (effLabels st it) = true

theorem inv_empty : Inv {} := by
  refine ⟨?_, ?_, ?_, ?_⟩ <;> simp [KeysNodup, lookup]

/-- effective labels read the state's `parents` only: stated on that component, so that goals about `{ st with … }` can be
rewritten -/
def effP (ps : List (Str × List (Str × Str))) (it : Item) : Labels := effLabels { parents := ps } it

theorem effLabels_eq_effP (st : Idx) (it : Item) : effLabels st it = effP st.parents it :=
  effLabels_congr it (fun _ _ => rfl)

theorem inv_sound' {st : Idx} (h : Inv st) (q : Nat × Nat) : q ∈ st.matched ↔
    ∃ n it, lookup q.1 st.sels = some n ∧ lookup q.2 st.items = some it ∧ n.eval (effP st.parents it) = true := by
  have := h.sound q
  simpa only [effLabels_eq_effP] using this

theorem inv_matched_sel {st : Idx} (h : Inv st) {q : Nat × Nat} (hq : q ∈ st.matched) :
    lookup q.1 st.sels ≠ none := by
  obtain ⟨n, it, h1, _, _⟩ := (h.sound q).mp hq
  simp [h1]

theorem inv_matched_item {st : Idx} (h : Inv st) {q : Nat × Nat} (hq : q ∈ st.matched) :
    lookup q.2 st.items ≠ none := by
  obtain ⟨n, it, _, h2, _⟩ := (h.sound q).mp hq
  simp [h2]

theorem updateLabels_inv {st : Idx} (h : Inv st) (id : Nat) (labels : List (Str × Str)) (parents : List Str) :
    Inv (updateLabels st id labels parents).1 := by
  unfold updateLabels
  simp only []
  refine ⟨h.selsNodup, keysNodup_insert id _ h.itemsNodup, (scanSelectors_replay ..).nodup h.matchedNodup, ?_⟩
  intro q
  simp only []
  rw [mem_scanSelectors _ _ _ _ h.selsNodup, lookup_insert]
  simp only [effLabels_eq_effP]
  obtain ⟨q1, q2⟩ := q
  by_cases hq : q2 = id
  · subst hq
    simp only [if_true, true_and, ne_eq, not_true_eq_false, false_or]
    constructor
    · rintro (⟨n, h1, h2⟩ | ⟨h1, h2⟩)
      · exact ⟨n, _, h1, rfl, h2⟩
      · exact absurd h1 (inv_matched_sel h h2)
    · rintro ⟨n, it, h1, h2, h3⟩
      cases h2
      exact Or.inl ⟨n, h1, h3⟩
  · simp only [hq, if_false, false_and, false_or, ne_eq, not_false_eq_true, true_or, true_and]
    exact inv_sound' h (q1, q2)

theorem updateSelector_go_inv {st : Idx} (h : Inv st) (id : Nat) (n : Node) :
    Inv (updateSelector.go st id n).1 := by
  unfold updateSelector.go
  simp only []
  refine ⟨keysNodup_insert id _ h.selsNodup, h.itemsNodup, (scanItems_replay ..).nodup h.matchedNodup, ?_⟩
  intro q
  simp only []
  rw [mem_scanItems _ _ _ _ h.itemsNodup, lookup_insert]
  simp only [effLabels_eq_effP]
  obtain ⟨q1, q2⟩ := q
  by_cases hq : q1 = id
  · subst hq
    simp only [if_true, true_and, ne_eq, not_true_eq_false, false_or]
    constructor
    · rintro (⟨it, h1, h2⟩ | ⟨h1, h2⟩)
      · exact ⟨n, it, rfl, h1, h2⟩
      · exact absurd h1 (inv_matched_item h h2)
    · rintro ⟨n', it, h1, h2, h3⟩
      cases h1
      exact Or.inl ⟨it, h2, h3⟩
  · simp only [hq, if_false, false_and, false_or, ne_eq, not_false_eq_true, true_or, true_and]
    exact inv_sound' h (q1, q2)

theorem updateSelector_inv {st : Idx} (h : Inv st) (id : Nat) (n : Node) : Inv (updateSelector st id n).1 := by
  unfold updateSelector
  split
  · split
    · exact h
    · exact updateSelector_go_inv h id n
  · exact updateSelector_go_inv h id n

theorem deleteSelector_inv {st : Idx} (h : Inv st) (id : Nat) : Inv (deleteSelector st id).1 := by
  unfold deleteSelector dropMatches
  simp only []
  refine ⟨keysNodup_erase id h.selsNodup, h.itemsNodup, h.matchedNodup.filter _, ?_⟩
  intro q
  simp only [List.mem_filter, lookup_erase, effLabels_eq_effP, inv_sound' h q]
  by_cases hq : q.1 = id
  · simp [hq]
  · simp [hq]

theorem deleteLabels_inv {st : Idx} (h : Inv st) (id : Nat) : Inv (deleteLabels st id).1 := by
  unfold deleteLabels dropMatches
  simp only []
  refine ⟨h.selsNodup, keysNodup_erase id h.itemsNodup, h.matchedNodup.filter _, ?_⟩
  intro q
  simp only [List.mem_filter, lookup_erase, effLabels_eq_effP, inv_sound' h q]
  by_cases hq : q.2 = id
  · simp [hq]
  · simp [hq]

/-- shared part of `UpdateParentLabels` / `DeleteParentLabels`: the parents map
changes only at `pid`, then the children of `pid` are re-scanned. -/
theorem flushChildren_inv {st : Idx} (h : Inv st) (pid : Str) (ps : List (Str × List (Str × Str)))
    (hps : ∀ p, p ≠ pid → lookup p ps = lookup p st.parents) :
    Inv { st with parents := ps,
                  matched := (flushItems { st with parents := ps } (children { st with parents := ps } pid) st.matched).1 } := by
  have hchildNodup : KeysNodup (children { st with parents := ps } pid) := by
    unfold children KeysNodup
    have := h.itemsNodup
    unfold KeysNodup at this
    exact (List.Nodup.sublist (List.Sublist.map _ List.filter_sublist) this)
  refine ⟨h.selsNodup, h.itemsNodup, (flushItems_replay ..).nodup h.matchedNodup, ?_⟩
  intro q
  simp only []
  rw [mem_flushItems { st with parents := ps } h.selsNodup _ hchildNodup]
  have hlk : lookup q.2 (children { st with parents := ps } pid) =
      match lookup q.2 st.items with
      | some it => if it.parents.contains pid then some it else none
      | none => none := by
    unfold children
    rw [lookup_filter_of_keysNodup _ _ h.itemsNodup]
    cases lookup q.2 st.items <;> rfl
  rw [hlk]
  simp only [effLabels_eq_effP]
  cases hit : lookup q.2 st.items with
  | none =>
    simp only [true_or, true_and]
    constructor
    · rintro (⟨it, n, h1, _⟩ | h2)
      · cases h1
      · exact absurd hit (inv_matched_item h h2)
    · rintro ⟨n, it, _, h2, _⟩
      cases h2
  | some it =>
    by_cases hc : it.parents.contains pid = true
    · simp only [hc, if_true]
      constructor
      · rintro (⟨it', n, h1, h2, h3⟩ | ⟨h1 | h1, h2⟩)
        · cases h1; exact ⟨n, it, h2, rfl, h3⟩
        · cases h1
        · exact absurd h1 (inv_matched_sel h h2)
      · rintro ⟨n, it', h1, h2, h3⟩
        cases h2
        exact Or.inl ⟨it, n, rfl, h1, h3⟩
    · simp only [hc, Bool.false_eq_true, if_false, true_or, true_and]
      have hsame : effP ps it = effP st.parents it := by
        unfold effP
        apply effLabels_congr
        intro p hp
        apply hps
        rintro rfl
        exact hc (by simpa using hp)
      constructor
      · rintro (⟨it', n, h1, _⟩ | h2)
        · cases h1
        · obtain ⟨n, it', h1, h2', h3⟩ := (inv_sound' h q).mp h2
          rw [hit] at h2'; cases h2'
          exact ⟨n, it, h1, rfl, by rw [hsame]; exact h3⟩
      · rintro ⟨n, it', h1, h2, h3⟩
        cases h2
        exact Or.inr ((inv_sound' h q).mpr ⟨n, it, h1, hit, by rw [← hsame]; exact h3⟩)

theorem updateParentLabels_inv {st : Idx} (h : Inv st) (pid : Str) (labels : List (Str × Str)) :
    Inv (updateParentLabels st pid labels).1 := by
  unfold updateParentLabels
  exact flushChildren_inv h pid _ (fun p hp => by rw [lookup_insert]; simp [hp])

theorem deleteParentLabels_inv {st : Idx} (h : Inv st) (pid : Str) : Inv (deleteParentLabels st pid).1 := by
  unfold deleteParentLabels
  exact flushChildren_inv h pid _ (fun p hp => by rw [lookup_erase]; simp [hp])

theorem children_keys (st : Idx) (pid : Str) : ∀ k ∈ (children st pid).map (·.1), k ∈ st.items.map (·.1) := by
  intro k hk
  simp only [children, List.mem_map, List.mem_filter] at hk ⊢
  obtain ⟨a, ⟨ha, _⟩, rfl⟩ := hk
  exact ⟨a, ha, rfl⟩

theorem updateSelector_other (st : Idx) (id : Nat) (n : Node) :
    (updateSelector st id n).1.items = st.items ∧ (updateSelector st id n).1.parents = st.parents := by
  unfold updateSelector
  cases lookup id st.sels with
  | none => exact ⟨rfl, rfl⟩
  | some old =>
    simp only []
    split
    · exact ⟨rfl, rfl⟩
    · exact ⟨rfl, rfl⟩

end CalicoVerif.C07
