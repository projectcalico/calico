import CalicoVerif.Proofs.C11Shape
/-!
C11 — symbolic-execution lemmas for single instructions of the kinds the
policy builder emits (ALU moves, loads and stores to state, stack and context, jumps, the
helper calls, exit), over machines satisfying the builder's register
invariant (`Inv`: R6 = context, R9 = state pointer, R10 = frame pointer, packet
fields and host flag bits of the state unchanged).  In this order: the definitions and what keeps `Inv`; the step
equations, by instruction class; the label-level semantics one event at a time (`goto`, `lrun_*`, `goto_*`);
little-endian fields and the jump comparisons as numbers (`cond_nat`); the writes to the state that keep `StSim`
(`StSim.write`, `StSim.writeFlags`); how a policy program may end.

Offsets into `cali_tc_state` appear as numbers, here and in the files that follow: each is the builder's
`stateEventHdrSize` (8) plus the field offset.  In this file: 368 = `stateOffFlags`, stack index 508 =
512 + `offStateKey`; in `C11Guard`, `C11Log`, `C11Ends`: 104 = `stateOffIPProto`, 98 = `stateOffICMPType`,
92 = `stateOffPolResult`, 108 = `stateOffRulesHit`, 112 = `stateOffRuleIDs`.
-/
namespace CalicoVerif.C11

def stateW : Word := BitVec.ofNat 64 stateBase
def ctxW : Word := BitVec.ofNat 64 ctxBase
def stackW : Word := BitVec.ofNat 64 stackTop

/-- State bytes that no policy program ever writes: the four 16-byte address fields (8..71: source,
24..39 which policy does not read, destination before and after NAT), the ports and the protocol (96..104). -/
def Stable (j : Nat) : Prop := (8 ≤ j ∧ j < 72) ∨ (96 ≤ j ∧ j < 105)

/-- `st'` is the state `st` after a policy program may have written to it: same size, same
packet fields, same host bits (2, 3) of the flags.  (`pol_rc`, `rules_hit`, `rule_ids` and the
other flag bits may differ.) -/
structure StSim (st st' : List Byte) : Prop where
  len : st'.length = 512
  same : ∀ j, Stable j → st'[j]? = st[j]?
  flags : (BitVec.ofNat 64 (fieldN st' 368 8) &&& 12#64) = (BitVec.ofNat 64 (fieldN st 368 8) &&& 12#64)

theorem StSim.refl (st : List Byte) (h : st.length = 512) : StSim st st := ⟨h, fun _ _ => rfl, rfl⟩

theorem StSim.bytes_eq {st st' : List Byte} (h : StSim st st') (hlen : st.length = 512) (k n : Nat)
    (hk : k + n ≤ 512) (hs : ∀ j, k ≤ j → j < k + n → Stable j) :
    getBytes st' k n = getBytes st k n := by
  unfold getBytes
  rw [if_pos (by rw [h.len]; exact hk), if_pos (by rw [hlen]; exact hk)]
  congr 1
  apply List.ext_getElem?
  intro i
  simp only [List.getElem?_take, List.getElem?_drop]
  by_cases hi : i < n
  · simp only [hi, if_true]
    exact h.same (k + i) (hs (k + i) (by omega) (by omega))
  · simp only [hi, if_false]

/-- The builder's invariant between instructions of the policy part. -/
structure Inv (st : List Byte) (m : Mach) : Prop where
  r6 : m.reg 6 = some ctxW
  r9 : m.reg 9 = some stateW
  r10 : m.reg 10 = some stackW
  regsLen : m.regs.length = 11
  sim : StSim st m.st
  stLen : st.length = 512

/-- What the fragments need beyond `Inv`: `fd` is read by the IP-set lookup, `len` (which `Inv.stLen` repeats) by
the ICMP guard and by the header. -/
structure SetCtx (env : Env) (st : List Byte) : Prop where
  len : st.length = 512
  fd : mapHandle env.c.ipSetMapFD ≠ mapHandle env.c.stateMapFD

def LdOp (op n : Nat) : Prop :=
  (op = opLoadReg8 ∧ n = 1) ∨ (op = opLoadReg16 ∧ n = 2) ∨ (op = opLoadReg32 ∧ n = 4) ∨ (op = opLoadReg64 ∧ n = 8)
def StOp (op n : Nat) : Prop :=
  (op = opStoreReg8 ∧ n = 1) ∨ (op = opStoreReg16 ∧ n = 2) ∨ (op = opStoreReg32 ∧ n = 4) ∨ (op = opStoreReg64 ∧ n = 8)

theorem LdOp.b : LdOp opLoadReg8 1 := Or.inl ⟨rfl, rfl⟩
theorem LdOp.h : LdOp opLoadReg16 2 := Or.inr (Or.inl ⟨rfl, rfl⟩)
theorem LdOp.w : LdOp opLoadReg32 4 := Or.inr (Or.inr (Or.inl ⟨rfl, rfl⟩))
theorem LdOp.d : LdOp opLoadReg64 8 := Or.inr (Or.inr (Or.inr ⟨rfl, rfl⟩))
theorem StOp.b : StOp opStoreReg8 1 := Or.inl ⟨rfl, rfl⟩
theorem StOp.h : StOp opStoreReg16 2 := Or.inr (Or.inl ⟨rfl, rfl⟩)
theorem StOp.w : StOp opStoreReg32 4 := Or.inr (Or.inr (Or.inl ⟨rfl, rfl⟩))
theorem StOp.d : StOp opStoreReg64 8 := Or.inr (Or.inr (Or.inr ⟨rfl, rfl⟩))

/-- The conditional jumps on an immediate the builder emits, 64-bit and 32-bit comparison. -/
def JOp64 (op : Nat) : Prop :=
  op = opJumpEqImm64 ∨ op = opJumpNEImm64 ∨ op = opJumpGEImm64 ∨ op = opJumpLTImm64 ∨ op = opJumpLEImm64
def JOp32 (op : Nat) : Prop := op = opJumpEqImm32 ∨ op = opJumpNEImm32

theorem JOp64.eq : JOp64 opJumpEqImm64 := Or.inl rfl
theorem JOp64.ne : JOp64 opJumpNEImm64 := Or.inr (Or.inl rfl)
theorem JOp64.ge : JOp64 opJumpGEImm64 := Or.inr (Or.inr (Or.inl rfl))
theorem JOp64.lt : JOp64 opJumpLTImm64 := Or.inr (Or.inr (Or.inr (Or.inl rfl)))
theorem JOp64.le : JOp64 opJumpLEImm64 := Or.inr (Or.inr (Or.inr (Or.inr rfl)))
theorem JOp32.eq : JOp32 opJumpEqImm32 := Or.inl rfl
theorem JOp32.ne : JOp32 opJumpNEImm32 := Or.inr rfl

theorem reg_setReg_ne {m : Mach} {r r' : Nat} {v : Word} (h : r ≠ r') :
    (m.setReg r v).reg r' = m.reg r' := by
  unfold Mach.setReg Mach.reg
  simp only [List.getD_eq_getElem?_getD]
  rw [List.getElem?_set_ne h]

theorem reg_setReg_eq {m : Mach} {r : Nat} {v : Word} (h : r < m.regs.length) :
    (m.setReg r v).reg r = some v := by
  unfold Mach.setReg Mach.reg
  simp only [List.getD_eq_getElem?_getD]
  rw [List.getElem?_set_self h]
  rfl

theorem Inv.reg_lt {st : List Byte} {m : Mach} (h : Inv st m) (r : Nat) (hr : r < 11) : r < m.regs.length := by
  rw [h.regsLen]; exact hr

theorem Inv.setReg {st : List Byte} {m : Mach} (h : Inv st m) (r : Nat) (v : Word)
    (h6 : r ≠ 6) (h9 : r ≠ 9) (h10 : r ≠ 10) : Inv st (m.setReg r v) where
  r6 := by rw [reg_setReg_ne h6]; exact h.r6
  r9 := by rw [reg_setReg_ne h9]; exact h.r9
  r10 := by rw [reg_setReg_ne h10]; exact h.r10
  regsLen := by simp [Mach.setReg, h.regsLen]
  sim := h.sim
  stLen := h.stLen

theorem Inv.setStack {st : List Byte} {m : Mach} (h : Inv st m) (s : Nat → Option Byte) :
    Inv st { m with stack := s } :=
  { r6 := h.r6, r9 := h.r9, r10 := h.r10, regsLen := h.regsLen, sim := h.sim, stLen := h.stLen }

theorem reg_setStack (m : Mach) (s : Nat → Option Byte) (r : Nat) :
    ({ m with stack := s } : Mach).reg r = m.reg r := rfl

theorem Inv.setSt {st : List Byte} {m : Mach} (h : Inv st m) (s' : List Byte) (hs : StSim st s') :
    Inv st { m with st := s' } :=
  { r6 := h.r6, r9 := h.r9, r10 := h.r10, regsLen := h.regsLen, sim := hs, stLen := h.stLen }

theorem reg_clobber (m : Mach) (r : Nat) (h : r = 0 ∨ 6 ≤ r) : (m.clobber).reg r = m.reg r := by
  unfold Mach.clobber Mach.reg
  simp only [List.getD_eq_getElem?_getD]
  rcases h with rfl | h
  · simp
  · rw [List.getElem?_set_ne (by omega), List.getElem?_set_ne (by omega), List.getElem?_set_ne (by omega),
      List.getElem?_set_ne (by omega), List.getElem?_set_ne (by omega)]

theorem Inv.clobber {st : List Byte} {m : Mach} (h : Inv st m) : Inv st m.clobber where
  r6 := by rw [reg_clobber m 6 (Or.inr (by omega))]; exact h.r6
  r9 := by rw [reg_clobber m 9 (Or.inr (by omega))]; exact h.r9
  r10 := by rw [reg_clobber m 10 (Or.inr (by omega))]; exact h.r10
  regsLen := by simp [Mach.clobber, h.regsLen]
  sim := h.sim
  stLen := h.stLen

/-! Step equations. -/

theorem getBytes_full {st : List Byte} (hlen : st.length = 512) (k n : Nat) (h : k + n ≤ 512) :
    getBytes st k n = some ((st.drop k).take n) := by
  unfold getBytes; rw [if_pos (by omega)]

theorem region_state (k n : Nat) (h : k + n ≤ 512) :
    region (stateW + BitVec.ofNat 64 k) n = some (.state k) := by
  have hk : (stateW + BitVec.ofNat 64 k).toNat = 1342177280 + k := by
    unfold stateW stateBase
    rw [BitVec.toNat_add, BitVec.toNat_ofNat, BitVec.toNat_ofNat]
    omega
  unfold region
  simp only [hk]
  rw [if_neg (by simp only [stackTop, stackSize]; omega), if_pos (by simp only [stateBase, stateSize]; omega)]
  have hsub : 1342177280 + k - 1342177280 = k := by omega
  simp only [stateBase, hsub]

theorem load_state {env : Env} {m : Mach} (k n : Nat) (h : k + n ≤ 512) :
    m.load env (stateW + BitVec.ofNat 64 k) n =
      (getBytes m.st k n).map (fun bs => BitVec.ofNat 64 (leNat bs)) := by
  unfold Mach.load
  rw [region_state k n h]

theorem step_ldx_state_raw {env : Env} {m : Mach} (h9 : m.reg 9 = some stateW) (hlen : m.st.length = 512)
    (op d : Nat) (k n : Nat) (imm : Int) (nxt : Option Insn)
    (hop : LdOp op n)
    (hd : d < 10) (hk : k + n ≤ 512) :
    step env ⟨op, d, 9, (k : Int), imm⟩ nxt m = .next (m.setReg d (BitVec.ofNat 64 (fieldN m.st k n))) := by
  have hl := load_state (env := env) (m := m) k n hk
  rw [getBytes_full hlen k n hk] at hl
  have hd' : ¬ d ≥ 10 := by omega
  rcases hop with ⟨rfl, rfl⟩ | ⟨rfl, rfl⟩ | ⟨rfl, rfl⟩ | ⟨rfl, rfl⟩ <;>
    simp [step, opLoadReg8, opLoadReg16, opLoadReg32, opLoadReg64, opLoadImm64, hd', h9, hl, fieldN]

theorem step_ldx_state {env : Env} {st : List Byte} {m : Mach} (hI : Inv st m)
    (op d : Nat) (k n : Nat) (imm : Int) (nxt : Option Insn) (hop : LdOp op n)
    (hd : d < 10) (hk : k + n ≤ 512) (hstab : ∀ j, k ≤ j → j < k + n → Stable j) :
    step env ⟨op, d, 9, (k : Int), imm⟩ nxt m = .next (m.setReg d (BitVec.ofNat 64 (fieldN st k n))) := by
  have hg := hI.sim.bytes_eq hI.stLen k n hk hstab
  rw [getBytes_full hI.sim.len k n hk, getBytes_full hI.stLen k n hk] at hg
  rw [step_ldx_state_raw hI.r9 hI.sim.len op d k n imm nxt hop hd hk, fieldN, fieldN, Option.some.inj hg]

theorem step_jcond64 {env : Env} {m : Mach} (op d : Nat) (off imm : Int) (nxt : Option Insn) (v : Word)
    (hop : JOp64 op)
    (hv : m.reg d = some v) :
    step env ⟨op, d, 0, off, imm⟩ nxt m =
      (match cond (op / 16) v (sext32 imm) with
       | some true => .taken m
       | some false => .next m
       | none => .fault) := by
  rcases hop with rfl | rfl | rfl | rfl | rfl <;>
    simp [step, opJumpEqImm64, opJumpNEImm64, opJumpGEImm64, opJumpLTImm64, opJumpLEImm64, opLoadImm64,
      opJumpA, opExit, opCall, hv]
  all_goals (cases cond _ v (sext32 imm) with | none => rfl | some b => cases b <;> rfl)

theorem step_jcond32 {env : Env} {m : Mach} (op d : Nat) (off imm : Int) (nxt : Option Insn) (v : Word)
    (hop : JOp32 op) (hv : m.reg d = some v) :
    step env ⟨op, d, 0, off, imm⟩ nxt m =
      (match cond (op / 16) (v.setWidth 32) ((sext32 imm).setWidth 32) with
       | some true => .taken m
       | some false => .next m
       | none => .fault) := by
  rcases hop with rfl | rfl <;>
    simp [step, opJumpEqImm32, opJumpNEImm32, opLoadImm64, opJumpA, opExit, opCall, hv]
  all_goals (cases cond _ (v.setWidth 32) ((sext32 imm).setWidth 32) with | none => rfl | some b => cases b <;> rfl)

theorem step_movImm64 (env : Env) (m : Mach) (d : Nat) (off imm : Int) (nxt : Option Insn) (hd : d < 10) :
    step env ⟨opMovImm64, d, 0, off, imm⟩ nxt m = .next (m.setReg d (sext32 imm)) := by
  have hd' : ¬ d ≥ 10 := by omega
  simp [step, opMovImm64, opLoadImm64, hd', alu]

theorem step_movImm32 (env : Env) (m : Mach) (d : Nat) (off imm : Int) (nxt : Option Insn) (hd : d < 10) :
    step env ⟨opMovImm32, d, 0, off, imm⟩ nxt m =
      .next (m.setReg d (((sext32 imm).setWidth 32).setWidth 64)) := by
  have hd' : ¬ d ≥ 10 := by omega
  simp [step, opMovImm32, opLoadImm64, hd', alu]

theorem step_mov64 (env : Env) (m : Mach) (d s : Nat) (off imm : Int) (nxt : Option Insn) (v : Word)
    (hd : d < 10) (hs : m.reg s = some v) :
    step env ⟨opMov64, d, s, off, imm⟩ nxt m = .next (m.setReg d v) := by
  have hd' : ¬ d ≥ 10 := by omega
  simp [step, opMov64, opLoadImm64, hd', alu, hs]

theorem step_addImm64 (env : Env) (m : Mach) (d : Nat) (off imm : Int) (nxt : Option Insn) (v : Word)
    (hd : d < 10) (hv : m.reg d = some v) :
    step env ⟨opAddImm64, d, 0, off, imm⟩ nxt m = .next (m.setReg d (v + sext32 imm)) := by
  have hd' : ¬ d ≥ 10 := by omega
  simp [step, opAddImm64, opLoadImm64, hd', alu, hv]

theorem step_andImm64 (env : Env) (m : Mach) (d : Nat) (off imm : Int) (nxt : Option Insn) (v : Word)
    (hd : d < 10) (hv : m.reg d = some v) :
    step env ⟨opAndImm64, d, 0, off, imm⟩ nxt m = .next (m.setReg d (v &&& sext32 imm)) := by
  have hd' : ¬ d ≥ 10 := by omega
  simp [step, opAndImm64, opLoadImm64, hd', alu, hv]

theorem step_and32 (env : Env) (m : Mach) (d s : Nat) (off imm : Int) (nxt : Option Insn) (a b : Word)
    (hd : d < 10) (ha : m.reg d = some a) (hb : m.reg s = some b) :
    step env ⟨opAnd32, d, s, off, imm⟩ nxt m =
      .next (m.setReg d ((a.setWidth 32 &&& b.setWidth 32).setWidth 64)) := by
  have hd' : ¬ d ≥ 10 := by omega
  simp [step, opAnd32, opLoadImm64, hd', alu, ha, hb]

theorem step_orImm64 (env : Env) (m : Mach) (d : Nat) (off imm : Int) (nxt : Option Insn) (v : Word)
    (hd : d < 10) (hv : m.reg d = some v) :
    step env ⟨opOrImm64, d, 0, off, imm⟩ nxt m = .next (m.setReg d (v ||| sext32 imm)) := by
  have hd' : ¬ d ≥ 10 := by omega
  simp [step, opOrImm64, opLoadImm64, hd', alu, hv]

theorem step_shlImm64 (env : Env) (m : Mach) (d : Nat) (off imm : Int) (nxt : Option Insn) (v : Word)
    (hd : d < 10) (hv : m.reg d = some v) :
    step env ⟨opShiftLImm64, d, 0, off, imm⟩ nxt m = .next (m.setReg d (v <<< ((sext32 imm).toNat % 64))) := by
  have hd' : ¬ d ≥ 10 := by omega
  simp [step, opShiftLImm64, opLoadImm64, hd', alu, hv]

theorem step_add64 (env : Env) (m : Mach) (d s : Nat) (off imm : Int) (nxt : Option Insn) (a b : Word)
    (hd : d < 10) (ha : m.reg d = some a) (hb : m.reg s = some b) :
    step env ⟨opAdd64, d, s, off, imm⟩ nxt m = .next (m.setReg d (a + b)) := by
  have hd' : ¬ d ≥ 10 := by omega
  simp [step, opAdd64, opLoadImm64, hd', alu, ha, hb]

theorem region_stack (k n : Nat) (h : k + n ≤ 512) :
    region (stackW + BitVec.ofInt 64 ((k : Int) - 512)) n = some (.stack k) := by
  have hk : (stackW + BitVec.ofInt 64 ((k : Int) - 512)).toNat = 1879048192 - 512 + k := by
    unfold stackW stackTop
    rw [BitVec.toNat_add, BitVec.toNat_ofNat, BitVec.toNat_ofInt]
    omega
  unfold region
  simp only [hk]
  rw [if_pos (by simp only [stackTop, stackSize]; omega)]
  have hsub : 1879048192 - 512 + k - (1879048192 - 512) = k := by omega
  simp only [stackTop, stackSize, hsub]

/-- STX of 1/2/4/8 bytes to the stack through R10, from the bare fact about R10 (usable before the
invariant holds, as in the header); `step_stx_stack` is the same under `Inv`. -/
theorem step_stx_stack_raw {env : Env} {m : Mach} (h10 : m.reg 10 = some stackW)
    (op v : Nat) (k n : Nat) (imm : Int) (nxt : Option Insn) (x : Word)
    (hop : StOp op n)
    (hk : k + n ≤ 512) (hv : m.reg v = some x) :
    step env ⟨op, 10, v, (k : Int) - 512, imm⟩ nxt m =
      .next { m with stack := writeStack m.stack k (toLE x.toNat n) } := by
  have hr := region_stack k n hk
  rcases hop with ⟨rfl, rfl⟩ | ⟨rfl, rfl⟩ | ⟨rfl, rfl⟩ | ⟨rfl, rfl⟩ <;>
    simp [step, opStoreReg8, opStoreReg16, opStoreReg32, opStoreReg64, opLoadImm64, h10, hv, Mach.store, hr]

theorem step_stx_stack {env : Env} {st : List Byte} {m : Mach} (hI : Inv st m)
    (op v : Nat) (k n : Nat) (imm : Int) (nxt : Option Insn) (x : Word)
    (hop : StOp op n)
    (hk : k + n ≤ 512) (hv : m.reg v = some x) :
    step env ⟨op, 10, v, (k : Int) - 512, imm⟩ nxt m =
      .next { m with stack := writeStack m.stack k (toLE x.toNat n) } :=
  step_stx_stack_raw hI.r10 op v k n imm nxt x hop hk hv

theorem step_loadMapFD (env : Env) (m : Mach) (d : Nat) (fd : Int) (hd : d < 10) :
    step env ⟨opLoadImm64, d, 1, 0, fd⟩ (some ⟨opLoadImm64Pt2, 0, 0, 0, 0⟩) m =
      .next2 (m.setReg d (mapHandle fd)) := by
  simp [step, opLoadImm64, opLoadImm64Pt2, hd]

theorem step_stx_state_at {env : Env} {m : Mach} (op d v : Nat) (off imm : Int) (k n : Nat) (nxt : Option Insn)
    (p x : Word) (hop : StOp op n)
    (hp : m.reg d = some p) (hx : m.reg v = some x)
    (ha : p + BitVec.ofInt 64 off = stateW + BitVec.ofNat 64 k) (hk : k + n ≤ 512) :
    step env ⟨op, d, v, off, imm⟩ nxt m = .next { m with st := writeAt m.st k (toLE x.toNat n) } := by
  have hr := region_state k n hk
  rcases hop with ⟨rfl, rfl⟩ | ⟨rfl, rfl⟩ | ⟨rfl, rfl⟩ | ⟨rfl, rfl⟩ <;>
    simp [step, opStoreReg8, opStoreReg16, opStoreReg32, opStoreReg64, opLoadImm64, hp, hx, Mach.store, ha, hr]

theorem region_ctx (k n : Nat) (h : k + n ≤ 192) :
    region (ctxW + BitVec.ofNat 64 k) n = some (.ctx k) := by
  have hk : (ctxW + BitVec.ofNat 64 k).toNat = 805306368 + k := by
    unfold ctxW ctxBase
    rw [BitVec.toNat_add, BitVec.toNat_ofNat, BitVec.toNat_ofNat]
    omega
  unfold region
  simp only [hk]
  rw [if_neg (by simp only [stackTop, stackSize]; omega), if_neg (by simp only [stateBase, stateSize]; omega),
    if_pos (by simp only [ctxBase]; omega)]
  have hsub : 805306368 + k - 805306368 = k := by omega
  simp only [ctxBase, hsub]

theorem step_ld_cb {env : Env} {m : Mach} (h6 : m.reg 6 = some ctxW) (d k : Nat) (imm : Int) (nxt : Option Insn)
    (hd : d < 10) (hk : k = 48 ∨ k = 52) :
    step env ⟨opLoadReg32, d, 6, (k : Int), imm⟩ nxt m =
      .next (m.setReg d ((if k = 48 then env.cb0 else env.cb1).setWidth 64)) := by
  have hd' : ¬ d ≥ 10 := by omega
  rcases hk with rfl | rfl
  · have hr := region_ctx 48 4 (by omega)
    simp [step, opLoadReg32, opLoadReg8, opLoadReg16, opLoadImm64, hd', h6, Mach.load, hr]
  · have hr := region_ctx 52 4 (by omega)
    simp [step, opLoadReg32, opLoadReg8, opLoadReg16, opLoadImm64, hd', h6, Mach.load, hr]

theorem step_exit (env : Env) (m : Mach) (r0 : Word) (nxt : Option Insn) (h : m.reg 0 = some r0) :
    step env ⟨opExit, 0, 0, 0, 0⟩ nxt m = .exit r0 m := by
  simp [step, opExit, opLoadImm64, opJumpA, h]

theorem step_tail_static (env : Env) (m : Mach) (r3 : Word) (nxt : Option Insn)
    (h1 : m.reg 1 = some ctxW) (h2 : m.reg 2 = some (mapHandle env.c.staticJumpMapFD)) (h3 : m.reg 3 = some r3) :
    step env ⟨opCall, 0, 0, 0, helperTailCall⟩ nxt m =
      if env.tailOK then .tail env.c.staticJumpMapFD ((r3.setWidth 32).setWidth 64) m
      else .next ((m.clobber).setReg 0 (BitVec.ofInt 64 (-2))) := by
  simp [step, opCall, opLoadImm64, opJumpA, opExit, helperCall, helperTailCall, helperMapLookupElem, h1, h2, h3, ctxW]

/-- The state-map lookup of the header: R0 = the state pointer, or 0 when the lookup fails. -/
theorem step_call_state (env : Env) (m : Mach) (nxt : Option Insn)
    (h1 : m.reg 1 = some (mapHandle env.c.stateMapFD))
    (h2 : m.reg 2 = some (stackW + BitVec.ofInt 64 (((508 : Nat) : Int) - 512)))
    (hk : readStack m.stack 508 4 = some (toLE 0 4)) :
    step env ⟨opCall, 0, 0, 0, helperMapLookupElem⟩ nxt m =
      .next ((m.clobber).setReg 0 (if env.stateOK then stateW else 0)) := by
  have hr := region_stack 508 4 (by omega)
  have hl : m.load env (stackW + BitVec.ofInt 64 (((508 : Nat) : Int) - 512)) 4 = some 0 := by
    unfold Mach.load
    rw [hr]
    simp only [hk, Option.map_some]
    rfl
  have hn : BitVec.ofInt 64 (((508 : Nat) : Int) - 512) = 18446744073709551612#64 := by decide
  rw [hn] at hl h2
  simp [step, opCall, opLoadImm64, opJumpA, opExit, helperCall, helperMapLookupElem, h1, h2, hl, stateW]

theorem Stable.of_range {k n : Nat} (h : 8 ≤ k ∧ k + n ≤ 72 ∨ 96 ≤ k ∧ k + n ≤ 105) :
    ∀ j, k ≤ j → j < k + n → Stable j := by
  intro j h1 h2; unfold Stable; omega

theorem Leg.addr_stable (leg : Leg) {k n : Nat} (hk : leg.ipo ≤ k) (hn : k + n ≤ leg.ipo + 16) :
    ∀ j, k ≤ j → j < k + n → Stable j :=
  Stable.of_range (Or.inl (by have := leg.ipo_window; omega))

theorem Leg.ipo_stable (leg : Leg) : ∀ j, leg.ipo ≤ j → j < leg.ipo + 4 → Stable j :=
  leg.addr_stable (Nat.le_refl _) (by omega)
theorem Leg.pto_stable (leg : Leg) : ∀ j, leg.pto ≤ j → j < leg.pto + 2 → Stable j :=
  Stable.of_range (Or.inr (by have := leg.pto_window; omega))

/-! The label-level semantics, one event at a time. -/

theorem lrun_label (env : Env) (l : Label) (r : List Ev) (m : Mach) :
    lrun env (.label l :: r) m = lrun env r m := by rw [lrun]

/-- Continue at the first definition of `l` (fault if there is none). -/
def goto (env : Env) (l : Label) (r : List Ev) (m : Mach) : Outcome :=
  match seek l r with
  | some r' => lrun env r' m
  | none => .fault

theorem lrun_ins_eq (env : Env) (i : Insn) (r : List Ev) (m : Mach) :
    lrun env (.ins i :: r) m =
      match step env i (nextIns r) m with
      | .next m' => lrun env r m'
      | .next2 m' => lrun env (r.drop 1) m'
      | .taken _ => .fault
      | .exit r0 m' => .exit r0 m'
      | .tail fd idx m' => .tail fd idx m'
      | .fault => .fault := by
  rw [lrun]
  cases step env i (nextIns r) m <;> rfl

theorem lrun_jmp_eq (env : Env) (i : Insn) (l : Label) (r : List Ev) (m : Mach) :
    lrun env (.jmp i l :: r) m =
      if !i.isJumpOp then .fault else
      match step env i none m with
      | .next m' => lrun env r m'
      | .taken m' => goto env l r m'
      | _ => .fault := by
  rw [lrun]
  by_cases hj : i.isJumpOp = true
  · simp only [hj, Bool.not_true, Bool.false_eq_true, if_false]
    cases step env i none m <;> simp only [goto]
    split <;> (rename_i h; simp [h])
  · simp [hj]

theorem lrun_ins_next {env : Env} {i : Insn} {r : List Ev} {m m' : Mach}
    (h : step env i (nextIns r) m = .next m') : lrun env (.ins i :: r) m = lrun env r m' := by
  rw [lrun_ins_eq, h]

theorem lrun_jmp_next {env : Env} {i : Insn} {l : Label} {r : List Ev} {m m' : Mach}
    (hj : i.isJumpOp = true) (h : step env i none m = .next m') :
    lrun env (.jmp i l :: r) m = lrun env r m' := by
  rw [lrun_jmp_eq, h]; simp [hj]

theorem lrun_jmp_taken {env : Env} {i : Insn} {l : Label} {r : List Ev} {m m' : Mach}
    (hj : i.isJumpOp = true) (h : step env i none m = .taken m') :
    lrun env (.jmp i l :: r) m = goto env l r m' := by
  rw [lrun_jmp_eq, h]; simp [hj]

theorem lrun_ins_next2 {env : Env} {i j : Insn} {r : List Ev} {m m' : Mach}
    (h : step env i (some j) m = .next2 m') : lrun env (.ins i :: .ins j :: r) m = lrun env r m' := by
  rw [lrun_ins_eq]
  simp only [nextIns, h, List.drop_one, List.tail_cons]

theorem lrun_loadMapFD (env : Env) (m : Mach) (d : Nat) (fd : Int) (r : List Ev) (hd : d < 10) :
    lrun env (loadMapFD d fd ++ r) m = lrun env r (m.setReg d (mapHandle fd)) := by
  unfold loadMapFD mk
  exact lrun_ins_next2 (step_loadMapFD env m d fd hd)

theorem lrun_exit {env : Env} {m : Mach} {r0 : Word} {r : List Ev} (h : m.reg 0 = some r0) :
    lrun env (exitI :: r) m = .exit r0 m := by
  unfold exitI mk
  rw [lrun, step_exit env m r0 _ h]

theorem lrun_ins_tail {env : Env} {i : Insn} {r : List Ev} {m m' : Mach} {fd : Int} {idx : Word}
    (h : step env i (nextIns r) m = .tail fd idx m') : lrun env (.ins i :: r) m = .tail fd idx m' := by
  rw [lrun_ins_eq, h]

theorem lrun_loadImm64 (env : Env) (m : Mach) (d : Nat) (v : Nat) (r : List Ev) (hd : d < 10) :
    lrun env (loadImm64 d v ++ r) m =
      lrun env r (m.setReg d (imm32 (toInt32 (v / 4294967296)) ++ imm32 (toInt32 v) : BitVec 64)) := by
  unfold loadImm64 mk
  refine lrun_ins_next2 ?_
  simp [step, opLoadImm64, opLoadImm64Pt2, hd]

theorem step_jumpA (env : Env) (off imm : Int) (nxt : Option Insn) (m : Mach) :
    step env ⟨opJumpA, 0, 0, off, imm⟩ nxt m = .taken m := by
  simp [step, opJumpA, opLoadImm64]

theorem lrun_jump (env : Env) (l : Label) (r : List Ev) (m : Mach) :
    lrun env (jump l :: r) m = goto env l r m := by
  unfold jump mkJ
  exact lrun_jmp_taken (by simp [Insn.isJumpOp, opJumpA]) (step_jumpA env 0 0 none m)

theorem lrun_jcond64 (env : Env) (m : Mach) (op d : Nat) (imm : Int) (v : Word) (c : Bool) (l : Label) (r : List Ev)
    (hop : JOp64 op)
    (hd : m.reg d = some v) (hc : cond (op / 16) v (sext32 imm) = some c) :
    lrun env (.jmp ⟨op, d, 0, 0, imm⟩ l :: r) m = if c then goto env l r m else lrun env r m := by
  have hs := step_jcond64 (env := env) op d 0 imm none _ hop hd
  rw [hc] at hs
  have hj : (⟨op, d, 0, 0, imm⟩ : Insn).isJumpOp = true := by
    rcases hop with rfl | rfl | rfl | rfl | rfl <;>
      simp [Insn.isJumpOp, opJumpEqImm64, opJumpNEImm64, opJumpGEImm64, opJumpLTImm64, opJumpLEImm64]
  cases c with
  | true => simpa using lrun_jmp_taken hj hs
  | false => simpa using lrun_jmp_next hj hs

theorem lrun_jcond32 (env : Env) (m : Mach) (op d : Nat) (imm : Int) (v : Word) (c : Bool) (l : Label) (r : List Ev)
    (hop : JOp32 op) (hd : m.reg d = some v)
    (hc : cond (op / 16) (v.setWidth 32) ((sext32 imm).setWidth 32) = some c) :
    lrun env (.jmp ⟨op, d, 0, 0, imm⟩ l :: r) m = if c then goto env l r m else lrun env r m := by
  have hs := step_jcond32 (env := env) op d 0 imm none _ hop hd
  rw [hc] at hs
  have hj : (⟨op, d, 0, 0, imm⟩ : Insn).isJumpOp = true := by
    rcases hop with rfl | rfl <;> simp [Insn.isJumpOp, opJumpEqImm32, opJumpNEImm32]
  cases c with
  | true => simpa using lrun_jmp_taken hj hs
  | false => simpa using lrun_jmp_next hj hs

theorem seek_append {l : Label} {a : List Ev} (b : List Ev) (h : l ∉ labelsOf a) :
    seek l (a ++ b) = seek l b := by
  induction a with
  | nil => rfl
  | cons e es ih =>
    cases e with
    | label l' =>
      simp only [labelsOf, List.mem_cons, not_or] at h
      simp only [List.cons_append, seek]
      rw [if_neg (fun e => h.1 e.symm)]
      exact ih h.2
    | ins i => simp only [labelsOf] at h; simp only [List.cons_append, seek]; exact ih h
    | jmp i l' => simp only [labelsOf] at h; simp only [List.cons_append, seek]; exact ih h

theorem goto_append {env : Env} {l : Label} {a : List Ev} (b : List Ev) (m : Mach) (h : l ∉ labelsOf a) :
    goto env l (a ++ b) m = goto env l b m := by
  unfold goto; rw [seek_append b h]

theorem goto_label_self (env : Env) (l : Label) (r : List Ev) (m : Mach) :
    goto env l (.label l :: r) m = lrun env r m := by
  simp [goto, seek]

theorem goto_cons_label_ne (env : Env) {l l' : Label} (r : List Ev) (m : Mach) (h : l' ≠ l) :
    goto env l (.label l' :: r) m = goto env l r m := by
  simp [goto, seek, h]

theorem goto_cons_ins (env : Env) (l : Label) (i : Insn) (r : List Ev) (m : Mach) :
    goto env l (.ins i :: r) m = goto env l r m := by
  simp [goto, seek]

theorem goto_cons_jmp (env : Env) (l l' : Label) (i : Insn) (r : List Ev) (m : Mach) :
    goto env l (.jmp i l' :: r) m = goto env l r m := by
  simp [goto, seek]

/-! Numbers: sign extension, little-endian fields, the comparisons of the conditional jumps. -/

theorem sext32_nat (k : Nat) : sext32 (k : Int) = BitVec.ofNat 64 k := by
  unfold sext32; exact BitVec.ofInt_natCast 64 k

theorem sext32_setWidth (j : Int) : (sext32 j).setWidth 32 = BitVec.ofInt 32 j := by
  unfold sext32
  apply BitVec.eq_of_toNat_eq
  simp only [BitVec.toNat_setWidth, BitVec.toNat_ofInt]
  omega

theorem setWidth_64_32 (y : BitVec 32) : (y.setWidth 64).setWidth 32 = y := by
  rw [BitVec.setWidth_setWidth_of_le _ (by omega), BitVec.setWidth_eq]

theorem leNat_lt (bs : List Byte) : leNat bs < 256 ^ bs.length := by
  induction bs with
  | nil => simp [leNat]
  | cons b bs ih =>
    simp only [leNat, List.length_cons, Nat.pow_succ]
    have := b.isLt
    omega

theorem toLE_length (v n : Nat) : (toLE v n).length = n := by
  induction n generalizing v with
  | zero => rfl
  | succ n ih => simp [toLE, ih]

theorem leNat_append (a b : List Byte) : leNat (a ++ b) = leNat a + 256 ^ a.length * leNat b := by
  induction a with
  | nil => simp [leNat]
  | cons x xs ih => simp only [List.cons_append, leNat, ih, List.length_cons]; rw [Nat.pow_succ, Nat.mul_add, Nat.add_assoc, ← Nat.mul_assoc, Nat.mul_comm 256 (256 ^ xs.length)]

theorem leNat_toLE (v n : Nat) : leNat (toLE v n) = v % 256 ^ n := by
  induction n generalizing v with
  | zero => simp [toLE, leNat, Nat.mod_one]
  | succ n ih =>
    simp only [toLE, leNat, ih, BitVec.toNat_ofNat, Nat.reducePow]
    rw [Nat.pow_succ', Nat.mod_mul]

theorem fieldN_lt (st : List Byte) (k n : Nat) : fieldN st k n < 256 ^ n := by
  unfold fieldN
  have h1 := leNat_lt ((st.drop k).take n)
  have h2 : ((st.drop k).take n).length ≤ n := by simp [List.length_take]; omega
  exact Nat.lt_of_lt_of_le h1 (Nat.pow_le_pow_right (by omega) h2)

theorem fieldN_succ (st : List Byte) (k n : Nat) (h : k < st.length) :
    fieldN st k (n + 1) = fieldN st k 1 + 256 * fieldN st (k + 1) n := by
  unfold fieldN
  rw [List.drop_eq_getElem_cons h]
  simp [leNat, List.take]

theorem cond_nat (code : Nat) {x k : Nat} (hx : x < 2 ^ 64) (hk : k < 2 ^ 64) :
    cond code (BitVec.ofNat 64 x) (sext32 (k : Int)) =
      (match code with
       | 0x1 => some (x == k)
       | 0x2 => some (decide (k < x))
       | 0x3 => some (decide (k ≤ x))
       | 0x5 => some (x != k)
       | 0xa => some (decide (x < k))
       | 0xb => some (decide (x ≤ k))
       | _ => none) := by
  have e : (BitVec.ofNat 64 x == BitVec.ofNat 64 k) = (x == k) := by
    rw [Bool.eq_iff_iff]; simp only [beq_iff_eq]
    exact ⟨fun h => by have := congrArg BitVec.toNat h; simp only [BitVec.toNat_ofNat] at this; omega, fun h => by rw [h]⟩
  rw [sext32_nat]
  unfold cond
  split <;> simp only [e, bne, BitVec.ult, BitVec.ule, BitVec.toNat_ofNat, Nat.mod_eq_of_lt hx, Nat.mod_eq_of_lt hk]

/-! Writes to the state that keep `StSim`: what discharges the hypothesis `hsim` of `Line.stxAt`. -/

theorem writeAt_getElem?_out {α : Type} (l : List α) (off : Nat) (bs : List α) (j : Nat)
    (hj : j < off ∨ off + bs.length ≤ j) (h : off + bs.length ≤ l.length) : (writeAt l off bs)[j]? = l[j]? := by
  unfold writeAt
  rcases hj with hj | hj
  · rw [List.append_assoc, List.getElem?_append_left (by simp [List.length_take]; omega), List.getElem?_take]
    simp [hj]
  · have h1 : (l.take off ++ bs).length = off + bs.length := by simp [List.length_take]; omega
    rw [List.getElem?_append_right (by rw [h1]; exact hj), h1, List.getElem?_drop]
    congr 1; omega

theorem writeAt_length {α : Type} (l : List α) (off : Nat) (bs : List α) (h : off + bs.length ≤ l.length) :
    (writeAt l off bs).length = l.length := by
  unfold writeAt
  simp only [List.length_append, List.length_take, List.length_drop]; omega

theorem fieldN_writeAt_out (l : List Byte) (off : Nat) (bs : List Byte) (k n : Nat)
    (hk : k + n ≤ off ∨ off + bs.length ≤ k) (h : off + bs.length ≤ l.length) :
    fieldN (writeAt l off bs) k n = fieldN l k n := by
  unfold fieldN
  congr 1
  apply List.ext_getElem?
  intro i
  simp only [List.getElem?_take, List.getElem?_drop]
  by_cases hi : i < n
  · simp only [hi, if_true]
    exact writeAt_getElem?_out l off bs (k + i) (by omega) h
  · simp only [hi, if_false]

theorem fieldN_writeAt_before (l : List Byte) (off : Nat) (bs : List Byte) (k n : Nat) (hk : k + n ≤ off)
    (h : off + bs.length ≤ l.length) : fieldN (writeAt l off bs) k n = fieldN l k n :=
  fieldN_writeAt_out l off bs k n (Or.inl hk) h

theorem fieldN_writeAt_same (l : List Byte) (off : Nat) (bs : List Byte) (h : off + bs.length ≤ l.length) :
    fieldN (writeAt l off bs) off bs.length = leNat bs := by
  unfold fieldN writeAt
  have h1 : (l.take off).length = off := by simp [List.length_take]; omega
  rw [List.append_assoc, List.drop_left' h1, List.take_left' rfl]

/-- The three windows are the complement of `Stable` (8..71, 96..104) below the flags word at 368 = `stateOffFlags`. -/
theorem StSim.write {st st' : List Byte} (h : StSim st st') (off : Nat) (bs : List Byte)
    (hr : 105 ≤ off ∧ off + bs.length ≤ 368 ∨ off + bs.length ≤ 8 ∨ 72 ≤ off ∧ off + bs.length ≤ 96)
    : StSim st (writeAt st' off bs) := by
  have hle : off + bs.length ≤ st'.length := by rw [h.len]; omega
  refine ⟨by rw [writeAt_length _ _ _ hle]; exact h.len, ?_, ?_⟩
  · intro j hj
    rw [← h.same j hj]
    unfold Stable at hj
    exact writeAt_getElem?_out st' off bs j (by omega) hle
  · rw [fieldN_writeAt_out st' off bs 368 8 (Or.inr (by omega)) hle]
    exact h.flags

theorem StSim.writeFlags {st st' : List Byte} (h : StSim st st') (v : Word)
    (hv : v &&& 12#64 = BitVec.ofNat 64 (fieldN st' 368 8) &&& 12#64) :
    StSim st (writeAt st' 368 (toLE v.toNat 8)) := by
  have hle : 368 + (toLE v.toNat 8).length ≤ st'.length := by rw [h.len, toLE_length]; omega
  refine ⟨by rw [writeAt_length _ _ _ hle]; exact h.len, ?_, ?_⟩
  · intro j hj
    rw [← h.same j hj]
    unfold Stable at hj
    exact writeAt_getElem?_out st' 368 _ j (Or.inl (by omega)) hle
  · have := fieldN_writeAt_same st' 368 (toLE v.toNat 8) hle
    rw [toLE_length] at this
    rw [this, (leNat_toLE _ 8 : _ = _ % 18446744073709551616)]
    have hv' : BitVec.ofNat 64 (v.toNat % 18446744073709551616) = v := by
      apply BitVec.eq_of_toNat_eq
      have := v.isLt
      simp only [BitVec.toNat_ofNat]
      omega
    rw [hv', hv]
    exact h.flags

/-! How a policy program may end: the statements of `C11Ends`, `C11Whole` and `C11Chain` are in these terms. -/

def Outcome.final (env : Env) : Outcome → Prop
  | .exit _ _ => True
  | .tail fd _ _ => fd = env.c.staticJumpMapFD
  | .fault => False

theorem final_nofault {env : Env} {o : Outcome} (h : o.final env) : o.isFault = false := by
  cases o <;> simp_all [Outcome.final, Outcome.isFault]

theorem Outcome.nofault_of_obs {o : Outcome} {ob : Obs} (h : o.obs = some ob) : o.isFault = false := by
  cases o <;> first | rfl | cases h

def agreesV (env : Env) (xdp : Bool) (V : Verdict) (o : Outcome) : Prop :=
  ∃ ob, o.obs = some ob ∧ (expectedObs env xdp V).agrees ob = true

def vOf : Label → Option Verdict
  | .allow => some .allow
  | .deny => some .deny
  | .xdpPass => some .xdpPass
  | _ => none

end CalicoVerif.C11
