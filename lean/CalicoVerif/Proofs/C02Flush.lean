import CalicoVerif.Proofs.C02Spec
/-!
C02: message streams (`applyAll`, `AllWF`, `AfterEach`); a plain category as it lives inside `DP`
(`CatLens`) and inside the sequencer state (`Slot`); a flush phase together with the buffers that must
have been flushed before it and those it flushes (`Entry`), and the one induction over a list of such
phases (`runPhases_sound`).

How a property of the dataplane state is carried through a flush: `Entry.Maintains C P e` says that `P` (what is to
hold of the dataplane state, e.g. `DP.closedMain`) survives every single message of phase `e`, given `C` (what is
assumed of the declared state at the flush) and `e.needs` empty.  A property is given with its footprint
`fp : MsgCat → Bool`, the kinds of message that can break it (`MsgCat.main`, `MsgCat.rv`; none for `flush_plain`): a
phase that emits another kind maintains it for free (`Entry.Sound.maintains`), so only the phases inside the footprint
need a lemma, and `flush_sound` puts them together.
-/
namespace CalicoVerif.C02

theorem applyAll_nil (d : DP) : d.applyAll [] = d := rfl
theorem applyAll_cons (d : DP) (m : Msg) (ms : List Msg) : d.applyAll (m :: ms) = (d.apply m).applyAll ms := rfl
theorem applyAll_append (d : DP) (ms₁ ms₂ : List Msg) : d.applyAll (ms₁ ++ ms₂) = (d.applyAll ms₁).applyAll ms₂ :=
  List.foldl_append

theorem AllWF_append {d : DP} {ms₁ ms₂ : List Msg} :
    AllWF d (ms₁ ++ ms₂) ↔ AllWF d ms₁ ∧ AllWF (d.applyAll ms₁) ms₂ := by
  induction ms₁ generalizing d with
  | nil => exact ⟨fun h => ⟨trivial, h⟩, fun h => h.2⟩
  | cons m ms ih => simp only [List.cons_append, AllWF, applyAll_cons, ih, and_assoc]

theorem AfterEach_head {P : DP → Prop} {d : DP} {ms : List Msg} (h : AfterEach P d ms) : P d := by
  cases ms <;> simp_all [AfterEach]

theorem AfterEach_last {P : DP → Prop} {d : DP} {ms : List Msg} (h : AfterEach P d ms) : P (d.applyAll ms) := by
  induction ms generalizing d with
  | nil => exact h
  | cons m t ih => exact ih h.2

theorem AfterEach_append {P : DP → Prop} {d : DP} {ms₁ ms₂ : List Msg} :
    AfterEach P d (ms₁ ++ ms₂) ↔ AfterEach P d ms₁ ∧ AfterEach P (d.applyAll ms₁) ms₂ := by
  induction ms₁ generalizing d with
  | nil => exact ⟨fun h => ⟨AfterEach_head h, h⟩, fun h => h.2⟩
  | cons m ms ih => simp only [List.cons_append, AfterEach, applyAll_cons, ih, and_assoc]

theorem AfterEach_of_step {P : DP → Prop} {ms : List Msg} (step : ∀ m ∈ ms, ∀ d, P d → P (d.apply m)) {d : DP}
    (hd : P d) : AfterEach P d ms := by
  induction ms generalizing d with
  | nil => exact hd
  | cons m ms ih =>
    exact ⟨hd, ih (fun m' hm' => step m' (List.mem_cons_of_mem _ hm')) (step m List.mem_cons_self d hd)⟩

theorem AfterEach_and {P Q : DP → Prop} {d : DP} {ms : List Msg} (hp : AfterEach P d ms) (hq : AfterEach Q d ms) :
    AfterEach (fun x => P x ∧ Q x) d ms := by
  induction ms generalizing d with
  | nil => exact ⟨hp, hq⟩
  | cons m t ih => exact ⟨⟨hp.1, hq.1⟩, ih hp.2 hq.2⟩

theorem AllWF_of_inv {J : DP → Prop} {ms : List Msg}
    (step : ∀ m ∈ ms, ∀ d, J d → WF d m ∧ J (d.apply m)) {d : DP} (hd : J d) : AllWF d ms ∧ J (d.applyAll ms) := by
  induction ms generalizing d with
  | nil => exact ⟨trivial, hd⟩
  | cons m ms ih =>
    have h1 := step m (by simp) d hd
    have := ih (fun m' hm' => step m' (by simp [hm'])) h1.2
    exact ⟨⟨h1.1, this.1⟩, this.2⟩

theorem applyAll_proj {α} (F : DP → α) {ms : List Msg} (h : ∀ m ∈ ms, ∀ d, F (d.apply m) = F d) (d : DP) :
    F (d.applyAll ms) = F d := by
  induction ms generalizing d with
  | nil => rfl
  | cons m ms ih =>
    rw [applyAll_cons, ih (fun m' hm' => h m' (by simp [hm']))]
    exact h m (by simp) d

/-- How one plain category lives inside `DP` and which messages update / delete its objects.  For a
category kept in a field of `DP` of its own the laws hold by computation. -/
structure CatLens (κ β γ : Type) [DecidableEq κ] where
  get : DP → κ → Option γ
  set : DP → (κ → Option γ) → DP
  g : κ → β → γ
  updMsg : κ → β → List Msg
  delMsg : κ → Msg
  get_set : ∀ d f, get (set d f) = f := by intros; rfl
  set_get : ∀ d, set d (get d) = d := by intros; rfl
  set_set : ∀ d f f', set (set d f) f' = set d f' := by intros; rfl
  upd_single : ∀ k v, ∃ m, updMsg k v = [m] := by intros; exact ⟨_, rfl⟩
  upd_apply : ∀ d k v, d.applyAll (updMsg k v) = set d (fupd (get d) k (some (g k v))) := by intros; rfl
  upd_wf : ∀ d k v, AllWF d (updMsg k v) := by intros; exact ⟨trivial, trivial⟩
  del_apply : ∀ d k, d.apply (delMsg k) = set d (fupd (get d) k none) := by intros; rfl
  del_wf : ∀ d k, WF d (delMsg k) ↔ (get d k).isSome := by intros; exact Iff.rfl

variable {κ β γ : Type} [DecidableEq κ]

theorem CatLens.applyUpds (L : CatLens κ β γ) (d : DP) (l : List (κ × β)) :
    d.applyAll (l.flatMap (fun p => L.updMsg p.1 p.2)) = L.set d (applyUpds L.g (L.get d) l) ∧
    AllWF d (l.flatMap (fun p => L.updMsg p.1 p.2)) := by
  induction l generalizing d with
  | nil => exact ⟨(L.set_get d).symm, trivial⟩
  | cons p t ih =>
    simp only [List.flatMap_cons, applyAll_append, AllWF_append, L.upd_apply, L.upd_wf, true_and]
    have := ih (L.set d (fupd (L.get d) p.1 (some (L.g p.1 p.2))))
    rwa [L.get_set, L.set_set] at this

theorem CatLens.applyDels (L : CatLens κ β γ) (d : DP) (l : List κ) (hn : l.Nodup)
    (hp : ∀ k ∈ l, (L.get d k).isSome) :
    d.applyAll (l.map L.delMsg) = L.set d (applyDels (L.get d) l) ∧ AllWF d (l.map L.delMsg) := by
  induction l generalizing d with
  | nil => exact ⟨(L.set_get d).symm, trivial⟩
  | cons k t ih =>
    simp only [List.map_cons, applyAll_cons, AllWF, L.del_apply, L.del_wf]
    simp only [List.nodup_cons] at hn
    have := ih (L.set d (fupd (L.get d) k none)) hn.2 (by
      intro k' hk'
      rw [L.get_set]
      exact isSome_fupd_none (fun e => hn.1 (e ▸ hk')) (hp k' (List.mem_cons_of_mem _ hk')))
    rw [L.get_set, L.set_set] at this
    exact ⟨this.1, hp k List.mem_cons_self, this.2⟩

/-- While the updates of a category are sent, the dataplane state differs from the initial one only in
that category; `P` holds after each message if each overwrite preserves it. -/
theorem CatLens.afterEach_upd (L : CatLens κ β γ) {P : DP → Prop} {d : DP} (l : List (κ × β)) (h0 : P d)
    (step : ∀ p ∈ l, ∀ f, P (L.set d f) → P (L.set d (fupd f p.1 (some (L.g p.1 p.2))))) :
    AfterEach P d (l.flatMap fun p => L.updMsg p.1 p.2) := by
  rw [← L.set_get d] at h0 ⊢
  generalize L.get d = f at h0 ⊢
  induction l generalizing f with
  | nil => exact h0
  | cons p t ih =>
    obtain ⟨m, hm⟩ := L.upd_single p.1 p.2
    have e : (L.set d f).apply m = _ := hm ▸ L.upd_apply (L.set d f) p.1 p.2
    rw [L.get_set, L.set_set] at e
    rw [List.flatMap_cons, hm]
    exact ⟨h0, e ▸ ih (fun q hq => step q (List.mem_cons_of_mem _ hq)) _ (step p List.mem_cons_self f h0)⟩

theorem CatLens.afterEach_del (L : CatLens κ β γ) {P : DP → Prop} {d : DP} (l : List κ) (h0 : P d)
    (step : ∀ k ∈ l, ∀ f, P (L.set d f) → P (L.set d (fupd f k none))) : AfterEach P d (l.map L.delMsg) := by
  rw [← L.set_get d] at h0 ⊢
  generalize L.get d = f at h0 ⊢
  induction l generalizing f with
  | nil => exact h0
  | cons k t ih =>
    have e := L.del_apply (L.set d f) k
    rw [L.get_set, L.set_set] at e
    exact ⟨h0, e ▸ ih (fun q hq => step q (List.mem_cons_of_mem _ hq)) _ (step k List.mem_cons_self f h0)⟩

def CatLens.Sound (L : CatLens κ β γ) (F : Cat κ β → Cat κ β × List Msg) : Prop :=
  ∀ (c : Cat κ β) (U : κ → Option γ) (d : DP), CatInv L.g c U (L.get d) →
    AllWF d (F c).2 ∧ ∃ f, d.applyAll (F c).2 = L.set d f ∧ CatInv L.g (F c).1 U f

theorem CatLens.sound_upd (L : CatLens κ β γ) : L.Sound fun c => c.flushUpd L.updMsg := fun c _ d h =>
  have := L.applyUpds d c.upd
  ⟨this.2, _, this.1, h.flushUpd L.updMsg⟩

theorem CatLens.sound_del (L : CatLens κ β γ) : L.Sound fun c => c.flushDel L.delMsg := fun c _ d h =>
  have := L.applyDels d c.del h.delNodup fun k hk => (h.sent k).1 (h.delSent k hk)
  ⟨this.2, _, this.1, h.flushDel L.delMsg⟩

theorem CatLens.Sound.seq {L : CatLens κ β γ} {F G : Cat κ β → Cat κ β × List Msg} (hF : L.Sound F) (hG : L.Sound G) :
    L.Sound fun c => ((G (F c).1).1, (F c).2 ++ (G (F c).1).2) := by
  intro c U d h
  obtain ⟨w1, f1, e1, h1⟩ := hF c U d h
  obtain ⟨w2, f2, e2, h2⟩ := hG (F c).1 U (L.set d f1) (by rwa [L.get_set])
  refine ⟨AllWF_append.2 ⟨w1, e1 ▸ w2⟩, f2, ?_, h2⟩
  rw [applyAll_append, e1, e2, L.set_set]

/-- IP sets as a category: removals, and the updates that send a set in full with the members `G` gives it
(deltas are not overwrites).  Removals do not look at `G`: who only removes passes any. -/
def ipsLens (G : String → List String) : CatLens String Nat (String → Bool) where
  get d := d.ipsets
  set d f := { d with ipsets := f }
  g k _ := fun m => decide (m ∈ G k)
  updMsg k t := [Msg.ipsetUpdate k t (G k)]
  delMsg := Msg.ipsetRemove

theorem applyAll_ipsetUpdates (G : String → List String) (l : List (String × Nat)) (hn : (mkeys l).Nodup) (d : DP) :
    d.applyAll (l.map (fun p => Msg.ipsetUpdate p.1 p.2 (G p.1))) =
      { d with ipsets := fun k => if (mget l k).isSome then some (fun m => decide (m ∈ G k)) else d.ipsets k } ∧
    AllWF d (l.map (fun p => Msg.ipsetUpdate p.1 p.2 (G p.1))) := by
  have := (ipsLens G).applyUpds d l
  rw [show l.flatMap (fun p => (ipsLens G).updMsg p.1 p.2) = l.map fun p => Msg.ipsetUpdate p.1 p.2 (G p.1) from
    (List.map_eq_flatMap ..).symm] at this
  refine ⟨this.1.trans ?_, this.2⟩
  show ({ d with ipsets := _ } : DP) = _
  congr 1
  funext k
  rw [applyUpds_get _ _ _ hn]
  cases mget l k <;> rfl

theorem runPhases_cons (p : Phase) (ps : List Phase) (s : State) :
    runPhases (p :: ps) s = ((runPhases ps (p s).1).1, (p s).2 ++ (runPhases ps (p s).1).2) := rfl

/-- One kind for each part of the dataplane state a message writes and for each sort of message that writes
none; a flush phase emits one kind (`Entry.cat`), `inSync` comes from `maybeFlush` only. -/
inductive MsgCat
  | ready | ipset | pol | prof | ep | gen | route | vtep | wg | encap | bgp | inSync
deriving DecidableEq

def Msg.cat : Msg → MsgCat
  | .notReady => .ready
  | .ipsetUpdate .. | .ipsetDelta .. | .ipsetRemove .. => .ipset
  | .policyUpdate .. | .policyRemove .. => .pol
  | .profileUpdate .. | .profileRemove .. => .prof
  | .wepUpdate .. | .hepUpdate .. | .wepRemove .. | .hepRemove .. => .ep
  | .genUpdate .. | .genRemove .. => .gen
  | .routeUpdate .. | .routeRemove .. => .route
  | .vtepUpdate .. | .vtepRemove .. => .vtep
  | .wgUpdate .. | .wgRemove .. | .wg6Update .. | .wg6Remove .. => .wg
  | .encap _ => .encap
  | .bgp _ => .bgp
  | .inSync => .inSync

inductive CatId
  | pol | prof | ep | vtep | route | gen (g : GenCat)
deriving DecidableEq

/-- The pending buffers of the sequencer. -/
inductive Buf
  | addedSets | removedSets | addedMem | removedMem | upd (c : CatId) | del (c : CatId)
deriving DecidableEq

def Buf.empty (b : Buf) (s : State) : Prop :=
  match b with
  | .addedSets => s.addedSets = []
  | .removedSets => s.removedSets = []
  | .addedMem => s.addedMem = []
  | .removedMem => s.removedMem = []
  | .upd .pol => s.pol.upd = []
  | .upd .prof => s.prof.upd = []
  | .upd .ep => s.ep.upd = []
  | .upd .vtep => s.vtep.upd = []
  | .upd .route => s.route.upd = []
  | .upd (.gen g) => (s.gen g).upd = []
  | .del .pol => s.pol.del = []
  | .del .prof => s.prof.del = []
  | .del .ep => s.ep.del = []
  | .del .vtep => s.vtep.del = []
  | .del .route => s.route.del = []
  | .del (.gen g) => (s.gen g).del = []

/-- A flush phase with what the order of `Flush()` has to give it. -/
structure Entry where
  run : Phase
  cat : MsgCat
  /-- the buffers that must have been flushed before it runs (for its messages to be well-formed, or for
  a property such as reference closure to survive them) -/
  needs : List Buf
  clears : List Buf

structure Entry.Sound (e : Entry) : Prop where
  emits : ∀ s, ∀ m ∈ (e.run s).2, m.cat = e.cat
  keeps : ∀ (b : Buf) s, b.empty s → b.empty (e.run s).1
  clears : ∀ b ∈ e.clears, ∀ s, b.empty (e.run s).1
  ok : ∀ s u d, Inv s u d → (∀ b ∈ e.needs, b.empty s) →
    AllWF d (e.run s).2 ∧ Inv (e.run s).1 u (d.applyAll (e.run s).2)

def Entry.Maintains (C P : DP → Prop) (e : Entry) : Prop :=
  ∀ s u d, Inv s u d → C u → (∀ b ∈ e.needs, b.empty s) → P d → AfterEach P d (e.run s).2

theorem Entry.Sound.maintains {e : Entry} (he : e.Sound) {C P : DP → Prop} {fp : MsgCat → Bool}
    (hfp : ∀ m : Msg, fp m.cat = false → ∀ d, P d → P (d.apply m)) (h : fp e.cat = false) : e.Maintains C P :=
  fun s _ _ _ _ _ hd => AfterEach_of_step (fun m hm => hfp m (he.emits s m hm ▸ h)) hd

structure StreamOK (P : DP → Prop) (u d : DP) (r : State × List Msg) : Prop where
  wf : AllWF d r.2
  inv : Inv r.1 u (d.applyAll r.2)
  after : AfterEach P d r.2

structure RunOK (P : DP → Prop) (u d : DP) (r : State × List Msg) (cl : List Buf) : Prop extends StreamOK P u d r where
  cleared : ∀ b ∈ cl, b.empty r.1

/-- Every phase finds its `needs` among `E` and what the phases before it flush. -/
def Ordered : List Buf → List Entry → Bool
  | _, [] => true
  | E, e :: es => e.needs.all (fun b => decide (b ∈ E)) && Ordered (e.clears ++ E) es

theorem runPhases_sound {C P : DP → Prop} {es : List Entry} (hs : ∀ e ∈ es, e.Sound) (hm : ∀ e ∈ es, e.Maintains C P)
    {E : List Buf} (ho : Ordered E es = true) {s : State} {u d : DP} (hi : Inv s u d) (hu : C u)
    (hE : ∀ b ∈ E, b.empty s) (hd : P d) :
    RunOK P u d (runPhases (es.map (·.run)) s) (es.foldl (fun E e => e.clears ++ E) E) := by
  induction es generalizing E s d with
  | nil => exact ⟨⟨trivial, hi, hd⟩, hE⟩
  | cons e es ih =>
    simp only [Ordered, Bool.and_eq_true, List.all_eq_true, decide_eq_true_eq] at ho
    have he := hs e List.mem_cons_self
    have hn : ∀ b ∈ e.needs, b.empty s := fun b hb => hE b (ho.1 b hb)
    obtain ⟨w1, i1⟩ := he.ok s u d hi hn
    have a1 := hm e List.mem_cons_self s u d hi hu hn hd
    obtain ⟨⟨w2, i2, a2⟩, c2⟩ := ih (fun x hx => hs x (List.mem_cons_of_mem _ hx)) (fun x hx => hm x (List.mem_cons_of_mem _ hx))
      ho.2 i1 (fun b hb => (List.mem_append.1 hb).elim (he.clears b · _) fun h => he.keeps b s (hE b h)) (AfterEach_last a1)
    rw [List.map_cons, runPhases_cons]
    exact ⟨⟨AllWF_append.2 ⟨w1, w2⟩, applyAll_append .. ▸ i2, AfterEach_append.2 ⟨a1, a2⟩⟩, c2⟩

theorem runPhases_cats {es : List Entry} (hs : ∀ e ∈ es, e.Sound) (s : State) :
    ∀ m ∈ (runPhases (es.map (·.run)) s).2, ∃ e ∈ es, m.cat = e.cat := by
  induction es generalizing s with
  | nil => exact fun _ h => nomatch h
  | cons e es ih =>
    intro m hm
    rcases List.mem_append.1 hm with hm | hm
    · exact ⟨e, List.mem_cons_self, (hs e List.mem_cons_self).emits s m hm⟩
    · obtain ⟨x, hx, h⟩ := ih (fun x hx => hs x (List.mem_cons_of_mem _ hx)) _ m hm
      exact ⟨x, List.mem_cons_of_mem _ hx, h⟩

/-- `c'` has no pending update (delete) unless `c` has: what every flush step does to a category. -/
def Cat.Keeps {κ β : Type} (c c' : Cat κ β) : Prop := (c.upd = [] → c'.upd = []) ∧ (c.del = [] → c'.del = [])

theorem Cat.Keeps.refl {κ β : Type} (c : Cat κ β) : c.Keeps c := ⟨id, id⟩

/-- No buffer is filled between `s` and `s'` if none of the IP-set buffers and of the categories' is; by default
a part is as in `s`.  The one sweep over the buffers behind the `keeps` of every phase. -/
theorem Buf.empty_mono {b : Buf} {s s' : State}
    (ha : s.addedSets = [] → s'.addedSets = [] := by exact id) (hr : s.removedSets = [] → s'.removedSets = [] := by exact id)
    (ham : s.addedMem = [] → s'.addedMem = [] := by exact id) (hrm : s.removedMem = [] → s'.removedMem = [] := by exact id)
    (pol : s.pol.Keeps s'.pol := by exact .refl _) (prof : s.prof.Keeps s'.prof := by exact .refl _)
    (ep : s.ep.Keeps s'.ep := by exact .refl _) (vtep : s.vtep.Keeps s'.vtep := by exact .refl _)
    (route : s.route.Keeps s'.route := by exact .refl _) (gen : ∀ g, (s.gen g).Keeps (s'.gen g) := by exact fun _ => .refl _)
    (h : b.empty s) : b.empty s' :=
  match b with
  | .addedSets => ha h
  | .removedSets => hr h
  | .addedMem => ham h
  | .removedMem => hrm h
  | .upd .pol => pol.1 h
  | .upd .prof => prof.1 h
  | .upd .ep => ep.1 h
  | .upd .vtep => vtep.1 h
  | .upd .route => route.1 h
  | .upd (.gen g) => (gen g).1 h
  | .del .pol => pol.2 h
  | .del .prof => prof.2 h
  | .del .ep => ep.2 h
  | .del .vtep => vtep.2 h
  | .del .route => route.2 h
  | .del (.gen g) => (gen g).2 h

/-- Where the category seen through a `CatLens` lives in the sequencer state.  `keep`: writing the slot
fills no buffer if it fills neither of its own (an instance of `Buf.empty_mono`); the other laws hold
by computation if the category is a field of its own. -/
structure Slot (κ β γ : Type) [DecidableEq κ] extends CatLens κ β γ where
  id : CatId
  cat : MsgCat
  sget : State → Cat κ β
  sset : State → Cat κ β → State
  upd_cat : ∀ k v, ∀ m ∈ updMsg k v, m.cat = cat := by intro _ _ _ h; exact List.mem_singleton.1 h ▸ rfl
  del_cat : ∀ k, (delMsg k).cat = cat := by intros; rfl
  inv_get : ∀ {s u d}, Inv s u d → CatInv g (sget s) (get u) (get d)
  inv_set : ∀ {s u d c U D}, Inv s u d → CatInv g c U D → Inv (sset s c) (set u U) (set d D)
  keep : ∀ {b : Buf} {s c}, (sget s).Keeps c → b.empty s → b.empty (sset s c)
  set_upd : ∀ s c, (Buf.upd id).empty (sset s c) ↔ c.upd = [] := by intros; exact Iff.rfl
  set_del : ∀ s c, (Buf.del id).empty (sset s c) ↔ c.del = [] := by intros; exact Iff.rfl

def Slot.phase (L : Slot κ β γ) (F : Cat κ β → Cat κ β × List Msg) : Phase :=
  fun s => (L.sset s (F (L.sget s)).1, (F (L.sget s)).2)

theorem Slot.phase_sound (L : Slot κ β γ) {F : Cat κ β → Cat κ β × List Msg} (hF : L.toCatLens.Sound F)
    (hm : ∀ c, ∀ m ∈ (F c).2, m.cat = L.cat) (hk : ∀ c : Cat κ β, c.Keeps (F c).1) {clears : List Buf}
    (hc : ∀ b ∈ clears, ∀ c, (b = .upd L.id ∧ (F c).1.upd = []) ∨ (b = .del L.id ∧ (F c).1.del = []))
    (needs : List Buf) : Entry.Sound ⟨L.phase F, L.cat, needs, clears⟩ where
  emits s := hm _
  keeps _ s := L.keep (hk _)
  clears b hb s := by
    rcases hc b hb (L.sget s) with ⟨rfl, h⟩ | ⟨rfl, h⟩
    · exact (L.set_upd ..).2 h
    · exact (L.set_del ..).2 h
  ok s u d h _ := by
    obtain ⟨hw, f, e, hc⟩ := hF (L.sget s) (L.get u) d (L.inv_get h)
    have := L.inv_set h hc
    rw [L.set_get] at this
    exact ⟨hw, e ▸ this⟩

/-- An upstream call on the category changes its declared map only. -/
theorem Slot.inv_call (L : Slot κ β γ) {s : State} {u d : DP} {c U} (h : Inv s u d) (hc : CatInv L.g c U (L.get d)) :
    Inv (L.sset s c) (L.set u U) d := by
  have := L.inv_set h hc
  rwa [L.set_get] at this

def Slot.updEntry (L : Slot κ β γ) (needs : List Buf) : Entry :=
  ⟨L.phase (·.flushUpd L.updMsg), L.cat, needs, [.upd L.id]⟩

def Slot.delEntry (L : Slot κ β γ) (needs : List Buf) : Entry :=
  ⟨L.phase (·.flushDel L.delMsg), L.cat, needs, [.del L.id]⟩

/-- Deletes, then updates, in one phase. -/
def Slot.delUpdEntry (L : Slot κ β γ) : Entry :=
  ⟨L.phase fun c => (((c.flushDel L.delMsg).1.flushUpd L.updMsg).1,
      (c.flushDel L.delMsg).2 ++ ((c.flushDel L.delMsg).1.flushUpd L.updMsg).2), L.cat, [], [.del L.id, .upd L.id]⟩

theorem Slot.upd_cats (L : Slot κ β γ) (c : Cat κ β) : ∀ m ∈ (c.flushUpd L.updMsg).2, m.cat = L.cat := fun m hm =>
  let ⟨p, _, hp⟩ := List.mem_flatMap.1 hm; L.upd_cat p.1 p.2 m hp

theorem Slot.del_cats (L : Slot κ β γ) (c : Cat κ β) : ∀ m ∈ (c.flushDel L.delMsg).2, m.cat = L.cat := fun _ hm =>
  let ⟨k, _, e⟩ := List.mem_map.1 hm; e ▸ L.del_cat k

theorem Slot.updEntry_sound (L : Slot κ β γ) (needs : List Buf) : (L.updEntry needs).Sound :=
  L.phase_sound L.sound_upd L.upd_cats (fun _ => ⟨fun _ => rfl, fun h => h⟩) (by simp [Cat.flushUpd]) needs

theorem Slot.delEntry_sound (L : Slot κ β γ) (needs : List Buf) : (L.delEntry needs).Sound :=
  L.phase_sound L.sound_del L.del_cats (fun _ => ⟨fun h => h, fun _ => rfl⟩) (by simp [Cat.flushDel]) needs

theorem Slot.delUpdEntry_sound (L : Slot κ β γ) : L.delUpdEntry.Sound :=
  L.phase_sound (L.sound_del.seq L.sound_upd)
    (fun c m hm => (List.mem_append.1 hm).elim (L.del_cats c m) (L.upd_cats _ m)) (fun _ => ⟨fun _ => rfl, fun _ => rfl⟩)
    (by simp [Cat.flushUpd, Cat.flushDel]) []

def polSlot : Slot PolicyKey Rules Rules where
  get d := d.pol
  set d f := { d with pol := f }
  g _ r := r
  updMsg := polUpdMsg
  delMsg := Msg.policyRemove
  id := .pol
  cat := .pol
  sget s := s.pol
  sset s c := { s with pol := c }
  inv_get h := h.pol
  inv_set h hc := { h with pol := hc }
  keep h := Buf.empty_mono (pol := h)

def profSlot : Slot String Rules Rules where
  get d := d.prof
  set d f := { d with prof := f }
  g _ r := r
  updMsg := profUpdMsg
  delMsg := Msg.profileRemove
  id := .prof
  cat := .prof
  sget s := s.prof
  sset s c := { s with prof := c }
  inv_get h := h.prof
  inv_set h hc := { h with prof := hc }
  keep h := Buf.empty_mono (prof := h)

def epSlot : Slot EpKey EpUpd EpDown where
  get d := d.ep
  set d f := { d with ep := f }
  g := epDown
  updMsg := epUpdMsg
  delMsg := epDelMsg
  upd_single k _ := by cases k <;> exact ⟨_, rfl⟩
  upd_apply d k v := by cases k <;> rfl
  upd_wf d k v := by cases k <;> exact ⟨trivial, trivial⟩
  del_apply d k := by cases k <;> rfl
  del_wf d k := by cases k <;> exact Iff.rfl
  id := .ep
  cat := .ep
  sget s := s.ep
  sset s c := { s with ep := c }
  upd_cat k _ _ h := by cases k <;> exact List.mem_singleton.1 h ▸ rfl
  del_cat k := by cases k <;> rfl
  inv_get h := h.ep
  inv_set h hc := { h with ep := hc }
  keep h := Buf.empty_mono (ep := h)

def vtepSlot : Slot String String String where
  get d := d.vtep
  set d f := { d with vtep := f }
  g _ t := t
  updMsg k v := [Msg.vtepUpdate k v]
  delMsg := Msg.vtepRemove
  id := .vtep
  cat := .vtep
  sget s := s.vtep
  sset s c := { s with vtep := c }
  inv_get h := h.vtep
  inv_set h hc := { h with vtep := hc }
  keep h := Buf.empty_mono (vtep := h)

def routeSlot : Slot String RouteData RouteData where
  get d := d.route
  set d f := { d with route := f }
  g _ r := r
  updMsg k v := [Msg.routeUpdate k v]
  delMsg := Msg.routeRemove
  id := .route
  cat := .route
  sget s := s.route
  sset s c := { s with route := c }
  inv_get h := h.route
  inv_set h hc := { h with route := hc }
  keep h := Buf.empty_mono (route := h)

theorem gen_fupd_self (G : GenCat → String → Option String) (c : GenCat) (f : String → Option String) (c' : GenCat) :
    (fun c'' => if c'' = c then f else G c'') c' = if c' = c then f else G c' := rfl

theorem Inv.setGen {s : State} {u d : DP} (h : Inv s u d) (c : GenCat) {x U D} (hc : CatInv (fun _ t => t) x U D) :
    Inv { s with gen := fun c' => if c' = c then x else s.gen c' }
      { u with gen := fun c' => if c' = c then U else u.gen c' } { d with gen := fun c' => if c' = c then D else d.gen c' } := by
  refine { h with gen := fun c' => ?_ }
  show CatInv _ (if c' = c then _ else _) (if c' = c then _ else _) (if c' = c then _ else _)
  split
  · exact hc
  · exact h.gen c'

def genSlot (c : GenCat) : Slot String String String where
  get d := d.gen c
  set d f := { d with gen := fun c' => if c' = c then f else d.gen c' }
  g _ t := t
  updMsg k v := [Msg.genUpdate c k v]
  delMsg := Msg.genRemove c
  get_set _ _ := if_pos rfl
  set_get d := by
    have : (fun c' => if c' = c then d.gen c else d.gen c') = d.gen := by
      funext c'; split <;> simp_all
    show ({ d with gen := _ } : DP) = d
    rw [this]
  set_set d f f' := by
    have : (fun c' => if c' = c then f' else (if c' = c then f else d.gen c')) = (fun c' => if c' = c then f' else d.gen c') := by
      funext c'; split <;> rfl
    show ({ d with gen := _ } : DP) = _
    rw [this]
  id := .gen c
  cat := .gen
  sget s := s.gen c
  sset s x := { s with gen := fun c' => if c' = c then x else s.gen c' }
  inv_get h := h.gen c
  inv_set h hc := h.setGen c hc
  keep h := Buf.empty_mono (gen := fun g => by
    show Cat.Keeps _ (if g = c then _ else _)
    split
    · next e => exact e ▸ h
    · exact .refl _)
  set_upd _ _ := by simp [Buf.empty]
  set_del _ _ := by simp [Buf.empty]

end CalicoVerif.C02
