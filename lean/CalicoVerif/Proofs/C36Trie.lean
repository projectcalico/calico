import CalicoVerif.Proofs.C36Pfx
import CalicoVerif.Proofs.Assoc
/-!
C36: the trie.  One step of a walk (`Step`, `Inv.walk_rec`), `Get`, invariant preservation and the
contents (`toList`) of `update` / `deleteInternal` / `delete`, and the refinement of histories
(`foldl` of `Update`/`Delete`) to the plain association-list map (`foldl_refines`, `run_refines`).  The last three
lemmas say that the spec functions see only the members of the list they are given: they carry the query theorems
from `toList` to `specRun ops`.
-/
namespace CalicoVerif.C36
variable {W : Nat} {α : Type}
open Node

theorem Node.All.imp {P Q : Pfx → Prop} (h : ∀ x, P x → Q x) : ∀ {t : Node α}, t.All P → t.All Q
  | .nil, _ => trivial
  | .node _ _ _ _, ⟨a, b, c⟩ => ⟨h _ a, All.imp h b, All.imp h c⟩

theorem mem_toList_node {c : Pfx} {d : Option α} {l r : Node α} {p : Pfx} {v : α} :
    (p, v) ∈ (node c d l r).toList ↔ (p = c ∧ d = some v) ∨ (p, v) ∈ l.toList ∨ (p, v) ∈ r.toList := by
  cases d with
  | none => simp [toList]
  | some w =>
    simp only [toList, List.mem_append, List.mem_singleton, Prod.mk.injEq, Option.some.injEq, or_assoc]
    constructor
    · rintro (⟨h1, h2⟩ | h | h)
      · exact Or.inl ⟨h1, h2.symm⟩
      · exact Or.inr (Or.inl h)
      · exact Or.inr (Or.inr h)
    · rintro (⟨h1, h2⟩ | h | h)
      · exact Or.inl ⟨h1, h2.symm⟩
      · exact Or.inr (Or.inl h)
      · exact Or.inr (Or.inr h)

theorem Node.All.mem {P : Pfx → Prop} : ∀ {t : Node α}, t.All P → ∀ {p v}, (p, v) ∈ t.toList → P p
  | .nil, _, _, _, h => by simp [toList] at h
  | .node c d l r, ⟨a, b, e⟩, p, v, h => by
    rcases mem_toList_node.1 h with ⟨h1, _⟩ | h1 | h1
    · rw [h1]; exact a
    · exact All.mem b h1
    · exact All.mem e h1

section
variable {c : Pfx} {d : Option α} {l r : Node α}
theorem Node.Inv.wf (h : (node c d l r).Inv W) : c.WF W := h.1
theorem Node.Inv.allL (h : (node c d l r).Inv W) : l.All (fun x => x.WF W ∧ Under W c 0 x) := h.2.1
theorem Node.Inv.allR (h : (node c d l r).Inv W) : r.All (fun x => x.WF W ∧ Under W c 1 x) := h.2.2.1
theorem Node.Inv.left (h : (node c d l r).Inv W) : l.Inv W := h.2.2.2.1
theorem Node.Inv.right (h : (node c d l r).Inv W) : r.Inv W := h.2.2.2.2.1
theorem Node.Inv.two_children (h : (node c d l r).Inv W) (hd : d = none) : l.isNil = false ∧ r.isNil = false :=
  h.2.2.2.2.2 hd
end

theorem Node.Inv.mem_root {c : Pfx} {d : Option α} {l r : Node α} (h : (node c d l r).Inv W) {p : Pfx} {v : α}
    (hm : (p, v) ∈ (node c d l r).toList) : p.WF W ∧ c.covers W p = true := by
  rcases mem_toList_node.1 hm with ⟨h1, _⟩ | h1 | h1
  · rw [h1]; exact ⟨h.wf, covers_refl h.wf⟩
  · have := All.mem h.allL h1; exact ⟨this.1, this.2.covers⟩
  · have := All.mem h.allR h1; exact ⟨this.1, this.2.covers⟩

theorem Node.Inv.mem_wf : ∀ {t : Node α}, t.Inv W → ∀ {p v}, (p, v) ∈ t.toList → p.WF W
  | .nil, _, _, _, h => by simp [toList] at h
  | .node _ _ _ _, hi, _, _, h => (Inv.mem_root hi h).1

theorem Node.Inv.exists_mem : ∀ {t : Node α}, t.Inv W → t.isNil = false → ∃ p v, (p, v) ∈ t.toList
  | .nil, _, h => by simp [isNil] at h
  | .node c d l r, hi, _ => by
    cases d with
    | some v => exact ⟨c, v, mem_toList_node.2 (Or.inl ⟨rfl, rfl⟩)⟩
    | none =>
      obtain ⟨p, v, h⟩ := Inv.exists_mem hi.left (hi.two_children rfl).1
      exact ⟨p, v, mem_toList_node.2 (Or.inr (Or.inl h))⟩

/-- All walks (`getNode`, `LPM`, `covers`, …) descend from a node in the same way: into the child `ch` on the
side of `q`'s next bit, leaving the other child `oc`, which hangs on the side `j` (the other bit). -/
structure Step (W : Nat) (q c : Pfx) (d : Option α) (l r ch oc : Node α) (j : Nat) : Prop where
  side : j ≠ nthBit W q.addr (c.len + 1)
  split : (l = ch ∧ r = oc) ∨ (l = oc ∧ r = ch)
  walk : ∀ {β : Type} (f : Node α → β), (if nthBit W q.addr (c.len + 1) = 0 then f l else f r) = f ch
  inv : ch.Inv W
  under : ch.All (fun x => x.WF W ∧ Under W c (nthBit W q.addr (c.len + 1)) x)
  other : oc.All (fun x => x.WF W ∧ Under W c j x)
  mem : ∀ p v, (p, v) ∈ (node c d l r).toList ↔ (p = c ∧ d = some v) ∨ (p, v) ∈ ch.toList ∨ (p, v) ∈ oc.toList

theorem Node.Inv.walk_rec (q : Pfx) {motive : Node α → Prop} (hnil : motive nil)
    (hnode : ∀ {c d l r ch oc j}, (node c d l r).Inv W → Step W q c d l r ch oc j → motive ch →
      motive (node c d l r)) : ∀ {t : Node α}, t.Inv W → motive t
  | .nil, _ => hnil
  | .node c d l r, hi => by
    by_cases hb : nthBit W q.addr (c.len + 1) = 0
    · exact hnode hi ⟨show 1 ≠ _ by omega, Or.inl ⟨rfl, rfl⟩, fun f => if_pos hb, hi.left, by rw [hb]; exact hi.allL,
        hi.allR, fun _ _ => mem_toList_node⟩ (Inv.walk_rec q hnil hnode hi.left)
    · have hb1 := (nthBit_eq_zero_or_one W q.addr (c.len + 1)).resolve_left hb
      exact hnode hi ⟨fun h => hb h.symm, Or.inr ⟨rfl, rfl⟩, fun f => if_neg hb, hi.right, by rw [hb1]; exact hi.allR,
        hi.allL, fun _ _ => mem_toList_node.trans (or_congr Iff.rfl or_comm)⟩ (Inv.walk_rec q hnil hnode hi.right)

theorem not_covers_of_not_contains {c : Pfx} {d : Option α} {l r : Node α} (hi : (node c d l r).Inv W)
    {q : Pfx} (hq : q.WF W) (hc : ¬ c.contains W q.addr = true) {x : Pfx} {v : α}
    (hm : (x, v) ∈ (node c d l r).toList) : ¬ x.covers W q = true := fun hx =>
  hc (contains_of_covers hi.wf hq (covers_trans hi.wf (Inv.mem_root hi hm).1 hq (Inv.mem_root hi hm).2 hx))

theorem get_node_eq (c : Pfx) (d : Option α) (l r : Node α) (q : Pfx) :
    (node c d l r).get W q =
      if !c.contains W q.addr then none else if q = c then d
      else if nthBit W q.addr (c.len + 1) = 0 then l.get W q else r.get W q := by
  unfold Node.get
  conv => lhs; unfold getNode
  by_cases h1 : (!c.contains W q.addr) = true
  · simp only [h1, if_true]
  · simp only [h1, Bool.false_eq_true, if_false]
    by_cases h2 : q = c
    · simp only [h2, if_true]
    · simp only [h2, if_false]
      by_cases h3 : nthBit W q.addr (c.len + 1) = 0
      · simp only [h3, if_true]
      · simp only [h3, if_false]

theorem get_iff {t : Node α} (hi : t.Inv W) {q : Pfx} (hq : q.WF W) {v : α} :
    t.get W q = some v ↔ (q, v) ∈ t.toList := by
  apply Inv.walk_rec q ?_ ?_ hi
  · simp [Node.get, getNode, toList]
  · intro c d l r ch oc j hi s ih
    rw [get_node_eq, s.walk (fun t => t.get W q), s.mem]
    by_cases hc : c.contains W q.addr = true
    · rw [hc, Bool.not_true, if_neg Bool.false_ne_true]
      by_cases hqc : q = c
      · subst hqc
        rw [if_pos rfl]
        refine ⟨fun h => Or.inl ⟨rfl, h⟩, ?_⟩
        rintro (⟨_, h⟩ | h | h)
        · exact h
        · exact absurd rfl (All.mem s.under h).2.ne_self
        · exact absurd rfl (All.mem s.other h).2.ne_self
      · rw [if_neg hqc, ih]
        refine ⟨fun h => Or.inr (Or.inl h), ?_⟩
        rintro (⟨h, _⟩ | h | h)
        · exact absurd h hqc
        · exact h
        · exact absurd rfl ((All.mem s.other h).2.ne_of_bit_ne fun e => s.side e.symm)
    · rw [← s.mem]
      rw [Bool.not_eq_true] at hc
      rw [hc, Bool.not_false, if_pos rfl]
      exact ⟨nofun, fun h => absurd (covers_refl hq) (not_covers_of_not_contains hi hq (by simp [hc]) h)⟩

theorem toList_functional {t : Node α} (hi : t.Inv W) {p : Pfx} {v w : α}
    (h1 : (p, v) ∈ t.toList) (h2 : (p, w) ∈ t.toList) : v = w := by
  have hp := Inv.mem_wf hi h1
  have a := (get_iff hi hp).2 h1
  have b := (get_iff hi hp).2 h2
  rw [a] at b; exact Option.some.inj b

theorem Node.All.ite {P : Pfx → Prop} {b : Prop} [Decidable b] {x y : Node α} (hx : x.All P) (hy : y.All P) :
    (if b then x else y).All P := by
  split <;> assumption

theorem update_all {P : Pfx → Prop} {p : Pfx} (v : α) (hp : P p) (hcp : ∀ c, P c → P (commonPrefix W p c)) :
    ∀ {t : Node α}, t.All P → (t.update W p v).All P
  | .nil, _ => ⟨hp, trivial, trivial⟩
  | .node c d l r, ⟨a, b, e⟩ => by
    have n : (node c d l r).All P := ⟨a, b, e⟩
    have s : (node p (some v) nil nil : Node α).All P := ⟨hp, trivial, trivial⟩
    simp only [update]
    exact All.ite n (All.ite (All.ite ⟨a, update_all v hp hcp b, e⟩ ⟨a, b, update_all v hp hcp e⟩)
      (All.ite (All.ite ⟨hp, n, trivial⟩ ⟨hp, trivial, n⟩) (All.ite ⟨hcp c a, n, s⟩ ⟨hcp c a, s, n⟩)))

theorem under_commonPrefix {c a b : Pfx} {i : Nat} (hc : c.WF W) (ha : a.WF W) (hb : b.WF W)
    (h1 : Under W c i a) (h2 : Under W c i b) : Under W c i (commonPrefix W a b) := by
  have hcov := covers_commonPrefix ha hb hc h1.covers h2.covers
  have hlen : c.len < (commonPrefix W a b).len := by
    have hle := covers_len hc (commonPrefix_wf ha hb) hcov
    by_cases h : c.len < (commonPrefix W a b).len
    · exact h
    · exfalso
      have he : (commonPrefix W a b).len = c.len := by omega
      have := commonPrefix_diverge ha hb (by have := h1.len_lt; omega) (by have := h2.len_lt; omega)
      rw [he] at this
      exact this (by rw [h1.bit_eq, h2.bit_eq])
  refine ⟨hcov, hlen, ?_⟩
  exact (commonPrefix_bit ha hb hlen).1.trans h1.bit_eq

theorem all_under_of_root {c : Pfx} {d : Option α} {l r : Node α} {p : Pfx} {i : Nat}
    (hi : (node c d l r).Inv W) (hp : p.WF W) (hu : Under W p i c) :
    (node c d l r).All (fun x => x.WF W ∧ Under W p i x) := by
  refine ⟨⟨hi.wf, hu⟩, ?_, ?_⟩
  · exact All.imp (fun x hx => ⟨hx.1, hu.mono hp hi.wf hx.1 hx.2.covers⟩) hi.allL
  · exact All.imp (fun x hx => ⟨hx.1, hu.mono hp hi.wf hx.1 hx.2.covers⟩) hi.allR

theorem not_mem_nil {q : Pfx} {w : α} : ¬ (q, w) ∈ (Node.nil : Node α).toList := by simp [toList]

theorem isNil_false_of_mem : ∀ {t : Node α} {x : Pfx × α}, x ∈ t.toList → t.isNil = false
  | .nil, _, h => nomatch h
  | .node .., _, _ => rfl

theorem update_aux {p : Pfx} (hp : p.WF W) (v : α) : ∀ {t : Node α}, t.Inv W →
    (t.update W p v).Inv W ∧ (p, v) ∈ (t.update W p v).toList ∧
      ∀ q w, q ≠ p → ((q, w) ∈ (t.update W p v).toList ↔ (q, w) ∈ t.toList)
  | .nil, _ => ⟨⟨hp, trivial, trivial, trivial, trivial, nofun⟩, by simp [update, toList],
      by simp +contextual [update, toList]⟩
  | .node c d l r, hi => by
    have hc := hi.wf; have hl := hi.allL; have hr := hi.allR; have il := hi.left; have ir := hi.right
    have hd := hi.two_children
    have one : (node p (some v) nil nil : Node α).Inv W := ⟨hp, trivial, trivial, trivial, trivial, nofun⟩
    have here : ∀ {l r : Node α}, (p, v) ∈ (node p (some v) l r).toList :=
      mem_toList_node.2 (Or.inl ⟨rfl, rfl⟩)
    have hlen := commonPrefix_len_le (W := W) p c
    simp only [update]
    by_cases he : c = p
    · subst he
      rw [if_pos rfl]
      exact ⟨⟨hc, hl, hr, il, ir, nofun⟩, here, fun q w hq => by simp only [mem_toList_node, hq, false_and]⟩
    rw [if_neg he]
    by_cases h1 : (commonPrefix W p c).len = c.len
    · -- `c` covers `p`: descend on the side of `p`'s next bit
      have hcov : c.covers W p = true := (commonPrefix_len_eq_right_iff hp hc).1 h1
      have hlt : c.len < p.len :=
        Nat.lt_of_le_of_ne (covers_len hc hp hcov) fun h => he (covers_eq_of_len hc hp hcov (Nat.le_of_eq h.symm))
      have closed : ∀ {i}, Under W c i p → ∀ x, x.WF W ∧ Under W c i x →
          (commonPrefix W p x).WF W ∧ Under W c i (commonPrefix W p x) :=
        fun hu x hx => ⟨commonPrefix_wf hp hx.1, under_commonPrefix hc hp hx.1 hu hx.2⟩
      rw [if_pos h1, h1]
      by_cases hb : nthBit W p.addr (c.len + 1) = 0
      · have hu : Under W c 0 p := ⟨hcov, hlt, hb⟩
        obtain ⟨il', mp, mq⟩ := update_aux hp v il
        rw [if_pos hb]
        exact ⟨⟨hc, update_all v ⟨hp, hu⟩ (closed hu) hl, hr, il', ir,
          fun h => ⟨isNil_false_of_mem mp, (hd h).2⟩⟩, mem_toList_node.2 (Or.inr (Or.inl mp)),
          fun q w hq => by rw [mem_toList_node, mem_toList_node, mq q w hq]⟩
      · have hu : Under W c 1 p := ⟨hcov, hlt, (nthBit_eq_zero_or_one W p.addr (c.len + 1)).resolve_left hb⟩
        obtain ⟨ir', mp, mq⟩ := update_aux hp v ir
        rw [if_neg hb]
        exact ⟨⟨hc, hl, update_all v ⟨hp, hu⟩ (closed hu) hr, il, ir',
          fun h => ⟨(hd h).1, isNil_false_of_mem mp⟩⟩, mem_toList_node.2 (Or.inr (Or.inr mp)),
          fun q w hq => by rw [mem_toList_node, mem_toList_node, mq q w hq]⟩
    rw [if_neg h1]
    by_cases h2 : (commonPrefix W p c).len = p.len
    · -- `p` covers `c`: the old node goes below a new one
      have hcov : p.covers W c = true := (commonPrefix_len_eq_left_iff hp hc).1 h2
      have hlt : p.len < c.len := h2 ▸ Nat.lt_of_le_of_ne hlen.2 h1
      rw [if_pos h2, h2]
      by_cases hb : nthBit W c.addr (p.len + 1) = 0
      · rw [if_pos hb]
        exact ⟨⟨hp, all_under_of_root hi hp ⟨hcov, hlt, hb⟩, trivial, hi, trivial, nofun⟩, here,
          fun q w hq => by simp [mem_toList_node (c := p), hq, not_mem_nil]⟩
      · rw [if_neg hb]
        have hb := (nthBit_eq_zero_or_one W c.addr (p.len + 1)).resolve_left hb
        exact ⟨⟨hp, trivial, all_under_of_root hi hp ⟨hcov, hlt, hb⟩, trivial, hi, nofun⟩, here,
          fun q w hq => by simp [mem_toList_node (c := p), hq, not_mem_nil]⟩
    · -- neither covers the other: a data-less node at the common prefix, `c` and `p` on its two sides
      have hcw := commonPrefix_wf hp hc
      have hl1 : (commonPrefix W p c).len < p.len := Nat.lt_of_le_of_ne hlen.1 h2
      have hl2 : (commonPrefix W p c).len < c.len := Nat.lt_of_le_of_ne hlen.2 h1
      have hne := commonPrefix_diverge hp hc hl1 hl2
      have hcl := commonPrefix_covers_left hp hc
      have hcr := commonPrefix_covers_right hp hc
      have bp := nthBit_eq_zero_or_one W p.addr ((commonPrefix W p c).len + 1)
      have bc := nthBit_eq_zero_or_one W c.addr ((commonPrefix W p c).len + 1)
      unfold Pfx.bit at hne
      have other : ∀ q w, q ≠ p → ∀ {a b : Node α}, ((q, w) ∈ a.toList ∨ (q, w) ∈ b.toList ↔
          (q, w) ∈ (node c d l r).toList) → ((q, w) ∈ (node (commonPrefix W p c) none a b).toList ↔
          (q, w) ∈ (node c d l r).toList) := fun q w hq a b h => by
        rw [mem_toList_node (c := commonPrefix W p c), ← h]; simp
      rw [if_neg h2]
      by_cases hb : nthBit W c.addr ((commonPrefix W p c).len + 1) = 0
      · rw [if_pos hb]
        exact ⟨⟨hcw, all_under_of_root hi hcw ⟨hcr, hl2, hb⟩,
          ⟨⟨hp, hcl, hl1, bp.resolve_left fun h => hne (h.trans hb.symm)⟩, trivial, trivial⟩,
          hi, one, fun _ => ⟨rfl, rfl⟩⟩, mem_toList_node.2 (Or.inr (Or.inr here)),
          fun q w hq => other q w hq (by simp [mem_toList_node (c := p), hq, not_mem_nil])⟩
      · rw [if_neg hb]
        have hb := bc.resolve_left hb
        exact ⟨⟨hcw, ⟨⟨hp, hcl, hl1, bp.resolve_right fun h => hne (h.trans hb.symm)⟩, trivial, trivial⟩,
          all_under_of_root hi hcw ⟨hcr, hl2, hb⟩,
          one, hi, fun _ => ⟨rfl, rfl⟩⟩, mem_toList_node.2 (Or.inr (Or.inl here)),
          fun q w hq => other q w hq (by simp [mem_toList_node (c := p), hq, not_mem_nil])⟩

theorem update_spec {p : Pfx} (hp : p.WF W) (v : α) {t : Node α} (hi : t.Inv W) :
    (t.update W p v).Inv W ∧ (∀ w, (p, w) ∈ (t.update W p v).toList ↔ w = v) ∧
      ∀ q w, q ≠ p → ((q, w) ∈ (t.update W p v).toList ↔ (q, w) ∈ t.toList) := by
  obtain ⟨hi', hm, ho⟩ := update_aux hp v hi
  exact ⟨hi', fun w => ⟨fun h => toList_functional hi' h hm, fun e => e ▸ hm⟩, ho⟩

/-- What `deleteInternal` leaves of a node whose datum or child may just have gone. -/
def compact (c : Pfx) (d : Option α) (l r : Node α) : Node α :=
  match d, l, r with
  | none, nil, _ => r
  | none, _, nil => l
  | _, _, _ => node c d l r

theorem toList_compact (c : Pfx) (d : Option α) (l r : Node α) :
    (compact c d l r).toList = (node c d l r).toList := by
  cases d <;> cases l <;> cases r <;> simp [compact, toList]

theorem compact_all {P : Pfx → Prop} {c : Pfx} {d : Option α} :
    ∀ {l r : Node α}, (node c d l r).All P → (compact c d l r).All P := by
  intro l r h
  match d, l, r, h with
  | none, nil, _, h => exact h.2.2
  | none, node .., nil, h => exact h.2.1
  | none, node .., node .., h => exact h
  | some _, _, _, h => exact h

theorem compact_inv {c : Pfx} {d : Option α} {l r : Node α} (hc : c.WF W)
    (hl : l.All (fun x => x.WF W ∧ Under W c 0 x)) (hr : r.All (fun x => x.WF W ∧ Under W c 1 x))
    (il : l.Inv W) (ir : r.Inv W) : (compact c d l r).Inv W := by
  match d, l, r with
  | none, nil, _ => exact ir
  | none, node .., nil => exact il
  | none, node .., node .. => exact ⟨hc, hl, hr, il, ir, fun _ => ⟨rfl, rfl⟩⟩
  | some _, _, _ => exact ⟨hc, hl, hr, il, ir, nofun⟩

theorem deleteInternal_node {c p : Pfx} {d : Option α} {l r : Node α}
    (hd : d = none → l.isNil = false ∧ r.isNil = false) (hc : c.contains W p.addr = true) :
    (node c d l r).deleteInternal W p =
      if p = c then compact c none l r
      else if nthBit W p.addr (c.len + 1) = 0 then compact c d (l.deleteInternal W p) r
      else compact c d l (r.deleteInternal W p) := by
  simp only [deleteInternal, hc, Bool.not_true, Bool.false_eq_true, if_false]
  split
  · cases l <;> cases r <;> rfl
  · split
    · cases l with
      | nil => cases d with
        | none => exact absurd (hd rfl).1 nofun
        | some _ => rfl
      | node _ _ _ _ =>
        simp only
        generalize deleteInternal W (node _ _ _ _) p = l'
        cases l' with
        | nil => cases d <;> rfl
        | node _ _ _ _ => cases d with
          | none => cases r with
            | nil => exact absurd (hd rfl).2 nofun
            | node _ _ _ _ => rfl
          | some _ => rfl
    · cases r with
      | nil => cases d with
        | none => exact absurd (hd rfl).2 nofun
        | some _ => rfl
      | node _ _ _ _ =>
        simp only
        generalize deleteInternal W (node _ _ _ _) p = r'
        cases r' with
        | nil => cases d <;> cases l <;> rfl
        | node _ _ _ _ => cases d with
          | none => cases l with
            | nil => exact absurd (hd rfl).1 nofun
            | node _ _ _ _ => rfl
          | some _ => rfl

theorem deleteInternal_spec {p : Pfx} (hp : p.WF W) : ∀ {t : Node α}, t.Inv W →
    (t.deleteInternal W p).Inv W ∧ (∀ {P : Pfx → Prop}, t.All P → (t.deleteInternal W p).All P) ∧
      ∀ q w, ((q, w) ∈ (t.deleteInternal W p).toList ↔ q ≠ p ∧ (q, w) ∈ t.toList)
  | .nil, _ => ⟨trivial, id, fun q w => by simp [deleteInternal, toList]⟩
  | .node c d l r, hi => by
    have hc := hi.wf; have hl := hi.allL; have hr := hi.allR; have il := hi.left; have ir := hi.right
    have hd := hi.two_children
    have hL : ∀ {q w}, (q, w) ∈ l.toList → Under W c 0 q := fun h => (All.mem hl h).2
    have hR : ∀ {q w}, (q, w) ∈ r.toList → Under W c 1 q := fun h => (All.mem hr h).2
    by_cases hcont : c.contains W p.addr = true
    · obtain ⟨il', al', ml'⟩ := deleteInternal_spec hp il
      obtain ⟨ir', ar', mr'⟩ := deleteInternal_spec hp ir
      rw [deleteInternal_node hd hcont]
      -- each of the three parts of the node (its own datum, left, right) loses `p`
      by_cases he : p = c
      · subst he
        rw [if_pos rfl]
        refine ⟨compact_inv hp hl hr il ir, fun ⟨a, b, e⟩ => compact_all ⟨a, b, e⟩, fun q w => ?_⟩
        rw [toList_compact, mem_toList_node, mem_toList_node, and_or_left, and_or_left]
        exact or_congr ⟨fun h => (nomatch h.2), fun h => absurd h.2.1 h.1⟩
          (or_congr (and_iff_right_of_imp fun h => (hL h).ne_self).symm
            (and_iff_right_of_imp fun h => (hR h).ne_self).symm)
      · rw [if_neg he]
        have hA : ∀ {q : Pfx} {w : α}, q = c ∧ d = some w → q ≠ p := fun h e => he (e ▸ h.1)
        by_cases hb : nthBit W p.addr (c.len + 1) = 0
        · rw [if_pos hb]
          refine ⟨compact_inv hc (al' hl) hr il' ir, fun ⟨a, b, e⟩ => compact_all ⟨a, al' b, e⟩, fun q w => ?_⟩
          rw [toList_compact, mem_toList_node, mem_toList_node, and_or_left, and_or_left, ml']
          exact or_congr (and_iff_right_of_imp hA).symm (or_congr Iff.rfl (and_iff_right_of_imp fun h =>
            (hR h).ne_of_bit_ne (by unfold Pfx.bit; omega)).symm)
        · rw [if_neg hb]
          refine ⟨compact_inv hc hl (ar' hr) il ir', fun ⟨a, b, e⟩ => compact_all ⟨a, b, ar' e⟩, fun q w => ?_⟩
          rw [toList_compact, mem_toList_node, mem_toList_node, and_or_left, and_or_left, mr']
          exact or_congr (and_iff_right_of_imp hA).symm (or_congr (and_iff_right_of_imp fun h =>
            (hL h).ne_of_bit_ne hb).symm Iff.rfl)
    · have : (node c d l r).deleteInternal W p = node c d l r := by simp [deleteInternal, hcont]
      rw [this]
      refine ⟨hi, id, fun q w => (and_iff_right_of_imp fun h e => hcont ?_).symm⟩
      exact contains_of_covers hc hp (e ▸ (Inv.mem_root hi h).2)

theorem delete_spec {p : Pfx} (hp : p.WF W) {t : Node α} (hi : t.Inv W) :
    (t.delete W p).Inv W ∧ ∀ q w, ((q, w) ∈ (t.delete W p).toList ↔ q ≠ p ∧ (q, w) ∈ t.toList) := by
  cases t with
  | nil => exact ⟨trivial, fun q w => by simp [Node.delete, toList]⟩
  | node c d l r =>
    unfold Node.delete
    simp only
    split
    · rename_i h
      refine ⟨hi, fun q w => ⟨fun hm => ⟨?_, hm⟩, fun hm => hm.2⟩⟩
      intro e
      have := (Inv.mem_root hi hm).2
      rw [e] at this
      exact h ((commonPrefix_eq_left_iff hi.wf hp).2 this)
    · exact ⟨(deleteInternal_spec hp hi).1, (deleteInternal_spec hp hi).2.2⟩

theorem SMap.find_eq (m : SMap α) (q : Pfx) : m.find q = Assoc.get m q := Assoc.find?_eq m q

theorem SMap.find_erase (m : SMap α) (p q : Pfx) :
    (m.erase p).find q = if q = p then none else m.find q := by
  rw [SMap.find_eq, SMap.find_eq]; exact Assoc.get_del m p q

theorem SMap.find_insert (m : SMap α) (p q : Pfx) (v : α) :
    (m.insert p v).find q = if q = p then some v else m.find q := by
  rw [SMap.find_eq, SMap.find_eq]; exact Assoc.get_set m p q v

theorem foldl_refines (ops : List (Op α)) : ∀ (t : Node α) (m : SMap α), (∀ o ∈ ops, Op.WF W o) → t.Inv W →
    (∀ q w, (q, w) ∈ t.toList ↔ m.find q = some w) →
    (ops.foldl (applyOp W) t).Inv W ∧
      ∀ q w, (q, w) ∈ (ops.foldl (applyOp W) t).toList ↔ (ops.foldl specApply m).find q = some w := by
  induction ops with
  | nil => intro t m _ hi hr; exact ⟨hi, hr⟩
  | cons o ops ih =>
    intro t m hw hi hr
    have hwo : Op.WF W o := hw o (List.mem_cons_self ..)
    have hws : ∀ o' ∈ ops, Op.WF W o' := fun o' h => hw o' (List.mem_cons_of_mem _ h)
    simp only [List.foldl_cons]
    cases o with
    | upd p v =>
      obtain ⟨hi', mp, mq⟩ := update_spec hwo v hi
      refine ih _ _ hws hi' (fun q w => ?_)
      show (q, w) ∈ (t.update W p v).toList ↔ (m.insert p v).find q = some w
      rw [SMap.find_insert]
      by_cases h : q = p
      · rw [h, mp, if_pos rfl]; exact ⟨fun e => e ▸ rfl, fun e => (Option.some.inj e).symm⟩
      · rw [mq q w h, if_neg h, hr]
    | del p =>
      have := delete_spec hwo hi
      refine ih _ _ hws this.1 (fun q w => ?_)
      show (q, w) ∈ (t.delete W p).toList ↔ (m.erase p).find q = some w
      rw [this.2, SMap.find_erase, hr]
      by_cases h : q = p
      · simp [h]
      · simp [h]

theorem run_refines (ops : List (Op α)) (h : ∀ o ∈ ops, Op.WF W o) :
    (run W ops).Inv W ∧ ∀ q w, (q, w) ∈ (run W ops).toList ↔ (specRun ops).find q = some w :=
  foldl_refines ops .nil [] h trivial (fun q w => by simp [toList, SMap.find])

theorem specRun_keysNodup (ops : List (Op α)) : ((specRun ops).map (·.1)).Nodup :=
  List.foldlRecOn (motive := fun m => (m.map (·.1)).Nodup) ops specApply List.nodup_nil fun m h o _ => by
    cases o with
    | upd p v => exact Assoc.nodup_set p v h
    | del p => exact Assoc.nodup_del p h

theorem SMap.find_iff_mem {m : SMap α} (h : (m.map (·.1)).Nodup) {q : Pfx} {w : α} :
    m.find q = some w ↔ (q, w) ∈ m := by
  rw [SMap.find_eq]; exact ⟨Assoc.mem_of_get, Assoc.get_of_mem h⟩

theorem any_eq_of_mem_iff {β : Type} {l1 l2 : List β} (f : β → Bool) (h : ∀ x, x ∈ l1 ↔ x ∈ l2) :
    l1.any f = l2.any f := by
  rw [Bool.eq_iff_iff, List.any_eq_true, List.any_eq_true]
  exact ⟨fun ⟨x, hx, hf⟩ => ⟨x, (h x).1 hx, hf⟩, fun ⟨x, hx, hf⟩ => ⟨x, (h x).2 hx, hf⟩⟩

theorem all_eq_of_mem_iff {β : Type} {l1 l2 : List β} (f : β → Bool) (h : ∀ x, x ∈ l1 ↔ x ∈ l2) :
    l1.all f = l2.all f := by
  rw [Bool.eq_iff_iff, List.all_eq_true, List.all_eq_true]
  exact ⟨fun H x hx => H x ((h x).2 hx), fun H x hx => H x ((h x).1 hx)⟩


theorem closest_congr_mem {l1 l2 : SMap α} (h : ∀ x, x ∈ l1 ↔ x ∈ l2) (q p : Pfx) :
    p ∈ SMap.closest W l1 q ↔ p ∈ SMap.closest W l2 q := by
  unfold SMap.closest
  simp only [List.mem_map, List.mem_filter]
  constructor
  · rintro ⟨e, ⟨he, hc⟩, rfl⟩
    refine ⟨e, ⟨(h e).1 he, ?_⟩, rfl⟩
    rw [← any_eq_of_mem_iff _ h]; exact hc
  · rintro ⟨e, ⟨he, hc⟩, rfl⟩
    refine ⟨e, ⟨(h e).2 he, ?_⟩, rfl⟩
    rw [any_eq_of_mem_iff _ h]; exact hc

end CalicoVerif.C36
