import CalicoVerif.Proofs.C26Sess
/-!
C26 — the syncer (`watcherSyncer.processResult` over batches): its status is the aggregate of what the caches last
reported; the callbacks it makes (`cbLast`, `cbQuiet`: `lastStatus`, `quietFrom` of the callback stream read as
results, `cbLast_eq`, `cbQuiet_eq`) are quiet
while it waits, given batches quiet relative to what it has recorded for the emitting cache (`WInv`); and the composed
system `Multi` of model caches feeding it, whose invariant `MInv` supplies such batches by `stepOp_good`.
-/
namespace CalicoVerif.C26

theorem aggregate_insync_iff (l : List Nat) : aggregate l = stInSync ↔ ∀ s ∈ l, s = stInSync := by
  unfold aggregate
  by_cases h : l.all (· == stInSync) = true
  · simp only [h, if_true, true_iff]
    intro s hs
    have := List.all_eq_true.mp h s hs
    simpa using this
  · rw [if_neg h]
    constructor
    · intro e
      by_cases hw : l.all (· == stWait) = true
      · rw [if_pos hw] at e; exact absurd e (by decide)
      · rw [if_neg hw] at e; exact absurd e (by decide)
    · intro hall
      exfalso
      apply h
      apply List.all_eq_true.mpr
      intro s hs
      simp [hall s hs]

theorem aggregate_wait (l : List Nat) (h : aggregate l = stWait) : ∀ s ∈ l, s = stWait := by
  unfold aggregate at h
  split at h
  · simp at h
  · split at h
    · rename_i hw
      intro s hs
      have := List.all_eq_true.mp hw s hs
      simpa using this
    · simp at h

theorem flush_status (ws : WS) : ws.flush.status = ws.status := by
  unfold WS.flush; split <;> rfl

theorem flush_cacheStatuses (ws : WS) : ws.flush.cacheStatuses = ws.cacheStatuses := by
  unfold WS.flush; split <;> rfl

theorem flush_pending (ws : WS) : ws.flush.pending = [] := by
  unfold WS.flush
  split
  · next he => simpa using he
  · rfl

theorem processResult_status (ws : WS) (id : Nat) (r : Res) (h : ws.status = aggregate ws.cacheStatuses) :
    (ws.processResult id r).status = aggregate (ws.processResult id r).cacheStatuses := by
  have fl : ws.flush.status = aggregate ws.flush.cacheStatuses := by
    rw [flush_status ws, flush_cacheStatuses ws]; exact h
  cases r with
  | updates us => exact h
  | convErr => exact fl
  | backendErr => exact fl
  | status s =>
    simp only [WS.processResult]
    split
    · show aggregate _ = aggregate (WS.flush _).cacheStatuses
      rw [flush_cacheStatuses _]
    · rename_i hne
      simp only [bne_iff_ne, ne_eq, Decidable.not_not] at hne
      exact hne.symm

theorem processBatch_status (ws : WS) (id : Nat) (rs : List Res) (h : ws.status = aggregate ws.cacheStatuses) :
    (ws.processBatch id rs).status = aggregate (ws.processBatch id rs).cacheStatuses := by
  unfold WS.processBatch
  rw [flush_status _, flush_cacheStatuses _]
  exact List.foldlRecOn rs _ (motive := fun w : WS => w.status = aggregate w.cacheStatuses) h
    fun w hb r _ => processResult_status w id r hb

def WS.runBatches (ws : WS) (bs : List (Nat × List Res)) : WS := bs.foldl (fun ws b => ws.processBatch b.1 b.2) ws

theorem runBatches_status {w : WS} (h : w.status = aggregate w.cacheStatuses) (bs : List (Nat × List Res)) :
    (w.runBatches bs).status = aggregate (w.runBatches bs).cacheStatuses :=
  List.foldlRecOn bs _ (motive := fun w : WS => w.status = aggregate w.cacheStatuses) h
    fun w hb b _ => processBatch_status w b.1 b.2 hb

def cbLast : Nat → List Cb → Nat
  | st, [] => st
  | _, .status s :: r => cbLast s r
  | st, .updates _ :: r => cbLast st r
  | st, .syncFailed :: r => cbLast st r

/-- No `OnUpdates` callback while the last `OnStatusUpdated` was WaitForDatastore. -/
def cbQuiet : Nat → List Cb → Bool
  | _, [] => true
  | _, .status s :: r => cbQuiet s r
  | st, .updates _ :: r => st != stWait && cbQuiet st r
  | st, .syncFailed :: r => cbQuiet st r

def Cb.res : Cb → Res
  | .status s => .status s
  | .updates us => .updates us
  | .syncFailed => .backendErr

theorem cbLast_eq (st : Nat) (l : List Cb) : cbLast st l = lastStatus st (l.map Cb.res) := by
  induction l generalizing st with
  | nil => rfl
  | cons x xs ih => cases x <;> exact ih _

theorem cbQuiet_eq (st : Nat) (l : List Cb) : cbQuiet st l = quietFrom st (l.map Cb.res) := by
  induction l generalizing st with
  | nil => rfl
  | cons x xs ih => cases x <;> simp only [cbQuiet, List.map_cons, Cb.res, quietFrom, ih]

/-- The callback-side part of the syncer invariant (independent of `cacheStatuses`). -/
structure QInv (ws : WS) : Prop where
  last : cbLast stWait ws.cbs = ws.status
  quiet : cbQuiet stWait ws.cbs = true
  pend : ws.pending ≠ [] → ws.status ≠ stWait

structure WInv (ws : WS) : Prop where
  agg : ws.status = aggregate ws.cacheStatuses
  q : QInv ws

theorem WInv.new (n : Nat) : WInv (WS.new (n + 1)) :=
  ⟨by simp [WS.new, aggregate, List.replicate_succ], rfl, rfl, fun c => absurd rfl c⟩

theorem QInv.snoc {ws w : WS} (h : QInv ws) (c : Cb) (hcbs : w.cbs = ws.cbs ++ [c])
    (hst : w.status = match c with
      | .status s => s
      | _ => ws.status)
    (hu : ∀ us, c = .updates us → ws.status ≠ stWait) (hp : w.pending ≠ [] → w.status ≠ stWait) : QInv w := by
  refine ⟨?_, ?_, hp⟩
  · rw [hcbs, cbLast_eq, List.map_append, lastStatus_append, ← cbLast_eq stWait, h.last, hst]
    cases c <;> rfl
  · rw [hcbs, cbQuiet_eq, List.map_append, quietFrom_append, ← cbQuiet_eq stWait, ← cbLast_eq stWait, h.quiet, h.last]
    cases c with
    | updates us => simpa [Cb.res, quietFrom] using hu us rfl
    | _ => rfl

theorem QInv.flush {ws : WS} (h : QInv ws) : QInv ws.flush := by
  unfold WS.flush
  split
  · exact h
  · next hne => exact h.snoc (.updates ws.pending) rfl rfl (fun _ _ => h.pend (by simpa using hne)) fun c => absurd rfl c

theorem WInv.flush {ws : WS} (h : WInv ws) : WInv ws.flush := by
  exact ⟨by rw [flush_status, flush_cacheStatuses]; exact h.agg, h.q.flush⟩

theorem QInv.processResult {ws : WS} (h : QInv ws) (i : Nat) (r : Res)
    (hq : ∀ us, r = .updates us → ws.status ≠ stWait) : QInv (ws.processResult i r) := by
  cases r with
  | updates us => exact ⟨h.last, h.quiet, fun _ => hq us rfl⟩
  | convErr => exact h.flush
  | backendErr => exact h.flush.snoc .syncFailed rfl rfl (fun _ e => Cb.noConfusion e) h.flush.pend
  | status s =>
    simp only [WS.processResult]
    split
    · -- transition: flush first, then announce
      have q1 := (QInv.mk h.last h.quiet h.pend : QInv { ws with cacheStatuses := ws.cacheStatuses.set i s }).flush
      exact q1.snoc (.status _) rfl rfl (fun _ e => Cb.noConfusion e) fun c => absurd (flush_pending _) c
    · exact ⟨h.last, h.quiet, h.pend⟩

theorem WInv.processResult {ws : WS} (h : WInv ws) (i : Nat) (hi : i < ws.cacheStatuses.length) (r : Res)
    (hq : ∀ us, r = .updates us → ws.cacheStatuses[i] ≠ stWait) :
    WInv (ws.processResult i r) :=
  ⟨processResult_status ws i r h.agg, h.q.processResult i r fun us e c =>
    hq us e (aggregate_wait _ (h.agg ▸ c) _ (List.getElem_mem hi))⟩

theorem processResult_cs (ws : WS) (i : Nat) (hi : i < ws.cacheStatuses.length) (r : Res) :
    (ws.processResult i r).cacheStatuses = ws.cacheStatuses.set i (lastStatus ws.cacheStatuses[i] [r]) := by
  cases r with
  | updates us => simp [WS.processResult, lastStatus]
  | convErr => simp [WS.processResult, flush_cacheStatuses ws, lastStatus]
  | backendErr => simp [WS.processResult, flush_cacheStatuses ws, lastStatus]
  | status s =>
    simp only [WS.processResult, lastStatus]
    split
    · show (WS.flush _).cacheStatuses = _
      rw [flush_cacheStatuses _]
    · rfl

theorem WInv.processBatch {ws : WS} (h : WInv ws) (i : Nat) (hi : i < ws.cacheStatuses.length) (rs : List Res)
    (hq : quietFrom ws.cacheStatuses[i] rs = true) :
    WInv (ws.processBatch i rs) ∧
      (ws.processBatch i rs).cacheStatuses = ws.cacheStatuses.set i (lastStatus ws.cacheStatuses[i] rs) := by
  unfold WS.processBatch
  suffices key : WInv (rs.foldl (fun ws r => ws.processResult i r) ws) ∧
      (rs.foldl (fun ws r => ws.processResult i r) ws).cacheStatuses =
        ws.cacheStatuses.set i (lastStatus ws.cacheStatuses[i] rs) from
    ⟨key.1.flush, by rw [flush_cacheStatuses _]; exact key.2⟩
  induction rs generalizing ws with
  | nil => exact ⟨h, by simp [lastStatus]⟩
  | cons r rs ih =>
    have hcs := processResult_cs ws i hi r
    have hi' : i < (ws.processResult i r).cacheStatuses.length := by rw [hcs, List.length_set]; exact hi
    have hget : (ws.processResult i r).cacheStatuses[i] = lastStatus ws.cacheStatuses[i] [r] := by simp [hcs]
    have hq2 := (Bool.and_eq_true _ _).mp ((quietFrom_append ws.cacheStatuses[i] [r] rs).symm.trans hq)
    have step : WInv (ws.processResult i r) := h.processResult i hi r fun us e => by
      subst e
      simp only [quietFrom, Bool.and_eq_true, bne_iff_ne, ne_eq] at hq
      exact hq.1
    obtain ⟨a, b⟩ := ih step hi' (hget ▸ hq2.2)
    refine ⟨a, ?_⟩
    rw [List.foldl_cons, b, hget, hcs, List.set_set]
    congr 1
    cases r <;> rfl

/-- The hypothesis of `syncer_quiet_while_waiting`: each batch is quiet relative to what the syncer has recorded for the emitting
cache; for the batches that model caches emit, `MInv` needs no such hypothesis. -/
def BatchesQuiet : WS → List (Nat × List Res) → Prop
  | _, [] => True
  | ws, (i, rs) :: bs =>
    (∃ hi : i < ws.cacheStatuses.length, quietFrom ws.cacheStatuses[i] rs = true) ∧
      BatchesQuiet (ws.processBatch i rs) bs

theorem WInv.runBatches {ws : WS} (h : WInv ws) (bs : List (Nat × List Res)) (hq : BatchesQuiet ws bs) :
    WInv (ws.runBatches bs) := by
  induction bs generalizing ws with
  | nil => exact h
  | cons b bs ih => exact ih (h.processBatch b.1 hq.1.1 b.2 hq.1.2).1 hq.2

structure Multi where
  caches : List WC
  ws : WS

def Multi.init (n : Nat) (proc : Option Proc) (sd : Bool) : Multi := ⟨List.replicate n (WC.new proc sd), WS.new n⟩

/-- Cache `i` performs one op; everything it emitted is one consolidation batch for the syncer. -/
def Multi.step (m : Multi) (iop : Nat × COp) : Multi :=
  match m.caches[iop.1]? with
  | none => m
  | some wc => ⟨m.caches.set iop.1 (wc.stepOp iop.2), m.ws.processBatch iop.1 (wc.stepOp iop.2).out⟩

def Multi.run (m : Multi) (ops : List (Nat × COp)) : Multi := ops.foldl Multi.step m

structure MInv (m : Multi) : Prop where
  ws : WInv m.ws
  len : m.ws.cacheStatuses.length = m.caches.length
  each : ∀ (i : Nat) (wc : WC), m.caches[i]? = some wc →
    Rested wc ∧ m.ws.cacheStatuses[i]? = some wc.status

theorem MInv.step {m : Multi} (h : MInv m) (iop : Nat × COp) (hwf : iop.2.WF) : MInv (m.step iop) := by
  unfold Multi.step
  cases hc : m.caches[iop.1]? with
  | none => exact h
  | some wc =>
    simp only
    obtain ⟨hrest, hrec⟩ := h.each iop.1 wc hc
    have hi : iop.1 < m.ws.cacheStatuses.length := by
      rcases Nat.lt_or_ge iop.1 m.ws.cacheStatuses.length with c | c
      · exact c
      · rw [List.getElem?_eq_none c] at hrec; cases hrec
    have hget : m.ws.cacheStatuses[iop.1] = wc.status := by
      rw [List.getElem?_eq_getElem hi] at hrec
      exact Option.some.inj hrec
    obtain ⟨g, r⟩ := stepOp_good hrest iop.2 hwf
    have hb := h.ws.processBatch iop.1 hi (wc.stepOp iop.2).out (by rw [hget]; exact g.inv.quiet)
    have hcs := hb.2
    rw [hget, g.inv.track] at hcs
    refine ⟨hb.1, by rw [hcs, List.length_set, h.len]; simp, ?_⟩
    intro j w hj
    by_cases e : j = iop.1
    · subst e
      have hlt : iop.1 < m.caches.length := by rw [← h.len]; exact hi
      simp only [List.getElem?_set_self hlt, Option.some.injEq] at hj
      subst hj
      refine ⟨r, ?_⟩
      rw [hcs]
      simp [hi]
    · have hne : iop.1 ≠ j := fun x => e x.symm
      rw [List.getElem?_set_ne hne] at hj
      obtain ⟨a, c⟩ := h.each j w hj
      refine ⟨a, ?_⟩
      rw [hcs, List.getElem?_set_ne hne]
      exact c

theorem MInv.init (n : Nat) (p : Option Proc) (sd : Bool) : MInv (Multi.init (n + 1) p sd) := by
  refine ⟨WInv.new n, ?_, ?_⟩
  · simp [Multi.init, WS.new]
  · intro i wc hi
    simp only [Multi.init, List.getElem?_replicate] at hi
    split at hi
    · rename_i hlt
      simp only [Option.some.injEq] at hi
      subst hi
      refine ⟨⟨rfl, fun _ => rfl⟩, ?_⟩
      simp [Multi.init, WS.new, hlt, WC.new]
    · cases hi

theorem MInv.run {m : Multi} (h : MInv m) (ops : List (Nat × COp)) (hwf : ∀ o ∈ ops, o.2.WF) : MInv (m.run ops) :=
  List.foldlRecOn ops Multi.step h fun _ hb o ho => hb.step o (hwf o ho)

end CalicoVerif.C26
