import CalicoVerif.Model.Cas
import CalicoVerif.Proofs.CoreFacts
/-!
The shared store model `Model/Cas` read backwards: what a successful garbage collection,
block operation, read-modify-write, write and step consist of, each stated once.  The
invariants of C19, C22 and C38 are proved by cases on these: `step_cases` gives an `Applied` call with
its `Write`, and `Write.blk_cases` what it did to one block.  A statement about one given call that
succeeded starts from `step_call_ok`.  Outside this file `step` is unfolded only for an `endOp` event
(`C19.returned_is_recorded_partial`), `spend` in `C19.spend_count_eq`, and a step is computed
forwards in `C38.call_blk_relh`.
At the end, runs: `run_nil`/`run_cons`, and `run_invariant` (`run_invariant_on` for runs of events of one kind),
which carries what every step keeps through a run; `RevB` with `revB_step` is the one invariant kept
here, for C22's stale-claim theorem.
-/
namespace CalicoVerif.Cas

theorem upd_apply {α : Type} (f : Nat → α) (k : Nat) (v : α) (x : Nat) :
    upd f k v x = if x = k then v else f x := rfl

theorem getElem?_setSlots (v : Slot) (os : List Nat) (s : List Slot) (i : Nat) :
    (setSlots v os s)[i]? = if i ∈ os ∧ i < s.length then some v else s[i]? := by
  rw [setSlots, getElem?_foldl_set]
  by_cases h : i < s.length <;> simp [h]

theorem upd_self {α : Type} (f : Nat → α) (k : Nat) (v : α) : upd f k v k = v := if_pos rfl

theorem gc_eq_some {F : List Nat} {b b' : Blk} : gc F b = some b' ↔
    (ascending F = true ∧ ∀ o ∈ F, b.slots[o]? = some Slot.cool) ∧
      b' = { b with slots := setSlots Slot.free F b.slots, unalloc := b.unalloc ++ F } := by
  rw [gc, Option.ite_none_right_eq_some, Option.some.injEq, eq_comm (a := b')]
  simp only [Bool.and_eq_true, List.all_eq_true, beq_iff_eq]

theorem gc_getElem? {F : List Nat} {b b' : Blk} (h : gc F b = some b') (o : Nat) :
    b'.slots[o]? = if o ∈ F then some Slot.free else b.slots[o]? := by
  obtain ⟨⟨_, hc⟩, rfl⟩ := gc_eq_some.1 h
  rw [getElem?_setSlots]
  by_cases ho : o ∈ F
  · have hl : o < b.slots.length := (List.getElem?_eq_some_iff.1 (hc o ho)).1
    simp only [ho, hl, and_self, if_true]
  · simp only [ho, false_and, if_false]

theorem rmw_eq_some {g1 g2 : List Nat} {op : BOp} {v : Blk} {res : BRes} :
    rmw g1 op g2 v = some res ↔
      ∃ b1 r b2, gc g1 v = some b1 ∧ applyBOp op b1 = some r ∧ gc g2 r.v = some b2 ∧ res = { r with v := b2 } := by
  constructor
  · intro h
    unfold rmw at h
    split at h
    · cases h
    · rename_i b1 h1
      split at h
      · cases h
      · rename_i r h2
        split at h
        · cases h
        · rename_i b2 h3; cases h; exact ⟨b1, r, b2, h1, h2, h3, rfl⟩
  · rintro ⟨b1, r, b2, h1, h2, h3, rfl⟩
    simp only [rmw, h1, h2, h3]

theorem applyBOp_assign {h k : Nat} {rv : List Nat} {b : Blk} {r : BRes} :
    applyBOp (.assign h k rv) b = some r ↔
      (1 ≤ k ∧ (autoAssign k h rv b).2.length = k) ∧
        r = { v := (autoAssign k h rv b).1, got := (autoAssign k h rv b).2,
              need := if h = 0 then none else some (h, k) } := by
  rw [applyBOp, Option.ite_none_right_eq_some, Option.some.injEq, eq_comm (a := r)]
  simp only [ge_iff_le, Bool.and_eq_true, decide_eq_true_eq, beq_iff_eq]

theorem applyBOp_assignIP {h o : Nat} {b : Blk} {r : BRes} :
    applyBOp (.assignIP h o) b = some r ↔
      b.slots[o]? = some Slot.free ∧
        r = { v := { b with slots := b.slots.set o (Slot.live h), unalloc := b.unalloc.erase o }, got := [o],
              need := if h = 0 then none else some (h, 1) } := by
  rw [applyBOp, assignIP]
  split <;> simp_all [eq_comm (a := r)]

theorem applyBOp_release {h : Nat} {ords : List Nat} {b : Blk} {r : BRes} :
    applyBOp (.release h ords) b = some r ↔
      relHandleOk ords h 0 b.slots = true ∧
        r = { v := { b with slots := relAux ords 0 b.slots },
              debits := ((liveHandles b.slots).map (fun h' => (h', relCnt ords h' 0 b.slots))).filter
                (fun p => p.2 != 0) } := by
  rw [applyBOp, Option.ite_none_right_eq_some, Option.some.injEq, eq_comm (a := r)]

theorem applyBOp_relh {h : Nat} {b : Blk} {r : BRes} :
    applyBOp (.relh h) b = some r ↔
      (h ≠ 0 ∧ 1 ≤ liveCount h b.slots) ∧
        r = { v := { b with slots := relhAux h b.slots }, debits := [(h, liveCount h b.slots)] } := by
  rw [applyBOp, Option.ite_none_right_eq_some, Option.some.injEq, eq_comm (a := r)]
  simp only [bne_iff_ne, ne_eq, ge_iff_le, Bool.and_eq_true, decide_eq_true_eq]

theorem applyBOp_clearAff {b : Blk} {r : BRes} :
    applyBOp .clearAff b = some r ↔ r = { v := { b with aff := none } } := by
  rw [applyBOp, Option.some.injEq, eq_comm]

theorem applyBOp_bump {b : Blk} {r : BRes} : applyBOp .bump b = some r ↔ r = { v := b } := by
  rw [applyBOp, Option.some.injEq, eq_comm]

theorem casOutcome_create_ok {cur rev : Option Nat} {f : Fault}
    (h : casOutcome cur Verb.create rev f = Outcome.ok) : cur = none := by
  cases f <;> cases cur <;> simp_all [casOutcome]

/-- One constructor per arm of `applyWrite` (`write_of_applyWrite`), except that the three affinity arms are one
constructor that keeps nothing of verb and payload: `Write` is implied by `applyWrite`, not equivalent to it.
`absent` in the two creating kinds is what the compare-and-swap outcome `ok` of a `create` says. -/
inductive Write (s : St) (c : Call) : St → Prop
  | blkCreate {b a n : Nat} (hk : c.key = .blk b) (hv : c.verb = .create) (hp : c.pl = .blkCreate a n)
      (absent : s.blk b = none) :
      Write s c { s with rev := s.rev + 1, blk := upd s.blk b (some (s.rev + 1, newBlk a n)) }
  | blkRmw {b r : Nat} {g1 g2 : List Nat} {op : BOp} {v : Blk} {res : BRes} {cs : List Cred}
      (hk : c.key = .blk b) (hv : c.verb = .update) (hp : c.pl = .blkRmw g1 op g2)
      (hb : s.blk b = some (r, v)) (hr : rmw g1 op g2 v = some res)
      (hs : spend c.t b res.need s.creds = some cs) :
      Write s c { s with rev := s.rev + 1, blk := upd s.blk b (some (s.rev + 1, res.v)),
                         creds := addDebits c.t b res.debits cs,
                         got := upd s.got c.t (s.got c.t ++ res.got.map (fun o => (b, o))) }
  | blkDel {b r : Nat} {g1 g2 : List Nat} {v v1 : Blk}
      (hk : c.key = .blk b) (hv : c.verb = .delete) (hp : c.pl = .blkDelete g1 none g2)
      (hb : s.blk b = some (r, v)) (hg : gc g1 v = some v1) (he : v1.empty = true) (h2 : g2 = []) :
      Write s c { s with rev := s.rev + 1, blk := upd s.blk b none }
  | blkDelOp {b r : Nat} {g1 g2 : List Nat} {op : BOp} {v : Blk} {res : BRes}
      (hk : c.key = .blk b) (hv : c.verb = .delete) (hp : c.pl = .blkDelete g1 (some op) g2)
      (hb : s.blk b = some (r, v)) (hr : rmw g1 op g2 v = some res)
      (he : res.v.empty = true) (ha : res.v.aff = none) (hn : res.need = none) :
      Write s c { s with rev := s.rev + 1, blk := upd s.blk b none,
                         creds := addDebits c.t b res.debits s.creds }
  | hCreate {h b n : Nat} (hk : c.key = .hdl h) (hv : c.verb = .create) (hp : c.pl = .hInc b n)
      (absent : s.hdl h = none) (hn : 1 ≤ n) (hb : b < s.nb) :
      Write s c { s with rev := s.rev + 1,
                         hdl := upd s.hdl h (some (s.rev + 1, (List.replicate s.nb 0).set b n)),
                         creds := { t := c.t, h := h, b := b, n := n } :: s.creds }
  | hInc {h b n r : Nat} {m : List Nat} (hk : c.key = .hdl h) (hv : c.verb = .update) (hp : c.pl = .hInc b n)
      (hm : s.hdl h = some (r, m)) (hn : 1 ≤ n) (hb : b < m.length) :
      Write s c { s with rev := s.rev + 1, hdl := upd s.hdl h (some (s.rev + 1, m.set b (cnt m b + n))),
                         creds := { t := c.t, h := h, b := b, n := n } :: s.creds }
  | hDec {h b n r : Nat} {m : List Nat} (hk : c.key = .hdl h) (hv : c.verb = .update) (hp : c.pl = .hDec b n)
      (hm : s.hdl h = some (r, m)) (hn : n ≤ cnt m b) (hb : b < m.length)
      (hc : { t := c.t, h := h, b := b, n := n : Cred } ∈ s.creds)
      (hz : zeroMap (m.set b (cnt m b - n)) = false) :
      Write s c { s with rev := s.rev + 1, hdl := upd s.hdl h (some (s.rev + 1, m.set b (cnt m b - n))),
                         creds := s.creds.erase { t := c.t, h := h, b := b, n := n } }
  | hDel {h b n r : Nat} {m : List Nat} (hk : c.key = .hdl h) (hv : c.verb = .delete) (hp : c.pl = .hDec b n)
      (hm : s.hdl h = some (r, m)) (hn : n ≤ cnt m b) (hb : b < m.length)
      (hc : { t := c.t, h := h, b := b, n := n : Cred } ∈ s.creds)
      (hz : zeroMap (m.set b (cnt m b - n)) = true) :
      Write s c { s with rev := s.rev + 1, hdl := upd s.hdl h none,
                         creds := s.creds.erase { t := c.t, h := h, b := b, n := n } }
  | aff {x b : Nat} (v : Option (Nat × AffSt)) (hk : c.key = .aff x b) :
      Write s c { s with rev := s.rev + 1, aff := upd2 s.aff x b v }

theorem write_of_applyWrite {s s' : St} {c : Call} (absent : c.verb = .create → s.curRev c.key = none)
    (h : applyWrite s c = some s') : Write s c s' := by
  unfold applyWrite at h
  split at h
  · rename_i hk hv hp  -- blkCreate
    cases h
    exact .blkCreate hk hv hp (by simpa [hk, St.curRev] using absent hv)
  · rename_i hk hv hp  -- blkRmw
    split at h
    · cases h
    · rename_i hb
      split at h
      · cases h
      · rename_i hr
        split at h
        · cases h
        · rename_i hs; cases h; exact .blkRmw hk hv hp hb hr hs
  · rename_i hk hv hp  -- blkDelete (none / some op)
    split at h
    · cases h
    · rename_i hb
      split at h
      · split at h
        · rename_i hg
          split at h
          · rename_i hc
            simp only [Bool.and_eq_true, List.isEmpty_iff] at hc
            cases h; exact .blkDel hk hv hp hb hg hc.1 hc.2
          · cases h
        · cases h
      · split at h
        · cases h
        · rename_i hr
          split at h
          · rename_i hc
            simp only [Bool.and_eq_true, Option.isNone_iff_eq_none] at hc
            cases h; exact .blkDelOp hk hv hp hb hr hc.1.1 hc.1.2 hc.2
          · cases h
  · rename_i hk hv hp  -- hCreate
    split at h
    · rename_i hc
      simp only [ge_iff_le, Bool.and_eq_true, decide_eq_true_eq] at hc
      cases h
      exact .hCreate hk hv hp (by simpa [hk, St.curRev] using absent hv) hc.1 hc.2
    · cases h
  · rename_i hk hv hp  -- hInc
    split at h
    · cases h
    · rename_i hm
      split at h
      · rename_i hc
        simp only [ge_iff_le, Bool.and_eq_true, decide_eq_true_eq] at hc
        cases h; exact .hInc hk hv hp hm hc.1 hc.2
      · cases h
  · rename_i hk hv hp  -- hDec
    split at h
    · cases h
    · rename_i hm
      dsimp only at h
      split at h
      · rename_i hc
        simp only [Bool.and_eq_true, decide_eq_true_eq, List.contains_eq_mem, Bool.not_eq_true'] at hc
        cases h; exact .hDec hk hv hp hm hc.1.1.1 hc.1.1.2 hc.1.2 hc.2
      · cases h
  · rename_i hk hv hp  -- hDel
    split at h
    · cases h
    · rename_i hm
      dsimp only at h
      split at h
      · rename_i hc
        simp only [Bool.and_eq_true, decide_eq_true_eq, List.contains_eq_mem] at hc
        cases h; exact .hDel hk hv hp hm hc.1.1.1 hc.1.1.2 hc.1.2 hc.2
      · cases h
  · rename_i hk _ _; cases h; exact .aff _ hk  -- aff create
  · rename_i hk _ _; cases h; exact .aff _ hk  -- aff update
  · rename_i hk _ _; cases h; exact .aff _ hk  -- aff delete
  · cases h  -- not a protocol write

namespace Write

theorem rev {s s' : St} {c : Call} (hw : Write s c s') : s'.rev = s.rev + 1 := by
  cases hw <;> rfl

theorem blk_frame {s s' : St} {c : Call} (hw : Write s c s') {b : Nat} (hk : c.key ≠ .blk b) :
    s'.blk b = s.blk b := by
  have other : ∀ {b0 : Nat} {x : Option (Nat × Blk)}, c.key = .blk b0 → upd s.blk b0 x b = s.blk b :=
    fun e => if_neg (fun e' : b = _ => hk (e' ▸ e))
  cases hw with
  | blkCreate hk' | blkRmw hk' | blkDel hk' | blkDelOp hk' => exact other hk'
  | _ => rfl

theorem blk_fresh {s s' : St} {c : Call} (hw : Write s c s') {b : Nat} (hk : c.key = .blk b)
    {r : Nat} {v : Blk} (hb : s'.blk b = some (r, v)) : r = s.rev + 1 := by
  cases hw with
  | blkCreate hk' | blkRmw hk' => cases hk'.symm.trans hk; cases (upd_self ..).symm.trans hb; rfl
  | blkDel hk' | blkDelOp hk' => cases hk'.symm.trans hk; cases (upd_self ..).symm.trans hb
  | hCreate hk' | hInc hk' | hDec hk' | hDel hk' | aff _ hk' => cases hk'.symm.trans hk

/-- What a write to the key of block `b` does to block `b`. -/
inductive OnBlk (s : St) (c : Call) (b : Nat) (s' : St) : Prop
  | create {a n : Nat} (absent : s.blk b = none) (hb' : s'.blk b = some (s.rev + 1, newBlk a n))
  | rmw {r : Nat} {g1 g2 : List Nat} {op : BOp} {v : Blk} {res : BRes} (hp : c.pl = .blkRmw g1 op g2)
      (hb : s.blk b = some (r, v)) (hr : rmw g1 op g2 v = some res) (hb' : s'.blk b = some (s.rev + 1, res.v))
  | del {r : Nat} {g1 : List Nat} {v v1 : Blk} (hb : s.blk b = some (r, v)) (hg : gc g1 v = some v1)
      (he : v1.empty = true) (hb' : s'.blk b = none)
  | delOp {g1 g2 : List Nat} {op : BOp} (hp : c.pl = .blkDelete g1 (some op) g2) (hb' : s'.blk b = none)

theorem blk_cases {s s' : St} {c : Call} (hw : Write s c s') (b : Nat) : s'.blk b = s.blk b ∨ OnBlk s c b s' :=
  if hk : c.key = .blk b then .inr <| by
    cases hw with
    | blkCreate hk' _ hp habs => cases hk'.symm.trans hk; exact .create habs (upd_self ..)
    | blkRmw hk' _ hp hb hr => cases hk'.symm.trans hk; exact .rmw hp hb hr (upd_self ..)
    | blkDel hk' _ _ hb hg he => cases hk'.symm.trans hk; exact .del hb hg he (upd_self ..)
    | blkDelOp hk' _ hp => cases hk'.symm.trans hk; exact .delOp hp (upd_self ..)
    | hCreate hk' | hInc hk' | hDec hk' | hDel hk' | aff _ hk' => cases hk'.symm.trans hk
  else .inl (hw.blk_frame hk)

theorem blk_rev {s s' : St} {c : Call} (hw : Write s c s') {b r : Nat} {v : Blk}
    (hb : s'.blk b = some (r, v)) : s.blk b = some (r, v) ∨ r = s.rev + 1 :=
  if hk : c.key = .blk b then .inr (hw.blk_fresh hk hb) else .inl (hw.blk_frame hk ▸ hb)

/-- Compare-and-swap protects what was read: a revision of `b` quoted from before a successful write to `b`
does not pass, whatever fault is injected. -/
theorem stale_cas_fails {s s' : St} {c : Call} (hw : Write s c s') {b q : Nat} (hk : c.key = .blk b)
    (hq : q ≤ s.rev) {verb : Verb} (f : Fault) (hverb : verb = .delete ∨ verb = .update) :
    casOutcome (s'.curRev (.blk b)) verb (some q) f ≠ .ok := by
  simp only [St.curRev]
  cases hb : s'.blk b with
  | none => rcases hverb with rfl | rfl <;> cases f <;> simp [casOutcome]
  | some p =>
    have hne : (q != p.1) = true := by have := hw.blk_fresh hk (r := p.1) (v := p.2) hb; simp; omega
    rcases hverb with rfl | rfl <;> cases f <;> simp [casOutcome, hne]

end Write

structure Applied (s : St) (c : Call) (s' : St) : Prop where
  ok : casOutcome (s.curRev c.key) c.verb c.rev c.fault = .ok
  own : ownOk s c = true
  write : Write s c s'

/-- `s' = s` covers a tick, the end of an operation, a read, and a call that fails or crashes before its write. -/
theorem step_cases {s s' : St} {e : Ev} (h : step s e = some s') :
    s' = s ∨ (∃ t, e = .begin t ∧ s' = { s with got := upd s.got t [] }) ∨ ∃ c, e = .call c ∧ Applied s c s' := by
  cases e with
  | tick => left; cases h; rfl
  | «begin» t => right; left; cases h; exact ⟨t, rfl, rfl⟩
  | endOp t a =>
    left
    simp only [step] at h
    split at h <;> cases h; rfl
  | call c =>
    simp only [step] at h
    split at h
    · rename_i hok
      split at h
      · split at h
        · rename_i hown
          exact .inr (.inr ⟨c, rfl, hok, hown, write_of_applyWrite (fun hv => casOutcome_create_ok (hv ▸ hok)) h⟩)
        · cases h
      · left; cases h; rfl
    · left; cases h; rfl

theorem step_call_ok {s s' : St} {c : Call}
    (hok : casOutcome (s.curRev c.key) c.verb c.rev c.fault = .ok) (hw : c.verb.isWrite = true)
    (h : step s (.call c) = some s') : Applied s c s' := by
  simp only [step, hok, hw, if_true] at h
  split at h
  · exact ⟨hok, ‹_›, write_of_applyWrite (fun hv => casOutcome_create_ok (hv ▸ hok)) h⟩
  · cases h

theorem ownOk_blk {s : St} {c : Call} {x b : Nat} (hown : c.own = some x) (hk : c.key = .blk b)
    (h : ownOk s c = true) : ∃ r v, s.blk b = some (r, v) ∧ v.aff = some x := by
  unfold ownOk at h
  rw [hown, hk] at h
  simp only at h
  split at h
  · rename_i r v hb; exact ⟨r, v, hb, by simpa using h⟩
  · cases h

theorem step_rev_le {s s' : St} {e : Ev} (h : step s e = some s') : s.rev ≤ s'.rev := by
  rcases step_cases h with rfl | ⟨t, _, rfl⟩ | ⟨c, _, ap⟩
  · exact Nat.le_refl _
  · exact Nat.le_refl _
  · exact ap.write.rev ▸ Nat.le_succ _

theorem run_nil {s s' : St} : run s [] = some s' ↔ s' = s := by
  simp [run, eq_comm]

theorem run_cons {s s' : St} {e : Ev} {es : List Ev} :
    run s (e :: es) = some s' ↔ ∃ s1, step s e = some s1 ∧ run s1 es = some s' := by
  simp only [run]
  cases step s e <;> simp

theorem run_invariant_on {G : Ev → Prop} {P : St → Prop}
    (hstep : ∀ {s s' : St} {e : Ev}, G e → P s → step s e = some s' → P s')
    {s s' : St} {evs : List Ev} (hG : ∀ e ∈ evs, G e) (hP : P s) (h : run s evs = some s') : P s' := by
  induction evs generalizing s with
  | nil => exact run_nil.1 h ▸ hP
  | cons e es ih =>
    obtain ⟨s1, h1, h2⟩ := run_cons.1 h
    exact ih (fun e' he' => hG e' (List.mem_cons_of_mem _ he')) (hstep (hG e (List.mem_cons_self ..)) hP h1) h2

theorem run_invariant {P : St → Prop} (hstep : ∀ {s s' : St} {e : Ev}, P s → step s e = some s' → P s')
    {s s' : St} {evs : List Ev} (hP : P s) (h : run s evs = some s') : P s' :=
  run_invariant_on (G := fun _ => True) (fun _ => hstep) (fun _ _ => trivial) hP h

theorem run_rev_le {s s' : St} {evs : List Ev} (h : run s evs = some s') : s.rev ≤ s'.rev :=
  run_invariant (P := fun s1 => s.rev ≤ s1.rev) (fun hP h1 => Nat.le_trans hP (step_rev_le h1)) (Nat.le_refl _) h

def RevB (s : St) : Prop := ∀ b r v, s.blk b = some (r, v) → r ≤ s.rev

theorem revB_init (r nb : Nat) : RevB (St.init r nb) := fun _ _ _ h => by cases h

theorem revB_step {s s' : St} {e : Ev} (hi : RevB s) (h : step s e = some s') : RevB s' := by
  rcases step_cases h with rfl | ⟨t, _, rfl⟩ | ⟨c, _, ap⟩
  · exact hi
  · exact hi
  · intro b r v hb
    rw [ap.write.rev]
    rcases ap.write.blk_rev hb with h1 | h1
    · exact Nat.le_succ_of_le (hi b r v h1)
    · exact Nat.le_of_eq h1

end CalicoVerif.Cas
