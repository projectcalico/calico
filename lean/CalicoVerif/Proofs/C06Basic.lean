import CalicoVerif.Model.C06Parser
/-!
C06 helper definitions: induction principle for `Node`, token-level printer
`toks`, well-formedness `WF`.
-/
namespace CalicoVerif.C06

set_option linter.unusedVariables false in
theorem Node.ind {P : Node → Prop}
    (eq : ∀ l v, P (.eq l v)) (ne : ∀ l v, P (.ne l v)) (contains : ∀ l v, P (.contains l v))
    (startsWith : ∀ l v, P (.startsWith l v)) (endsWith : ∀ l v, P (.endsWith l v))
    (inSet : ∀ l vs, P (.inSet l vs)) (notInSet : ∀ l vs, P (.notInSet l vs))
    (has : ∀ l, P (.has l)) (all : P .all) (global : P .global)
    (not : ∀ n, P n → P (.not n))
    (and : ∀ ns, (∀ n ∈ ns, P n) → P (.and ns))
    (or : ∀ ns, (∀ n ∈ ns, P n) → P (.or ns)) : ∀ t, P t
  | .eq l v => eq l v
  | .ne l v => ne l v
  | .contains l v => contains l v
  | .startsWith l v => startsWith l v
  | .endsWith l v => endsWith l v
  | .inSet l vs => inSet l vs
  | .notInSet l vs => notInSet l vs
  | .has l => has l
  | .all => all
  | .global => global
  | .not n => not n (Node.ind eq ne contains startsWith endsWith inSet notInSet has all global not and or n)
  | .and ns => and ns (fun n hn => Node.ind eq ne contains startsWith endsWith inSet notInSet has all global not and or n)
  | .or ns => or ns (fun n hn => Node.ind eq ne contains startsWith endsWith inSet notInSet has all global not and or n)
termination_by t => sizeOf t
decreasing_by
  all_goals simp_wf
  all_goals first | omega | (have := List.sizeOf_lt_of_mem hn; omega)

/-- `if negated then &NotNode{sel} else sel`. -/
def wrapNot (b : Bool) (n : Node) : Node := if b then .not n else n

def setTailToks : List Str → List Token
  | [] => []
  | v :: vs => .comma :: .str v :: setTailToks vs

def setToks : List Str → List Token
  | [] => []
  | v :: vs => .str v :: setTailToks vs

mutual
/-- The tokens of the canonical text (without the final EOF). -/
def toks : Node → List Token
  | .eq l v => [.label l, .eq, .str v]
  | .ne l v => [.label l, .ne, .str v]
  | .contains l v => [.label l, .contains, .str v]
  | .startsWith l v => [.label l, .startsWith, .str v]
  | .endsWith l v => [.label l, .endsWith, .str v]
  | .inSet l vs => [.label l, .in, .lBrace] ++ setToks vs ++ [.rBrace]
  | .notInSet l vs => [.label l, .notIn, .lBrace] ++ setToks vs ++ [.rBrace]
  | .has l => [.has l]
  | .all => [.all]
  | .global => [.global]
  | .not n => if n.isNot then .not :: .lParen :: (toks n ++ [.rParen]) else .not :: toks n
  | .and ns => .lParen :: (joinToks .and ns ++ [.rParen])
  | .or ns => .lParen :: (joinToks .or ns ++ [.rParen])
def joinToks (sep : Token) : List Node → List Token
  | [] => []
  | n :: ns => toks n ++ tailToks sep ns
def tailToks (sep : Token) : List Node → List Token
  | [] => []
  | n :: ns => sep :: (toks n ++ tailToks sep ns)
end

/-- a label the tokenizer can produce (`cutIdentifier` succeeded). -/
def ValidLabel (l : Str) : Prop := l ≠ [] ∧ l.length ≤ maxLabelLength ∧ ∀ c ∈ l, identifierChar c = true

/-- a string literal the tokenizer can produce. -/
def QuoteSafe (v : Str) : Prop := ('"' ∈ v → '\'' ∉ v)

def StrictSorted : List Str → Prop
  | [] => True
  | [_] => True
  | a :: b :: rest => strLt a b = true ∧ StrictSorted (b :: rest)

mutual
/-- What every parser-built tree satisfies. -/
def WF : Node → Prop
  | .eq l v => ValidLabel l ∧ QuoteSafe v
  | .ne l v => ValidLabel l ∧ QuoteSafe v
  | .contains l v => ValidLabel l ∧ QuoteSafe v
  | .startsWith l v => ValidLabel l ∧ QuoteSafe v
  | .endsWith l v => ValidLabel l ∧ QuoteSafe v
  | .inSet l vs => ValidLabel l ∧ (∀ v ∈ vs, QuoteSafe v) ∧ StrictSorted vs
  | .notInSet l vs => ValidLabel l ∧ (∀ v ∈ vs, QuoteSafe v) ∧ StrictSorted vs
  | .has l => ValidLabel l
  | .all => True
  | .global => True
  | .not n => WF n
  | .and ns => 2 ≤ ns.length ∧ WFList ns
  | .or ns => 2 ≤ ns.length ∧ WFList ns
def WFList : List Node → Prop
  | [] => True
  | n :: ns => WF n ∧ WFList ns
end

theorem wfList_iff (ns : List Node) : WFList ns ↔ ∀ n ∈ ns, WF n := by
  induction ns with
  | nil => simp [WFList]
  | cons n ns ih => simp [WFList, ih]

end CalicoVerif.C06
