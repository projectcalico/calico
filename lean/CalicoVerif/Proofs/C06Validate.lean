import CalicoVerif.Model.C06Parser
/-! C06 helper lemmas: the `validateOnly` path accepts exactly what the node-building path accepts. -/
namespace CalicoVerif.C06

def dropNode {α : Type} : Except Err (α × List Token) → VResult
  | .error e => .error e
  | .ok (_, rem) => .ok rem

theorem validateLabelOp_eq (l : Str) (rest : List Token) :
    validateLabelOp rest = dropNode (parseLabelOp l rest) := by
  unfold validateLabelOp parseLabelOp
  split
  · rfl
  · rfl
  next op t2 rem =>
    cases op with
    | eq | ne | contains | startsWith | endsWith => dsimp only; split <;> rfl
    | «in» | notIn => dsimp only; split <;> first | rfl | (split <;> rfl)
    | _ => rfl

section
variable {op : List Token → PResult} {vop : List Token → VResult} (h : ∀ toks, vop toks = dropNode (op toks))
include h

theorem vAndRest_eq (fuel : Nat) (toks : List Token) :
    vAndRest vop fuel toks = dropNode (andRest op fuel toks) := by
  induction fuel generalizing toks with
  | zero => unfold vAndRest andRest; split <;> first | rfl | (rename_i heq; cases heq)
  | succ fuel ih =>
    unfold vAndRest andRest
    split
    next rem heq =>
      cases heq
      rw [h rem]
      cases op rem with
      | error e => rfl
      | ok p =>
        obtain ⟨n, rem'⟩ := p
        simp only [dropNode]
        rw [ih]
        cases andRest op fuel rem' <;> rfl
    · rfl
    · rfl

theorem validateAndWith_eq (fuel : Nat) (toks : List Token) :
    validateAndWith vop fuel toks = dropNode (parseAndWith op fuel toks) := by
  unfold validateAndWith parseAndWith
  rw [h toks]
  cases op toks with
  | error e => rfl
  | ok p =>
    obtain ⟨n, rem⟩ := p
    simp only [dropNode]
    rw [vAndRest_eq h]
    cases andRest op fuel rem <;> rfl

theorem vOrRest_eq (fuelAnd fuel : Nat) (toks : List Token) :
    vOrRest vop fuelAnd fuel toks = dropNode (orRest op fuelAnd fuel toks) := by
  induction fuel generalizing toks with
  | zero => unfold vOrRest orRest; split <;> first | rfl | (rename_i heq; cases heq)
  | succ fuel ih =>
    unfold vOrRest orRest
    split
    next rem heq =>
      cases heq
      rw [validateAndWith_eq h]
      cases parseAndWith op fuelAnd rem with
      | error e => rfl
      | ok p =>
        obtain ⟨n, rem'⟩ := p
        simp only [dropNode]
        rw [ih]
        cases orRest op fuelAnd fuel rem' <;> rfl
    · rfl
    · rfl

theorem validateOrWith_eq (fuel : Nat) (toks : List Token) :
    validateOrWith vop fuel toks = dropNode (parseOrWith op fuel toks) := by
  unfold validateOrWith parseOrWith
  rw [validateAndWith_eq h]
  cases parseAndWith op fuel toks with
  | error e => rfl
  | ok p =>
    obtain ⟨n, rem⟩ := p
    simp only [dropNode]
    rw [vOrRest_eq h]
    cases orRest op fuel fuel rem <;> rfl

end

theorem validateOperation_eq : ∀ (fuel : Nat) (toks : List Token),
    validateOperation fuel toks = dropNode (parseOperation fuel toks)
  | _, [] => by rw [validateOperation, parseOperation]; rfl
  | 0, _ :: _ => rfl
  | fuel + 1, t :: ts => by
    rw [validateOperation, parseOperation]
    generalize stripNots (t :: ts) false = sn
    obtain ⟨negated, toks'⟩ := sn
    dsimp only
    split
    · rfl
    · rfl
    · rfl
    next l rest =>
      rw [validateLabelOp_eq l rest]
      cases parseLabelOp l rest <;> rfl
    next rest =>
      rw [validateOrWith_eq (validateOperation_eq fuel)]
      cases parseOrWith (parseOperation fuel) fuel rest with
      | error e => rfl
      | ok p =>
        obtain ⟨n, rem⟩ := p
        simp only [dropNode]
        split <;> rfl
    · rfl

theorem validate_eq_parse (s : Str) :
    validate s = (match parse s with | .error e => .error e | .ok _ => .ok ()) := by
  unfold validate parse
  cases tokenize s with
  | error e => rfl
  | ok tokens =>
    dsimp only
    split
    · rfl
    · unfold parseOrExpression
      rw [validateOrWith_eq (validateOperation_eq _)]
      cases parseOrWith (parseOperation tokens.length) tokens.length tokens with
      | error e => rfl
      | ok p =>
        obtain ⟨n, rem⟩ := p
        simp only [dropNode]
        split <;> rfl

end CalicoVerif.C06
