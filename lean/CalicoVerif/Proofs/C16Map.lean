import CalicoVerif.Model.C16
import CalicoVerif.Proofs.Assoc
/-!
C16 — the list facts everything else rests on: the association-list `Map` of the model, and lists used as
sets (`setEq`, the pending members of a tracker).
-/
namespace CalicoVerif.C16

namespace Map
variable {α : Type}

theorem get_erase (m : Map α) (k k' : String) :
    (m.erase k).get k' = if k' = k then none else m.get k' := Assoc.lookup_erase m k k'

theorem get_set (m : Map α) (k k' : String) (v : α) :
    (m.set k v).get k' = if k' = k then some v else m.get k' := Assoc.lookup_set m k k' v

theorem has_set (m : Map α) (k k' : String) (v : α) :
    (m.set k v).has k' = (k' == k || m.has k') := by
  simp only [has, get_set]; by_cases h : k' = k <;> simp [h]

theorem has_erase (m : Map α) (k k' : String) : (m.erase k).has k' = (k' != k && m.has k') := by
  simp only [has, get_erase]; by_cases h : k' = k <;> simp [h]

theorem has_iff_get {m : Map α} {n : String} : m.has n = true ↔ ∃ v, m.get n = some v :=
  Option.isSome_iff_exists

theorem has_of_get {m : Map α} {n : String} {v : α} (h : m.get n = some v) : m.has n = true :=
  has_iff_get.2 ⟨v, h⟩

theorem mem_of_get {m : Map α} {n : String} {v : α} (h : m.get n = some v) : (n, v) ∈ m :=
  Assoc.mem_of_get ((Assoc.lookup_eq m n).symm.trans h)

theorem has_iff_mem_keys (m : Map α) (n : String) : m.has n = true ↔ n ∈ m.keys :=
  Assoc.lookup_isSome_iff_mem_keys m n

theorem has_of_mem {m : Map α} {p : String × α} (h : p ∈ m) : m.has p.1 = true :=
  (has_iff_mem_keys m p.1).2 (List.mem_map_of_mem h)

end Map

theorem mem_sortS {x : String} {l : List String} : x ∈ sortS l ↔ x ∈ l := List.mem_mergeSort

theorem mem_sAdd {s : List String} {x y : String} : y ∈ sAdd s x ↔ y ∈ s ∨ y = x := by
  unfold sAdd
  split
  · exact ⟨Or.inl, fun h => h.elim id (· ▸ ‹x ∈ s›)⟩
  · simp

theorem mem_sErase {s : List String} {x y : String} : y ∈ sErase s x ↔ y ∈ s ∧ y ≠ x := by
  simp [sErase]

theorem mem_foldl_sAdd {xs : List String} : ∀ {s : List String} {y : String},
    y ∈ xs.foldl sAdd s ↔ y ∈ s ∨ y ∈ xs := by
  induction xs with
  | nil => simp
  | cons x xs ih => simp [ih, mem_sAdd, or_assoc]

theorem mem_foldl_sErase {xs : List String} : ∀ {s : List String} {y : String},
    y ∈ xs.foldl sErase s ↔ y ∈ s ∧ y ∉ xs := by
  induction xs with
  | nil => simp
  | cons x xs ih => simp [ih, mem_sErase, and_assoc]

def setEq (a b : List String) : Prop := ∀ x, x ∈ a ↔ x ∈ b

theorem setEq.symm {a b : List String} (h : setEq a b) : setEq b a := fun x => (h x).symm
theorem setEq.trans {a b c : List String} (h1 : setEq a b) (h2 : setEq b c) : setEq a c :=
  fun x => (h1 x).trans (h2 x)

theorem mem_pendingAdd {t : MT} {x : String} : x ∈ t.pendingAdd ↔ x ∈ t.des ∧ x ∉ t.dp := by
  simp [MT.pendingAdd, List.mem_eraseDups]

theorem mem_pendingDel {t : MT} {x : String} : x ∈ t.pendingDel ↔ x ∈ t.dp ∧ x ∉ t.des := by
  simp [MT.pendingDel, List.mem_eraseDups]

theorem inSync_setEq {t : MT} (h : t.inSync = true) : setEq t.dp t.des := by
  simp only [MT.inSync, Bool.and_eq_true, List.isEmpty_iff] at h
  intro x
  have h1 := @mem_pendingAdd t x
  have h2 := @mem_pendingDel t x
  rw [h.1] at h1; rw [h.2] at h2
  simp only [List.not_mem_nil, false_iff, not_and, Decidable.not_not] at h1 h2
  exact ⟨h2, h1⟩

end CalicoVerif.C16
