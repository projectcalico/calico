import CalicoVerif.Proofs.C29Ports
/-! C29: a rule is converted into the product of its protocol/port entries and its peers (`crule_mk`, `rule_conv`);
a list of rules, rule by rule (`convertRules_sound`); the hypotheses on a policy (`NP.wf`). -/
namespace CalicoVerif.C29

structure KRule.valid (r : KRule) : Prop where
  peers : ∀ p ∈ r.peers, p.ok
  ports : ∀ kp ∈ r.ports, kp.valid

/-- The rule built in the innermost loop of k8sRuleToCalico. -/
def mkRule (ingress : Bool) (e : String × List CPort) (peer : Option Peer) : CRule :=
  let cports := simplifyPorts e.2
  let proto : Option String := if e.1 ≠ "" then some (protocolFromString e.1) else none
  let en := peerFields peer
  if ingress then { proto := proto, src := en, dst := { ports := cports } }
  else { proto := proto, src := {}, dst := { en with ports := cports } }

def peersOpt (peers : List Peer) : List (Option Peer) := if peers.isEmpty then [none] else peers.map some

def ppOf (ports : List KPort) : Option (List (String × List CPort)) :=
  if ports.isEmpty then some [("", [])] else buildProtocolPorts ports

theorem k8sRuleToCalico_eq (peers : List Peer) (ports : List KPort) (ingress : Bool) :
    k8sRuleToCalico peers ports ingress =
      (ppOf ports).map fun pp =>
        (pp.mergeSort (fun a b => strLe a.1 b.1)).flatMap fun e => (peersOpt peers).map (mkRule ingress e) := by
  unfold k8sRuleToCalico ppOf peersOpt
  dsimp only
  split <;> rename_i h <;> simp only [h, Option.map] <;> rfl

theorem crule_mk (c : Cluster) (ns : String) (ingress : Bool) (e : String × List CPort)
    (peer : Option Peer) (conn : Conn) :
    cruleMatches c ns (mkRule ingress e peer) conn =
      (entryMatches e conn && entityMatches c ns (peerFields peer) (if ingress then conn.src else conn.dst)) := by
  rw [entryMatches, ← portsOK_simplify, Bool.and_right_comm]
  cases ingress
  · simp only [mkRule, cruleMatches, protoTest, Bool.false_eq_true, if_false, entityMatches_ports]
    rw [show entityMatches c ns ({} : Entity) conn.src = true from entityMatches_noSel c ns [] conn.src]
    simp only [Bool.and_true]
    rfl
  · simp only [mkRule, cruleMatches, protoTest, if_true]
    rw [entityMatches_noSel c ns _ conn.dst]
    simp only [Bool.and_true]
    rfl

theorem peers_any (c : Cluster) (npNs : String) (hns : npNs ≠ "") (peers : List Peer)
    (hok : ∀ p ∈ peers, p.ok) (pa : Party) (hpa : pa.ok) :
    (peersOpt peers).any (fun peer => entityMatches c npNs (peerFields peer) pa) =
      (peers.isEmpty || peers.any (fun p => k8sPeerMatches c npNs p pa)) := by
  cases peers with
  | nil =>
    simp only [peersOpt, List.isEmpty_nil, if_true, List.any_cons, List.any_nil, Bool.or_false]
    exact entityMatches_noSel c npNs [] pa
  | cons p rest =>
    simp only [peersOpt, List.isEmpty_cons, Bool.false_eq_true, if_false, List.any_map, Bool.false_or]
    apply listAny_congr_mem
    intro x hx
    exact entityMatches_peer c npNs hns x (hok x hx) pa hpa

theorem ports_any (ports : List KPort) (hv : ∀ kp ∈ ports, kp.valid) :
    ∃ pp, ppOf ports = some pp ∧ ∀ conn,
      (pp.mergeSort (fun a b => strLe a.1 b.1)).any (entryMatches · conn) =
        (ports.isEmpty || ports.any (fun kp => k8sPortMatches kp conn)) := by
  cases ports with
  | nil => exact ⟨[("", [])], rfl, fun conn => by rw [List.mergeSort_singleton]; rfl⟩
  | cons kp rest =>
    obtain ⟨m', hf, hsem⟩ := bpp_fold (kp :: rest) hv []
    exact ⟨m', hf, fun conn => by rw [(List.mergeSort_perm m' _).any_eq, hsem conn]; rfl⟩

theorem rule_conv (r : KRule) (hr : r.valid) (ingress : Bool) :
    ∃ crs, k8sRuleToCalico r.peers r.ports ingress = some crs ∧
      ∀ (c : Cluster) (npNs : String) (conn : Conn), npNs ≠ "" → conn.src.ok → conn.dst.ok →
        crs.any (fun cr => cruleMatches c npNs cr conn) =
          k8sRuleMatches c npNs r (if ingress then conn.src else conn.dst) conn := by
  obtain ⟨pp, hpp, hports⟩ := ports_any r.ports hr.ports
  refine ⟨_, by rw [k8sRuleToCalico_eq, hpp]; rfl, fun c npNs conn hns hs hd => ?_⟩
  have hpa : (if ingress then conn.src else conn.dst).ok := by cases ingress <;> simpa
  -- the generated rules are the product of protocol/port entries and peers, and each tests its entry and its peer
  simp only [List.any_flatMap, List.any_map, Function.comp_def, crule_mk, ← List.and_any_distrib_left,
    ← List.and_any_distrib_right]
  rw [hports, peers_any c npNs hns r.peers hr.peers _ hpa, k8sRuleMatches, Bool.and_comm]

def crStep (ingress : Bool) (acc : List CRule × Nat) (r : KRule) : List CRule × Nat :=
  match k8sRuleToCalico r.peers r.ports ingress with
  | none => (acc.1, acc.2 + 1)
  | some crs => (acc.1 ++ crs, acc.2)

theorem convertRules_fold (ingress : Bool) (rs : List KRule) (hv : ∀ r ∈ rs, r.valid) :
    ∀ acc : List CRule × Nat,
      (rs.foldl (crStep ingress) acc).2 = acc.2 ∧
      ∀ (c : Cluster) (npNs : String) (conn : Conn), npNs ≠ "" → conn.src.ok → conn.dst.ok →
        (rs.foldl (crStep ingress) acc).1.any (fun cr => cruleMatches c npNs cr conn) =
          (acc.1.any (fun cr => cruleMatches c npNs cr conn) ||
            rs.any (fun r => k8sRuleMatches c npNs r (if ingress then conn.src else conn.dst) conn)) := by
  induction rs with
  | nil => exact fun acc => ⟨rfl, fun _ _ _ _ _ _ => (Bool.or_false _).symm⟩
  | cons r rest ih =>
    intro acc
    obtain ⟨crs, hcrs, hm⟩ := rule_conv r (hv r List.mem_cons_self) ingress
    obtain ⟨h1, h2⟩ := ih (fun x hx => hv x (List.mem_cons_of_mem _ hx)) (acc.1 ++ crs, acc.2)
    rw [List.foldl_cons, crStep, hcrs]
    refine ⟨h1, fun c npNs conn hns hs hd => ?_⟩
    rw [h2 c npNs conn hns hs hd, List.any_append, hm c npNs conn hns hs hd, List.any_cons, Bool.or_assoc]

theorem convertRules_sound (ingress : Bool) (rs : List KRule) (hv : ∀ r ∈ rs, r.valid) :
    (convertRules rs ingress).2 = 0 ∧
    ∀ (c : Cluster) (npNs : String) (conn : Conn), npNs ≠ "" → conn.src.ok → conn.dst.ok →
      (convertRules rs ingress).1.any (fun cr => cruleMatches c npNs cr conn) =
        rs.any (fun r => k8sRuleMatches c npNs r (if ingress then conn.src else conn.dst) conn) :=
  convertRules_fold ingress rs hv ([], 0)

/-- Hypotheses of the main theorem on the NetworkPolicy: what Kubernetes API validation and
defaulting guarantee (namespace set, policyTypes defaulted and legal, legal operators and ports),
and that no selector key lies in Calico's reserved label space (`podKeysOK`, `nsKeysOK`). -/
structure NP.wf (np : NP) : Prop where
  ns : np.ns ≠ ""
  types_ne : np.types ≠ []
  types : ∀ t ∈ np.types, t = "Ingress" ∨ t = "Egress"
  podOps : np.podSel.opsOK
  podKeys : np.podSel.podKeysOK
  ingress : ∀ r ∈ np.ingress, r.valid
  egress : ∀ r ∈ np.egress, r.valid

theorem convert_types (np : NP) (h1 : np.types ≠ []) (h2 : ∀ t ∈ np.types, t = "Ingress" ∨ t = "Egress") :
    (convert np).pol.types = effTypes np := by
  have hne : np.types.isEmpty = false := by cases hnt : np.types <;> simp_all
  have hor : np.types.contains "Ingress" = true ∨ np.types.contains "Egress" = true := by
    cases hnt : np.types with
    | nil => exact absurd hnt h1
    | cons t rest =>
      rcases h2 t (by simp [hnt]) with rfl | rfl
      · left; simp
      · right; simp
  simp only [convert, effTypes, hne]
  rcases hor with h | h
  · have h' : "Ingress" ∈ np.types := by simpa using h
    simp [h']
  · have h' : "Egress" ∈ np.types := by simpa using h
    by_cases hi : "Ingress" ∈ np.types <;> simp [h', hi]

theorem convert_ns (np : NP) : (convert np).pol.ns = np.ns := by simp [convert]
theorem convert_sel (np : NP) : (convert np).pol.sel = k8sSelectorToCalico (some np.podSel) true := by simp [convert]
theorem convert_ingress (np : NP) : (convert np).pol.ingress = (convertRules np.ingress true).1 := by simp [convert]
theorem convert_egress (np : NP) : (convert np).pol.egress = (convertRules np.egress false).1 := by simp [convert]
theorem convert_badIngress (np : NP) : (convert np).badIngress = (convertRules np.ingress true).2 := by simp [convert]
theorem convert_badEgress (np : NP) : (convert np).badEgress = (convertRules np.egress false).2 := by simp [convert]

end CalicoVerif.C29
