import CalicoVerif.Proofs.C16Kernel
/-!
C16 — Felix's in-memory state: the relations and invariants the later modules are stated in, and for
each elementary update of the state one lemma saying which fields it changes and how.  (Before `Fixed`: the two facts
about the configuration that the theorems assume, proved of Felix's own, `realCfg`; `Props/C16` alone uses those.)

Relations between two states, strong to weak.  `fullResyncRequired` is in `Fixed`, hence in `Pres` and `WPres`, not in
`Keep` and `Safe`: the retry loop of `ApplyUpdates` raises and clears it between its passes, so a single pass is `WPres`,
the whole call only `Keep`.

    Felix states      `Touch m` ⇒ `Pres` ⇒ `Fixed`;  `Touch m` ⇒ `Grow (· = m)`;  `Grow C` with `C` ⊆ owned keeps `QD`
    worlds            `WPres` (configuration + `Pres`) ⇒ `Keep`, the first field of `Safe`
    `tryResync`       `Res` ⇒ `WPres`, `Safe`                            (C16Resync; `Draining` inside the drain)
    `tryTempDeletions` `TD` ⇒ `WPres`, `Grow (fun _ => False)`; with `Gone` on the kernel: `Safe`       (C16Delete)
    `applyDeletions`  `AD` ⇒ `WPres`, `Safe`                                                          (C16Delete)
    `tryUpdates`      `WPres`, `Safe`; without an error `UpdPost`                                     (C16Restore)
    `Acts` (any sequence of the passes) is `Safe`, and `WPres` while the flag stays set; `Clean` is the attempt that
    ends a successful call                                                                             (C16Apply)

Predicates of one state: `Inv` (= `DesOK ∧ QD`) holds along every history (`run_inv`).  `WInv`, `DirtyOK` and `Cov` do
NOT: an out-of-band kernel edit (`kset`, `kdel`, `kdrop`) breaks `Acc` and `Cov`.  They are established only by a full
resync (`fullResync_post`) and carried from there by `TD.winv`, `TD.dirtyOK`, `TD.cov` and `writeAll_post`; that is why
the convergence theorems are about calls that begin with a full resync.
-/
namespace CalicoVerif.C16

structure CfgOK (c : Cfg) : Prop where
  tempIsTemp : ∀ k, c.isTemp (c.tempName k) = true
  tempOwned : ∀ n, c.isTemp n = true → c.owns n = true

structure CfgMain (c : Cfg) : Prop where
  owned : ∀ id, c.owns (c.mainName id) = true
  notTemp : ∀ id, c.isTemp (c.mainName id) = false

/-- The configuration Felix uses for IPv4 (felix/dataplane/driver.go). -/
def realCfg : Cfg := ⟨["cali4", "felix-4", "cali4", "felix-masq-ipam-pools", "felix-all-ipam-pools"], "cali40", "cali4t"⟩

theorem realCfg_ok : CfgOK realCfg := by
  constructor
  · intro k
    simp only [Cfg.isTemp, Cfg.tempName, hasPrefix, realCfg, String.toList_append, List.isPrefixOf_iff_prefix]
    exact List.prefix_append _ _
  · intro n hn
    simp only [Cfg.isTemp, hasPrefix, realCfg, List.isPrefixOf_iff_prefix] at hn
    simp only [Cfg.owns, realCfg, List.any_cons, hasPrefix, Bool.or_eq_true, List.isPrefixOf_iff_prefix]
    left
    exact List.IsPrefix.trans (by decide : "cali4".toList <+: "cali4t".toList) hn

theorem realCfg_main : CfgMain realCfg := by
  -- 25 = `MaxIPSetNameLength` (31, the `take 31` of `Cfg.mainName`) minus the 6 characters of "cali40"
  have key : ∀ id : String, (realCfg.mainName id).toList = "cali40".toList ++ (id.toList.take 25) := by
    intro id
    simp only [Cfg.mainName, realCfg, String.toList_ofList, String.toList_append]
    rw [List.take_append]
    simp
  constructor
  · intro id
    simp only [Cfg.owns, realCfg, List.any_cons, hasPrefix, Bool.or_eq_true, List.isPrefixOf_iff_prefix]
    left
    rw [← realCfg, key]
    exact List.IsPrefix.trans (by decide : "cali4".toList <+: "cali40".toList) (List.prefix_append _ _)
  · intro id
    simp only [Cfg.isTemp, hasPrefix, realCfg]
    rw [← realCfg, key]
    cases h : "cali4t".toList.isPrefixOf ("cali40".toList ++ List.take 25 id.toList) with
    | false => rfl
    | true =>
      -- two prefixes of one list: the shorter is a prefix of the longer, and "cali40" is not one of "cali4t"
      rw [List.isPrefixOf_iff_prefix] at h
      have := List.prefix_of_prefix_length_le h (List.prefix_append "cali40".toList _) (by decide)
      revert this; decide

def Fixed (F F' : Felix) : Prop :=
  F'.allMeta = F.allMeta ∧ F'.desired = F.desired ∧ F'.filter = F.filter ∧ F'.fullReq = F.fullReq

section
variable {F F' : Felix}
theorem Fixed.allMeta (h : Fixed F F') : F'.allMeta = F.allMeta := h.1
theorem Fixed.desired (h : Fixed F F') : F'.desired = F.desired := h.2.1
theorem Fixed.filter (h : Fixed F F') : F'.filter = F.filter := h.2.2.1
theorem Fixed.fullReq (h : Fixed F F') : F'.fullReq = F.fullReq := h.2.2.2
end

theorem Fixed.refl (F : Felix) : Fixed F F := ⟨rfl, rfl, rfl, rfl⟩
theorem Fixed.trans {a b c : Felix} (h1 : Fixed a b) (h2 : Fixed b c) : Fixed a c :=
  ⟨h2.allMeta.trans h1.allMeta, h2.desired.trans h1.desired, h2.filter.trans h1.filter, h2.fullReq.trans h1.fullReq⟩

theorem needed_congr {F F' : Felix} (h : F'.filter = F.filter) (n : String) : F'.needed n = F.needed n := by
  unfold Felix.needed; rw [h]

def Tracked (F : Felix) (n : String) (des : List String) : Prop := ∃ t, F.members.get n = some t ∧ t.des = des

def Pres (F F' : Felix) : Prop :=
  Fixed F F' ∧ ∀ n des, F.allMeta.has n = true → Tracked F n des → Tracked F' n des

section
variable {F F' : Felix}
theorem Pres.fixed (h : Pres F F') : Fixed F F' := h.1
theorem Pres.tracked (h : Pres F F') : ∀ n des, F.allMeta.has n = true → Tracked F n des → Tracked F' n des := h.2
theorem Pres.allMeta (h : Pres F F') : F'.allMeta = F.allMeta := h.fixed.allMeta
theorem Pres.desired (h : Pres F F') : F'.desired = F.desired := h.fixed.desired
theorem Pres.filter (h : Pres F F') : F'.filter = F.filter := h.fixed.filter
theorem Pres.fullReq (h : Pres F F') : F'.fullReq = F.fullReq := h.fixed.fullReq
end

theorem Pres.refl (F : Felix) : Pres F F := ⟨Fixed.refl F, fun _ _ _ h => h⟩
theorem Pres.trans {a b c : Felix} (h1 : Pres a b) (h2 : Pres b c) : Pres a c :=
  ⟨h1.fixed.trans h2.fixed, fun n des ha ht => h2.tracked n des (by rw [h1.allMeta]; exact ha) (h1.tracked n des ha ht)⟩

theorem Pres.of_members {F F' : Felix} (hf : Fixed F F') (hm : F'.members = F.members) : Pres F F' :=
  ⟨hf, fun _ _ _ ht => by rwa [Tracked, hm]⟩

/-- Well-formedness of the desired state: an invariant of the API (`addOrReplace_inv` … `setFilter_inv`) that
only reads the API-level state (`DesOK.of_eq`). -/
structure DesOK (c : Cfg) (F : Felix) : Prop where
  notTemp : ∀ n, F.desired.has n = true → c.isTemp n = false
  owned : ∀ n, F.desired.has n = true → c.owns n = true
  inAll : ∀ n, F.desired.has n = true → F.allMeta.has n = true
  tracked : ∀ n, F.allMeta.has n = true → F.members.has n = true
  needed : ∀ n, F.desired.has n = true → F.needed n = true
  allOwned : ∀ n, F.allMeta.has n = true → c.owns n = true
  allNotTemp : ∀ n, F.allMeta.has n = true → c.isTemp n = false

theorem DesOK.of_names {c : Cfg} {F : Felix}
    (ha : ∀ n, F.allMeta.has n = true → c.isTemp n = false ∧ c.owns n = true)
    (hin : ∀ n, F.desired.has n = true → F.allMeta.has n = true)
    (htr : ∀ n, F.allMeta.has n = true → F.members.has n = true)
    (hne : ∀ n, F.desired.has n = true → F.needed n = true) : DesOK c F :=
  ⟨fun n hn => (ha n (hin n hn)).1, fun n hn => (ha n (hin n hn)).2, hin, htr, hne,
    fun n hn => (ha n hn).2, fun n hn => (ha n hn).1⟩

theorem tracked_of_has {F : Felix} {n : String} (h : F.members.has n = true) : ∃ t, Tracked F n t.des ∧ F.members.get n = some t := by
  obtain ⟨t, ht⟩ := Map.has_iff_get.1 h
  exact ⟨t, ⟨t, ht, rfl⟩, ht⟩

theorem DesOK.of_eq {c : Cfg} {F F' : Felix} (h : DesOK c F) (ha : F'.allMeta = F.allMeta)
    (hd : F'.desired = F.desired) (hf : F'.filter = F.filter)
    (ht : ∀ n des, F.allMeta.has n = true → Tracked F n des → Tracked F' n des) : DesOK c F' := by
  refine DesOK.of_names (fun n hn => ?_) (fun n hn => ?_) (fun n hn => ?_) (fun n hn => ?_) <;>
    simp only [ha, hd] at hn ⊢
  · exact ⟨h.allNotTemp n hn, h.allOwned n hn⟩
  · exact h.inAll n hn
  · obtain ⟨t, htr, _⟩ := tracked_of_has (h.tracked n hn)
    obtain ⟨t', ht', _⟩ := ht n t.des hn htr
    exact Map.has_of_get ht'
  · rw [needed_congr hf]; exact h.needed n hn

theorem DesOK.pres {c : Cfg} {F F' : Felix} (h : DesOK c F) (hp : Pres F F') : DesOK c F' :=
  h.of_eq hp.allMeta hp.desired hp.filter hp.tracked

structure QD (c : Cfg) (F : Felix) : Prop where
  dp : ∀ b, F.dp.has b = true → c.owns b = true
  qMust : ∀ x ∈ F.qMust, c.owns x = true
  qBg : ∀ x ∈ F.qBg, c.owns x = true

theorem QD.of_eq {c : Cfg} {F F' : Felix} (h : QD c F) (hd : F'.dp = F.dp) (h1 : F'.qMust = F.qMust)
    (h2 : F'.qBg = F.qBg) : QD c F' :=
  ⟨hd ▸ h.dp, h1 ▸ h.qMust, h2 ▸ h.qBg⟩

/-- The invariant of the whole history. -/
def Inv (c : Cfg) (F : Felix) : Prop := DesOK c F ∧ QD c F

theorem Inv.desOK {c : Cfg} {F : Felix} (h : Inv c F) : DesOK c F := h.1
theorem Inv.qd {c : Cfg} {F : Felix} (h : Inv c F) : QD c F := h.2

/-- Names enter Felix's dataplane view and the resync queues only if they satisfy `C`. -/
structure Grow (C : String → Prop) (F F' : Felix) : Prop where
  dp : ∀ b, F'.dp.has b = true → F.dp.has b = true ∨ C b
  qMust : ∀ x ∈ F'.qMust, x ∈ F.qMust ∨ C x
  qBg : ∀ x ∈ F'.qBg, x ∈ F.qBg ∨ C x

theorem Grow.refl (C : String → Prop) (F : Felix) : Grow C F F := ⟨fun _ => Or.inl, fun _ => Or.inl, fun _ => Or.inl⟩

theorem Grow.trans {C : String → Prop} {a b c : Felix} (h1 : Grow C a b) (h2 : Grow C b c) : Grow C a c :=
  ⟨fun x hx => (h2.dp x hx).elim (h1.dp x) Or.inr, fun x hx => (h2.qMust x hx).elim (h1.qMust x) Or.inr,
    fun x hx => (h2.qBg x hx).elim (h1.qBg x) Or.inr⟩

theorem Grow.mono {C C' : String → Prop} {F F' : Felix} (h : Grow C F F') (hC : ∀ x, C x → C' x) : Grow C' F F' :=
  ⟨fun x hx => (h.dp x hx).imp_right (hC x), fun x hx => (h.qMust x hx).imp_right (hC x),
    fun x hx => (h.qBg x hx).imp_right (hC x)⟩

theorem Grow.dp_has {F F' : Felix} (h : Grow (fun _ => False) F F') {b : String} (hb : F'.dp.has b = true) :
    F.dp.has b = true :=
  (h.dp b hb).resolve_right id

theorem Grow.QD {c : Cfg} {C : String → Prop} {F F' : Felix} (h : Grow C F F')
    (hC : ∀ x, C x → c.owns x = true) (hq : QD c F) : QD c F' :=
  ⟨fun x hx => (h.dp x hx).elim (hq.dp x) (hC x), fun x hx => (h.qMust x hx).elim (hq.qMust x) (hC x),
    fun x hx => (h.qBg x hx).elim (hq.qBg x) (hC x)⟩

def Cov (c : Cfg) (F : Felix) (K : Kernel) : Prop :=
  ∀ b, c.owns b = true → K.has b = true → F.dp.has b = true

/-- The part of Felix's state that concerns one set name. -/
def SN (F : Felix) (n : String) : Option Meta × Option MT × Bool := (F.dp.get n, F.members.get n, decide (n ∈ F.dirty))

theorem SN_eq {F F' : Felix} {n : String} : SN F' n = SN F n ↔
    F'.dp.get n = F.dp.get n ∧ F'.members.get n = F.members.get n ∧ (n ∈ F'.dirty ↔ n ∈ F.dirty) := by
  simp only [SN, Prod.mk.injEq, decide_eq_decide]

def FreshDirty (F : Felix) (n : String) : Prop :=
  n ∉ F.dirty → ∀ t, F.members.get n = some t → t.inSync = true

/-- All that re-listing `m` does to Felix's state; `qMust` may gain `m` because a failed listing re-queues it. -/
structure Touch (m : String) (F F' : Felix) : Prop where
  fixed : Fixed F F'
  other : ∀ n, n ≠ m → SN F' n = SN F n
  qMust : ∀ x ∈ F'.qMust, x ∈ F.qMust ∨ x = m
  qBg : ∀ x ∈ F'.qBg, x ∈ F.qBg
  tracked : ∀ des, F.allMeta.has m = true → Tracked F m des → Tracked F' m des

theorem Touch.trans {m : String} {a b c : Felix} (h1 : Touch m a b) (h2 : Touch m b c) : Touch m a c :=
  ⟨h1.fixed.trans h2.fixed, fun n hn => (h2.other n hn).trans (h1.other n hn),
    fun x hx => (h2.qMust x hx).elim (h1.qMust x) Or.inr, fun x hx => h1.qBg x (h2.qBg x hx),
    fun des ha ht => h2.tracked des (by rw [h1.fixed.allMeta]; exact ha) (h1.tracked des ha ht)⟩

theorem Touch.pres {m : String} {F F' : Felix} (h : Touch m F F') : Pres F F' := by
  refine ⟨h.fixed, fun n des ha ht => ?_⟩
  by_cases hn : n = m
  · exact hn ▸ h.tracked des (hn ▸ ha) (hn ▸ ht)
  · rw [Tracked, (SN_eq.1 (h.other n hn)).2.1]; exact ht

theorem Touch.dp_has {m : String} {F F' : Felix} (h : Touch m F F') {b : String}
    (hb : F'.dp.has b = true) : F.dp.has b = true ∨ b = m := by
  by_cases hbm : b = m
  · exact Or.inr hbm
  · rw [Map.has, (SN_eq.1 (h.other b hbm)).1] at hb; exact Or.inl hb

theorem Touch.grow {m : String} {F F' : Felix} (h : Touch m F F') : Grow (· = m) F F' :=
  ⟨fun _ => h.dp_has, h.qMust, fun x hx => Or.inl (h.qBg x hx)⟩

theorem updateDirtiness_eq (F : Felix) (m : String) : ∃ d, F.updateDirtiness m = { F with dirty := d } ∧
    (∀ n, n ≠ m → (n ∈ d ↔ n ∈ F.dirty)) ∧ (F.needed m = true → FreshDirty { F with dirty := d } m) := by
  have er : ∀ n, n ≠ m → (n ∈ sErase F.dirty m ↔ n ∈ F.dirty) := fun n hn => by simp [mem_sErase, hn]
  unfold Felix.updateDirtiness
  cases ht0 : F.members.get m with
  | none => exact ⟨_, rfl, er, fun _ _ t ht => by rw [ht0] at ht; cases ht⟩
  | some t0 =>
    dsimp only
    by_cases hneed : (!F.needed m) = true
    · rw [if_pos hneed]
      exact ⟨_, rfl, er, fun h => by simp [h] at hneed⟩
    · rw [if_neg hneed]
      by_cases hs : t0.inSync = true
      · rw [if_pos hs]
        refine ⟨_, rfl, er, fun _ _ t ht => ?_⟩
        rw [show F.members.get m = some t0 from ht0] at ht
        cases ht; exact hs
      · rw [if_neg hs]
        exact ⟨_, rfl, fun n hn => by simp [mem_sAdd, hn], fun _ hnd => absurd (mem_sAdd.2 (Or.inr rfl)) hnd⟩

theorem updateDirtiness_touch (F : Felix) (m : String) : Touch m F (F.updateDirtiness m) := by
  obtain ⟨d, hd, ho, _⟩ := updateDirtiness_eq F m
  rw [hd]
  exact ⟨⟨rfl, rfl, rfl, rfl⟩, fun n hn => SN_eq.2 ⟨rfl, rfl, ho n hn⟩, fun _ => Or.inl, fun _ h => h, fun _ _ h => h⟩

theorem qAdd_eq (F : Felix) (m : String) (b : Bool) : ∃ q1 q2, F.qAdd m b = { F with qMust := q1, qBg := q2 } ∧
    (∀ x, x ∈ q1 ↔ x ∈ F.qMust ∨ (x = m ∧ b = true)) ∧ (∀ x ∈ q2, x ∈ F.qBg ∨ (x = m ∧ b = false)) := by
  have keep : F = { F with qMust := F.qMust, qBg := F.qBg } := rfl
  unfold Felix.qAdd
  by_cases h1 : F.qMust.contains m = true
  · rw [if_pos h1]
    exact ⟨_, _, keep, fun x => ⟨Or.inl, fun h => h.elim id fun e => e.1 ▸ by simpa using h1⟩, fun _ h => Or.inl h⟩
  · rw [if_neg h1]
    cases b <;> by_cases h2 : F.qBg.contains m = true <;> simp only [h2, if_true, if_false, Bool.false_eq_true]
    · exact ⟨_, _, keep, fun x => by simp, fun _ h => Or.inl h⟩
    · exact ⟨_, _, rfl, fun x => by simp, fun x h => by simpa using h⟩
    · exact ⟨_, _, rfl, fun x => by simp, fun x h => Or.inl (mem_sErase.1 h).1⟩
    · exact ⟨_, _, rfl, fun x => by simp, fun _ h => Or.inl h⟩

theorem qAddAll_eq (b : Bool) : ∀ (L : List String) (F : Felix),
    ∃ q1 q2, L.foldl (fun F n => F.qAdd n b) F = { F with qMust := q1, qBg := q2 } ∧
    (∀ x, x ∈ q1 ↔ x ∈ F.qMust ∨ (x ∈ L ∧ b = true)) ∧ (∀ x ∈ q2, x ∈ F.qBg ∨ (x ∈ L ∧ b = false)) := by
  intro L
  induction L with
  | nil => intro F; exact ⟨_, _, rfl, fun x => by simp, fun _ h => Or.inl h⟩
  | cons m L ih =>
    intro F
    obtain ⟨p1, p2, hp, a1, a2⟩ := qAdd_eq F m b
    obtain ⟨q1, q2, hq, b1, b2⟩ := ih (F.qAdd m b)
    rw [List.foldl_cons, hq, hp]
    rw [hp] at b1 b2
    refine ⟨q1, q2, rfl, fun x => by simp only [b1, a1, List.mem_cons, or_and_right, or_assoc], fun x hx => ?_⟩
    rcases b2 x hx with h | h
    · exact (a2 x h).imp_right fun ⟨e1, e2⟩ => ⟨e1 ▸ List.mem_cons_self, e2⟩
    · exact Or.inr ⟨List.mem_cons_of_mem _ h.1, h.2⟩

theorem qAddAll_pres (b : Bool) (L : List String) (F : Felix) : Pres F (L.foldl (fun F n => F.qAdd n b) F) := by
  obtain ⟨q1, q2, hq, _⟩ := qAddAll_eq b L F
  rw [hq]; exact Pres.of_members ⟨rfl, rfl, rfl, rfl⟩ rfl

theorem qAddAll_grow (b : Bool) (L : List String) (F : Felix) :
    Grow (· ∈ L) F (L.foldl (fun F n => F.qAdd n b) F) := by
  obtain ⟨q1, q2, hq, h1, h2⟩ := qAddAll_eq b L F
  rw [hq]
  exact ⟨fun _ => Or.inl, fun x hx => ((h1 x).1 hx).imp_right (·.1), fun x hx => (h2 x hx).imp_right (·.1)⟩

@[simp] theorem qRemove_desired (F : Felix) (n : String) : (F.qRemove n).desired = F.desired := rfl

theorem tracked_set {F : Felix} {n : String} {t' : MT} (htd : ∀ t, F.members.get n = some t → t'.des = t.des)
    {m : String} {des : List String} (htr : Tracked F m des) :
    ∃ t1, (F.members.set n t').get m = some t1 ∧ t1.des = des := by
  obtain ⟨t0, ht0, hd0⟩ := htr
  rw [Map.get_set]
  split
  · rename_i hmn
    exact ⟨t', rfl, (htd t0 (hmn ▸ ht0)).trans hd0⟩
  · exact ⟨t0, ht0, hd0⟩

theorem tracker_des {F : Felix} {n : String} {dp : List String} (t : MT) (h : F.members.get n = some t) :
    ({ F.tracker n with dp := dp } : MT).des = t.des := by
  simp [Felix.tracker, h]

theorem onMissing_eq (F : Felix) (m : String) : ∃ mem d,
    F.onMissing m = { F with dp := F.dp.erase m, members := mem, dirty := d,
                             qMust := sErase F.qMust m, qBg := sErase F.qBg m } ∧
    (∀ n, n ≠ m → mem.get n = F.members.get n ∧ (n ∈ d ↔ n ∈ F.dirty)) ∧
    (∀ t, F.members.get m = some t → F.allMeta.has m = true → mem.get m = some { t with dp := [] } ∧
      (F.needed m = true → m ∉ d → ({ t with dp := [] } : MT).inSync = true)) := by
  unfold Felix.onMissing
  dsimp only
  cases ht0 : F.members.get m with
  | none =>
    obtain ⟨d, hd, ho, _⟩ := updateDirtiness_eq { F with dp := F.dp.erase m } m
    dsimp only
    rw [hd]
    exact ⟨_, d, rfl, fun n hn => ⟨rfl, ho n hn⟩, fun t ht => by cases ht⟩
  | some t0 =>
    dsimp only
    by_cases hna : (!F.allMeta.has m) = true
    · obtain ⟨d, hd, ho, _⟩ := updateDirtiness_eq { F with dp := F.dp.erase m, members := F.members.erase m } m
      rw [if_pos hna, hd]
      exact ⟨_, d, rfl, fun n hn => ⟨by simp [Map.get_erase, hn], ho n hn⟩,
        fun _ _ ha => by simp [ha] at hna⟩
    · obtain ⟨d, hd, ho, hf⟩ := updateDirtiness_eq
        { F with dp := F.dp.erase m, members := F.members.set m { t0 with dp := [] } } m
      rw [if_neg hna, hd]
      refine ⟨_, d, rfl, fun n hn => ⟨by simp [Map.get_set, hn], ho n hn⟩, fun t ht _ => ?_⟩
      cases ht
      exact ⟨by simp [Map.get_set], fun hneed hnd => hf hneed hnd _ (by simp [Map.get_set])⟩

theorem onMissing_touch (F : Felix) (m : String) : Touch m F (F.onMissing m) := by
  obtain ⟨mem, d, he, ho, hs⟩ := onMissing_eq F m
  rw [he]
  exact ⟨⟨rfl, rfl, rfl, rfl⟩,
    fun n hn => SN_eq.2 ⟨by simp [Map.get_erase, hn], (ho n hn).1, (ho n hn).2⟩,
    fun x hx => Or.inl (mem_sErase.1 hx).1, fun x hx => (mem_sErase.1 hx).1,
    fun des ha ⟨t, ht, hd⟩ => ⟨_, (hs t ht ha).1, hd⟩⟩

theorem onMissing_self (F : Felix) {n : String} {t : MT} (ha : F.allMeta.has n = true)
    (ht : F.members.get n = some t) (hneed : F.needed n = true) :
    (F.onMissing n).dp.get n = none ∧ (F.onMissing n).members.get n = some { t with dp := [] } ∧
    FreshDirty (F.onMissing n) n := by
  obtain ⟨mem, d, he, _, hs⟩ := onMissing_eq F n
  obtain ⟨hm, hf⟩ := hs t ht ha
  rw [he]
  refine ⟨by simp [Map.get_erase], hm, fun hnd t' ht' => ?_⟩
  rw [show mem.get n = some t' from ht'] at hm; cases hm
  exact hf hneed hnd

theorem applyList_touch (c : Cfg) (F : Felix) (m : String) (lr : LR) : Touch m F (F.applyList c m lr).1 := by
  have setDp : ∀ (G : Felix) v, Touch m G { G with dp := G.dp.set m v } := fun G v =>
    ⟨⟨rfl, rfl, rfl, rfl⟩, fun n hn => SN_eq.2 ⟨by simp [Map.get_set, hn], rfl, Iff.rfl⟩,
      fun _ => Or.inl, fun _ h => h, fun _ _ h => h⟩
  cases lr with
  | notFound => exact onMissing_touch F m
  | failNoOutput => exact setDp F _
  | listed mt ms failed =>
    simp only [Felix.applyList]
    split
    · exact setDp F _
    · refine Touch.trans (Touch.trans ?_ (updateDirtiness_touch _ m)) (setDp _ _)
      refine ⟨⟨rfl, rfl, rfl, rfl⟩, fun n hn => SN_eq.2 ⟨rfl, by simp [Map.get_set, hn], Iff.rfl⟩,
        fun _ => Or.inl, fun _ h => h, fun des _ htr => ?_⟩
      exact tracked_set tracker_des htr

theorem nextFreeTemp_eq (c : Cfg) : ∀ (fuel : Nat) (F : Felix),
    ∃ nt k, Felix.nextFreeTemp c F fuel = ({ F with nextTemp := nt }, c.tempName k) := by
  intro fuel
  induction fuel with
  | zero => intro F; exact ⟨_, _, rfl⟩
  | succ fuel ih =>
    intro F
    unfold Felix.nextFreeTemp
    dsimp only
    split
    · exact ih _
    · exact ⟨_, _, rfl⟩

theorem nextFreeTemp_pres (c : Cfg) (F : Felix) (fuel : Nat) : Pres F (Felix.nextFreeTemp c F fuel).1 := by
  obtain ⟨nt, k, h⟩ := nextFreeTemp_eq c fuel F
  rw [h]; exact Pres.of_members ⟨rfl, rfl, rfl, rfl⟩ rfl

theorem writeUpdates_eq {c : Cfg} {ord : List String → List String} {F F' : Felix} {n : String}
    {ls : List Line} (h : F.writeUpdates c ord n = some (F', ls)) :
    ∃ dm t, F.desired.get n = some dm ∧ F.members.get n = some t ∧
      ((needTemp (F.dp.get n) dm = true ∧ ∃ nt k,
          F' = { F with nextTemp := nt,
                        members := F.members.set n { t with dp := (ord ({ t with dp := [] } : MT).pendingAdd).foldl sAdd [] },
                        dp := (F.dp.set (c.tempName k) ((F.dp.get n).getD Meta.zero)).set n dm } ∧
          ls = [createLine (c.tempName k) dm] ++ (ord ({ t with dp := [] } : MT).pendingAdd).map (Line.add (c.tempName k)) ++
            [Line.swap n (c.tempName k)]) ∨
       (needTemp (F.dp.get n) dm = false ∧
          F' = { F with members := F.members.set n
                          { t with dp := (ord t.pendingAdd).foldl sAdd ((ord t.pendingDel).foldl sErase t.dp) },
                        dp := if (F.dp.get n).isNone then F.dp.set n dm else F.dp } ∧
          ls = (if (F.dp.get n).isNone then [createLine n dm] else []) ++ (ord t.pendingDel).map (Line.del n) ++
            (ord t.pendingAdd).map (Line.add n))) := by
  unfold Felix.writeUpdates at h
  cases hdm : F.desired.get n with
  | none => simp only [hdm] at h; cases h
  | some dm =>
    cases ht : F.members.get n with
    | none => simp only [hdm, ht] at h; cases h
    | some t =>
      simp only [hdm, ht] at h
      refine ⟨dm, t, rfl, rfl, ?_⟩
      by_cases hnt : needTemp (F.dp.get n) dm = true
      · rw [if_pos hnt] at h
        obtain ⟨nt, k, hk⟩ := nextFreeTemp_eq c (F.dp.length + 1) F
        rw [hk] at h
        cases h
        exact Or.inl ⟨hnt, nt, k, rfl, rfl⟩
      · rw [if_neg hnt] at h
        cases h
        refine Or.inr ⟨Bool.eq_false_iff.2 hnt, ?_, rfl⟩
        split <;> rfl

theorem writeUpdates_pres {c : Cfg} {ord : List String → List String} {F F' : Felix} {n : String}
    {ls : List Line} (h : F.writeUpdates c ord n = some (F', ls)) : Pres F F' := by
  obtain ⟨dm, t, _, ht, ⟨_, nt, k, rfl, _⟩ | ⟨_, rfl, _⟩⟩ := writeUpdates_eq h <;>
    exact ⟨⟨rfl, rfl, rfl, rfl⟩, fun m des _ htr => tracked_set (fun t0 h0 => by rw [ht] at h0; cases h0; rfl) htr⟩

theorem writeAll_cons {c : Cfg} {ord : List String → List String} {F F' : Felix} {n : String}
    {ns : List String} {ls : List Line} (h : writeAll c ord F (n :: ns) = some (F', ls)) :
    ∃ F1 l1 l2, F.writeUpdates c ord n = some (F1, l1) ∧ writeAll c ord F1 ns = some (F', l2) ∧ ls = l1 ++ l2 := by
  rw [writeAll] at h
  split at h
  · cases h
  · rename_i F1 l1 h1
    split at h
    · cases h
    · rename_i F2 l2 h2
      cases h
      exact ⟨F1, l1, l2, h1, h2, rfl⟩

theorem writeAll_rel {c : Cfg} {ord : List String → List String} {R : Felix → Felix → Prop}
    (refl : ∀ F, R F F) (trans : ∀ {a b c}, R a b → R b c → R a c) : ∀ (ns : List String) (F F' : Felix)
    (ls : List Line), (∀ n ∈ ns, ∀ G G' l, R F G → G.writeUpdates c ord n = some (G', l) → R G G') →
    writeAll c ord F ns = some (F', ls) → R F F' := by
  intro ns
  induction ns with
  | nil => intro F F' ls _ h; cases h; exact refl F
  | cons n ns ih =>
    intro F F' ls hstep h
    obtain ⟨F1, l1, l2, h1, h2, _⟩ := writeAll_cons h
    have r1 := hstep n List.mem_cons_self F F1 l1 (refl F) h1
    exact trans r1 (ih F1 F' l2 (fun n' hn' G G' l hG => hstep n' (List.mem_cons_of_mem _ hn') G G' l (trans r1 hG)) h2)

theorem writeAll_pres {c : Cfg} {ord : List String → List String} {ns : List String} {F F' : Felix}
    {ls : List Line} (h : writeAll c ord F ns = some (F', ls)) : Pres F F' :=
  writeAll_rel Pres.refl Pres.trans ns F F' ls (fun _ _ _ _ _ _ h => writeUpdates_pres h) h

@[simp] theorem markDeleteFailed_desired (F : Felix) (n : String) : (F.markDeleteFailed n).desired = F.desired := rfl

theorem mem_pendingDeletions {F : Felix} {n : String} :
    n ∈ F.pendingDeletions ↔ F.dp.has n = true ∧ F.desired.has n = false := by
  simp [Felix.pendingDeletions, List.mem_eraseDups, Map.has_iff_mem_keys]

theorem afterDestroy_eq (F : Felix) (d : String) : ∃ mem, F.afterDestroy d =
    { F with qMust := sErase F.qMust d, qBg := sErase F.qBg d, members := mem, dp := F.dp.erase d } ∧
    ∀ n des, F.allMeta.has n = true → Tracked F n des → ∃ t, mem.get n = some t ∧ t.des = des := by
  unfold Felix.afterDestroy
  dsimp only
  by_cases hna : (!(F.qRemove d).allMeta.has d) = true
  · rw [if_pos hna]
    refine ⟨_, rfl, fun n des ha ⟨t, ht, hd⟩ => ⟨t, ?_, hd⟩⟩
    have : n ≠ d := by rintro rfl; simp [show (F.qRemove n).allMeta.has n = true from ha] at hna
    rw [← ht]; exact (Map.get_erase _ _ _).trans (if_neg this)
  · rw [if_neg hna]
    exact ⟨_, rfl, fun n des _ htr => tracked_set (F := F.qRemove d) tracker_des htr⟩

theorem afterDestroy_pres (F : Felix) (d : String) : Pres F (F.afterDestroy d) := by
  obtain ⟨mem, he, ht⟩ := afterDestroy_eq F d
  rw [he]; exact ⟨⟨rfl, rfl, rfl, rfl⟩, ht⟩

def Exact (F : Felix) (K : Kernel) (n : String) : Prop :=
  ∃ dm t k, F.desired.get n = some dm ∧ F.members.get n = some t ∧ K.get n = some k ∧
    metaMatches k dm ∧ setEq k.members t.des

theorem Exact.get {F : Felix} {K : Kernel} {n : String} {dm : Meta} {des : List String} (h : Exact F K n)
    (hd : F.desired.get n = some dm) (ht : Tracked F n des) :
    ∃ k, K.get n = some k ∧ metaMatches k dm ∧ setEq k.members des := by
  obtain ⟨dm', t', k, e1, e2, e3, e4, e5⟩ := h
  obtain ⟨t, ht, rfl⟩ := ht
  cases hd.symm.trans e1
  cases ht.symm.trans e2
  exact ⟨k, e3, e4, e5⟩

/-- Felix's view of the desired set `n` is accurate enough for the restore pass. -/
def Acc (F : Felix) (K : Kernel) (n : String) : Prop :=
  ∀ dm t, F.desired.get n = some dm → F.members.get n = some t →
    match K.get n with
    | none => F.dp.get n = none ∧ t.dp = []
    | some k => ∃ m', F.dp.get n = some m' ∧ (m' = dm → metaMatches k dm ∧ setEq t.dp k.members)

/-- What the restore pass needs to know about Felix's state and the kernel. -/
structure WInv (c : Cfg) (F : Felix) (K : Kernel) : Prop where
  notTemp : ∀ n, F.desired.has n = true → c.isTemp n = false
  tracked : ∀ n, F.desired.has n = true → F.members.has n = true
  acc : ∀ n, Acc F K n

def DirtyOK (F : Felix) : Prop := ∀ n, F.desired.has n = true → FreshDirty F n

/-- The API-level state is untouched (whatever happens to `fullResyncRequired`). -/
structure Keep (w w' : W) : Prop where
  cfg : w'.cfg = w.cfg
  allMeta : w'.F.allMeta = w.F.allMeta
  desired : w'.F.desired = w.F.desired
  filter : w'.F.filter = w.F.filter
  tracked : ∀ n des, w.F.allMeta.has n = true → Tracked w.F n des → Tracked w'.F n des

theorem Keep.refl (w : W) : Keep w w := ⟨rfl, rfl, rfl, rfl, fun _ _ _ h => h⟩
theorem Keep.trans {a b c : W} (h1 : Keep a b) (h2 : Keep b c) : Keep a c :=
  ⟨h2.cfg.trans h1.cfg, h2.allMeta.trans h1.allMeta, h2.desired.trans h1.desired, h2.filter.trans h1.filter,
   fun n des ha ht => h2.tracked n des (by rw [h1.allMeta]; exact ha) (h1.tracked n des ha ht)⟩

structure WPres (w w' : W) : Prop where
  cfg : w'.cfg = w.cfg
  pres : Pres w.F w'.F

theorem WPres.refl (w : W) : WPres w w := ⟨rfl, Pres.refl _⟩

theorem WPres.trans {a b c : W} (h1 : WPres a b) (h2 : WPres b c) : WPres a c :=
  ⟨h2.cfg.trans h1.cfg, h1.pres.trans h2.pres⟩

theorem WPres.keep {w w' : W} (h : WPres w w') : Keep w w' :=
  ⟨h.cfg, h.pres.allMeta, h.pres.desired, h.pres.filter, h.pres.tracked⟩

theorem DesOK.keep {w w' : W} (h : DesOK w.cfg w.F) (hk : Keep w w') : DesOK w.cfg w'.F :=
  h.of_eq hk.allMeta hk.desired hk.filter hk.tracked

/-- Holds between the worlds before and after every part of `ApplyUpdates` and `ApplyDeletions`, whatever fails and in
whatever order things are visited. -/
structure Safe (w w' : W) : Prop where
  keep : Keep w w'
  kd : ∀ n, w.F.desired.has n = true → w.K.has n = true → w'.K.has n = true
  own : CfgOK w.cfg → Inv w.cfg w.F → QD w.cfg w'.F ∧ ∀ x, w.cfg.owns x = false → w'.K.get x = w.K.get x

theorem Safe.trans {a b c : W} (h1 : Safe a b) (h2 : Safe b c) : Safe a c := by
  refine ⟨h1.keep.trans h2.keep, fun n hd hk => h2.kd n (h1.keep.desired ▸ hd) (h1.kd n hd hk), fun hc hi => ?_⟩
  obtain ⟨q1, f1⟩ := h1.own hc hi
  have hcb := h1.keep.cfg
  obtain ⟨q2, f2⟩ := h2.own (hcb ▸ hc) (hcb ▸ ⟨hi.desOK.keep h1.keep, q1⟩)
  exact ⟨hcb ▸ q2, fun x hx => (f2 x (hcb ▸ hx)).trans (f1 x hx)⟩

theorem Safe.of_kernel_eq {w w' : W} (hK : w'.K = w.K) (hk : Keep w w') (hq : QD w.cfg w.F → QD w.cfg w'.F) :
    Safe w w' :=
  ⟨hk, fun _ _ h => hK ▸ h, fun _ hi => ⟨hq hi.qd, fun _ _ => by rw [hK]⟩⟩

theorem Safe.refl (w : W) : Safe w w := Safe.of_kernel_eq rfl (Keep.refl w) id

end CalicoVerif.C16
