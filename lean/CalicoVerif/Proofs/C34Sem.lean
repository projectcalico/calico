import CalicoVerif.Model.C34
/-! C34: a fork-join access program without conflicts is schedule-deterministic (`run_eq_of_proj_eq`,
with `indep_of_lt` for programs that refine a conflict-free `Program`); the closed form of the decision
layer's schedules (`runSchedule_eq`). -/
namespace CalicoVerif.C34

def Indep (a b : Step) : Prop :=
  a.target ≠ b.target ∧ a.target ∉ b.deps ∧ b.target ∉ a.deps

theorem Indep.symm {a b : Step} (h : Indep a b) : Indep b a := ⟨fun e => h.1 e.symm, h.2.2, h.2.1⟩

theorem map_exec_of_not_mem {deps : List Nat} {s : Step} {σ : Store} (h : s.target ∉ deps) :
    deps.map (s.exec σ) = deps.map σ := by
  apply List.map_congr_left
  intro x hx
  have : x ≠ s.target := fun e => h (e ▸ hx)
  simp [Step.exec, this]

theorem exec_comm {a b : Step} (h : Indep a b) (σ : Store) :
    b.exec (a.exec σ) = a.exec (b.exec σ) := by
  obtain ⟨h1, h2, h3⟩ := h
  funext x
  show (if x = b.target then b.f (b.deps.map (a.exec σ)) else a.exec σ x) =
    (if x = a.target then a.f (a.deps.map (b.exec σ)) else b.exec σ x)
  rw [map_exec_of_not_mem h2, map_exec_of_not_mem h3]
  by_cases hb : x = b.target
  · subst hb
    have : ¬ b.target = a.target := fun e => h1 e.symm
    simp [Step.exec, this]
  · by_cases ha : x = a.target
    · subst ha
      simp [Step.exec, h1]
    · simp [Step.exec, ha, hb]

theorem run_cons (e : Event) (t : List Event) (σ : Store) : run (e :: t) σ = run t (e.2.exec σ) := rfl

theorem run_append (t1 t2 : List Event) (σ : Store) : run (t1 ++ t2) σ = run t2 (run t1 σ) := by
  simp [run, List.foldl_append]

theorem run_move_front (a : Event) : ∀ (pre post : List Event) (σ : Store),
    (∀ b ∈ pre, Indep a.2 b.2) → run (pre ++ a :: post) σ = run (a :: (pre ++ post)) σ := by
  intro pre
  induction pre with
  | nil => intro post σ _; rfl
  | cons b pre ih =>
    intro post σ h
    have hb := h b List.mem_cons_self
    have ih' := ih post (b.2.exec σ) (fun c hc => h c (List.mem_cons_of_mem _ hc))
    simp only [List.cons_append, run_cons] at ih' ⊢
    rw [ih', exec_comm hb]

def tag (g : Nat) (e : Event) : Option Step := if e.1 = g then some e.2 else none

theorem tag_eq_some {g : Nat} {e : Event} {s : Step} : tag g e = some s ↔ e = (g, s) := by
  obtain ⟨h, a⟩ := e
  unfold tag
  by_cases hh : h = g <;> simp [hh]

theorem proj_eq (g : Nat) (t : List Event) : proj g t = t.filterMap (tag g) := by
  induction t with
  | nil => rfl
  | cons e t ih => rw [proj, List.filterMap_cons, tag, ih]; split <;> rfl

theorem proj_append (g : Nat) (t1 t2 : List Event) : proj g (t1 ++ t2) = proj g t1 ++ proj g t2 := by
  simp only [proj_eq, List.filterMap_append]

theorem proj_of_no_tag {g : Nat} {t : List Event} (h : ∀ e ∈ t, e.1 ≠ g) : proj g t = [] := by
  rw [proj_eq, List.filterMap_eq_nil_iff]
  exact fun e he => if_neg (h e he)

theorem mem_proj {g : Nat} {s : Step} {t : List Event} : s ∈ proj g t ↔ (g, s) ∈ t := by
  simp only [proj_eq, List.mem_filterMap, tag_eq_some, exists_eq_right]

theorem split_first {g : Nat} {a : Step} (t : List Event) (rest : List Step) (h : proj g t = a :: rest) :
    ∃ pre post, t = pre ++ (g, a) :: post ∧ (∀ e ∈ pre, e.1 ≠ g) ∧ proj g post = rest := by
  rw [proj_eq, List.filterMap_eq_cons_iff] at h
  obtain ⟨pre, e, post, rfl, hpre, he, hpost⟩ := h
  refine ⟨pre, post, by rw [tag_eq_some.1 he], fun x hx hg => ?_, by rw [proj_eq, hpost]⟩
  have := hpre x hx
  rw [tag, if_pos hg] at this
  cases this

theorem run_eq_of_proj_eq : ∀ (t1 t2 : List Event) (σ : Store),
    (∀ a ∈ t1, ∀ b ∈ t1, a.1 ≠ b.1 → Indep a.2 b.2) →
    (∀ g, proj g t1 = proj g t2) → run t1 σ = run t2 σ := by
  intro t1
  induction t1 with
  | nil =>
    intro t2 σ _ hp
    cases t2 with
    | nil => rfl
    | cons e t =>
      have := mem_proj.2 (List.mem_cons_self (a := e) (l := t))
      rw [← hp e.1] at this
      simp [proj] at this
  | cons e t1 ih =>
    intro t2 σ hind hp
    obtain ⟨g, a⟩ := e
    have hg := hp g
    simp only [proj, if_true] at hg
    obtain ⟨pre, post, rfl, hpre, hpost⟩ := split_first t2 (proj g t1) hg.symm
    -- events of `pre` are events of the first trace too, of other goroutines: independent of `a`
    have hmove : run (pre ++ (g, a) :: post) σ = run ((g, a) :: (pre ++ post)) σ := by
      apply run_move_front
      intro b hb
      have hbg : b.1 ≠ g := hpre b hb
      have hb2 : b ∈ pre ++ (g, a) :: post := List.mem_append_left _ hb
      have hb1 : b ∈ (g, a) :: t1 := by
        have := mem_proj.2 hb2
        rw [← hp b.1] at this
        exact mem_proj.1 this
      exact hind (g, a) List.mem_cons_self b hb1 (fun e => hbg e.symm)
    rw [hmove, run_cons, run_cons]
    apply ih
    · intro x hx y hy hxy
      exact hind x (List.mem_cons_of_mem _ hx) y (List.mem_cons_of_mem _ hy) hxy
    · intro h
      have hph := hp h
      rw [proj_append] at hph ⊢
      simp only [proj] at hph
      by_cases hh : g = h
      · subst hh
        simp only [if_true] at hph
        rw [proj_of_no_tag hpre] at hph ⊢
        simp only [List.nil_append, List.cons.injEq, true_and] at hph
        simpa using hph
      · simp only [hh, if_false] at hph
        exact hph

theorem racyVars_nil {a b : Accesses} (h : racyVars a b = []) :
    (∀ x ∈ a.writes, x ∉ b.writes ∧ x ∉ b.reads) ∧ (∀ x ∈ b.writes, x ∉ a.reads) := by
  unfold racyVars at h
  rw [List.append_eq_nil_iff, List.filter_eq_nil_iff, List.filter_eq_nil_iff] at h
  constructor
  · intro x hx
    have := h.1 x hx
    simp only [touches, List.contains_eq_mem, List.mem_append, decide_eq_true_eq, not_or] at this
    exact this
  · intro x hx
    have := h.2 x hx
    simpa using this

theorem conflicts_nil_goroutines {P : Program} (h : conflicts P = []) {i j : Nat} {a b : Accesses}
    (hi : P.goroutines[i]? = some a) (hj : P.goroutines[j]? = some b) (hij : i < j) :
    racyVars a b = [] := by
  unfold conflicts at h
  simp only [List.append_eq_nil_iff] at h
  have h1 := h.1
  rw [List.flatMap_eq_nil_iff] at h1
  have h2 := h1 (a, i) (List.mk_mem_zipIdx_iff_getElem?.2 hi)
  rw [List.flatMap_eq_nil_iff] at h2
  have h3 := h2 (b, j) (List.mk_mem_zipIdx_iff_getElem?.2 hj)
  simp only [hij, if_true, List.map_eq_nil_iff] at h3
  exact h3

theorem raceFree_iff (P : Program) : raceFree P = true ↔ conflicts P = [] := by
  unfold raceFree; simp [List.isEmpty_iff]

def Refines (progs : List (List Step)) (P : Program) : Prop :=
  ∀ (g : Nat) (p : List Step), progs[g]? = some p → ∃ acc : Accesses, P.goroutines[g]? = some acc ∧
    ∀ s ∈ p, s.target ∈ acc.writes ∧ ∀ d ∈ s.deps, d ∈ acc.reads

theorem mem_getD {progs : List (List Step)} {g : Nat} {s : Step} (h : s ∈ progs.getD g []) :
    ∃ p, progs[g]? = some p ∧ s ∈ p := by
  rw [List.getD_eq_getElem?_getD] at h
  cases hp : progs[g]? with
  | none => rw [hp] at h; simp at h
  | some p => rw [hp] at h; exact ⟨p, rfl, by simpa using h⟩

theorem indep_of_lt {P : Program} (hc : conflicts P = []) {progs : List (List Step)} (href : Refines progs P)
    {i j : Nat} {p q : List Step} (hi : progs[i]? = some p) (hj : progs[j]? = some q) (hij : i < j)
    {a b : Step} (ha : a ∈ p) (hb : b ∈ q) : Indep a b := by
  obtain ⟨ai, hai, ra⟩ := href i p hi
  obtain ⟨aj, haj, rb⟩ := href j q hj
  obtain ⟨n1, n2⟩ := racyVars_nil (conflicts_nil_goroutines hc hai haj hij)
  obtain ⟨aw, ar⟩ := ra a ha
  obtain ⟨bw, br⟩ := rb b hb
  refine ⟨?_, ?_, ?_⟩
  · intro e; exact (n1 _ aw).1 (e ▸ bw)
  · intro e; exact (n1 _ aw).2 (br _ e)
  · intro e; exact n2 _ bw (ar _ e)

theorem runSchedule_cons (ans : Nat → Answer) (g : Nat) (s : List Nat) (v : Vars) :
    runSchedule ans (g :: s) v = runSchedule ans s (runG ans g v) := rfl

theorem runG_eq (ans : Nat → Answer) (g : Nat) (v : Vars) :
    runG ans g v = ⟨if 0 = g then (ans 0).d else v.getTier, if 1 = g then (ans 1).d else v.policy,
      if 2 = g then (ans 2).d else v.wildcard⟩ := by
  match g with
  | 0 | 1 | 2 => rfl
  | n + 3 => simp [runG]

theorem runSchedule_eq (ans : Nat → Answer) : ∀ (s : List Nat) (v : Vars),
    runSchedule ans s v =
      ⟨if 0 ∈ s then (ans 0).d else v.getTier, if 1 ∈ s then (ans 1).d else v.policy,
        if 2 ∈ s then (ans 2).d else v.wildcard⟩
  | [], _ => rfl
  | g :: s, v => by
    simp only [runSchedule_cons, runSchedule_eq ans s, runG_eq, List.mem_cons]
    congr 1 <;> split <;> simp [*]

end CalicoVerif.C34
