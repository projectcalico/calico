import CalicoVerif.Proofs.C11Chain
/-!
C11 — assembling the programs of a SPLIT build.

`Block.Assemble` fails iff a jump target is still unresolved (a key left in `fixUps`) or an offset
exceeds int16.  The bookkeeping `BlockSt.fix` is the set of unresolved targets of the REACHABLE jumps
(unreachable instructions are dropped by the block).  When the builder's event list is closed
(`compile_closed`), every program the split fold produces ends with `fix = []` — at a split each still
unresolved target gets a landing pad, `next-program` is defined by the glue, and the continuation
program's dispatch jumps are resolved later or get landing pads again — and a program with `fix = []`
of at most 32767 events assembles.  Last part: the assembled programs, run as a chain (`runChain`),
behave as the label-level chain `chainK` of their blocks.
-/
namespace CalicoVerif.C11

/-- The reload instructions of a call site must not jump to a label: they are copied into the next program behind its
dispatch, where no fix-up would resolve the jump. -/
def Ev.notJmp : Ev → Bool
  | .jmp _ _ => false
  | _ => true

def mOK : BEv → Bool
  | .ev _ => true
  | .maybeSplit R => R.all Ev.notJmp

abbrev MK (S : List BEv) : Prop := S.all mOK = true

theorem cl_noJmp (ext : List Label) : ∀ R : List Ev, R.all Ev.notJmp = true → CL ext R := by
  intro R
  induction R with
  | nil => intro _; rfl
  | cons e r ih =>
    intro h
    simp only [List.all_cons, Bool.and_eq_true] at h
    cases e with
    | jmp i l => simp [Ev.notJmp] at h
    | ins i => simpa only [CL, closedIn] using ih h.2
    | label l => simpa only [CL, closedIn] using ih h.2

theorem cl_landingPads (ext : List Label) (hnp : Label.nextProgram ∈ ext) :
    ∀ (T : List Label) (j : Nat), CL ext (landingPads T j) := by
  intro T
  induction T with
  | nil => intro j; rfl
  | cons t ts ih =>
    intro j
    cases ts with
    | nil => simp [landingPads, CL, closedIn, movImm64, mk]
    | cons t2 ts2 =>
      have := ih (j + 1)
      simp only [landingPads, CL, List.cons_append, List.nil_append] at this ⊢
      simp only [closedIn, movImm64, mk, jump, mkJ, Bool.and_eq_true, Bool.or_eq_true]
      exact ⟨Or.inr (List.contains_iff_mem.2 hnp), this⟩

theorem cl_trampolineJumps (ext : List Label) :
    ∀ (T : List Label) (j : Nat), (∀ t ∈ T, t ∈ ext) → CL ext (trampolineJumps T j) := by
  intro T
  induction T with
  | nil => intro j _; rfl
  | cons t ts ih =>
    intro j h
    have := ih (j + 1) (fun t' ht' => h t' (List.mem_cons_of_mem _ ht'))
    simp only [trampolineJumps, CL, closedIn, jumpEqImm64, mkJ, Bool.and_eq_true, Bool.or_eq_true]
    exact ⟨Or.inr (List.contains_iff_mem.2 (h t List.mem_cons_self)), this⟩

theorem cl_npBlock (ext : List Label) (c : Cfg) (xdp : Bool) (idx : Int) : CL ext (npBlock c xdp idx) := rfl

theorem labelsOf_npBlock (c : Cfg) (xdp : Bool) (idx : Int) : labelsOf (npBlock c xdp idx) = [.nextProgram, .exit] := rfl

theorem cl_glueEvs (c : Cfg) (xdp : Bool) (s : SplitSt) : CL [] (glueEvs c xdp s) := by
  unfold glueEvs glueTail
  refine CL.append' (cl_glueHead _ c xdp ?_) (CL.append' (cl_landingPads _ ?_ _ _) (cl_npBlock _ c xdp _))
  · simp [labelsOf_append, labelsOf_npBlock]
  · simp [labelsOf_npBlock]

theorem cl_preEvs (ext : List Label) (c : Cfg) (T : List Label) (R : List Ev) (hx : Label.exit ∈ ext)
    (hT : ∀ t ∈ T, t ∈ ext) (hR : R.all Ev.notJmp = true) : CL ext (preEvs c T R) := by
  unfold preEvs
  have h1 := cl_header ext c hx
  have h2 : CL ext [load32 R0 R9 stateOffPolResult, movImm32 R1 0, store32 R9 R1 stateOffPolResult] := by
    simp [CL, closedIn, load32, movImm32, store32, mk]
  exact ((h1.append h2).append (cl_trampolineJumps ext T 0 hT)).append (cl_noJmp ext R hR)

theorem glue_fix (c : Cfg) (xdp : Bool) (s : SplitSt) : (rawAll s.cur (glueEvs c xdp s)).fix = [] := by
  rw [List.eq_nil_iff_forall_not_mem]
  intro l hl
  rcases fix_closed _ s.cur [] (cl_glueEvs c xdp s) l hl with ⟨h1, h2⟩ | h
  · apply h2
    simp only [glueEvs, glueTail, labelsOf_append, labelsOf_landingPads, labelsOf_npBlock, List.mem_append]
    by_cases hf : l ∈ footerLabels xdp
    · exact Or.inl (labelsOf_glueHead c xdp ▸ hf)
    · right
      by_cases hnp : l = .nextProgram
      · right; simp [hnp]
      · exact Or.inl (mem_splitTargets.2 ⟨h1, hf, hnp⟩)
  · cases h

theorem cont_fix (c : Cfg) (xdp : Bool) (F : List Ev) (hF : Label.exit ∈ labelsOf F) :
    ∀ (S : List BEv) (s : SplitSt), MK S → CL [] (flat S ++ F) →
      (∀ l ∈ s.cur.fix, l ∈ labelsOf (flat S ++ F)) →
      (rawAll s.cur (cont c xdp (S ++ F.map BEv.ev) s).1).fix = [] ∧
        ∀ p ∈ (cont c xdp (S ++ F.map BEv.ev) s).2, (rawAll {} p).fix = [] := by
  intro S
  induction S with
  | nil =>
    intro s _ hc hinv
    have := cont_evs c xdp [] F s
    simp only [List.append_nil, cont] at this
    simp only [List.nil_append, this]
    refine ⟨?_, fun p hp => by cases hp⟩
    rw [List.eq_nil_iff_forall_not_mem]
    intro l hl
    rcases fix_closed F s.cur [] hc l hl with ⟨h1, h2⟩ | h
    · exact h2 (hinv l h1)
    · cases h
  | cons b S ih =>
    intro s hm hc hinv
    simp only [MK, List.all_cons, Bool.and_eq_true] at hm
    cases b with
    | ev e =>
      simp only [List.cons_append, cont]
      rw [rawAll_cons]
      simp only [flat, List.cons_append] at hc hinv
      refine ih { s with cur := s.cur.raw e } hm.2 (closedIn_tail hc) fun l hl => ?_
      rcases mem_raw_fix.1 hl with ⟨h, he⟩ | ⟨_, i, rfl⟩
      · exact (mem_labelsOf_cons.1 (hinv l h)).resolve_left he
      · simp only [CL, closedIn, Bool.and_eq_true, Bool.or_eq_true, List.contains_nil, Bool.false_eq_true, or_false] at hc
        exact List.contains_iff_mem.1 hc.1
    | maybeSplit R =>
      simp only [List.cons_append, cont]
      simp only [flat] at hc hinv
      by_cases hw : willSplit c s = true
      · simp only [hw, if_true]
        have hcur : (splitState c xdp s R).cur = rawAll {} (preEvs c (splitTargets c xdp s) R) := by
          simp only [splitState]
        have hinv2 : ∀ l ∈ (splitState c xdp s R).cur.fix, l ∈ labelsOf (flat S ++ F) := by
          intro l hl
          rw [hcur] at hl
          have hT : ∀ t ∈ splitTargets c xdp s, t ∈ labelsOf (flat S ++ F) :=
            fun t ht => hinv t (mem_splitTargets.1 ht).1
          have hx : Label.exit ∈ labelsOf (flat S ++ F) := by
            rw [labelsOf_append]; exact List.mem_append_right _ hF
          rcases fix_closed _ {} _ (cl_preEvs (labelsOf (flat S ++ F)) c (splitTargets c xdp s) R hx hT hm.1) l hl with ⟨h, _⟩ | h
          · cases h
          · exact h
        have := ih (splitState c xdp s R) hm.2 hc hinv2
        refine ⟨glue_fix c xdp s, ?_⟩
        intro p hp
        simp only [List.mem_cons] at hp
        rcases hp with rfl | hp
        · rw [rawAll_append, ← hcur]
          exact this.1
        · exact this.2 p hp
      · simp only [hw, Bool.false_eq_true, if_false]
        exact ih s hm.2 hc hinv

theorem MK.append {a b : List BEv} (ha : MK a) (hb : MK b) : MK (a ++ b) := by
  unfold MK at *; rw [List.all_append, ha, hb]; rfl

@[simp] theorem all_evs (B : List Ev) : (B.map BEv.ev).all mOK = true := by
  induction B with
  | nil => rfl
  | cons e r ih => simp only [List.map_cons, List.all_cons, ih, mOK, Bool.and_self]

theorem MK.evs (B : List Ev) : MK (B.map BEv.ev) := all_evs B

theorem mk_cidrLoop (v6 : Bool) (leg : Leg) (rid : Nat) (P : Label) (nets : List Net) (idx : Nat) :
    MK (cidrLoop v6 leg rid P nets idx) :=
  cidrLoop_ind (P := MK) rfl MK.append v6 leg rid P rfl (fun _ _ => MK.evs _) nets idx

theorem mk_cidrs (v6 : Bool) (rid part : Nat) (neg : Bool) (leg : Leg) (nets : List Net) :
    MK (cidrsMatch v6 rid part neg leg nets).1 := by
  unfold cidrsMatch
  split
  · exact mk_cidrLoop _ _ _ _ _ _
  · exact (mk_cidrLoop _ _ _ _ _ _).append rfl

theorem mk_portLoop (rid : Nat) (leg : Leg) (P : Label) :
    ∀ (ports : List PortRange) (part : Nat), MK (portLoop rid leg P ports part).1 := by
  intro ports
  induction ports with
  | nil => intro _; rfl
  | cons pr rs ih =>
    intro part
    rw [(portLoop_cons rid leg P pr rs part).1]
    exact (MK.evs _).append (MK.append (by simp [MK, mOK, Ev.notJmp, load16, mk]) (ih _))

theorem mk_ports (c : Cfg) (rid part : Nat) (neg : Bool) (leg : Leg) (ports : List PortRange) (named : List Nat) :
    MK (portsMatch c rid part neg leg ports named).1 := by
  have hn : ∀ P : Label, MK (named.flatMap (fun id =>
      BEv.maybeSplit [] :: (ipSetLookup c id leg ++ [jumpNEImm64 R0 0 P]).map BEv.ev)) := by
    intro P
    induction named with
    | nil => rfl
    | cons id ids ih =>
      simp only [List.flatMap_cons]
      exact MK.append (by simp only [MK, List.all_cons, all_evs, mOK, List.all_nil, Bool.and_self]) ih
  unfold portsMatch
  have hl := mk_portLoop rid leg (if neg then Label.ruleNoMatch rid else Label.rulePart rid part) ports
    (if neg then part else part + 1)
  have h1 : MK (BEv.ev (load16 R1 R9 leg.portOff) ::
      (portLoop rid leg (if neg then Label.ruleNoMatch rid else Label.rulePart rid part) ports
        (if neg then part else part + 1)).1) := by
    simp only [MK, List.all_cons, mOK, Bool.true_and]; exact hl
  refine MK.append (MK.append h1 (hn _)) ?_
  split <;> rfl

theorem MK.ite_nil {b : Prop} [Decidable b] {n : Nat} {X : List BEv × Nat} (h : MK X.1) :
    MK (if b then ([], n) else X).1 :=
  ite_nil_ind (P := MK) rfl h

theorem mk_ruleMatches (c : Cfg) (rid : Nat) (r : Rule) (leg : Leg) : MK (ruleMatches c rid r leg) := by
  have cid := fun part neg leg nets => MK.ite_nil (b := nets.isEmpty) (n := part) (mk_cidrs c.v6 rid part neg leg nets)
  have prt := fun (b : Prop) [Decidable b] part neg leg ports named => MK.ite_nil (b := b) (n := part)
    (mk_ports c rid part neg leg ports named)
  rw [ruleMatches_eq]
  exact ((((((((((((MK.evs _).append (cid _ _ _ _)).append (cid _ _ _ _)).append (cid _ _ _ _)).append
    (cid _ _ _ _)).append (MK.evs _)).append (MK.evs _)).append (MK.evs _)).append (prt _ _ _ _ _ _)).append
    (prt _ _ _ _ _ _)).append (prt _ _ _ _ _ _)).append (prt _ _ _ _ _ _)).append (MK.evs _)

theorem mk_writeRule (c : Cfg) (rid : Nat) (r : Rule) (a : Label) (leg : Leg) : MK (writeRule c rid r a leg).1 := by
  unfold writeRule
  split
  · rfl
  · rename_i fr _
    have := (mk_ruleMatches c rid fr leg).append (MK.evs (endOfRule c rid r.matchID a))
    simp only [MK, List.all_cons, mOK, List.all_nil, Bool.true_and] at this ⊢
    exact this

theorem mk_policies (c : Cfg) (lab : String → Label) (leg : Leg) (ps : List Policy) (rid : Nat) :
    MK (writePolicies c lab leg ps rid).1 :=
  writePolicies_ind (P := MK) rfl MK.append c lab leg ps rid fun _ _ r _ rid' => mk_writeRule c rid' r _ leg

theorem mk_tiers (c : Cfg) (leg : Leg) (al : Label) :
    ∀ (ts : List Tier) (rid tid : Nat), MK (writeTiers c leg al ts rid tid).1 := by
  intro ts
  induction ts with
  | nil => intro _ _; rfl
  | cons t ts ih =>
    intro rid tid
    rw [writeTiers_cons]
    exact ((mk_policies c _ leg t.policies rid).append (mk_writeRule c _ _ _ leg)).append
      (MK.append (a := [_]) rfl (ih _ _))

theorem mk_profiles (c : Cfg) (al : Label) (ps : List Policy) (noMatchID rid : Nat) :
    MK (writeProfiles c al ps noMatchID rid).1 := by
  simp only [writeProfiles]
  exact (mk_policies c _ _ ps rid).append (mk_writeRule c _ _ _ _)

theorem mk_host (c : Cfg) (r : Rules) : MK (hostPart c r).1 := by
  have t := mk_tiers c
  have p := mk_profiles c
  unfold MK at t p ⊢
  cases h1 : r.forXDP <;> cases h2 : r.suppressNormalHostPolicy <;>
    simp [hostPart, h1, h2, List.all_append, mOK, t, p]

theorem mk_workload (c : Cfg) (r : Rules) (rid tid : Nat) : MK (workloadPart c r rid tid) := by
  have t := mk_tiers c
  have p := mk_profiles c
  unfold MK at t p ⊢
  unfold workloadPart
  split
  · rfl
  · simp [List.all_append, t, p]

theorem mapM_some_of_forall {α β : Type} (f : α → Option β) : ∀ l : List α, (∀ x ∈ l, ∃ y, f x = some y) →
    ∃ ys, l.mapM f = some ys
  | [], _ => ⟨[], rfl⟩
  | x :: xs, h => by
    obtain ⟨y, hy⟩ := h x List.mem_cons_self
    obtain ⟨ys, hys⟩ := mapM_some_of_forall f xs (fun x' hx' => h x' (List.mem_cons_of_mem _ hx'))
    exact ⟨y :: ys, by simp [List.mapM_cons, hy, hys]⟩

theorem instructions_total_split (c : Cfg) (r : Rules) (hb : Buildable r)
    (hsb : ShortBlocks c r.forXDP (compile c r) {}) (hstride : c.trampolineStride ≤ 32767) :
    ∃ progs, instructions c r = some (some progs) := by
  have hexp := expand_cont c r.forXDP (compile c r) hsb
  have hshape : compile c r =
      ((headerEvs c).map BEv.ev ++ ((hostPart c r).1 ++ workloadPart c r (hostPart c r).2.1 (hostPart c r).2.2)) ++
        (footerEvs c r.forXDP).map BEv.ev := by
    rw [compile_bodyB, bodyB]; simp only [List.append_assoc]
  have hmk : MK ((headerEvs c).map BEv.ev ++ ((hostPart c r).1 ++ workloadPart c r (hostPart c r).2.1 (hostPart c r).2.2)) :=
    (MK.evs _).append ((mk_host c r).append (mk_workload c r _ _))
  have hcl : CL [] (flat ((headerEvs c).map BEv.ev ++ ((hostPart c r).1 ++
      workloadPart c r (hostPart c r).2.1 (hostPart c r).2.2)) ++ footerEvs c r.forXDP) := by
    have := compile_closed c r hb
    rw [hshape, flat_append, flat_map_ev] at this
    exact this
  have hexit : Label.exit ∈ labelsOf (footerEvs c r.forXDP) := by
    rw [labelsOf_footer]; simp [footerLabels]
  have hfix := cont_fix c r.forXDP (footerEvs c r.forXDP) hexit _ {} hmk hcl (by intro l h; cases h)
  rw [← hshape] at hfix
  obtain ⟨h1, h2⟩ := hsb
  have hall : ∀ p ∈ (cont c r.forXDP (compile c r) {}).1 :: (cont c r.forXDP (compile c r) {}).2,
      ∃ q, assemble p = some q := by
    intro p hp
    simp only [List.mem_cons] at hp
    rcases hp with rfl | hp
    · refine assemble_of_fix _ hfix.1 ?_
      have : (cont c r.forXDP (compile c r) {}).1.length ≤ c.trampolineStride := by simpa using h1
      omega
    · exact assemble_of_fix _ (hfix.2 p hp) (by have := h2 p hp; omega)
  obtain ⟨qs, hqs⟩ := mapM_some_of_forall assemble _ hall
  refine ⟨qs, ?_⟩
  rw [instructions_of_buildable c r hb, hexp]
  simp [hqs]

theorem mapM_some_getElem {α β : Type} (f : α → Option β) : ∀ (l : List α) (ys : List β), l.mapM f = some ys →
    ys.length = l.length ∧ ∀ k (h : k < l.length), ∃ y, ys[k]? = some y ∧ f l[k] = some y
  | [], ys, h => by simp at h; subst h; exact ⟨rfl, by intro k h; cases h⟩
  | x :: xs, ys, h => by
    simp only [List.mapM_cons] at h
    cases hx : f x with
    | none => simp [hx] at h
    | some y =>
      cases hxs : xs.mapM f with
      | none => simp [hx, hxs] at h
      | some ys' =>
        simp [hx, hxs] at h
        subst h
        obtain ⟨h1, h2⟩ := mapM_some_getElem f xs ys' hxs
        refine ⟨by simp [h1], fun k hk => ?_⟩
        cases k with
        | zero => exact ⟨y, rfl, hx⟩
        | succ k =>
          simp only [List.length_cons] at hk
          obtain ⟨q, hq1, hq2⟩ := h2 k (by omega)
          exact ⟨q, by simpa using hq1, by simpa using hq2⟩

theorem chainK_tail (env : Env) (blocks : List (List Ev)) (idx : Word) (m : Mach) (k' : Nat)
    (hne : env.c.policyJumpMapFD ≠ env.c.staticJumpMapFD) (hs : slotToProg env.c idx = some k')
    (j : Nat) :
    chainK env (blocks.drop j) j (.tail env.c.policyJumpMapFD idx m) =
      if h : j ≤ k' ∧ k' < blocks.length then
        chainK env (blocks.drop (k' + 1)) (k' + 1) (lrun env blocks[k'] (Mach.init m.st))
      else .fault := by
  generalize hd : blocks.length - j = d
  induction d generalizing j with
  | zero =>
    rw [List.drop_of_length_le (by omega), dif_neg (by omega)]
    simp [chainK, hne]
  | succ d ih =>
    have hj : j < blocks.length := by omega
    rw [List.drop_eq_getElem_cons hj]
    simp only [chainK, hne, ne_eq, not_false_eq_true, and_self, if_true, hs]
    by_cases h1 : k' = j
    · subst h1; rw [if_pos rfl, dif_pos ⟨Nat.le_refl _, hj⟩]
    · rw [if_neg h1]
      by_cases h2 : j < k'
      · rw [if_pos h2, ih (j + 1) (by omega)]
        by_cases h3 : k' < blocks.length
        · rw [dif_pos ⟨by omega, h3⟩, dif_pos ⟨by omega, h3⟩]
        · rw [dif_neg (by omega), dif_neg (by omega)]
      · rw [if_neg h2, dif_neg (by omega)]

theorem chainK_noSlot (env : Env) (bs : List (List Ev)) (base : Nat) (idx : Word) (m : Mach)
    (hne : env.c.policyJumpMapFD ≠ env.c.staticJumpMapFD) (hs : slotToProg env.c idx = none) :
    chainK env bs base (.tail env.c.policyJumpMapFD idx m) = .fault := by
  cases bs <;> simp [chainK, hne, hs]

theorem runChain_chainK (env : Env) (blocks : List (List Ev)) (progs : List (List Insn))
    (hasm : blocks.mapM assemble = some progs) (k : Nat) (st : List Byte) (hk : k < blocks.length)
    (hnf : (chainK env (blocks.drop (k + 1)) (k + 1) (lrun env blocks[k] (Mach.init st))).isFault = false) :
    runChain env progs k st = chainK env (blocks.drop (k + 1)) (k + 1) (lrun env blocks[k] (Mach.init st)) := by
  obtain ⟨hlen, hget⟩ := mapM_some_getElem assemble blocks progs hasm
  -- by induction on the number of programs still ahead
  suffices H : ∀ (n k : Nat) (st : List Byte) (hk : k < blocks.length), blocks.length - k ≤ n →
      (chainK env (blocks.drop (k + 1)) (k + 1) (lrun env blocks[k] (Mach.init st))).isFault = false →
      runChain env progs k st = chainK env (blocks.drop (k + 1)) (k + 1) (lrun env blocks[k] (Mach.init st)) from
    H _ k st hk (Nat.le_refl _) hnf
  clear hnf hk st k
  intro n
  induction n with
  | zero => intro k st hk hn; omega
  | succ n ih =>
    intro k st hk hn hnf
    obtain ⟨p, hp1, hp2⟩ := hget k hk
    rw [runChain]
    simp only [hp1]
    have hnf0 : (lrun env blocks[k] (Mach.init st)).isFault = false := by
      cases hl : lrun env blocks[k] (Mach.init st) with
      | fault => rw [hl, chainK_stop _ _ _ _ (by intro _ _ _ e; cases e)] at hnf; exact hnf
      | «exit» _ _ => rfl
      | tail _ _ _ => rfl
    rw [assemble_sound env _ p _ hp2 hnf0]
    cases hl : lrun env blocks[k] (Mach.init st) with
    | fault => rw [hl] at hnf0; cases hnf0
    | «exit» r0 m => exact (chainK_stop _ _ _ _ (by intro _ _ _ e; cases e)).symm
    | tail fd idx m =>
      rw [hl] at hnf
      simp only
      by_cases hpol : fd = env.c.policyJumpMapFD ∧ fd ≠ env.c.staticJumpMapFD
      · rw [if_pos hpol]
        obtain ⟨rfl, hne⟩ := hpol
        cases hs : slotToProg env.c idx with
        | none => exact (chainK_noSlot env _ _ idx m hne hs).symm
        | some k' =>
          rw [chainK_tail env blocks idx m k' hne hs (k + 1)] at hnf ⊢
          simp only
          by_cases hkk : k + 1 ≤ k' ∧ k' < blocks.length
          · rw [dif_pos hkk] at hnf ⊢
            rw [dif_pos ⟨hkk.1, by rw [hlen]; exact hkk.2⟩]
            exact ih k' m.st hkk.2 (by omega) hnf
          · rw [dif_neg hkk, dif_neg (by rw [hlen]; exact hkk)]
      · rw [if_neg hpol]
        exact (chainK_stop _ _ _ _ (by intro _ _ _ e; cases e; exact hpol)).symm

end CalicoVerif.C11
