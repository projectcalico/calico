import CalicoVerif.Proofs.C36Pfx
/-!
C36: the IPv6 code paths work on two `uint64` halves (`AsUint64Pair`); they compute the same
thing as the width-128 definitions (`v6CommonPrefix_eq_generic`, `v6Contains_eq_generic`,
`v6NthBit_eq_generic`).  The shifted all-ones word of the Go code is `mask 64`, so the facts about
`mask` at any width apply to each half.
-/
namespace CalicoVerif.C36

theorem bitLen_eq_of {n m : Nat} (h : ∀ k, n < 2 ^ k ↔ m ≤ k) : bitLen n = m := by
  have h1 := (bitLen_le_iff n m).2 ((h m).2 (Nat.le_refl _))
  have h2 := (h (bitLen n)).1 ((bitLen_le_iff n _).1 (Nat.le_refl _))
  omega

theorem lt_two_pow_add_iff (x j : Nat) : x < 2 ^ (64 + j) ↔ x / 2 ^ 64 < 2 ^ j := by
  rw [Nat.div_lt_iff_lt_mul (Nat.two_pow_pos 64), Nat.pow_add, Nat.mul_comm]

theorem bitLen_high {x : Nat} (h0 : x / 2 ^ 64 ≠ 0) : bitLen x = 64 + bitLen (x / 2 ^ 64) := by
  refine bitLen_eq_of fun k => ?_
  rcases Nat.lt_or_ge k 64 with hk | hk
  · refine ⟨fun h => absurd (Nat.div_eq_of_lt ?_) h0, fun h => absurd (Nat.le_trans (Nat.le_add_right ..) h) (Nat.not_le_of_gt hk)⟩
    exact Nat.lt_of_lt_of_le h (Nat.pow_le_pow_right (by decide) (Nat.le_of_lt hk))
  · obtain ⟨j, rfl⟩ := Nat.exists_eq_add_of_le hk
    rw [lt_two_pow_add_iff, ← bitLen_le_iff, Nat.add_le_add_iff_left]

theorem clz128_xor (x y : Nat) :
    clz 128 (x ^^^ y) = if x / 2 ^ 64 ^^^ y / 2 ^ 64 = 0 then 64 + clz 64 (x % 2 ^ 64 ^^^ y % 2 ^ 64)
      else clz 64 (x / 2 ^ 64 ^^^ y / 2 ^ 64) := by
  rw [← Nat.xor_mod_two_pow, ← Nat.shiftRight_eq_div_pow, ← Nat.shiftRight_eq_div_pow, ← Nat.shiftRight_xor_distrib,
    Nat.shiftRight_eq_div_pow]
  generalize x ^^^ y = z
  unfold clz
  split
  · rename_i h0
    have hz : z < 2 ^ 64 := (Nat.div_eq_zero_iff.1 h0).resolve_left (Nat.ne_of_gt (Nat.two_pow_pos 64))
    rw [Nat.mod_eq_of_lt hz]
    exact Nat.add_sub_assoc (bitLen_le_of_lt hz) 64
  · rename_i h0
    rw [bitLen_high h0]
    exact Nat.add_sub_add_left 64 64 _

theorem shl64_ones (sh : Nat) : shl64 (2 ^ 64 - 1) sh = mask 64 (64 - sh) := by
  unfold shl64 mask
  by_cases h : sh < 64
  · rw [if_pos h, Nat.sub_sub_self (Nat.le_of_lt h)]
  · rw [if_neg h, Nat.sub_eq_zero_of_le (Nat.le_of_not_lt h), Nat.shiftLeft_eq, Nat.mul_mod_left]

theorem mask_halves (l x : Nat) (hx : x < 2 ^ 128) :
    mask 128 l &&& x = 2 ^ 64 * (mask 64 l &&& x / 2 ^ 64) + (mask 64 (64 - (128 - l)) &&& x % 2 ^ 64) := by
  have hl : x % 2 ^ 64 < 2 ^ 64 := Nat.mod_lt _ (Nat.two_pow_pos 64)
  have hh : x / 2 ^ 64 < 2 ^ 64 := Nat.div_lt_of_lt_mul hx
  apply Nat.eq_of_testBit_eq
  intro i
  rw [Nat.testBit_two_pow_mul_add _ (Nat.lt_of_le_of_lt Nat.and_le_right hl), testBit_mask_and _ _ _ _ hx,
    testBit_mask_and _ _ _ _ hh, testBit_mask_and _ _ _ _ hl, Nat.testBit_div_two_pow, Nat.testBit_mod_two_pow]
  by_cases hi : i < 64
  · rw [if_pos hi, decide_eq_true hi, Bool.true_and,
      show decide (128 - l ≤ i) = decide (64 - (64 - (128 - l)) ≤ i) from decide_eq_decide.2 (by omega)]
  · rw [if_neg hi, Nat.sub_add_cancel (Nat.le_of_not_lt hi),
      show decide (128 - l ≤ i) = decide (64 - l ≤ i - 64) from decide_eq_decide.2 (by omega)]

theorem div_mod_two_pow_of_mod {x n m : Nat} (h : x % 2 ^ (n + m) = 0) : x / 2 ^ n % 2 ^ m = 0 := by
  rw [← Nat.mod_mul_right_div_self, ← Nat.pow_add, h, Nat.zero_div]

/-- **IPv6 arithmetic**: `V6CommonPrefix` as written (two `uint64` halves, shifts by ≥ 64
giving 0, unmasked high half when the prefix is short) equals the width-128 common prefix
that the trie theorems are about, for all masked CIDRs. -/
theorem v6CommonPrefix_eq_generic {a b : Pfx} (ha : a.WF 128) (hb : b.WF 128) :
    v6CommonPrefix a b = commonPrefix 128 a b := by
  unfold v6CommonPrefix commonPrefix
  simp only [shl64_ones, mask_halves _ _ ha.addr_lt, clz128_xor]
  split
  · -- equal high halves: the high half is kept whole; it is already masked when the prefix is shorter than 64
    rename_i h0
    have hbh : b.addr / 2 ^ 64 = a.addr / 2 ^ 64 := (xor_eq_zero h0).symm
    clear h0
    generalize hl : min (64 + clz 64 (a.addr % 2 ^ 64 ^^^ b.addr % 2 ^ 64)) (min b.len a.len) = l
    have hl' : l < 64 → l = a.len ∨ l = b.len := by omega
    clear hl
    have hz : ∀ z : Pfx, z.WF 128 → l = z.len → l < 64 → z.addr / 2 ^ 64 % 2 ^ (64 - l) = 0 :=
      fun z hz e h => div_mod_two_pow_of_mod (by rw [← Nat.add_sub_assoc (Nat.le_of_lt h), e]; exact hz.masked)
    have hm : a.addr / 2 ^ 64 % 2 ^ (64 - l) = 0 := by
      by_cases h : l < 64
      · rcases hl' h with e | e
        · exact hz a ha e h
        · rw [← hbh]; exact hz b hb e h
      · rw [Nat.sub_eq_zero_of_le (Nat.le_of_not_lt h)]; exact Nat.mod_one _
    rw [mask_and_self (Nat.div_lt_of_lt_mul ha.addr_lt) hm]
  · rename_i h0
    generalize hl : min (clz 64 (a.addr / 2 ^ 64 ^^^ b.addr / 2 ^ 64)) (min b.len a.len) = l
    have hl64 : l < 64 := hl ▸ Nat.lt_of_le_of_lt (Nat.min_le_left ..) (clz_lt (by decide) h0)
    clear hl h0
    rw [Nat.sub_sub_self (Nat.le_of_lt hl64), Nat.sub_eq_zero_of_le (Nat.le_sub_of_add_le (Nat.add_le_add_left (Nat.le_of_lt hl64) 64)),
      mask_zero, Nat.zero_and, Nat.add_zero]

/-- **IPv6 arithmetic**: `ContainsV6` as written (two halves) equals the width-128 `Contains`. -/
theorem v6Contains_eq_generic {c : Pfx} {a : Nat} (hc : c.addr < 2 ^ 128) (ha : a < 2 ^ 128) :
    v6Contains c a = c.contains 128 a := by
  unfold v6Contains Pfx.contains
  simp only [clz128_xor]

/-- **IPv6 arithmetic**: `V6Addr.NthBit` as written (two halves) equals the width-128 `NthBit`. -/
theorem v6NthBit_eq_generic (a n : Nat) : v6NthBit a n = nthBit 128 a n := by
  unfold v6NthBit nthBit
  simp only
  by_cases h1 : n ≤ 64
  · simp only [h1, if_true, show n ≤ 128 by omega]
    rw [← Nat.shiftRight_eq_div_pow, ← Nat.shiftRight_add, show 64 + (64 - n) = 128 - n by omega]
  · simp only [h1, if_false]
    by_cases h2 : n ≤ 128
    · simp only [h2, if_true, Nat.shiftRight_eq_div_pow]
      rw [← Nat.toNat_testBit, ← Nat.toNat_testBit, Nat.testBit_mod_two_pow,
        decide_eq_true (show 128 - n < 64 by omega), Bool.true_and]
    · simp [h2]

end CalicoVerif.C36
