import CalicoVerif.Proofs.C26
/-!
C26 — the cache invariant (downstream mirrors `resources ∪ oldResources`, the two are disjoint, the
announced status is tracked, no update while waiting) and its preservation by the building blocks of the
cache: `WC.send`, `WC.markAsValid`, `WC.handleConverted`, `WC.handleWatchListEvent`.  `Same` and `Told` say
once what the status-only primitives (`leaveWait`, `leaveWaitIfAny`, `beginFull`) do, so that each of them is
unfolded in one lemma (`_cases`/`_told` in `C26Machine`) and everything about it follows from `Told`, also that it
announces no InSync (`NoNewInSync`, the relation behind "InSync only after a List"; its lemmas for the other
primitives are in `C26Loop`).
-/
namespace CalicoVerif.C26

/-- Invariant of a cache relative to the start of the current call: `m0` is what downstream held and `st0`
the status it had been told when `out` was empty. -/
structure Inv (m0 : View) (st0 : Nat) (wc : WC) : Prop where
  disj : ∀ k, oldLookup wc k ≠ none → lookup wc.res k = none
  mirror : ∀ k, downFrom m0 wc.out k = view wc k
  track : lastStatus st0 wc.out = wc.status
  quiet : quietFrom st0 wc.out = true

theorem view_congr {wc wc' : WC} (hr : wc'.res = wc.res) (ho : wc'.old = wc.old) (k : Nat) :
    view wc' k = view wc k := by
  simp only [view, oldLookup, hr, ho]

theorem oldLookup_idle {wc : WC} (h : wc.old = none) (k : Nat) : oldLookup wc k = none := by
  rw [oldLookup, h]; rfl

theorem view_idle {wc : WC} (h : wc.old = none) (k : Nat) : view wc k = lookup wc.res k := by
  rw [view, oldLookup_idle h]
  cases lookup wc.res k <;> rfl

theorem Inv.extend {m0 : View} {st0 : Nat} {wc : WC} (h : Inv m0 st0 wc) (ext : List Res) (w : WC)
    (hout : w.out = wc.out ++ ext) (hst : w.status = lastStatus wc.status ext)
    (hq : quietFrom wc.status ext = true) (hd : ∀ k, oldLookup w k ≠ none → lookup w.res k = none)
    (hv : ∀ k, view w k = downFrom (view wc) ext k) : Inv m0 st0 w :=
  ⟨hd, fun k => by rw [hout, downFrom_append, hv, ← funext h.mirror],
    by rw [hout, lastStatus_append, h.track, hst], by rw [hout, quietFrom_append, h.quiet, h.track, hq]; rfl⟩

theorem Inv.rearrange {m0 : View} {st0 : Nat} {wc : WC} (h : Inv m0 st0 wc) (w : WC) (hout : w.out = wc.out)
    (hst : w.status = wc.status) (hd : ∀ k, oldLookup w k ≠ none → lookup w.res k = none)
    (hv : ∀ k, view w k = view wc k) : Inv m0 st0 w :=
  h.extend [] w (by rw [hout, List.append_nil]) hst rfl hd hv

theorem Inv.of_eq {m0 : View} {st0 : Nat} {wc wc' : WC} (h : Inv m0 st0 wc) (hr : wc'.res = wc.res)
    (ho : wc'.old = wc.old) (hout : wc'.out = wc.out) (hs : wc'.status = wc.status) : Inv m0 st0 wc' :=
  h.rearrange wc' hout hs (fun k hk => hr ▸ h.disj k (by rwa [oldLookup, ← ho])) (view_congr hr ho)

structure Keeps (a b : WC) : Prop where
  proc : b.proc = a.proc
  pst : b.pst = a.pst

theorem Keeps.refl (a : WC) : Keeps a a := ⟨rfl, rfl⟩

theorem Keeps.trans {a b c : WC} (h1 : Keeps a b) (h2 : Keeps b c) : Keeps a c :=
  ⟨h2.proc.trans h1.proc, h2.pst.trans h1.pst⟩

theorem send_cases (wc : WC) (r : Res) :
    (r = .status wc.status ∧ wc.send r = wc) ∨
      wc.send r = { wc with status := lastStatus wc.status [r], out := wc.out ++ [r] } := by
  cases r with
  | status s =>
    simp only [WC.send]
    split
    · next h => exact Or.inl ⟨h ▸ rfl, rfl⟩
    · exact Or.inr rfl
  | _ => exact Or.inr rfl

theorem send_res (wc : WC) (r : Res) : (wc.send r).res = wc.res := by
  rcases send_cases wc r with ⟨_, e⟩ | e <;> rw [e]

theorem send_old (wc : WC) (r : Res) : (wc.send r).old = wc.old := by
  rcases send_cases wc r with ⟨_, e⟩ | e <;> rw [e]

theorem send_keeps (wc : WC) (r : Res) : Keeps wc (wc.send r) := by
  rcases send_cases wc r with ⟨_, e⟩ | e <;> rw [e] <;> exact ⟨rfl, rfl⟩

theorem send_status (wc : WC) (s : Nat) : (wc.send (.status s)).status = s := by
  rcases send_cases wc (.status s) with ⟨h, e⟩ | e <;> rw [e]
  · exact (Res.status.inj h).symm
  · rfl

theorem Inv.send {m0 : View} {st0 : Nat} {wc : WC} (h : Inv m0 st0 wc) (r : Res) (hr : ∀ us, r ≠ .updates us) :
    Inv m0 st0 (wc.send r) := by
  rcases send_cases wc r with ⟨_, e⟩ | e <;> rw [e]
  · exact h
  · cases r with
    | updates us => exact absurd rfl (hr us)
    | _ => exact h.extend [_] _ rfl rfl rfl h.disj fun _ => rfl

theorem Inv.send_status {m0 : View} {st0 : Nat} {wc : WC} (h : Inv m0 st0 wc) (s : Nat) :
    Inv m0 st0 (wc.send (.status s)) :=
  h.send _ fun _ e => Res.noConfusion e

/-- `w` differs from `wc` at most in the connection fields (`rev`, `errCount`, `resets`, the flags), which `Inv`
does not read (`LoopInv` and `Rested` read `rev`). -/
structure Same (wc w : WC) : Prop where
  res : w.res = wc.res
  old : w.old = wc.old
  out : w.out = wc.out
  status : w.status = wc.status
  keeps : Keeps wc w

theorem Same.refl (wc : WC) : Same wc wc := ⟨rfl, rfl, rfl, rfl, ⟨rfl, rfl⟩⟩

theorem Inv.same {m0 : View} {st0 : Nat} {wc w : WC} (h : Inv m0 st0 wc) (s : Same wc w) : Inv m0 st0 w :=
  h.of_eq s.res s.old s.out s.status

def Told (wc w : WC) : Prop :=
  ∃ w0, Same wc w0 ∧ (w = w0 ∨ ∃ s, s ≠ stInSync ∧ w = w0.send (.status s))

theorem Told.inv {m0 : View} {st0 : Nat} {wc w : WC} (t : Told wc w) (h : Inv m0 st0 wc) : Inv m0 st0 w := by
  obtain ⟨w0, s, e | ⟨_, _, e⟩⟩ := t <;> rw [e]
  · exact h.same s
  · exact (h.same s).send_status _

theorem Told.res {wc w : WC} (t : Told wc w) : w.res = wc.res := by
  obtain ⟨w0, s, e | ⟨_, _, e⟩⟩ := t <;> rw [e]
  · exact s.res
  · exact (send_res _ _).trans s.res

theorem Told.old {wc w : WC} (t : Told wc w) : w.old = wc.old := by
  obtain ⟨w0, s, e | ⟨_, _, e⟩⟩ := t <;> rw [e]
  · exact s.old
  · exact (send_old _ _).trans s.old

theorem Told.keeps {wc w : WC} (t : Told wc w) : Keeps wc w := by
  obtain ⟨w0, s, e | ⟨_, _, e⟩⟩ := t <;> rw [e]
  · exact s.keeps
  · exact s.keeps.trans (send_keeps _ _)

def NoNewInSync (wc w : WC) : Prop := ∀ r ∈ w.out, r ∈ wc.out ∨ r ≠ Res.status stInSync

theorem NoNewInSync.refl (wc : WC) : NoNewInSync wc wc := fun _ h => Or.inl h

theorem NoNewInSync.of_out {wc w : WC} (h : w.out = wc.out) : NoNewInSync wc w := fun _ hr => Or.inl (h ▸ hr)

theorem NoNewInSync.trans {a b c : WC} (h1 : NoNewInSync a b) (h2 : NoNewInSync b c) : NoNewInSync a c := by
  intro r hr
  rcases h2 r hr with h | h
  · exact h1 r h
  · exact Or.inr h

theorem NoNewInSync.of_append {wc w : WC} {ext : List Res} (h : w.out = wc.out ++ ext)
    (hn : Res.status stInSync ∉ ext) : NoNewInSync wc w :=
  fun _ hr => (List.mem_append.mp (h ▸ hr)).imp id fun he e => hn (e ▸ he)

theorem NoNewInSync.send {wc : WC} (r : Res) (hr : r ≠ Res.status stInSync) : NoNewInSync wc (wc.send r) := by
  rcases send_cases wc r with ⟨_, e⟩ | e <;> rw [e]
  · exact NoNewInSync.refl wc
  · exact NoNewInSync.of_append rfl fun c => hr (List.mem_singleton.mp c).symm

theorem Told.noNew {wc w : WC} (t : Told wc w) : NoNewInSync wc w := by
  obtain ⟨w0, s, e | ⟨st, hst, e⟩⟩ := t <;> rw [e]
  · exact NoNewInSync.of_out s.out
  · exact (NoNewInSync.of_out s.out).trans (NoNewInSync.send _ fun c => hst (Res.status.inj c))

theorem Inv.emits {m0 : View} {st0 : Nat} {wc : WC} (h : Inv m0 st0 wc) {ext : List Res} (hu : OnlyUpdates ext)
    (hs : wc.status ≠ stWait ∨ ext = []) (w : WC) (hout : w.out = wc.out ++ ext) (hst : w.status = wc.status)
    (hd : ∀ k, oldLookup w k ≠ none → lookup w.res k = none)
    (hv : ∀ k, view w k = downFrom (view wc) ext k) : Inv m0 st0 w :=
  h.extend ext w hout (by rw [lastStatus_onlyUpdates _ hu, hst]) (quietFrom_onlyUpdates hu hs) hd hv

theorem onlyUpdates_singleton (us : List Upd) : OnlyUpdates [.updates us] :=
  fun _ hr => ⟨us, List.mem_singleton.mp hr⟩

theorem markAsValid_cases (wc : WC) (k : Nat) :
    (oldLookup wc k = none ∧ wc.markAsValid k = wc) ∨
    ∃ o r, wc.old = some o ∧ lookup o k = some r ∧
      wc.markAsValid k = { wc with res := insert wc.res k r, old := some (erase o k) } := by
  unfold WC.markAsValid oldLookup
  cases wc.old with
  | none => exact Or.inl ⟨rfl, rfl⟩
  | some o =>
    cases hl : lookup o k with
    | none => exact Or.inl ⟨hl, by simp only [hl]⟩
    | some r => exact Or.inr ⟨o, r, rfl, hl, by simp only [hl]⟩

theorem markAsValid_out (wc : WC) (k : Nat) : (wc.markAsValid k).out = wc.out := by
  rcases markAsValid_cases wc k with ⟨_, e⟩ | ⟨o, r, _, _, e⟩ <;> rw [e]

theorem markAsValid_status (wc : WC) (k : Nat) : (wc.markAsValid k).status = wc.status := by
  rcases markAsValid_cases wc k with ⟨_, e⟩ | ⟨o, r, _, _, e⟩ <;> rw [e]

theorem markAsValid_keeps (wc : WC) (k : Nat) : Keeps wc (wc.markAsValid k) := by
  rcases markAsValid_cases wc k with ⟨_, e⟩ | ⟨o, r, _, _, e⟩ <;> rw [e] <;> exact ⟨rfl, rfl⟩

theorem markAsValid_idle (wc : WC) (k : Nat) (h : wc.old = none) : (wc.markAsValid k).old = none := by
  rcases markAsValid_cases wc k with ⟨_, e⟩ | ⟨o, r, ho, _, _⟩
  · rw [e]; exact h
  · rw [h] at ho; cases ho

theorem markAsValid_old (wc : WC) (k k' : Nat) :
    oldLookup (wc.markAsValid k) k' = if k' = k then none else oldLookup wc k' := by
  rcases markAsValid_cases wc k with ⟨hn, e⟩ | ⟨o, r, ho, _, e⟩ <;> rw [e]
  · split
    · next ek => exact ek ▸ hn
    · rfl
  · simp only [oldLookup, ho, Option.bind_some, lookup_erase]

theorem markAsValid_view (wc : WC) (k : Nat) (hd : ∀ k, oldLookup wc k ≠ none → lookup wc.res k = none) (k' : Nat) :
    view (wc.markAsValid k) k' = view wc k' := by
  rcases markAsValid_cases wc k with ⟨_, e⟩ | ⟨o, r, ho, hl, e⟩ <;> rw [e]
  simp only [view, oldLookup, ho, Option.bind_some, lookup_insert, lookup_erase]
  by_cases ek : k' = k
  · subst ek
    have := hd k' (by simp only [oldLookup, ho, Option.bind_some, hl]; exact Option.some_ne_none r)
    simp only [if_true, this, hl]
  · simp only [if_neg ek]

theorem markAsValid_disj (wc : WC) (k : Nat) (hd : ∀ k, oldLookup wc k ≠ none → lookup wc.res k = none) :
    ∀ k', oldLookup (wc.markAsValid k) k' ≠ none → lookup (wc.markAsValid k).res k' = none := by
  intro k' hk'
  rw [markAsValid_old] at hk'
  split at hk'
  · exact absurd rfl hk'
  · next ek =>
    rcases markAsValid_cases wc k with ⟨_, e⟩ | ⟨o, r, _, _, e⟩ <;> rw [e]
    · exact hd k' hk'
    · simp only [lookup_insert, if_neg ek]; exact hd k' hk'

theorem Inv.markAsValid {m0 : View} {st0 : Nat} {wc : WC} (h : Inv m0 st0 wc) (k : Nat) :
    Inv m0 st0 (wc.markAsValid k) :=
  h.rearrange _ (markAsValid_out wc k) (markAsValid_status wc k) (markAsValid_disj wc k h.disj)
    (markAsValid_view wc k h.disj)

def mentions (c : List KV) (k : Nat) : Bool := c.any (fun kv => kv.key == k)

theorem mentions_append (x y : List KV) (k : Nat) : mentions (x ++ y) k = (mentions x k || mentions y k) :=
  List.any_append

theorem mentions_iff (c : List KV) (k : Nat) : mentions c k = true ↔ ∃ kv ∈ c, kv.key = k := by
  simp [mentions]

theorem mentions_false_iff (c : List KV) (k : Nat) : mentions c k = false ↔ ∀ kv ∈ c, kv.key ≠ k := by
  rw [← Bool.not_eq_true, mentions_iff]; simp

/-- What processing the raw KVs that convert to `c` does to a cache `wc`, giving `w`. -/
structure StepOK (m0 : View) (st0 : Nat) (wc w : WC) (c : List KV) : Prop where
  inv : Inv m0 st0 w
  view : ∀ k, view w k = c.foldl applyKV (view wc) k
  old : ∀ k, oldLookup w k = if mentions c k then none else oldLookup wc k
  status : w.status = wc.status
  idle : wc.old = none → w.old = none
  mode : w.proc = wc.proc

theorem StepOK.refl {m0 : View} {st0 : Nat} {wc : WC} (h : Inv m0 st0 wc) : StepOK m0 st0 wc wc [] :=
  ⟨h, fun _ => rfl, fun _ => rfl, rfl, id, rfl⟩

theorem StepOK.trans {m0 : View} {st0 : Nat} {a b c : WC} {x y : List KV}
    (h1 : StepOK m0 st0 a b x) (h2 : StepOK m0 st0 b c y) : StepOK m0 st0 a c (x ++ y) := by
  refine ⟨h2.inv, fun k => ?_, fun k => ?_, h2.status.trans h1.status, fun h => h2.idle (h1.idle h),
    h2.mode.trans h1.mode⟩
  · rw [h2.view, List.foldl_append, funext h1.view]
  · rw [h2.old, h1.old, mentions_append]
    cases mentions x k <;> cases mentions y k <;> rfl

def KV.entry (kv : KV) : Option Nat := if kv.del then none else some kv.rev

structure Wrote (w1 w : WC) (kv : KV) (u : Upd) : Prop where
  upd : ∀ m, applyUpd m u = applyKV m kv
  res : ∀ k, lookup w.res k = if k = kv.key then kv.entry else lookup w1.res k
  old : w.old = w1.old
  out : w.out = w1.out ++ [.updates [u]]
  status : w.status = w1.status
  keeps : Keeps w1 w

theorem handleConverted_cases (wc : WC) (kv : KV) :
    (lookup (wc.markAsValid kv.key).res kv.key = kv.entry ∧ wc.handleConverted kv = wc.markAsValid kv.key) ∨
    ∃ u, Wrote (wc.markAsValid kv.key) (wc.handleConverted kv) kv u := by
  unfold WC.handleConverted WC.handleDeleted WC.handleAddMod
  simp only
  generalize wc.markAsValid kv.key = w1
  cases hd : kv.del with
  | true =>
    have hent : kv.entry = none := if_pos hd
    simp only [if_true]
    split
    · exact Or.inr ⟨delUpd kv.key, fun m => funext fun k => by simp only [applyUpd, applyKV, delUpd, hd, if_true],
        fun k => by rw [hent]; exact lookup_erase _ _ _, rfl, rfl, rfl, ⟨rfl, rfl⟩⟩
    · next hl => exact Or.inl ⟨hl.trans hent.symm, rfl⟩
  | false =>
    have hent : kv.entry = some kv.rev := if_neg (by rw [hd]; exact Bool.false_ne_true)
    have set : ∀ ut, ut ≠ utDeleted → ∀ m, applyUpd m ⟨kv.key, kv.rev, ut⟩ = applyKV m kv := fun ut hut m =>
      funext fun k => by simp only [applyUpd, applyKV, if_neg hut, hd, Bool.false_eq_true, if_false]
    simp only [Bool.false_eq_true, if_false]
    split
    · next r hl =>
      split
      · next hr => exact Or.inl ⟨by rw [hl, hr, hent], rfl⟩
      · exact Or.inr ⟨_, set utUpdated (by decide), fun k => by rw [hent]; exact lookup_insert _ _ _ _,
          rfl, rfl, rfl, ⟨rfl, rfl⟩⟩
    · exact Or.inr ⟨_, set utNew (by decide), fun k => by rw [hent]; exact lookup_insert _ _ _ _,
        rfl, rfl, rfl, ⟨rfl, rfl⟩⟩

theorem handleConverted_ok {m0 : View} {st0 : Nat} {wc : WC} (h : Inv m0 st0 wc) (hs : wc.status ≠ stWait)
    (kv : KV) : StepOK m0 st0 wc (wc.handleConverted kv) [kv] ∧ Keeps wc (wc.handleConverted kv) := by
  have hInv := h.markAsValid kv.key
  have hOldLookup := markAsValid_old wc kv.key
  have hView := markAsValid_view wc kv.key h.disj
  have hKeeps := markAsValid_keeps wc kv.key
  have old : ∀ k, oldLookup (wc.markAsValid kv.key) k = if mentions [kv] k then none else oldLookup wc k := by
    intro k
    rw [hOldLookup, mentions, List.any_cons, List.any_nil, Bool.or_false]
    by_cases e : k = kv.key
    · rw [if_pos e, e, beq_self_eq_true]; rfl
    · rw [if_neg e, beq_eq_false_iff_ne.mpr fun x => e x.symm]; rfl
  -- the key is no longer in `oldResources`, so the cache's view of it is what `resources` has
  have vkey : ∀ w : WC, w.old = (wc.markAsValid kv.key).old → view w kv.key = lookup w.res kv.key := by
    intro w hw
    rw [view, oldLookup, hw, ← oldLookup, hOldLookup, if_pos rfl]
    cases lookup w.res kv.key <;> rfl
  have step : ∀ k, [kv].foldl applyKV (view wc) k =
      if k = kv.key then kv.entry else view (wc.markAsValid kv.key) k := by
    intro k
    rw [List.foldl_cons, List.foldl_nil, applyKV, hView]
    by_cases ek : k = kv.key
    · rw [if_pos ek, if_pos ek.symm]; rfl
    · rw [if_neg ek, if_neg fun x => ek x.symm]
  rcases handleConverted_cases wc kv with ⟨hl, e⟩ | ⟨u, wr⟩
  · rw [e]
    refine ⟨⟨hInv, fun k => ?_, old, markAsValid_status wc kv.key, markAsValid_idle wc kv.key, hKeeps.proc⟩, hKeeps⟩
    rw [step]
    split
    · next ek => rw [ek, vkey _ rfl, hl]
    · rfl
  · have hv : ∀ k, view (wc.handleConverted kv) k = [kv].foldl applyKV (view wc) k := by
      intro k
      rw [step]
      split
      · next ek => rw [ek, vkey _ wr.old]; exact (wr.res _).trans (if_pos rfl)
      · next ek => simp only [view, oldLookup, wr.res, if_neg ek, wr.old]
    have hol : ∀ k, oldLookup (wc.handleConverted kv) k = oldLookup (wc.markAsValid kv.key) k := fun k => by
      rw [oldLookup, wr.old, ← oldLookup]
    have hdisj : ∀ k, oldLookup (wc.handleConverted kv) k ≠ none → lookup (wc.handleConverted kv).res k = none := by
      intro k hk
      rw [wr.res]
      rw [hol, hOldLookup] at hk
      split
      · next ek => exact absurd (if_pos ek) hk
      · next ek => exact hInv.disj k (by rw [hOldLookup]; exact hk)
    have hview : ∀ k, view (wc.handleConverted kv) k = [u].foldl applyUpd (view (wc.markAsValid kv.key)) k :=
      fun k => by rw [hv, List.foldl_cons, List.foldl_nil, List.foldl_cons, List.foldl_nil, wr.upd, funext hView]
    have hInv' := hInv.emits (onlyUpdates_singleton [u]) (Or.inl (by rw [markAsValid_status]; exact hs)) _ wr.out
      wr.status hdisj hview
    exact ⟨⟨hInv', hv, fun k => (hol k).trans (old k), wr.status.trans (markAsValid_status wc kv.key),
      fun hi => wr.old.trans (markAsValid_idle wc kv.key hi), wr.keeps.proc.trans hKeeps.proc⟩, hKeeps.trans wr.keeps⟩

theorem foldl_handleConverted_ok {m0 : View} {st0 : Nat} (c : List KV) {wc : WC} (h : Inv m0 st0 wc)
    (hs : wc.status ≠ stWait) :
    StepOK m0 st0 wc (c.foldl WC.handleConverted wc) c ∧ Keeps wc (c.foldl WC.handleConverted wc) := by
  induction c generalizing wc with
  | nil => exact ⟨StepOK.refl h, Keeps.refl wc⟩
  | cons kv c ih =>
    obtain ⟨s1, k1⟩ := handleConverted_ok h hs kv
    obtain ⟨s2, k2⟩ := ih s1.inv (s1.status ▸ hs)
    exact ⟨s1.trans s2, k1.trans k2⟩

theorem StepOK.send_convErr {m0 : View} {st0 : Nat} {wc w : WC} {c : List KV} (s : StepOK m0 st0 wc w c) :
    StepOK m0 st0 wc (w.send .convErr) c :=
  ⟨s.inv.send _ fun _ e => Res.noConfusion e, s.view, s.old, s.status, s.idle, s.mode⟩

def WC.converted (wc : WC) (kv : KV) : WC :=
  (procRun wc.proc wc.pst kv).2.1.foldl WC.handleConverted
    { wc with rev := kv.rev, errCount := 0, pst := (procRun wc.proc wc.pst kv).1 }

theorem handleWatchListEvent_cases (wc : WC) (kv : KV) :
    wc.handleWatchListEvent kv = wc.converted kv ∨ wc.handleWatchListEvent kv = (wc.converted kv).send .convErr := by
  unfold WC.handleWatchListEvent WC.converted
  simp only
  split
  · exact Or.inr rfl
  · exact Or.inl rfl

theorem handleWatchListEvent_ok {m0 : View} {st0 : Nat} {wc : WC} (h : Inv m0 st0 wc) (hs : wc.status ≠ stWait)
    (kv : KV) :
    StepOK m0 st0 wc (wc.handleWatchListEvent kv) (procRun wc.proc wc.pst kv).2.1 ∧
      (wc.handleWatchListEvent kv).pst = (procRun wc.proc wc.pst kv).1 := by
  have h0 : Inv m0 st0 { wc with rev := kv.rev, errCount := 0, pst := (procRun wc.proc wc.pst kv).1 } :=
    h.of_eq rfl rfl rfl rfl
  obtain ⟨s, k⟩ := foldl_handleConverted_ok (procRun wc.proc wc.pst kv).2.1 h0 hs
  -- `s` is about the record update of `wc` above, whose view, `oldResources`, status and processor are those of `wc`
  -- by reduction: the same fields prove the statement about `wc`
  have s : StepOK m0 st0 wc (wc.converted kv) _ := ⟨s.inv, s.view, s.old, s.status, s.idle, s.mode⟩
  rcases handleWatchListEvent_cases wc kv with e | e <;> rw [e]
  · exact ⟨s, k.pst⟩
  · exact ⟨s.send_convErr, k.pst⟩

theorem foldl_handleWatchListEvent_ok {m0 : View} {st0 : Nat} (kvs : List KV) {wc : WC} (h : Inv m0 st0 wc)
    (hs : wc.status ≠ stWait) :
    StepOK m0 st0 wc (kvs.foldl WC.handleWatchListEvent wc) (convSeq wc.proc wc.pst kvs) ∧
      (kvs.foldl WC.handleWatchListEvent wc).pst = convState wc.proc wc.pst kvs := by
  induction kvs generalizing wc with
  | nil => exact ⟨StepOK.refl h, rfl⟩
  | cons kv kvs ih =>
    obtain ⟨s1, p1⟩ := handleWatchListEvent_ok h hs kv
    obtain ⟨s2, p2⟩ := ih s1.inv (s1.status ▸ hs)
    rw [s1.mode, p1] at s2 p2
    exact ⟨s1.trans s2, p2⟩

end CalicoVerif.C26
