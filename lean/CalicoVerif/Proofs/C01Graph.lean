import CalicoVerif.Model.C01
import CalicoVerif.Proofs.C02
import CalicoVerif.Proofs.C07Hist
import CalicoVerif.Proofs.C03Resolver
/-! C01: the calc graph as a transition system over eleven elementary actions.

Every function of `Model/C01` below `Graph.step` / `Graph.flush` is a composition of: stores into the fields of the
dispatcher, the ARC's policy path and the resolver; the ARC's profile path; a label-index operation with its callbacks;
`sendPolicyUpdate`; member-index operations `idxOp`; and direct calls on the sequencer, `emit`.  This file says that once
(`Act`, `Graph.act`, `prog`, `step_eq`).  Beside it: the frames `Keep` (what the rule scanner and everything below it
leaves alone) and `UpKeep` (what a label-index callback leaves alone), `Sends Q` (which calls were made; `sendsTower`, for one update `sends_step`),
and the datastore state after a history, `dsRun`.  The file opens with the few facts about `setOrDel` / `mget` over a mapped
list that the C01 files share, and `foldl_keeps`.

An invariant is carried along a history in one of two ways:
 * action by action (`acts_run`; `Tower.run` for a `Tower`): an invariant of the graph alone whose side condition on an
   action does not depend on the state.  To add one: prove `∀ a, A a → P g → P (g.act H a)`.
 * update by update (`run_induction`, with a lemma `P ds g → P (ds.apply u) (g.step H u)`): an invariant that relates
   the graph to the datastore state, because that state moves once per update, not per action.  Inside such a lemma the
   graph side is still read off the actions (`step_eq`): a closed form by `acts_proj` and `foldl_prog`, or `Tower.act`,
   or a walk of `upper g u` (`step_res`, `arcP_step`); nothing opens `Graph.step` itself.
   `ArcP` (C01PolAct) speaks of the graph alone and goes this way all the same: its side condition `Act.reg N g`, "the
   number is registered", depends on the state (the first action of the same update establishes it), and the two actions
   of a policy update that store the value and refresh its row keep `PolAct` only together (`arcP_polProg`). -/
namespace CalicoVerif.C01
open CalicoVerif C02

theorem foldl_keeps {α : Type} {P : Graph → Prop} (f : Graph → α → Graph) (hf : ∀ g a, P g → P (f g a))
    (l : List α) (g : Graph) (hi : P g) : P (l.foldl f g) :=
  List.foldlRecOn l f hi (fun b hb a _ => hf b a hb)

theorem profEvents_keeps {P : Graph → Prop} (H : IdFn) (h : ∀ g p r, P g → P (g.scanRules H (.prof p) r)) (g : Graph)
    (evs : List (C05.Event RulesIn)) (hi : P g) : P (g.profEvents H evs) := by
  unfold Graph.profEvents
  refine foldl_keeps _ (fun g e hg => ?_) _ _ hi
  cases e with
  | active p r => cases r <;> exact h _ _ _ hg
  | inactive p => exact h _ _ _ hg

theorem mget_setOrDel {κ β : Type} [DecidableEq κ] (k k' : κ) (v : Option β) (m : List (κ × β)) :
    mget (setOrDel k v m) k' = if k' = k then v else mget m k' := by
  cases v with
  | none => simp [setOrDel, mget_mdel]
  | some x => simp [setOrDel, mget_mset]

theorem mem_setOrDel {κ β : Type} [DecidableEq κ] {k : κ} {v : Option β} {m : List (κ × β)} {p : κ × β}
    (h : p ∈ setOrDel k v m) : p ∈ m ∨ (p.1 = k ∧ v = some p.2) := by
  cases v with
  | none =>
    simp only [setOrDel, mdel, List.mem_filter] at h
    exact Or.inl h.1
  | some x =>
    simp only [setOrDel, mset, mdel, List.mem_append, List.mem_filter, List.mem_singleton] at h
    rcases h with h | h
    · exact Or.inl h.1
    · subst h; exact Or.inr ⟨rfl, rfl⟩

theorem mkeys_setOrDel_nodup {κ β : Type} [DecidableEq κ] {m : List (κ × β)} (k : κ) (v : Option β)
    (h : (mkeys m).Nodup) : (mkeys (setOrDel k v m)).Nodup := by
  cases v with
  | none => exact mkeys_mdel_nodup h
  | some x => exact mkeys_mset_nodup h

theorem mget_map_self {κ β : Type} [DecidableEq κ] (F : κ → β) : ∀ (l : List κ) (k : κ),
    mget (l.map (fun p => (p, F p))) k = if k ∈ l then some (F k) else none
  | [], _ => by simp
  | a :: t, k => by
    simp only [List.map_cons, mget, List.mem_cons]
    by_cases h : a = k
    · subst h; simp
    · have h' : ¬ k = a := fun e => h e.symm
      simp only [h, h', if_false, false_or]
      exact mget_map_self F t k

theorem mget_map_val {κ β γ : Type} [DecidableEq κ] (F : κ → β → γ) (m : List (κ × β)) (k : κ) :
    mget (m.map (fun e => (e.1, F e.1 e.2))) k = (mget m k).map (F k) := by
  rw [mget_eq, mget_eq]; exact Assoc.get_map_val F m k

theorem emit_eq (g : Graph) (cs : List Call) :
    g.emit cs = { g with seq := (applyCalls g.seq cs).getD g.seq,
                         panicked := g.panicked || (applyCalls g.seq cs).isNone, calls := g.calls ++ cs } := by
  unfold Graph.emit
  cases applyCalls g.seq cs <;> simp

theorem emit_calls (g : Graph) (cs : List Call) : (g.emit cs).calls = g.calls ++ cs := by rw [emit_eq]

theorem emit_seq {g : Graph} {cs : List Call} {s : State} (h : applyCalls g.seq cs = some s) :
    (g.emit cs).seq = s := by rw [emit_eq, h]; rfl

theorem emit_rs (g : Graph) (cs : List Call) : (g.emit cs).rs = g.rs := by rw [emit_eq]
theorem emit_active (g : Graph) (cs : List Call) : (g.emit cs).active = g.active := by rw [emit_eq]
theorem emit_idx (g : Graph) (cs : List Call) : (g.emit cs).idx = g.idx := by rw [emit_eq]

def idxCalls (g : Graph) (op : C04.Op Str) : List Call :=
  ((C04.step matchSel g.idx op).out.drop g.idx.out.length).filterMap idxCall

theorem idxOp_eq (g : Graph) (op : C04.Op Str) :
    g.idxOp op = ({ g with idx := C04.step matchSel g.idx op,
                           panicked := g.panicked || (C04.step matchSel g.idx op).panicked } : Graph).emit
      (idxCalls g op) := rfl

theorem idxOp_idx (g : Graph) (op : C04.Op Str) : (g.idxOp op).idx = C04.step matchSel g.idx op := by
  rw [idxOp_eq, emit_idx]
theorem idxOp_calls (g : Graph) (op : C04.Op Str) : (g.idxOp op).calls = g.calls ++ idxCalls g op := by
  rw [idxOp_eq, emit_calls]
theorem idxOp_rs (g : Graph) (op : C04.Op Str) : (g.idxOp op).rs = g.rs := by rw [idxOp_eq, emit_rs]
theorem idxOp_active (g : Graph) (op : C04.Op Str) : (g.idxOp op).active = g.active := by rw [idxOp_eq, emit_active]

theorem mem_idxCalls {g : Graph} {op : C04.Op Str} {c : Call} (h : c ∈ idxCalls g op) :
    ∃ s m, c = .memberAdded s m ∨ c = .memberRemoved s m := by
  obtain ⟨e, _, he⟩ := List.mem_filterMap.mp h
  cases e with
  | added s m => exact ⟨s, showMember m, Or.inl (Option.some.inj he).symm⟩
  | removed s m => exact ⟨s, showMember m, Or.inr (Option.some.inj he).symm⟩
  | cleared s => cases he

/-- `currentUIDToIPSet` of the rules handed to `updateRules` (none = OnXInactive) -/
def curOf (H : IdFn) : Option RulesIn → List (String × IpSetDef)
  | some r => currentSets H r
  | none => []

theorem rsUpdate_eq (H : IdFn) (g : Graph) (key : RulesId) (rules : Option RulesIn) :
    g.rsUpdate H key rules = List.foldl Graph.onRsEvent
      { g with rs := (g.rs.updateRules key (curOf H rules)).1, active := setOrDel key rules g.active }
      (g.rs.updateRules key (curOf H rules)).2 := by
  cases rules <;> rfl

theorem onRsEvent_rs (g : Graph) (e : RsEvent) : (g.onRsEvent e).rs = g.rs := by
  cases e with
  | ipsetActive uid d => exact (idxOp_rs _ _).trans (emit_rs _ _)
  | ipsetInactive uid => exact (emit_rs _ _).trans (idxOp_rs _ _)

theorem onRsEvent_active (g : Graph) (e : RsEvent) : (g.onRsEvent e).active = g.active := by
  cases e with
  | ipsetActive uid d => exact (idxOp_active _ _).trans (emit_active _ _)
  | ipsetInactive uid => exact (emit_active _ _).trans (idxOp_active _ _)

theorem scanRules_rs (H : IdFn) (g : Graph) (key : RulesId) (rules : Option RulesIn) :
    (g.scanRules H key rules).rs = (g.rs.updateRules key (curOf H rules)).1 := by
  unfold Graph.scanRules
  rw [emit_rs, rsUpdate_eq]
  exact foldl_keeps (P := fun g' => g'.rs = _) Graph.onRsEvent (fun g e h => (onRsEvent_rs g e).trans h) _ _ rfl

theorem scanRules_active (H : IdFn) (g : Graph) (key : RulesId) (rules : Option RulesIn) :
    (g.scanRules H key rules).active = setOrDel key rules g.active := by
  unfold Graph.scanRules
  rw [emit_active, rsUpdate_eq]
  exact foldl_keeps (P := fun g' => g'.active = _) Graph.onRsEvent (fun g e h => (onRsEvent_active g e).trans h) _ _ rfl

def Graph.flushResolver (g : Graph) : Graph :=
  match g.res.flush with
  | some (r, calls) => ({ g with res := r }).emit calls
  | none => { g with panicked := true }

def Graph.flushed (g : Graph) : List Call := (g.res.flush.map (·.2)).getD []

theorem flushResolver_eq (g : Graph) :
    g.flushResolver = ({ g with res := (g.res.flush.map (·.1)).getD g.res,
                                panicked := g.panicked || g.res.flush.isNone } : Graph).emit g.flushed := by
  unfold Graph.flushResolver Graph.flushed
  cases g.res.flush <;> simp [emit_eq, applyCalls]

theorem flushResolver_res {g : Graph} {r : C03.Resolver} {calls : List Call} (h : g.res.flush = some (r, calls)) :
    g.flushResolver.res = r := by rw [flushResolver_eq, emit_eq, h]; rfl

theorem flushResolver_calls {g : Graph} {r : C03.Resolver} {calls : List Call} (h : g.res.flush = some (r, calls)) :
    g.flushResolver.calls = g.calls ++ calls := by rw [flushResolver_eq, emit_calls]; unfold Graph.flushed; rw [h]; rfl

theorem flushResolver_res_cases {P : C03.Resolver → Prop} (g : Graph) (h0 : P g.res)
    (h : ∀ r cs, g.res.flush = some (r, cs) → P r) : P g.flushResolver.res := by
  cases hf : g.res.flush with
  | none => rw [flushResolver_eq, emit_eq, hf]; exact h0
  | some x => rw [flushResolver_res hf]; exact h _ _ hf

theorem flush_eq (g : Graph) :
    g.flush = ({ g.flushResolver with seq := g.flushResolver.seq.flush.1 }, g.flushResolver.seq.flush.2) := by
  unfold Graph.flush Graph.flushResolver
  rfl

theorem resolver_flush_calls {r r' : C03.Resolver} {calls : List Call} (h : r.flush = some (r', calls)) :
    ∀ c ∈ calls, ∃ k v, c = .endpointUpdate k v := by
  rcases C03.flush_cases h with ⟨_, _, rfl⟩ | ⟨_, _, _, _, rfl⟩
  · exact fun _ hc => nomatch hc
  · intro c hc
    obtain ⟨e, _, rfl⟩ := List.mem_map.mp hc
    exact ⟨_, _, rfl⟩

theorem flushed_endpointUpdate (g : Graph) : ∀ c ∈ g.flushed, ∃ k v, c = .endpointUpdate k v := by
  unfold Graph.flushed
  cases hf : g.res.flush with
  | none => exact fun _ hc => nomatch hc
  | some x => exact resolver_flush_calls (r' := x.1) (calls := x.2) hf

structure Keep (g g' : Graph) : Prop where
  arcProf : g'.arcProf = g.arcProf
  lbl : g'.lbl = g.lbl
  polEps : g'.polEps = g.polEps
  allPolicies : g'.allPolicies = g.allPolicies
  polKeys : g'.polKeys = g.polKeys
  epKeys : g'.epKeys = g.epKeys
  res : g'.res = g.res

theorem Keep.rfl' (g : Graph) : Keep g g := ⟨rfl, rfl, rfl, rfl, rfl, rfl, rfl⟩

theorem Keep.trans {a b c : Graph} (h1 : Keep a b) (h2 : Keep b c) : Keep a c :=
  ⟨h2.arcProf.trans h1.arcProf, h2.lbl.trans h1.lbl, h2.polEps.trans h1.polEps, h2.allPolicies.trans h1.allPolicies,
   h2.polKeys.trans h1.polKeys, h2.epKeys.trans h1.epKeys, h2.res.trans h1.res⟩

/-- `trans` with the known step first, so that a first step given by `rfl`s elaborates against a known graph -/
theorem Keep.pre {a b c : Graph} (h2 : Keep b c) (h1 : Keep a b) : Keep a c := h1.trans h2

theorem keep_emit (g : Graph) (cs : List Call) : Keep g (g.emit cs) := by
  rw [emit_eq]; exact ⟨rfl, rfl, rfl, rfl, rfl, rfl, rfl⟩

theorem keep_idxOp (g : Graph) (op : C04.Op Str) : Keep g (g.idxOp op) := by
  rw [idxOp_eq]; exact (keep_emit _ _).pre ⟨rfl, rfl, rfl, rfl, rfl, rfl, rfl⟩

theorem keep_onRsEvent (g : Graph) (e : RsEvent) : Keep g (g.onRsEvent e) := by
  cases e with
  | ipsetActive uid d => exact (keep_emit _ _).trans (keep_idxOp _ _)
  | ipsetInactive uid => exact (keep_idxOp _ _).trans (keep_emit _ _)

theorem keep_scanRules (H : IdFn) (g : Graph) (key : RulesId) (rules : Option RulesIn) :
    Keep g (g.scanRules H key rules) := by
  unfold Graph.scanRules
  rw [rsUpdate_eq]
  exact ((foldl_keeps (P := Keep _) _ (fun g' e k => k.trans (keep_onRsEvent g' e)) _ _ (Keep.rfl' _)).trans
    (keep_emit _ _)).pre ⟨rfl, rfl, rfl, rfl, rfl, rfl, rfl⟩

theorem keep_profEvents (H : IdFn) (g : Graph) (evs : List (C05.Event RulesIn)) : Keep g (g.profEvents H evs) :=
  profEvents_keeps (P := Keep g) H (fun g' _ r k => k.trans (keep_scanRules H g' _ r)) g evs (Keep.rfl' g)

theorem keep_arcProfStep (H : IdFn) (g : Graph) (u : C05.Upd RulesIn) :
    Keep { g with arcProf := C05.step g.arcProf u } (g.arcProfStep H u) :=
  keep_profEvents H _ _

theorem keep_sendPolicyUpdate (H : IdFn) (g : Graph) (n : Nat) : Keep g (g.sendPolicyUpdate H n) := by
  unfold Graph.sendPolicyUpdate
  split
  · split
    · exact keep_scanRules H g _ _
    · exact ⟨rfl, rfl, rfl, rfl, rfl, rfl, rfl⟩
  · exact keep_scanRules H g _ _

theorem keep_sendIf (H : IdFn) (b : Bool) (g : Graph) (n : Nat) :
    Keep g (if b = true then g.sendPolicyUpdate H n else g) := by
  split
  · exact keep_sendPolicyUpdate H g n
  · exact Keep.rfl' g

theorem polKey_congr {g g' : Graph} (h : g'.polKeys = g.polKeys) (n : Nat) : g'.polKey n = g.polKey n := by
  unfold Graph.polKey; rw [h]

theorem epKey_congr {g g' : Graph} (h : g'.epKeys = g.epKeys) (n : Nat) : g'.epKey n = g.epKey n := by
  unfold Graph.epKey; rw [h]

theorem polActive_congr {g g' : Graph} (h : g'.polEps = g.polEps) (n : Nat) : g'.polActive n = g.polActive n := by
  unfold Graph.polActive; rw [h]

def evSel : C07.Event → Nat
  | .started s _ => s
  | .stopped s _ => s
def evItem : C07.Event → Nat
  | .started _ i => i
  | .stopped _ i => i

def evWrite : C07.Event → List (Nat × Nat) → List (Nat × Nat)
  | .started s i, m => C02.sadd (s, i) m
  | .stopped s i, m => C02.sdel (s, i) m

def matchEv (g : Graph) : C07.Event → C03.Event
  | .started s i => .matchStarted (g.polKey s) (g.epKey i)
  | .stopped s i => .matchStopped (g.polKey s) (g.epKey i)

/-- the ARC's part of a label-index callback -/
def Graph.afterMatch (H : IdFn) (g : Graph) : C07.Event → Graph
  | .started s i =>
    if (!g.polActive s) = true then Graph.sendPolicyUpdate H { g with polEps := C02.sadd (s, i) g.polEps } s
    else { g with polEps := C02.sadd (s, i) g.polEps }
  | .stopped s i =>
    if (!Graph.polActive { g with polEps := C02.sdel (s, i) g.polEps } s) = true then
      Graph.sendPolicyUpdate H { g with polEps := C02.sdel (s, i) g.polEps } s
    else { g with polEps := C02.sdel (s, i) g.polEps }

theorem keep_afterMatch (H : IdFn) (g : Graph) (e : C07.Event) :
    Keep { g with polEps := evWrite e g.polEps } (g.afterMatch H e) := by
  cases e <;> exact keep_sendIf H _ _ _

theorem onMatchEvent_eq (H : IdFn) (g : Graph) (e : C07.Event) :
    g.onMatchEvent H e = { g.afterMatch H e with res := g.res.step (matchEv g e) } := by
  have k := keep_afterMatch H g e
  have e1 : (g.afterMatch H e).res = g.res := k.res
  have e2 : (g.afterMatch H e).polKeys = g.polKeys := k.polKeys
  have e3 : (g.afterMatch H e).epKeys = g.epKeys := k.epKeys
  cases e <;>
  · unfold matchEv Graph.polKey Graph.epKey
    rw [← e1, ← e2, ← e3]
    rfl

structure UpKeep (g g' : Graph) : Prop where
  arcProf : g'.arcProf = g.arcProf
  lbl : g'.lbl = g.lbl
  allPolicies : g'.allPolicies = g.allPolicies
  polKeys : g'.polKeys = g.polKeys
  epKeys : g'.epKeys = g.epKeys

theorem UpKeep.trans {a b c : Graph} (h1 : UpKeep a b) (h2 : UpKeep b c) : UpKeep a c :=
  ⟨h2.arcProf.trans h1.arcProf, h2.lbl.trans h1.lbl, h2.allPolicies.trans h1.allPolicies, h2.polKeys.trans h1.polKeys,
    h2.epKeys.trans h1.epKeys⟩

theorem onMatchEvent_up (H : IdFn) (g : Graph) (e : C07.Event) : UpKeep g (g.onMatchEvent H e) := by
  rw [onMatchEvent_eq]
  have k := keep_afterMatch H g e
  exact ⟨k.arcProf, k.lbl, k.allPolicies, k.polKeys, k.epKeys⟩

theorem onMatchEvent_polEps (H : IdFn) (g : Graph) (e : C07.Event) :
    (g.onMatchEvent H e).polEps = evWrite e g.polEps := by
  rw [onMatchEvent_eq]; exact (keep_afterMatch H g e).polEps

theorem onMatchEvent_res (H : IdFn) (g : Graph) (e : C07.Event) :
    (g.onMatchEvent H e).res = g.res.step (matchEv g e) := by rw [onMatchEvent_eq]

theorem foldl_onMatchEvent_keep (H : IdFn) {P : Graph → Prop} (g0 : Graph) (evs : List C07.Event)
    (hP : ∀ g, ∀ ev ∈ evs, UpKeep g0 g → P g → P (g.onMatchEvent H ev)) (hi : P g0) :
    UpKeep g0 (evs.foldl (Graph.onMatchEvent H) g0) ∧ P (evs.foldl (Graph.onMatchEvent H) g0) :=
  List.foldlRecOn evs _ (motive := fun g => UpKeep g0 g ∧ P g) ⟨⟨rfl, rfl, rfl, rfl, rfl⟩, hi⟩
    (fun g h ev hev => ⟨h.1.trans (onMatchEvent_up H g ev), hP g ev hev h.1 h.2⟩)

theorem lblStep_up (H : IdFn) (g : Graph) (r : C07.Idx × List C07.Event) : UpKeep { g with lbl := r.1 } (g.lblStep H r) :=
  (foldl_onMatchEvent_keep H (P := fun _ => True) _ r.2 (fun _ _ _ _ _ => trivial) trivial).1

theorem keep_flushResolver (g : Graph) : Keep { g with res := g.flushResolver.res } g.flushResolver := by
  rw [flushResolver_eq]
  exact (keep_emit _ _).pre ⟨rfl, rfl, rfl, rfl, rfl, rfl, (keep_emit _ _).res.symm⟩

/-- `P` is kept by the rule scanner and by everything below it that moves the fields `P` may read (`frame` lists them); such
a `P` is kept by every action (`Tower.act`), hence by every function of the graph.  `Ok` is asked of the
dispatcher's own member-index operations (`idxOps u`), `Em` of the calls emitted directly (`dirCalls u` and the resolver
flush's `endpointUpdate`s); for the calls made inside `scanRules` the instance answers itself, in `scanPol`. -/
structure Tower (H : IdFn) (Ok : C04.Op Str → Prop) (Em : Call → Prop) (P : Graph → Prop) : Prop where
  frame : ∀ {g g' : Graph}, P g → g'.arcProf = g.arcProf → g'.rs = g.rs → g'.active = g.active →
    g'.idx = g.idx → g'.seq = g.seq → g'.calls = g.calls → P g'
  scanPol : ∀ {g : Graph} (k : PolicyKey) (rules : Option RulesIn), P g → P (g.scanRules H (.pol k) rules)
  arcProfStep : ∀ {g : Graph} (u : C05.Upd RulesIn), P g → P (g.arcProfStep H u)
  idxOp : ∀ {g : Graph} (op : C04.Op Str), Ok op → P g → P (g.idxOp op)
  emit : ∀ {g : Graph} (cs : List Call), (∀ c ∈ cs, Em c) → P g → P (g.emit cs)

namespace Tower
variable {H : IdFn} {Ok : C04.Op Str → Prop} {Em : Call → Prop} {P : Graph → Prop} (hs : Tower H Ok Em P)
include hs

theorem sendPolicyUpdate {g : Graph} (n : Nat) (hi : P g) : P (g.sendPolicyUpdate H n) := by
  unfold Graph.sendPolicyUpdate
  split
  · split
    · exact hs.scanPol _ _ hi
    · exact hs.frame hi rfl rfl rfl rfl rfl rfl
  · exact hs.scanPol _ _ hi

theorem sendIf {g : Graph} (b : Bool) (n : Nat) (hi : P g) : P (if b = true then g.sendPolicyUpdate H n else g) := by
  split
  · exact hs.sendPolicyUpdate n hi
  · exact hi

theorem onMatchEvent {g : Graph} (e : C07.Event) (hi : P g) : P (g.onMatchEvent H e) := by
  rw [onMatchEvent_eq]
  refine hs.frame (g := g.afterMatch H e) ?_ rfl rfl rfl rfl rfl rfl
  cases e <;> exact hs.sendIf _ _ (hs.frame hi rfl rfl rfl rfl rfl rfl)

theorem lblStep {g : Graph} (r : C07.Idx × List C07.Event) (hi : P g) : P (g.lblStep H r) := by
  unfold Graph.lblStep
  exact foldl_keeps _ (fun _ e h => hs.onMatchEvent e h) _ _ (hs.frame hi rfl rfl rfl rfl rfl rfl)

end Tower

def idxOps : Upd → List (C04.Op Str)
  | .endpoint _ key _ (some e) => [.updateEndpoint (epKeyStr key) e.labels (C04.extractIPs e.nets) e.ports e.profiles]
  | .endpoint _ key _ none => [.deleteEndpoint (epKeyStr key)]
  | .netset name (some n) => [.updateEndpoint ("n:" ++ name) n.labels (C04.extractNetSet n.nets) [] n.profiles]
  | .netset name none => [.deleteEndpoint ("n:" ++ name)]
  | .profLabels pid (some ls) => [.updateParentLabels pid ls]
  | .profLabels pid none => [.deleteParentLabels pid]
  | _ => []

def dirCalls : Upd → List Call
  | .passthru c key v => [passthruCall c key v]
  | _ => []

theorem Tower.of_scan {H : IdFn} {Ok : C04.Op Str → Prop} {Em : Call → Prop} {P : Graph → Prop}
    (frame : ∀ {g g' : Graph}, P g → g'.rs = g.rs → g'.active = g.active → g'.idx = g.idx → g'.seq = g.seq →
      g'.calls = g.calls → P g')
    (scan : ∀ {g : Graph} (key : RulesId) (rules : Option RulesIn), P g → P (g.scanRules H key rules))
    (idxOp : ∀ {g : Graph} (op : C04.Op Str), Ok op → P g → P (g.idxOp op))
    (emit : ∀ {g : Graph} (cs : List Call), (∀ c ∈ cs, Em c) → P g → P (g.emit cs)) : Tower H Ok Em P where
  frame hi _ h2 h3 h4 h5 h6 := frame hi h2 h3 h4 h5 h6
  scanPol k rules hi := scan _ rules hi
  arcProfStep {g} u hi := by
    unfold Graph.arcProfStep
    exact profEvents_keeps H (fun _ _ r h => scan _ r h) _ _
      (frame (g' := { g with arcProf := C05.step g.arcProf u }) hi rfl rfl rfl rfl rfl)
  idxOp := idxOp
  emit := emit

inductive Act
  /-- the dispatcher notes the key of an endpoint / a policy number -/
  | regEp (nid : Nat) (key : EpKey)
  | regPol (nid : Nat) (key : PolicyKey)
  /-- the ARC's profile path -/
  | prof (u : C05.Upd RulesIn)
  /-- an operation of the ARC's label index, with its callbacks -/
  | lbl (op : C07.Op)
  /-- the ARC's `allPolicies` -/
  | setPol (nid : Nat) (v : Option PolVal)
  /-- `sendPolicyUpdate` if the policy is active -/
  | resend (nid : Nat)
  | res (e : C03.Event)
  | idx (op : C04.Op Str)
  | emit (cs : List Call)
  | panic
  /-- the PolicyResolver half of `Graph.flush` -/
  | flushRes

def Graph.act (H : IdFn) (g : Graph) : Act → Graph
  | .regEp nid key => { g with epKeys := C02.mset nid key g.epKeys }
  | .regPol nid key => { g with polKeys := C02.mset nid key g.polKeys }
  | .prof u => g.arcProfStep H u
  | .lbl op => g.lblStep H (op.apply g.lbl)
  | .setPol nid v => { g with allPolicies := setOrDel nid v g.allPolicies }
  | .resend nid => if g.polActive nid then g.sendPolicyUpdate H nid else g
  | .res e => g.resStep e
  | .idx op => g.idxOp op
  | .emit cs => g.emit cs
  | .panic => { g with panicked := true }
  | .flushRes => g.flushResolver

def epLblOp (nid : Nat) : Option EpVal → C07.Op
  | some e => .updateLabels nid (strLabels e.labels) (e.profiles.map String.toList)
  | none => .deleteLabels nid

def profLblOp (pid : String) : Option C04.Labels → C07.Op
  | some ls => .updateParentLabels pid.toList (strLabels ls)
  | none => .deleteParentLabels pid.toList

def epDataOf (v : EpVal) : EpData := ⟨v.tag, v.profiles⟩

/-- `ActiveRulesCalculator.OnUpdate` for a policy: nothing for an unchanged value (reflect.DeepEqual); otherwise store
it, re-scan under the new selector, and refresh the rule scanner if the policy is active -/
def polProg (g : Graph) (nid : Nat) : Option PolVal → List Act
  | none => [.setPol nid none, .lbl (.deleteSelector nid)]
  | some pv =>
    if mget g.allPolicies nid = some pv then [] else
    .setPol nid (some pv) :: match C06.parse pv.sel with
      | .error _ => [.panic]
      | .ok sel => [.lbl (.updateSelector nid sel), .resend nid]

/-- the actions of one update above the member index: the dispatcher's handlers in registration order -/
def upper (g : Graph) : Upd → List Act
  | .endpoint nid key true v =>
    [.regEp nid key, .prof (.endpoint (epKeyStr key) (v.map (·.profiles))), .lbl (epLblOp nid v),
     .res (.endpoint key (v.map epDataOf))]
  | .endpoint nid key false _ => [.regEp nid key]
  | .profLabels pid v => [.lbl (profLblOp pid v)]
  | .profRules pid v => [.prof (.profileRules pid v)]
  | .tier name v => [.res (.tier name v)]
  | .policy nid key v => .regPol nid key :: polProg g nid v ++ [.res (.policy key (v.map (·.pmeta)))]
  | _ => []

def prog (g : Graph) (u : Upd) : List Act :=
  upper g u ++ (idxOps u).map .idx ++ (dirCalls u).map (fun c => .emit [c])

theorem step_eq (H : IdFn) (g : Graph) (u : Upd) : g.step H u = (prog g u).foldl (Graph.act H) g := by
  -- both sides are unfolded as far as the elementary actions, so that `rfl` compares like with like (on the folded
  -- terms it unfolds the sequencer)
  rcases u with ⟨nid, key, _ | _, _ | e⟩ | ⟨name, _ | n⟩ | ⟨pid, _ | ls⟩ | _ | _ | ⟨nid, key, _ | pv⟩ | _ | _
  all_goals simp only [Graph.step, prog, upper, polProg, idxOps, dirCalls, Graph.act, Graph.localEndpoint,
    Graph.arcEndpoint, Graph.idxEndpoint, Graph.idxNetset, Graph.profLabels, Graph.arcPolicy, epLblOp, profLblOp,
    C07.Op.apply, List.map_cons, List.map_nil, List.append_nil, List.cons_append, List.nil_append, List.foldl_append,
    List.foldl_cons, List.foldl_nil, Option.map_none, Option.map_some, if_true, Bool.false_eq_true, if_false]
  all_goals try rfl
  split
  · rfl
  · simp only [List.foldl_cons, Graph.arcPolicyChanged, Graph.act]
    cases C06.parse pv.sel <;> rfl

def hprog (g : Graph) : HStep → List Act
  | .upd u => prog g u
  | .inSync => [.res (.status true)]
  | .flush => [.flushRes]

def seqFlush (g : Graph) : HStep → Graph
  | .flush => { g with seq := g.seq.flush.1 }
  | _ => g

theorem run_cons_fst (H : IdFn) (g : Graph) (st : HStep) (t : List HStep) :
    (run H g (st :: t)).1 = (run H (seqFlush ((hprog g st).foldl (Graph.act H) g) st) t).1 := by
  cases st with
  | upd u => simp only [run, hprog, step_eq, seqFlush]
  | inSync => rfl
  | flush => simp only [run, flush_eq]; rfl

theorem acts_keep {H : IdFn} {P : Graph → Prop} (as : List Act) {g : Graph}
    (h : ∀ a ∈ as, ∀ g, P g → P (g.act H a)) (hi : P g) : P (as.foldl (Graph.act H) g) :=
  List.foldlRecOn as _ hi (fun b hb a ha => h a ha b hb)

theorem acts_run {H : IdFn} {P : Graph → Prop} {A : Act → Prop} (hP : ∀ g a, A a → P g → P (g.act H a))
    (hseq : ∀ g, P g → P { g with seq := g.seq.flush.1 }) :
    ∀ (h : List HStep) {g : Graph}, (∀ st ∈ h, ∀ g, ∀ a ∈ hprog g st, A a) → P g → P (run H g h).1
  | [], _, _, hi => hi
  | st :: t, g, hA, hi => by
    rw [run_cons_fst]
    refine acts_run hP hseq t (fun x hx => hA x (List.mem_cons_of_mem _ hx)) ?_
    have := acts_keep (P := P) _ (fun a ha g' h => hP g' a (hA st (List.mem_cons_self ..) g a ha) h) hi
    cases st with
    | flush => exact hseq _ this
    | _ => exact this

theorem acts_proj {H : IdFn} {F : Type} (π : Graph → F) (f : F → Act → F) (h : ∀ g a, π (g.act H a) = f (π g) a) :
    ∀ (as : List Act) (g : Graph), π (as.foldl (Graph.act H) g) = as.foldl f (π g)
  | [], _ => rfl
  | a :: as, g => by rw [List.foldl_cons, List.foldl_cons, acts_proj π f h as, h]

theorem keep_lower (H : IdFn) (g : Graph) (u : Upd) : Keep ((upper g u).foldl (Graph.act H) g) (g.step H u) := by
  rw [step_eq, prog, List.foldl_append, List.foldl_append]
  refine acts_keep (P := Keep _) _ (fun a ha _ k => ?_) (acts_keep (P := Keep _) _ (fun a ha _ k => ?_) (Keep.rfl' _))
  · obtain ⟨c, _, rfl⟩ := List.mem_map.mp ha; exact k.trans (keep_emit _ _)
  · obtain ⟨op, _, rfl⟩ := List.mem_map.mp ha; exact k.trans (keep_idxOp _ _)

theorem foldl_prog {F : Type} (f : F → Act → F) (hi : ∀ x op, f x (.idx op) = x) (he : ∀ x cs, f x (.emit cs) = x)
    (g : Graph) (u : Upd) (x : F) : (prog g u).foldl f x = (upper g u).foldl f x := by
  have fix : ∀ {β : Type} (l : List β) (y : F), l.foldl (fun x _ => x) y = y := fun l y =>
    List.foldlRecOn (motive := fun z => z = y) l _ rfl (fun _ hb _ _ => hb)
  rw [prog, List.foldl_append, List.foldl_append, List.foldl_map, List.foldl_map]
  simp only [hi, he, fix]

theorem foldl_upper_policy {F : Type} (f : F → Act → F) (g : Graph) (nid : Nat) (key : PolicyKey) (v : Option PolVal) (x : F) :
    (upper g (.policy nid key v)).foldl f x =
      f ((polProg g nid v).foldl f (f x (.regPol nid key))) (.res (.policy key (v.map (·.pmeta)))) := by
  simp only [upper, List.foldl_cons, List.foldl_append, List.foldl_nil]

def Act.Ok (Ok : C04.Op Str → Prop) (Em : Call → Prop) : Act → Prop
  | .idx op => Ok op
  | .emit cs => ∀ c ∈ cs, Em c
  | .flushRes => ∀ k v, Em (.endpointUpdate k v)
  | _ => True

def Act.isUpper : Act → Prop
  | .idx _ | .emit _ | .flushRes => False
  | _ => True

theorem polProg_all {A : Act → Prop} {nid : Nat} (h1 : ∀ v, A (.setPol nid v)) (h2 : ∀ op, A (.lbl op)) (h3 : A .panic)
    (h4 : A (.resend nid)) (g : Graph) (v : Option PolVal) : ∀ a ∈ polProg g nid v, A a := by
  intro a ha
  cases v with
  | none =>
    simp only [polProg, List.mem_cons, List.not_mem_nil, or_false] at ha
    rcases ha with rfl | rfl
    · exact h1 _
    · exact h2 _
  | some pv =>
    simp only [polProg] at ha
    split at ha
    · cases ha
    · rcases List.mem_cons.mp ha with rfl | ha
      · exact h1 _
      · split at ha <;> simp only [List.mem_cons, List.not_mem_nil, or_false] at ha
        · rw [ha]; exact h3
        · rcases ha with rfl | rfl
          · exact h2 _
          · exact h4

theorem polProg_upper (g : Graph) (nid : Nat) (v : Option PolVal) : ∀ a ∈ polProg g nid v, a.isUpper :=
  polProg_all (fun _ => trivial) (fun _ => trivial) trivial trivial g v

theorem upper_isUpper (g : Graph) (u : Upd) : ∀ a ∈ upper g u, a.isUpper := by
  intro a ha
  cases u with
  | endpoint nid key l v =>
    cases l <;> simp only [upper, List.mem_cons, List.not_mem_nil, or_false] at ha
    · rw [ha]; trivial
    · rcases ha with rfl | rfl | rfl | rfl <;> trivial
  | policy nid key v =>
    simp only [upper, List.mem_cons, List.mem_append, List.not_mem_nil, or_false] at ha
    rcases ha with (rfl | ha) | rfl
    · trivial
    · exact polProg_upper g nid v a ha
    · trivial
  | netset _ _ => cases ha
  | passthru _ _ _ => cases ha
  | other => cases ha
  | profLabels _ _ => rw [List.mem_singleton.mp ha]; trivial
  | profRules _ _ => rw [List.mem_singleton.mp ha]; trivial
  | tier _ _ => rw [List.mem_singleton.mp ha]; trivial

theorem prog_ok {A : Act → Prop} (hA : ∀ a, a.isUpper → A a) (g : Graph) {u : Upd} (hok : ∀ op ∈ idxOps u, A (.idx op))
    (hem : ∀ c ∈ dirCalls u, A (.emit [c])) : ∀ a ∈ prog g u, A a := by
  intro a ha
  simp only [prog, List.mem_append, List.mem_map] at ha
  rcases ha with (ha | ⟨op, hop, rfl⟩) | ⟨c, hc, rfl⟩
  · exact hA a (upper_isUpper g u a ha)
  · exact hok op hop
  · exact hem c hc

theorem Act.isUpper.ok {Ok : C04.Op Str → Prop} {Em : Call → Prop} : ∀ {a : Act}, a.isUpper → a.Ok Ok Em
  | .idx _, h | .emit _, h | .flushRes, h => nomatch h
  | .regEp .., _ | .regPol .., _ | .prof _, _ | .lbl _, _ | .setPol .., _ | .resend _, _ | .res _, _ | .panic, _ => trivial

theorem okProg {Ok : C04.Op Str → Prop} {Em : Call → Prop} (g : Graph) {u : Upd} (hok : ∀ op ∈ idxOps u, Ok op)
    (hem : ∀ c ∈ dirCalls u, Em c) : ∀ a ∈ prog g u, a.Ok Ok Em :=
  prog_ok (fun _ h => h.ok) g hok (fun c hc c' hc' => by rw [List.mem_singleton.mp hc']; exact hem c hc)

namespace Tower
variable {H : IdFn} {Ok : C04.Op Str → Prop} {Em : Call → Prop} {P : Graph → Prop} (ht : Tower H Ok Em P)
include ht

theorem flushResolver {g : Graph} (hep : ∀ k v, Em (.endpointUpdate k v)) (hi : P g) : P g.flushResolver := by
  rw [flushResolver_eq]
  refine ht.emit _ (fun c hc => ?_) (ht.frame hi rfl rfl rfl rfl rfl rfl)
  obtain ⟨k, v, rfl⟩ := flushed_endpointUpdate g c hc
  exact hep k v

theorem act {g : Graph} (hi : P g) : ∀ a : Act, a.Ok Ok Em → P (g.act H a)
  | .regEp .., _ | .regPol .., _ | .setPol .., _ | .res _, _ | .panic, _ => ht.frame hi rfl rfl rfl rfl rfl rfl
  | .prof u, _ => ht.arcProfStep u hi
  | .lbl _, _ => ht.lblStep _ hi
  | .resend n, _ => ht.sendIf _ n hi
  | .idx op, h => ht.idxOp op h hi
  | .emit cs, h => ht.emit cs h hi
  | .flushRes, h => ht.flushResolver h hi

theorem step {g : Graph} (u : Upd) (hok : ∀ op ∈ idxOps u, Ok op) (hem : ∀ c ∈ dirCalls u, Em c) (hi : P g) :
    P (g.step H u) := by
  rw [step_eq]
  exact acts_keep _ (fun a ha g' h => ht.act h a (okProg g hok hem a ha)) hi

end Tower

/-- the model's `lastState h` is `dsRun {} h` by `rfl` -/
def dsRun (ds : DS) (h : List HStep) : DS :=
  h.foldl (fun ds st => match st with
    | .upd u => ds.apply u
    | _ => ds) ds

/-- `P` relates the datastore state to the graph, `S` is what is assumed of each step of the history. -/
theorem run_induction {H : IdFn} {P : DS → Graph → Prop} {S : HStep → Prop}
    (hupd : ∀ {ds g} (u : Upd), S (.upd u) → P ds g → P (ds.apply u) (g.step H u))
    (hsync : ∀ {ds g}, P ds g → P ds g.inSync) (hflush : ∀ {ds g}, P ds g → P ds g.flush.1) :
    ∀ (h : List HStep) {ds : DS} {g : Graph}, (∀ st ∈ h, S st) → P ds g → P (dsRun ds h) (run H g h).1 := by
  intro h
  induction h with
  | nil => intro _ _ _ hi; exact hi
  | cons st t ih =>
    intro ds g hS hi
    have hS' : ∀ st ∈ t, S st := fun st hst => hS st (List.mem_cons_of_mem _ hst)
    cases st with
    | upd u => exact ih hS' (hupd u (hS _ (List.mem_cons_self ..)) hi)
    | inSync => exact ih hS' (hsync hi)
    | flush =>
      have := ih hS' (hflush hi)
      simp only [run]
      exact this

def OkStep (Ok : C04.Op Str → Prop) : HStep → Prop
  | .upd u => ∀ op ∈ idxOps u, Ok op
  | _ => True

theorem okStep_true (st : HStep) : OkStep (fun _ => True) st := by
  cases st with
  | upd u => exact fun _ _ => trivial
  | _ => trivial

theorem Tower.run {H : IdFn} {Ok : C04.Op Str → Prop} {Em : Call → Prop} {P : Graph → Prop} (ht : Tower H Ok Em P)
    (hseq : ∀ {g : Graph}, P g → P { g with seq := g.seq.flush.1 })
    (hpass : ∀ c key v, Em (passthruCall c key v)) (hep : ∀ k v, Em (.endpointUpdate k v))
    (h : List HStep) {g : Graph} (hok : ∀ st ∈ h, OkStep Ok st) (hi : P g) : P (run H g h).1 :=
  acts_run (P := P) (A := Act.Ok Ok Em) (fun _ a ha hi => ht.act hi a ha) (fun _ hi => hseq hi) h (fun st hst g a ha => by
    cases st with
    | upd u =>
      refine okProg g (hok _ hst) (fun c hc => ?_) a ha
      cases u <;> simp only [dirCalls, List.not_mem_nil, List.mem_singleton] at hc
      subst hc; exact hpass _ _ _
    | inSync => rw [List.mem_singleton.mp ha]; trivial
    | flush => rw [List.mem_singleton.mp ha]; exact hep) hi

theorem run_snoc_flush (H : IdFn) : ∀ (h : List HStep) (g : Graph),
    run H g (h ++ [.flush]) = ((run H g h).1.flush.1, (run H g h).2 ++ (run H g h).1.flush.2)
  | [], g => by simp [run]
  | .upd u :: t, g => by simp only [List.cons_append, run]; exact run_snoc_flush H t _
  | .inSync :: t, g => by simp only [List.cons_append, run]; exact run_snoc_flush H t _
  | .flush :: t, g => by simp only [List.cons_append, run]; rw [run_snoc_flush H t]; simp [List.append_assoc]

theorem run_snoc_flush_fst (H : IdFn) (h : List HStep) (g : Graph) :
    (run H g (h ++ [.flush])).1 = (run H g h).1.flush.1 := by rw [run_snoc_flush]

theorem applyCalls_append (s : State) (a b : List Call) :
    applyCalls s (a ++ b) = (applyCalls s a).bind (fun s' => applyCalls s' b) := by
  induction a generalizing s with
  | nil => simp [applyCalls]
  | cons c cs ih =>
    simp only [List.cons_append, applyCalls]
    cases s.call c with
    | none => rfl
    | some s' => exact ih s'

structure SendsBy (Q : Call → Prop) (g g' : Graph) (cs : List Call) : Prop where
  calls : g'.calls = g.calls ++ cs
  seq : ∀ s, applyCalls g.seq cs = some s → g'.seq = s
  all : ∀ c ∈ cs, Q c

def Sends (Q : Call → Prop) (g g' : Graph) : Prop := ∃ cs, SendsBy Q g g' cs

theorem Sends.of_eq {Q : Call → Prop} {g g' : Graph} (h1 : g'.calls = g.calls) (h2 : g'.seq = g.seq) : Sends Q g g' :=
  ⟨[], by simp [h1], fun s hs => by simp [applyCalls] at hs; rw [h2, hs], by simp⟩

theorem Sends.rfl' {Q : Call → Prop} (g : Graph) : Sends Q g g := Sends.of_eq rfl rfl

theorem Sends.trans {Q : Call → Prop} {a b c : Graph} (h1 : Sends Q a b) (h2 : Sends Q b c) : Sends Q a c := by
  obtain ⟨c1, s1⟩ := h1
  obtain ⟨c2, s2⟩ := h2
  refine ⟨c1 ++ c2, by rw [s2.calls, s1.calls, List.append_assoc], ?_, ?_⟩
  · intro s hs
    rw [applyCalls_append] at hs
    cases h : applyCalls a.seq c1 with
    | none => simp [h] at hs
    | some t =>
      simp only [h, Option.bind_some] at hs
      exact s2.seq s (s1.seq t h ▸ hs)
  · intro x hx
    rcases List.mem_append.mp hx with h | h
    · exact s1.all x h
    · exact s2.all x h

theorem sends_emit {Q : Call → Prop} (g : Graph) (cs : List Call) (h : ∀ c ∈ cs, Q c) : Sends Q g (g.emit cs) :=
  ⟨cs, emit_calls g cs, fun _ hs => emit_seq hs, h⟩

theorem sends_flushResolver {Q : Call → Prop} (hep : ∀ k v, Q (.endpointUpdate k v)) (g : Graph) :
    Sends Q g g.flushResolver := by
  rw [flushResolver_eq]
  refine Sends.trans ?_ (sends_emit _ _ (fun c hc => ?_))
  · exact Sends.of_eq rfl rfl
  · obtain ⟨k, v, rfl⟩ := flushed_endpointUpdate g c hc
    exact hep k v

section
variable {H : IdFn} {Q : Call → Prop}
  (hma : ∀ s m, Q (.memberAdded s m)) (hmr : ∀ s m, Q (.memberRemoved s m))
  (hsa : ∀ uid t, Q (.ipsetAdded uid t)) (hsr : ∀ uid, Q (.ipsetRemoved uid))
  (hr : ∀ key r, Q (rulesCall H key r))

include hma hmr in
theorem sends_idxOp (g : Graph) (op : C04.Op Str) : Sends Q g (g.idxOp op) := by
  rw [idxOp_eq]
  refine Sends.trans ?_ (sends_emit _ _ fun c hc => ?_)
  · exact Sends.of_eq rfl rfl
  · obtain ⟨s, m, rfl | rfl⟩ := mem_idxCalls hc
    · exact hma s m
    · exact hmr s m

include hma hmr hsa hsr in
theorem sends_onRsEvent (g : Graph) (e : RsEvent) : Sends Q g (g.onRsEvent e) := by
  cases e with
  | ipsetActive uid d =>
    exact (sends_emit _ _ (by intro c hc; rw [List.mem_singleton.mp hc]; exact hsa _ _)).trans (sends_idxOp hma hmr _ _)
  | ipsetInactive uid =>
    exact (sends_idxOp hma hmr _ _).trans (sends_emit _ _ (by intro c hc; rw [List.mem_singleton.mp hc]; exact hsr uid))

include hma hmr hsa hsr hr in
theorem sends_scanRules (g : Graph) (key : RulesId) (rules : Option RulesIn) : Sends Q g (g.scanRules H key rules) := by
  unfold Graph.scanRules
  rw [rsUpdate_eq]
  have h1 : Sends Q g { g with rs := (g.rs.updateRules key (curOf H rules)).1, active := setOrDel key rules g.active } :=
    Sends.of_eq rfl rfl
  refine (foldl_keeps (P := Sends Q g) Graph.onRsEvent
    (fun g' e h => h.trans (sends_onRsEvent hma hmr hsa hsr g' e)) _ _ h1).trans (sends_emit _ _ ?_)
  intro c hc
  rw [List.mem_singleton.mp hc]
  exact hr key rules

include hma hmr hsa hsr hr in
theorem sendsTower {Em : Call → Prop} (hem : ∀ c, Em c → Q c) (g0 : Graph) :
    Tower H (fun _ => True) Em (Sends Q g0) :=
  Tower.of_scan (fun hi _ _ _ h5 h6 => hi.trans (Sends.of_eq h6 h5))
    (fun key rules hi => hi.trans (sends_scanRules hma hmr hsa hsr hr _ key rules))
    (fun op _ hi => hi.trans (sends_idxOp hma hmr _ op))
    (fun cs hcs hi => hi.trans (sends_emit _ cs (fun c hc => hem c (hcs c hc))))

include hma hmr hsa hsr hr in
theorem sends_step (g : Graph) (u : Upd) (hd : ∀ c ∈ dirCalls u, Q c) : Sends Q g (g.step H u) :=
  (sendsTower hma hmr hsa hsr hr (Em := Q) (fun _ h => h) g).step u (fun _ _ => trivial) hd (Sends.rfl' g)

end

end CalicoVerif.C01
